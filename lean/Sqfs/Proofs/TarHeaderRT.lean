/-
Pieces of the header round trip (C04): field lengths, the record size, string fields.
-/
import Sqfs.Proofs.TarNumber
import Sqfs.Model.TarRead
namespace Sqfs.Tar

theorem zeros_length (n : Nat) : (zeros n).length = n := by simp [zeros]

theorem field_length (n : Nat) (b : Bytes) : (field n b).length = n := by
  unfold field
  simp only [List.length_append, zeros_length, List.length_take]
  omega

theorem writeBinary_length (v w : Nat) : (writeBinary v w).length = w := by
  unfold writeBinary
  have := beBytes_length w v
  cases h : beBytes w v with
  | nil => rw [h] at this; simpa using this
  | cons b t => rw [h] at this; simpa using this

theorem writeNumber_length (v w : Nat) (hw : 1 ≤ w) : (writeNumber v w).length = w := by
  unfold writeNumber
  split
  · simp [octDigits_length]; omega
  · split
    · exact octDigits_length w v
    · exact writeBinary_length v w

theorem writeNumberSigned_length (v : Int) (w : Nat) (hw : 1 ≤ w) : (writeNumberSigned v w).length = w := by
  unfold writeNumberSigned
  split
  · exact writeBinary_length _ w
  · exact writeNumber_length _ w hw

theorem rawHeader_length (name : Bytes) (mode uid gid size : Nat) (mtime : Int) (tf : UInt8) (linkname : Bytes)
    (maj min : Nat) (hn : name.length = 100) (hl : linkname.length = 100) :
    (rawHeader name mode uid gid size mtime tf linkname maj min).length = 512 := by
  unfold rawHeader
  simp only [List.length_append, writeNumber_length _ 8 (by omega), writeNumber_length _ 12 (by omega),
    writeNumberSigned_length _ 12 (by omega), zeros_length, field_length, hn, hl, List.length_cons, List.length_nil,
    magicOld, versionOld]

theorem strn_append_zeros (b : Bytes) (k : Nat) (hnul : ∀ x ∈ b, x ≠ 0) : strn (b ++ zeros k) = b := by
  unfold strn zeros
  rw [List.takeWhile_append_of_pos fun x hx => decide_eq_true (hnul x hx)]
  cases k <;> simp [List.replicate_succ]

theorem strn_field (n : Nat) (b : Bytes) (hlen : b.length ≤ n) (hnul : ∀ x ∈ b, x ≠ 0) : strn (field n b) = b := by
  unfold field
  rw [List.take_of_length_le hlen]
  exact strn_append_zeros b _ hnul

theorem strn_zeros (n : Nat) : strn (zeros n) = [] :=
  strn_append_zeros [] n (fun _ h => nomatch h)

/-- `cstr` (the PAX reader's C string) is the same function as `strn` -/
theorem cstr_clean (b : Bytes) (h : ∀ x ∈ b, x ≠ 0) : cstr b = b := by
  have := strn_append_zeros b 0 h
  rwa [show zeros 0 = [] from rfl, List.append_nil] at this

end Sqfs.Tar
