/-
Termination lemmas of the directory walks (C05).  Uses one Mathlib module for the pigeonhole step.
-/
import Sqfs.Model.ReaderWalk
import Mathlib.Data.List.Perm.Subperm
namespace Sqfs.ReaderWalk
open Sqfs.ReaderBounds (Err)

theorem sumEntries_ne_fuel (sub : Nat → Except Err Nat) (isDir : Nat → Bool) (l : List Nat)
    (h : ∀ c ∈ l, isDir c = true → sub c ≠ .error .fuel) : sumEntries sub isDir l ≠ .error .fuel := by
  induction l with
  | nil => simp [sumEntries]
  | cons c t ih =>
    have ht := ih fun c hc => h c (List.mem_cons_of_mem _ hc)
    unfold sumEntries
    split
    · rename_i e he
      intro hf; cases hf
      split at he
      · exact h c List.mem_cons_self ‹_› he
      · cases he
    · split
      · rename_i e he; intro hf; cases hf; exact ht he
      · nofun

/-- the directories on the way down (`anc`) are distinct members of `S`, and `fuel` covers the members not yet on it -/
structure Room {α : Type} (S : List α) (fuel : Nat) (anc : List α) : Prop where
  nodup : anc.Nodup
  sub : ∀ x ∈ anc, x ∈ S
  lt : S.length < fuel + anc.length

/-- pigeonhole: distinct members of `S` cannot outnumber it -/
theorem Room.fuel_ne_zero {α : Type} {S anc : List α} (h : Room S 0 anc) : False := by
  have := (List.Nodup.subperm h.nodup h.sub).length_le
  have := h.lt
  omega

theorem Room.push {α : Type} {S anc : List α} {fuel : Nat} {x : α} (h : Room S (fuel + 1) anc) (hx : x ∉ anc) (hS : x ∈ S) :
    Room S fuel (x :: anc) :=
  ⟨List.nodup_cons.2 ⟨hx, h.nodup⟩, fun y hy => (List.mem_cons.1 hy).elim (fun e => e ▸ hS) (h.sub y),
   by have := h.lt; simp only [List.length_cons]; omega⟩

theorem Room.single {α : Type} {S : List α} {x : α} (hS : x ∈ S) : Room S S.length [x] :=
  ⟨List.nodup_cons.2 ⟨List.not_mem_nil, List.nodup_nil⟩, fun y hy => by rw [List.mem_singleton.1 hy]; exact hS, by simp⟩

theorem fillDir_ne_fuel (g : DirGraph) (S : List UInt32)
    (hS : ∀ r c, c ∈ g.entries r → g.isDir c = true → g.inum c ∈ S) :
    ∀ (fuel : Nat) (anc : List UInt32) (ref : Nat), Room S fuel anc → fillDir g fuel anc ref ≠ .error .fuel := by
  intro fuel
  induction fuel with
  | zero => intro anc ref h; exact h.fuel_ne_zero.elim
  | succ fuel ih =>
    intro anc ref h
    unfold fillDir
    split
    · simp
    · rename_i hany
      refine sumEntries_ne_fuel _ _ _ fun c hc hd => ih _ _ (h.push ?_ (hS ref c hc hd))
      intro hmem
      exact hany (List.any_eq_true.2 ⟨c, hc, by simpa using hmem⟩)

theorem dirRec_ne_fuel (g : DirGraph) (R : List Nat) (hR : ∀ r c, c ∈ g.entries r → g.isDir c = true → c ∈ R) :
    ∀ (fuel : Nat) (stack : List Nat) (ref : Nat), Room R fuel stack → dirRec true g fuel stack ref ≠ .error .fuel := by
  intro fuel
  induction fuel with
  | zero => intro st ref h; exact h.fuel_ne_zero.elim
  | succ fuel ih =>
    intro st ref h
    unfold dirRec
    refine sumEntries_ne_fuel _ _ _ fun c hc hd => ?_
    simp only [Bool.true_and]
    split
    · simp
    · rename_i hnc
      exact ih _ _ (h.push (by simpa using hnc) (hR ref _ hc hd))

end Sqfs.ReaderWalk
