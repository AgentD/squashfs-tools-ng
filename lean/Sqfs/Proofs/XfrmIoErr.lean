/-
C15 — the wrappers over wrapped streams that can fail (`flushBodyE` … `oRunE`, `precacheBodyE` … `iReadE` of
`Sqfs/Model/Xfrm.lean`, the functions the correspondence check runs).  Each of them *follows* the function without the
failure path (`Follows`): under every schedule of failures it has the same outcome, with the calls of the wrapped stream counted
and none of them the failing one (`OKept`, `Kept`), or it has returned the code of a failing call.  Hence without a failure they
are the functions the transparency theorems are about (`oRunE_good`, `iReadE_good`), and a run that comes back without an error
has not made the failing `wrapped->append` / `wrapped->flush` / `wrapped->get_buffered_data` call: a failure is never swallowed
(`oRunE_ok`, `iReadE_ok`).
-/
import Sqfs.Proofs.XfrmLoop
namespace Sqfs.Xfrm

/-- for examples that evaluate a concrete run and go on with its result -/
theorem exists_ok_of {ε α : Type} (x : Option (Except ε α)) (p : α → Bool)
    (h : (match x with | some (.ok a) => p a | _ => false) = true) : ∃ a, x = some (.ok a) ∧ p a = true := by
  rcases x with _ | ⟨e | a⟩
  · cases h
  · cases h
  · exact ⟨a, rfl, h⟩

/-- How the outcome `x` of a function over a wrapped stream that can fail (errors of type `ε`, `code e` the code returned)
follows the outcome `p` of the function without the failure path: it is the same, where `π` forgets the bookkeeping of the
wrapped stream and `K` is what that bookkeeping satisfies after a run that comes back with 0; or it is a code `Hit` by a
failing call (and `p` may have gone on).  A caller that goes on after a call is compared with its plain version by `casesOn`
on the `Follows` of that call: out of fuel, an error and a failing call are passed on by the `match` of both. -/
inductive Follows {ε α α' : Type} (code : ε → Int) (Hit : Int → Prop) (π : α → α') (K : α → Prop) :
    Option (Except ε α) → Outcome α' → Prop
  | fuel : Follows code Hit π K none none
  | ok {a : α} : K a → Follows code Hit π K (some (.ok a)) (some (.ok (π a)))
  | err {e : ε} : Follows code Hit π K (some (.error e)) (some (.error (code e)))
  | hit {e : ε} {p : Outcome α'} : Hit (code e) → Follows code Hit π K (some (.error e)) p

section
variable {ε α α' : Type} {code : ε → Int} {Hit : Int → Prop} {π : α → α'} {K : α → Prop}

theorem Follows.kept {a : α} {p : Outcome α'} (h : Follows code Hit π K (some (.ok a)) p) : K a := by
  cases h; assumption

/-- where no call fails, the outcome is the same (`ρ`: the projection of results that `code` and `π` describe) -/
theorem Follows.map_eq {x : Option (Except ε α)} {p : Outcome α'} (h : Follows code Hit π K x p) (hn : ∀ e, ¬ Hit e)
    (ρ : Except ε α → Except Int α') (he : ∀ e, ρ (.error e) = .error (code e)) (ha : ∀ a, ρ (.ok a) = .ok (π a)) :
    x.map ρ = p := by
  cases h with
  | fuel => rfl
  | ok _ => exact congrArg some (ha _)
  | err => exact congrArg some (he _)
  | hit hh => exact absurd hh (hn _)

end

section Out
variable {σ : Type} {C : Codec σ}

/-- forget the bookkeeping of the wrapped stream -/
def projO : Except (Int × Bytes) (OStateE σ) → Except Int (OState σ)
  | .error e => .error e.1
  | .ok s => .ok s.st

theorem failCode_none (k : Nat) : failCode none k = none := rfl

theorem failCode_hit {k : Nat} {e : Int} (he : e ≠ 0) : failCode (some (k, e)) k = some e := by
  simp [failCode, he]

/-- the failing call number `k` has not been made when `n` calls have been made -/
def NotMet (fail : Option (Nat × Int)) (n : Nat) : Prop := ∀ k e, fail = some (k, e) → e ≠ 0 → n ≤ k

theorem NotMet.succ {fail : Option (Nat × Int)} {n : Nat} (h : NotMet fail n) (hc : failCode fail n = none) :
    NotMet fail (n + 1) := by
  intro k e hf he
  have := h k e hf he
  by_cases hk : k = n
  · rw [hf, hk, failCode_hit he] at hc; cases hc
  · omega

theorem NotMet.of_le {k n : Nat} {e : Int} (h : n ≤ k) : NotMet (some (k, e)) n := by
  intro k' e' hf _
  cases hf; exact h

/-- `e` is what a failing `append` or `flush` call of the wrapped stream returns -/
def OHit (E : OEnv) (e : Int) : Prop := ∃ k, failCode E.appendFail k = some e ∨ failCode E.flushFail k = some e

/-- on the way from `s` to `s'` neither the failing `append` nor the failing `flush` call of the wrapped stream has been made -/
def OKept (E : OEnv) (s s' : OStateE σ) : Prop :=
  (NotMet E.appendFail s.appends → NotMet E.appendFail s'.appends) ∧
  (NotMet E.flushFail s.st.flushed → NotMet E.flushFail s'.st.flushed)

theorem OKept.refl {E : OEnv} (s : OStateE σ) : OKept E s s := ⟨id, id⟩

/-- the functions of the output side (a failure is returned together with what the wrapped stream holds), in a history that began in `s0` -/
abbrev OFollows (E : OEnv) (s0 : OStateE σ) : OutcomeE (OStateE σ) → Outcome (OState σ) → Prop :=
  Follows Prod.fst (OHit E) (·.st) (OKept E s0)

theorem flushInbufE_follows (bufsz : Nat) (E : OEnv) (finish : Bool) {s0 : OStateE σ} : ∀ (fuel : Nat) (s : OStateE σ), OKept E s0 s →
    OFollows E s0 (flushInbufE C bufsz fuel E s finish) (flushInbuf C bufsz fuel s.st finish) := by
  intro fuel
  induction fuel with
  | zero => intro s _; exact .fuel
  | succ n ih =>
    intro s h0
    simp only [flushInbuf, flushInbufE, flushLoop, iter, flushBody, flushBodyE]
    by_cases hc : (finish || decide (0 < s.st.inbuf.length)) = true
    · rw [if_pos hc, if_pos hc]
      generalize C.step s.st.cs s.st.inbuf bufsz (if finish = true then Flush.full else Flush.none) = r
      by_cases he : r.res = Res.error
      · rw [if_pos he, if_pos he]
        exact .err
      · rw [if_neg he, if_neg he]
        cases hfc : failCode E.appendFail s.appends with
        | some e => exact .hit ⟨_, .inl hfc⟩
        | none =>
          have hk : OKept E s0 ⟨{ s.st with cs := r.st, inbuf := s.st.inbuf.drop r.consumed, sink := s.st.sink ++ r.out }, s.appends + 1⟩ :=
            ⟨fun h => (h0.1 h).succ hfc, h0.2⟩
          by_cases hs : r.res = Res.streamEnd
          · rw [if_pos hs, if_pos hs]
            exact .ok hk
          · rw [if_neg hs, if_neg hs]
            exact ih _ hk
    · rw [if_neg hc, if_neg hc]
      exact .ok h0

theorem oAppendE_follows (bufsz fuel : Nat) (E : OEnv) {s0 : OStateE σ} (s : OStateE σ) (data : Bytes) (h0 : OKept E s0 s) :
    OFollows E s0 (oAppendE C bufsz fuel E s data) (oAppend C bufsz fuel s.st data) := by
  unfold oAppendE oAppend appendLoop
  generalize data.length + 1 = k
  induction k generalizing s data with
  | zero => exact .fuel
  | succ n ih =>
    simp only [iter, appendBody, appendBodyE]
    by_cases hd : data.length = 0
    · rw [if_pos hd, if_pos hd]
      exact .ok h0
    · rw [if_neg hd, if_neg hd]
      by_cases hf : bufsz ≤ s.st.inbuf.length
      · rw [if_pos hf, if_pos hf]
        -- copying into `inbuf` leaves both counters as they are, so `OKept` of the state before is `OKept` of the state after
        exact (flushInbufE_follows bufsz E false fuel s h0).casesOn .fuel (fun hk => ih _ _ hk) .err fun hh => .hit hh
      · rw [if_neg hf, if_neg hf]
        exact ih _ _ h0

theorem oFlushE_follows (bufsz fuel : Nat) (E : OEnv) {s0 : OStateE σ} (s : OStateE σ) (h0 : OKept E s0 s) :
    OFollows E s0 (oFlushE C bufsz fuel E s) (oFlush C bufsz fuel s.st) := by
  -- `return wrapped->flush(wrapped)`
  have key : ∀ s1 : OStateE σ, OKept E s0 s1 → OFollows E s0
      (match failCode E.flushFail s1.st.flushed with
        | some e => some (.error (e, s1.st.sink))
        | none => some (.ok ⟨{ s1.st with flushed := s1.st.flushed + 1 }, s1.appends⟩))
      (some (.ok { s1.st with flushed := s1.st.flushed + 1 })) := by
    intro s1 hk
    cases hfc : failCode E.flushFail s1.st.flushed with
    | some e => exact .hit ⟨_, .inr hfc⟩
    | none => exact .ok ⟨hk.1, fun h => (hk.2 h).succ hfc⟩
  simp only [oFlush, oFlushE]
  by_cases hp : 0 < s.st.inbuf.length
  · rw [if_pos hp, if_pos hp]
    exact (flushInbufE_follows bufsz E true fuel s h0).casesOn .fuel (fun hk => key _ hk) .err fun hh => .hit hh
  · rw [if_neg hp, if_neg hp]
    exact key s h0

theorem oRunE_follows (bufsz fuel : Nat) (E : OEnv) {s0 : OStateE σ} : ∀ (ops : List OOp) (s : OStateE σ), OKept E s0 s →
    OFollows E s0 (oRunE C bufsz fuel E s ops) (oRun C bufsz fuel s.st ops) := by
  intro ops
  induction ops with
  | nil => intro s h0; exact .ok h0
  | cons op ops ih =>
    intro s h0
    cases op with
    | append d =>
      simp only [oRun, oRunE]
      exact (oAppendE_follows bufsz fuel E s d h0).casesOn .fuel (fun hk => ih _ hk) .err fun hh => .hit hh
    | flush =>
      simp only [oRun, oRunE]
      exact (oFlushE_follows bufsz fuel E s h0).casesOn .fuel (fun hk => ih _ hk) .err fun hh => .hit hh

/-- `hA`, `hF`: no failure is scheduled, or the scheduled code is 0 -/
theorem oRunE_good {E : OEnv} (hA : ∀ k, failCode E.appendFail k = none) (hF : ∀ k, failCode E.flushFail k = none)
    (bufsz fuel : Nat) (ops : List OOp) (s : OStateE σ) :
    (oRunE C bufsz fuel E s ops).map projO = oRun C bufsz fuel s.st ops :=
  (oRunE_follows bufsz fuel E ops s (.refl s)).map_eq (fun e ⟨k, h⟩ => by rw [hA, hF] at h; exact h.elim nofun nofun)
    projO (fun _ => rfl) fun _ => rfl

theorem oRunE_ok (bufsz fuel : Nat) (E : OEnv) (ops : List OOp) (s s' : OStateE σ)
    (h : oRunE C bufsz fuel E s ops = some (.ok s')) : OKept E s s' :=
  (h ▸ oRunE_follows bufsz fuel E ops s (.refl s)).kept

end Out

section In
variable {σ : Type} {C : Codec σ}

def projI (st : IStateE σ) : IState σ := { cs := st.cs, buf := st.buf, off := st.off, inner := st.inner.inner }

def projRead : Except Int (IStateE σ × Bytes × Bool) → Except Int (IState σ × Bytes × Bool)
  | .error e => .error e
  | .ok a => .ok (projI a.1, a.2.1, a.2.2)

/-- no `get_buffered_data` call of the wrapped stream fails: none is scheduled, or the scheduled code is not negative -/
def InnerE.Good (i : InnerE) : Prop := ∀ k e, i.fail = some (k, e) → 0 ≤ e

theorem InnerE.Good.of_none {i : InnerE} (h : i.fail = none) : i.Good := fun k e hf => by rw [h] at hf; cases hf

theorem failNow_none {i : InnerE} (h : i.Good) : i.failNow = none := by
  unfold InnerE.failNow
  split
  · rename_i kf e hf
    rw [if_neg (fun hc => absurd (h kf e hf) (by omega))]
  · rfl

/-- the wrapped stream `i` is `i0` after further `get_buffered_data` calls, none of them the failing one -/
def Kept (i0 i : InnerE) : Prop :=
  i.fail = i0.fail ∧ ∀ k e, i0.fail = some (k, e) → e < 0 → i0.calls ≤ k → i.calls ≤ k

theorem Kept.refl (i : InnerE) : Kept i i := ⟨rfl, fun _ _ _ _ h => h⟩

theorem Kept.call {i0 i : InnerE} (h : Kept i0 i) (hn : i.failNow = none) (inner : Inner) :
    Kept i0 { i with inner := inner, calls := i.calls + 1 } :=
  ⟨h.1, fun k e hf he hk => by
    have hne : k ≠ i.calls := fun hkk => by rw [InnerE.failNow, h.1, hf] at hn; simp [hkk, he] at hn
    exact Nat.lt_of_le_of_ne (h.2 k e hf he hk) (Ne.symm hne)⟩

/-- `e` is what a failing `get_buffered_data` call of the wrapped stream (`i0` after further calls) returns -/
def IHit (i0 : InnerE) (e : Int) : Prop := ∃ i : InnerE, i.fail = i0.fail ∧ i.failNow = some e

theorem precacheE_follows (bufsz : Nat) {i0 : InnerE} : ∀ (fuel : Nat) (st : IStateE σ), Kept i0 st.inner →
    Follows id (IHit i0) projI (fun a => Kept i0 a.inner) (precacheE C bufsz fuel st) (precache C bufsz fuel (projI st)) := by
  intro fuel
  induction fuel with
  | zero => intro st _; exact .fuel
  | succ n ih =>
    rintro ⟨cs, buf, off, ie⟩ h
    -- `projI` as a structure, so that unfolding leaves only projections of it (also in the `Decidable` instances of the conditions)
    show Follows _ _ _ _ _ (precache C bufsz (n + 1) ⟨cs, buf, off, ie.inner⟩)
    simp only [precache, precacheE, precacheLoop, iter, precacheBody, precacheBodyE]
    cases hn : ie.failNow with
    | some e => exact .hit ⟨_, h.1, hn⟩
    | none =>
      simp only
      generalize C.step cs ie.inner.peek.1 (bufsz - (buf.drop off).length) (if ie.inner.peek.2.1 = true then Flush.full else Flush.none) = r
      by_cases he : r.res = Res.error
      · rw [if_pos he, if_pos he]
        exact .err
      · rw [if_neg he, if_neg he]
        have hk := h.call hn (ie.inner.peek.2.2.advance r.consumed)
        by_cases hx : (r.res = Res.bufferFull || decide (bufsz ≤ (buf.drop off ++ r.out).length)) = true
        · rw [if_pos hx, if_pos hx]
          exact .ok hk
        · rw [if_neg hx, if_neg hx]
          by_cases hE : ie.inner.peek.2.1 = true
          · rw [if_pos hE, if_pos hE]
            exact .ok hk
          · rw [if_neg hE, if_neg hE]
            exact ih ⟨r.st, buf.drop off ++ r.out, 0, _⟩ hk

theorem iGetE_follows (bufsz fuel : Nat) {i0 : InnerE} (st : IStateE σ) (want : Nat) (h0 : Kept i0 st.inner) :
    Follows id (IHit i0) (fun a : IStateE σ × Bytes × Bool => (projI a.1, a.2.1, a.2.2)) (fun a => Kept i0 a.1.inner)
      (iGetE C bufsz fuel st want) (iGet C bufsz fuel (projI st) want) := by
  simp only [iGet, iGetE]
  by_cases hc : (st.buf.length = 0 || decide (st.buf.length - st.off < if bufsz < want then bufsz else want)) = true
  · have hc' : ((projI st).buf.length = 0 || decide ((projI st).buf.length - (projI st).off < if bufsz < want then bufsz else want)) = true := hc
    rw [if_pos hc, if_pos hc']
    exact (precacheE_follows bufsz fuel st h0).casesOn .fuel (fun hk => .ok hk) .err fun hh => .hit hh
  · have hc' : ¬ ((projI st).buf.length = 0 || decide ((projI st).buf.length - (projI st).off < if bufsz < want then bufsz else want)) = true := hc
    rw [if_neg hc, if_neg hc']
    exact .ok h0

theorem iAdvanceE_good (st : IStateE σ) (n : Nat) :
    (iAdvanceE st n).map projI = iAdvance (projI st) n ∧ ∀ st2, iAdvanceE st n = some st2 → st2.inner = st.inner := by
  simp only [iAdvance, iAdvanceE]
  by_cases ha : n ≤ st.buf.length ∧ st.off + n ≤ st.buf.length
  · have ha' : n ≤ (projI st).buf.length ∧ (projI st).off + n ≤ (projI st).buf.length := ha
    rw [if_pos ha, if_pos ha']
    exact ⟨rfl, fun st2 h => by cases h; rfl⟩
  · have ha' : ¬ (n ≤ (projI st).buf.length ∧ (projI st).off + n ≤ (projI st).buf.length) := ha
    rw [if_neg ha, if_neg ha']
    exact ⟨rfl, fun st2 h => by cases h⟩

theorem iReadE_follows (bufsz fuel : Nat) {i0 : InnerE} : ∀ (ops : List (Nat × Nat)) (st : IStateE σ) (acc : Bytes), Kept i0 st.inner →
    Follows id (IHit i0) (fun a : IStateE σ × Bytes × Bool => (projI a.1, a.2.1, a.2.2)) (fun a => Kept i0 a.1.inner)
      (iReadE C bufsz fuel st ops acc) (iRead C bufsz fuel (projI st) ops acc) := by
  intro ops
  induction ops with
  | nil => intro st acc h0; exact .ok h0
  | cons op ops ih =>
    intro st acc h0
    obtain ⟨want, take⟩ := op
    simp only [iRead, iReadE]
    refine (iGetE_follows bufsz fuel st want h0).casesOn .fuel (fun {a} hk => ?_) .err fun hh => .hit hh
    obtain ⟨st1, vis, eof⟩ := a
    cases eof with
    | true => exact .ok hk
    | false =>
      obtain ⟨ha, haf⟩ := iAdvanceE_good st1 (min take vis.length)
      simp only [Bool.false_eq_true, if_false]
      rw [← ha]
      cases had : iAdvanceE st1 (min take vis.length) with
      | none => exact .err
      | some st2 => exact ih st2 _ (haf st2 had ▸ hk)

theorem iReadE_good (bufsz fuel : Nat) (ops : List (Nat × Nat)) (st : IStateE σ) (acc : Bytes) (hf : st.inner.Good) :
    (iReadE C bufsz fuel st ops acc).map projRead = iRead C bufsz fuel (projI st) ops acc :=
  (iReadE_follows bufsz fuel ops st acc (.refl _)).map_eq
    (fun e ⟨i, hi, hn⟩ => by rw [failNow_none fun k e hf' => hf k e (hi ▸ hf')] at hn; cases hn) projRead (fun _ => rfl) fun _ => rfl

theorem iReadE_ok (bufsz fuel : Nat) (ops : List (Nat × Nat)) (st : IStateE σ) (acc : Bytes) (r : IStateE σ × Bytes × Bool)
    (h : iReadE C bufsz fuel st ops acc = some (.ok r)) : Kept st.inner r.1.inner :=
  (h ▸ iReadE_follows bufsz fuel ops st acc (.refl _)).kept

end In

end Sqfs.Xfrm
