/-
Helper lemmas about `Sqfs/Model/Sort.lean`: the selection sort (`scanLow`, `sortLoop`) is a `Sel`, the marking loop treats
every file by itself (`stepFile`) when paths are distinct, and `unquote` undoes `escapeName`.
-/
import Sqfs.Model.Sort
import Sqfs.Proofs.SelectSort
namespace Sqfs.Sort
open Sqfs.Path (Bytes)
open Sqfs.SelectSort (Sel)

variable {α : Type}

/-- `scanLow` splits the list at the *first* element of least priority -/
theorem scanLow_spec (prio : α → Int) (pre : List α) (low : α) (mid rest pre' : List α) (low' : α) (post' : List α)
    (h : scanLow prio pre low mid rest = (pre', low', post'))
    (hp : ∀ x ∈ pre, prio low < prio x) (hm : ∀ x ∈ mid, prio low ≤ prio x) :
    pre' ++ low' :: post' = pre ++ low :: mid ++ rest
    ∧ (∀ x ∈ pre', prio low' < prio x) ∧ (∀ x ∈ post', prio low' ≤ prio x) := by
  fun_induction scanLow prio pre low mid rest with
  | case1 pre low mid =>
    cases h
    exact ⟨(List.append_nil _).symm, hp, hm⟩
  | case2 pre low mid y ys hlt ih =>
    -- `y` is the new candidate: everything seen so far lies before it and is greater
    have h1 : ∀ x ∈ pre ++ low :: mid, prio y < prio x :=
      List.forall_mem_append.2 ⟨fun x hx => Int.lt_trans hlt (hp x hx),
        List.forall_mem_cons.2 ⟨hlt, fun x hx => Int.lt_of_lt_of_le hlt (hm x hx)⟩⟩
    obtain ⟨e, r⟩ := ih h h1 (fun _ hx => absurd hx List.not_mem_nil)
    exact ⟨by rw [e, List.append_assoc]; rfl, r⟩
  | case3 pre low mid y ys hge ih =>
    have h2 : ∀ x ∈ mid ++ [y], prio low ≤ prio x :=
      List.forall_mem_append.2 ⟨hm, List.forall_mem_singleton.2 (Int.not_lt.1 hge)⟩
    obtain ⟨e, r⟩ := ih h hp h2
    exact ⟨by rw [e]; simp only [List.append_assoc, List.cons_append, List.nil_append], r⟩

theorem sortLoop_cons (prio : α → Int) (n : Nat) (x : α) (xs out : List α) :
    ∃ pre low post, pre ++ low :: post = x :: xs ∧ (∀ y ∈ pre, prio low < prio y) ∧ (∀ y ∈ post, prio low ≤ prio y)
      ∧ (pre ++ post).length = xs.length
      ∧ sortLoop prio (n + 1) (x :: xs) out = sortLoop prio n (pre ++ post) (out ++ [low]) := by
  obtain ⟨e, h1, h2⟩ := scanLow_spec prio [] x [] xs _ _ _ rfl (fun _ h => absurd h List.not_mem_nil)
    (fun _ h => absurd h List.not_mem_nil)
  refine ⟨_, _, _, e, h1, h2, ?_, rfl⟩
  have := congrArg List.length e
  simp only [List.length_append, List.length_cons, List.length_nil] at this ⊢
  omega

theorem sortLoop_sel (prio : α → Int) : ∀ (n : Nat) (l out : List α), l.length ≤ n →
    ∃ r, Sel prio l r ∧ sortLoop prio n l out = out ++ r := by
  intro n
  induction n with
  | zero => intro l out h; cases List.length_eq_zero_iff.1 (Nat.le_zero.1 h); exact ⟨[], .nil, (List.append_nil _).symm⟩
  | succ n ih =>
    intro l out h
    cases l with
    | nil => exact ⟨[], .nil, (List.append_nil _).symm⟩
    | cons x xs =>
      obtain ⟨pre, low, post, hs, hlt, hge, hl, he⟩ := sortLoop_cons prio n x xs out
      obtain ⟨r, hr, e⟩ := ih (pre ++ post) (out ++ [low]) (hl ▸ Nat.le_of_succ_le_succ h)
      exact ⟨low :: r, hs ▸ .step hlt hge hr, by rw [he, e, List.append_assoc]; rfl⟩

theorem sortBy_sel (prio : α → Int) (l : List α) : Sel prio l (sortBy prio l) := by
  obtain ⟨r, hr, e⟩ := sortLoop_sel prio l.length l [] (Nat.le_refl _)
  rwa [sortBy, e]

theorem applyLine_cons_skip (mt : Matcher) (l : SortLine) (f : FileEnt) (fs : List FileEnt)
    (h : f.matched = true ∨ lineMatches mt l f.path = false) : applyLine mt l (f :: fs) = f :: applyLine mt l fs := by
  by_cases hm : f.matched = true
  · simp only [applyLine, hm, if_true]
  · simp only [applyLine, hm, h.resolve_left hm, Bool.false_eq_true, if_false]

theorem applyLine_cons_hit (mt : Matcher) (l : SortLine) (f : FileEnt) (fs : List FileEnt)
    (hm : f.matched = false) (hl : lineMatches mt l f.path = true) :
    applyLine mt l (f :: fs) = mark l f :: (if l.dir.doGlob then applyLine mt l fs else fs) := by
  simp only [applyLine, hm, hl, Bool.false_eq_true, if_false, if_true]
  split <;> rfl

theorem not_skip {mt : Matcher} {l : SortLine} {f : FileEnt} (h : ¬(f.matched = true ∨ lineMatches mt l f.path = false)) :
    f.matched = false ∧ lineMatches mt l f.path = true := by
  simpa using h

theorem applyLine_paths (mt : Matcher) (l : SortLine) (fs : List FileEnt) :
    (applyLine mt l fs).map (·.path) = fs.map (·.path) := by
  induction fs with
  | nil => rfl
  | cons f fs ih =>
    by_cases hs : f.matched = true ∨ lineMatches mt l f.path = false
    · rw [applyLine_cons_skip mt l f fs hs, List.map_cons, ih, List.map_cons]
    · obtain ⟨hm, hl⟩ := not_skip hs
      rw [applyLine_cons_hit mt l f fs hm hl, List.map_cons, List.map_cons]
      congr 1
      split
      · exact ih
      · rfl

theorem applyLines_paths (mt : Matcher) (ls : List SortLine) : ∀ (fs : List FileEnt),
    (applyLines mt ls fs).map (·.path) = fs.map (·.path) := by
  induction ls with
  | nil => intro fs; rfl
  | cons l ls ih =>
    intro fs
    simp only [applyLines, List.foldl_cons] at ih ⊢
    rw [ih, applyLine_paths]

/-- effect of one line on one file, seen in isolation -/
def stepFile (mt : Matcher) (l : SortLine) (f : FileEnt) : FileEnt :=
  if f.matched then f else if lineMatches mt l f.path then mark l f else f

theorem stepFile_skip {mt : Matcher} {l : SortLine} {f : FileEnt} (h : f.matched = true ∨ lineMatches mt l f.path = false) :
    stepFile mt l f = f := by
  unfold stepFile
  by_cases hm : f.matched = true
  · rw [if_pos hm]
  · rw [if_neg hm, h.resolve_left hm]; rfl

theorem stepFile_hit {mt : Matcher} {l : SortLine} {f : FileEnt} (hm : f.matched = false) (hl : lineMatches mt l f.path = true) :
    stepFile mt l f = mark l f := by
  simp only [stepFile, hm, hl, Bool.false_eq_true, if_false, if_true]

/-- an exact-path line stops at its first hit, which is the only one when paths are distinct -/
theorem applyLine_eq_map (mt : Matcher) (l : SortLine) (fs : List FileEnt)
    (h : l.dir.doGlob = true ∨ (fs.map (·.path)).Nodup) : applyLine mt l fs = fs.map (stepFile mt l) := by
  induction fs with
  | nil => rfl
  | cons f fs ih =>
    have ih := ih (h.imp_right fun hnd => (List.nodup_cons.1 hnd).2)
    by_cases hs : f.matched = true ∨ lineMatches mt l f.path = false
    · rw [applyLine_cons_skip mt l f fs hs, List.map_cons, stepFile_skip hs, ih]
    · obtain ⟨hm, hl⟩ := not_skip hs
      rw [applyLine_cons_hit mt l f fs hm hl, List.map_cons, stepFile_hit hm hl]
      congr 1
      by_cases hg : l.dir.doGlob = true
      · rw [if_pos hg, ih]
      · -- no later file has the same path, so the rest is untouched
        have hnd := List.nodup_cons.1 (h.resolve_left hg)
        have hpath : f.path = l.pattern := by simpa [lineMatches, hg] using hl
        rw [if_neg hg]
        conv => lhs; rw [← List.map_id fs]
        apply List.map_congr_left
        intro g hgm
        refine (stepFile_skip (Or.inr ?_)).symm
        have hne : g.path ≠ l.pattern := fun e => hnd.1 (List.mem_map.2 ⟨g, hgm, e.trans hpath.symm⟩)
        simpa [lineMatches, hg] using hne

theorem applyLines_eq_map (mt : Matcher) (ls : List SortLine) : ∀ (fs : List FileEnt), (fs.map (·.path)).Nodup →
    applyLines mt ls fs = fs.map (fun f => ls.foldl (fun a l => stepFile mt l a) f) := by
  induction ls with
  | nil => intro fs _; simp [applyLines]
  | cons l ls ih =>
    intro fs hnd
    have h1 := applyLine_eq_map mt l fs (Or.inr hnd)
    simp only [applyLines, List.foldl_cons] at ih ⊢
    rw [h1, ih _ (by rw [← h1, applyLine_paths]; exact hnd)]
    simp [List.map_map, Function.comp_def]

theorem foldl_stepFile_matched (mt : Matcher) (ls : List SortLine) (f : FileEnt) (h : f.matched = true) :
    ls.foldl (fun a l => stepFile mt l a) f = f := by
  induction ls with
  | nil => rfl
  | cons l ls ih =>
    rw [List.foldl_cons, stepFile_skip (Or.inl h)]
    exact ih

theorem foldl_stepFile_fresh (mt : Matcher) (ls : List SortLine) (p : Bytes) :
    ls.foldl (fun a l => stepFile mt l a) ({ path := p } : FileEnt)
      = match ls.find? (fun l => lineMatches mt l p) with
        | some l => { path := p, priority := l.priority, flags := l.dir.flags, matched := true }
        | none => { path := p } := by
  induction ls with
  | nil => rfl
  | cons l ls ih =>
    simp only [List.foldl_cons, List.find?_cons]
    by_cases hm : lineMatches mt l p = true
    · rw [stepFile_hit rfl hm, foldl_stepFile_matched _ _ _ (by simp [mark])]
      simp [hm, mark]
    · have hm' : lineMatches mt l p = false := by simpa using hm
      rw [stepFile_skip (Or.inr hm'), ih]
      simp [hm']

theorem unquote_quote (t : Bytes) : unquote (QUOTE :: t) = .ok ([], t) := by
  rw [unquote.eq_def]; simp

theorem unquote_esc (d : UInt8) (t : Bytes) (h : d = BSL ∨ d = QUOTE) :
    unquote (BSL :: d :: t) = (match unquote t with
      | .ok (a, r) => .ok (d :: a, r)
      | .error e => .error e) := by
  rw [unquote.eq_def]
  have hb : (BSL : UInt8) ≠ QUOTE := by decide
  simp [hb, h]
  cases unquote t with
  | error e => rfl
  | ok p => obtain ⟨a, r⟩ := p; rfl

theorem unquote_plain (c : UInt8) (t : Bytes) (h1 : c ≠ QUOTE) (h2 : c ≠ BSL) :
    unquote (c :: t) = (match unquote t with
      | .ok (a, r) => .ok (c :: a, r)
      | .error e => .error e) := by
  rw [unquote.eq_def]
  simp [h1, h2]
  cases unquote t with
  | error e => rfl
  | ok p => obtain ⟨a, r⟩ := p; rfl

theorem unquote_escape (n rest : Bytes) : unquote (escapeName n ++ QUOTE :: rest) = .ok (n, rest) := by
  induction n with
  | nil => simpa [escapeName] using unquote_quote rest
  | cons c t ih =>
    by_cases hc : c = QUOTE ∨ c = BSL
    · have e : escapeName (c :: t) = BSL :: c :: escapeName t := by simp [escapeName, hc]
      rw [e, List.cons_append, List.cons_append, unquote_esc c _ hc.symm, ih]
    · have e : escapeName (c :: t) = c :: escapeName t := by simp [escapeName, hc]
      rw [e, List.cons_append, unquote_plain c _ (fun h => hc (Or.inl h)) (fun h => hc (Or.inr h)), ih]

end Sqfs.Sort
