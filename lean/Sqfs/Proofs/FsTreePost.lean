/-
C11, post-processing: the result of `fstree_resolve_hard_links` (and therefore inode numbering and file list) does not
depend on the order of the `links_unresolved` list, for the links a directory scan produces: every pending link points to
a path at which there is a node that is neither a directory nor itself a hard link (the hard-link filter only hands out
primary names), or nothing (the primary name was dropped by `scan_directory`): `PendingAt`.  One `resolve_link` on such a
link fails or has the effect `resolveEffect` (`resolveLink_pending`), which leaves every pending link pending
(`pending_step`).  Two resolutions commute because the nodes they touch (link and target) are no directories: different
ones lie on paths that part ways (`diverge_of_leaves`), and updates at such paths commute (`modifyAt_comm_diverge`).
-/
import Sqfs.Proofs.FsTreeLemmas

namespace Sqfs.FsTree

/-- the two paths part ways at some component -/
inductive Diverge : Path → Path → Prop
  | here {a b : Name} {p q : Path} : a ≠ b → Diverge (a :: p) (b :: q)
  | there {a : Name} {p q : Path} : Diverge p q → Diverge (a :: p) (a :: q)

theorem path_trichotomy : ∀ (a b : Path), Diverge a b ∨ a <+: b ∨ b <+: a
  | [], _ => Or.inr (Or.inl List.nil_prefix)
  | _ :: _, [] => Or.inr (Or.inr List.nil_prefix)
  | x :: a, y :: b => by
    by_cases h : x = y
    · subst h
      rcases path_trichotomy a b with h | h | h
      · exact Or.inl (Diverge.there h)
      · exact Or.inr (Or.inl ((List.prefix_cons_inj x).mpr h))
      · exact Or.inr (Or.inr ((List.prefix_cons_inj x).mpr h))
    · exact Or.inl (Diverge.here h)

def NamePres (f : TNode → TNode) : Prop := ∀ x, (f x).name = x.name

/-- one level of `modifyAt`: apply `F` to the child called `n`, if there is one -/
def updChild (n : Name) (F : TNode → TNode) (t : TNode) : TNode :=
  match childByName t.children n with
  | some c => .mk t.name t.attr (replaceChild (F c) t.children)
  | none => t

theorem updChild_some {n : Name} {t c : TNode} (F : TNode → TNode) (hc : childByName t.children n = some c) :
    updChild n F t = .mk t.name t.attr (replaceChild (F c) t.children) := by rw [updChild, hc]

theorem updChild_none {n : Name} {t : TNode} (F : TNode → TNode) (hc : childByName t.children n = none) :
    updChild n F t = t := by rw [updChild, hc]

theorem modifyAt_nil (f : TNode → TNode) (t : TNode) : modifyAt f [] t = f t := rfl

theorem modifyAt_cons (f : TNode → TNode) (n : Name) (p : Path) (t : TNode) :
    modifyAt f (n :: p) t = updChild n (modifyAt f p) t := rfl

theorem updChild_name (n : Name) (F : TNode → TNode) (t : TNode) : (updChild n F t).name = t.name := by
  rw [updChild]; split <;> rfl

theorem namePres_modifyAt {f : TNode → TNode} (hf : NamePres f) (p : Path) : NamePres (modifyAt f p) := fun t => by
  cases p with
  | nil => exact hf t
  | cons n p => exact updChild_name ..

theorem lookup_updChild_ne {a b : Name} {F : TNode → TNode} (hF : NamePres F) (hab : a ≠ b) (q : Path) (t : TNode) :
    lookup (updChild a F t) (b :: q) = lookup t (b :: q) := by
  rw [updChild]
  cases hc : childByName t.children a with
  | none => rfl
  | some c =>
    rw [lookup_cons, lookup_cons, TNode.children_mk,
      childByName_replaceChild_ne _ _ b (by rw [hF, childByName_some_name hc]; exact hab.symm)]
    rfl

theorem lookup_updChild_self {a : Name} {F : TNode → TNode} (hF : NamePres F) (q : Path) {t c : TNode}
    (hd : t.isDir = true) (hc : childByName t.children a = some c) :
    lookup (updChild a F t) (a :: q) = lookup (F c) q := by
  rw [updChild, hc]
  exact lookup_mk_cons q hd (childByName_replaceChild_self _ hc ((hF c).trans (childByName_some_name hc)))

theorem lookup_modifyAt_diverge {f : TNode → TNode} (hf : NamePres f) {p q : Path} (h : Diverge p q) (t : TNode) :
    lookup (modifyAt f p t) q = lookup t q := by
  induction h generalizing t with
  | here hab => exact lookup_updChild_ne (namePres_modifyAt hf _) hab _ t
  | @there a p q _ ih =>
    rw [modifyAt_cons, lookup_cons t]
    cases hd : t.isDir with
    | false =>
      rw [lookup_cons, show (updChild a (modifyAt f p) t).isDir = t.isDir by rw [updChild]; split <;> rfl, hd]; rfl
    | true =>
      cases hc : childByName t.children a with
      | none => rw [updChild_none _ hc, lookup_cons, hd, hc]
      | some c => rw [lookup_updChild_self (namePres_modifyAt hf _) q hd hc, ih]; rfl

theorem lookup_modifyAt_self {f : TNode → TNode} (hf : NamePres f) {p : Path} {t x : TNode} (h : lookup t p = some x) :
    lookup (modifyAt f p t) p = some (f x) := by
  induction p generalizing t with
  | nil => cases h; rfl
  | cons n p ih =>
    obtain ⟨hd, c, hc, hp⟩ := lookup_cons_some h
    rw [modifyAt_cons, lookup_updChild_self (namePres_modifyAt hf _) p hd hc, ih hp]

theorem updChild_comm {a b : Name} {F G : TNode → TNode} (hF : NamePres F) (hG : NamePres G) (hab : a ≠ b) (t : TNode) :
    updChild a F (updChild b G t) = updChild b G (updChild a F t) := by
  -- updating one slot does not change what sits in the other
  have other : ∀ {x y : Name} {H : TNode → TNode} {c : TNode}, NamePres H → x ≠ y → childByName t.children x = some c →
      childByName (TNode.mk t.name t.attr (replaceChild (H c) t.children)).children y = childByName t.children y :=
    fun hH hxy hc => childByName_replaceChild_ne _ _ _ (by rw [hH, childByName_some_name hc]; exact hxy.symm)
  cases hca : childByName t.children a <;> cases hcb : childByName t.children b
  · rw [updChild_none G hcb, updChild_none F hca, updChild_none G hcb]
  · rw [updChild_none F hca, updChild_some G hcb, updChild_none F ((other hG hab.symm hcb).trans hca)]
  · rw [updChild_none G hcb, updChild_some F hca, updChild_none G ((other hF hab hca).trans hcb)]
  · rename_i ca cb
    rw [updChild_some G hcb, updChild_some F hca, updChild_some F ((other hG hab.symm hcb).trans hca),
      updChild_some G ((other hF hab hca).trans hcb)]
    simp only [TNode.children_mk, TNode.name_mk, TNode.attr_mk]
    rw [replaceChild_comm _ _ _ (show (F ca).name ≠ (G cb).name by
      rw [hF, hG, childByName_some_name hca, childByName_some_name hcb]; exact hab)]

theorem updChild_updChild {a : Name} {F G : TNode → TNode} (hF : NamePres F) (hG : NamePres G) (t : TNode) :
    updChild a F (updChild a G t) = updChild a (F ∘ G) t := by
  cases hc : childByName t.children a with
  | none => rw [updChild_none G hc, updChild_none F hc, updChild_none _ hc]
  | some c =>
    have hY : (G c).name = a := (hG c).trans (childByName_some_name hc)
    rw [updChild_some G hc, updChild_some _ hc,
      updChild_some (t := .mk t.name t.attr _) F (childByName_replaceChild_self _ hc hY)]
    simp only [TNode.children_mk, TNode.name_mk, TNode.attr_mk, Function.comp,
      replaceChild_replaceChild_same _ _ _ (hF (G c))]

theorem modifyAt_comm_diverge {f g : TNode → TNode} (hf : NamePres f) (hg : NamePres g) {p q : Path} (h : Diverge p q)
    (t : TNode) : modifyAt f p (modifyAt g q t) = modifyAt g q (modifyAt f p t) := by
  induction h generalizing t with
  | here hab => exact updChild_comm (namePres_modifyAt hf _) (namePres_modifyAt hg _) hab t
  | @there a p q _ ih =>
    have hfp := namePres_modifyAt hf p
    have hgq := namePres_modifyAt hg q
    simp only [modifyAt_cons, updChild_updChild hfp hgq, updChild_updChild hgq hfp]
    congr 1
    funext c
    exact ih c

theorem diverge_of_leaves {t x y : TNode} {p q : Path} (hp : lookup t p = some x) (hq : lookup t q = some y)
    (hx : x.isDir = false) (hy : y.isDir = false) (hne : p ≠ q) : Diverge p q := by
  induction p generalizing t q with
  | nil =>
    cases hp
    cases q with
    | nil => exact absurd rfl hne
    | cons b q => have := (lookup_cons_some hq).1; rw [hx] at this; cases this
  | cons a p ih =>
    cases q with
    | nil => cases hq; have := (lookup_cons_some hp).1; rw [hy] at this; cases this
    | cons b q =>
      by_cases hab : a = b
      · subst hab
        obtain ⟨-, c, hc, hp'⟩ := lookup_cons_some hp
        obtain ⟨-, c', hc', hq'⟩ := lookup_cons_some hq
        cases hc.symm.trans hc'
        exact .there (ih hp' hq' fun e => hne (e ▸ rfl))
      · exact .here hab

/-- seen from a place that holds no directory, an update of a node that is no directory changes that node only -/
theorem lookup_modifyAt_leaf {f : TNode → TNode} (hf : NamePres f) (hfd : ∀ y, (f y).isDir = y.isDir) {t y : TNode} {p : Path}
    (hp : lookup t p = some y) (hy : y.isDir = false) (m : Path) (hnd : ∀ n, lookup t m = some n → n.isDir = false) :
    lookup (modifyAt f p t) m = (lookup t m).map fun n => if m = p then f n else n := by
  by_cases hm : m = p
  · subst hm; rw [lookup_modifyAt_self hf hp, hp, Option.map_some, if_pos rfl]
  · simp only [if_neg hm, Option.map_id']
    rcases path_trichotomy p m with hdv | hpre | hpre
    · exact lookup_modifyAt_diverge hf hdv t
    · -- below `p` there was nothing and there is nothing
      obtain ⟨r, rfl⟩ := hpre
      cases r with
      | nil => exact absurd (List.append_nil p) hm
      | cons c r' =>
        rw [lookup_append, lookup_append, lookup_modifyAt_self hf hp, hp]
        simp only [Option.bind_some]
        rw [lookup_cons, lookup_cons, hfd y, hy]
        rfl
    · -- a place on the way to `p` holds a directory
      obtain ⟨r, hr⟩ := hpre
      rw [← hr] at hp
      obtain ⟨z, hz, _, hzd⟩ := lookup_prefix hp
      have h1 := hnd z hz
      cases r with
      | nil => exact absurd (by simpa using hr) hm
      | cons c r' => rw [hzd (by simp)] at h1; cases h1

/-- where a hard-link node points, before or after it has been resolved -/
def linkTargetOf (n : TNode) : Option Path :=
  match n.attr.extra with
  | .link t none => some t
  | .link _ (some r) => some r
  | _ => none

/-- the pending link at `p` points to `tp`, an existing node that is neither a directory nor a hard link -/
def FlatAt (root : TNode) (p tp : Path) : Prop :=
  ∃ n tn, lookup root p = some n ∧ n.isHardLink = true ∧ linkTargetOf n = some tp ∧
    lookup root tp = some tn ∧ tn.isHardLink = false ∧ tn.isDir = false

/-- what the hard-link filter produces: every pending link names a primary entry -/
def FlatLinks (root : TNode) (links : List Path) : Prop := ∀ p ∈ links, ∃ tp, FlatAt root p tp

theorem flatAt_target_unique {root : TNode} {p t₁ t₂ : Path} (h₁ : FlatAt root p t₁) (h₂ : FlatAt root p t₂) : t₁ = t₂ := by
  obtain ⟨n, _, a1, _, a3, _⟩ := h₁
  obtain ⟨m, _, b1, _, b3, _⟩ := h₂
  rw [a1] at b1; cases b1
  rw [a3] at b3; cases b3; rfl

theorem isHardLink_not_dir {n : TNode} (h : n.isHardLink = true) : n.isDir = false := by
  simp only [TNode.isHardLink, Bool.and_eq_true, isType, beq_iff_eq] at h
  simp only [TNode.isDir, isDirMode, isType, h.1]
  decide

theorem namePres_bump : NamePres bumpLinkCount := by intro x; cases x; rfl

theorem namePres_setResolved (tp : Path) : NamePres (setResolved tp) := by
  intro x; obtain ⟨n, a, cs⟩ := x
  simp only [setResolved]
  split <;> rfl

theorem bump_isHardLink (x : TNode) : (bumpLinkCount x).isHardLink = x.isHardLink := by cases x; rfl

theorem bump_isDir (x : TNode) : (bumpLinkCount x).isDir = x.isDir := by cases x; rfl

theorem bump_linkCount (x : TNode) : (bumpLinkCount x).attr.linkCount = x.attr.linkCount + 1 := by cases x; rfl

theorem setResolved_isDir (tp : Path) (y : TNode) : (setResolved tp y).isDir = y.isDir := by
  obtain ⟨n, a, cs⟩ := y
  simp only [setResolved]
  split <;> rfl

theorem setResolved_isHardLink (tp : Path) (y : TNode) : (setResolved tp y).isHardLink = y.isHardLink := by
  obtain ⟨n, a, cs⟩ := y
  simp only [setResolved]
  split <;> rfl

theorem setResolved_target (tp : Path) (x : TNode) {t : Path} (ht : linkTargetOf x = some t) :
    linkTargetOf (setResolved tp x) = some tp := by
  obtain ⟨n, a, cs⟩ := x
  simp only [linkTargetOf, TNode.attr_mk] at ht
  simp only [setResolved]
  split
  · rfl
  · -- a node with a link target has an `extra` of the link kind
    rename_i hne
    exfalso
    cases he : a.extra with
    | none => simp [he] at ht
    | str s => simp [he] at ht
    | link a b => exact hne a b he

def resolveEffect (root : TNode) (p tp : Path) : TNode :=
  modifyAt bumpLinkCount tp (modifyAt (setResolved tp) p root)

/-- the pending link at `p` points to `tp`, where there is nothing or a node that is neither a directory nor a hard link -/
def PendingAt (root : TNode) (p tp : Path) : Prop :=
  ∃ n, lookup root p = some n ∧ n.isHardLink = true ∧ linkTargetOf n = some tp ∧
    ∀ tn, lookup root tp = some tn → tn.isHardLink = false ∧ tn.isDir = false

theorem PendingAt.ne_target {root : TNode} {p tp q tq : Path} (hp : PendingAt root p tp) (hq : PendingAt root q tq) :
    p ≠ tq := by
  obtain ⟨n, h1, h2, -⟩ := hp
  obtain ⟨-, -, -, -, g4⟩ := hq
  rintro rfl
  rw [(g4 n h1).1] at h2; cases h2

theorem resolveLink_pending {root : TNode} {p tp : Path} (h : PendingAt root p tp) (fuel : Nat) :
    resolveLink root (fuel + 1) p = (lookup root tp).bind fun tn =>
      if tn.attr.linkCount = 0xFFFFFFFF then none else some (resolveEffect root p tp) := by
  have hne : ¬ tp = p := (h.ne_target h).symm
  obtain ⟨n, hp, hn, ht, hplain⟩ := h
  have hfollow : followLink root p (fuel + 1) p = (lookup root tp).map fun _ => tp := by
    have hnh : ∀ k, lookup root tp = some k → k.isHardLink = false := fun k hk => (hplain k hk).1
    simp only [linkTargetOf] at ht
    cases he : n.attr.extra with
    | none => simp [he] at ht
    | str s => simp [he] at ht
    | link t r =>
      cases r <;> (simp only [he] at ht; cases ht; cases htn : lookup root tp) <;>
        simp [followLink, hp, hn, he, htn, hne, hnh]
  rw [resolveLink, hfollow]
  cases htn : lookup root tp with
  | none => rfl
  | some tn => simp only [Option.map_some, htn, (hplain tn htn).2, Bool.false_eq_true, if_false, Option.bind_some, resolveEffect]

theorem lookup_resolveEffect {root tn : TNode} {p tp : Path} (h : PendingAt root p tp) (htn : lookup root tp = some tn)
    (m : Path) (hnd : ∀ k, lookup root m = some k → k.isDir = false) :
    lookup (resolveEffect root p tp) m =
      (lookup root m).map fun k => if m = tp then bumpLinkCount k else if m = p then setResolved tp k else k := by
  have hne := (h.ne_target h).symm
  obtain ⟨n, h1, h2, -, h4⟩ := h
  have h6 := (h4 tn htn).2
  have first := lookup_modifyAt_leaf (namePres_setResolved tp) (setResolved_isDir tp) h1 (isHardLink_not_dir h2)
  have e4 := first tp fun k hk => by rw [htn] at hk; cases hk; exact h6
  rw [htn, Option.map_some, if_neg hne] at e4
  rw [resolveEffect, lookup_modifyAt_leaf namePres_bump bump_isDir e4 h6 m, first m hnd, Option.map_map]
  · refine congrArg (Option.map · _) (funext fun k => ?_)
    by_cases hm : m = tp
    · rw [Function.comp, if_pos hm, if_pos hm, if_neg (hm ▸ hne)]
    · rw [Function.comp, if_neg hm, if_neg hm]
  · intro k hk
    rw [first m hnd] at hk
    obtain ⟨k0, hk0, rfl⟩ := Option.map_eq_some_iff.mp hk
    split
    · rw [setResolved_isDir]; exact hnd k0 hk0
    · exact hnd k0 hk0

/-- resolving `p` leaves every pending link pending, and bumps the link count of its own target only -/
theorem pending_step {root tn : TNode} {p tp q tq : Path} (hp : PendingAt root p tp) (htn : lookup root tp = some tn)
    (hq : PendingAt root q tq) :
    PendingAt (resolveEffect root p tp) q tq ∧
    lookup (resolveEffect root p tp) tq = (lookup root tq).map fun k => if tq = tp then bumpLinkCount k else k := by
  have hqt := hq.ne_target hp
  have htp := (hp.ne_target hq).symm
  obtain ⟨m, g1, g2, g3, g4⟩ := hq
  have eq := lookup_resolveEffect hp htn q fun k hk => by rw [g1] at hk; cases hk; exact isHardLink_not_dir g2
  have etq := lookup_resolveEffect hp htn tq fun k hk => (g4 k hk).2
  rw [g1, Option.map_some, if_neg hqt] at eq
  simp only [if_neg htp] at etq
  refine ⟨⟨_, eq, ?_, ?_, fun tn' e => ?_⟩, etq⟩
  · split
    · rw [setResolved_isHardLink]; exact g2
    · exact g2
  · split
    · -- `q` is the link just resolved
      rename_i e
      subst e
      obtain ⟨n, h1, -, h3, -⟩ := hp
      rw [g1] at h1; cases h1
      rw [h3] at g3; cases g3
      exact setResolved_target tp m h3
    · exact g3
  · rw [etq] at e
    obtain ⟨k, hk, rfl⟩ := Option.map_eq_some_iff.mp e
    split
    · rw [bump_isHardLink, bump_isDir]; exact g4 k hk
    · exact g4 k hk

theorem resolveEffect_comm {root tn tm : TNode} {p tp q tq : Path} (hp : PendingAt root p tp) (hq : PendingAt root q tq)
    (htn : lookup root tp = some tn) (htm : lookup root tq = some tm) (hpq : p ≠ q) :
    resolveEffect (resolveEffect root p tp) q tq = resolveEffect (resolveEffect root q tq) p tp := by
  have hptq := hp.ne_target hq
  have hqtp := hq.ne_target hp
  obtain ⟨n, h1, h2, -, h4⟩ := hp
  obtain ⟨m, g1, g2, -, g4⟩ := hq
  -- the four places hold no directories, so different ones lie on diverging paths
  have hn := isHardLink_not_dir h2
  have hm := isHardLink_not_dir g2
  have h6 := (h4 tn htn).2
  have g6 := (g4 tm htm).2
  have hb := namePres_bump
  have hsp := namePres_setResolved tp
  have hsq := namePres_setResolved tq
  simp only [resolveEffect]
  -- push `setResolved tq @ q` to the right on the left-hand side
  rw [modifyAt_comm_diverge hsq hb (diverge_of_leaves g1 htn hm h6 hqtp),
    modifyAt_comm_diverge hsq hsp (diverge_of_leaves g1 h1 hm hn hpq.symm)]
  -- push `setResolved tp @ p` to the right of `bump @ tq` on the right-hand side
  rw [modifyAt_comm_diverge hsp hb (diverge_of_leaves h1 htm hn g6 hptq)]
  by_cases htt : tp = tq
  · subst htt; rfl
  · rw [modifyAt_comm_diverge hb hb (diverge_of_leaves htm htn g6 h6 (Ne.symm htt))]

/-- two `resolve_link` calls in a row: the second one checks the link count the first one may have bumped -/
theorem resolveLink_two {root : TNode} {p tp q tq : Path} (hp : PendingAt root p tp) (hq : PendingAt root q tq) (fuel : Nat) :
    (resolveLink root (fuel + 1) p).bind (fun r => resolveLink r (fuel + 1) q) =
      (lookup root tp).bind fun tn => if tn.attr.linkCount = 0xFFFFFFFF then none else
        (lookup root tq).bind fun tm =>
          if (if tq = tp then bumpLinkCount tm else tm).attr.linkCount = 0xFFFFFFFF then none
          else some (resolveEffect (resolveEffect root p tp) q tq) := by
  rw [resolveLink_pending hp, Option.bind_assoc]
  refine Option.bind_congr fun tn htn => ?_
  split
  · rfl
  · obtain ⟨sq, stq⟩ := pending_step hp htn hq
    rw [Option.bind_some, resolveLink_pending sq, stq, Option.bind_map]
    rfl

theorem resolveLink_comm {root : TNode} {p tp q tq : Path} (hp : PendingAt root p tp) (hq : PendingAt root q tq) (hpq : p ≠ q)
    (fuel : Nat) :
    (resolveLink root (fuel + 1) p).bind (fun r => resolveLink r (fuel + 1) q)
      = (resolveLink root (fuel + 1) q).bind (fun r => resolveLink r (fuel + 1) p) := by
  rw [resolveLink_two hp hq, resolveLink_two hq hp]
  cases htn : lookup root tp with
  | none => cases lookup root tq with
    | none => rfl
    | some tm => exact (ite_self _).symm
  | some tn => cases htm : lookup root tq with
    | none => exact ite_self _
    | some tm =>
      rw [Option.bind_some, Option.bind_some, resolveEffect_comm hp hq htn htm hpq]
      simp only [Option.bind_some]
      by_cases htt : tq = tp
      · subst htt
        cases htn.symm.trans htm
        rfl
      · rw [if_neg htt, if_neg (Ne.symm htt)]
        -- neither check sees the other step: the two tests are made in either order
        by_cases a : tn.attr.linkCount = 0xFFFFFFFF
        · rw [if_pos a, if_pos a, ite_self]
        · rw [if_neg a, if_neg a]

theorem resolveHardLinks_cons (c : Nat) (p : Path) (rest : List Path) (t : TNode) :
    resolveHardLinks c (p :: rest) t = (resolveLink t c p).bind (resolveHardLinks c rest) := by
  rw [resolveHardLinks]; cases resolveLink t c p <;> rfl

/-- what a `--pack-dir` scan leaves behind (`scanInto_links`): every pending link is flat, or dangling (it names a path at
which there is nothing) -/
def FlatOrDangling (root : TNode) (links : List Path) : Prop := ∀ p ∈ links, ∃ tp, PendingAt root p tp

theorem FlatAt.pending {root : TNode} {p tp : Path} (h : FlatAt root p tp) : PendingAt root p tp := by
  obtain ⟨n, tn, h1, h2, h3, h4, h5, h6⟩ := h
  exact ⟨n, h1, h2, h3, fun k hk => by rw [h4] at hk; cases hk; exact ⟨h5, h6⟩⟩

theorem resolveHardLinks_perm {l₁ l₂ : List Path} (hp : l₁.Perm l₂) (fuel : Nat) :
    ∀ root : TNode, FlatOrDangling root l₁ →
      resolveHardLinks (fuel + 1) l₁ root = resolveHardLinks (fuel + 1) l₂ root := by
  induction hp with
  | nil => intros; rfl
  | cons x _ ih =>
    intro root hf
    rw [resolveHardLinks_cons, resolveHardLinks_cons]
    refine Option.bind_congr fun root' hr => ih root' fun q hq => ?_
    obtain ⟨tx, hx⟩ := hf x List.mem_cons_self
    obtain ⟨tq, hq⟩ := hf q (List.mem_cons_of_mem _ hq)
    rw [resolveLink_pending hx] at hr
    obtain ⟨tn, htn, hr⟩ := Option.bind_eq_some_iff.mp hr
    split at hr
    · cases hr
    · cases hr; exact ⟨tq, (pending_step hx htn hq).1⟩
  | swap x y l =>
    intro root hf
    by_cases hxy : x = y
    · subst hxy; rfl
    · obtain ⟨tx, hx⟩ := hf x (List.mem_cons_of_mem _ List.mem_cons_self)
      obtain ⟨ty, hy⟩ := hf y List.mem_cons_self
      have two : ∀ a b : Path, resolveHardLinks (fuel + 1) (a :: b :: l) root =
          ((resolveLink root (fuel + 1) a).bind fun r => resolveLink r (fuel + 1) b).bind
            (resolveHardLinks (fuel + 1) l) := by
        intro a b
        rw [resolveHardLinks_cons, Option.bind_assoc]
        exact Option.bind_congr fun r _ => resolveHardLinks_cons ..
      rw [two, two, resolveLink_comm hy hx (Ne.symm hxy)]
  | trans h₁ _ ih₁ ih₂ =>
    intro root hf
    rw [ih₁ root hf]
    exact ih₂ root (fun p hp => hf p (h₁.mem_iff.mpr hp))

/-- one dangling link makes `fstree_resolve_hard_links` fail, wherever it stands in the list -/
theorem resolveHardLinks_dangling (fuel : Nat) {l : List Path} {root : TNode} (h : FlatOrDangling root l) {p tp : Path}
    (hp : p ∈ l) (hd : PendingAt root p tp) (hn : lookup root tp = none) : resolveHardLinks (fuel + 1) l root = none := by
  rw [resolveHardLinks_perm (List.perm_cons_erase hp) fuel root h, resolveHardLinks_cons, resolveLink_pending hd, hn]
  rfl

theorem postProcess_perm' {l₁ l₂ : List Path} (hp : l₁.Perm l₂) (tree : TNode) (h : FlatOrDangling tree l₁) :
    postProcess tree l₁ = postProcess tree l₂ := by
  cases l₁ with
  | nil => rw [List.Perm.nil_eq hp]
  | cons x xs =>
    have hlen : (x :: xs).length = xs.length + 1 := rfl
    simp only [postProcess, ← hp.length_eq]
    rw [hlen, resolveHardLinks_perm hp xs.length tree h]

/-- executable form of `FlatAt` (for concrete instances) -/
def flatAtB (root : TNode) (p tp : Path) : Bool :=
  match lookup root p, lookup root tp with
  | some n, some tn => n.isHardLink && (linkTargetOf n == some tp) && !tn.isHardLink && !tn.isDir
  | _, _ => false

theorem flatAt_of_flatAtB {root : TNode} {p tp : Path} (h : flatAtB root p tp = true) : FlatAt root p tp := by
  simp only [flatAtB] at h
  split at h
  · rename_i n tn h1 h2
    simp only [Bool.and_eq_true, Bool.not_eq_true', beq_iff_eq] at h
    exact ⟨n, tn, h1, h.1.1.1, h.1.1.2, h2, h.1.2, h.2⟩
  · cases h

end Sqfs.FsTree
