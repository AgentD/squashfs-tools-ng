/-
C04 fix-point — paths: the name sqfs2tar writes for a node (components joined by '/', directories with a trailing '/')
is canonicalised by the tar iterator to the join of the components, and splits back into them.
-/
import Sqfs.Props.C18
import Sqfs.Spec.TarFix
namespace Sqfs.Tar
open Sqfs.Path

theorem clean_slashFree {c : Bytes} (h : CleanComp c) : SlashFree c := h.2.2.2.1

theorem splitSlash_join_clean (ps : List Bytes) (hne : ps ≠ []) (h : ∀ c ∈ ps, CleanComp c) :
    splitSlash (joinSlash ps) = ps :=
  splitSlash_joinSlash ps hne (fun c hc => clean_slashFree (h c hc))

theorem canon_join (ps : List Bytes) (hne : ps ≠ []) (h : ∀ c ∈ ps, CleanComp c) :
    canonicalize (joinSlash ps) = some (joinSlash ps) := by
  rw [Sqfs.C18.canon_eq_spec]
  apply specCanon_of_clean
  rw [splitSlash_join_clean ps hne h]
  exact fun c hc => ⟨(h c hc).1, (h c hc).2.1, (h c hc).2.2.1⟩

theorem canon_join_trailing (ps : List Bytes) (hne : ps ≠ []) (h : ∀ c ∈ ps, CleanComp c) :
    canonicalize (joinSlash ps ++ [SL]) = some (joinSlash ps) := by
  have hs : splitSlash (joinSlash ps ++ [SL]) = ps ++ [[]] := by
    rw [splitSlash_at_slash, splitSlash_join_clean ps hne h]; rfl
  rw [Sqfs.C18.canon_eq_spec, specCanon_of_nodots, hs, List.filter_append,
    List.filter_eq_self.2 fun c hc => isNE_of_ne (h c hc).1, show ([[]] : List Bytes).filter isNE = [] from rfl, List.append_nil]
  rw [hs]
  exact List.forall_mem_append.2 ⟨fun c hc => ⟨(h c hc).2.1, (h c hc).2.2.1⟩, by decide⟩

theorem joinSlash_nul_free (ps : List Bytes) (h : ∀ c ∈ ps, CleanComp c) : ∀ x ∈ joinSlash ps, x ≠ 0 := by
  intro x hx
  rcases mem_joinSlash hx with rfl | ⟨c, hc, hxc⟩
  · decide
  · intro h0; subst h0; exact (h c hc).2.2.2.2 hxc

end Sqfs.Tar
