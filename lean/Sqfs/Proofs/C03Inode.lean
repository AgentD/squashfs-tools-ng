/-
The thresholds of inode.c never let a value be narrowed: every operation changes exactly the field it is meant to.
-/
import Sqfs.Model.C03Inode
namespace Sqfs.C03Inode

/-- what holds of every file inode the writer builds: an extended inode has at least one link (`make_extended`
writes 1, the serializer only ever stores `link_count ≥ 1`) -/
def WF : FileInode → Prop
  | .basic _ _ _ _ => True
  | .ext _ _ _ nl _ _ _ => 1 ≤ nl

theorem wf_fresh : WF fresh := trivial

theorem makeExtended_spec (i : FileInode) (h : WF i) : WF (makeExtended i) ∧ view (makeExtended i) = view i := by
  cases i with
  | basic => exact ⟨Nat.le_refl 1, rfl⟩
  | ext => exact ⟨h, rfl⟩

-- five nested conditionals: `split` takes them apart without simplifying the rest of the goal each time
set_option backward.split false in
theorem makeBasic_spec (i : FileInode) (h : WF i) : WF (makeBasic i) ∧ view (makeBasic i) = view i := by
  cases i with
  | basic => exact ⟨trivial, rfl⟩
  | ext st sz sp nl fi fo x =>
    simp only [makeBasic]
    -- each of the five refusals leaves the inode as it is
    iterate 5 (split; · exact ⟨h, rfl⟩)
    rename_i h1 h2 h3 h4 h5
    refine ⟨trivial, ?_⟩
    have e1 : st % 4294967296 = st := Nat.mod_eq_of_lt (by simp only [u32max] at h2; omega)
    have e2 : sz % 4294967296 = sz := Nat.mod_eq_of_lt (by simp only [u32max] at h3; omega)
    have e3 : sp = 0 := by omega
    have e4 : nl = 1 := by simp only [WF] at h; omega
    have e5 : x = noXattr := by simpa using h1
    simp only [view, e1, e2, e3, e4, e5]

theorem setFileSize_spec (i : FileInode) (size : Nat) (h : WF i) :
    WF (setFileSize i size) ∧
    view (setFileSize i size) = ((view i).1, size, (view i).2.2) := by
  cases i with
  | ext st sz sp nl fi fo x =>
    unfold setFileSize
    simp only
    split
    · obtain ⟨a, b⟩ := makeBasic_spec (.ext st size sp nl fi fo x) h
      exact ⟨a, by rw [b]; rfl⟩
    · exact ⟨h, rfl⟩
  | basic st fi fo sz =>
    unfold setFileSize
    simp only
    split
    · exact ⟨Nat.le_refl 1, rfl⟩
    · rename_i hs
      refine ⟨trivial, ?_⟩
      have : size % 4294967296 = size := Nat.mod_eq_of_lt (by simp only [u32max] at hs; omega)
      simp only [view, this]

theorem setBlockStart_spec (i : FileInode) (loc : Nat) (h : WF i) :
    WF (setBlockStart i loc) ∧ view (setBlockStart i loc) = (loc, (view i).2) := by
  cases i with
  | ext st sz sp nl fi fo x =>
    unfold setBlockStart
    simp only
    split
    · obtain ⟨a, b⟩ := makeBasic_spec (.ext loc sz sp nl fi fo x) h
      exact ⟨a, by rw [b]; rfl⟩
    · exact ⟨h, rfl⟩
  | basic st fi fo sz =>
    unfold setBlockStart
    simp only
    split
    · exact ⟨Nat.le_refl 1, rfl⟩
    · rename_i hs
      refine ⟨trivial, ?_⟩
      have : loc % 4294967296 = loc := Nat.mod_eq_of_lt (by simp only [u32max] at hs; omega)
      simp only [view, this]

theorem setFragLocation_spec (i : FileInode) (idx off : Nat) (h : WF i) :
    WF (setFragLocation i idx off) ∧
    view (setFragLocation i idx off) =
      ((view i).1, (view i).2.1, (view i).2.2.1, (view i).2.2.2.1, idx, off, (view i).2.2.2.2.2.2) := by
  cases i with
  | ext => exact ⟨h, rfl⟩
  | basic => exact ⟨trivial, rfl⟩

theorem setXattr_spec (i : FileInode) (x : Nat) (h : WF i) :
    WF (setXattr i x) ∧
    view (setXattr i x) =
      ((view i).1, (view i).2.1, (view i).2.2.1, (view i).2.2.2.1, (view i).2.2.2.2.1, (view i).2.2.2.2.2.1, x) := by
  cases i with
  | ext st sz sp nl fi fo x0 =>
    have : setXattr (.ext st sz sp nl fi fo x0) x = .ext st sz sp nl fi fo x := by
      unfold setXattr
      have e : (if x ≠ noXattr then makeExtended (.ext st sz sp nl fi fo x0) else .ext st sz sp nl fi fo x0)
          = FileInode.ext st sz sp nl fi fo x0 := by split <;> rfl
      rw [e]
    rw [this]; exact ⟨h, rfl⟩
  | basic st fi fo sz =>
    by_cases hx : x ≠ noXattr
    · have : setXattr (.basic st fi fo sz) x = .ext st sz 0 1 fi fo x := by
        unfold setXattr; rw [if_pos hx]; rfl
      rw [this]; exact ⟨Nat.le_refl 1, rfl⟩
    · have : setXattr (.basic st fi fo sz) x = .basic st fi fo sz := by
        unfold setXattr; rw [if_neg hx]
      rw [this]
      have hx' : x = noXattr := by simpa using hx
      exact ⟨trivial, by simp only [view, hx']⟩

theorem addSparse_spec (i : FileInode) (n : Nat) (h : WF i) :
    WF (addSparse i n) ∧
    view (addSparse i n) =
      ((view i).1, (view i).2.1, ((view i).2.2.1 + n) % 18446744073709551616, (view i).2.2.2) := by
  cases i with
  | ext => exact ⟨h, rfl⟩
  | basic => exact ⟨Nat.le_refl 1, rfl⟩

end Sqfs.C03Inode
