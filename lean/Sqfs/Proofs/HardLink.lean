/-
C07, hard-link resolution (`Sqfs/Model/HardLink.lean`): from a state whose recorded resolutions point at non-links (`ResOK`)
the repaired loop ends within `maxHops + 2` iterations, so the driver loop never runs out of fuel; a run that succeeds has
resolved every listed link to a node that is neither link nor directory (`ResOther`).
-/
import Sqfs.Spec.HardLink
import Batteries.Data.List.Perm
namespace Sqfs.HardLink

/-- every recorded resolution points to an existing non-link node (what `resolve_link` stores) -/
def ResOK (g : Graph) (res : Nat → Option Nat) : Prop := ∀ k t, res k = some t → NonLink g t

theorem resOK_init (g : Graph) : ResOK g (fun _ => none) := by
  intro k t h; cases h

theorem nonLink_of_not_hlink {g : Graph} {i : Nat} {nd : Node} (hq : g[i]? = some nd) (h : ∀ t, nd = .hlink t → False) :
    NonLink g i := by
  cases nd with
  | other => exact Or.inl hq
  | dir => exact Or.inr hq
  | hlink t => exact (h t rfl).elim

theorem nonLink_brk {g : Graph} {i : Nat} (h : NonLink g i) (res : Nat → Option Nat) (start mh fuel hops : Nat) :
    loopFix g res start mh (fuel + 1) i hops = .brk i := by
  rcases h with h | h <;> simp [loopFix, h]

theorem loopFix_brk_nonLink (g : Graph) (res : Nat → Option Nat) (start mh : Nat) :
    ∀ fuel node hops r, loopFix g res start mh fuel node hops = .brk r → NonLink g r := by
  intro fuel node hops r h
  fun_induction loopFix g res start mh fuel node hops
  case case4 ih => exact ih h
  case case8 ih => exact ih h
  case case9 hnl hg => cases h; exact nonLink_of_not_hlink hg hnl
  all_goals cases h

/-- **termination of the repaired loop**: `(maxHops - hops) + 2` iterations suffice -/
theorem loopFix_fuel (g : Graph) (res : Nat → Option Nat) (start mh : Nat) (hres : ResOK g res) :
    ∀ fuel node hops, (mh - hops) + 2 ≤ fuel → loopFix g res start mh fuel node hops ≠ .outOfFuel := by
  intro fuel node hops
  fun_induction loopFix g res start mh fuel node hops <;> intro hf
  case case1 => cases hf
  case case4 f _ _ _ _ t hr _ _ =>
    -- a resolved link points to a non-link: the next iteration breaks
    obtain ⟨f', rfl⟩ : ∃ f', f = f' + 1 := ⟨f - 1, by omega⟩
    rw [nonLink_brk (hres _ _ hr)]
    exact fun h => nomatch h
  case case8 ih => exact ih (by omega)
  all_goals exact fun h => nomatch h

theorem finishLink_ok_inv {g : Graph} {st st' : St} {start : Nat} {lr : LoopRes}
    (hbrk : ∀ r, lr = .brk r → NonLink g r) (h : finishLink g st start lr = .ok st') :
    ∃ node, lr = .brk node ∧ g[node]? = some .other ∧ st.linkCount node ≠ linkCountMax ∧
      st'.resolved = (fun k => if k = start then some node else st.resolved k) ∧
      st'.linkCount = (fun k => if k = node then st.linkCount k + 1 else st.linkCount k) := by
  revert h
  fun_cases finishLink g st start lr <;> intro h <;> cases h
  case case6 node h1 h2 => exact ⟨node, rfl, (hbrk node rfl).resolve_right h1, h2, rfl, rfl⟩

/-- `res[start := node]` (what `resolve_link` stores): a property of all recorded resolutions survives when it holds of the new one -/
theorem forall_resolved_set {P : Nat → Nat → Prop} {res : Nat → Option Nat} {start node : Nat}
    (h : ∀ k t, res k = some t → P k t) (hn : P start node) :
    ∀ k t, (if k = start then some node else res k) = some t → P k t := by
  intro k t hk
  by_cases hks : k = start
  · rw [if_pos hks] at hk; cases hk; exact hks ▸ hn
  · rw [if_neg hks] at hk; exact h k t hk

theorem finishLink_resOK {g : Graph} {st st' : St} {start : Nat} {lr : LoopRes}
    (hres : ResOK g st.resolved) (hbrk : ∀ r, lr = .brk r → NonLink g r)
    (h : finishLink g st start lr = .ok st') : ResOK g st'.resolved := by
  obtain ⟨node, hlr, _, _, hr, _⟩ := finishLink_ok_inv hbrk h
  rw [hr]
  exact forall_resolved_set (P := fun _ t => NonLink g t) hres (hbrk _ hlr)

theorem finishLink_ne_outOfFuel {g : Graph} {st : St} {start : Nat} {lr : LoopRes} (h : lr ≠ .outOfFuel) :
    (match finishLink g st start lr with | .outOfFuel => False | _ => True) := by
  fun_cases finishLink g st start lr
  case case1 => exact absurd rfl h
  all_goals trivial

/-- driver loop with a fixed hop bound `mh` and fuel `fuel ≥ mh + 2`, from any consistent state -/
theorem resolveAllWith_fix_terminates (g : Graph) (mh fuel : Nat) (hf : mh + 2 ≤ fuel) :
    ∀ (links : List Nat) (st : St), ResOK g st.resolved →
      (match resolveAllWith g (fun res n => loopFix g res n mh fuel n 0) st links with
       | .outOfFuel => False | _ => True) := by
  intro links st
  fun_induction resolveAllWith g (fun res n => loopFix g res n mh fuel n 0) st links <;> intro hres
  case case2 st n _ _ hfin ih =>
    exact ih (finishLink_resOK hres (fun r hr => loopFix_brk_nonLink g _ n mh fuel n 0 r hr) hfin)
  case case4 st n _ hfin =>
    have := finishLink_ne_outOfFuel (g := g) (st := st) (start := n)
      (loopFix_fuel g _ n mh hres fuel n 0 (Nat.le_trans (Nat.add_le_add_right (Nat.sub_le _ _) 2) hf))
    rw [hfin] at this; exact this
  all_goals trivial

/-- every recorded resolution points to an existing node that is neither a link nor a directory -/
def ResOther (g : Graph) (res : Nat → Option Nat) : Prop := ∀ k t, res k = some t → g[t]? = some .other

theorem ResOther.resOK {g : Graph} {res : Nat → Option Nat} (h : ResOther g res) : ResOK g res :=
  fun k t hk => Or.inl (h k t hk)

theorem resolveAllWith_mono (g : Graph) (loop : (Nat → Option Nat) → Nat → LoopRes) (links : List Nat) (st st' : St)
    (h : resolveAllWith g loop st links = .ok st') :
    (∀ k, (st.resolved k).isSome → (st'.resolved k).isSome) ∧ ∀ n ∈ links, (st'.resolved n).isSome := by
  fun_induction resolveAllWith g loop st links
  case case1 => cases h; exact ⟨fun _ h => h, fun _ h => nomatch h⟩
  case case2 st n rest st1 hfin ih =>
    obtain ⟨h2, h3⟩ := ih h
    have hr : ∀ k, (st.resolved k).isSome ∨ k = n → (st1.resolved k).isSome := by
      revert hfin
      fun_cases finishLink g st n (loop st.resolved n) <;> intro hfin <;> cases hfin
      intro k hk
      by_cases hkn : k = n
      · simp [hkn]
      · simpa [hkn] using hk.resolve_right hkn
    exact ⟨fun k hk => h2 k (hr k (.inl hk)), fun m hm => (List.mem_cons.1 hm).elim (fun e => h2 m (hr m (.inr e))) (h3 m)⟩
  all_goals cases h

theorem resolveAllWith_ok (g : Graph) (loop : (Nat → Option Nat) → Nat → LoopRes)
    (hbrk : ∀ res n r, loop res n = .brk r → NonLink g r) :
    ∀ (links : List Nat) (st st' : St), ResOther g st.resolved → resolveAllWith g loop st links = .ok st' →
      ResOther g st'.resolved ∧ (∀ k, (st.resolved k).isSome → (st'.resolved k).isSome) ∧
      ∀ n ∈ links, (st'.resolved n).isSome := by
  intro links st st' hres h
  refine ⟨?_, resolveAllWith_mono g loop links st st' h⟩
  fun_induction resolveAllWith g loop st links
  case case1 => cases h; exact hres
  case case2 st n rest st1 hfin ih =>
    refine ih ?_ h
    obtain ⟨node, _, hoth, _, hr, _⟩ := finishLink_ok_inv (hbrk _ _) hfin
    rw [hr]
    exact forall_resolved_set (P := fun _ t => g[t]? = some .other) hres hoth
  all_goals cases h

end Sqfs.HardLink
