/-
The C16 round trip for whole trees and both printers (stated in `Sqfs/Props/C16.lean`).  `Sim` relates a run of the printer
in /repo to the same run of the printer without the line-feed test; everything said about a tree is read off
`tree_sim`/`forest_sim`: a listing that is printed is the other printer's and decodes to the tree, a refusal is the
line-feed diagnostic on input that is not clean, on clean input both print the same.
-/
import Sqfs.Proofs.QuoteLF
namespace Sqfs.Quote
open Sqfs.Path (Bytes)

/-- a run `x` of the printer against the same run `y` of the printer without the line-feed test: either it prints the
same bytes, of which `P` holds, or it stops with the line-feed diagnostic, and then the input was not clean (`C`) -/
def Sim (x y : Except DErr Bytes) (P : Bytes → Prop) (C : Prop) : Prop :=
  match x with
  | .ok out => y = .ok out ∧ P out
  | .error e => e = .newline ∧ ¬ C

theorem Sim.ok {x y : Except DErr Bytes} {P : Bytes → Prop} {C : Prop} (h : Sim x y P C) {out : Bytes} (hx : x = .ok out) :
    y = .ok out ∧ P out := by
  subst hx; exact h

theorem Sim.error {x y : Except DErr Bytes} {P : Bytes → Prop} {C : Prop} (h : Sim x y P C) {e : DErr} (hx : x = .error e) :
    e = .newline ∧ ¬ C := by
  subst hx; exact h

/-- on clean input both printers print, the same bytes -/
theorem Sim.clean {x y : Except DErr Bytes} {P : Bytes → Prop} {C : Prop} (h : Sim x y P C) (hc : C) :
    ∃ out, x = .ok out ∧ y = .ok out ∧ P out := by
  cases x with
  | ok out => exact ⟨out, rfl, h⟩
  | error e => exact absurd hc h.2

theorem Sim.mono {x y : Except DErr Bytes} {P Q : Bytes → Prop} {C D : Prop} (h : Sim x y P C) (hpq : ∀ out, P out → Q out)
    (hdc : D → C) : Sim x y Q D := by
  cases x with
  | ok out => exact ⟨h.1, hpq out h.2⟩
  | error e => exact ⟨h.1, fun d => h.2 (hdc d)⟩

/-- the sequencing both printers use: first `x`, then `x'`, outputs appended -/
theorem Sim.append {x y x' y' : Except DErr Bytes} {es es' : List Entry} {C C' D : Prop}
    (h : Sim x y (Decodes · es) C) (h' : Sim x' y' (Decodes · es') C') (hd : D → C ∧ C') :
    Sim (match (generalizing := false) x with | .error e => .error e | .ok a => match (generalizing := false) x' with | .error e => .error e | .ok b => .ok (a ++ b))
      (match (generalizing := false) y with | .error e => .error e | .ok a => match (generalizing := false) y' with | .error e => .error e | .ok b => .ok (a ++ b))
      (Decodes · (es ++ es')) D := by
  cases x with
  | error e => exact ⟨h.1, fun d => h.2 (hd d).1⟩
  | ok a =>
    obtain ⟨rfl, pa⟩ := h
    cases x' with
    | error e => exact ⟨h'.1, fun d => h'.2 (hd d).2⟩
    | ok b =>
      obtain ⟨rfl, pb⟩ := h'
      exact ⟨rfl, pa.append pb⟩

/-- the node-level simulation, from the equation `lf_describeNode` and `node_rt` -/
theorem node_sim (ur : Option Bytes) (hur : ∀ r, ur = some r → NUL ∉ r) (comps : List Bytes) (n : Node)
    (hc : ∀ c ∈ comps, ImgName c) (hn : n.WfN) (hroot : comps = [] → n.kind = .dir) :
    Sim (Sqfs.QuoteLF.describeNode ur comps n) (describeNode ur comps n) (Decodes · (specEntry ur comps n).toList)
      ((∀ c ∈ comps, GoodName c) ∧ n.Wf ∧ ∀ r, ur = some r → LineSafe r) := by
  obtain ⟨h1, h2⟩ := lf_describeNode ur comps n hc
  by_cases hl : HasLF ur comps n
  · rw [h1 hl]
    exact ⟨rfl, fun ⟨hg, hw, hs⟩ => not_hasLF ur comps n hg hw.target_lf (fun _ r hr => (hs r hr).2) hl⟩
  · obtain ⟨line, hy, hd⟩ := node_rt ur hur comps n hc hn hroot hl
    rw [h2 hl, hy]
    exact ⟨rfl, hd⟩

mutual
theorem tree_sim (ur : Option Bytes) (hur : ∀ r, ur = some r → NUL ∉ r) (comps : List Bytes)
    (hc : ∀ c ∈ comps, ImgName c) :
    (t : Tree) → (match t with | .mk _ node ch => node.WfN ∧ ForestOkN ch ∧ (comps = [] → node.kind = .dir)) →
      Sim (Sqfs.QuoteLF.describeTree ur comps t) (describeTree ur comps t) (Decodes · (specTree ur comps t))
        ((∀ c ∈ comps, GoodName c) ∧ (match t with | .mk _ node ch => node.Wf ∧ ForestOk ch) ∧ ∀ r, ur = some r → LineSafe r)
  | .mk name node ch, h => by
    obtain ⟨hn, hf, hroot⟩ := h
    have h1 := node_sim ur hur comps node hc hn hroot
    unfold Sqfs.QuoteLF.describeTree describeTree specTree
    by_cases hk : node.kind = .dir
    · simp only [hk, if_true]
      refine h1.append (forest_sim ur hur comps hc ch hf) ?_
      exact fun ⟨g, ⟨w, f⟩, l⟩ => ⟨⟨g, w, l⟩, g, f, l⟩
    · simp only [hk, if_false, List.append_nil]
      cases hl : Sqfs.QuoteLF.describeNode ur comps node with
      | error e => rw [hl] at h1; exact ⟨h1.1, fun ⟨g, ⟨w, _⟩, l⟩ => h1.2 ⟨g, w, l⟩⟩
      | ok line => rw [hl] at h1; simp only [h1.1]; exact ⟨rfl, h1.2⟩
theorem forest_sim (ur : Option Bytes) (hur : ∀ r, ur = some r → NUL ∉ r) (parents : List Bytes)
    (hc : ∀ c ∈ parents, ImgName c) :
    (ts : List Tree) → ForestOkN ts →
      Sim (Sqfs.QuoteLF.describeForest ur parents ts) (describeForest ur parents ts) (Decodes · (specForest ur parents ts))
        ((∀ c ∈ parents, GoodName c) ∧ ForestOk ts ∧ ∀ r, ur = some r → LineSafe r)
  | [], _ => ⟨rfl, Decodes.nil⟩
  | .mk name node ch :: ts, h => by
    obtain ⟨⟨hname, hn, hch⟩, hts⟩ := h
    have hc' : ∀ c ∈ parents ++ [name], ImgName c :=
      List.forall_mem_append.2 ⟨hc, List.forall_mem_singleton.2 hname⟩
    unfold Sqfs.QuoteLF.describeForest describeForest specForest
    refine (tree_sim ur hur (parents ++ [name]) hc' (.mk name node ch) ⟨hn, hch, fun e => by simp at e⟩).append
      (forest_sim ur hur parents hc ts hts) ?_
    exact fun ⟨g, ⟨⟨gn, w, f⟩, fs⟩, l⟩ => ⟨⟨List.forall_mem_append.2 ⟨g, List.forall_mem_singleton.2 gn⟩, ⟨w, f⟩, l⟩, g, fs, l⟩
end

theorem forest_rt (ur : Option Bytes) (hur : ∀ r, ur = some r → LineSafe r) (parents : List Bytes)
    (hc : ∀ c ∈ parents, GoodName c) :
    (ts : List Tree) → ForestOk ts →
      ∃ out, describeForest ur parents ts = .ok out ∧ Decodes out (specForest ur parents ts) :=
  fun ts h =>
    let ⟨out, _, hy, hd⟩ := (forest_sim ur (fun r hr => (hur r hr).1) parents (fun c m => (hc c m).img) ts (ForestOk.toN ts h)).clean
      ⟨hc, h, hur⟩
    ⟨out, hy, hd⟩

theorem lf_forest_rt (ur : Option Bytes) (hur : ∀ r, ur = some r → NUL ∉ r) (parents : List Bytes)
    (hc : ∀ c ∈ parents, ImgName c) :
    (ts : List Tree) → ForestOkN ts →
      (∀ out, Sqfs.QuoteLF.describeForest ur parents ts = .ok out →
        describeForest ur parents ts = .ok out ∧ Decodes out (specForest ur parents ts)) ∧
      (∀ e, Sqfs.QuoteLF.describeForest ur parents ts = .error e → e = .newline) :=
  fun ts h => ⟨fun _ ho => (forest_sim ur hur parents hc ts h).ok ho, fun _ he => ((forest_sim ur hur parents hc ts h).error he).1⟩

theorem lf_forest_same (ur : Option Bytes) (hur : ∀ r, ur = some r → LineSafe r) (parents : List Bytes)
    (hc : ∀ c ∈ parents, GoodName c) :
    (ts : List Tree) → ForestOk ts → Sqfs.QuoteLF.describeForest ur parents ts = describeForest ur parents ts :=
  fun ts h =>
    let ⟨_, hx, hy, _⟩ := (forest_sim ur (fun r hr => (hur r hr).1) parents (fun c m => (hc c m).img) ts (ForestOk.toN ts h)).clean
      ⟨hc, h, hur⟩
    hx.trans hy.symm

theorem describe_sim (ur : Option Bytes) (hur : ∀ r, ur = some r → NUL ∉ r) (t : Tree) (ht : RootOkN t) :
    Sim (Sqfs.QuoteLF.describe ur t) (describe ur t) (fun out => fstreeFromFile {} out = (specTree ur [] t, none))
      (RootOk t ∧ ∀ r, ur = some r → LineSafe r) := by
  cases t with
  | mk name node ch =>
    obtain ⟨hname, hk, hn, hf⟩ := ht
    subst hname
    simp only [Sqfs.QuoteLF.describe, describe, Tree.name, if_true]
    exact (tree_sim ur hur [] (by simp) (.mk [] node ch) ⟨hn, hf, fun _ => hk⟩).mono (fun _ h => h.whole)
      fun ⟨⟨_, _, w, f⟩, l⟩ => ⟨by simp, ⟨w, f⟩, l⟩

/-- **Whole listing**, for the printer without the line-feed test (explained at `Sqfs.C16.describe_roundtrip`). -/
theorem describe_roundtrip_proof (ur : Option Bytes) (hur : ∀ r, ur = some r → LineSafe r) (t : Tree) (ht : RootOk t) :
    ∃ out, describe ur t = .ok out ∧ fstreeFromFile {} out = (specTree ur [] t, none) :=
  let ⟨out, _, hy, hd⟩ := (describe_sim ur (fun r hr => (hur r hr).1) t ht.toN).clean ⟨ht, hur⟩
  ⟨out, hy, hd⟩

/-- for the instances in `Sqfs/Props/C16.lean` whose hypothesis is a successful print: a run that is seen to succeed (by
evaluation) has a result, and what holds of every result holds of it -/
theorem exists_ok {ε α : Type} {x : Except ε α} {P : α → Prop} (hk : x.toBool = true) (hp : ∀ a, x = .ok a → P a) :
    ∃ a, x = .ok a ∧ P a := by
  cases x with
  | error e => cases hk
  | ok a => exact ⟨a, rfl, hp a rfl⟩

end Sqfs.Quote
