/-
C14, the readers' side: which superblocks the readers' first stage accepts. `superRead_of_checks`: `sqfs_super_read`
returns the decoded first 96 bytes when they pass its tests; `SuperOk` adds what the entry of `sqfs_id_table_read`
tests, and a file that begins with the encoding of such a superblock is accepted (`accepts_of_superOk`). The writer's
states do not occur here; `Props/C01` uses the first lemma for its superblock round trip.
-/
import Sqfs.Proofs.WriterSuper
namespace Sqfs.Writer
open Sqfs.Consts

/-- what makes a superblock pass `sqfs_super_read` and the entry of `sqfs_id_table_read` -/
structure SuperOk (t : Super) : Prop where
  magic : t.magic = Consts.magic
  vMajor : t.vMajor = versionMajor
  vMinor : t.vMinor = versionMinor
  block : ∃ log, 12 ≤ log ∧ log ≤ 20 ∧ t.blockSize = 2 ^ log ∧ t.blockLog = log
  comp : compMin ≤ t.compId ∧ t.compId ≤ compMax
  idc : 0 < t.idCount ∧ t.idCount < 2 ^ 16
  idlist : t.idStart + 8 * tableBlocks (t.idCount * 4) ≤ t.bytesUsed
  used : t.bytesUsed < 2 ^ 64

/-- the hypotheses bear the numbers of the nine tests of `superRead`; tests 3 to 5, on the block size alone, follow from
`h6`, `h7` -/
theorem superRead_of_checks (f : Bytes) (hl : sizeofSuper ≤ f.length) (t : Super) (ht : Super.decode (f.take sizeofSuper) = t)
    (h1 : t.magic = Consts.magic) (h2 : t.vMajor = versionMajor) (h2' : t.vMinor = versionMinor)
    (h6 : 12 ≤ t.blockLog ∧ t.blockLog ≤ 20) (h7 : t.blockSize = 2 ^ t.blockLog)
    (h8 : compMin ≤ t.compId ∧ t.compId ≤ compMax) (h9 : t.idCount ≠ 0) :
    superRead f = .ok t := by
  -- the three tests on the block size alone: it is one of the nine powers `2 ^ 12 … 2 ^ 20`, checked one by one
  have hp : ∀ k < 9, ((2 ^ (12 + k) + 2 ^ 32 - 1) % 2 ^ 32) &&& 2 ^ (12 + k) = 0 ∧ minBlockSize ≤ 2 ^ (12 + k) ∧
      2 ^ (12 + k) ≤ maxBlockSize := by decide
  obtain ⟨h3, h4, h5⟩ := hp (t.blockLog - 12) (Nat.sub_lt_left_of_lt_add h6.1 (Nat.lt_succ_of_le h6.2))
  rw [Nat.add_sub_cancel' h6.1, ← h7] at h3 h4 h5
  simp only [superRead, readAt_super f hl, ht]
  rw [if_neg (fun h => h h1), if_neg (by rw [h2, h2']; simp), if_neg (fun h => h h3), if_neg (by omega), if_neg (by omega),
    if_neg (by omega), if_neg (fun h => h h7), if_neg (by omega), if_neg h9]

theorem tableBlocks_eq (n : Nat) : tableBlocks n = (n + 8191) / 8192 := by
  unfold tableBlocks metaBlockSize
  split <;> omega

theorem accepts_of_superOk (f : Bytes) (t : Super) (h96 : f.take sizeofSuper = t.encode) (hlen : t.bytesUsed ≤ f.length)
    (ok : SuperOk t) : readerAccepts f = true := by
  have hl : sizeofSuper ≤ f.length := by
    have := congrArg List.length h96
    rw [encode_length, List.length_take] at this
    omega
  obtain ⟨log, hl1, hl2, hbs, hbl⟩ := ok.block
  have p4 : 2 ^ log < 2 ^ 32 := Nat.pow_lt_pow_right (by decide) (Nat.lt_of_le_of_lt hl2 (by decide))
  have hd : Super.decode (f.take sizeofSuper) = t.wrap := by rw [h96, decode_encode]
  -- the fields the readers look at are within their on-disk widths, so `wrap` leaves them alone
  have e1 : t.wrap.magic = Consts.magic := ok.magic ▸ (by decide : Consts.magic % 2 ^ 32 = Consts.magic)
  have e2 : t.wrap.vMajor = versionMajor := ok.vMajor ▸ (by decide : versionMajor % 2 ^ 16 = versionMajor)
  have e3 : t.wrap.vMinor = versionMinor := ok.vMinor ▸ (by decide : versionMinor % 2 ^ 16 = versionMinor)
  have e4 : t.wrap.blockSize = 2 ^ log := hbs ▸ Nat.mod_eq_of_lt (hbs ▸ p4)
  have e5 : t.wrap.blockLog = log := hbl ▸ Nat.mod_eq_of_lt (by omega)
  have e6 : t.wrap.compId = t.compId := Nat.mod_eq_of_lt (Nat.lt_of_le_of_lt ok.comp.2 (by decide))
  have e7 : t.wrap.idCount = t.idCount := Nat.mod_eq_of_lt ok.idc.2
  have e8 : t.wrap.bytesUsed = t.bytesUsed := Nat.mod_eq_of_lt ok.used
  have hsr : superRead f = .ok t.wrap :=
    superRead_of_checks f hl t.wrap hd e1 e2 e3 (e5 ▸ ⟨hl1, hl2⟩) (e4.trans (e5 ▸ rfl)) (e6 ▸ ok.comp) (e7 ▸ Nat.ne_of_gt ok.idc.1)
  have hn : 8 * tableBlocks (t.idCount * 4) ≠ 0 := by
    have := ok.idc.1
    rw [tableBlocks_eq]; omega
  -- the location list is not empty and lies below `bytes_used`, so the table starts below it
  have hlt : t.idStart < t.bytesUsed := Nat.lt_of_lt_of_le (Nat.lt_add_of_pos_right (Nat.pos_of_ne_zero hn)) ok.idlist
  have e9 : t.wrap.idStart = t.idStart := Nat.mod_eq_of_lt (Nat.lt_trans hlt ok.used)
  have hle : t.idStart + 8 * tableBlocks (t.idCount * 4) ≤ f.length := Nat.le_trans ok.idlist hlen
  have hcond : ¬ (t.idCount = 0 ∨ t.idStart ≥ t.bytesUsed) := by have := ok.idc.1; omega
  simp only [readerAccepts, readerVerdict, hsr, idTableStage, e7, e8, e9, readAt, hn, if_false, hcond, hle, if_true]

end Sqfs.Writer
