/-
Lemmas about the repaired directory walks (`fillDirV`, `dirRecV` of `Sqfs/Model/ReaderWalk.lean`): every directory
is entered at most once, hence the number of nodes is bounded by the number of directory-listing entries; the
recursion depth is bounded by the nesting limit.
-/
import Sqfs.Proofs.ReaderWalk
namespace Sqfs.ReaderWalk
open Sqfs.ReaderBounds (Err)
-- see `Sqfs/Proofs/ReaderBounds.lean`: the default `split` doubles its cost with every level of a nested `if`/`match`
set_option backward.split false

theorem sum_le_of_sublist {l R : List Nat} (h : l.Sublist R) : l.sum ≤ R.sum := by
  induction h with
  | slnil => exact Nat.le_refl _
  | cons a _ ih => exact Nat.le_trans ih (by simp only [List.sum_cons]; omega)
  | cons_cons a _ ih => simp only [List.sum_cons]; omega

/-- a duplicate-free list inside `R` is a permutation of a sublist of `R` -/
theorem sum_le_of_nodup_subset {α : Type} (f : α → Nat) (l R : List α) (hn : l.Nodup) (hs : ∀ x ∈ l, x ∈ R) :
    (l.map f).sum ≤ (R.map f).sum := by
  obtain ⟨l', hp, hsub⟩ := List.subperm_of_subset hn hs
  rw [← (hp.map f).sum_nat]
  exact sum_le_of_sublist (hsub.map f)

/-- between `vis` and `vis'` the walk entered the directories `E` (most recent first), none of them known before
and no two with the same key, all of them among `R`, and created `m` nodes below them -/
def Grew {κ : Type} (g : DirGraph) (key : Nat → κ) (R : List Nat) (vis : List κ) (m : Nat) (vis' : List κ) : Prop :=
  ∃ E : List Nat, vis' = E.map key ++ vis ∧ (E.map key).Nodup ∧ (∀ x ∈ E.map key, x ∉ vis) ∧ (∀ c ∈ E, c ∈ R) ∧
    m = listingEntries g E

theorem Grew.refl {κ : Type} (g : DirGraph) (key : Nat → κ) (R : List Nat) (vis : List κ) : Grew g key R vis 0 vis :=
  ⟨[], by simp, by simp, by simp, by simp, by simp [listingEntries]⟩

theorem Grew.trans {κ : Type} {g : DirGraph} {key : Nat → κ} {R : List Nat} {a b c : List κ} {k m : Nat}
    (h1 : Grew g key R a k b) (h2 : Grew g key R b m c) : Grew g key R a (k + m) c := by
  obtain ⟨E1, rfl, n1, d1, r1, rfl⟩ := h1
  obtain ⟨E2, rfl, n2, d2, r2, rfl⟩ := h2
  refine ⟨E2 ++ E1, by simp, ?_, ?_, fun x hx => (List.mem_append.1 hx).elim (r2 x) (r1 x), ?_⟩
  · rw [List.map_append]
    exact List.nodup_append.2 ⟨n2, n1, fun x hx2 y hy1 hxy => d2 x hx2 (hxy ▸ List.mem_append_left _ hy1)⟩
  · intro x hx hv
    rw [List.map_append] at hx
    exact (List.mem_append.1 hx).elim (fun h => d2 x h (List.mem_append_right _ hv)) (fun h => d1 x h hv)
  · simp only [listingEntries, List.map_append, List.sum_append]; omega

theorem Grew.enter {κ : Type} {g : DirGraph} {key : Nat → κ} {R : List Nat} {vis vis1 : List κ} {c m : Nat}
    (hc : key c ∉ vis) (hR : c ∈ R) (h : Grew g key R (key c :: vis) m vis1) :
    Grew g key R vis ((g.entries c).length + m) vis1 :=
  Grew.trans ⟨[c], rfl, by simp, by simpa using hc, by simpa using hR, by simp [listingEntries]⟩ h

theorem Grew.subset {κ : Type} {g : DirGraph} {key : Nat → κ} {R : List Nat} {vis vis' : List κ} {m : Nat}
    (h : Grew g key R vis m vis') : ∀ x ∈ vis, x ∈ vis' := by
  obtain ⟨E, e, _⟩ := h
  intro x hx; rw [e]; exact List.mem_append_right _ hx

/-- `A`: directories of `R` whose keys were in the set before, hence distinct from the ones the walk entered -/
theorem Grew.listing_le {κ : Type} {g : DirGraph} {key : Nat → κ} {R : List Nat} {vis vis' : List κ} {m : Nat}
    (h : Grew g key R vis m vis') (A : List Nat) (hA : (A.map key).Nodup) (hAv : ∀ a ∈ A, key a ∈ vis)
    (hAR : ∀ a ∈ A, a ∈ R) : listingEntries g A + m ≤ listingEntries g R := by
  obtain ⟨E, _, nE, dE, rE, rfl⟩ := h
  have hk : ((A ++ E).map key).Nodup := by
    rw [List.map_append]
    refine List.nodup_append.2 ⟨hA, nE, fun x hx y hy hxy => dE y hy ?_⟩
    obtain ⟨a, ha, rfl⟩ := List.mem_map.1 hx
    exact hxy ▸ hAv a ha
  -- distinct keys, hence distinct references
  have hn : (A ++ E).Nodup := List.Pairwise.of_map key (fun _ _ hab e => hab (congrArg key e)) hk
  have := sum_le_of_nodup_subset (fun r => (g.entries r).length) (A ++ E) R hn
    fun x hx => (List.mem_append.1 hx).elim (hAR x) (rE x)
  simpa only [listingEntries, List.map_append, List.sum_append] using this

theorem Grew.room {g : DirGraph} {R vis vis' : List Nat} {m fuel : Nat} (h : Grew g id R vis m vis')
    (hr : Room R fuel vis) : Room R fuel vis' := by
  obtain ⟨E, rfl, nE, dE, rE, _⟩ := h
  rw [List.map_id] at nE dE ⊢
  refine ⟨List.nodup_append.2 ⟨nE, hr.nodup, fun x hx y hy hxy => dE x hx (hxy ▸ hy)⟩,
    fun x hx => (List.mem_append.1 hx).elim (rE x) (hr.sub x), ?_⟩
  have := hr.lt
  rw [List.length_append]
  omega

theorem sumEntriesV_grew {κ : Type} (g : DirGraph) (key : Nat → κ) (R : List Nat)
    (sub : List κ → Nat → Except Err (Nat × List κ)) (isDir : Nat → Bool) (l : List Nat) (vis : List κ)
    (n : Nat) (vis' : List κ)
    (hsub : ∀ vis c k vis1, c ∈ l → isDir c = true → sub vis c = .ok (k, vis1) → Grew g key R vis k vis1)
    (h : sumEntriesV sub isDir vis l = .ok (n, vis')) : ∃ m, n = l.length + m ∧ Grew g key R vis m vis' := by
  fun_induction sumEntriesV sub isDir vis l generalizing n vis'
  case case1 => cases h; exact ⟨0, rfl, Grew.refl g key R _⟩
  case case2 => cases h
  case case3 => cases h
  case case4 vis c t k vis1 h1 n2 vis2 h2 ih =>
    cases h
    obtain ⟨m2, e2, g2⟩ := ih n2 vis2 (fun vis c k vis1 hc => hsub vis c k vis1 (List.mem_cons_of_mem _ hc)) h2
    have g1 : Grew g key R vis k vis1 := by
      split at h1
      · exact hsub vis c k vis1 List.mem_cons_self ‹_› h1
      · cases h1; exact Grew.refl g key R vis
    exact ⟨k + m2, by simp only [List.length_cons]; omega, Grew.trans g1 g2⟩

theorem fillDirV_grew (g : DirGraph) (limit : Nat) (R : List Nat)
    (hR : ∀ r c, c ∈ g.entries r → g.isDir c = true → c ∈ R) :
    ∀ (fuel level : Nat) (anc vis : List UInt32) (ref n : Nat) (vis' : List UInt32),
      fillDirV g limit fuel level anc vis ref = .ok (n, vis') →
      ∃ m, n = (g.entries ref).length + m ∧ Grew g g.inum R vis m vis' := by
  intro fuel level anc vis ref n vis' h
  fun_induction fillDirV g limit fuel level anc vis ref generalizing n vis'
  case case1 => cases h
  case case2 => cases h
  case case3 => cases h
  case case4 fuel level anc vis ref _ _ ih =>
    refine sumEntriesV_grew g g.inum R _ g.isDir (g.entries ref) vis n vis' ?_ h
    intro vis0 c k vis1 hc hd hs
    split at hs
    · cases hs
    · rename_i hnc
      obtain ⟨m, rfl, gr⟩ := ih _ _ _ _ hs
      exact Grew.enter (by simpa using hnc) (hR ref c hc hd) gr

theorem dirRecV_grew (g : DirGraph) (limit : Nat) (R : List Nat)
    (hR : ∀ r c, c ∈ g.entries r → g.isDir c = true → c ∈ R) :
    ∀ (fuel depth : Nat) (vis : List Nat) (ref n : Nat) (vis' : List Nat),
      dirRecV g limit fuel depth vis ref = .ok (n, vis') →
      ∃ m, n = (g.entries ref).length + m ∧ Grew g id R vis m vis' := by
  intro fuel depth vis ref n vis' h
  fun_induction dirRecV g limit fuel depth vis ref generalizing n vis'
  case case1 => cases h
  case case2 fuel depth vis ref ih =>
    refine sumEntriesV_grew g id R _ g.isDir (g.entries ref) vis n vis' ?_ h
    intro vis0 c k vis1 hc hd hs
    split at hs
    · cases hs
    split at hs
    · cases hs
    · rename_i hnc
      obtain ⟨m, rfl, gr⟩ := ih _ _ _ _ hs
      exact Grew.enter (κ := Nat) (key := id) (by simpa using hnc) (hR ref c hc hd) gr

/-- the sibling loop does not run out of fuel if no sub-walk does, from any set the loop can reach (`Inv`) -/
theorem sumEntriesV_ne_fuel {σ : Type} (sub : σ → Nat → Except Err (Nat × σ)) (isDir : Nat → Bool) (Inv : σ → Prop)
    (l : List Nat) (vis : σ) (hi : Inv vis)
    (hne : ∀ vis c, c ∈ l → isDir c = true → Inv vis → sub vis c ≠ .error .fuel)
    (hpres : ∀ vis c k vis1, c ∈ l → isDir c = true → Inv vis → sub vis c = .ok (k, vis1) → Inv vis1) :
    sumEntriesV sub isDir vis l ≠ .error .fuel := by
  fun_induction sumEntriesV sub isDir vis l
  case case1 => nofun
  case case2 vis c t e h1 =>
    intro hf; cases hf
    split at h1
    · exact hne vis c List.mem_cons_self ‹_› hi h1
    · cases h1
  case case3 vis c t k vis1 h1 e h2 ih =>
    intro hf; cases hf
    have hi1 : Inv vis1 := by
      split at h1
      · exact hpres vis c k vis1 List.mem_cons_self ‹_› hi h1
      · cases h1; exact hi
    exact ih hi1 (fun vis c hc => hne vis c (List.mem_cons_of_mem _ hc))
      (fun vis c k vis1 hc => hpres vis c k vis1 (List.mem_cons_of_mem _ hc)) h2
  case case4 => nofun

/-- with the nesting limit, `fill_dir` at level `level` needs at most `limit + 2 - level` frames -/
theorem fillDirV_depth (g : DirGraph) (limit : Nat) :
    ∀ (fuel level : Nat) (anc vis : List UInt32) (ref : Nat), level ≤ limit + 1 → limit + 2 ≤ fuel + level →
      fillDirV g limit fuel level anc vis ref ≠ .error .fuel := by
  intro fuel level anc vis ref h1 h2
  fun_induction fillDirV g limit fuel level anc vis ref
  case case1 => omega
  case case2 => nofun
  case case3 => nofun
  case case4 ih =>
    refine sumEntriesV_ne_fuel _ _ (fun _ => True) _ _ trivial (fun vis0 c _ _ _ => ?_) (fun _ _ _ _ _ _ _ _ => trivial)
    split
    · nofun
    · exact ih _ _ (by omega) (by omega)

/-- with the nesting limit, the recursive iterator at stack depth `depth` needs at most `limit + 2 - depth` frames -/
theorem dirRecV_depth (g : DirGraph) (limit : Nat) :
    ∀ (fuel depth : Nat) (vis : List Nat) (ref : Nat), depth ≤ limit + 1 → limit + 2 ≤ fuel + depth →
      dirRecV g limit fuel depth vis ref ≠ .error .fuel := by
  intro fuel depth vis ref h1 h2
  fun_induction dirRecV g limit fuel depth vis ref
  case case1 => omega
  case case2 ih =>
    refine sumEntriesV_ne_fuel _ _ (fun _ => True) _ _ trivial (fun vis0 c _ _ _ => ?_) (fun _ _ _ _ _ _ _ _ => trivial)
    split
    · nofun
    split
    · nofun
    · exact ih _ _ (by omega) (by omega)

/-- independent of the nesting limit: the visited set alone bounds the depth of the recursive iterator by the
number of directory inode references -/
theorem dirRecV_ne_fuel (g : DirGraph) (limit : Nat) (R : List Nat)
    (hR : ∀ r c, c ∈ g.entries r → g.isDir c = true → c ∈ R) :
    ∀ (fuel depth : Nat) (vis : List Nat) (ref : Nat), Room R fuel vis → dirRecV g limit fuel depth vis ref ≠ .error .fuel := by
  intro fuel depth vis ref h
  fun_induction dirRecV g limit fuel depth vis ref
  case case1 => exact h.fuel_ne_zero.elim
  case case2 fuel depth vis ref ih =>
    refine sumEntriesV_ne_fuel _ _ (Room R (fuel + 1)) _ _ h ?_ ?_
    · intro vis0 c hc hd h0
      split
      · nofun
      split
      · nofun
      · rename_i hnc
        exact ih _ _ (h0.push (by simpa using hnc) (hR ref _ hc hd))
    · intro vis0 c k vis1 hc hd h0 hsub
      split at hsub
      · cases hsub
      split at hsub
      · cases hsub
      · rename_i hnc
        -- the sub-walk put distinct new members of `R` in front of `c :: vis0`
        obtain ⟨m, _, gr⟩ := dirRecV_grew g limit R hR _ _ _ _ _ _ hsub
        have r := gr.room (h0.push (fuel := fuel) (by simpa using hnc) (hR ref _ hc hd))
        exact ⟨r.nodup, r.sub, by have := r.lt; omega⟩

/-- independent of the nesting limit and of the visited set: `would_be_own_parent` alone bounds the depth of the
repaired `fill_dir` by the number of inode numbers -/
theorem fillDirV_ne_fuel (g : DirGraph) (limit : Nat) (S : List UInt32)
    (hS : ∀ r c, c ∈ g.entries r → g.isDir c = true → g.inum c ∈ S) :
    ∀ (fuel level : Nat) (anc vis : List UInt32) (ref : Nat), Room S fuel anc →
      fillDirV g limit fuel level anc vis ref ≠ .error .fuel := by
  intro fuel level anc vis ref h
  fun_induction fillDirV g limit fuel level anc vis ref
  case case1 => exact h.fuel_ne_zero.elim
  case case2 => nofun
  case case3 => nofun
  case case4 fuel level anc vis ref _ hany ih =>
    refine sumEntriesV_ne_fuel _ _ (fun _ => True) _ _ trivial (fun vis0 c hc hd _ => ?_) (fun _ _ _ _ _ _ _ _ => trivial)
    split
    · nofun
    · refine ih _ _ (h.push ?_ (hS ref c hc hd))
      intro hmem
      exact hany (List.any_eq_true.2 ⟨c, hc, by simpa using hmem⟩)

theorem readTreeV_ne_fuel {g : DirGraph} {limit fuel root : Nat}
    (h : fillDirV g limit fuel 0 [g.inum root] [g.inum root] root ≠ .error .fuel) : readTreeV g limit fuel root ≠ .error .fuel := by
  unfold readTreeV
  split
  · simp
  · rename_i e he; intro hf; cases hf; exact h he

theorem tarWalkV_ne_fuel {g : DirGraph} {limit fuel root : Nat}
    (h : dirRecV g limit fuel 1 [] root ≠ .error .fuel) : tarWalkV g limit fuel root ≠ .error .fuel := by
  unfold tarWalkV
  split
  · simp
  · rename_i e he; intro hf; cases hf; exact h he

end Sqfs.ReaderWalk
