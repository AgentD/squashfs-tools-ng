/-
For the C16 round-trip theorems (stated in `Sqfs/Props/C16.lean`): the line the printer without the line-feed test
(`Sqfs.Quote.describeNode`) prints for a node at a path of image names, kind by kind; `Decodes`, what the theorems say
of an output; and the round trip of one node, which holds exactly when nothing that is printed contains LF (`node_rt`).
-/
import Sqfs.Proofs.QuoteRound
namespace Sqfs.Quote
open Sqfs.Path (Bytes joinSlash)

theorem sane_last (comps : List Bytes) (hc : ∀ c ∈ comps, ImgName c) :
    Sqfs.Path.isFilenameSane (comps.getLast?.getD []) = true := by
  cases h : comps.getLast? with
  | none => decide
  | some c =>
    obtain ⟨_, h2, h3, h4, _⟩ := hc c (List.mem_of_getLast? h)
    exact (Sqfs.C18.sane_iff c).2 ⟨h2, h3, h4⟩

/-- the test in front of a directory's line (a nameless non-root directory prints nothing) never fires on image names -/
theorem dircond (comps : List Bytes) (hc : ∀ c ∈ comps, ImgName c) :
    (comps ≠ [] && decide (comps.getLast?.getD [] = [])) = false := by
  cases h : comps.getLast? with
  | none => simp [List.getLast?_eq_none_iff.1 h]
  | some c => simp [(hc c (List.mem_of_getLast? h)).1]

def devToks (t : UInt8) (d : Nat) : List Bytes :=
  [[t], printNat 10 (devMajor (d % 2 ^ 32) % 2 ^ 32), printNat 10 (devMinor (d % 2 ^ 32) % 2 ^ 32)]

theorem describeNode_img (ur : Option Bytes) (comps : List Bytes) (n : Node) (hc : ∀ c ∈ comps, ImgName c) :
    describeNode ur comps n =
      (match n.kind with
       | .sock => .ok (curLine (joinSlash comps) n KW_SOCK [])
       | .slink => .ok (curLine (joinSlash comps) n KW_SLINK (spTail [printEscaped n.target]))
       | .fifo => .ok (curLine (joinSlash comps) n KW_PIPE [])
       | .file =>
         match ur with
         | none => .ok (curLine (joinSlash comps) n KW_FILE [])
         | some root => .ok (curLine (joinSlash comps) n KW_FILE (spTail [printEscaped (root ++ SL :: joinSlash comps)]))
       | .chr => .ok (curLine (joinSlash comps) n KW_NOD (spTail (devToks 99 n.devno)))
       | .blk => .ok (curLine (joinSlash comps) n KW_NOD (spTail (devToks 98 n.devno)))
       | .dir => .ok (curLine (joinSlash comps) n KW_DIR [])
       | .other => .ok []) := by
  have hs := sane_last comps hc
  have hp := nodePath_img comps hc
  have hd := dircond comps hc
  cases hk : n.kind <;>
    simp only [describeNode, hs, hk, hp, hd, curLine, devToks, spTail, Bool.not_true, Bool.false_eq_true, if_false, List.append_nil,
      List.cons_append, List.nil_append, List.append_assoc]
  cases ur <;> rfl

/-- the fields of a `nod` line: safe tokens, printed as they are, read back as major and minor -/
theorem devToks_spec (t : UInt8) (ht : printEscaped [t] = [t] ∧ Safe [t]) (d : Nat) (hd : d < 2 ^ 32) :
    (devToks t d).map printEscaped = devToks t d ∧ (∀ e ∈ devToks t d, Safe e) ∧
    parseNum 10 0 0x0FFFFFFFF (printNat 10 (devMajor (d % 2 ^ 32) % 2 ^ 32)) = .ok (devMajor d) ∧
    parseNum 10 0 0x0FFFFFFFF (printNat 10 (devMinor (d % 2 ^ 32) % 2 ^ 32)) = .ok (devMinor d) := by
  have dm := printNat_digits 10 (Or.inr rfl) (devMajor (d % 2 ^ 32) % 2 ^ 32)
  have dn := printNat_digits 10 (Or.inr rfl) (devMinor (d % 2 ^ 32) % 2 ^ 32)
  refine ⟨?_, ?_, ?_, ?_⟩
  · simp only [devToks, List.map_cons, List.map_nil, ht.1, printEscaped_digits (printNat_ne 10 (Or.inr rfl) _) dm,
      printEscaped_digits (printNat_ne 10 (Or.inr rfl) _) dn]
  · intro e he
    simp only [devToks, List.mem_cons, List.mem_nil_iff, or_false] at he
    rcases he with rfl | rfl | rfl
    · exact ht.2
    · exact safe_digits dm
    · exact safe_digits dn
  · rw [Nat.mod_eq_of_lt hd, Nat.mod_eq_of_lt (devMajor_lt d)]
    exact parseNum_printNat_u32 (devMajor_lt d)
  · rw [Nat.mod_eq_of_lt hd, Nat.mod_eq_of_lt (devMinor_lt d)]
    exact parseNum_printNat_u32 (devMinor_lt d)

theorem fstreeFromFile_nil : fstreeFromFile {} [] = ([], none) := by decide

/-- the output `out` decodes, without error, to the entries `es`, whatever follows it -/
def Decodes (out : Bytes) (es : List Entry) : Prop :=
  ∀ rest, fstreeFromFile {} (out ++ rest) = (es ++ (fstreeFromFile {} rest).1, (fstreeFromFile {} rest).2)

theorem Decodes.nil : Decodes [] [] := fun rest => by simp

theorem Decodes.append {a b : Bytes} {x y : List Entry} (h1 : Decodes a x) (h2 : Decodes b y) :
    Decodes (a ++ b) (x ++ y) := by
  intro rest
  rw [List.append_assoc, h1 (b ++ rest), h2 rest]
  simp

theorem Decodes.whole {out : Bytes} {es : List Entry} (h : Decodes out es) : fstreeFromFile {} out = (es, none) := by
  simpa [fstreeFromFile_nil] using h []

theorem Decodes.one {line : Bytes} {e : Entry}
    (h : ∀ rest, fstreeFromFile {} (line ++ rest) = (e :: (fstreeFromFile {} rest).1, (fstreeFromFile {} rest).2)) :
    Decodes line (some e).toList := fun rest => by rw [h rest]; rfl

/-- what the line-feed test of a node looks at: the path of every kind that prints, the target of a symlink, the
root in front of a file's location -/
def HasLF (ur : Option Bytes) (comps : List Bytes) (n : Node) : Prop :=
  n.kind ≠ .other ∧ (LF ∈ joinSlash comps ∨ (n.kind = .slink ∧ LF ∈ n.target) ∨ (n.kind = .file ∧ ∃ r, ur = some r ∧ LF ∈ r))

theorem HasLF.path {ur : Option Bytes} {comps : List Bytes} {n : Node} (hk : n.kind ≠ .other) (h : LF ∈ joinSlash comps) :
    HasLF ur comps n := ⟨hk, .inl h⟩
theorem HasLF.target {ur : Option Bytes} {comps : List Bytes} {n : Node} (hk : n.kind = .slink) (h : LF ∈ n.target) :
    HasLF ur comps n := ⟨by rw [hk]; decide, .inr (.inl ⟨hk, h⟩)⟩
theorem HasLF.root {ur : Option Bytes} {comps : List Bytes} {n : Node} {r : Bytes} (hk : n.kind = .file) (hu : ur = some r) (h : LF ∈ r) :
    HasLF ur comps n := ⟨by rw [hk]; decide, .inr (.inr ⟨hk, r, hu, h⟩)⟩

/-- **the node round trip under the exact condition**: image names on the path, C-string fields in range, and nothing
that is printed contains LF -/
theorem node_rt (ur : Option Bytes) (hur : ∀ r, ur = some r → NUL ∉ r) (comps : List Bytes) (n : Node)
    (hc : ∀ c ∈ comps, ImgName c) (hn : n.WfN) (hroot : comps = [] → n.kind = .dir) (hl : ¬ HasLF ur comps n) :
    ∃ line, describeNode ur comps n = .ok line ∧ Decodes line (specEntry ur comps n).toList := by
  have hnr : n.kind ≠ .dir → comps ≠ [] ∨ false = true := fun h1 => .inl fun h2 => h1 (hroot h2)
  have none_extra : (false = true → ([] : List Bytes) ≠ []) := fun h => nomatch h
  rw [describeNode_img ur comps n hc]
  by_cases hko : n.kind = .other
  · simp only [hko, specEntry]; exact ⟨_, rfl, Decodes.nil⟩
  have hlp : LF ∉ joinSlash comps := fun m => hl (.path hko m)
  have hP : Safe (joinSlash comps) := safe_of_lineSafe ⟨nul_joinSlash comps hc, hlp⟩
  have line {kwd : Bytes} {h : Hook} (hw : Keyword kwd h) := describe_line hw comps hc hlp n hn
  cases hk : n.kind <;> simp only [specEntry, hk]
  case other => exact absurd hk hko
  case dir => exact ⟨_, rfl, .one (line kw_dir [] nofun (.inr rfl) none_extra rfl)⟩
  case fifo => exact ⟨_, rfl, .one (line kw_pipe [] nofun (hnr (by simp [hk])) none_extra rfl)⟩
  case sock => exact ⟨_, rfl, .one (line kw_sock [] nofun (hnr (by simp [hk])) none_extra rfl)⟩
  case slink =>
    have ht : Safe n.target := safe_of_lineSafe ⟨hn.target hk, fun m => hl (.target hk m)⟩
    exact ⟨_, rfl, .one (line kw_slink [n.target] (List.forall_mem_singleton.2 ht) (hnr (by simp [hk])) (fun _ => by simp) rfl)⟩
  case file =>
    cases hu : ur with
    | none => exact ⟨_, rfl, .one (line kw_file [] nofun (hnr (by simp [hk])) none_extra rfl)⟩
    | some r =>
      have hr : Safe r := safe_of_lineSafe ⟨hur r hu, fun m => hl (.root hk hu m)⟩
      exact ⟨_, rfl, .one (line kw_file [_] (List.forall_mem_singleton.2
        (Safe.append hr (Safe.cons (c := SL) (by decide) (by decide) hP))) (hnr (by simp [hk])) (fun h => nomatch h) rfl)⟩
  case chr =>
    obtain ⟨d1, d2, d4, d5⟩ := devToks_spec 99 (by unfold Safe; decide) n.devno hn.devno
    refine ⟨_, rfl, .one fun rest => ?_⟩
    rw [← d1, line kw_nod _ d2 (hnr (by simp [hk])) (fun _ => by simp [devToks]) rfl rest]
    simp only [devToks, addDevice, d4, d5, addGeneric, makedev_major_minor n.devno hn.devno]
    simp [ifmtOf]
  case blk =>
    obtain ⟨d1, d2, d4, d5⟩ := devToks_spec 98 (by unfold Safe; decide) n.devno hn.devno
    refine ⟨_, rfl, .one fun rest => ?_⟩
    rw [← d1, line kw_nod _ d2 (hnr (by simp [hk])) (fun _ => by simp [devToks]) rfl rest]
    simp only [devToks, addDevice, d4, d5, addGeneric, makedev_major_minor n.devno hn.devno]
    simp [ifmtOf]

theorem not_hasLF (ur : Option Bytes) (comps : List Bytes) (n : Node) (hc : ∀ c ∈ comps, GoodName c)
    (ht : n.kind = .slink → LF ∉ n.target) (hur : n.kind = .file → ∀ r, ur = some r → LF ∉ r) : ¬ HasLF ur comps n := by
  rintro ⟨_, h | ⟨hk, h⟩ | ⟨hk, r, hr, h⟩⟩
  · exact (safe_joinSlash comps hc).lf h
  · exact ht hk h
  · exact hur hk r hr h

end Sqfs.Quote
