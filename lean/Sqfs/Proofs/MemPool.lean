import Sqfs.Model.MemPool
import Sqfs.Proofs.ListFacts
/-! Lemmas for `Sqfs/Props/MemPool.lean`: bit-level reading of the bitmap scans and updates, padding and `size_t` arithmetic, the
invariant `Inv`, `takeSlot` / `walk` / `locate` / `free` in a consistent pool. -/
namespace Sqfs.MemPool

theorem scanBits_some {w : Word} {n j k : Nat} (h : scanBits w n j = some k) : j ≤ k ∧ k < j + n ∧ w.getLsbD k = false := by
  fun_induction scanBits w n j with
  | case1 => cases h
  | case2 n j hj => cases h; exact ⟨Nat.le_refl _, Nat.lt_add_of_pos_right (Nat.succ_pos n), hj⟩
  | case3 n j _ ih => exact ⟨Nat.le_of_succ_le (ih h).1, Nat.succ_add_eq_add_succ j n ▸ (ih h).2.1, (ih h).2.2⟩

theorem scanBits_none {w : Word} {n j : Nat} (h : scanBits w n j = none) (k : Nat) (h1 : j ≤ k) (h2 : k < j + n) :
    w.getLsbD k = true := by
  fun_induction scanBits w n j with
  | case1 => exact absurd h2 (Nat.not_lt.mpr h1)
  | case2 => cases h
  | case3 n j hj ih =>
    rcases Nat.eq_or_lt_of_le h1 with rfl | hlt
    · simpa using hj
    · exact ih h hlt (Nat.succ_add_eq_add_succ j n ▸ h2)

/-- a word below `UINT_MAX` has a clear bit, and the bit scan finds one -/
theorem scanBits_of_lt (w : Word) (h : w.toNat < UINT_MAX) : ∃ j, scanBits w 32 0 = some j := by
  cases hs : scanBits w 32 0 with
  | some j => exact ⟨j, rfl⟩
  | none =>
    exfalso
    have hall := scanBits_none hs
    have : w = BitVec.allOnes 32 := by
      apply BitVec.eq_of_getLsbD_eq
      intro i hi
      show w.getLsbD i = (BitVec.allOnes 32).getLsbD i
      rw [hall i (Nat.zero_le _) (Nat.zero_add 32 ▸ hi), BitVec.getLsbD_allOnes]
      simp [hi]
    subst this
    simp [UINT_MAX] at h

theorem scanWords_eq (bm : List Word) : scanWords bm = bm.findIdx? (fun w => w.toNat < UINT_MAX) := by
  induction bm with
  | nil => rfl
  | cons w ws ih => simp only [scanWords, List.findIdx?_cons, ih, decide_eq_true_eq]

theorem scanWords_some {bm : List Word} {i : Nat} (h : scanWords bm = some i) : i < bm.length ∧ (bm.getD i 0).toNat < UINT_MAX := by
  rw [scanWords_eq, List.findIdx?_eq_some_iff_getElem] at h
  obtain ⟨hi, hp, _⟩ := h
  rw [List.getD_eq_getElem?_getD, List.getElem?_eq_getElem hi]
  exact ⟨hi, of_decide_eq_true hp⟩

theorem scanWords_none {bm : List Word} (h : scanWords bm = none) (i : Nat) (hi : i < bm.length) : bm.getD i 0 = BitVec.allOnes 32 := by
  rw [scanWords_eq, List.findIdx?_eq_none_iff] at h
  rw [List.getD_eq_getElem?_getD, List.getElem?_eq_getElem hi, Option.getD_some]
  exact BitVec.eq_of_toNat_eq
    (Nat.le_antisymm (Nat.le_of_lt_succ bm[i].isLt) (Nat.not_lt.mp (of_decide_eq_false (h _ (List.getElem_mem hi)))))

theorem bitAt_set {bm : List Word} {i : Nat} (hi : i < bm.length) (w : Word) (k : Nat) :
    bitAt (bm.set i w) k = if k / 32 = i then w.getLsbD (k % 32) else bitAt bm k := by
  unfold bitAt
  rw [List.getD_eq_getElem?_getD, List.getD_eq_getElem?_getD]
  by_cases hk : k / 32 = i
  · rw [if_pos hk, hk, List.getElem?_set_self hi]; rfl
  · rw [if_neg hk, List.getElem?_set_ne (fun h => hk h.symm)]

theorem eq_bit_iff {i j k : Nat} (hj : j < 32) : k = 32 * i + j ↔ k / 32 = i ∧ k % 32 = j := by
  constructor
  · rintro rfl
    rw [Nat.mul_add_div (by decide), Nat.mul_add_mod, Nat.div_eq_of_lt hj, Nat.mod_eq_of_lt hj]
    exact ⟨rfl, rfl⟩
  · rintro ⟨rfl, rfl⟩
    exact (Nat.div_add_mod k 32).symm

theorem bit_lt {i j n : Nat} (hi : i < n) (hj : j < 32) : 32 * i + j < 32 * n :=
  Nat.lt_of_lt_of_le (Nat.add_lt_add_left hj _) (Nat.mul_le_mul_left 32 hi)

theorem bitAt_set_bit {bm : List Word} {i j : Nat} (hi : i < bm.length) (hj : j < 32) {w : Word} {v : Bool}
    (hw : ∀ m, m < 32 → w.getLsbD m = if m = j then v else (bm.getD i 0).getLsbD m) (k : Nat) :
    bitAt (bm.set i w) k = if k = 32 * i + j then v else bitAt bm k := by
  simp only [bitAt_set hi, eq_bit_iff hj]
  by_cases hk : k / 32 = i
  · subst hk
    rw [if_pos rfl, hw _ (Nat.mod_lt _ (by decide))]
    simp only [true_and]; rfl
  · rw [if_neg hk, if_neg (fun h => hk h.1)]

theorem bitAt_setBit {bm : List Word} {i j : Nat} (hi : i < bm.length) (hj : j < 32) (k : Nat) :
    bitAt (setBit bm i j) k = if k = 32 * i + j then true else bitAt bm k :=
  bitAt_set_bit hi hj (fun m _ => by rw [BitVec.getLsbD_or, BitVec.getLsbD_twoPow]; by_cases h : m = j <;> simp [h, hj, Ne.symm]) k

theorem bitAt_clearBit {bm : List Word} {i j : Nat} (hi : i < bm.length) (hj : j < 32) (k : Nat) :
    bitAt (clearBit bm i j) k = if k = 32 * i + j then false else bitAt bm k :=
  bitAt_set_bit hi hj (fun m hm => by
    rw [BitVec.getLsbD_and, BitVec.getLsbD_not, BitVec.getLsbD_twoPow]; by_cases h : m = j <;> simp [h, hj, hm, Ne.symm]) k

theorem countP_range_update (f g : Nat → Bool) (k0 n : Nat) (h : k0 < n) (hf : f k0 = true) (hg : g k0 = false)
    (hne : ∀ k, k ≠ k0 → g k = f k) : (List.range n).countP f = (List.range n).countP g + 1 := by
  induction n with
  | zero => exact absurd h (Nat.not_lt_zero _)
  | succ n ih =>
    rw [List.range_succ, List.countP_append, List.countP_append, List.countP_singleton, List.countP_singleton]
    rcases Nat.eq_or_lt_of_le (Nat.le_of_lt_succ h) with rfl | hlt
    · rw [hf, hg, List.countP_congr (q := g) fun x hx => by rw [hne x (Nat.ne_of_lt (List.mem_range.mp hx))]]
      rfl
    · rw [ih hlt, hne n (Nat.ne_of_gt hlt), Nat.add_right_comm]

theorem setBit_length (bm : List Word) (i j : Nat) : (setBit bm i j).length = bm.length := by simp [setBit]
theorem clearBit_length (bm : List Word) (i j : Nat) : (clearBit bm i j).length = bm.length := by simp [clearBit]

theorem clearBits_setBit {bm : List Word} {i j : Nat} (hi : i < bm.length) (hj : j < 32) (hclr : bitAt bm (32 * i + j) = false) :
    clearBits bm = clearBits (setBit bm i j) + 1 := by
  unfold clearBits
  rw [setBit_length]
  apply countP_range_update _ _ (32 * i + j) _ (bit_lt hi hj)
  · simp [hclr]
  · simp [bitAt_setBit hi hj]
  · intro k hk; simp [bitAt_setBit hi hj, hk]

theorem clearBits_clearBit {bm : List Word} {i j : Nat} (hi : i < bm.length) (hj : j < 32) (hset : bitAt bm (32 * i + j) = true) :
    clearBits (clearBit bm i j) = clearBits bm + 1 := by
  unfold clearBits
  rw [clearBit_length]
  apply countP_range_update _ _ (32 * i + j) _ (bit_lt hi hj)
  · simp [bitAt_clearBit hi hj]
  · simp [hset]
  · intro k hk; simp [bitAt_clearBit hi hj, hk]

theorem clearBits_le (bm : List Word) : clearBits bm ≤ 32 * bm.length := by
  unfold clearBits
  have := List.countP_le_length (p := fun k => !bitAt bm k) (l := List.range (32 * bm.length))
  simpa using this

theorem scanWords_of_clear {bm : List Word} (h : 0 < clearBits bm) : ∃ i, scanWords bm = some i := by
  cases hs : scanWords bm with
  | some i => exact ⟨i, rfl⟩
  | none =>
    exfalso
    obtain ⟨k, hk, hf⟩ := List.countP_pos_iff.mp h
    have := scanWords_none hs (k / 32) (Nat.div_lt_of_lt_mul (List.mem_range.mp hk))
    have h32 : k % 32 < 32 := Nat.mod_lt _ (by decide)
    unfold bitAt at hf
    rw [this, BitVec.getLsbD_allOnes] at hf
    simp [h32] at hf

theorem bitAt_replicate_zero (n k : Nat) : bitAt (List.replicate n (0 : Word)) k = false := by
  simp only [bitAt, List.getD_eq_getElem?_getD]
  cases h : (List.replicate n (0 : Word))[k / 32]? with
  | none => simp
  | some w => simp [(List.mem_replicate.mp (List.mem_of_getElem? h)).2]

theorem clearBits_replicate (n : Nat) : clearBits (List.replicate n (0 : Word)) = 32 * n := by
  unfold clearBits
  rw [List.countP_eq_length.mpr (fun k _ => by simp only [bitAt_replicate_zero, Bool.not_false])]
  simp

/-- padding that brings `x` to the next multiple of `o` (mempool.c:56-57 and create_pool) -/
def padTo (x o : Nat) : Nat := if x % o ≠ 0 then o - x % o else 0

theorem padTo_lt (x : Nat) {o : Nat} (ho : 0 < o) : padTo x o < o := by
  unfold padTo
  split
  · exact Nat.sub_lt ho (Nat.pos_of_ne_zero ‹_›)
  · exact ho

theorem add_padTo_mod (x : Nat) {o : Nat} (ho : 0 < o) : (x + padTo x o) % o = 0 := by
  unfold padTo
  split
  · rw [Nat.add_mod, Nat.mod_eq_of_lt (Nat.sub_lt ho (Nat.pos_of_ne_zero ‹_›)), Nat.add_sub_cancel' (Nat.le_of_lt (Nat.mod_lt x ho)),
      Nat.mod_self]
  · rename_i h; simpa using h

/-- the C idiom `if (x % o) x += o - x % o` adds the padding -/
theorem padTo_eq (x : Nat) {o : Nat} (ho : 0 < o) : (if x % o ≠ 0 then x + o - x % o else x) = x + padTo x o := by
  unfold padTo
  split
  · exact Nat.add_sub_assoc (Nat.le_of_lt (Nat.mod_lt x ho)) x
  · rfl

theorem w64_small {x : Nat} (h : x < 18446744073709551616) : w64 x = x := Nat.mod_eq_of_lt h

/-- `--x` on a `size_t` that is not 0 -/
theorem w64_pred {x : Nat} (h0 : 0 < x) (h : x < 18446744073709551616) : w64 (x + 18446744073709551615) = x - 1 := by
  obtain ⟨y, rfl⟩ : ∃ y, x = y + 1 := ⟨x - 1, (Nat.sub_add_cancel h0).symm⟩
  show (y + 1 + 18446744073709551615) % 18446744073709551616 = y
  rw [Nat.add_assoc, Nat.add_mod_right, Nat.mod_eq_of_lt (Nat.lt_of_succ_lt h)]

/-- `padTo_eq` in `size_t` arithmetic, when the padded value fits -/
theorem w64_pad (x : Nat) {o : Nat} (ho : 0 < o) (h : x + o ≤ 18446744073709551616) :
    (if x % o ≠ 0 then w64 (x + (o - x % o)) else x) = x + padTo x o := by
  unfold padTo
  split
  · exact w64_small (Nat.lt_of_lt_of_le (Nat.add_lt_add_left (Nat.sub_lt ho (Nat.pos_of_ne_zero ‹_›)) x) h)
  · rfl

/-- `alignUp` rounds up to the next multiple of `MEM_ALIGN` when that does not wrap -/
theorem alignUp_spec {n : Nat} (hn : n + 8 ≤ 18446744073709551616) : alignUp n % 8 = 0 ∧ n ≤ alignUp n ∧ alignUp n < n + 8 := by
  have hal : alignUp n = n + padTo n 8 := w64_pad n (by decide) hn
  rw [hal]
  exact ⟨add_padTo_mod n (by decide), Nat.le_add_right _ _, Nat.add_lt_add_left (padTo_lt n (by decide)) n⟩

structure BlockWf (p : Pool) (b : Block) : Prop where
  len : b.bitmap.length = p.bitmapCount
  free : b.objFree = clearBits b.bitmap
  lim : b.limitOff + 1 = b.dataOff + 32 * p.bitmapCount * p.objSize
  hdr : HDR + 4 * p.bitmapCount ≤ b.dataOff
  align : b.dataOff % p.objSize = 0
  doff : b.dataOff = HDR + 4 * p.bitmapCount + padTo (HDR + 4 * p.bitmapCount) p.objSize

/-- `a` is the address of a slot whose bitmap bit is set -/
def liveIn (p : Pool) (a : Nat × Nat) : Prop :=
  ∃ b ∈ p.blocks, ∃ k, k < 32 * p.bitmapCount ∧ bitAt b.bitmap k = true ∧ a = slotAddr p.objSize b k

/-- consistency of a pool with the objects handed out and not yet returned (`live`, in the order of allocation, newest first) -/
structure Inv (p : Pool) (e : Env) (live : List (Nat × Nat)) : Prop where
  osz : 0 < p.objSize
  cnt : p.bitmapCount ≤ 16384
  wf : ∀ b ∈ p.blocks, BlockWf p b
  ids : (p.blocks.map (·.id)).Pairwise (· ≠ ·)
  fresh : ∀ b ∈ p.blocks, b.id < e.nextId
  live_iff : ∀ a, a ∈ live ↔ liveIn p a
  nodup : live.Nodup

theorem ids_cons {b : Block} {bs : List Block} :
    ((b :: bs).map (·.id)).Pairwise (· ≠ ·) ↔ (∀ x ∈ bs, b.id ≠ x.id) ∧ (bs.map (·.id)).Pairwise (· ≠ ·) := by
  simp only [List.map_cons, List.pairwise_cons, List.mem_map, forall_exists_index, and_imp, forall_apply_eq_imp_iff₂]

theorem slot_step {o k k' : Nat} (d : Nat) (h : k < k') : d + k * o + o ≤ d + k' * o := by
  rw [Nat.add_assoc, ← Nat.succ_mul]
  exact Nat.add_le_add_left (Nat.mul_le_mul_right o h) d

theorem liveIn_slot {p : Pool} (ids : (p.blocks.map (·.id)).Pairwise (· ≠ ·)) (ho : 0 < p.objSize) {b : Block} (hb : b ∈ p.blocks)
    {k : Nat} (h : liveIn p (slotAddr p.objSize b k)) : bitAt b.bitmap k = true := by
  obtain ⟨b0, hb0, k0, _, hbit, heq⟩ := h
  simp only [slotAddr, Prod.mk.injEq] at heq
  cases List.inj_of_nodup_map ids hb hb0 heq.1
  cases Nat.eq_of_mul_eq_mul_right ho (Nat.add_left_cancel heq.2)
  exact hbit

theorem mem_replace {α : Type} {pre post : List α} {b x : α} (b' : α) (h : x ∈ pre ++ b :: post) (hne : x ≠ b) :
    x ∈ pre ++ b' :: post := by
  rw [List.mem_append, List.mem_cons] at h ⊢
  exact h.imp_right fun h => h.elim (absurd · hne) Or.inr

/-- The two pools share only `objSize` and `bitmapCount`, so the statement serves setting a bit and, read from `p'` to
`p`, clearing one; no uniqueness of block ids is needed. -/
theorem liveIn_set {p p' : Pool} {pre post : List Block} {b b' : Block} {k : Nat}
    (ho : p'.objSize = p.objSize) (hc : p'.bitmapCount = p.bitmapCount)
    (hb : p.blocks = pre ++ b :: post) (hb' : p'.blocks = pre ++ b' :: post)
    (hid : b'.id = b.id) (hd : b'.dataOff = b.dataOff) (hk : k < 32 * p.bitmapCount)
    (hbits : ∀ k', bitAt b'.bitmap k' = if k' = k then true else bitAt b.bitmap k') (x : Nat × Nat) :
    liveIn p' x ↔ x = slotAddr p.objSize b k ∨ liveIn p x := by
  have hsl : ∀ k', slotAddr p.objSize b' k' = slotAddr p.objSize b k' := fun k' => by simp only [slotAddr, hid, hd]
  have hbm : b ∈ p.blocks := hb ▸ List.mem_append_right _ List.mem_cons_self
  have hbm' : b' ∈ p'.blocks := hb' ▸ List.mem_append_right _ List.mem_cons_self
  unfold liveIn
  rw [ho, hc]
  constructor
  · rintro ⟨b0, hb0, k0, hk0, hbit, rfl⟩
    by_cases he : b0 = b'
    · subst he
      rw [hsl]
      rw [hbits] at hbit
      by_cases hkk : k0 = k
      · exact Or.inl (hkk ▸ rfl)
      · exact Or.inr ⟨b, hbm, k0, hk0, (if_neg hkk).symm.trans hbit, rfl⟩
    · exact Or.inr ⟨b0, hb ▸ mem_replace b (hb' ▸ hb0) he, k0, hk0, hbit, rfl⟩
  · rintro (rfl | ⟨b0, hb0, k0, hk0, hbit, rfl⟩)
    · exact ⟨b', hbm', k, hk, by rw [hbits, if_pos rfl], (hsl k).symm⟩
    · by_cases he : b0 = b
      · subst he
        exact ⟨b', hbm', k0, hk0, by rw [hbits, hbit, ite_self], (hsl k0).symm⟩
      · exact ⟨b0, hb' ▸ mem_replace b' (hb ▸ hb0) he, k0, hk0, hbit, rfl⟩

theorem liveIn_clear {p : Pool} {pre post : List Block} {b b' : Block} {k : Nat} (ho : 0 < p.objSize)
    (ids : (p.blocks.map (·.id)).Pairwise (· ≠ ·)) (hb : p.blocks = pre ++ b :: post)
    (hid : b'.id = b.id) (hd : b'.dataOff = b.dataOff) (hk : k < 32 * p.bitmapCount)
    (hbits : ∀ k', bitAt b'.bitmap k' = if k' = k then false else bitAt b.bitmap k') (hold : bitAt b.bitmap k = true) (x : Nat × Nat) :
    liveIn { p with blocks := pre ++ b' :: post } x ↔ x ≠ slotAddr p.objSize b k ∧ liveIn p x := by
  -- `b` is `b'` with the bit set, and afterwards slot `k` is not live
  have hset := liveIn_set (p := { p with blocks := pre ++ b' :: post }) (p' := p) rfl rfl rfl hb hid.symm hd.symm hk
    (fun k' => by rw [hbits]; split <;> simp [*]) x
  have hsl : slotAddr p.objSize b' k = slotAddr p.objSize b k := by simp only [slotAddr, hid, hd]
  have hnot : ¬ liveIn { p with blocks := pre ++ b' :: post } (slotAddr p.objSize b k) := fun hl => by
    have := liveIn_slot (p := { p with blocks := pre ++ b' :: post }) (by simpa [hb, hid] using ids) ho
      (List.mem_append_right _ List.mem_cons_self) (hsl ▸ hl)
    rw [hbits, if_pos rfl] at this
    cases this
  rw [hset, hsl]
  constructor
  · exact fun hl => ⟨fun e => hnot (e ▸ hl), Or.inr hl⟩
  · rintro ⟨hne, h | h⟩
    · exact absurd h hne
    · exact h

theorem Inv.replace {p : Pool} {e : Env} {live live' : List (Nat × Nat)} {pre post : List Block} {b b' : Block}
    (h : Inv p e live) (hb : p.blocks = pre ++ b :: post) (hid : b'.id = b.id) (hwf : BlockWf p b')
    (hl : ∀ a, a ∈ live' ↔ liveIn { p with blocks := pre ++ b' :: post } a) (hn : live'.Nodup) :
    Inv { p with blocks := pre ++ b' :: post } e live' := by
  have hmem : ∀ x ∈ pre ++ b' :: post, x = b' ∨ x ∈ p.blocks := fun x hx =>
    (Classical.em (x = b')).imp_right fun hne => hb ▸ mem_replace b hx hne
  refine ⟨h.osz, h.cnt, ?_, ?_, ?_, hl, hn⟩
  · intro x hx
    have w : BlockWf p x := (hmem x hx).elim (· ▸ hwf) (h.wf x)
    exact ⟨w.len, w.free, w.lim, w.hdr, w.align, w.doff⟩
  · show ((pre ++ b' :: post).map (·.id)).Pairwise (· ≠ ·)
    simpa [hb, hid] using h.ids
  · intro x hx
    rcases hmem x hx with rfl | hx
    · rw [hid]; exact h.fresh b (hb ▸ List.mem_append_right _ List.mem_cons_self)
    · exact h.fresh x hx

theorem Inv.env {p : Pool} {e e' : Env} {live : List (Nat × Nat)} (h : Inv p e live) (hn : e'.nextId = e.nextId) : Inv p e' live :=
  ⟨h.osz, h.cnt, h.wf, h.ids, fun b hb => hn ▸ h.fresh b hb, h.live_iff, h.nodup⟩

theorem BlockWf.free_le {p : Pool} {b : Block} (hwf : BlockWf p b) : b.objFree ≤ 32 * p.bitmapCount := by
  rw [hwf.free, ← hwf.len]; exact clearBits_le _

/-- block `b'` is block `b` with the clear bit of slot `k` set -/
structure Taken (p : Pool) (b b' : Block) (k : Nat) : Prop where
  lt : k < 32 * p.bitmapCount
  clr : bitAt b.bitmap k = false
  id : b'.id = b.id
  dataOff : b'.dataOff = b.dataOff
  wf : BlockWf p b'
  bits : ∀ k', bitAt b'.bitmap k' = if k' = k then true else bitAt b.bitmap k'

/-- the slot taken lies in the data area of the block, aligned -/
theorem Taken.slot {p : Pool} {b b' : Block} {k : Nat} (t : Taken p b b' k) :
    b'.id = b.id ∧ b'.dataOff ≤ b.dataOff + k * p.objSize ∧ b.dataOff + k * p.objSize + p.objSize ≤ b'.limitOff + 1 ∧
    (b.dataOff + k * p.objSize - b'.dataOff) % p.objSize = 0 ∧
    HDR + 4 * p.bitmapCount ≤ b.dataOff + k * p.objSize ∧ (b.dataOff + k * p.objSize) % p.objSize = 0 := by
  rw [← t.dataOff]
  refine ⟨t.id, Nat.le_add_right _ _, t.wf.lim ▸ slot_step _ t.lt, ?_, Nat.le_trans t.wf.hdr (Nat.le_add_right _ _), ?_⟩
  · rw [Nat.add_sub_cancel_left]; exact Nat.mul_mod_left _ _
  · rw [Nat.add_mul_mod_self_right]; exact t.wf.align

theorem takeSlot_spec {p : Pool} {b : Block} (hwf : BlockWf p b) (hpos : 0 < b.objFree) (hc : p.bitmapCount ≤ 16384) :
    ∃ k b', takeSlot p.objSize b = some (b.dataOff + k * p.objSize, b') ∧ Taken p b b' k := by
  obtain ⟨i, hi⟩ := scanWords_of_clear (bm := b.bitmap) (hwf.free ▸ hpos)
  obtain ⟨hil, hiw⟩ := scanWords_some hi
  obtain ⟨j, hj⟩ := scanBits_of_lt _ hiw
  obtain ⟨_, hj32, hjclr⟩ := scanBits_some hj
  rw [Nat.zero_add] at hj32
  have hkbit : bitAt b.bitmap (32 * i + j) = false := by
    unfold bitAt
    rw [((eq_bit_iff hj32).mp rfl).1, ((eq_bit_iff hj32).mp rfl).2]
    exact hjclr
  refine ⟨i * 32 + j, { b with bitmap := setBit b.bitmap i j, objFree := w64 (b.objFree + 18446744073709551615) }, ?_, ?_⟩
  · unfold takeSlot; rw [hi]; dsimp only; rw [hj]
  · rw [Nat.mul_comm i 32]
    refine ⟨?_, hkbit, rfl, rfl, ⟨(setBit_length ..).trans hwf.len, ?_, hwf.lim, hwf.hdr, hwf.align, hwf.doff⟩,
      bitAt_setBit hil hj32⟩
    · exact hwf.len ▸ bit_lt hil hj32
    · show w64 (b.objFree + 18446744073709551615) = clearBits (setBit b.bitmap i j)
      rw [w64_pred hpos (Nat.lt_of_le_of_lt (Nat.le_trans hwf.free_le (Nat.mul_le_mul_left 32 hc)) (by decide)), hwf.free, clearBits_setBit hil hj32 hkbit]
      rfl

/-- what `walk` does in a consistent pool: never `stale`; `none` only when every block is full -/
theorem walk_spec {p : Pool} (hc : p.bitmapCount ≤ 16384) (bs : List Block) (h : ∀ b ∈ bs, BlockWf p b) :
    match walk p.objSize bs with
    | .none => ∀ b ∈ bs, b.objFree = 0
    | .stale _ => False
    | .got bid off bs' => ∃ pre b post b' k, bs = pre ++ b :: post ∧ bs' = pre ++ b' :: post ∧ bid = b.id ∧
        off = b.dataOff + k * p.objSize ∧ Taken p b b' k := by
  induction bs with
  | nil => exact fun _ => nofun
  | cons b bs ih =>
    have ih := ih fun x hx => h x (List.mem_cons_of_mem _ hx)
    unfold walk
    by_cases hpos : b.objFree > 0
    · obtain ⟨k, b', ht, hk⟩ := takeSlot_spec (h b List.mem_cons_self) hpos hc
      rw [if_pos hpos, ht]
      exact ⟨[], b, bs, b', k, rfl, rfl, rfl, rfl, hk⟩
    · rw [if_neg hpos]
      revert ih
      cases walk p.objSize bs with
      | none => exact fun ih => List.forall_mem_cons.mpr ⟨Nat.eq_zero_of_not_pos hpos, ih⟩
      | stale bs' => exact id
      | got bid off bs' =>
        rintro ⟨pre, b0, post, b', k, rfl, rfl, rest⟩
        exact ⟨b :: pre, b0, post, b', k, rfl, rfl, rest⟩

theorem locate_some {bid off : Nat} {bs pre : List Block} {b : Block} {post : List Block} (h : locate bid off bs = some (pre, b, post)) :
    bs = pre ++ b :: post ∧ b.id = bid ∧ b.dataOff ≤ off ∧ off < b.limitOff := by
  fun_induction locate bid off bs generalizing pre with
  | case1 => cases h
  | case2 x xs hc => cases h; exact ⟨rfl, hc⟩
  | case3 x xs hc pre' b' post' hl ih => cases h; exact ⟨congrArg (x :: ·) (ih hl).1, (ih hl).2⟩
  | case4 x xs hc hl ih => cases h

theorem locate_none {bid off : Nat} {bs : List Block} :
    locate bid off bs = none ↔ ∀ b ∈ bs, ¬ (b.id = bid ∧ b.dataOff ≤ off ∧ off < b.limitOff) := by
  fun_induction locate bid off bs with
  | case1 => exact ⟨fun _ _ => nofun, fun _ => rfl⟩
  | case2 x xs hc => exact ⟨nofun, fun h => absurd hc (h x List.mem_cons_self)⟩
  | case3 x xs hc pre' b' post' hl ih =>
    exact ⟨nofun, fun h => nomatch hl.symm.trans (ih.mpr fun b hb => h b (List.mem_cons_of_mem _ hb))⟩
  | case4 x xs hc hl ih => exact ⟨fun _ => List.forall_mem_cons.mpr ⟨hc, ih.mp hl⟩, fun _ => rfl⟩

/-- with distinct block ids the loop stops at the very block whose `[data, limit)` holds the pointer -/
theorem locate_of_mem {off : Nat} {bs : List Block} (ids : (bs.map (·.id)).Pairwise (· ≠ ·)) {b : Block} (hb : b ∈ bs)
    (h1 : b.dataOff ≤ off) (h2 : off < b.limitOff) : ∃ pre post, locate b.id off bs = some (pre, b, post) ∧ bs = pre ++ b :: post := by
  cases hl : locate b.id off bs with
  | none => exact absurd ⟨rfl, h1, h2⟩ (locate_none.mp hl b hb)
  | some r =>
    obtain ⟨pre, x, post⟩ := r
    obtain ⟨hdec, hid, _⟩ := locate_some hl
    cases List.inj_of_nodup_map ids (hdec ▸ List.mem_append_right _ List.mem_cons_self) hb hid
    exact ⟨pre, post, rfl, hdec⟩

/-- `mem_pool_free` of slot `k` of block `b` whose bit is set, in a pool with distinct block ids: the loop finds `b`, no
assertion fails, and `b` is left with that bit cleared and `obj_free` one up (the counterpart of `walk_spec` and `Taken`) -/
theorem free_spec {p : Pool} (h2 : 2 ≤ p.objSize) (hc : p.bitmapCount ≤ 16384) (ids : (p.blocks.map (·.id)).Pairwise (· ≠ ·))
    {b : Block} (hb : b ∈ p.blocks) (hwf : BlockWf p b) {k : Nat} (hk : k < 32 * p.bitmapCount) (hbit : bitAt b.bitmap k = true) :
    ∃ pre post b', p.blocks = pre ++ b :: post ∧ free p b.id (b.dataOff + k * p.objSize) = .ok { p with blocks := pre ++ b' :: post } ∧
      b'.id = b.id ∧ b'.dataOff = b.dataOff ∧ BlockWf p b' ∧ ∀ k', bitAt b'.bitmap k' = if k' = k then false else bitAt b.bitmap k' := by
  -- the slot ends inside `[data, limit]`, so with `obj_size ≥ 2` it starts below `limit`
  obtain ⟨pre, post, hloc, hdec⟩ := locate_of_mem (off := b.dataOff + k * p.objSize) ids hb (Nat.le_add_right _ _)
    (Nat.le_of_succ_le_succ (Nat.le_trans (Nat.add_le_add_left h2 _) (show _ ≤ b.limitOff + 1 from hwf.lim ▸ slot_step _ hk)))
  -- clearing the set bit gives back one object
  have hi : k / 32 < b.bitmap.length := hwf.len ▸ Nat.div_lt_of_lt_mul hk
  have hj : k % 32 < 32 := Nat.mod_lt _ (by decide)
  have hk' : 32 * (k / 32) + k % 32 = k := Nat.div_add_mod k 32
  have hcnt := clearBits_clearBit hi hj (hk'.symm ▸ hbit)
  have hnw : w64 (b.objFree + 1) = clearBits b.bitmap + 1 := by
    rw [w64_small (Nat.lt_of_le_of_lt (Nat.succ_le_succ (Nat.le_trans hwf.free_le (Nat.mul_le_mul_left 32 hc))) (by decide)), hwf.free]
  refine ⟨pre, post, { b with bitmap := clearBit b.bitmap (k / 32) (k % 32), objFree := w64 (b.objFree + 1) }, hdec, ?_, rfl, rfl,
    ⟨(clearBit_length ..).trans hwf.len, hnw.trans hcnt.symm, hwf.lim, hwf.hdr, hwf.align, hwf.doff⟩,
    fun k' => by rw [bitAt_clearBit hi hj, hk']⟩
  simp only [free, hloc, Nat.add_sub_cancel_left, Nat.mul_mod_left, ne_eq, not_true_eq_false, if_false,
    Nat.mul_div_cancel _ (Nat.lt_of_lt_of_le Nat.zero_lt_two h2)]
  rw [show (b.bitmap.getD (k / 32) 0).getLsbD (k % 32) = true from hbit]
  rfl

/-- `mem_pool_allocate` changes nothing of the pool but its block list -/
theorem allocate_frame {α : Type} (f : Pool → α) (hf : ∀ p bs, f { p with blocks := bs } = f p) (fuel : Nat) (p : Pool) (e : Env) :
    f (allocate fuel p e).2.1 = f p := by
  induction fuel generalizing p e with
  | zero => rfl
  | succ fuel ih =>
    unfold allocate
    split
    · exact hf ..
    · rw [ih]; exact hf ..
    · split
      · rfl
      · rfl
      · dsimp only
        split
        · exact hf ..
        · rw [ih]; exact hf ..

end Sqfs.MemPool
