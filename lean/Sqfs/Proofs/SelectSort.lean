/-
`sort_file_list` (bin/gensquashfs/src/sort_by_file.c) is a selection sort that always takes out the *first* node of least priority.
The development models it twice (`Sqfs.Sort.sortLoop` with the loop's `low_prev`/`out_last` bookkeeping, `Sqfs.FsTree.sortFileList` with
`lowestFile`/`takeFirst`); `Sel` says what both compute, and that it is the stable sort by priority is proved of `Sel` once.
Core Lean only.
-/
namespace Sqfs.SelectSort

variable {α : Type} {prio : α → Int}

/-- `r` lists `l` by taking out, again and again, the first element of least priority -/
inductive Sel (prio : α → Int) : List α → List α → Prop
  | nil : Sel prio [] []
  | step {pre post r : List α} {x : α} : (∀ y ∈ pre, prio x < prio y) → (∀ y ∈ post, prio x ≤ prio y) →
      Sel prio (pre ++ post) r → Sel prio (pre ++ x :: post) (x :: r)

theorem Sel.perm {l r : List α} (h : Sel prio l r) : r.Perm l := by
  induction h with
  | nil => exact .refl _
  | step _ _ _ ih => exact (ih.cons _).trans List.perm_middle.symm

theorem Sel.sorted {l r : List α} (h : Sel prio l r) : r.Pairwise (fun a b => prio a ≤ prio b) := by
  induction h with
  | nil => exact .nil
  | step hpre hpost hs ih =>
    refine List.pairwise_cons.2 ⟨fun y hy => ?_, ih⟩
    exact (List.mem_append.1 (hs.perm.mem_iff.1 hy)).elim (fun h => Int.le_of_lt (hpre y h)) (hpost y)

theorem Sel.stable {l r : List α} (h : Sel prio l r) (q : Int) :
    r.filter (fun a => prio a == q) = l.filter (fun a => prio a == q) := by
  induction h with
  | nil => rfl
  | @step pre post r x hpre _ _ ih =>
    rw [List.filter_cons, ih, List.filter_append, List.filter_append, List.filter_cons]
    by_cases hx : (prio x == q) = true
    · -- what stands before `x` has a higher priority
      have : pre.filter (fun a => prio a == q) = [] :=
        List.filter_eq_nil_iff.2 fun y hy hyq => by
          have hlt := hpre y hy
          rw [beq_iff_eq.1 hx, beq_iff_eq.1 hyq] at hlt
          exact Int.lt_irrefl q hlt
      rw [if_pos hx, if_pos hx, this, List.nil_append, List.nil_append]
    · rw [if_neg hx, if_neg hx]

end Sqfs.SelectSort
