/-
C15 — the **decompressing** side of `zstd.c: process_data`: libzstd's streaming convention (`ZSTD_decompressStream`: the
return value is 0 exactly when the current frame is completely decoded and handed out; `ZDecContract`) ⇒ the loop with its
`pending` flag — which keeps decoding across frame boundaries inside one call and answers `END` only at the end of the
input — is a decoder meeting the stream-level contract (`StreamDecContract`) under which `istream_xfrm` is transparent.
With `ZDecErrContract` (error returns of the library on input that has gone wrong) also its corrupted-input part.
The ghost invariant is `ZG`; `ZG.call` says what one library call of the loop does to a state it describes, and
`zstdLoop_dec_spec` is the accounting of the loop around that.
-/
import Sqfs.Proofs.XfrmZstd
import Sqfs.Proofs.XfrmIStream
namespace Sqfs.Xfrm
open Sqfs.Xfrm.Spec

section ZDec
variable {τ : Type} {L : ZLib τ} {Dec : Bytes → Option Bytes}

/-- no statement about input that has gone wrong -/
def ZDoom.none (hZ : ZDecContract L Dec) : ZDoom hZ where
  B := fun _ _ _ => False
  budget := fun _ => 0
  call := by intro s rest j h; exact h.elim

def ZEnter {hZ : ZDecContract L Dec} (E : ZDoom hZ) : Prop :=
  ∀ (s : τ) (c : Bytes), hZ.R s [] [] → Dead Dec c → E.B s c (E.budget c.length)

/--
Ghost invariant of the decompressing zstd object: like `G`, plus the meaning of the `pending` flag (set whenever part of the
current frame has been consumed; clear at a clean end) and "the library has not yet said 0 for this frame" (`w = [] → v ≠ x`).
-/
def ZG (hZ : ZDecContract L Dec) (E : ZDoom hZ) (K : Kind) (zs : ZState τ) (rest rem : Bytes) (j : Nat) : Prop :=
  (∃ u v w x ms xs t xT, hZ.R zs.lib u v ∧ Dec (u ++ w) = some x ∧ IsPre v x ∧ Members Dec ms xs ∧ Tail Dec K t xT ∧
      rest = w ++ (ms.flatten ++ t) ∧ rem = x.drop v.length ++ (xs.flatten ++ xT) ∧
      (u ≠ [] → zs.pending = true) ∧ (w = [] → v ≠ x) ∧
      (K ≠ Kind.corrupt → j = 0) ∧ (K = Kind.corrupt → j = E.budget t.length)) ∨
  (∃ u v w' w'' x, K = Kind.truncated ∧ hZ.R zs.lib u v ∧ Dec (u ++ (w' ++ w'')) = some x ∧ IsPre v x ∧ w'' ≠ [] ∧
      (u ≠ [] ∨ w' ≠ []) ∧ rest = w' ∧ rem = x.drop v.length ∧ (u ≠ [] → zs.pending = true) ∧ j = 0) ∨
  (K = Kind.valid ∧ hZ.R zs.lib [] [] ∧ zs.pending = false ∧ rest = [] ∧ rem = [] ∧ j = 0) ∨
  (K = Kind.corrupt ∧ rem = [] ∧ E.B zs.lib rest j ∧ (zs.pending = false → rest ≠ []))

section
variable {hZ : ZDecContract L Dec} {E : ZDoom hZ} {K : Kind} {zs : ZState τ} {rest rem : Bytes} {j : Nat}

/-- `ZG` read as: the library's relation beside a position, the idle object at a clean end, or the input gone wrong -/
theorem ZG.cases (hG : ZG hZ E K zs rest rem j) :
    (K ≠ Kind.corrupt → j = 0) ∧
    ((∃ u v w x tl, hZ.R zs.lib u v ∧ InMember Dec K u v w x rest rem tl ∧ (K = Kind.corrupt → j = E.budget tl) ∧
        (u ≠ [] → zs.pending = true) ∧ (w = [] → v ≠ x)) ∨
     (K = Kind.valid ∧ zs.pending = false ∧ rest = [] ∧ rem = []) ∨
     (K = Kind.corrupt ∧ rem = [] ∧ E.B zs.lib rest j ∧ (zs.pending = false → rest ≠ []))) := by
  rcases hG with ⟨u, v, w, x, ms, xs, t, xT, hR, hdec, hpv, hms, htail, rfl, rfl, hpend, hopen, hj0, hjc⟩ |
      ⟨u, v, w', w'', x, rfl, hR, hdec, hpv, hw'', hne, rfl, rfl, hpend, hj⟩ | ⟨hK, _, hp, hrest, hrem, hj⟩ | ⟨hK, hrem, hB, hpr⟩
  · exact ⟨hj0, Or.inl ⟨u, v, w, x, _, hR, .complete hdec hpv hms htail, hjc, hpend, hopen⟩⟩
  · exact ⟨fun _ => hj, Or.inl ⟨u, v, _, x, 0, hR, .cutoff hdec hpv hw'' hne, nofun, hpend,
      fun h => absurd (List.append_eq_nil_iff.1 h).2 hw''⟩⟩
  · exact ⟨fun _ => hj, Or.inr (Or.inl ⟨hK, hp, hrest, hrem⟩)⟩
  · exact ⟨fun h => absurd hK h, Or.inr (Or.inr ⟨hK, hrem, hB, hpr⟩)⟩

theorem ZG.member {u v w x : Bytes} {tl : Nat} (hR : hZ.R zs.lib u v) (hM : InMember Dec K u v w x rest rem tl)
    (hj0 : K ≠ Kind.corrupt → j = 0) (hjc : K = Kind.corrupt → j = E.budget tl) (hpend : u ≠ [] → zs.pending = true)
    (hopen : w = [] → v ≠ x) : ZG hZ E K zs rest rem j := by
  obtain ⟨hdec, hpv, ⟨ms, xs, t, xT, hms, htail, hrest, hrem, rfl⟩ | ⟨hK, w'', hw'', rfl, hne, hrem⟩⟩ := hM
  · exact Or.inl ⟨u, v, w, x, ms, xs, t, xT, hR, hdec, hpv, hms, htail, hrest, hrem, hpend, hopen, hj0, hjc⟩
  · exact Or.inr (Or.inl ⟨u, v, rest, w'', x, hK, hR, hdec, hpv, hw'', hne, rfl, hrem, hpend, hj0 (by rw [hK]; decide)⟩)

theorem ZG_nil_idle (hG : ZG hZ E K zs [] rem j) (hp : zs.pending = false) : K = Kind.valid ∧ rem = [] := by
  rcases hG.cases with ⟨_, ⟨u, _, _, _, _, _, hM, _, hpend, _⟩ | ⟨hK, _, _, hrem⟩ | ⟨_, _, _, hpr⟩⟩
  · rw [hpend (hM.at_end hZ.dec_nil).1] at hp; cases hp
  · exact ⟨hK, hrem⟩
  · exact absurd rfl (hpr hp)

end

theorem ZG_boundary (hZ : ZDecContract L Dec) (E : ZDoom hZ) {K : Kind} (hen : K = Kind.corrupt → ZEnter E) {zs : ZState τ}
    (hR : hZ.R zs.lib [] []) (hp : zs.pending = false) {ms xs : List Bytes} {t xT : Bytes} {j : Nat}
    (hms : Members Dec ms xs) (htail : Tail Dec K t xT) (hj0 : K ≠ Kind.corrupt → j = 0)
    (hjc : K = Kind.corrupt → j = E.budget t.length) :
    ZG hZ E K zs (ms.flatten ++ t) (xs.flatten ++ xT) j := by
  rcases InMember.boundary hms htail with ⟨w, x, hM⟩ | ⟨hK, hrest, hrem⟩ | ⟨hK, hrest, hrem, hdead⟩
  · -- a frame not begun is not finished: `w ≠ []`
    refine ZG.member hR hM hj0 hjc (fun h => absurd rfl h) fun hw _ => ?_
    have hdec := hM.1
    rw [hw, List.append_nil, hZ.dec_nil] at hdec; cases hdec
  · exact Or.inr (Or.inr (Or.inl ⟨hK, hR, hp, hrest, hrem, hj0 (by rw [hK]; decide)⟩))
  · refine Or.inr (Or.inr (Or.inr ⟨hK, hrem, ?_, fun _ => by rw [hrest]; exact hdead.1⟩))
    rw [hrest, hjc hK]; exact hen hK zs.lib t hR hdead

/-- One call of libzstd as the loop of `zstd.c` makes it — with input, or without at the end of the stream while `pending` is set under
`FLUSH_FULL` — in a state described by `ZG`.  Either the wrapper takes it for an error (an error code, or nothing offered and nothing
done): on bad input only, and before the end of the stream on corrupted input only.  Or the call keeps to its buffers, does something,
and `ZG` describes what it leaves, with `pending` set exactly when the library has not said 0. -/
theorem ZG.call {hZ : ZDecContract L Dec} {E : ZDoom hZ} {K : Kind} {zs : ZState τ} {rest rem : Bytes} {j : Nat}
    (hG : ZG hZ E K zs rest rem j) (hen : K = Kind.corrupt → ZEnter E) {inp : Bytes} {room : Nat} {fl : Flush}
    (hpre : IsPre inp rest) (hr0 : 0 < room) (hnil : inp = [] → zs.pending = true ∧ fl = Flush.full ∧ rest = []) :
    ∀ r, r = L.call zs.lib inp room fl →
    (K ≠ Kind.valid ∧ (fl ≠ Flush.full → K = Kind.corrupt) ∧ (r.isError = true ∨ (inp = [] ∧ r.consumed = 0 ∧ r.out = []))) ∨
    (r.isError = false ∧ 0 < r.consumed + r.out.length ∧ r.consumed ≤ inp.length ∧ r.out.length ≤ room ∧
      ∃ rem' j', ZG hZ E K ⟨r.st, decide (r.hint ≠ 0)⟩ (rest.drop r.consumed) rem' j' ∧ Link rem j r.out rem' j') := by
  rintro r rfl
  have hbytes : ∀ r : ZOut τ, (inp ≠ [] → 0 < r.consumed + r.out.length) → ¬ (inp = [] ∧ r.consumed = 0 ∧ r.out = []) →
      0 < r.consumed + r.out.length := by
    intro r hin hstuck
    by_cases h0 : inp = []
    · exact Nat.pos_of_ne_zero fun h => hstuck ⟨h0, by omega, List.eq_nil_of_length_eq_zero (by omega)⟩
    · exact hin h0
  rcases hG.cases with ⟨hj0, ⟨u, v, w, x, tl, hR, hM, hjc, hpend, hopen⟩ | ⟨_, hpf, hrest, _⟩ | ⟨hK, hrem, hB, hpr⟩⟩
  · -- inside (or at the start of) a frame
    obtain ⟨tail, hoff⟩ := hM.offer
    have hip := hoff hpre
    have hend0 : inp = [] → InMember Dec K u v w x [] rem tl := fun h0 => (hnil h0).2.2 ▸ hM
    have hnz : u ≠ [] ∨ inp ≠ [] := by
      by_cases h0 : inp = []
      · exact Or.inl ((hend0 h0).at_end hZ.dec_nil).1
      · exact Or.inr h0
    obtain ⟨h1, h2, h3, h4, h5, h6, h7, h8⟩ := hZ.valid w x tail inp room fl hR hM.1 hip hr0 hnz
    have hdrain := hZ.drain w x tail inp room fl hR hM.1 hip hr0 hnz
    have hby := hZ.bytes w x tail inp room fl hR hM.1 hip hr0
    generalize L.call zs.lib inp room fl = r at *
    by_cases hstuck : inp = [] ∧ r.consumed = 0 ∧ r.out = []
    · -- nothing offered, nothing done: the stream ends inside the frame (a complete frame would be handed out or ended)
      rcases ((hend0 hstuck.1).at_end hZ.dec_nil).2.2 with ⟨_, hw⟩ | ⟨hK, _⟩
      · rcases hdrain (by rw [hstuck.2.1, hw]; rfl) with hd | hd
        · exact absurd hstuck.2.2 hd
        · have hx := (h6.1 hd).2
          rw [hstuck.2.2, List.append_nil] at hx
          exact absurd hx (hopen hw)
      · exact Or.inl ⟨by rw [hK]; decide, fun hfl => absurd (hnil hstuck.1).2.1 hfl, Or.inr hstuck⟩
    have hpos := hbytes r hby hstuck
    by_cases hend : r.hint = 0
    · -- the frame is finished by this call
      obtain ⟨hc, hx⟩ := h6.1 hend
      obtain ⟨ms, xs, t, xT, hms, ht, hrest, hrem, htl⟩ := hM.finish (by have := hpre.length_le; omega) hx
      refine Or.inr ⟨h1, hpos, h2, h4, _, j, ?_, Link.of_eq j hrem⟩
      rw [hc, hrest, hend]
      exact ZG_boundary hZ E hen (h7 hend) rfl hms ht hj0 (fun h => htl ▸ hjc h)
    · obtain ⟨rem', hrem, hM'⟩ := hM.step hpre h2 h3 h5
      refine Or.inr ⟨h1, hpos, h2, h4, rem', j,
        ZG.member (h8 hend) hM' hj0 hjc (fun _ => by simpa using hend) fun hw0 hx => ?_, Link.of_eq j hrem⟩
      exact hend (h6.2 ⟨by have := List.drop_eq_nil_iff.1 hw0; omega, hx⟩)
  · -- clean end of the stream: the loop makes no call
    have h0 : inp = [] := List.eq_nil_of_length_eq_zero (by have := hpre.length_le; rw [hrest] at this; simpa using this)
    rw [hpf] at hnil; cases (hnil h0).1
  · -- the input has gone wrong
    have hKn : K ≠ Kind.valid := by rw [hK]; decide
    have hwork : inp ≠ [] ∨ rest = [] := by
      by_cases h0 : inp = []
      · exact Or.inr (hnil h0).2.2
      · exact Or.inl h0
    rcases E.call hB inp room fl hpre hr0 hwork _ rfl with he | ⟨hc, hol, hhint, ⟨j', hB', hjj⟩, hby⟩
    · exact Or.inl ⟨hKn, fun _ => hK, Or.inl he⟩
    generalize L.call zs.lib inp room fl = r at *
    by_cases hbad : r.isError = true ∨ (inp = [] ∧ r.consumed = 0 ∧ r.out = [])
    · exact Or.inl ⟨hKn, fun _ => hK, hbad⟩
    · exact Or.inr ⟨by simpa using fun h => hbad (Or.inl h), hbytes r hby (fun h => hbad (Or.inr h)), hc, hol, [], j',
        Or.inr (Or.inr (Or.inr ⟨hK, rfl, hB', fun h => by simp [hhint] at h⟩)), by rw [hrem]; exact Link.junk hjj⟩

/-- what one `process_data` call of the decompressing zstd object achieves, offered the first `n` bytes of `rest` -/
def ZDecPost (hZ : ZDecContract L Dec) (E : ZDoom hZ) (K : Kind) (rest rem : Bytes) (j n room : Nat) (fl : Flush)
    (r : StepOut (ZState τ)) : Prop :=
  (r.res = Res.error ∧ K ≠ Kind.valid ∧ (fl ≠ Flush.full → K = Kind.corrupt)) ∨
  (r.res ≠ Res.error ∧ r.consumed ≤ n ∧ r.out.length ≤ room ∧
    (∃ rem' j', ZG hZ E K r.st (rest.drop r.consumed) rem' j' ∧ Link rem j r.out rem' j') ∧
    (r.res = Res.bufferFull → r.out.length = room) ∧ (r.res ≠ Res.bufferFull → r.consumed = n) ∧
    (r.out.length < room → ¬ (r.st.pending = true ∧ fl = Flush.full)))

theorem zstdLoop_dec_spec (hZ : ZDecContract L Dec) (E : ZDoom hZ) {K : Kind} (hen : K = Kind.corrupt → ZEnter E)
    {zs : ZState τ} {rest rem : Bytes} {j : Nat} (hG : ZG hZ E K zs rest rem j) (n room : Nat) (fl : Flush)
    (hn : n ≤ rest.length) (hfull : fl = Flush.full → n = rest.length) :
    ∃ r, zstdLoop L false fl ((rest.take n).length + room + 2) zs (rest.take n) room 0 [] = some r ∧
      ZDecPost hZ E K rest rem j n room fl (zstdStepOf fl r) := by
  refine iter_buf (zstdBody L false fl) (rest.take n) room
    (fun st ai ao => ∃ rem1 j1, ZG hZ E K st (rest.drop ai) rem1 j1 ∧ Link rem j ao rem1 j1)
    (fun r => ZDecPost hZ E K rest rem j n room fl (zstdStepOf fl r)) ?_ ⟨rem, j, by simpa using hG, Link.refl _ _⟩
  rintro st inp' room' ai ao hinp hai hao ⟨rem1, j1, hG1, hL1⟩
  rw [List.length_take, Nat.min_eq_left hn] at hai
  by_cases hcond : (inp' ≠ [] ∨ (st.pending = true ∧ fl = Flush.full)) ∧ 0 < room'
  · obtain ⟨hw, hr0⟩ := hcond
    -- with no input in this round, the loop runs because of `pending` under `FLUSH_FULL`, and the stream is at its end
    have hnil : inp' = [] → st.pending = true ∧ fl = Flush.full ∧ rest.drop ai = [] := by
      intro h0
      obtain ⟨hp, hf⟩ := hw.resolve_left (fun h => h h0)
      have := hfull hf
      rw [h0, List.length_nil] at hai
      exact ⟨hp, hf, List.drop_eq_nil_of_le (by omega)⟩
    rcases hG1.call hen (hinp ▸ (IsPre.take rest n).drop ai) hr0 hnil _ rfl with
      ⟨hK1, hK2, h⟩ | ⟨he, hby, hc, ho, rem2, j2, hG2, hL2⟩
    · rw [zstdBody_fail L false fl st inp' room' ai ao hw hr0 _ rfl h]
      exact Or.inl ⟨rfl, hK1, hK2⟩
    · rw [zstdBody_next L false fl st inp' room' ai ao hw hr0 _ rfl he hby, Bool.false_and, Bool.or_false]
      exact ⟨_, _, _, rfl, hc, ho, hby, rem2, j2, by rwa [List.drop_drop] at hG2, hL1.trans hL2⟩
  · rw [zstdBody_idle L false fl st inp' room' ai ao hcond]
    obtain ⟨res, hstep, hne, _, hbuf⟩ := zstdStepOf_ok fl st inp' room' ai ao
    rw [LoopStep.Post, hstep]
    refine Or.inr ⟨hne, by simp only; omega, by simp only; omega, ⟨rem1, j1, hG1, hL1⟩, fun h => ?_, fun h => ?_,
      fun h hp => hcond ⟨Or.inr hp, by simp only at h; omega⟩⟩
    · have := (hbuf.1 h).2
      simp only; omega
    · -- were input left, there would be room (the answer is not `BUFFER_FULL`) and the loop would have gone on
      have : inp'.length = 0 := Nat.eq_zero_of_not_pos fun hp =>
        hcond ⟨Or.inl (List.length_pos_iff.1 hp), Nat.pos_of_ne_zero fun hr => h (hbuf.2 ⟨hp, hr⟩)⟩
      simp only; omega

theorem zstdCodec_dec_spec (hZ : ZDecContract L Dec) (E : ZDoom hZ) {K : Kind} (hen : K = Kind.corrupt → ZEnter E)
    {zs : ZState τ} {rest rem : Bytes} {j : Nat} (hG : ZG hZ E K zs rest rem j) (n room : Nat) (fl : Flush)
    (hn : n ≤ rest.length) (hfull : fl = Flush.full → n = rest.length) :
    ZDecPost hZ E K rest rem j n room fl ((zstdCodec L false).step zs (rest.take n) room fl) := by
  obtain ⟨r, hrun, hpost⟩ := zstdLoop_dec_spec hZ E hen hG n room fl hn hfull
  rwa [zstdCodec_step_of_loop hrun]

/-- the decompressing zstd object as a stream-level decoder; `P` says which kinds of input the statement covers -/
def zstdStreamOfDoom (hZ : ZDecContract L Dec) (E : ZDoom hZ) (P : Kind → Prop) (hen : ∀ K, P K → K = Kind.corrupt → ZEnter E)
    (hPv : P Kind.valid) (hPt : P Kind.truncated) : StreamDecContract (zstdCodec L false) Dec where
  G K zs rest rem j := P K ∧ ZG hZ E K zs rest rem j
  pend := fun _ => 0
  start_valid := by
    intro ms xs hms
    refine ⟨hPv, ?_⟩
    have := ZG_boundary hZ E (K := Kind.valid) (fun h => by cases h) (zs := ⟨L.init, false⟩) hZ.init rfl hms (t := []) (xT := [])
      (j := 0) ⟨rfl, rfl⟩ (fun _ => rfl) (fun h => by cases h)
    simpa [zstdCodec] using this
  start_truncated := by
    intro ms xs t t' xT hms ht ht' hd
    exact ⟨hPt, ZG_boundary hZ E (K := Kind.truncated) (fun h => by cases h) (zs := ⟨L.init, false⟩) hZ.init rfl hms
      ⟨ht, t', ht', hd⟩ (fun _ => rfl) (fun h => by cases h)⟩
  no_junk := fun hG hK => hG.2.cases.1 hK
  step_none := by
    intro K s rest rem j hG n room hn hnr hroom r hr
    have hpost := zstdCodec_dec_spec hZ E (hen K hG.1) hG.2 n room Flush.none hnr (fun h => by cases h)
    rw [← hr] at hpost
    rcases hpost with ⟨he, _, hK⟩ | ⟨hne, hc, ho, ⟨rem', j', hG', hL'⟩, hbuf, hnbuf, _⟩
    · exact Or.inl ⟨he, hK (by decide)⟩
    · refine Or.inr ⟨hne, ho, hc, ⟨rem', j', ⟨hG.1, hG'⟩, hL'⟩,
        fun h => List.ne_nil_of_length_pos (by rw [hbuf h]; exact hroom), ?_⟩
      by_cases h : r.res = Res.bufferFull
      · exact Or.inr (Or.inr h)
      · exact Or.inl (by rw [hnbuf h]; exact hn)
  step_full := by
    intro K s rem j hG room hroom r hr
    have hpost := zstdCodec_dec_spec hZ E (hen K hG.1) hG.2 0 room Flush.full (Nat.zero_le _) (fun _ => rfl)
    rw [List.take_zero, ← hr] at hpost
    rcases hpost with ⟨he, hK, _⟩ | ⟨hne, hc, ho, ⟨rem', j', hG', hL'⟩, _, _, hpend⟩
    · exact Or.inl ⟨he, hK⟩
    · rw [List.drop_nil] at hG'
      -- when nothing was handed out, the loop was left with `pending` clear: a clean end of the stream
      have hclean : r.out = [] → K = Kind.valid ∧ rem = [] := by
        intro h0
        rw [h0] at hL' hpend
        rw [hL'.nil_out]
        exact ZG_nil_idle hG' (Bool.eq_false_iff.2 fun hp => hpend hroom ⟨hp, rfl⟩)
      exact Or.inr ⟨hne, Nat.le_zero.1 hc, ho, ⟨rem', j', ⟨hG.1, hG'⟩, hL'⟩, fun _ ho => (hclean ho).2,
        fun hK ho => hK (hclean ho).1⟩

/-- **the decompressing zstd object meets the stream-level decoder contract** (valid and truncated input) -/
def zstdDecStream (hZ : ZDecContract L Dec) : StreamDecContract (zstdCodec L false) Dec :=
  zstdStreamOfDoom hZ (ZDoom.none hZ) (fun K => K ≠ Kind.corrupt) (fun _ h1 h2 => absurd h2 h1) (by decide) (by decide)

/-- … and, with the library's error convention, also for corrupted input -/
def zstdDecErrStream (hZ : ZDecContract L Dec) (hE : ZDecErrContract hZ) : StreamDecErrContract (zstdCodec L false) Dec where
  toStreamDecContract := zstdStreamOfDoom hZ hE.toZDoom (fun _ => True) (fun _ _ _ s c hR hd => hE.enter hR hd) trivial trivial
  budget := hE.budget
  start_corrupt := by
    intro ms xs c hms hdead
    refine ⟨trivial, ?_⟩
    have := ZG_boundary hZ hE.toZDoom (K := Kind.corrupt) (fun _ s c hR hd => hE.enter hR hd) (zs := ⟨L.init, false⟩) hZ.init rfl hms
      (t := c) (xT := []) (j := hE.budget c.length) ⟨hdead, rfl⟩ (fun h => absurd rfl h) (fun _ => rfl)
    simpa [zstdCodec] using this

/-- the decompressing `process_data` of zstd.c always returns (it never spins), whatever the input -/
theorem zstdProcess_dec_total (hZ : ZDecContract L Dec) (E : ZDoom hZ) {K : Kind} (hen : K = Kind.corrupt → ZEnter E)
    {zs : ZState τ} {rest rem : Bytes} {j : Nat} (hG : ZG hZ E K zs rest rem j) (n room : Nat) (fl : Flush)
    (hn : n ≤ rest.length) (hfull : fl = Flush.full → n = rest.length) :
    (zstdProcess L false zs (rest.take n) room fl).isSome = true := by
  obtain ⟨lr, hrun, _⟩ := zstdLoop_dec_spec hZ E hen hG n room fl hn hfull
  rw [zstdProcess_of_loop hrun]; rfl

end ZDec

end Sqfs.Xfrm
