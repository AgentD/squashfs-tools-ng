/-
C01 — the loop of `write_id_table` that fills `locations[]` (`locStoresGo`): which stores it makes, with and without
the guard `i < count`.  Only the loop; the array it fills and the meta writer behind `blockAfter` are in
`Proofs/EncXattrLoc.lean`.
-/
import Sqfs.Model.EncXattr
namespace Sqfs.Enc
open Sqfs.Consts

theorem locStoresGo_cap (c : Nat) (blockAfter : Nat → Nat) : ∀ (f k i last : Nat),
    locStoresGo (some c) blockAfter f k i last = (locStoresGo none blockAfter f k i last).take (c - i) := by
  intro f
  induction f with
  | zero => intro k i last; simp [locStoresGo]
  | succ f ih =>
    intro k i last
    simp only [locStoresGo, Bool.and_true]
    by_cases hb : (blockAfter (k + 1) != last) = true
    · by_cases hi : i < c
      · rw [if_pos (by simp [hb, hi]), if_pos hb, ih,
          show c - i = (c - (i + 1)) + 1 from (Nat.succ_pred_eq_of_pos (Nat.sub_pos_of_lt hi)).symm, List.take_succ_cons]
      · -- the array is full: nothing more is stored, by the induction hypothesis itself (`take 0`)
        rw [if_neg (by simp [hi]), if_pos hb, ih, Nat.sub_eq_zero_of_le (Nat.le_of_not_lt hi), List.take_zero, List.take_zero]
    · rw [if_neg (by simp [hb]), if_neg hb, ih]

theorem locStoresGo_full (c : Nat) (blockAfter : Nat → Nat) (f k i last : Nat) (h : c ≤ i) :
    locStoresGo (some c) blockAfter f k i last = [] := by
  rw [locStoresGo_cap, Nat.sub_eq_zero_of_le h, List.take_zero]

theorem locStoresGo_lt (c : Nat) (blockAfter : Nat → Nat) : ∀ (f k i last : Nat),
    ∀ s ∈ locStoresGo (some c) blockAfter f k i last, s.1 < c := by
  intro f
  induction f with
  | zero => intro k i last s hs; simp [locStoresGo] at hs
  | succ f ih =>
    intro k i last s hs
    simp only [locStoresGo] at hs
    split at hs
    · rename_i hc
      simp only [Bool.and_eq_true, decide_eq_true_eq] at hc
      rcases List.mem_cons.mp hs with h | h
      · subst h; exact hc.2
      · exact ih _ _ _ s h
    · exact ih _ _ _ s hs

/-- **The unguarded loop** when `block_offset` after `k` descriptors is `S (g k)` for a block number `g k` that never
decreases and grows by at most one per descriptor, consecutive blocks having different offsets: standing in block
`g k` with `i = g k + 1` slots used, the next `f` descriptors store one slot per block entered, slot `j` with `S j`. -/
theorem locStoresGo_none (S g : Nat → Nat) (blockAfter : Nat → Nat) (hg : ∀ a b, a ≤ b → g a ≤ g b)
    (hstep : ∀ j, g (j + 1) ≤ g j + 1) :
    ∀ (f k i last : Nat), (∀ j, k < j → j ≤ k + f → blockAfter j = S (g j)) →
      (∀ a, g k ≤ a → a < g (k + f) → S (a + 1) ≠ S a) → i = g k + 1 → last = S (g k) →
      locStoresGo none blockAfter f k i last = (List.range' i (g (k + f) - g k)).map (fun j => (j, S j)) := by
  intro f
  induction f with
  | zero => intro k i last _ _ _ _; simp [locStoresGo]
  | succ f ih =>
    intro k i last hba hne hi hl
    subst hi hl
    have hend : k + (f + 1) = k + 1 + f := by rw [Nat.add_assoc, Nat.add_comm 1 f]
    have hrec := ih (k + 1) (g (k + 1) + 1) (S (g (k + 1))) (fun j h1 h2 => hba j (Nat.lt_of_succ_lt h1) (hend ▸ h2))
      (fun a h1 h2 => hne a (Nat.le_trans (hg _ _ (Nat.le_succ k)) h1) (hend ▸ h2)) rfl rfl
    have hmono := hg (k + 1) (k + 1 + f) (Nat.le_add_right _ _)
    simp only [locStoresGo, Bool.and_true, hba (k + 1) (Nat.lt_succ_self k) (hend ▸ Nat.le_add_right (k + 1) f), hend]
    rcases Nat.lt_or_ge (g k) (g (k + 1)) with hcross | hsame
    · -- the descriptor filled block `g k`: the writer stands in block `g k + 1`, a slot is stored
      have hk1 : g (k + 1) = g k + 1 := Nat.le_antisymm (hstep k) hcross
      rw [hk1] at hrec hmono ⊢
      rw [if_pos (by simpa using hne (g k) (Nat.le_refl _) (hend ▸ hmono)), hrec,
        show g (k + 1 + f) - g k = (g (k + 1 + f) - (g k + 1)) + 1 by clear hrec ih hba hne; omega, List.range'_succ,
        List.map_cons]
    · have hk1 : g (k + 1) = g k := Nat.le_antisymm hsame (hg _ _ (Nat.le_succ k))
      rw [hk1] at hrec ⊢
      rw [if_neg (by simp)]
      exact hrec

/-- 512 descriptors of 16 bytes fill a metadata block -/
theorem descs_div (k : Nat) : k * sizeofXattrId / metaBlockSize = k / 512 := Nat.mul_div_mul_right k 512 (by decide)

theorem locCount_eq (n : Nat) : locCount n = n / 512 + (if n % 512 ≠ 0 then 1 else 0) := by
  unfold locCount
  rw [descs_div]
  simp only [sizeofXattrId, metaBlockSize]
  have h2 : n * 16 % 8192 = n % 512 * 16 := Nat.mul_mod_mul_right 16 n 512
  by_cases h : n % 512 = 0 <;> simp [h2, h, Nat.mul_ne_zero_iff]

theorem locCount_slot {j n : Nat} (h : j < n) : j * sizeofXattrId / metaBlockSize < locCount n := by
  rw [locCount_eq, descs_div]
  by_cases h0 : n % 512 = 0
  · have hn : 512 * (n / 512) = n := by have := Nat.div_add_mod n 512; rwa [h0, Nat.add_zero] at this
    rw [if_neg (fun hne => hne h0), Nat.add_zero]
    exact Nat.div_lt_of_lt_mul (hn.symm ▸ h)
  · rw [if_pos h0]; exact Nat.lt_succ_of_le (Nat.div_le_div_right (Nat.le_of_lt h))

theorem locStores_lt (blockAfter : Nat → Nat) (n : Nat) (hn : 0 < n) :
    ∀ s ∈ locStores (some (locCount n)) blockAfter n, s.1 < locCount n := by
  intro s hs
  rcases List.mem_cons.mp hs with h | h
  · subst h; exact Nat.lt_of_le_of_lt (Nat.zero_le _) (locCount_slot hn)
  · exact locStoresGo_lt _ _ _ _ _ _ s h

/-- **All stores of `write_id_table`** for `n` descriptors when `block_offset` after `k` of them is `S (k / 512)` with
`S 0 = 0` and consecutive values different — without the guard (`cap = none`, the code before the repair): slots
`0 … n / 512`, one more than `alloc_location_table` provides when `n` is a multiple of 512; with the guard
(`cap = some c`): the first `c` of them. -/
theorem locStores_eq (S : Nat → Nat) (blockAfter : Nat → Nat) (n : Nat) (hS0 : S 0 = 0)
    (hba : ∀ k, 1 ≤ k → k ≤ n → blockAfter k = S (k / 512)) (hne : ∀ a, a < n / 512 → S (a + 1) ≠ S a) :
    locStores none blockAfter n = (List.range (n / 512 + 1)).map (fun j => (j, S j))
    ∧ ∀ c, 0 < c →
        locStores (some c) blockAfter n = ((List.range (n / 512 + 1)).map (fun j => (j, S j))).take c := by
  have hgo := locStoresGo_none S (· / 512) blockAfter (fun a b h => Nat.div_le_div_right h)
    (fun j => Nat.le_trans (Nat.div_le_div_right (Nat.add_le_add_left (by decide : 1 ≤ 512) j)) (Nat.le_of_eq (Nat.add_div_right j (by decide)))) n 0 1 0
    (fun j h1 h2 => hba j h1 (Nat.zero_add n ▸ h2)) (fun a _ h => hne a (by simpa using h)) rfl hS0.symm
  simp only [Nat.zero_add, Nat.zero_div, Nat.sub_zero] at hgo
  have hnone : locStores none blockAfter n = (List.range (n / 512 + 1)).map (fun j => (j, S j)) := by
    rw [locStores, hgo, List.range_eq_range', List.range'_succ, List.map_cons, hS0]
  refine ⟨hnone, fun c hc => ?_⟩
  obtain ⟨c, rfl⟩ := Nat.exists_eq_add_one_of_ne_zero (Nat.ne_of_gt hc)
  rw [← hnone]
  simp only [locStores, locStoresGo_cap, List.take_succ_cons, Nat.add_sub_cancel]

/-- `block_offset` after `k` descriptors when no metadata block shrinks: 8194 bytes per 512 descriptors -/
theorem blockAfter_raw (k : Nat) : k * sizeofXattrId / metaBlockSize * (metaBlockSize + 2) = k / 512 * 8194 := by
  rw [descs_div]
  rfl

theorem mul_8194_step (a : Nat) : (a + 1) * 8194 ≠ a * 8194 :=
  Nat.ne_of_gt (Nat.mul_lt_mul_of_pos_right (Nat.lt_succ_self a) (by decide))

/-- **The loop before the repair overruns the array** whenever the number of descriptors is a multiple of 512: the last
descriptor fills its metadata block, `block_offset` moves, and slot `locCount n` — one past the end — is stored. -/
theorem locStores_none_multiple (S : Nat → Nat) (blockAfter : Nat → Nat) (m : Nat) (hS0 : S 0 = 0)
    (hba : ∀ k, 1 ≤ k → k ≤ 512 * m → blockAfter k = S (k / 512)) (hne : ∀ a, a < m → S (a + 1) ≠ S a) :
    locCount (512 * m) = m ∧ (m, S m) ∈ locStores none blockAfter (512 * m) := by
  have hd : 512 * m / 512 = m := Nat.mul_div_cancel_left m (by decide)
  refine ⟨by rw [locCount_eq, hd, Nat.mul_mod_right]; rfl, ?_⟩
  rw [(locStores_eq S blockAfter (512 * m) hS0 hba (by rw [hd]; exact hne)).1, hd]
  exact List.mem_map.mpr ⟨m, List.mem_range.mpr (Nat.lt_succ_self m), rfl⟩

end Sqfs.Enc
