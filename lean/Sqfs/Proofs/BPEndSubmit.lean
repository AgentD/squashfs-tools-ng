/-
`end_file` in stages: an optional sentinel block, then the open block if there is one (`endSubmit`), then the reset of the
front end's fields (`endFile_eq`); `feEndItems` lists the same two stages (`feEndItems_eq`).
-/
import Sqfs.Spec.BlockProcSpec
namespace Sqfs.BlockProc
open Sqfs.Consts
open Sqfs.BlockWriter (hasFlag)

/-- does `end_file` submit a sentinel: blocks of the file have been submitted and the open block will not carry `LAST` -/
def needSentinel (f : Front) : Bool :=
  match f.blkCurrent with
  | none => !hasFlag f.blkFlags blkFirstBlock
  | some cur => !hasFlag f.blkFlags blkDontFragment && !hasFlag cur.flags blkFirstBlock

/-- the open block as `end_file` submits it: the last block under `DONT_FRAGMENT`, else a fragment -/
def feEndCur (f : Front) : Option Blk :=
  f.blkCurrent.map fun cur =>
    { cur with flags := cur.flags ||| (if hasFlag f.blkFlags blkDontFragment then blkLastBlock else blkIsFragment) }

theorem feEndItems_eq (f : Front) : feEndItems f = (if needSentinel f then [feSentinel f] else []) ++ (feEndCur f).toList := by
  unfold feEndItems needSentinel feEndCur
  cases f.blkCurrent with
  | none => simp
  | some cur => by_cases hd : hasFlag f.blkFlags blkDontFragment = true <;> simp [hd]

def endSubmit (P : Params) (s : Proc) : Except Err Proc :=
  match (if needSentinel s.fe then addSentinelBlock P s else .ok s) with
  | .error e => .error e
  | .ok s1 =>
    match feEndCur s.fe with
    | none => .ok s1
    | some y => enqueueBlock P { s1 with blkCurrent := none } y

theorem endFile_eq (P : Params) (s : Proc) :
    endFile P s = (if !s.beginCalled then .error .sequence
                   else match endSubmit P s with
                     | .error e => .error e
                     | .ok s2 => .ok { s2 with beginCalled := false, inode := none, blkFlags := 0 }) := by
  unfold endFile endSubmit needSentinel feEndCur Proc.fe
  cases s.blkCurrent with
  | none =>
    simp only [Option.map_none]
    cases (if (!hasFlag s.blkFlags blkFirstBlock) = true then addSentinelBlock P s else Except.ok s) <;> rfl
  | some cur =>
    by_cases hd : hasFlag s.blkFlags blkDontFragment = true
    · simp only [hd, Bool.not_true, Bool.false_and, Bool.false_eq_true, if_false, if_true, Option.map_some]
      rfl
    · simp only [hd, Bool.not_false, Bool.true_and, Bool.false_eq_true, if_false, Option.map_some]
      cases (if (!hasFlag cur.flags blkFirstBlock) = true then addSentinelBlock P s else Except.ok s) <;> rfl

end Sqfs.BlockProc
