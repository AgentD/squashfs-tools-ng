/-
Helper lemmas for C10 (data reader): the cached reader computes what the cacheless reference computes.
-/
import Sqfs.Spec.DataReaderCache
import Sqfs.Proofs.MetaReader
namespace Sqfs.DataReader
open Sqfs.Consts Sqfs.MetaReader
-- see `Sqfs/Proofs/MetaReader.lean`: the default `split` doubles its cost with every level of a nested `if`/`match`
set_option backward.split false

theorem getBlock_err {f : File} {unc : Codec} (hc : CodecOK unc) {off w n : Nat} {e : Status}
    (h : getBlock f unc off w n = .error e) : e ≠ 0 := by
  revert h
  fun_cases getBlock f unc off w n <;> intro h <;> cases h
  -- a block larger than the room, or a codec that delivers nothing: the literal `SQFS_ERROR_OVERFLOW`
  case case2 | case5 => decide
  -- the status of a failed `read_at`
  case case3 hr | case7 hr => exact (readAt_err hr).1
  -- the status of the decompressor
  case case4 hu => exact Nat.ne_of_gt (hc.2 _ _ _ hu).1

theorem sparse_onDisk {w : Nat} (h : isSparse w = true) : onDisk w = 0 := by
  simpa [isSparse] using h

theorem wordOf_eq {kw : Bool} {sw : Nat → Nat} {d : DR} {loc w : Nat} (hl : d.currentBlock = loc) (hcons : Cons kw sw (loc, w))
    (hk : kw = false ∨ d.currentWord = w) : wordOf kw sw d = w := by
  unfold wordOf
  cases kw with
  | false => exact (hl ▸ hcons.resolve_left (by decide) : sw d.currentBlock = w)
  | true => exact hk.resolve_left (by decide)

/-- `precache_data_block` by its outcome: the block does not load, or the block `get_block` yields is the cached one
(a hit included) -/
theorem precacheData_spec {kw : Bool} {f : File} {unc : Codec} {sw : Nat → Nat} (hc : CodecOK unc) {d : DR}
    (hd : DCoh kw f unc sw d) (loc w : Nat) (hcons : Cons kw sw (loc, w)) :
    DCoh kw f unc sw (precacheData kw f unc d loc w).2 ∧
    (precacheData kw f unc d loc w).2.blockSize = d.blockSize ∧ (precacheData kw f unc d loc w).2.tbl = d.tbl ∧
    ((∃ e, getBlock f unc loc w d.blockSize = .error e ∧ (precacheData kw f unc d loc w).1 = e ∧ e ≠ 0) ∨
     (∃ b, getBlock f unc loc w d.blockSize = .ok b ∧ (precacheData kw f unc d loc w).1 = 0 ∧
        (precacheData kw f unc d loc w).2.dataBlock = some b)) := by
  fun_cases precacheData kw f unc d loc w
  case case1 hhit =>
    -- a hit: coherence says the cached block is what `get_block` yields for the key
    obtain ⟨hs, hl, hk⟩ := hhit
    obtain ⟨b, hb⟩ := Option.isSome_iff_exists.1 hs
    have hg := hd.1 b hb
    rw [wordOf_eq hl hcons hk, hl] at hg
    exact ⟨hd, rfl, rfl, .inr ⟨b, hg, rfl, hb⟩⟩
  case case2 _ e hg => exact ⟨⟨nofun, hd.2⟩, rfl, rfl, .inl ⟨e, hg, rfl, getBlock_err hc hg⟩⟩
  case case3 _ r hg =>
    refine ⟨⟨fun b hb => ?_, hd.2⟩, rfl, rfl, .inr ⟨r, hg, rfl, rfl⟩⟩
    rw [wordOf_eq (d := { d with dataBlock := some r, currentBlock := loc, currentWord := w }) rfl hcons (.inr rfl)]
    exact Option.some.inj hb ▸ hg

/-- `precache_fragment_block` likewise, with the table lookup in front -/
theorem precacheFrag_spec {kw : Bool} {f : File} {unc : Codec} {sw : Nat → Nat} (hc : CodecOK unc) {d : DR}
    (hd : DCoh kw f unc sw d) (idx : Nat) :
    DCoh kw f unc sw (precacheFrag f unc d idx).2 ∧
    (precacheFrag f unc d idx).2.blockSize = d.blockSize ∧ (precacheFrag f unc d idx).2.tbl = d.tbl ∧
    ((d.tbl[idx]? = none ∧ (precacheFrag f unc d idx).1 = errOutOfBounds) ∨
     (∃ ent e, d.tbl[idx]? = some ent ∧ getBlock f unc ent.1 ent.2 d.blockSize = .error e ∧
        (precacheFrag f unc d idx).1 = e ∧ e ≠ 0) ∨
     (∃ ent b, d.tbl[idx]? = some ent ∧ getBlock f unc ent.1 ent.2 d.blockSize = .ok b ∧
        (precacheFrag f unc d idx).1 = 0 ∧ (precacheFrag f unc d idx).2.fragBlock = some b)) := by
  fun_cases precacheFrag f unc d idx
  case case1 hhit =>
    obtain ⟨b, hb⟩ := Option.isSome_iff_exists.1 hhit.1
    obtain ⟨ent, he, hg⟩ := hd.2 b hb
    exact ⟨hd, rfl, rfl, .inr (.inr ⟨ent, b, by rw [hhit.2]; exact he, hg, rfl, hb⟩)⟩
  case case2 _ he => exact ⟨hd, rfl, rfl, .inl ⟨he, rfl⟩⟩
  case case3 _ ent he e hg =>
    exact ⟨⟨hd.1, nofun⟩, rfl, rfl, .inr (.inl ⟨ent, e, he, hg, rfl, getBlock_err hc hg⟩)⟩
  case case4 _ ent he r hg =>
    exact ⟨⟨hd.1, fun b hb => ⟨ent, he, Option.some.inj hb ▸ hg⟩⟩, rfl, rfl, .inr (.inr ⟨ent, r, he, hg, rfl, rfl⟩)⟩

theorem accesses_cons_sparse {w : Nat} (h : isSparse w = true) (rest : List Nat) (off : Nat) :
    accesses (w :: rest) off = accesses rest off := by
  rw [accesses, if_pos h]

theorem accesses_cons {w : Nat} (h : ¬ isSparse w = true) (rest : List Nat) (off : Nat) :
    accesses (w :: rest) off = (off, w) :: accesses rest (off + onDisk w) := by
  rw [accesses, if_neg h]

/-- the cached block loop is the cacheless one, with a reader that is still coherent at the end -/
theorem copyBlocks_spec {kw : Bool} {f : File} {unc : Codec} {sw : Nat → Nat} (hc : CodecOK unc) :
    ∀ (ws : List Nat) (d : DR) (off offset size : Nat) (acc : Bytes), DCoh kw f unc sw d →
      (∀ p ∈ accesses ws off, Cons kw sw p) →
      ∃ d', (DCoh kw f unc sw d' ∧ d'.blockSize = d.blockSize ∧ d'.tbl = d.tbl) ∧
        copyBlocks kw f unc d ws off offset size acc =
          match copyBlocksSpec f unc d.blockSize ws off offset size acc with
          | .error e => .fail e d'
          | .ok r => .cont d' r.1 r.2.1 r.2.2 := by
  intro ws
  induction ws with
  | nil =>
    intro d off offset size acc hd _
    rw [copyBlocks, copyBlocksSpec]
    exact ⟨d, ⟨hd, rfl, rfl⟩, rfl⟩
  | cons w rest ih =>
    intro d off offset size acc hd hcons
    rw [copyBlocks, copyBlocksSpec]
    by_cases hsz : size = 0
    · simp only [hsz, if_true]
      exact ⟨d, ⟨hd, rfl, rfl⟩, rfl⟩
    · simp only [hsz, if_false]
      by_cases hsp : isSparse w = true
      · simp only [hsp, if_true]
        exact ih d _ _ _ _ hd (accesses_cons_sparse hsp rest off ▸ hcons)
      · simp only [hsp, Bool.false_eq_true, if_false]
        rw [accesses_cons hsp] at hcons
        obtain ⟨hd', hbs, htb, hres⟩ := precacheData_spec hc hd off w (hcons _ List.mem_cons_self)
        obtain ⟨e, hg, hs, hne⟩ | ⟨b, hg, hs, hb⟩ := hres
        · simp only [hg, hs, ne_eq, hne, not_false_eq_true, if_true]
          exact ⟨_, ⟨hd', hbs, htb⟩, rfl⟩
        · simp only [hg, hs, ne_eq, not_true_eq_false, if_false, hb]
          obtain ⟨d', ⟨k1, k2, k3⟩, e⟩ := ih (precacheData kw f unc d off w).2 (off + onDisk w) 0
            (size - (if size < d.blockSize - offset then size else d.blockSize - offset))
            (acc ++ (b.1.drop offset).take (if size < d.blockSize - offset then size else d.blockSize - offset)) hd'
            fun p hp => hcons p (List.mem_cons_of_mem _ hp)
          rw [hbs] at e
          exact ⟨d', ⟨k1, k2.trans hbs, k3.trans htb⟩, e⟩

theorem skipBlocks_accesses (bs : Nat) : ∀ (ws : List Nat) (off offset : Nat) (p : Nat × Nat),
    p ∈ accesses (skipBlocks bs ws off offset).1 (skipBlocks bs ws off offset).2.1 → p ∈ accesses ws off := by
  intro ws
  induction ws with
  | nil => intro off offset p hp; simpa [skipBlocks] using hp
  | cons w rest ih =>
    intro off offset p hp
    rw [skipBlocks] at hp
    by_cases hgt : offset > bs
    · simp only [hgt, if_true] at hp
      have := ih _ _ p hp
      by_cases hsp : isSparse w = true
      · rw [accesses_cons_sparse hsp]
        rw [sparse_onDisk hsp, Nat.add_zero] at this
        exact this
      · rw [accesses_cons hsp]
        exact List.mem_cons_of_mem _ this
    · simp only [hgt, if_false] at hp
      exact hp

/-- **the cached reader computes the cacheless reference** (and stays coherent) -/
theorem read_spec {kw : Bool} {f : File} {unc : Codec} {sw : Nat → Nat} (hc : CodecOK unc) {d : DR}
    (hd : DCoh kw f unc sw d) (ino : Inode) (hcons : ConsIno kw sw ino) (o n : Nat) :
    (read kw f unc d ino o n).1 = readSpec f unc d.blockSize d.tbl ino o n ∧
    DCoh kw f unc sw (read kw f unc d ino o n).2 ∧
    (read kw f unc d ino o n).2.blockSize = d.blockSize ∧ (read kw f unc d ino o n).2.tbl = d.tbl := by
  unfold read readSpec
  simp only
  generalize (if n ≥ 2147483647 then 2147483646 else n) = n1
  split
  · exact ⟨rfl, hd, rfl, rfl⟩
  · generalize (if ino.fileSize - o < n1 then ino.fileSize - o else n1) = n2
    split
    · exact ⟨rfl, hd, rfl, rfl⟩
    · have hacc := fun p hp => hcons p (skipBlocks_accesses d.blockSize ino.blocks ino.blocksStart o p hp)
      generalize skipBlocks d.blockSize ino.blocks ino.blocksStart o = sk at hacc ⊢
      obtain ⟨d', ⟨hd', hb, ht⟩, e⟩ := copyBlocks_spec hc sk.1 d sk.2.1 sk.2.2 n2 [] hd hacc
      rw [e]
      cases copyBlocksSpec f unc d.blockSize sk.1 sk.2.1 sk.2.2 n2 [] with
      | error e' => exact ⟨rfl, hd', hb, ht⟩
      | ok r =>
        obtain ⟨o', s', a'⟩ := r
        simp only
        split
        · exact ⟨rfl, hd', hb, ht⟩
        · obtain ⟨hd'', hb'', ht'', hres⟩ := precacheFrag_spec (kw := kw) (sw := sw) hc hd' ino.fragIdx
          have keep := And.intro hd'' (And.intro (hb''.trans hb) (ht''.trans ht))
          rw [ht, hb] at hres
          obtain ⟨hl, hs⟩ | ⟨ent, e, hl, hg, hs, hne⟩ | ⟨ent, fb, hl, hg, hs, hfb⟩ := hres
          · simp only [hl, hs, ne_eq, errOOB_ne_zero, not_false_eq_true, if_true]
            exact ⟨trivial, keep⟩
          · simp only [hl, hg, hs, ne_eq, hne, not_false_eq_true, if_true]
            exact ⟨trivial, keep⟩
          · simp only [hl, hg, hs, ne_eq, not_true_eq_false, if_false, hfb]
            generalize wrap64 (ino.fragOff + o') = fo
            split
            · exact ⟨rfl, keep⟩
            · split <;> exact ⟨rfl, keep⟩

/-! ### `get_fragment`, the stream, `load_fragment_table` -/

theorem getFragment_spec {kw : Bool} {f : File} {unc : Codec} {sw : Nat → Nat} (hc : CodecOK unc) {d : DR}
    (hd : DCoh kw f unc sw d) (ino : Inode) :
    (getFragment f unc d ino).1 = getFragmentSpec f unc d.blockSize d.tbl ino ∧
    DCoh kw f unc sw (getFragment f unc d ino).2 ∧
    (getFragment f unc d ino).2.blockSize = d.blockSize ∧ (getFragment f unc d ino).2.tbl = d.tbl := by
  unfold getFragment getFragmentSpec
  split
  · exact ⟨rfl, hd, rfl, rfl⟩
  · split
    · exact ⟨rfl, hd, rfl, rfl⟩
    · obtain ⟨hd', hb, ht, hres⟩ := precacheFrag_spec (kw := kw) (sw := sw) hc hd ino.fragIdx
      obtain ⟨hl, hs⟩ | ⟨ent, e, hl, hg, hs, hne⟩ | ⟨ent, fb, hl, hg, hs, hfb⟩ := hres
      · simp only [hl, hs, ne_eq, errOOB_ne_zero, not_false_eq_true, if_true]
        exact ⟨trivial, hd', hb, ht⟩
      · simp only [hl, hg, hs, ne_eq, hne, not_false_eq_true, if_true]
        exact ⟨trivial, hd', hb, ht⟩
      · simp only [hl, hg, hs, ne_eq, not_true_eq_false, if_false, hfb]
        split <;> exact ⟨rfl, hd', hb, ht⟩

theorem fresh_dcoh (kw : Bool) (f : File) (unc : Codec) (sw : Nat → Nat) (bs : Nat) (tbl : List (Nat × Nat)) :
    DCoh kw f unc sw (fresh bs tbl) := by
  constructor <;> intro b hb <;> cases hb

theorem streamFill_spec {kw : Bool} {f : File} {unc : Codec} {sw : Nat → Nat} (hc : CodecOK unc) {d : DR}
    (hd : DCoh kw f unc sw d) (s : Stream) (used : Nat) :
    (streamFill f unc d s used).1 = (streamFill f unc (fresh d.blockSize d.tbl) s used).1 ∧
    DCoh kw f unc sw (streamFill f unc d s used).2 ∧
    (streamFill f unc d s used).2.blockSize = d.blockSize ∧ (streamFill f unc d s used).2.tbl = d.tbl := by
  obtain ⟨hd', hb', ht', hres⟩ := precacheFrag_spec (kw := kw) (sw := sw) hc hd s.fragIdx
  unfold streamFill
  rw [show (fresh d.blockSize d.tbl).blockSize = d.blockSize from rfl]
  cases hblk : s.blocks with
  | cons w rest =>
    -- a data block: every path computes its answer from the stream and the image and hands the reader back as it is
    simp only
    (repeat' split) <;> exact ⟨rfl, hd, rfl, rfl⟩
  | nil =>
    -- the tail: the reader with nothing cached misses, looks the entry up and calls `get_block`, with the outcome
    -- `precacheFrag_spec` states for `d`
    have hfresh : precacheFrag f unc (fresh d.blockSize d.tbl) s.fragIdx =
        match d.tbl[s.fragIdx]? with
        | none => (errOutOfBounds, fresh d.blockSize d.tbl)
        | some ent =>
          match getBlock f unc ent.1 ent.2 d.blockSize with
          | .error e => (e, { fresh d.blockSize d.tbl with fragBlock := none, currentFrag := s.fragIdx })
          | .ok r => (0, { fresh d.blockSize d.tbl with fragBlock := some r, currentFrag := s.fragIdx }) := rfl
    simp only [hfresh]
    obtain ⟨hl, hs⟩ | ⟨ent, e, hl, hg, hs, hne⟩ | ⟨ent, fb, hl, hg, hs, hfb⟩ := hres
    · simp only [hl, hs, ne_eq, errOOB_ne_zero, not_false_eq_true, if_true]
      exact ⟨trivial, hd', hb', ht'⟩
    · simp only [hl, hg, hs, ne_eq, hne, not_false_eq_true, if_true]
      exact ⟨trivial, hd', hb', ht'⟩
    · simp only [hl, hg, hs, ne_eq, not_true_eq_false, if_false, hfb]
      split <;> exact ⟨rfl, hd', hb', ht'⟩

theorem streamGet_spec {kw : Bool} {f : File} {unc : Codec} {sw : Nat → Nat} (hc : CodecOK unc) (sfix : Bool) {d : DR}
    (hd : DCoh kw f unc sw d) (s : Stream) :
    ((streamGet sfix f unc d s).1, (streamGet sfix f unc d s).2.1) = streamGetSpec sfix f unc d.blockSize d.tbl s ∧
    DCoh kw f unc sw (streamGet sfix f unc d s).2.2 ∧
    (streamGet sfix f unc d s).2.2.blockSize = d.blockSize ∧ (streamGet sfix f unc d s).2.2.tbl = d.tbl := by
  unfold streamGetSpec
  change _ = ((streamGet sfix f unc (fresh d.blockSize d.tbl) s).1, (streamGet sfix f unc (fresh d.blockSize d.tbl) s).2.1) ∧ _
  unfold streamGet
  split
  · exact ⟨rfl, hd, rfl, rfl⟩
  · split
    · exact ⟨rfl, hd, rfl, rfl⟩
    · simp only
      have hbs : (fresh d.blockSize d.tbl).blockSize = d.blockSize := rfl
      rw [hbs]
      generalize (if s.filesz < d.blockSize then s.filesz else d.blockSize) = used
      generalize hs1 : ({ s with bufOff := 0, bufUsed := used } : Stream) = s1
      obtain ⟨q1, q2, q3, q4⟩ := streamFill_spec (kw := kw) (sw := sw) hc hd s1 used
      generalize streamFill f unc (fresh d.blockSize d.tbl) s1 used = rb at q1
      generalize streamFill f unc d s1 used = rd at q1 q2 q3 q4
      obtain ⟨fd, dd⟩ := rd
      obtain ⟨fb, db⟩ := rb
      simp only at q1 q2 q3 q4
      subst q1
      cases fd with
      | ok mem s' => exact ⟨rfl, q2, q3, q4⟩
      | fail e => exact ⟨rfl, q2, q3, q4⟩
      | early e => exact ⟨rfl, q2, q3, q4⟩

theorem reload_dcoh {kw : Bool} {f : File} {unc : Codec} {sw : Nat → Nat} {d : DR} (hd : DCoh kw f unc sw d)
    (t : Except Status (List (Nat × Nat))) :
    DCoh kw f unc sw (reload d t) ∧ (reload d t).blockSize = d.blockSize := by
  unfold reload
  cases t with
  | ok t => exact ⟨⟨hd.1, fun fb h => nomatch h⟩, rfl⟩
  | error e => exact ⟨⟨hd.1, fun fb h => nomatch h⟩, rfl⟩

/-- the histories whose `read`s use inodes consistent with `sw` (no condition when `kw = true`) -/
def OpsCons (kw : Bool) (sw : Nat → Nat) (h : List OpX) : Prop :=
  ∀ op ∈ h, match op with | .read ino _ _ => ConsIno kw sw ino | _ => True

theorem consIno_true (sw : Nat → Nat) (ino : Inode) : ConsIno true sw ino := fun _ _ => .inl rfl

theorem opsCons_true (sw : Nat → Nat) (h : List OpX) : OpsCons true sw h := by
  intro op _; cases op <;> first | exact consIno_true sw _ | trivial

theorem run_dcoh {kw : Bool} {f : File} {unc : Codec} {sw : Nat → Nat} (hc : CodecOK unc) (sfix : Bool) (h : List OpX) :
    ∀ d : DR, DCoh kw f unc sw d → OpsCons kw sw h →
      DCoh kw f unc sw (runX kw sfix f unc d h) ∧ (runX kw sfix f unc d h).blockSize = d.blockSize := by
  induction h with
  | nil => intro d hd _; exact ⟨hd, rfl⟩
  | cons op rest ih =>
    intro d hd hall
    have hrest : OpsCons kw sw rest := fun op hop => hall op (List.mem_cons_of_mem _ hop)
    have hstep : DCoh kw f unc sw (stepX kw sfix f unc d op) ∧ (stepX kw sfix f unc d op).blockSize = d.blockSize := by
      cases op with
      | read ino o n =>
        have hi : ConsIno kw sw ino := hall (.read ino o n) List.mem_cons_self
        obtain ⟨_, h2, h3, _⟩ := read_spec hc hd ino hi o n
        exact ⟨h2, h3⟩
      | frag ino =>
        obtain ⟨_, h2, h3, _⟩ := getFragment_spec hc hd ino
        exact ⟨h2, h3⟩
      | sget s c =>
        obtain ⟨_, h2, h3, _⟩ := streamGet_spec hc sfix hd s
        exact ⟨h2, h3⟩
      | reload t => exact reload_dcoh hd t
    have := ih _ hstep.1 hrest
    unfold runX at this ⊢
    simp only [List.foldl_cons]
    exact ⟨this.1, this.2.trans hstep.2⟩

/-- **the answers of a coherent reader depend on its block size and fragment table alone**: two coherent readers that agree on
    both answer alike at every entry point that goes through a cache (each answers what the cacheless reference computes) -/
theorem answers_eq {kw : Bool} {f : File} {unc : Codec} {sw : Nat → Nat} (hc : CodecOK unc) (sfix : Bool) {d d' : DR}
    (hd : DCoh kw f unc sw d) (hd' : DCoh kw f unc sw d') (hb : d.blockSize = d'.blockSize) (ht : d.tbl = d'.tbl) :
    (∀ ino o n, ConsIno kw sw ino → (read kw f unc d ino o n).1 = (read kw f unc d' ino o n).1) ∧
    (∀ ino, (getFragment f unc d ino).1 = (getFragment f unc d' ino).1) ∧
    (∀ s, ((streamGet sfix f unc d s).1, (streamGet sfix f unc d s).2.1) =
          ((streamGet sfix f unc d' s).1, (streamGet sfix f unc d' s).2.1)) := by
  refine ⟨fun ino o n hi => ?_, fun ino => ?_, fun s => ?_⟩
  · rw [(read_spec hc hd ino hi o n).1, (read_spec hc hd' ino hi o n).1, hb, ht]
  · rw [(getFragment_spec hc hd ino).1, (getFragment_spec hc hd' ino).1, hb, ht]
  · rw [(streamGet_spec hc sfix hd s).1, (streamGet_spec hc sfix hd' s).1, hb, ht]

theorem runX_embed (kw sfix : Bool) (f : File) (unc : Codec) (h : List Op) :
    ∀ d : DR, runX kw sfix f unc d (h.map Op.toX) = run kw f unc d h := by
  induction h with
  | nil => intro d; rfl
  | cons op rest ih =>
    intro d
    cases op with
    | read ino o n =>
      unfold runX run at ih ⊢
      simp only [List.map_cons, List.foldl_cons, Op.toX, stepX, step]
      exact ih _

end Sqfs.DataReader
