/-
What the instances of `Sqfs/Props/C04.lean` run on, each evaluated here once: `FromImage` for concrete trees and the tree (directory,
file with content and two xattrs, symlink, device, hard link) that meets this hypothesis of the fix-point theorems; an entry for the
header round trip; a POSIX ustar block.
-/
import Sqfs.Spec.TarFix
namespace Sqfs.Tar

open Sqfs.Path (canonicalize joinSlash) in
/-- every clause of `NodeOK` is decidable once the two that speak of the target are read off `n.target` -/
instance (img : ImgData) (n : TNode) : Decidable (NodeOK img n) :=
  decidable_of_iff
    (n.path ≠ [] ∧ (∀ c ∈ n.path, CleanComp c) ∧
     (fmt n.mode = S_IFREG ∨ fmt n.mode = S_IFDIR ∨ fmt n.mode = S_IFLNK ∨ fmt n.mode = S_IFCHR ∨ fmt n.mode = S_IFBLK ∨
        fmt n.mode = S_IFIFO) ∧
     n.implicit = false ∧ n.uid ≤ 0xFFFFFFFF ∧ n.gid ≤ 0xFFFFFFFF ∧ n.modTime ≤ 0xFFFFFFFF ∧
     (fmt n.mode = S_IFLNK → n.mode = S_IFLNK + 0o777) ∧ (n.hardLink = true → fmt n.mode = S_IFLNK) ∧
     (fmt n.mode = S_IFLNK → ∃ tg ∈ n.target, (∀ x ∈ tg, x ≠ 0) ∧ tg.length ≤ 65536) ∧
     (n.hardLink = true → ∃ tg ∈ n.target, canonicalize tg = some tg) ∧
     (fmt n.mode ≠ S_IFLNK → n.target = none) ∧
     (fmt n.mode = S_IFCHR ∨ fmt n.mode = S_IFBLK → (img.dev n.path).1 < 4096 ∧ (img.dev n.path).2 < 1048576) ∧
     (joinSlash n.path).length + 1 ≤ 65536 ∧ (img.content n.path).length < U64 ∧
     (∀ kv ∈ img.xattr n.path, ∀ x ∈ kv.1, x ≠ 0) ∧ (paxPayload (img.xattr n.path).reverse).length ≤ 65536)
    ⟨fun ⟨a1, a2, a3, a4, a5, a6, a7, a8, a9, a10, a11, a12, a13, a14, a15, a16, a17⟩ =>
        ⟨a1, a2, a3, a4, a5, a6, a7, a8, a9, a10, a11, a12, a13, a14, a15, a16, a17⟩,
     fun h => ⟨h.pathNe, h.comps, h.kind, h.explicit, h.uid, h.gid, h.mtime, h.lnkMode, h.hardMode, h.lnkTarget, h.hardTarget,
        h.noTarget, h.dev, h.nameLen, h.contentLen, h.keyNul, h.paxLen⟩⟩
/-- `FromImage` of a concrete tree, in a form whose three hypotheses evaluate -/
theorem fromImage_of_checks {img : ImgData} {t : List TNode} (hn : ∀ n ∈ t, NodeOK img n) (hd : (t.map (·.path)).Nodup)
    (hp : ∀ i : Fin t.length, ∀ k : Fin t[i].path.length, 0 < k.val →
      ∃ j : Fin t.length, j.val < i.val ∧ t[j].path = t[i].path.take k ∧ isDirMode t[j].mode = true) : FromImage img t where
  nodes := hn
  distinct := fun i j hi hj h =>
    (List.getElem_inj (xs := t.map (·.path)) (h₀ := by simpa using hi) (h₁ := by simpa using hj) hd).1
      (by rw [List.getElem_map, List.getElem_map]; exact h)
  parents := fun i hi k h0 hk => by
    obtain ⟨j, hji, hp, hd⟩ := hp ⟨i, hi⟩ ⟨k, hk⟩ h0
    exact ⟨j, j.2, hji, hp, hd⟩

end Sqfs.Tar

namespace Sqfs.C04
open Sqfs.Tar

abbrev exImg : ImgData :=
  { content := fun p => if p = [ascii "d", ascii "f"] then [104, 105, 0] else [],
    xattr := fun p => if p = [ascii "d", ascii "f"] then [(ascii "user.a=b", [1, 0]), (ascii "user.c", [])] else [],
    dev := fun p => if p = [ascii "null"] then (1, 3) else (0, 0) }
abbrev exTree : List TNode :=
  [ ⟨[ascii "d"], 0o040755, 0, 0, 1700000000, false, false, none⟩,
    ⟨[ascii "d", ascii "f"], 0o100644, 1000, 1000, 4294967295, false, false, none⟩,
    ⟨[ascii "d", ascii "l"], 0o120777, 0, 0, 0, false, false, some (ascii "../x y")⟩,
    ⟨[ascii "null"], 0o020666, 0, 0, 5, false, false, none⟩,
    ⟨[ascii "h"], 0o120777, 1000, 1000, 4294967295, false, true, some (ascii "d/f")⟩ ]

theorem exTree_fromImage : FromImage exImg exTree := fromImage_of_checks (by decide) (by decide) (by decide)

/-! the entry and the extended attributes of the header round trip's instance, and the round trip's hypothesis about them -/
abbrev exEntry : WEntry := ⟨List.replicate 100 97, 0o100644, 16777216, 2097152, 5, -1, 0, 0, false⟩
abbrev exXs : List (Bytes × Bytes) := [(ascii "user.a=b%", [0, 61, 10, 255]), (ascii "user.k", [])]

theorem exEntry_encodable : Encodable exEntry none exXs :=
  { nameNul := by decide +kernel, tgtNul := by decide, keyNul := by decide +kernel, size := by decide, mtime := by decide,
    uid := by decide, gid := by decide, dev := by decide, nameLen := by decide +kernel, tgtLen := by decide,
    paxLen := by decide +kernel, slink := by decide, hlink := by decide }

/-! a POSIX ustar block with a `prefix` (a dialect the own writer never produces), and what the instances of
`Sqfs/Props/C04.lean` need of it, evaluated once -/
abbrev posixBlock : Bytes :=
  updateChecksum (field 100 (ascii "file") ++ writeNumber 0o644 8 ++ writeNumber 1000 8 ++ writeNumber 100 8 ++ writeNumber 5 12 ++
    writeNumber 1542905892 12 ++ zeros 8 ++ [48] ++ zeros 100 ++ [117, 115, 116, 97, 114, 0] ++ [48, 48] ++ field 32 (ascii "user") ++
    field 32 (ascii "group") ++ writeNumber 0 8 ++ writeNumber 0 8 ++ field 155 (ascii "some/dir") ++ zeros 12)

theorem posixBlock_eval :
    (posixBlock.length = 512 ∧ isZeroBlock posixBlock = false ∧ checkVersion posixBlock = some .posix ∧
      isChecksumValid posixBlock = true ∧ (slice posixBlock 156 1).headD 0 = 48) ∧
    (specDecode posixBlock 0 {} .posix).map (fun d => (d.name, d.mode, d.uid, d.gid, d.recordSize, d.mtime)) =
      some (some (ascii "some/dir/file"), 0o100644, 1000, 100, 5, 1542905892) := by decide +kernel

end Sqfs.C04
