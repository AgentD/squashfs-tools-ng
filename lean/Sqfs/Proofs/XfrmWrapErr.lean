/-
C15 — corrupted input.  The `process_data` loop of gzip.c / xz.c / bzip2.c over a library that follows the error-return
convention `LibDoom` (an error code, or progress inside the buffers, never `STREAM_END` on input that has gone wrong) is a
decoder meeting `Doom` / `DecErrContract`: it reports `XFRM_STREAM_ERROR` or makes progress, and at the end of the input it
reports the error (`total_in > 0`) unless it still has output — it never comes back empty-handed, never spins.
-/
import Sqfs.Proofs.XfrmWrapDec
namespace Sqfs.Xfrm

section WrapErr
variable {τ : Type} {L : Lib τ} {b : Backend} {Dec : Bytes → Option Bytes}

/-- what one `process_data` call of a decompressing backend does once the input has gone wrong -/
def DoomPost (hL : LibDecContract L b Dec) (E : LibDoom hL) (s : τ) (rest inp : Bytes) (j room : Nat) (fl : Flush)
    (r : StepOut τ) : Prop :=
  r.res = Res.error ∨
  (r.consumed ≤ inp.length ∧ r.out.length ≤ room ∧ (∃ j', E.B r.st (rest.drop r.consumed) j' ∧ r.out.length + j' ≤ j) ∧
    (r.res = Res.bufferFull → r.out ≠ []) ∧
    (0 < room → inp ≠ [] → 0 < r.consumed ∨ hL.pend r.st < hL.pend s) ∧
    (0 < room → fl = Flush.full → inp = [] → r.out ≠ []))

theorem wrapProcess_doom_spec (hL : LibDecContract L b Dec) (E : LibDoom hL) {s : τ} {rest : Bytes} {j : Nat}
    (hB : E.B s rest j) (inp : Bytes) (room : Nat) (fl : Flush) (hin : IsPre inp rest) (hfull : fl = Flush.full → inp = rest) :
    ∃ r, wrapProcess L b false s inp room fl = some r ∧ DoomPost hL E s rest inp j room fl r := by
  refine iter_buf (wrapBody L b false fl) inp room
    (fun st ai ao => (∃ j1, E.B st (rest.drop ai) j1 ∧ ao.length + j1 ≤ j) ∧ Track (hL.pend s) inp (hL.pend st) ai ao)
    (DoomPost hL E s rest inp j room fl) ?_ ⟨⟨j, by simpa using hB, by simp⟩, Or.inl ⟨rfl, rfl, rfl⟩⟩
  rintro st inp' room' ai ao hinp hai hao ⟨⟨j1, hB1, hj1⟩, htrack⟩
  have hin' : IsPre inp' (rest.drop ai) := by rw [hinp]; exact hin.drop ai
  by_cases hcond : (inp' ≠ [] ∨ fl = Flush.full) ∧ 0 < room'
  · obtain ⟨hwork, hr0⟩ := hcond
    rcases E.call hB1 inp' room' fl hin' hr0 _ rfl with hbad | ⟨hret, hcl, hol, ⟨j', hB', hjj⟩, hbytes, hquiet, hprog⟩
    · -- the library reports an error
      rw [wrapBody_bad L b false fl st inp' room' ai ao hwork hr0 _ rfl hbad]
      exact Or.inl rfl
    have hcases := wrapBody_dec_cases L b fl st inp' room' ai ao hwork hr0 _ _ rfl rfl (.of_not_end hret) hcl hbytes hquiet
    generalize L.call st inp' room' fl = r at *
    have hE : r.ret ≠ LibRet.streamEnd := by
      rcases hret with h | ⟨h, _⟩ <;> rw [h] <;> simp
    rw [List.drop_drop] at hB'
    have hprogN := htrack.progress hai hprog
    rcases hcases with ⟨hE', _⟩ | ⟨_, hc, hout, hfl, hb⟩ | ⟨_, hout, hb⟩ | ⟨hok, hpos, hnil_out, hb⟩
    · exact absurd hE' hE
    · -- "no more input will follow and nothing is left to unpack": total_in > 0, the error
      have hrest0 : rest.drop (ai + r.consumed) = [] := List.drop_eq_nil_of_le (by rw [← hfull hfl]; omega)
      have hti : 0 < L.totalIn r.st := Nat.pos_of_ne_zero (fun h0 => E.total hB' h0 hrest0)
      rw [hb]
      exact Or.inl (if_pos hti)
    · -- `BUFFER_FULL` comes with output
      have hbfout : ao ++ r.out ≠ [] := fun h => hout (List.append_eq_nil_iff.1 h).2
      rw [hb]
      exact Or.inr ⟨by simp only; omega, by simp only [List.length_append]; omega,
        ⟨j', hB', by simp only [List.length_append]; omega⟩, fun _ => hbfout, fun _ hne => hprogN hne, fun _ _ _ => hbfout⟩
    · rw [hb]
      refine ⟨_, _, _, rfl, hcl, hol, hpos, ⟨j', hB', by simp only [List.length_append]; omega⟩,
        Or.inr ⟨hprogN, fun hnil hh => ?_⟩⟩
      exact hnil_out (by rw [hinp, hnil]; simp) (List.append_eq_nil_iff.1 hh).2
  · -- the loop condition is false: leave with XFRM_STREAM_OK
    rw [wrapBody_idle L b false fl st inp' room' ai ao hcond]
    exact Or.inr ⟨by simp only; omega, by simp only; omega, ⟨j1, hB1, hj1⟩, fun h => (by cases h),
      fun hr0 hne => (htrack.started hinp hao hcond hr0 (Or.inl hne)).1 hne,
      fun hr0 hfl hnil => (htrack.started hinp hao hcond hr0 (Or.inr hfl)).2 hnil⟩

def wrapDoom (hL : LibDecContract L b Dec) (E : LibDoom hL) : Doom (wrapDecContract hL) where
  B := E.B
  budget := E.budget
  step_none := by
    intro s rest j hB n room hn hnr hroom r hr
    subst hr
    have hlen : (rest.take n).length = n := List.length_take_of_le hnr
    obtain ⟨r, hrun, hpost⟩ := wrapProcess_doom_spec hL E hB (rest.take n) room Flush.none (IsPre.take _ _) (fun h => by cases h)
    rw [wrapCodec_step hrun]
    rcases hpost with he | ⟨h1, h2, h3, h4, h5, _⟩
    · exact Or.inl he
    · exact Or.inr ⟨h2, by omega, h3, h4, (h5 hroom (take_ne_nil hn (List.length_pos_iff.1 (by omega)))).imp id Or.inl⟩
  step_full := by
    intro s j hB room hroom r hr
    subst hr
    obtain ⟨r, hrun, hpost⟩ := wrapProcess_doom_spec hL E hB [] room Flush.full (IsPre.nil _) (fun _ => rfl)
    rw [wrapCodec_step hrun]
    rcases hpost with he | ⟨h1, h2, ⟨j', h3, h3'⟩, _, _, h6⟩
    · exact Or.inl he
    · have hc0 := Nat.le_zero.1 h1
      rw [hc0, List.drop_zero] at h3
      exact Or.inr ⟨hc0, h6 hroom rfl rfl, h2, j', h3, h3'⟩

def wrapDecErrContract (hL : LibDecContract L b Dec) (hE : LibDecErrContract hL) : DecErrContract (wrapDecContract hL) where
  toDoom := wrapDoom hL hE.toLibDoom
  enter := fun hR hd => hE.enter hR hd

end WrapErr

end Sqfs.Xfrm
