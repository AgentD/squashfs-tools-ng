/-
C04 — the header round trip, composed: the records `write_tar_header` emits for one entry (optional PAX 'x', GNU 'K',
GNU 'L', then the real header) through the loop of `read_header`.
-/
import Sqfs.Proofs.TarDecode
import Sqfs.Proofs.TarPaxRT
namespace Sqfs.Tar

/-- the header block of an extension record: a pseudo file of `p.length` bytes -/
def extHdr (orig : WEntry) (p : Bytes) (tf : UInt8) (nm : Bytes) : HdrFields :=
  ⟨field 100 (nm.take 99), 0o644, orig.uid, orig.gid, p.length, orig.mtime, tf, zeros 100, 0, 0⟩

theorem extHdr_sized (orig : WEntry) (p : Bytes) (tf : UInt8) (nm : Bytes) : (extHdr orig p tf nm).Sized :=
  ⟨field_length _ _, zeros_length _⟩

theorem writeExtHeader_eq (orig : WEntry) (p : Bytes) (tf : UInt8) (nm : Bytes) :
    writeExtHeader orig p tf nm = (extHdr orig p tf nm).block ++ (p ++ zeros (padding p.length)) := by
  unfold writeExtHeader writeHeaderRec HdrFields.block hdrBlock extHdr
  have h1 : fmt (S_IFREG + 0o644) = S_IFREG := by decide
  have h2 : perm (S_IFREG + 0o644) = 0o644 := by decide
  simp only [h1, h2, if_true, List.append_assoc]
  have h3 : ¬ (S_IFREG = S_IFCHR ∨ S_IFREG = S_IFBLK) := by decide
  simp only [h3, if_false]

theorem ext_isHdr (orig : WEntry) (p : Bytes) (tf : UInt8) (nm : Bytes) (h : p.length ≤ 65536) :
    IsHdr (extHdr orig p tf nm).block tf p.length :=
  HdrFields.block_isHdr (extHdr_sized orig p tf nm) (show p.length < U64 by simp only [U64]; omega)

section cps
variable (orig : WEntry) (p nm s' : Bytes) (out : Decoded) (mask : Nat) (R : ReadResult)

/-- the optional GNU 'K' record: if it is there, its payload is the link target and wins over the header's field -/
theorem cps_K (b : Bool) (h1 : b = true → 1 ≤ p.length) (h2 : p.length ≤ 65536)
    (hc : Reads {} s' { out with link := if b then some (cstr p) else out.link }
            (if b then setFlag mask PAX_SLINK_TARGET else mask) R) :
    Reads {} ((if b then writeExtHeader orig p 75 nm else []) ++ s') out mask R := by
  cases b with
  | false => exact hc
  | true =>
    rw [if_pos rfl, writeExtHeader_eq, List.append_assoc, List.append_assoc]
    exact Reads.ext (.inl rfl) (ext_isHdr orig p 75 nm h2) (h1 rfl) h2 (extApply_K _ _ _) hc

/-- the optional GNU 'L' record, likewise for the name -/
theorem cps_L (b : Bool) (h1 : b = true → 1 ≤ p.length) (h2 : p.length ≤ 65536)
    (hc : Reads {} s' { out with name := if b then some (cstr p) else out.name } (if b then setFlag mask PAX_NAME else mask) R) :
    Reads {} ((if b then writeExtHeader orig p 76 nm else []) ++ s') out mask R := by
  cases b with
  | false => exact hc
  | true =>
    rw [if_pos rfl, writeExtHeader_eq, List.append_assoc, List.append_assoc]
    exact Reads.ext (.inr (.inl rfl)) (ext_isHdr orig p 76 nm h2) (h1 rfl) h2 (extApply_L _ _ _) hc

end cps

/-- the pairs of a `pax/xattrN` payload come back in reverse order: the reader prepends -/
theorem readPaxHeader_payload (xs : List (Bytes × Bytes)) (out : Decoded) (mask : Nat) (hk : ∀ kv ∈ xs, ∀ x ∈ kv.1, x ≠ 0) :
    readPaxHeader {} (paxPayload xs) out mask = some ({ out with xattr := xs.reverse ++ out.xattr }, mask) := by
  unfold readPaxHeader paxPayload
  rw [paxLoop_schily xs _ _ hk (Nat.le_refl _)]
  rfl

/-- the optional PAX 'x' record (always first): the header starts from scratch with exactly the written pairs, reversed -/
theorem cps_x (orig : WEntry) (xs : List (Bytes × Bytes)) (nm s' : Bytes) (R : ReadResult)
    (hk : ∀ kv ∈ xs, ∀ x ∈ kv.1, x ≠ 0) (h2 : (paxPayload xs).length ≤ 65536) (hc : Reads {} s' { xattr := xs.reverse } 0 R) :
    Reads {} ((if xs.isEmpty then [] else writeSchilyXattr orig nm xs) ++ s') {} 0 R := by
  cases xs with
  | nil => exact hc
  | cons kv t =>
    have hpos : 1 ≤ (paxPayload (kv :: t)).length := by
      have := schilyRecord_pos kv.1 kv.2
      simp only [paxPayload, List.map_cons, List.flatten_cons, List.length_append]
      omega
    show Reads {} (writeExtHeader orig (paxPayload (kv :: t)) 120 nm ++ s') {} 0 R
    rw [writeExtHeader_eq, List.append_assoc, List.append_assoc]
    refine Reads.ext (om := ({ xattr := (kv :: t).reverse }, 0)) (.inr (.inr rfl)) (ext_isHdr orig _ 120 nm h2) hpos h2 ?_ hc
    rw [extApply_x, readPaxHeader_payload (kv :: t) {} 0 hk, List.append_nil]

/-- the masks the writer's records can produce -/
def nlMask (l k : Bool) : Nat := (if k then PAX_SLINK_TARGET else 0) + (if l then PAX_NAME else 0)

theorem nlMask_only (l k : Bool) : OnlyNameLink (nlMask l k) := by
  cases l <;> cases k <;> exact ⟨by decide, by decide, by decide, by decide, by decide, by decide, by decide⟩

theorem nlMask_name (l k : Bool) : hasFlag (nlMask l k) PAX_NAME = l := by cases l <;> cases k <;> decide
theorem nlMask_link (l k : Bool) : hasFlag (nlMask l k) PAX_SLINK_TARGET = k := by cases l <;> cases k <;> decide
theorem nlMask_setK (l : Bool) : setFlag (nlMask l false) PAX_SLINK_TARGET = nlMask l true := by cases l <;> decide
theorem nlMask_setL (k : Bool) : setFlag (nlMask false k) PAX_NAME = nlMask true k := by cases k <;> decide

theorem setFlags_eq_nlMask (bl bk : Bool) :
    (if bl then setFlag (if bk then setFlag 0 PAX_SLINK_TARGET else 0) PAX_NAME else (if bk then setFlag 0 PAX_SLINK_TARGET else 0)) =
      nlMask bl bk := by
  cases bl <;> cases bk <;> decide

/-- the optional records of one member in the writer's order, then a header block of the writer -/
theorem readHeader_records (e : WEntry) (xs : List (Bytes × Bytes)) (nx nk nl pK rest : Bytes) (bk bl : Bool) (a : HdrFields)
    (hkey : ∀ kv ∈ xs, ∀ x ∈ kv.1, x ≠ 0) (hpax : (paxPayload xs).length ≤ 65536)
    (hK1 : bk = true → 1 ≤ pK.length) (hK2 : pK.length ≤ 65536) (hL1 : bl = true → 1 ≤ e.name.length) (hL2 : e.name.length ≤ 65536)
    (hs : a.Sized) (hf : a.Fits) (htf : PlainFlag a.tf) :
    readHeader ((if xs.isEmpty then [] else writeSchilyXattr e nx xs) ++ ((if bk then writeExtHeader e pK 75 nk else []) ++
        ((if bl then writeExtHeader e e.name 76 nl else []) ++ (a.block ++ rest)))) =
      .ok { decodedMain a (nlMask bl bk)
              { xattr := xs.reverse, link := if bk then some (cstr pK) else none, name := if bl then some (cstr e.name) else none }
            with actualSize := a.size } rest := by
  refine (cps_x e xs nx _ _ hkey hpax (cps_K e pK nk _ { xattr := xs.reverse } _ _ bk hK1 hK2
    (cps_L e e.name nl _ { xattr := xs.reverse, link := if bk then some (cstr pK) else none } _ _ bl hL1 hL2 ?_))).readHeaderWith
  rw [setFlags_eq_nlMask]
  exact Reads.main {} rest hs hf _ _ (nlMask_only bl bk) htf rfl

/-- `write_tar_header` and `write_hard_link` decide record and field together: `(pre, x) = c ? (record, substitute) : ([], original)` -/
theorem ite_pair {α β : Type} (c : Prop) [Decidable c] (a a' : α) (b b' : β) :
    (if c then (a, b) else (a', b')) = (if c then a else a', if c then b else b') := by
  split <;> rfl

/-- name left for the real header -/
def mainName (e : WEntry) (n : Nat) : Bytes := if e.name.length ≥ 100 then ascii "gnu/data" ++ decStr n else e.name
/-- link target left for the real header -/
def mainSlink (e : WEntry) (tgt : Option Bytes) : Option Bytes :=
  if fmt e.mode = S_IFLNK ∧ e.size ≥ 100 then none else if fmt e.mode = S_IFLNK then tgt else none

theorem writeTarHeader_shape (e : WEntry) (tgt : Option Bytes) (xs : List (Bytes × Bytes)) (n : Nat) (t : UInt8)
    (hh : e.hardLink = false) (ht : entryType e.mode = some t) :
    writeTarHeader e tgt xs n = some (
      (if xs.isEmpty then [] else writeSchilyXattr e (ascii "pax/xattr" ++ decStr n) xs) ++
      ((if decide (fmt e.mode = S_IFLNK ∧ e.size ≥ 100) then
          writeExtHeader e ((tgt.getD []).take e.size) 75 (ascii "gnu/target" ++ decStr n) else []) ++
       ((if decide (e.name.length ≥ 100) then writeExtHeader e e.name 76 (ascii "gnu/name" ++ decStr n) else []) ++
        writeHeaderRec e (mainName e n) (mainSlink e tgt) t))) := by
  unfold writeTarHeader writeTarHeaderK
  simp only [hh, Bool.false_eq_true, if_false, ht]
  unfold extRecordsK mainName mainSlink
  simp only [ite_pair, decide_eq_true_eq, List.append_assoc]
  -- inside the 'K' record the entry is a symbolic link, so its target is `tgt`
  by_cases hk : fmt e.mode = S_IFLNK ∧ e.size ≥ 100
  · simp only [hk, and_self, if_true]; rfl
  · simp only [hk, if_false]; rfl

/-- the `linkname` field `write_header` fills in -/
def linkField (e : WEntry) (slink : Option Bytes) : Bytes :=
  match slink with
  | some t => field 100 (t.take e.size)
  | none => zeros 100

theorem linkField_length (e : WEntry) (slink : Option Bytes) : (linkField e slink).length = 100 := by
  cases slink <;> simp [linkField, field_length, zeros_length]

/-- `int maj = major(rdev)` passed on as `sqfs_u64` -/
def sext32 (x : Nat) : Nat := if x ≥ 2147483648 then x % 4294967296 + (U64 - 4294967296) else x

theorem sext32_of_lt (d : Nat) (hd : d < 2147483648) : sext32 d = d := if_neg (by omega)

/-- the fields `write_header` fills in -/
def hdrOf (e : WEntry) (nm : Bytes) (slink : Option Bytes) (t : UInt8) : HdrFields :=
  ⟨field 100 (nm.take 99), perm e.mode, e.uid, e.gid, if fmt e.mode = S_IFREG then e.size else 0, e.mtime, t, linkField e slink,
   if fmt e.mode = S_IFCHR ∨ fmt e.mode = S_IFBLK then sext32 e.devMajor else 0,
   if fmt e.mode = S_IFCHR ∨ fmt e.mode = S_IFBLK then sext32 e.devMinor else 0⟩

theorem writeHeaderRec_eq (e : WEntry) (nm : Bytes) (slink : Option Bytes) (t : UInt8) :
    writeHeaderRec e nm slink t = (hdrOf e nm slink t).block := by
  unfold writeHeaderRec HdrFields.block hdrBlock hdrOf linkField sext32
  cases slink <;> rfl

theorem decodedMain_entry (e : WEntry) (nm : Bytes) (slink : Option Bytes) (t : UInt8) (h : entryType e.mode = some t)
    (mask : Nat) (out : Decoded) :
    decodedMain (hdrOf e nm slink t) mask out =
      { out with
        name := if hasFlag mask PAX_NAME then out.name else some (strn (hdrOf e nm slink t).name)
        link := if fmt e.mode = S_IFLNK ∧ ¬ hasFlag mask PAX_SLINK_TARGET then some (strn (linkField e slink)) else out.link
        recordSize := (hdrOf e nm slink t).size, uid := e.uid, gid := e.gid
        devMajor := (hdrOf e nm slink t).maj % 4294967296, devMinor := (hdrOf e nm slink t).min % 4294967296, mtime := e.mtime
        mode := if fmt e.mode = S_IFLNK then S_IFLNK + 0o777 else e.mode
        unknown := false } := by
  rcases entryType_cases e.mode t h with ⟨hf, rfl⟩ | ⟨hf, rfl⟩ | ⟨hf, rfl⟩ | ⟨hf, rfl⟩ | ⟨hf, rfl⟩ | ⟨hf, rfl⟩ <;>
    simp [decodedMain, hdrOf, hf, mode_rebuild e.mode _ hf]

/-- the state after the optional records equals the expected header: entries that are not hard links -/
theorem final_eq (e : WEntry) (tgt : Option Bytes) (xs : List (Bytes × Bytes)) (n : Nat) (t : UInt8)
    (hE : Encodable e tgt xs) (hh : e.hardLink = false) (ht : entryType e.mode = some t) :
    let bk := decide (fmt e.mode = S_IFLNK ∧ e.size ≥ 100)
    let bl := decide (e.name.length ≥ 100)
    let size := if fmt e.mode = S_IFREG then e.size else 0
    { decodedMain (hdrOf e (mainName e n) (mainSlink e tgt) t) (nlMask bl bk)
        { xattr := xs.reverse, link := if bk then some (cstr ((tgt.getD []).take e.size)) else none,
          name := if bl then some (cstr e.name) else none }
      with actualSize := size } = decodedOf e tgt xs.reverse := by
  intro bk bl size
  have hname : (if bl then (if bl then some (cstr e.name) else none) else some (strn (field 100 ((mainName e n).take 99)))) =
      some e.name := by
    by_cases hn : e.name.length ≥ 100
    · simp only [bl, hn, decide_true, if_true, cstr_clean _ hE.nameNul]
    · have : mainName e n = e.name := by simp [mainName, hn]
      simp only [bl, hn, decide_false, Bool.false_eq_true, if_false, this]
      rw [List.take_of_length_le (by omega), strn_field 100 e.name (by omega) hE.nameNul]
  have htake : ∀ x ∈ (tgt.getD []).take e.size, x ≠ 0 := fun x hx => hE.tgtNul x (List.mem_of_mem_take hx)
  have hlink : (if fmt e.mode = S_IFLNK ∧ ¬ bk = true then some (strn (linkField e (mainSlink e tgt)))
      else if bk then some (cstr ((tgt.getD []).take e.size)) else none) =
      if fmt e.mode = S_IFLNK then some ((tgt.getD []).take e.size) else none := by
    by_cases hl : fmt e.mode = S_IFLNK
    · by_cases h100 : e.size ≥ 100
      · simp [bk, hl, h100, cstr_clean _ htake]
      · have hms : mainSlink e tgt = tgt := by simp [mainSlink, hl, h100]
        have : strn (linkField e tgt) = (tgt.getD []).take e.size := by
          cases tgt with
          | none => simp [linkField, strn_zeros]
          | some tg =>
            simp only [linkField, Option.getD_some]
            exact strn_field 100 _ (by rw [List.length_take]; omega) (by simpa using htake)
        simp [bk, hl, h100, hms, this]
    · simp [bk, hl]
  have hdev : ∀ d, d < 2147483648 →
      (if fmt e.mode = S_IFCHR ∨ fmt e.mode = S_IFBLK then sext32 d else 0) % 4294967296 =
        if fmt e.mode = S_IFCHR ∨ fmt e.mode = S_IFBLK then d else 0 := by
    intro d hd
    rw [sext32_of_lt d hd]
    split
    · exact Nat.mod_eq_of_lt (by omega)
    · rfl
  rw [decodedMain_entry _ _ _ _ ht]
  simp only [hdrOf, decodedOf, hh, Bool.false_eq_true, if_false, nlMask_name, nlMask_link, hname, hlink, hdev _ hE.dev.1,
    hdev _ hE.dev.2, size]

theorem readHeader_written (e : WEntry) (tgt : Option Bytes) (xs : List (Bytes × Bytes)) (n : Nat) (rest : Bytes) (t : UInt8)
    (hE : Encodable e tgt xs) (hh : e.hardLink = false) (ht : entryType e.mode = some t) (w : Bytes)
    (hw : writeTarHeader e tgt xs n = some w) :
    readHeader (w ++ rest) = .ok (decodedOf e tgt xs.reverse) rest := by
  rw [writeTarHeader_shape e tgt xs n t hh ht] at hw
  rw [← Option.some.inj hw, writeHeaderRec_eq, ← final_eq e tgt xs n t hE hh ht]
  have hdev : ∀ d, d < 2147483648 → (if fmt e.mode = S_IFCHR ∨ fmt e.mode = S_IFBLK then sext32 d else 0) < 127 * 2 ^ 56 := by
    intro d hd
    rw [sext32_of_lt d hd]
    split <;> omega
  have htf : PlainFlag t := by
    rcases entryType_cases e.mode t ht with ⟨_, rfl⟩ | ⟨_, rfl⟩ | ⟨_, rfl⟩ | ⟨_, rfl⟩ | ⟨_, rfl⟩ | ⟨_, rfl⟩ <;> decide
  simp only [List.append_assoc]
  refine readHeader_records e xs _ _ _ _ rest _ _ (hdrOf e _ _ t) hE.keyNul (hE.paxLen hh) ?_ ?_ ?_ hE.nameLen
    ⟨field_length _ _, linkField_length _ _⟩
    ⟨by show perm e.mode < _; unfold perm; omega, hE.uid, hE.gid,
      by show (if _ then _ else _) < _; split <;> [exact hE.size; (simp only [U64]; omega)], hE.mtime, hdev _ hE.dev.1,
      hdev _ hE.dev.2⟩ htf
  · intro hb
    have h2 := hE.slink hh (of_decide_eq_true hb).1
    have := (of_decide_eq_true hb).2
    rw [List.length_take]; omega
  · have := hE.tgtLen; rw [List.length_take]; omega
  · intro hb; have := of_decide_eq_true hb; omega

/-- the fields `write_hard_link` fills in -/
def hardHdr (e : WEntry) (target : Bytes) (n : Nat) : HdrFields :=
  ⟨field 100 (if e.name.length ≥ 100 then ascii "gnu/data" ++ decStr n else e.name), perm e.mode, e.uid, e.gid, 0, e.mtime, 49,
   field 100 (if target.length ≥ 100 then ascii "hardlink_" ++ decStr n else target), 0, 0⟩

theorem writeHardLink_shape (e : WEntry) (target : Bytes) (n : Nat) :
    writeHardLink e target n =
      (if decide (target.length ≥ 100) then writeExtHeader e target 75 (ascii "gnu/target" ++ decStr n) else []) ++
      ((if decide (e.name.length ≥ 100) then writeExtHeader e e.name 76 (ascii "gnu/name" ++ decStr n) else []) ++
        (hardHdr e target n).block) := by
  unfold writeHardLink HdrFields.block hdrBlock hardHdr
  simp only [ite_pair, decide_eq_true_eq, List.append_assoc]

theorem decodedMain_hard (a : HdrFields) (h : a.tf = 49) (mask : Nat) (out : Decoded) :
    decodedMain a mask out =
      { out with
        name := if hasFlag mask PAX_NAME then out.name else some (strn a.name)
        link := if ¬ hasFlag mask PAX_SLINK_TARGET then some (strn a.linkname) else out.link
        recordSize := a.size, uid := a.uid, gid := a.gid, devMajor := a.maj % 4294967296, devMinor := a.min % 4294967296
        mtime := a.mtime, mode := a.mode % 4096, hardLink := true, unknown := false } := by
  simp [decodedMain, h]

theorem final_eq_hard (e : WEntry) (tgt : Option Bytes) (xs : List (Bytes × Bytes)) (n : Nat)
    (hE : Encodable e tgt xs) (hh : e.hardLink = true) :
    let target := tgt.getD []
    let bk := decide (target.length ≥ 100)
    let bl := decide (e.name.length ≥ 100)
    { decodedMain (hardHdr e target n) (nlMask bl bk)
        { link := if bk then some (cstr target) else none, name := if bl then some (cstr e.name) else none }
      with actualSize := 0 } = decodedOf e tgt xs.reverse := by
  intro target bk bl
  have hname : (if bl then (if bl then some (cstr e.name) else none)
      else some (strn (field 100 (if e.name.length ≥ 100 then ascii "gnu/data" ++ decStr n else e.name)))) = some e.name := by
    by_cases hn : e.name.length ≥ 100
    · simp only [bl, hn, decide_true, if_true, cstr_clean _ hE.nameNul]
    · simp only [bl, hn, decide_false, Bool.false_eq_true, if_false, strn_field 100 e.name (by omega) hE.nameNul]
  have hlink : (if ¬ bk = true then some (strn (field 100 (if target.length ≥ 100 then ascii "hardlink_" ++ decStr n else target)))
      else if bk then some (cstr target) else none) = some target := by
    by_cases hk : target.length ≥ 100
    · simp only [bk, hk, decide_true, not_true_eq_false, if_true, if_false, cstr_clean target hE.tgtNul]
    · simp only [bk, hk, decide_false, Bool.false_eq_true, not_false_eq_true, if_true, if_false,
        strn_field 100 target (by omega) hE.tgtNul]
  have hp : perm e.mode % 4096 = perm e.mode := by unfold perm; omega
  rw [decodedMain_hard _ rfl]
  simp only [hardHdr, decodedOf, hh, if_true, nlMask_name, nlMask_link, hname, hlink, hp, Nat.zero_mod]
  rfl

theorem readHeader_written_hard (e : WEntry) (tgt : Option Bytes) (xs : List (Bytes × Bytes)) (n : Nat) (rest : Bytes)
    (hE : Encodable e tgt xs) (hh : e.hardLink = true) (w : Bytes) (hw : writeTarHeader e tgt xs n = some w) :
    readHeader (w ++ rest) = .ok (decodedOf e tgt xs.reverse) rest := by
  unfold writeTarHeader writeTarHeaderK at hw
  simp only [hh, if_true] at hw
  rw [← Option.some.inj hw, writeHardLink_shape, ← final_eq_hard e tgt xs n hE hh]
  simp only [List.append_assoc]
  refine (congrArg readHeader (List.nil_append _).symm).trans ?_
  exact readHeader_records e [] [] _ _ _ rest _ _ (hardHdr e _ n) (fun _ h => by cases h) (by decide)
    (fun hb => by have := of_decide_eq_true hb; omega) hE.tgtLen (fun hb => by have := of_decide_eq_true hb; omega) hE.nameLen
    ⟨field_length _ _, field_length _ _⟩
    ⟨by show perm e.mode < _; unfold perm; omega, hE.uid, hE.gid, by show 0 < U64; decide, hE.mtime,
      by show 0 < 127 * 2 ^ 56; decide, by show 0 < 127 * 2 ^ 56; decide⟩
    (show PlainFlag 49 by decide)

theorem readHeader_writeTarHeader (e : WEntry) (tgt : Option Bytes) (xs : List (Bytes × Bytes)) (n : Nat) (rest w : Bytes)
    (hE : Encodable e tgt xs) (hw : writeTarHeader e tgt xs n = some w) :
    readHeader (w ++ rest) = .ok (decodedOf e tgt xs.reverse) rest := by
  cases hh : e.hardLink with
  | true => exact readHeader_written_hard e tgt xs n rest hE hh w hw
  | false =>
    cases ht : entryType e.mode with
    | none =>
      unfold writeTarHeader writeTarHeaderK at hw
      simp [hh, ht] at hw
    | some t => exact readHeader_written e tgt xs n rest t hE hh ht w hw

end Sqfs.Tar
