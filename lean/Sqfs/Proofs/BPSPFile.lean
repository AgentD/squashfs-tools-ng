/-
C02, `packRef = specPack`: one file.  `Pack.packFile` in explicit form per case; what the front end submits for a file is,
worked, the item list `aItems` (`irel_file`): the blocks of the file, the item that carries `LAST` (`aClose`), the tail end if it
is to be a fragment.  On the blocks the machine places the file (`aRun_data`), on the tail end it makes a hole or a fragment, which
is `Pack.packFile` (`aRun_file`): the three passes on the blocks of one file (`file_step`).
-/
import Sqfs.Proofs.BPSPMachine
import Sqfs.Proofs.PackPos
import Sqfs.Proofs.BPSPEff
import Sqfs.Proofs.BPSPItem
namespace Sqfs.BlockProc
open Sqfs.Consts
open Sqfs.BlockWriter (hasFlag)

variable {P : Params}

def toPackFile (f : InFile) : Sqfs.Pack.InFile := ⟨Sqfs.Pack.Flags.ofNat f.flags, f.data⟩

theorem toPackFiles_eq (files : List InFile) : toPackFiles files = files.map toPackFile := rfl

/-- the worked data blocks of the file, i.e. what the writer pass is handed (`Pack.workedOf` also lists a tail end that became a
hole, which the fragment pass handles) -/
def workedOf (P' : Sqfs.Pack.Params) (pf : Sqfs.Pack.InFile) : List Sqfs.Pack.Worked :=
  (Sqfs.Pack.dataBlocksOf P'.B pf).map (Sqfs.Pack.workData P' pf.flags)

theorem worked_pos (P : Params) (hB0 : 0 < P.B) (f : InFile) :
    ∀ n, Sqfs.Pack.Worked.sparse n ∈ workedOf (toPackParams P) (toPackFile f) → 0 < n := by
  intro n hn
  unfold workedOf at hn
  obtain ⟨d, hd, hw⟩ := List.mem_map.1 hn
  have hpos := Sqfs.Pack.dataBlocksOf_pos P.B hB0 (toPackFile f) d hd
  unfold Sqfs.Pack.workData at hw
  split at hw
  · cases hw; exact hpos
  · cases hw

/-- the tail end as a data block of its own (`DONT_FRAGMENT`), worked -/
def aLast (P : Params) (f : InFile) : Option Sqfs.Pack.Worked :=
  if f.data.length % P.B > 0 && (Sqfs.Pack.Flags.ofNat f.flags).dontFragment then
    some (Sqfs.Pack.workData (toPackParams P) (Sqfs.Pack.Flags.ofNat f.flags) (Sqfs.Pack.tailOf P.B f.data))
  else none

theorem workedOf_toPack (P : Params) (f : InFile) :
    workedOf (toPackParams P) (toPackFile f) =
      (Sqfs.Pack.fullBlocks P.B f.data).map (Sqfs.Pack.workData (toPackParams P) (Sqfs.Pack.Flags.ofNat f.flags)) ++
        (aLast P f).toList := by
  unfold workedOf Sqfs.Pack.dataBlocksOf aLast
  rw [List.map_append]
  congr 1
  show List.map _ (if f.data.length % P.B > 0 && (Sqfs.Pack.Flags.ofNat f.flags).dontFragment then _ else _) = _
  split <;> rfl

theorem packFile_notail (P' : Sqfs.Pack.Params) (σ : Sqfs.Pack.State) (pf : Sqfs.Pack.InFile)
    (h : Sqfs.Pack.hasTailFrag P'.B pf = false) {ws : List Sqfs.Pack.Worked} (hws : workedOf P' pf = ws)
    {pl : List Sqfs.Pack.Stored × Nat × Bool}
    (hpl : Sqfs.Pack.placeBlocks P'.base pf.flags.dontDedup σ.hist (ws.filterMap Sqfs.Pack.Worked.stored?) = pl) :
    Sqfs.Pack.packFile P' σ pf =
      ({ σ with hist := pl.1 }, ⟨pf.data.length, ws.map Sqfs.Pack.Worked.word, pl.2.1, none, sparseSum ws, pl.2.2⟩) := by
  subst hws hpl
  rw [Sqfs.Pack.packFile_eq]
  simp only [Sqfs.Pack.tailCond_eq, Sqfs.Pack.workedOf_eq, h, Bool.false_and, Bool.false_eq_true, if_false, List.append_nil]
  rfl

theorem packFile_sparseTail (P' : Sqfs.Pack.Params) (σ : Sqfs.Pack.State) (pf : Sqfs.Pack.InFile)
    (h : Sqfs.Pack.hasTailFrag P'.B pf = true)
    (hsp : (!pf.flags.ignoreSparse && Sqfs.Pack.allZero (Sqfs.Pack.tailOf P'.B pf.data)) = true)
    {ws : List Sqfs.Pack.Worked} (hws : workedOf P' pf = ws) {pl : List Sqfs.Pack.Stored × Nat × Bool}
    (hpl : Sqfs.Pack.placeBlocks P'.base pf.flags.dontDedup σ.hist (ws.filterMap Sqfs.Pack.Worked.stored?) = pl) :
    Sqfs.Pack.packFile P' σ pf =
      ({ σ with hist := pl.1 },
       ⟨pf.data.length, ws.map Sqfs.Pack.Worked.word ++ [.sparse], pl.2.1, none,
        sparseSum ws + (Sqfs.Pack.tailOf P'.B pf.data).length, pl.2.2⟩) := by
  subst hws hpl
  rw [Sqfs.Pack.packFile_eq]
  simp only [Sqfs.Pack.tailCond_eq, Sqfs.Pack.workedOf_eq, h, hsp, Bool.and_self, Bool.not_true, Bool.and_false, Bool.false_eq_true,
    if_false, if_true, List.map_append, List.filterMap_append, List.sum_append]
  rw [show [Sqfs.Pack.Worked.sparse (Sqfs.Pack.tailOf P'.B pf.data).length].filterMap Sqfs.Pack.Worked.stored? = [] from rfl,
    List.append_nil]
  rfl

theorem packFile_fragTail (P' : Sqfs.Pack.Params) (σ : Sqfs.Pack.State) (pf : Sqfs.Pack.InFile)
    (h : Sqfs.Pack.hasTailFrag P'.B pf = true)
    (hsp : (!pf.flags.ignoreSparse && Sqfs.Pack.allZero (Sqfs.Pack.tailOf P'.B pf.data)) = false)
    {ws : List Sqfs.Pack.Worked} (hws : workedOf P' pf = ws) {pl : List Sqfs.Pack.Stored × Nat × Bool}
    (hpl : Sqfs.Pack.placeBlocks P'.base pf.flags.dontDedup σ.hist (ws.filterMap Sqfs.Pack.Worked.stored?) = pl)
    {r : Sqfs.Pack.State × (Nat × Nat)}
    (hr : Sqfs.Pack.placeFrag P' { σ with hist := pl.1 } pf.flags (Sqfs.Pack.tailOf P'.B pf.data) = r) :
    Sqfs.Pack.packFile P' σ pf =
      (r.1, ⟨pf.data.length, ws.map Sqfs.Pack.Worked.word, pl.2.1, some r.2, sparseSum ws, pl.2.2⟩) := by
  subst hws hpl hr
  rw [Sqfs.Pack.packFile_eq]
  simp only [Sqfs.Pack.tailCond_eq, Sqfs.Pack.workedOf_eq, h, hsp, Bool.and_false, Bool.false_eq_true, if_false, Bool.not_false,
    Bool.and_self, if_true, List.append_nil]
  rfl

theorem fulls_ok (B : Nat) (hB : 0 < B) (d : Bytes) : ∀ x ∈ Sqfs.Pack.fullBlocks B d, x ≠ [] ∧ x.length ≤ B := by
  intro x hx
  refine ⟨List.ne_nil_of_length_pos (Sqfs.Pack.blocksOf_pos B hB d false nofun x (List.mem_append_left _ hx)), ?_⟩
  obtain ⟨i, _, rfl⟩ := List.mem_map.1 hx
  exact List.length_take_le _ _

theorem tail_ok (B : Nat) (hB : 0 < B) (d : Bytes) (hr : d.length % B ≠ 0) :
    Sqfs.Pack.tailOf B d ≠ [] ∧ (Sqfs.Pack.tailOf B d).length ≤ B := by
  have hl := Sqfs.Pack.tailOf_length B d
  have := Nat.mod_lt d.length hB
  exact ⟨fun h => by rw [h] at hl; simp at hl; omega, by omega⟩

/-- the `size` update of `append` -/
def sizeEff (id : Nat) (f : InFile) : List Eff := if f.data.length = 0 then [] else [⟨id, .size f.data.length⟩]

theorem sizeEff_ne (id : Nat) (f : InFile) (hne : f.data ≠ []) : sizeEff id f = [⟨id, .size f.data.length⟩] :=
  if_neg (fun h => hne (List.eq_nil_of_length_eq_zero h))

theorem sizeEff_id (id : Nat) (f : InFile) : ∀ e ∈ sizeEff id f, e.id = id := by
  intro e he
  unfold sizeEff at he
  split at he
  · cases he
  · simp only [List.mem_singleton] at he; rw [he]

theorem dataEffs_start_id (id : Nat) (ws : List Sqfs.Pack.Worked) (se : List Eff) (st : Nat)
    (hse : (se = [] ∧ st = 0) ∨ se = [⟨id, .start st⟩]) : ∀ e ∈ dataEffs id 0 ws ++ se, e.id = id := by
  intro e he
  rcases List.mem_append.mp he with he | he
  · exact dataEffs_id id _ 0 e he
  · rcases hse with ⟨hse, _⟩ | hse <;> rw [hse] at he
    · cases he
    · rw [List.mem_singleton.mp he]

/-- `dataItems`, worked -/
def aBlocks (P' : Sqfs.Pack.Params) (fl id : Nat) : Nat → List Bytes → List AItem
  | _, [] => []
  | j, d :: ds =>
    .block (decide (j = 0)) false (Sqfs.Pack.Flags.ofNat fl).dontDedup id j
        (some (Sqfs.Pack.workData P' (Sqfs.Pack.Flags.ofNat fl) d)) ::
      aBlocks P' fl id (j + 1) ds

/-- the item that carries `LAST` behind `n` full blocks: the tail end as a data block (`some w`), else the sentinel; a file
that submits no block at all has none -/
def aClose (dd : Bool) (id n : Nat) : Option Sqfs.Pack.Worked → List AItem
  | some w => [.block (decide (n = 0)) true dd id n (some w)]
  | none => if n = 0 then [] else [.block false true dd id 0 none]

/-- `fileItems`, worked: the blocks of the file, closed by `LAST`, then the tail end if it is to be a fragment -/
def aItems (P : Params) (id : Nat) (f : InFile) : List AItem :=
  let Fl := Sqfs.Pack.Flags.ofNat f.flags
  let k := f.data.length / P.B
  let t := Sqfs.Pack.tailOf P.B f.data
  if f.data.length = 0 then []
  else
    aBlocks (toPackParams P) f.flags id 0 (Sqfs.Pack.fullBlocks P.B f.data) ++ aClose Fl.dontDedup id k (aLast P f) ++
      (if f.data.length % P.B > 0 && !Fl.dontFragment then
        [if !Fl.ignoreSparse && Sqfs.Pack.allZero t then .hole id k t.length
         else .frag id Fl t]
       else [])

theorem BlockFacts.irel {fl : Nat} {first last : Bool} {x : Blk} (hx : BlockFacts fl first last x.flags)
    {ow : Option Sqfs.Pack.Worked} (hrel : BlkRel (processBlock P x) ow) {id : Nat} (hino : x.inode = some id) :
    IRel P x (.block first last (Sqfs.Pack.Flags.ofNat fl).dontDedup id x.index ow) :=
  .block hx.flags.nfb hx.nfrag hx.first hx.last hx.flags.dd hrel hino

theorem irel_blocks (hP : CodecFits P) (fl id : Nat) (hfl : fl &&& blkUserSettable = fl) : ∀ (xs : List Bytes) (j : Nat),
    (∀ d ∈ xs, d ≠ [] ∧ d.length ≤ P.B) → IRels P (dataItems fl id j xs) (aBlocks (toPackParams P) fl id j xs)
  | [], _, _ => .nil
  | d :: xs, j, h =>
    have hf := dataItem_facts fl id j d hfl
    .cons (hf.irel (item_rel P hP fl _ hf.flags hf.nfrag (h d List.mem_cons_self).1 (h d List.mem_cons_self).2) rfl)
      (irel_blocks hP fl id hfl xs (j + 1) (fun d' hd' => h d' (List.mem_cons_of_mem _ hd')))

theorem irel_sentinel (P : Params) (fl id : Nat) (hfl : fl &&& blkUserSettable = fl) :
    IRel P (sentinel fl id) (.block false true (Sqfs.Pack.Flags.ofNat fl).dontDedup id 0 none) :=
  (sentinel_facts fl id hfl).irel (sentinel_rel P fl id hfl) rfl

theorem irel_file (hP : CodecFits P) (hB0 : 0 < P.B) (hbc : P.byteCompare = true) (id : Nat) (f : InFile)
    (hfl : f.flags &&& blkUserSettable = f.flags) :
    IRels P (fileItems P.B id f) (aItems P id f) := by
  have hfulls := irel_blocks hP f.flags id hfl _ 0 (fulls_ok P.B hB0 f.data)
  unfold fileItems aItems aLast
  by_cases h0 : f.data.length = 0
  · rw [if_pos h0, if_pos h0]; exact .nil
  rw [if_neg h0, if_neg h0, List.append_assoc]
  by_cases hr : f.data.length % P.B = 0
  · -- a multiple of the block size: there is a full block, the sentinel closes
    have hk : f.data.length / P.B ≠ 0 := Nat.ne_of_gt
      (Nat.div_pos (Nat.le_of_dvd (Nat.pos_of_ne_zero h0) (Nat.dvd_of_mod_eq_zero hr)) hB0)
    rw [if_pos hr, decide_eq_false (fun h : f.data.length % P.B > 0 => Nat.ne_of_gt h hr), Bool.false_and, Bool.false_and,
      if_neg Bool.false_ne_true, if_neg Bool.false_ne_true, aClose, if_neg hk]
    exact hfulls.append (.cons (irel_sentinel P f.flags id hfl) .nil)
  rw [if_neg hr, decide_eq_true (Nat.pos_of_ne_zero hr), Bool.true_and, Bool.true_and]
  obtain ⟨htne, htsz⟩ := tail_ok P.B hB0 f.data hr
  by_cases hdf : hasFlag f.flags blkDontFragment = true
  · rw [if_pos hdf, show (Sqfs.Pack.Flags.ofNat f.flags).dontFragment = true from hdf, if_pos rfl, aClose]
    have hx := lastItem_facts f.flags id (f.data.length / P.B) (Sqfs.Pack.tailOf P.B f.data) hfl
    exact hfulls.append (.cons (hx.irel (item_rel P hP f.flags _ hx.flags hx.nfrag htne htsz) rfl) .nil)
  rw [if_neg hdf, show (Sqfs.Pack.Flags.ofNat f.flags).dontFragment = false from Bool.not_eq_true _ ▸ hdf,
    if_neg Bool.false_ne_true, aClose]
  refine hfulls.append (IRels.append ?_ (.cons ?_ .nil))
  · by_cases hk : f.data.length / P.B = 0
    · rw [if_pos hk, if_pos hk]; exact .nil
    · rw [if_neg hk, if_neg hk]; exact .cons (irel_sentinel P f.flags id hfl) .nil
  · obtain ⟨g1, g2⟩ := fragItem_facts f.flags id (f.data.length / P.B) (Sqfs.Pack.tailOf P.B f.data) hfl
    have hx := frag_item P f.flags _ g1 g2 htne
    by_cases hsp : (!(Sqfs.Pack.Flags.ofNat f.flags).ignoreSparse && Sqfs.Pack.allZero (Sqfs.Pack.tailOf P.B f.data)) = true
    · rw [if_pos hsp]
      exact .hole (worked := hx.trans (if_pos hsp)) (isFrag := g2) (inode := rfl)
    · rw [if_neg hsp]
      exact .frag (codec := hP) (bytes := hbc) (worked := hx.trans (if_neg hsp)) (isFrag := g2) (notSparse := g1.nsp)
        (dc := g1.dc.symm) (dedup := g1.dd.symm) (nonempty := htne) (fits := htsz) (inode := rfl)

theorem filterMap_cons_stored (w : Sqfs.Pack.Worked) (ws : List Sqfs.Pack.Worked) :
    storedOf (some w) ++ ws.filterMap Sqfs.Pack.Worked.stored? = (w :: ws).filterMap Sqfs.Pack.Worked.stored? := by
  cases w <;> rfl

theorem aRun_blocks (P' : Sqfs.Pack.Params) (fl id : Nat) : ∀ (ds : List Bytes) (j : Nat) (s : ASt),
    (aBlocks P' fl id j ds).foldl (aStep P') s =
      { σ := { s.σ with hist := s.σ.hist ++
                 (ds.map (Sqfs.Pack.workData P' (Sqfs.Pack.Flags.ofNat fl))).filterMap Sqfs.Pack.Worked.stored? },
        fs := if j = 0 ∧ ds ≠ [] then s.σ.hist.length else s.fs, fe := s.fe,
        we := s.we ++ dataEffs id j (ds.map (Sqfs.Pack.workData P' (Sqfs.Pack.Flags.ofNat fl))) }
  | [], j, s => by simp [aBlocks, dataEffs]
  | d :: ds, j, s => by
    -- a block without `LAST` appends its stored form and its word
    rw [aBlocks, List.foldl_cons, aStep_block P' s _ false _ id j _ rfl rfl, aRun_blocks P' fl id ds (j + 1)]
    simp only [Bool.false_eq_true, if_false, List.append_nil, List.append_assoc, List.map_cons, dataEffs, filterMap_cons_stored]
    -- the later blocks (`j + 1 ≠ 0`) leave the file start alone
    rw [if_neg (fun h => Nat.succ_ne_zero j h.1)]
    simp only [decide_eq_true_eq, ne_eq, reduceCtorEq, not_false_eq_true, and_true]

theorem stored_append_toList (ws : List Sqfs.Pack.Worked) (ow : Option Sqfs.Pack.Worked) :
    (ws ++ ow.toList).filterMap Sqfs.Pack.Worked.stored? = ws.filterMap Sqfs.Pack.Worked.stored? ++ storedOf ow := by
  rw [List.filterMap_append]
  congr 1
  match ow with
  | none => rfl
  | some (.sparse _) => rfl
  | some (.stored _) => rfl

theorem dataEffs_append_toList (id : Nat) (ws : List Sqfs.Pack.Worked) (ow : Option Sqfs.Pack.Worked) :
    dataEffs id 0 (ws ++ ow.toList) = dataEffs id 0 ws ++ effOf id ws.length ow := by
  rw [dataEffs_append, Nat.zero_add]
  cases ow with
  | none => rfl
  | some w => exact congrArg _ (List.append_nil _)

/-- the blocks of a file and the item that closes them: the file is placed (`pl`) and its start logged (`se`); when there
is no block nothing happens, which is also what `placeBlocks` makes of no blocks -/
theorem aRun_data (P' : Sqfs.Pack.Params) (fl id : Nat) (ds : List Bytes) (ow : Option Sqfs.Pack.Worked) (s : ASt)
    {ws : List Sqfs.Pack.Worked} (hws : ws = ds.map (Sqfs.Pack.workData P' (Sqfs.Pack.Flags.ofNat fl)) ++ ow.toList)
    {pl : List Sqfs.Pack.Stored × Nat × Bool}
    (hpl : Sqfs.Pack.placeBlocks P'.base (Sqfs.Pack.Flags.ofNat fl).dontDedup s.σ.hist
      (ws.filterMap Sqfs.Pack.Worked.stored?) = pl) :
    ∃ fs se, (aBlocks P' fl id 0 ds ++ aClose (Sqfs.Pack.Flags.ofNat fl).dontDedup id ds.length ow).foldl (aStep P') s =
        ⟨{ s.σ with hist := pl.1 }, fs, s.fe, s.we ++ (dataEffs id 0 ws ++ se)⟩ ∧
      ((se = [] ∧ pl.2.1 = 0) ∨ se = [⟨id, .start pl.2.1⟩]) := by
  subst hws hpl
  rw [List.foldl_append, aRun_blocks, stored_append_toList, dataEffs_append_toList]
  match ow, ds with
  | none, [] => exact ⟨s.fs, [], by simp [aClose, dataEffs, effOf, storedOf, Sqfs.Pack.placeBlocks_nil], Or.inl ⟨rfl, rfl⟩⟩
  | none, d :: ds =>
    -- the sentinel; the file starts at `|s.σ.hist|`, where its first block was `FIRST`
    refine ⟨s.σ.hist.length, _, ?_, Or.inr rfl⟩
    rw [aClose, if_neg (show ¬ (d :: ds).length = 0 from Nat.succ_ne_zero _), List.foldl_cons, List.foldl_nil,
      aStep_block _ _ _ true _ _ _ _ rfl rfl]
    simp [effOf]
  | some w, ds =>
    -- the tail end as a data block; it is `FIRST` itself when `ds = []`
    refine ⟨s.σ.hist.length, _, ?_, Or.inr rfl⟩
    rw [aClose, List.foldl_cons, List.foldl_nil, aStep_block _ _ _ true _ _ _ _ rfl rfl]
    cases ds with
    | nil => simp
    | cons d ds => simp

theorem aRun_file (P : Params) (hB0 : 0 < P.B) (id : Nat) (f : InFile) (s : ASt) :
    ∃ fs fe we, (aItems P id f).foldl (aStep (toPackParams P)) s =
        ⟨(Sqfs.Pack.packFile (toPackParams P) s.σ (toPackFile f)).1, fs, s.fe ++ fe, s.we ++ we⟩ ∧
      (∀ e ∈ fe, e.id = id) ∧ (∀ e ∈ we, e.id = id) ∧
      (appAll (sizeEff id f ++ fe ++ we) {}).res = resView (Sqfs.Pack.packFile (toPackParams P) s.σ (toPackFile f)).2 := by
  have hkl : (Sqfs.Pack.fullBlocks P.B f.data).length = f.data.length / P.B := Sqfs.Pack.fullBlocks_length _ _
  have hwpos := worked_pos P hB0 f
  have hwk := workedOf_toPack P f
  unfold aItems
  by_cases h0 : f.data.length = 0
  · have he : f.data = [] := List.eq_nil_of_length_eq_zero h0
    rw [if_pos h0, Sqfs.Pack.packFile_empty _ _ _ he]
    -- no item, no update: the machine stays where it is and the inode is the empty one
    refine ⟨s.fs, [], [], by simp, by simp, by simp, ?_⟩
    simp [sizeEff, he, appAll, Inode.res, resView, Sqfs.Pack.FileResult.extended]
  have hne : f.data ≠ [] := fun h => h0 (by rw [h]; rfl)
  rw [if_neg h0, sizeEff_ne id f hne, List.foldl_append]
  generalize hws : workedOf (toPackParams P) (toPackFile f) = ws at hwpos hwk
  obtain ⟨pl, hpl⟩ : ∃ pl, Sqfs.Pack.placeBlocks (toPackParams P).base (Sqfs.Pack.Flags.ofNat f.flags).dontDedup s.σ.hist
    (ws.filterMap Sqfs.Pack.Worked.stored?) = pl := ⟨_, rfl⟩
  -- the blocks: the writer pass logs their words and (`se`) the start
  obtain ⟨fs, se, hrun, hse⟩ := aRun_data (toPackParams P) f.flags id (Sqfs.Pack.fullBlocks P.B f.data) (aLast P f) s hwk hpl
  have hwe := dataEffs_start_id id ws se _ hse
  rw [hkl] at hrun; rw [hrun]
  by_cases htf : (decide (f.data.length % P.B > 0) && !(Sqfs.Pack.Flags.ofNat f.flags).dontFragment) = true
  · -- then the tail end, a hole or a fragment; it was no data block
    obtain ⟨hr, hdf⟩ : f.data.length % P.B > 0 ∧ (Sqfs.Pack.Flags.ofNat f.flags).dontFragment = false := by simpa using htf
    have hwl : ws.length = f.data.length / P.B := by
      rw [hwk, aLast, hdf, Bool.and_false, if_neg Bool.false_ne_true, Option.toList_none, List.append_nil, List.length_map, hkl]
    obtain ⟨htne, _⟩ := tail_ok P.B hB0 f.data (Nat.ne_of_gt hr)
    rw [if_pos htf, List.foldl_cons, List.foldl_nil]
    by_cases hsp : (!(Sqfs.Pack.Flags.ofNat f.flags).ignoreSparse && Sqfs.Pack.allZero (Sqfs.Pack.tailOf P.B f.data)) = true
    · rw [if_pos hsp, aStep_hole, packFile_sparseTail (toPackParams P) s.σ (toPackFile f) htf hsp hws hpl]
      exact ⟨fs, _, _, rfl, fun e he => by rw [List.mem_singleton.mp he], hwe,
        hwl ▸ res_sparse id f.data.length ws hwpos se pl.2.1 hse _ (List.length_pos_iff.mpr htne) _⟩
    · have hsp' := Bool.not_eq_true _ ▸ hsp
      rw [if_neg hsp, aStep_frag _ _ _ _ _ rfl, packFile_fragTail (toPackParams P) s.σ (toPackFile f) htf hsp' hws hpl rfl]
      exact ⟨fs, _, _, rfl, fun e he => by rw [List.mem_singleton.mp he], hwe,
        res_frag id f.data.length ws hwpos se pl.2.1 hse _ _ _⟩
  · rw [if_neg htf, List.foldl_nil, packFile_notail (toPackParams P) s.σ (toPackFile f) (Bool.not_eq_true _ ▸ htf) hws hpl]
    exact ⟨fs, [], _, by rw [List.append_nil], nofun, hwe,
      res_plain id f.data.length ws hwpos se _ hse _⟩

/-- **one file**: the three passes on the blocks of file `id` against `Pack.packFile`; `fe`, `we`: what the file adds to
the inode updates of the fragment pass and of the writer pass -/
theorem file_step {F : FSt} {W : WSt} {s : ASt} (hP : CodecFits P) (hB0 : 0 < P.B) (hbc : P.byteCompare = true) (id : Nat)
    (f : InFile) (hfl : f.flags &&& blkUserSettable = f.flags) (h : Sim P F W s) :
    ∃ W' fs fe we, Sim P (fRun P F ((fileItems P.B id f).map (processBlock P))) W'
        ⟨(Sqfs.Pack.packFile (toPackParams P) s.σ (toPackFile f)).1, fs, s.fe ++ fe, s.we ++ we⟩ ∧
      (∀ e ∈ fe, e.id = id) ∧ (∀ e ∈ we, e.id = id) ∧
      (appAll (sizeEff id f ++ fe ++ we) {}).res = resView (Sqfs.Pack.packFile (toPackParams P) s.σ (toPackFile f)).2 := by
  obtain ⟨W', hsim⟩ := run_sim (irel_file hP hB0 hbc id f hfl) h
  obtain ⟨fs, fe, we, hrun, hres⟩ := aRun_file P hB0 id f s
  exact ⟨W', fs, fe, we, hrun ▸ hsim, hres⟩

end Sqfs.BlockProc
