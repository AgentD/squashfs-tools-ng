/-
Helper lemmas for the conversion model (C04): implicit parents, prefix strip.
-/
import Sqfs.Model.TarConv
namespace Sqfs.Tar

theorem lookup_some (t : List TNode) (p : List Bytes) (n : TNode) (h : lookup t p = some n) :
    n ∈ t ∧ n.path = p := by
  unfold lookup at h
  refine ⟨List.mem_of_find?_eq_some h, ?_⟩
  have := List.find?_some h
  simpa using this

theorem isDirMode_default (x : Nat) : isDirMode (S_IFDIR + x % 4096) = true := by
  unfold isDirMode fmt
  have : x % 4096 < 4096 := Nat.mod_lt _ (by omega)
  simp only [S_IFDIR, decide_eq_true_eq]
  omega

theorem prefixes_cons {t : List TNode} {pre : List Bytes} {c : Bytes} {cs : List Bytes}
    (h1 : ∃ n ∈ t, n.path = pre ++ [c] ∧ isDirMode n.mode = true)
    (hcs : ∀ k, 0 < k → k < cs.length → ∃ n ∈ t, n.path = pre ++ [c] ++ cs.take k ∧ isDirMode n.mode = true) :
    ∀ k, 0 < k → k < (c :: cs).length → ∃ n ∈ t, n.path = pre ++ (c :: cs).take k ∧ isDirMode n.mode = true := by
  intro k h0 hk
  obtain ⟨j, rfl⟩ : ∃ j, k = j + 1 := ⟨k - 1, by omega⟩
  cases j with
  | zero => simpa using h1
  | succ j => simpa using hcs (j + 1) (by omega) (by simpa using hk)

theorem ensureParents_spec (o : ConvOpts) (cs : List Bytes) :
    ∀ (t : List TNode) (pre : List Bytes) (t' : List TNode), ensureParents o t pre cs = some t' →
      (∀ n ∈ t, n ∈ t') ∧
      ∀ k, 0 < k → k < cs.length → ∃ n ∈ t', n.path = pre ++ cs.take k ∧ isDirMode n.mode = true := by
  induction cs with
  | nil =>
    intro t pre t' h
    simp only [ensureParents, Option.some.injEq] at h
    subst h
    exact ⟨fun n hn => hn, fun k _ hk => by simp at hk⟩
  | cons c rest ih =>
    intro t pre t' h
    cases rest with
    | nil =>
      simp only [ensureParents, Option.some.injEq] at h
      subst h
      exact ⟨fun n hn => hn, fun k h0 hk => by simp at hk; omega⟩
    | cons d rest =>
      simp only [ensureParents] at h
      cases hl : lookup t (pre ++ [c]) with
      | some n =>
        rw [hl] at h
        simp only at h
        by_cases hd : isDirMode n.mode = true
        · rw [if_pos hd] at h
          obtain ⟨hkeep, hpre⟩ := ih t (pre ++ [c]) t' h
          obtain ⟨hn, hp⟩ := lookup_some _ _ _ hl
          exact ⟨hkeep, prefixes_cons ⟨n, hkeep n hn, hp, hd⟩ hpre⟩
        · rw [if_neg hd] at h; cases h
      | none =>
        rw [hl] at h
        simp only at h
        obtain ⟨hkeep, hpre⟩ := ih _ (pre ++ [c]) t' h
        exact ⟨fun n hn => hkeep n (List.mem_append_left _ hn),
          prefixes_cons ⟨_, hkeep _ (List.mem_append_right _ (List.mem_singleton.2 rfl)), rfl, isDirMode_default _⟩ hpre⟩

/-- a successful `fstree_add_generic` ran `fstree_get_node_by_path` and kept every node of its result except, at most, the one at
    the entry's own path (the implicit directory it overwrites) -/
theorem addGeneric_some (o : ConvOpts) (t t' : List TNode) (e : CEntry) (h : addGeneric o t e = some t') :
    ∃ t1, ensureParents o t [] (Sqfs.Path.splitSlash e.name) = some t1 ∧
      ∀ n ∈ t1, n.path ≠ Sqfs.Path.splitSlash e.name → n ∈ t' := by
  revert h
  fun_cases addGeneric o t e <;> intro h <;> cases h
  · rename_i t1 hp _ _ _
    exact ⟨t1, hp, fun n hn hne => List.mem_map.2 ⟨n, hn, if_neg hne⟩⟩
  · rename_i t1 hp _ _ _ _ _
    exact ⟨t1, hp, fun n hn _ => List.mem_append_left _ hn⟩

theorem take_eq_split (l r : Bytes) (h : l.take r.length = r) : l = r ++ l.drop r.length := by
  have := List.take_append_drop r.length l
  rw [h] at this
  exact this.symm

theorem processEntryWith_rootBecomes (rt : Bytes → Bytes → Bytes) (o : ConvOpts) (e : CEntry) (r : Bytes)
    (h : o.rootBecomes = some r) :
    (e.name = r ∧ ∃ e', processEntryWith rt o e = .root e') ∨
    (∃ rest, e.name = r ++ Sqfs.Path.SL :: rest ∧ ∃ e', processEntryWith rt o e = .node e' ∧ e'.name = rest) ∨
    ((e.name ≠ r ∧ ∀ rest, e.name ≠ r ++ Sqfs.Path.SL :: rest) ∧ processEntryWith rt o e = .skip) := by
  unfold processEntryWith
  simp only [h]
  by_cases ht : e.name.take r.length = r
  · have hsplit := take_eq_split e.name r ht
    rw [if_pos ht]
    cases hd : e.name.drop r.length with
    | nil =>
      rw [hd, List.append_nil] at hsplit
      exact .inl ⟨hsplit, _, rfl⟩
    | cons c rest =>
      rw [hd] at hsplit
      by_cases hc : c = Sqfs.Path.SL
      · subst hc
        refine .inr (.inl ⟨rest, hsplit, _, if_pos rfl, ?_⟩)
        split <;> rfl
      · refine .inr (.inr ⟨⟨?_, ?_⟩, if_neg hc⟩)
        · intro h1
          have := congrArg List.length (h1 ▸ hsplit)
          simp at this
        · intro rest' h1
          exact hc (List.cons.inj (List.append_cancel_left (h1 ▸ hsplit))).1.symm
  · rw [if_neg ht]
    refine .inr (.inr ⟨⟨?_, ?_⟩, rfl⟩)
    · intro h1; exact ht (by rw [h1]; simp)
    · intro rest h1; exact ht (by rw [h1]; simp)

end Sqfs.Tar
