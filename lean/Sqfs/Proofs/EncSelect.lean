/-
C01 — basic ↔ extended conversion (`inode.c`) and the selection in `serialize_tree_node`.
-/
import Sqfs.Model.EncInode
namespace Sqfs.Enc
open Sqfs.Consts

theorem makeExtended_isExt (i : Inode) : (makeExtended i).isExt = true := by
  cases i <;> rfl

theorem makeExtended_view (i : Inode) : (makeExtended i).view = i.view := by
  cases i <;> rfl

theorem makeExtended_xattr (i : Inode) (h : i.isExt = false) : (makeExtended i).xattr = NONE32 := by
  cases i <;> first | rfl | cases h

/-- what `make_basic` stores when everything fits: the basic layout of the kind with the fields it can hold -/
def demote : Inode → Inode
  | .dirExt b nl sz sb par _ off _ _ => .dir b sb nl sz off par
  | .fileExt b st sz _ _ fi fo _ blks => .file b st fi fo sz blks
  | .slinkExt b nl ts t _ => .slink b nl ts t
  | .devExt b c nl d _ => .dev b c nl d
  | .ipcExt b s nl _ => .ipc b s nl
  | i => i

theorem fitsBasic_fileExt {b : Base} {st sz sp nl fi fo x : Nat} {blks : List Nat} :
    (Inode.fileExt b st sz sp nl fi fo x blks).fitsBasic = true
      ↔ x = NONE32 ∧ st ≤ 0xFFFFFFFF ∧ sz ≤ 0xFFFFFFFF ∧ sp = 0 ∧ nl ≤ 1 := by
  simp only [Inode.fitsBasic, Bool.and_eq_true, beq_iff_eq, decide_eq_true_eq, and_assoc]

theorem makeBasic_eq (i : Inode) : makeBasic i = if i.fitsBasic = true then demote i else i := by
  cases i with
  | dirExt b nl sz sb par ic off x idx =>
    by_cases hx : x = NONE32 <;> by_cases hs : sz ≤ 0xFFFF <;> simp [makeBasic, Inode.fitsBasic, demote, hx, hs]
  | fileExt b st sz sp nl fi fo x blks =>
    by_cases hx : x = NONE32
    · by_cases hD : st > 0xFFFFFFFF ∨ sz > 0xFFFFFFFF ∨ sp > 0 ∨ nl > 1
      · have h2 : ¬ (st ≤ 0xFFFFFFFF ∧ sz ≤ 0xFFFFFFFF ∧ sp = 0 ∧ nl ≤ 1) := fun ⟨a, b, c, d⟩ => by
          rcases hD with h | h | h | h
          · exact Nat.not_le.mpr h a
          · exact Nat.not_le.mpr h b
          · exact Nat.ne_of_gt h c
          · exact Nat.not_le.mpr h d
        simp only [makeBasic, Inode.fitsBasic, hx, ne_eq, not_true_eq_false, if_false, if_pos hD, beq_self_eq_true,
          Bool.true_and, Bool.and_eq_true, decide_eq_true_eq, beq_iff_eq, and_assoc, if_neg h2]
      · simp only [not_or, Nat.not_lt, Nat.le_zero] at hD
        obtain ⟨h1, h2, h3, h4⟩ := hD
        simp [makeBasic, Inode.fitsBasic, demote, hx, h1, h2, h3, h4]
    · simp [makeBasic, Inode.fitsBasic, hx]
  | slinkExt b nl ts t x => by_cases hx : x = NONE32 <;> simp [makeBasic, Inode.fitsBasic, demote, hx]
  | devExt b c nl d x => by_cases hx : x = NONE32 <;> simp [makeBasic, Inode.fitsBasic, demote, hx]
  | ipcExt b c nl x => by_cases hx : x = NONE32 <;> simp [makeBasic, Inode.fitsBasic, demote, hx]
  | _ => rfl

theorem demote_isExt (i : Inode) : (demote i).isExt = false := by cases i <;> rfl

theorem demote_makeExtended (i : Inode) (h : i.isExt = false) : demote (makeExtended i) = i := by
  cases i <;> first | rfl | cases h

theorem fitsBasic_xattr {i : Inode} (h : i.fitsBasic = true) (he : i.isExt = true) : i.xattr = NONE32 := by
  cases i with
  | dirExt => simp only [Inode.fitsBasic, Bool.and_eq_true, beq_iff_eq] at h; exact h.1
  | fileExt => exact (fitsBasic_fileExt.mp h).1
  | slinkExt | devExt | ipcExt => exact beq_iff_eq.mp h
  | _ => cases he

/-- `make_basic` never changes what a reader sees, except the link count of an extended file inode that claims no
link: a basic file inode has no link field and counts as one -/
theorem makeBasic_view_of_reg (i : Inode) (h : i.view.typeBits = sIFREG → 1 ≤ i.view.nlink) : (makeBasic i).view = i.view := by
  rw [makeBasic_eq]
  split
  · next hf =>
    cases i with
    | dirExt b nl sz sb par ic off x idx =>
      simp only [Inode.fitsBasic, Bool.and_eq_true, beq_iff_eq] at hf
      obtain ⟨rfl, _⟩ := hf; rfl
    | fileExt b st sz sp nl fi fo x blks =>
      obtain ⟨rfl, _, _, rfl, h5⟩ := fitsBasic_fileExt.mp hf
      obtain rfl : nl = 1 := Nat.le_antisymm h5 (h rfl)
      rfl
    | slinkExt b nl ts t x => obtain rfl : x = NONE32 := beq_iff_eq.mp hf; rfl
    | devExt b c nl d x => obtain rfl : x = NONE32 := beq_iff_eq.mp hf; rfl
    | ipcExt b c nl x => obtain rfl : x = NONE32 := beq_iff_eq.mp hf; rfl
    | _ => rfl
  · rfl

theorem makeBasic_view (i : Inode) (h : 1 ≤ i.nlink) : (makeBasic i).view = i.view :=
  makeBasic_view_of_reg i fun _ => by cases i <;> exact h

theorem makeBasic_isExt (i : Inode) (h : i.isExt = true) : (makeBasic i).isExt = !i.fitsBasic := by
  rw [makeBasic_eq]
  cases hf : i.fitsBasic
  · rw [if_neg (by decide)]; exact h
  · rw [if_pos rfl]; exact demote_isExt i

/-- through `sqfs_inode_set_xattr_index` the misplaced store of the unrepaired `make_extended` is invisible -/
theorem setXattrIndexCur_eq (stale x : Nat) (i : Inode) : setXattrIndexCur stale x i = setXattrIndex x i := by
  unfold setXattrIndexCur setXattrIndex
  split
  · cases i <;> first | rfl | (simp only [makeExtendedCur, makeExtended, putXattr])
  · rfl

/-- the view `serialize_tree_node` is asked to store: the node's mode, time stamp, inode number, link count and
xattr index on top of whatever payload the inode already carries -/
def wanted (a : NodeAttr) (v : View) : View :=
  { v with base := { v.base with mode := a.mode, mtime := a.mtime, inum := a.inum }, nlink := a.linkCount, xattr := a.xattrIdx }

/-- does the wanted result fit a basic inode? (`x` = xattr index, file fields as in the extended layout) -/
def fitsWanted (a : NodeAttr) (v : View) : Bool :=
  a.xattrIdx == NONE32 &&
    (v.typeBits != sIFREG ||
      (v.nums.getD 0 0 ≤ 0xFFFFFFFF && v.nums.getD 1 0 ≤ 0xFFFFFFFF && v.nums.getD 2 0 == 0 && a.linkCount ≤ 1))

theorem view_reg_cases {i : Inode} (h : i.view.typeBits = sIFREG) :
    (∃ b st fi fo sz blks, i = .file b st fi fo sz blks) ∨ (∃ b st sz sp nl fi fo x blks, i = .fileExt b st sz sp nl fi fo x blks) := by
  cases i with
  | file b st fi fo sz blks => exact Or.inl ⟨b, st, fi, fo, sz, blks, rfl⟩
  | fileExt b st sz sp nl fi fo x blks => exact Or.inr ⟨b, st, sz, sp, nl, fi, fo, x, blks, rfl⟩
  | dir | dirExt => exact absurd h (by decide : sIFDIR ≠ sIFREG)
  | slink | slinkExt => exact absurd h (by decide : sIFLNK ≠ sIFREG)
  | dev b c | devExt b c =>
    cases c <;> first | exact absurd h (by decide : sIFBLK ≠ sIFREG) | exact absurd h (by decide : sIFCHR ≠ sIFREG)
  | ipc b c | ipcExt b c =>
    cases c <;> first | exact absurd h (by decide : sIFIFO ≠ sIFREG) | exact absurd h (by decide : sIFSOCK ≠ sIFREG)

theorem view_dir_cases {i : Inode} (h : i.view.typeBits = sIFDIR) :
    (∃ b sb nl sz off par, i = .dir b sb nl sz off par) ∨ (∃ b nl sz sb par ic off x idx, i = .dirExt b nl sz sb par ic off x idx) := by
  cases i with
  | dir b sb nl sz off par => exact Or.inl ⟨b, sb, nl, sz, off, par, rfl⟩
  | dirExt b nl sz sb par ic off x idx => exact Or.inr ⟨b, nl, sz, sb, par, ic, off, x, idx, rfl⟩
  | file | fileExt => exact absurd h (by decide : sIFREG ≠ sIFDIR)
  | slink | slinkExt => exact absurd h (by decide : sIFLNK ≠ sIFDIR)
  | dev b c | devExt b c =>
    cases c <;> first | exact absurd h (by decide : sIFBLK ≠ sIFDIR) | exact absurd h (by decide : sIFCHR ≠ sIFDIR)
  | ipc b c | ipcExt b c =>
    cases c <;> first | exact absurd h (by decide : sIFIFO ≠ sIFDIR) | exact absurd h (by decide : sIFSOCK ≠ sIFDIR)

theorem treeNodeToInode_cases {mode lc devno : Nat} {target : Bytes} {i0 : Inode}
    (h : treeNodeToInode mode lc devno target = some i0) :
    i0.typeBits = mode &&& sIFMT
    ∧ ((∃ s, i0 = .ipc ⟨0, 0, 0, 0, 0⟩ s lc) ∨ i0 = .slink ⟨0, 0, 0, 0, 0⟩ lc target.length target
        ∨ ∃ c, i0 = .dev ⟨0, 0, 0, 0, 0⟩ c lc devno) := by
  unfold treeNodeToInode at h
  simp only at h
  by_cases h1 : mode &&& sIFMT = sIFSOCK
  · rw [if_pos h1] at h; cases h; exact ⟨h1.symm, Or.inl ⟨_, rfl⟩⟩
  rw [if_neg h1] at h
  by_cases h2 : mode &&& sIFMT = sIFIFO
  · rw [if_pos h2] at h; cases h; exact ⟨h2.symm, Or.inl ⟨_, rfl⟩⟩
  rw [if_neg h2] at h
  by_cases h3 : mode &&& sIFMT = sIFLNK
  · rw [if_pos h3] at h; cases h; exact ⟨h3.symm, Or.inr (Or.inl rfl)⟩
  rw [if_neg h3] at h
  by_cases h4 : mode &&& sIFMT = sIFBLK
  · rw [if_pos h4] at h; cases h; exact ⟨h4.symm, Or.inr (Or.inr ⟨_, rfl⟩)⟩
  rw [if_neg h4] at h
  by_cases h5 : mode &&& sIFMT = sIFCHR
  · rw [if_pos h5] at h; cases h; exact ⟨h5.symm, Or.inr (Or.inr ⟨_, rfl⟩)⟩
  rw [if_neg h5] at h; cases h

theorem view_base (i : Inode) : i.view.base = i.base := by cases i <;> rfl

theorem view_typeBits (i : Inode) : i.view.typeBits = i.typeBits := by cases i <;> rfl

theorem withBase_view (f : Base → Base) (i : Inode) : (i.withBase f).view = { i.view with base := f i.view.base } := by
  cases i <;> rfl

theorem setFileNlink_view {lc : Nat} {i : Inode} (hlc : 1 ≤ lc) (hf : i.view.typeBits = sIFREG) :
    (setFileNlink lc i).view = { i.view with nlink := lc } := by
  rcases view_reg_cases hf with ⟨b, st, fi, fo, sz, blks, rfl⟩ | ⟨b, st, sz, sp, nl, fi, fo, x, blks, rfl⟩
  · -- a basic file inode is left alone for one link, and shows one
    by_cases h1 : lc > 1
    · simp only [setFileNlink, if_pos h1]; rfl
    · obtain rfl : lc = 1 := Nat.le_antisymm (Nat.le_of_not_lt h1) hlc
      rfl
  · rfl

theorem setDirNlink_view {lc : Nat} {i : Inode} (hd : i.view.typeBits = sIFDIR) :
    (setDirNlink lc i).view = { i.view with nlink := lc } := by
  rcases view_dir_cases hd with ⟨b, sb, nl, sz, off, par, rfl⟩ | ⟨b, nl, sz, sb, par, ic, off, x, idx, rfl⟩ <;> rfl

/-- a basic inode shows no xattr index, so storing none into it shows nothing either -/
theorem setXattrIndex_view (x : Nat) (i : Inode) : (setXattrIndex x i).view = { i.view with xattr := x } := by
  unfold setXattrIndex
  by_cases hx : x = NONE32
  · subst hx; rw [if_neg (fun h => h rfl)]; cases i <;> rfl
  · rw [if_pos hx]; cases i <;> rfl

theorem serializeInode_reg (d : Bool) (a : NodeAttr) (i0 : Inode) :
    serializeInode d true a i0 = serializeInode d false a (setFileNlink a.linkCount i0) := rfl

theorem serializeInode_view (d : Bool) (a : NodeAttr) (i : Inode) (hl : i.view.typeBits = sIFREG → 1 ≤ i.view.nlink) :
    (serializeInode d false a i).view
      = { i.view with base := { i.view.base with mode := a.mode, mtime := a.mtime, inum := a.inum }, xattr := a.xattrIdx } := by
  unfold serializeInode
  simp only [Bool.false_eq_true, if_false]
  split
  · rw [makeBasic_view_of_reg _ (by rw [setXattrIndex_view, withBase_view]; exact hl), setXattrIndex_view, withBase_view]
  · rw [setXattrIndex_view, withBase_view]

theorem serialize_file_view (a : NodeAttr) (i0 : Inode) (hlc : 1 ≤ a.linkCount)
    (hf : i0.view.typeBits = sIFREG) :
    (serializeInode false true a i0).view = wanted a i0.view := by
  rw [serializeInode_reg, serializeInode_view _ _ _ (fun _ => by rw [setFileNlink_view hlc hf]; exact hlc),
    setFileNlink_view hlc hf]
  rfl

theorem putXattr_isExt (x : Nat) (i : Inode) : (putXattr x i).isExt = i.isExt := by cases i <;> rfl

theorem withBase_isExt (f : Base → Base) (i : Inode) : (i.withBase f).isExt = i.isExt := by cases i <;> rfl

theorem setDirNlink_isExt (lc : Nat) (i : Inode) : (setDirNlink lc i).isExt = i.isExt := by cases i <;> rfl

theorem setXattrIndex_none_isExt (i : Inode) : (setXattrIndex NONE32 i).isExt = i.isExt := by
  unfold setXattrIndex
  rw [if_neg (fun h => h rfl), putXattr_isExt]

theorem makeBasic_of_basic {i : Inode} (h : i.isExt = false) : makeBasic i = i := by
  cases i <;> first | rfl | cases h

theorem serializeInode_isExt_of_xattr (d r : Bool) (a : NodeAttr) (i0 : Inode) (hx : a.xattrIdx ≠ NONE32) :
    (serializeInode d r a i0).isExt = true := by
  unfold serializeInode setXattrIndex
  simp only [hx, ne_eq, not_false_eq_true, if_true, false_and, if_false, putXattr_isExt, makeExtended_isExt]

/-- the layout `serialize_tree_node` leaves an inode in: extended when an xattr index is stored; without one a
directory keeps its layout and anything else is extended exactly when `make_basic` finds a field that does not fit -/
theorem serializeInode_isExt (d : Bool) (a : NodeAttr) (i : Inode) :
    (serializeInode d false a i).isExt
      = (!(a.xattrIdx == NONE32) || if d then i.isExt else !(putXattr NONE32 i).fitsBasic) := by
  by_cases hx : a.xattrIdx = NONE32
  · unfold serializeInode
    cases d
    · simp only [Bool.false_eq_true, if_false, hx, not_false_eq_true, and_self, if_true]
      cases i with
      | dirExt | fileExt | slinkExt | devExt | ipcExt => exact makeBasic_isExt _ rfl
      | _ => rfl
    · simp only [Bool.false_eq_true, if_false, hx, not_true_eq_false, and_false]
      rw [setXattrIndex_none_isExt, withBase_isExt]; rfl
  · rw [serializeInode_isExt_of_xattr _ _ _ _ hx, beq_eq_false_iff_ne.mpr hx]; rfl

theorem serialize_other (a : NodeAttr) (devno : Nat) (target : Bytes) (i0 : Inode)
    (h0 : treeNodeToInode a.mode a.linkCount devno target = some i0) :
    (serializeInode false false a i0).view = wanted a i0.view
    ∧ (serializeInode false false a i0).isExt = !(a.xattrIdx == NONE32) := by
  have h1 : i0.view.typeBits ≠ sIFREG ∧ i0.view.nlink = a.linkCount ∧ (putXattr NONE32 i0).fitsBasic = true := by
    rcases (treeNodeToInode_cases h0).2 with ⟨s, rfl⟩ | rfl | ⟨c, rfl⟩
    · cases s
      · exact ⟨(by decide : sIFIFO ≠ sIFREG), rfl, rfl⟩
      · exact ⟨(by decide : sIFSOCK ≠ sIFREG), rfl, rfl⟩
    · exact ⟨(by decide : sIFLNK ≠ sIFREG), rfl, rfl⟩
    · cases c
      · exact ⟨(by decide : sIFBLK ≠ sIFREG), rfl, rfl⟩
      · exact ⟨(by decide : sIFCHR ≠ sIFREG), rfl, rfl⟩
  refine ⟨?_, ?_⟩
  · rw [serializeInode_view _ _ _ (fun h => absurd h h1.1), wanted, ← h1.2.1]
  · rw [serializeInode_isExt, h1.2.2]; exact Bool.or_false _

/-- both 64-bit fields of a basic file inode fit its 32-bit slots -/
def FileFits (i : Inode) : Prop := ∀ b st fi fo sz blks, i = .file b st fi fo sz blks → st ≤ 0xFFFFFFFF ∧ sz ≤ 0xFFFFFFFF

theorem fileFits_of_ext {i : Inode} (h : i.isExt = true) : FileFits i := by
  intro b st fi fo sz blks he; subst he; cases h

end Sqfs.Enc
