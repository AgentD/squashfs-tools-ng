/-
C02, `packRef = specPack`: the item machine.  What the fragment pass and the writer pass do with one worked item,
told on `specPack`'s state (`aStep`): a block of a file goes to the history and, with `LAST`, is placed; a tail end is a
hole or a fragment.  One item of the reference simulates one step of the machine
(`step_sim`), hence any item list does (`run_sim`); what is asked of the codec and of `byteCompare` is asked where a
fragment is handled.
-/
import Sqfs.Proofs.BPSPStore
namespace Sqfs.BlockProc
open Sqfs.Consts
open Sqfs.BlockWriter (hasFlag)

variable {P : Params} {F : FSt} {W : WSt}

/-- a worked item as `specPack` sees it -/
inductive AItem where
  /-- a data block (`ow = some _`) or the sentinel (`none`) of file `id`, block index `j`; `dd`: `DONT_DEDUPLICATE` -/
  | block (first last dd : Bool) (id j : Nat) (ow : Option Sqfs.Pack.Worked)
  /-- an all-zero tail end of `n` bytes -/
  | hole (id k n : Nat)
  /-- a tail end `t` that is no hole -/
  | frag (id : Nat) (Fl : Sqfs.Pack.Flags) (t : Bytes)

def aStep (P' : Sqfs.Pack.Params) (s : ASt) : AItem → ASt
  | .block first last dd id j ow =>
    let fs := if first then s.σ.hist.length else s.fs
    let pl := Sqfs.Pack.placeBlocks P'.base dd (s.σ.hist.take fs) (s.σ.hist.drop fs ++ storedOf ow)
    { σ := { s.σ with hist := if last then pl.1 else s.σ.hist ++ storedOf ow }, fs := fs, fe := s.fe,
      we := s.we ++ (effOf id j ow ++ if last then [⟨id, .start pl.2.1⟩] else []) }
  | .hole id k n => { s with fe := s.fe ++ [⟨id, .sparse k n⟩] }
  | .frag id Fl t =>
    { s with σ := (Sqfs.Pack.placeFrag P' s.σ Fl t).1,
             fe := s.fe ++ [⟨id, .fragLoc (Sqfs.Pack.placeFrag P' s.σ Fl t).2.1 (Sqfs.Pack.placeFrag P' s.σ Fl t).2.2⟩] }

/-- a block of a file: the stored form goes to the history, the word (or hole) to the inode; `fs`: where the file starts,
`pl`: what `LAST` makes of the file's blocks -/
theorem aStep_block (P' : Sqfs.Pack.Params) (s : ASt) (first last dd : Bool) (id j : Nat) (ow : Option Sqfs.Pack.Worked)
    {fs : Nat} (hfs : (if first then s.σ.hist.length else s.fs) = fs) {pl : List Sqfs.Pack.Stored × Nat × Bool}
    (hpl : Sqfs.Pack.placeBlocks P'.base dd (s.σ.hist.take fs) (s.σ.hist.drop fs ++ storedOf ow) = pl) :
    aStep P' s (.block first last dd id j ow) =
      { σ := { s.σ with hist := if last then pl.1 else s.σ.hist ++ storedOf ow }, fs := fs, fe := s.fe,
        we := s.we ++ (effOf id j ow ++ if last then [⟨id, .start pl.2.1⟩] else []) } := by
  subst hfs hpl; rfl

theorem aStep_hole (P' : Sqfs.Pack.Params) (s : ASt) (id k n : Nat) :
    aStep P' s (.hole id k n) = { s with fe := s.fe ++ [⟨id, .sparse k n⟩] } := rfl

theorem aStep_frag (P' : Sqfs.Pack.Params) (s : ASt) (id : Nat) (Fl : Sqfs.Pack.Flags) (t : Bytes)
    {r : Sqfs.Pack.State × (Nat × Nat)} (hr : Sqfs.Pack.placeFrag P' s.σ Fl t = r) :
    aStep P' s (.frag id Fl t) = { s with σ := r.1, fe := s.fe ++ [⟨id, .fragLoc r.2.1 r.2.2⟩] } := by
  subst hr; rfl

/-- the item `x` the front end submits is, once worked, the abstract item -/
inductive IRel (P : Params) (x : Blk) : AItem → Prop
  /-- a data block or the sentinel: `process_block` made `ow` of it -/
  | block {first last dd : Bool} {id : Nat} {ow : Option Sqfs.Pack.Worked}
      (notFB : hasFlag x.flags blkFragmentBlock = false) (notFrag : hasFlag x.flags blkIsFragment = false)
      (isFirst : isFirst x = first) (isLast : isLast x = last) (dedup : hasFlag x.flags blkDontDeduplicate = dd)
      (worked : BlkRel (processBlock P x) ow) (inode : x.inode = some id) : IRel P x (.block first last dd id x.index ow)
  /-- a tail end that `process_block` found all zero -/
  | hole {id : Nat} (worked : processBlock P x = { x with flags := x.flags ||| blkIsSparse })
      (isFrag : hasFlag x.flags blkIsFragment = true) (inode : x.inode = some id) : IRel P x (.hole id x.index x.data.length)
  /-- a tail end that `process_block` only hashed; what the fragment pass asks of `P` is asked here -/
  | frag {id : Nat} {Fl : Sqfs.Pack.Flags} (codec : CodecFits P) (bytes : P.byteCompare = true)
      (worked : processBlock P x = { x with chk := Sqfs.Pack.cksumOf (toPackParams P) Fl x.data })
      (isFrag : hasFlag x.flags blkIsFragment = true) (notSparse : hasFlag x.flags blkIsSparse = false)
      (dc : Fl.dontCompress = hasFlag x.flags blkDontCompress) (dedup : Fl.dontDedup = hasFlag x.flags blkDontDeduplicate)
      (nonempty : x.data ≠ []) (fits : x.data.length ≤ P.B) (inode : x.inode = some id) : IRel P x (.frag id Fl x.data)

/-- a worked block of a file (data block or sentinel): numbered, then written -/
theorem data_sim {s : ASt} (h : Sim P F W s) (b : Blk) (ow : Option Sqfs.Pack.Worked) (hrel : BlkRel b ow)
    (hnfb : hasFlag b.flags blkFragmentBlock = false) (hnf : hasFlag b.flags blkIsFragment = false) (id j : Nat)
    (hino : b.inode = some id) (hidx : b.index = j) :
    ∃ W', Sim P (fStep P F b) W'
      (aStep (toPackParams P) s (.block (isFirst b) (isLast b) (hasFlag b.flags blkDontDeduplicate) id j ow)) := by
  obtain ⟨W', hstep, hfs', hw', he'⟩ := wStep_gen h.w (b.withSeq F.stream.length) ow hrel hnfb id j hino hidx rfl rfl
  rw [fStep_data P F b hnf, aStep_block _ s _ _ _ id j ow rfl rfl]
  rw [h.fs] at hfs' hw' he'
  exact ⟨W', by rw [wRun_snoc, h.run]; exact hstep, hw', (h.f.hist _).congr rfl rfl rfl rfl, hfs', h.fe,
    he'.trans (h.we ▸ rfl)⟩

theorem step_sim {s : ASt} (h : Sim P F W s) {x : Blk} {a : AItem} (hx : IRel P x a) :
    ∃ W', Sim P (fStep P F (processBlock P x)) W' (aStep (toPackParams P) s a) := by
  cases hx with
  | @block first last dd id ow hnfb hnf hf hl hdd hrel hino =>
    -- what `process_block` leaves of the flags of `x` is what `data_sim` asks
    have hfl : ∀ c, Stable c → hasFlag (processBlock P x).flags c = hasFlag x.flags c := processBlock_hasFlag P x
    have hs := data_sim h (processBlock P x) ow hrel ((hfl _ stable_fragmentBlock).trans hnfb)
      ((hfl _ stable_isFragment).trans hnf) id x.index ((processBlock_inode P x).trans hino) (processBlock_index P x)
    rwa [show isFirst (processBlock P x) = first from (hfl _ stable_first).trans hf,
      show isLast (processBlock P x) = last from (hfl _ stable_last).trans hl, (hfl _ stable_dontDedup).trans hdd] at hs
  | @hole id hpb hfr hino =>
    have e1 : hasFlag (x.flags ||| blkIsSparse) blkIsFragment = true := by rw [hasFlag_or, hfr]; rfl
    have e2 : hasFlag (x.flags ||| blkIsSparse) blkIsSparse = true := by rw [hasFlag_or]; exact Bool.or_true _
    have hst : fStep P F (processBlock P x) = { F with effs := F.effs ++ [⟨id, .sparse x.index x.data.length⟩] } := by
      rw [hpb]; unfold fStep
      simp only [e1, e2, if_true, hino, mkEff]
    rw [hst, aStep_hole]
    exact ⟨W, h.run, h.w, h.f.congr rfl rfl rfl rfl, h.fs, congrArg (· ++ _) h.fe, h.we⟩
  | @frag id Fl hP hbc hpb hfr hns hdc hdd hne hsz hino =>
    obtain ⟨seq, flags, data, chk, index, inode⟩ := x
    cases hino
    rw [hpb, aStep_frag _ s id Fl data rfl]
    -- `specFrag` at the checksum `Pack.cksumOf` is `Pack.placeFrag`
    exact frag_sim hP hbc h _ Fl hfr hns hdc hdd hne hsz

inductive IRels (P : Params) : List Blk → List AItem → Prop
  | nil : IRels P [] []
  | cons {x a xs as} : IRel P x a → IRels P xs as → IRels P (x :: xs) (a :: as)

theorem IRels.append {xs ys : List Blk} {as bs : List AItem} (h : IRels P xs as) (k : IRels P ys bs) :
    IRels P (xs ++ ys) (as ++ bs) := by
  induction h with
  | nil => exact k
  | cons hxa _ ih => exact .cons hxa ih

theorem run_sim {xs : List Blk} {as : List AItem} (hx : IRels P xs as) : ∀ {F : FSt} {W : WSt} {s : ASt}, Sim P F W s →
    ∃ W', Sim P (fRun P F (xs.map (processBlock P))) W' (as.foldl (aStep (toPackParams P)) s) := by
  induction hx with
  | nil => exact fun h => ⟨_, h⟩
  | cons hxa _ ih =>
    intro F W s h
    obtain ⟨W1, h1⟩ := step_sim h hxa
    exact ih h1

end Sqfs.BlockProc
