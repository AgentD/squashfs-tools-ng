/-
`directives_preserve_content`: reading a file back from where `specPack` laid it returns the input bytes, whatever the flags.
`readBlocks` over what the worker made of the first `n` blocks of a file (block words via `unc`, holes as zeros) returns their
concatenation `d.take (n * B)` (`readBlocks_worked`); the tail, from its fragment block (`contentRule`); the invariant over
`packFiles` (`BlocksGood` and the rule's `FragGood` on the way, `CGood` in the state `specPack` ends in); the statement itself
(`readFile_specPack`).
-/
import Sqfs.Proofs.PackInv
namespace Sqfs.Pack

theorem decode_encode (P : Params) (hc : P.codec.Ok) (dc : Bool) (ck : UInt32) (d : Bytes) :
    decodeBlock P.codec (encode P dc ck d).raw (encode P dc ck d).data = d := by
  rcases encode_cases P dc ck d with ⟨hr, hd⟩ | ⟨hr, hd⟩
  · rw [hr, hd]; rfl
  · rw [hr]; exact hc.roundTrip d _ hd

theorem allZero_eq_replicate (d : Bytes) (h : allZero d = true) : List.replicate d.length 0 = d :=
  (List.eq_replicate_iff.2 ⟨rfl, fun b hb => beq_iff_eq.1 (List.all_eq_true.1 h b hb)⟩).symm

/-- Reading back what the worker made of the first `k` blocks of `d`, laid out behind `A`, gives these blocks.  The reader's
`rem` is the length of what is left of `d`, so it expects the sizes the blocks have; a hole is read as zeros, which is what the
block was. -/
theorem readBlocks_worked (P : Params) (hc : P.codec.Ok) (F : Flags) : ∀ (k : Nat) (d A Z : Bytes) (off : Nat),
    ((((List.range k).map (blockAt P.B d)).map (workData P F)).filterMap Worked.stored? ≠ [] → off = P.base + A.length) →
    readBlocks P.codec P.B P.base
        (A ++ areaOf ((((List.range k).map (blockAt P.B d)).map (workData P F)).filterMap Worked.stored?) ++ Z) off d.length
        ((((List.range k).map (blockAt P.B d)).map (workData P F)).map Worked.word)
      = ((List.range k).map (blockAt P.B d)).flatten := by
  intro k
  induction k with
  | zero => intro d A Z off _; rfl
  | succ k ih =>
    intro d A Z off hoff
    have hrem : d.length - min P.B d.length = (d.drop P.B).length := by
      rw [List.length_drop, Nat.min_comm, ← Nat.sub_eq_sub_min]
    have hlen : (d.take P.B).length = min P.B d.length := List.length_take
    rw [range_blocks_succ] at hoff ⊢
    simp only [List.map_cons, List.filterMap_cons, List.flatten_cons] at hoff ⊢
    by_cases hz : (!F.ignoreSparse && allZero (d.take P.B)) = true
    · rw [workData_hole P F _ hz] at hoff ⊢
      simp only [Worked.stored?] at hoff ⊢
      rw [show (Worked.sparse (d.take P.B).length).word = Word.sparse from rfl, readBlocks, hrem, ← hlen,
        allZero_eq_replicate _ (Bool.and_eq_true_iff.1 hz).2, ih _ A Z off hoff]
    · have hdec := decode_encode P hc F.dontCompress (cksumOf P F (d.take P.B)) (d.take P.B)
      rw [workData, if_neg hz] at hoff ⊢
      generalize encode P F.dontCompress (cksumOf P F (d.take P.B)) (d.take P.B) = s at hdec hoff ⊢
      simp only [Worked.stored?] at hoff ⊢
      cases hoff (List.cons_ne_nil _ _)
      rw [show (Worked.stored s).word = Word.stored s.data.length s.raw from rfl, readBlocks, areaOf_cons, ← List.append_assoc A,
        List.append_assoc (A ++ s.data), readAt_mid' P.base A s.data _ _ _ rfl rfl, hdec, hrem]
      congr 1
      have := ih (d.drop P.B) (A ++ s.data) Z (P.base + A.length + s.data.length)
        (fun _ => by rw [List.length_append, Nat.add_assoc])
      rwa [List.append_assoc (A ++ s.data)] at this

theorem readBlocks_ext (c : Codec) (B base : Nat) (area ext : Bytes) (ws : List Word) (off rem : Nat)
    (h : off - base + diskBytes ws ≤ area.length) :
    readBlocks c B base (area ++ ext) off rem ws = readBlocks c B base area off rem ws := by
  fun_induction readBlocks c B base area off rem ws with
  | case1 => rfl
  | case2 off rem ws ih => rw [readBlocks, ih (by simpa [diskBytes_cons, Word.diskSize] using h)]
  | case3 off rem n raw ws ih =>
    rw [diskBytes_cons] at h
    simp only [Word.diskSize] at h
    rw [readBlocks, readAt_ext base area ext off n (by omega), ih (by omega)]

/-- data of fragment block `k`: decoded from the data area if its table entry is filled, the bytes held in memory
if it is the open block -/
def fragData (P : Params) (σ : State) (k : Nat) : Option Bytes :=
  match σ.frags[k]? with
  | some e => some (decodeBlock P.codec e.raw (readAt P.base (areaOf σ.hist) e.start e.size))
  | none => if k = σ.frags.length then σ.openFrag.map (·.data) else none

/-- the bytes `t` are found at offset `o` of fragment block `k` -/
def TailOK (P : Params) (σ : State) (k o : Nat) (t : Bytes) : Prop :=
  ∃ blk, fragData P σ k = some blk ∧ o + t.length ≤ blk.length ∧ (blk.drop o).take t.length = t

/-- the recorded fragment `c` is found in the bytes `blk` -/
def At (blk : Bytes) (c : Chunk) : Prop := c.offset + c.data.length ≤ blk.length ∧ (blk.drop c.offset).take c.data.length = c.data

/-- a tail is found in the open block where it was put, and a closed block is read back from the data area as it was -/
def contentRule (P : Params) (hc : P.codec.Ok) : FragRule P where
  C c h e := e.start - P.base + e.size ≤ bytesOf h ∧ At (decodeBlock P.codec e.raw (readAt P.base (areaOf h) e.start e.size)) c
  O c fb := At fb.data c
  hist hp h := by
    obtain ⟨ext, hext⟩ := areaOf_prefix hp
    refine ⟨Nat.le_trans h.1 (prefix_bytesOf_le hp), ?_⟩
    rw [hext, readAt_ext _ _ _ _ _ (by rw [areaOf_length]; exact h.1)]
    exact h.2
  grow t _ h := ⟨by rw [List.length_append]; exact Nat.le_trans h.1 (Nat.le_add_right _ _),
    by rw [List.take_drop_append_left _ _ h.1]; exact h.2⟩
  close {c fb} h hO := by
    have hr := readAt_mid P.base (areaOf h) (workFragBlock P fb).data []
    rw [List.append_nil, areaOf_length] at hr
    refine ⟨by simp [bytesOf_append, bytesOf_cons, bytesOf_nil], ?_⟩
    simp only
    rw [areaOf_append, areaOf_cons, areaOf_nil, List.append_nil, hr]
    exact (decode_encode P hc _ _ _).symm ▸ hO
  fresh _ _ _ t := ⟨by simp, by simp⟩
  append _ _ _ t fb := ⟨by simp, by simp⟩

theorem getElem?_none_of_length {α : Type} (l : List α) : l[l.length]? = none := by simp

theorem Slot.tailOK {P : Params} {hc : P.codec.Ok} {σ : State} {c : Chunk} {k : Nat} (h : Slot (contentRule P hc) c σ k) :
    TailOK P σ k c.offset c.data := by
  rcases h with ⟨e, he, _, hat⟩ | ⟨hk, fb, hfb, hat⟩
  · exact ⟨_, by rw [fragData, he], hat⟩
  · exact ⟨fb.data, by rw [fragData, hk, getElem?_none_of_length, if_pos rfl, hfb]; rfl, hat⟩

/-- `r` reads back as `f` over the state `σ`: the block words give the first `r.words.length * B` bytes, the fragment the rest -/
structure CGood (P : Params) (σ : State) (f : InFile) (r : FileResult) : Prop where
  size : r.size = f.data.length
  blocks : readBlocks P.codec P.B P.base (areaOf σ.hist) r.start r.size r.words = f.data.take (r.words.length * P.B)
  inside : r.start - P.base + diskBytes r.words ≤ bytesOf σ.hist
  frag : match r.frag with
    | none => f.data.length ≤ r.words.length * P.B
    | some (k, o) => TailOK P σ k o (f.data.drop (r.words.length * P.B))
        ∧ (f.data.drop (r.words.length * P.B)).length = f.data.length % P.B

theorem afterBlocks_split (P : Params) (σ : State) (f : InFile) :
    ∃ A Z : Bytes, areaOf (afterBlocks P σ f).hist = A ++ areaOf (mineOf P f) ++ Z
      ∧ (mineOf P f ≠ [] → (placeBlocks P.base f.flags.dontDedup σ.hist (mineOf P f)).2.1 = P.base + A.length) := by
  by_cases hm : mineOf P f = []
  · exact ⟨[], areaOf (afterBlocks P σ f).hist, by simp [hm, areaOf_nil], fun h => absurd hm h⟩
  · obtain ⟨pre, post, h⟩ := placeBlocks_spec P.base f.flags.dontDedup σ.hist (mineOf P f) hm
    exact ⟨areaOf pre, areaOf post, by rw [afterBlocks, h.split, areaOf_append, areaOf_append],
      fun _ => by rw [h.start, areaOf_length]⟩

/-- the block part of `CGood` over the data area `h`; for a file with a fragment, what is left for it is the tail end -/
structure BlocksGood (P : Params) (h : List Stored) (f : InFile) (r : FileResult) : Prop where
  size : r.size = f.data.length
  blocks : readBlocks P.codec P.B P.base (areaOf h) r.start r.size r.words = f.data.take (r.words.length * P.B)
  inside : r.start - P.base + diskBytes r.words ≤ bytesOf h
  rest : match r.frag with
    | none => f.data.length ≤ r.words.length * P.B
    | some _ => f.data.drop (r.words.length * P.B) = tailOf P.B f.data

theorem BlocksGood.prefix {P : Params} {h h' : List Stored} (hp : h <+: h') {f : InFile} {r : FileResult}
    (hg : BlocksGood P h f r) : BlocksGood P h' f r := by
  obtain ⟨ext, hext⟩ := areaOf_prefix hp
  exact ⟨hg.size, by rw [hext, readBlocks_ext _ _ _ _ _ _ _ _ (by rw [areaOf_length]; exact hg.inside)]; exact hg.blocks,
    Nat.le_trans hg.inside (prefix_bytesOf_le hp), hg.rest⟩

theorem blocks_good (P : Params) (hB : 0 < P.B) (hc : P.codec.Ok) (σ : State) (f : InFile) :
    BlocksGood P (afterBlocks P σ f).hist f (packFile P σ f).2 := by
  have hbs := blocksOf_eq_range P.B hB f.data (tailAsBlock P.B f)
  have hlen : (packFile P σ f).2.words.length = (blocksOf P.B f.data (tailAsBlock P.B f)).length := by
    rw [packFile_words, workedOf, List.length_map, List.length_map]
  obtain ⟨A, Z, harea, hoff⟩ := afterBlocks_split P σ f
  have hr := readBlocks_worked P hc f.flags _ f.data A Z _ (by rw [← hbs, ← workedOf, ← mineOf_eq]; exact hoff)
  rw [range_blocks_flatten, ← hbs, ← workedOf, ← mineOf_eq, ← harea, ← packFile_words P σ f, ← hlen] at hr
  refine ⟨packFile_size P σ f, by rw [packFile_size, packFile_start P σ f]; exact hr, ?_, ?_⟩
  · rw [packFile_start P σ f, packFile_diskBytes]
    exact (placeBlocks_end_le P.base f.flags.dontDedup σ.hist (mineOf P f)).2
  · rw [packFile_frag, ← tailCond_eq, hlen]
    by_cases hcond : (decide (f.data.length % P.B > 0) && !tailAsBlock P.B f) = true
    · rw [if_pos hcond]
      simp only [Bool.and_eq_true, Bool.not_eq_true'] at hcond
      simp only [blocksOf_length, hcond.2, Bool.false_eq_true, if_false, Nat.add_zero]
      rfl
    · rw [if_neg hcond]
      refine blocksOf_cover P.B hB f.data _ ?_
      by_cases h0 : f.data.length % P.B > 0
      · exact Or.inl (by simpa [h0] using hcond)
      · exact Or.inr (Nat.eq_zero_of_not_pos h0)

theorem specPack_cgood (P : Params) (hB : 0 < P.B) (hc : P.codec.Ok) (files : List InFile) (i : Nat) (h : i < files.length) :
    ∃ r, (specPack P files).files[i]? = some r ∧ CGood P (closeOpen P (packFiles P {} files).1) files[i] r := by
  obtain ⟨r, hr, hb, hfg⟩ := packFiles_good P (ChunksIn (contentRule P hc))
    (fun σ f r => BlocksGood P σ.hist f r ∧ FragGood (contentRule P hc) σ f r)
    (fun σ f hi => ⟨(frag_step _ σ f hi).1, (blocks_good P hB hc σ f).prefix (afterBlocks_prefix_packFile P σ f),
      (frag_step _ σ f hi).2⟩)
    (fun σ f g r hg => ⟨hg.1.prefix (packFile_hist_prefix P σ f), frag_mono _ σ f g r hg.2⟩)
    files {} (chunksIn_init _) i h
  have hb' := hb.prefix (closeOpen_hist_prefix P _)
  refine ⟨r, hr, hb'.size, hb'.blocks, hb'.inside, ?_⟩
  have ht := hb'.rest
  cases hfr : r.frag with
  | none => simpa [hfr] using ht
  | some p =>
    obtain ⟨k, o⟩ := p
    simp only [hfr] at ht ⊢
    rw [ht]
    exact ⟨(hfg k o hfr).closeOpen.tailOK, tailOf_length P.B _⟩

theorem readFrag_of_tailOK (P : Params) (σ : State) (hno : σ.openFrag = none) (k o : Nat) (t : Bytes)
    (h : TailOK P σ k o t) :
    readFrag P.codec P.base (areaOf σ.hist) σ.frags t.length (some (k, o)) = t := by
  obtain ⟨blk, hb, _, ht⟩ := h
  unfold fragData at hb
  unfold readFrag
  cases he : σ.frags[k]? with
  | some e =>
    simp only [he, Option.some.injEq] at hb ⊢
    rw [hb]; exact ht
  | none =>
    simp only [he, hno, Option.map_none] at hb
    split at hb <;> cases hb

theorem readFile_specPack (P : Params) (hB : 0 < P.B) (hc : P.codec.Ok) (files : List InFile) (i : Nat) (h : i < files.length) :
    ∃ r, (specPack P files).files[i]? = some r ∧ readFile P (specPack P files) r = files[i].data := by
  obtain ⟨r, hr, hg⟩ := specPack_cgood P hB hc files i h
  refine ⟨r, hr, ?_⟩
  have hno := closeOpen_openFrag P (packFiles P {} files).1
  show readBlocks P.codec P.B P.base (areaOf (closeOpen P (packFiles P {} files).1).hist) r.start r.size r.words
      ++ readFrag P.codec P.base (areaOf (closeOpen P (packFiles P {} files).1).hist)
          (closeOpen P (packFiles P {} files).1).frags (r.size % P.B) r.frag = files[i].data
  rw [hg.blocks]
  have hf := hg.frag
  cases hfr : r.frag with
  | none =>
    simp only [hfr] at hf
    simp only [readFrag, List.append_nil]
    exact List.take_of_length_le hf
  | some p =>
    obtain ⟨k, o⟩ := p
    simp only [hfr] at hf
    have := readFrag_of_tailOK P _ hno k o _ hf.1
    rw [hf.2, ← hg.size] at this
    rw [this]
    exact List.take_append_drop _ _

end Sqfs.Pack
