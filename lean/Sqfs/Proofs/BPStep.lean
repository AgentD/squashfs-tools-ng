/-
C02: the primitive steps of the implementation model keep `Back` and `Acct`.
-/
import Sqfs.Proofs.BPLookup
import Sqfs.Proofs.BPPool
namespace Sqfs.BlockProc
open Sqfs.Consts
open Sqfs.BlockWriter (hasFlag)

/-- what the invariant is proved under: the pool answers like `threadpool_serial.c`, the codec keeps its contract, and the
block size fits the 24 bits of a size word (`0 < P.B` is asked apart, by the closed form of the `append` loop only) -/
structure SerialOK (P : Params) : Prop where
  ans : P.ans = serialAns
  codec : CodecOk P.codec
  lt : P.B < 2 ^ 24

theorem storeIo_perm (b : Blk) (q : List Blk) : (storeIo b q).Perm (b :: q) := by
  fun_induction storeIo b q with
  | case1 => exact .refl _
  | case2 x t _ ih => exact (ih.cons x).trans (.swap b x t)
  | case3 => exact .refl _

theorem storeIo_length (b : Blk) (q : List Blk) : (storeIo b q).length = q.length + 1 := by
  simpa using (storeIo_perm b q).length_eq

theorem storeIo_sorted (b : Blk) (q : List Blk) (hs : q.Pairwise (fun a c => a.seq < c.seq)) (hne : ∀ y ∈ q, y.seq ≠ b.seq) :
    (storeIo b q).Pairwise (fun a c => a.seq < c.seq) := by
  fun_induction storeIo b q with
  | case1 => simp
  | case2 x t hlt ih =>
    rw [List.pairwise_cons] at hs ⊢
    refine ⟨fun y hy => ?_, ih hs.2 (fun y hy => hne y (List.mem_cons_of_mem _ hy))⟩
    rcases List.mem_cons.mp ((storeIo_perm b t).subset hy) with h | h
    · exact h ▸ hlt
    · exact hs.1 y h
  | case3 x t hge =>
    have hxb : b.seq < x.seq := by have := hne x List.mem_cons_self; omega
    refine List.pairwise_cons.mpr ⟨fun y hy => ?_, hs⟩
    rcases List.mem_cons.mp hy with h | h
    · exact h ▸ hxb
    · exact Nat.lt_trans hxb ((List.pairwise_cons.mp hs).1 y h)

theorem mem_drop_seq {P : Params} {n : Nat} {done : List Blk} {F : FSt} (h : FInv P n done F) {deq : Nat} {b : Blk}
    (hb : b ∈ F.stream.drop deq) : deq ≤ b.seq ∧ b.seq < F.stream.length ∧ F.stream[b.seq]? = some b := by
  obtain ⟨i, hi, rfl⟩ := List.mem_iff_getElem.mp hb
  rw [List.length_drop] at hi
  have hlt : deq + i < F.stream.length := Nat.add_lt_of_lt_sub' hi
  rw [List.getElem_drop, h.seqs (deq + i) hlt]
  exact ⟨Nat.le_add_right _ _, hlt, List.getElem?_eq_getElem hlt⟩

theorem Back.tblLen {P : Params} {s : Proc} {g : Ghost} {F : FSt} {W : WSt} (h : Back P s g F W) : s.w.fragTbl.length = F.ntbl := by
  rw [h.fragTbl, applySets_length]; simp

theorem Back.itemOK_of_mem {P : Params} (hc : CodecOk P.codec) {s : Proc} {g : Ghost} {F : FSt} {W : WSt} (h : Back P s g F W)
    {x : Blk} (hx : x ∈ g.done ++ g.pend) : ItemOK P.B s.w.inodes.length x := by
  rw [h.worked] at hx
  obtain ⟨y, hy, rfl⟩ := List.mem_map.mp hx
  exact (h.itemsOK y hy).worked hc

theorem Back.pend_of_items {P : Params} {s : Proc} {g : Ghost} {F : FSt} {W : WSt} (h : Back P s g F W) {x : Blk} {rest : List Blk}
    (hi : g.items = x :: rest) (hfb : isFB x = false) : g.pend = x :: rest.filter (fun b => !isFB b) := by
  rw [← h.pend, hi]; simp [hfb]

/-- the protocol condition for the next block the pool hands back -/
theorem Back.fproto_next {P : Params} {s : Proc} {g : Ghost} {F : FSt} {W : WSt} (h : Back P s g F W) (x : Blk) (rest : List Blk)
    (hp : g.pend = x :: rest) :
    (if isFrag x then !(g.done.foldl fOpen false) else (!isLast x || g.done.foldl fOpen false || isFirst x)) = true := by
  have := h.fprotoOK
  rw [← fproto_worked P, ← h.worked, hp, fproto_append] at this
  simp only [fproto, Bool.and_eq_true] at this
  exact this.2.1

/-- what the back end's steps leave alone -/
structure Kept (s s' : Proc) : Prop where
  fe : s'.fe = s.fe
  maxBacklog : s'.maxBacklog = s.maxBacklog
  inodes : s'.w.inodes.length = s.w.inodes.length

theorem Kept.refl (s : Proc) : Kept s s := ⟨rfl, rfl, rfl⟩

theorem Kept.trans {s1 s2 s3 : Proc} (a : Kept s1 s2) (b : Kept s2 s3) : Kept s1 s3 :=
  ⟨b.fe.trans a.fe, b.maxBacklog.trans a.maxBacklog, b.inodes.trans a.inodes⟩

theorem blkCurrent_of_fe {s s' : Proc} (h : s'.fe = s.fe) : s'.blkCurrent = s.blkCurrent :=
  congrArg Front.blkCurrent h

theorem Back.enqueueFront {P : Params} (hP : P.ans = serialAns) {s : Proc} {g : Ghost} {F : FSt} {W : WSt}
    (h : Back P s g F W) (x : Blk) (hx : ItemOK P.B s.w.inodes.length x) (hfp : fproto false (g.front ++ [x]) = true) :
    ∃ p', enqueueBlock P s x = .ok { s with pool := p' } ∧
      Back P { s with pool := p' }
        { g with front := g.front ++ [x], pend := g.pend ++ [processBlock P x], items := g.items ++ [processBlock P x] } F W := by
  obtain ⟨hrc, hpool⟩ := poolSubmit_ok P hP s.pool g.items h.pool x
  have hnfb : hasFlag x.flags blkFragmentBlock = false := hx.notFB
  have hwfb : isFB (processBlock P x) = false := by rw [isFB_worked]; exact hnfb
  refine ⟨(poolSubmit P s.pool x).1, ?_, ?_⟩
  · unfold enqueueBlock
    simp only [hnfb, Bool.false_and, Bool.false_eq_true, if_false, hrc, ne_eq, not_true_eq_false]
  · refine { h with pool := hpool, pend := ?_, worked := ?_, queue := ?_, itemsOK := ?_, fprotoOK := hfp }
    · simp only [List.filter_append, List.filter_cons, hwfb, Bool.not_false, if_true, List.filter_nil, h.pend]
    · simp only [List.map_append, List.map_cons, List.map_nil, ← List.append_assoc, h.worked]
    · simp only [List.filter_append, List.filter_cons, hwfb, Bool.false_eq_true, if_false, List.filter_nil, List.append_nil]
      exact h.queue
    · exact List.forall_mem_snoc h.itemsOK hx

theorem Acct.enqueue {s : Proc} {g : Ghost} {k : Nat} (h : Acct s g (k + 1)) (p' : PoolSt) (b : Blk) (front pend : List Blk) :
    Acct { s with pool := p' } { g with front := front, pend := pend, items := g.items ++ [b] } k := by
  unfold Acct at *
  simp only [List.length_append, List.length_singleton]
  omega

/-- `Acct` reads nothing of the front end: when only its fields change, what is left to show is that `blk_current` and the
blocks held still add up (`hk`) -/
theorem Acct.front {s s' : Proc} {g : Ghost} {k k' : Nat} (h : Acct s g k) (hb : s'.backlog = s.backlog)
    (hq : s'.ioQueue = s.ioQueue) (hf : s'.fragBlock = s.fragBlock) (hk : k' = k) : Acct s' g k' := by
  unfold Acct at h ⊢
  rw [hb, hq, hf, hk]; exact h

/-- the open fragment block is handed to the pool and numbered (`process_completed_fragment` at overflow, `finish`) -/
theorem Back.closeFrag {P : Params} (hP : P.ans = serialAns) {s : Proc} {g : Ghost} {F : FSt} {W : WSt}
    (h : Back P s g F W) (fb : Blk) (hfb : F.opn = some fb) (ho : g.done.foldl fOpen false = false) :
    ∃ s', enqueueBlock P { s with fragBlock := none, ioSeqNum := s.ioSeqNum + 1 } { fb with seq := s.ioSeqNum } = .ok s' ∧
      Kept s s' ∧ (∀ k, Acct s g k → Acct s' { g with items := g.items ++ [processBlock P (fb.withSeq F.stream.length)] } k) ∧
      Back P s' { g with items := g.items ++ [processBlock P (fb.withSeq F.stream.length)] } (F.close P) W := by
  obtain ⟨hraw, hidx, hpos, hle, hfresh⟩ := h.finv.opn fb hfb
  have hfacts := fbRaw_facts hraw
  have hseq : ({ fb with seq := s.ioSeqNum } : Blk) = fb.withSeq F.stream.length := by rw [h.ioSeq]; rfl
  rw [hseq]
  have hfbflag : hasFlag (fb.withSeq F.stream.length).flags blkFragmentBlock = true := hfacts.fb
  obtain ⟨hrc, hpool⟩ := poolSubmit_ok P hP s.pool g.items h.pool (fb.withSeq F.stream.length)
  have hclose : F.close P =
      { F with opn := none, closed := (fb.index, fb.data) :: F.closed,
               stream := F.stream ++ [processBlock P (fb.withSeq F.stream.length)] } := by
    simp [FSt.close, hfb]
  have hw : FBWorked P (processBlock P (fb.withSeq F.stream.length)) fb.data := ⟨fb.withSeq F.stream.length, hraw, rfl, rfl⟩
  have hne : fb.data ≠ [] := List.ne_nil_of_length_pos hpos
  have hwfb : isFB (processBlock P (fb.withSeq F.stream.length)) = true := (hw.facts hne).fb
  have hdeq : s.ioDeqSeqNum ≤ F.stream.length := h.deqLe
  refine ⟨{ s with fragBlock := none, ioSeqNum := s.ioSeqNum + 1, pool := (poolSubmit P s.pool (fb.withSeq F.stream.length)).1, fblkInFlight := if P.byteCompare then (fb.index, fb.data) :: s.fblkInFlight else s.fblkInFlight }, ?_, ⟨rfl, rfl, rfl⟩, ?_, ?_⟩
  · unfold enqueueBlock
    simp only [hrc, ne_eq, not_true_eq_false, if_false, hfbflag, Bool.true_and]
    rfl
  · -- the block moves from `frag_block` into the pool
    intro k hk
    unfold Acct at hk ⊢
    rw [h.fragBlock, hfb] at hk
    simp only [List.length_append, List.length_singleton, boolNat, Option.isSome_some, Option.isSome_none, if_true,
      Bool.false_eq_true, if_false] at hk ⊢
    omega
  rw [hclose]
  refine { h with pool := hpool, pend := ?_, deqLe := ?_, queue := ?_, finv := ?_, fragBlock := rfl, ioSeq := ?_, wrun := ?_, winv := ?_,
                  inFlSub := ?_, inFlNodup := ?_, inFlAll := ?_, inFlNone := ?_, cache := ?_ }
  · simp only [List.filter_append, List.filter_cons, hwfb, Bool.not_true, Bool.false_eq_true, if_false, List.filter_nil,
      List.append_nil, h.pend]
  · show s.ioDeqSeqNum ≤ _
    simp only [List.length_append, List.length_singleton]; omega
  · show (s.ioQueue ++ _).Perm _
    simp only [List.filter_append, List.filter_cons, hwfb, if_true, List.filter_nil]
    rw [List.drop_append_of_le_length hdeq, ← List.append_assoc]
    exact h.queue.append_right _
  · rw [← hclose]; exact h.finv.close ho
  · show s.ioSeqNum + 1 = _
    rw [h.ioSeq]; simp
  · show wRun _ (List.take s.ioDeqSeqNum _) = _
    rw [List.take_append_of_le_length hdeq]; exact h.wrun
  · show WInv P (List.take s.ioDeqSeqNum _) W
    rw [List.take_append_of_le_length hdeq]; exact h.winv
  · intro e he
    simp only at he
    split at he
    · rcases List.mem_cons.mp he with he | he
      · subst he; exact List.mem_cons_self
      · exact List.mem_cons_of_mem _ (h.inFlSub e he)
    · exact List.mem_cons_of_mem _ (h.inFlSub e he)
  · simp only
    split
    · simp only [List.map_cons, List.nodup_cons]
      refine ⟨fun hm => ?_, h.inFlNodup⟩
      obtain ⟨e, he, hee⟩ := List.mem_map.mp hm
      exact hfresh e (h.inFlSub e he) hee
    · exact h.inFlNodup
  · intro hbc b hb hbfb
    simp only [hbc, if_true, List.map_cons, List.mem_cons]
    simp only at hb
    rw [List.drop_append_of_le_length hdeq] at hb
    rcases List.mem_append.mp hb with hb | hb
    · exact Or.inr (h.inFlAll hbc b hb hbfb)
    · rw [List.mem_singleton] at hb
      subst hb
      left; rw [processBlock_index]; rfl
  · intro hbc
    simp only [hbc, Bool.false_eq_true, if_false]
    exact h.inFlNone hbc
  · intro ci cd hcc
    exact List.mem_cons_of_mem _ (h.cache ci cd hcc)

theorem modInode_eff (w : W) (i : Option Nat) (e : InoEff) :
    modInode w i e.app = { w with inodes := applyEffs w.inodes (mkEff i e) } := by
  cases i with
  | none => rfl
  | some id => rfl

theorem modInode_length (w : W) (i : Option Nat) (f : Inode → Inode) : (modInode w i f).inodes.length = w.inodes.length := by
  cases i with
  | none => rfl
  | some id => simp [modInode]

/-- what `process_completed_block` records about a written block, as the writer pass lists it: the fragment table entry of a
fragment block, else the first half of `blockEffs` -/
theorem recordBlock_eq (w : W) (b : Blk) (loc : Nat) (hidx : isFB b = true → b.index < w.fragTbl.length) :
    recordBlock w b loc = .ok
      { w with fragTbl := if !hasFlag b.flags blkIsSparse && b.data.length != 0 && hasFlag b.flags blkFragmentBlock
                          then w.fragTbl.set b.index (loc, sizeWord b) else w.fragTbl,
               inodes := applyEffs w.inodes
                 (if hasFlag b.flags blkIsSparse then mkEff b.inode (.sparse b.index b.data.length)
                  else if b.data.length != 0 && !hasFlag b.flags blkFragmentBlock then mkEff b.inode (.word b.index (sizeWord b))
                  else []) } := by
  fun_cases recordBlock w b loc
  case case1 hs =>
    show Except.ok (modInode w b.inode (InoEff.sparse b.index b.data.length).app) = _
    rw [modInode_eff, if_pos hs]
    simp only [hs, Bool.not_true, Bool.false_and, Bool.false_eq_true, if_false]
  case case2 hs hd hfb _ =>
    simp only [hs, hd, hfb, Bool.not_false, Bool.not_true, Bool.and_self, Bool.and_false, Bool.false_eq_true, if_true, if_false]
    rfl
  case case3 _ _ hfb hlt => exact absurd (hidx hfb) hlt
  case case4 hs hd hfb =>
    show Except.ok (modInode w b.inode (InoEff.word b.index (sizeWord b)).app) = _
    rw [modInode_eff]
    simp only [hs, hd, hfb, Bool.not_false, Bool.and_self, Bool.and_false, Bool.false_eq_true, if_true, if_false]
  case case5 hs hd =>
    simp only [hs, hd, Bool.and_false, Bool.false_and, Bool.false_eq_true, if_false]
    rfl

/-- `process_completed_block` does to `W` what the writer pass does, given that the fragment table is long enough -/
theorem completeBlock_eq (w : W) (Wl Wl' : WSt) (b : Blk) (hwr : w.wr = Wl.wr) (hcalls : w.calls = Wl.calls)
    (hstep : wStep Wl b = .ok Wl') (hidx : isFB b = true → b.index < w.fragTbl.length) :
    ∃ loc, Wl'.effs = Wl.effs ++ blockEffs b loc ∧
      Wl'.sets = (if !hasFlag b.flags blkIsSparse && b.data.length != 0 && hasFlag b.flags blkFragmentBlock
                  then Wl.sets ++ [(b.index, loc, sizeWord b)] else Wl.sets) ∧
      completeBlock w b = .ok
        { wr := Wl'.wr, calls := Wl'.calls,
          fragTbl := if !hasFlag b.flags blkIsSparse && b.data.length != 0 && hasFlag b.flags blkFragmentBlock
                     then w.fragTbl.set b.index (loc, sizeWord b) else w.fragTbl,
          inodes := applyEffs w.inodes (blockEffs b loc) } := by
  unfold wStep at hstep
  unfold completeBlock
  rw [hwr]
  cases hw : BlockWriter.writeDataBlock Wl.wr b.chk (clearFlag b.flags blkFlagInternal) b.data with
  | error e => rw [hw] at hstep; cases hstep
  | ok r =>
    obtain ⟨wr', loc⟩ := r
    rw [hw] at hstep
    cases hstep
    refine ⟨loc, rfl, rfl, ?_⟩
    dsimp only
    rw [recordBlock_eq { w with wr := wr', calls := w.calls ++ [⟨b.chk, clearFlag b.flags blkFlagInternal, b.data⟩] } b loc hidx, hcalls]
    -- the second half of `blockEffs`: the start of a file's blocks, recorded with the `LAST` block
    unfold blockEffs
    by_cases hl : hasFlag b.flags blkLastBlock = true
    · simp only [if_pos hl]
      rw [show (fun (i : Inode) => ({ i with start := loc } : Inode)) = (InoEff.start loc).app from rfl, modInode_eff, applyEffs_append]
    · simp only [if_neg hl, List.append_nil]

theorem Back.stream_size {P : Params} (hc : CodecOk P.codec) {s : Proc} {g : Ghost} {F : FSt} {W : WSt} (h : Back P s g F W)
    {b : Blk} (hb : b ∈ F.stream) : b.data.length ≤ P.B := by
  by_cases hfb : isFB b = true
  · obtain ⟨d, hd, hw⟩ := h.finv.fbs b hb hfb
    obtain ⟨_, hpos, hle⟩ := h.finv.closedOK _ hd
    exact Nat.le_trans (hw.length_le hc (List.ne_nil_of_length_pos hpos)) hle
  · obtain ⟨x, hx, _, hbx⟩ := h.finv.datas b hb (by simpa using hfb)
    rw [hbx]
    exact (h.itemOK_of_mem hc (List.mem_append_left _ hx)).size

theorem Back.fb_facts {P : Params} {s : Proc} {g : Ghost} {F : FSt} {W : WSt} (h : Back P s g F W)
    {b : Blk} (hb : b ∈ F.stream) (hfb : isFB b = true) : FBFlagFacts b.flags ∧ b.data ≠ [] ∧ b.index < F.ntbl := by
  obtain ⟨d, hd, hw⟩ := h.finv.fbs b hb hfb
  obtain ⟨hidx, hpos, _⟩ := h.finv.closedOK _ hd
  have hne : d ≠ [] := List.ne_nil_of_length_pos hpos
  refine ⟨hw.facts hne, ?_, hidx⟩
  obtain ⟨fb, hf, hdd, rfl⟩ := hw
  intro he
  exact hne (hdd ▸ (processBlock_data_nil P fb).mp he)

/-- the head of `io_queue` carries the next sequence number: it goes through `process_completed_block` -/
theorem Back.releaseOne {P : Params} (hc : CodecOk P.codec) (hB : P.B < 2 ^ 24) {s : Proc} {g : Ghost} {F : FSt} {W : WSt}
    (h : Back P s g F W) (b : Blk) (rest : List Blk) (hq : s.ioQueue = b :: rest) (hseq : b.seq = s.ioDeqSeqNum) :
    ∃ s' W' effs, processCompletedBlock { s with ioQueue := rest, ioDeqSeqNum := s.ioDeqSeqNum + 1 } b = .ok s' ∧
      Kept s s' ∧ s'.ioQueue = rest ∧ (∀ k, Acct s g k → Acct s' { g with h := g.h ++ effs, m := g.m ++ effs } k) ∧
      Back P s' { g with h := g.h ++ effs, m := g.m ++ effs } F W' := by
  have hbq : b ∈ s.ioQueue ++ g.items.filter isFB := by rw [hq]; simp
  have hbd : b ∈ F.stream.drop s.ioDeqSeqNum := h.queue.subset hbq
  obtain ⟨_, hlt, hget⟩ := mem_drop_seq h.finv hbd
  rw [hseq] at hlt hget
  have hbs : b ∈ F.stream := List.mem_of_mem_drop hbd
  have hbeq : F.stream[s.ioDeqSeqNum] = b := by
    rw [List.getElem?_eq_getElem hlt] at hget; exact Option.some.inj hget
  have htake : F.stream.take (s.ioDeqSeqNum + 1) = F.stream.take s.ioDeqSeqNum ++ [b] := by
    rw [List.take_succ_eq_append_getElem hlt, hbeq]
  have hdrop : F.stream.drop s.ioDeqSeqNum = b :: F.stream.drop (s.ioDeqSeqNum + 1) := by
    rw [List.drop_eq_getElem_cons hlt, hbeq]
  have hsz : b.data.length < 2 ^ 24 := Nat.lt_of_le_of_lt (h.stream_size hc hbs) hB
  have hp : (if isFB b then !((F.stream.take s.ioDeqSeqNum).foldl bOpen false)
      else (!isLast b || (F.stream.take s.ioDeqSeqNum).foldl bOpen false || isFirst b)) = true := by
    have := h.finv.proto
    rw [← List.take_append_drop s.ioDeqSeqNum F.stream, hdrop, sproto_append] at this
    simp only [sproto, Bool.and_eq_true] at this
    exact this.2.1
  obtain ⟨W', hstep, hwinv'⟩ := h.winv.step b hsz hp (fun hfb => ⟨(h.fb_facts hbs hfb).1, (h.fb_facts hbs hfb).2.1⟩)
  have hidx : isFB b = true → b.index < s.w.fragTbl.length := by
    intro hfb; rw [h.tblLen]; exact (h.fb_facts hbs hfb).2.2
  obtain ⟨loc, heffs, hsets, hcb⟩ := completeBlock_eq s.w W W' b h.wr h.calls hstep hidx
  refine ⟨?s', W', blockEffs b loc, ?eq, ?rest⟩
  case eq =>
    unfold processCompletedBlock
    rw [hcb]
  refine ⟨⟨rfl, rfl, applyEffs_length _ _⟩, rfl, ?_, ?_⟩
  · -- the block leaves `io_queue` and is released
    intro k hk
    unfold Acct at hk ⊢
    rw [hq, List.length_cons] at hk
    show s.backlog - 1 = g.items.length + rest.length + boolNat s.fragBlock.isSome + k
    exact Nat.sub_eq_of_eq_add (by rw [hk]; omega)
  · have f11 : (if hasFlag b.flags blkFragmentBlock then s.fblkInFlight.eraseP (fun e => e.1 == b.index) else s.fblkInFlight)
        = (if isFB b then s.fblkInFlight.eraseP (fun e => e.1 == b.index) else s.fblkInFlight) := rfl
    have hlen : (applyEffs s.w.inodes (blockEffs b loc)).length = s.w.inodes.length := applyEffs_length _ _
    have hsub : ∀ e ∈ (if isFB b then s.fblkInFlight.eraseP (fun e => e.1 == b.index) else s.fblkInFlight), e ∈ s.fblkInFlight := by
      intro e he
      split at he
      · exact List.mem_of_mem_eraseP he
      · exact he
    refine { h with deqLe := ?_, queue := ?_, sorted := ?_, itemsOK := ?_, finv := ?_, wrun := ?_, winv := ?_, wr := rfl, calls := rfl,
                    fragTbl := ?_, inodes := ?_, mergeH := h.mergeH.append_right _, mergeM := ?_, feIds := ?_, inFlSub := ?_,
                    inFlNodup := ?_, inFlAll := ?_, inFlNone := ?_ }
    · show s.ioDeqSeqNum + 1 ≤ _
      omega
    · show (rest ++ _).Perm (F.stream.drop (s.ioDeqSeqNum + 1))
      have := h.queue
      rw [hq, hdrop, List.cons_append] at this
      exact this.cons_inv
    · show rest.Pairwise _
      have := h.sorted
      rw [hq, List.pairwise_cons] at this
      exact this.2
    · simp only [releaseOldBlock, hlen]; exact h.itemsOK
    · simp only [releaseOldBlock, hlen]; exact h.finv
    · show wRun _ (F.stream.take (s.ioDeqSeqNum + 1)) = _
      rw [htake, wRun_snoc, h.wrun]
      exact hstep
    · show WInv P (F.stream.take (s.ioDeqSeqNum + 1)) W'
      rw [htake]; exact hwinv'
    · simp only [releaseOldBlock, hsets]
      split
      · rw [applySets_append, ← h.fragTbl]; rfl
      · exact h.fragTbl
    · simp only [releaseOldBlock, hlen]
      rw [applyEffs_append, ← h.inodes]
    · rw [heffs]; exact h.mergeM.append_right _
    · simp only [releaseOldBlock, hlen]; exact h.feIds
    · simp only [releaseOldBlock, f11]
      intro e he
      exact h.inFlSub e (hsub e he)
    · simp only [releaseOldBlock, f11]
      split
      · exact ((List.eraseP_sublist).map _).nodup h.inFlNodup
      · exact h.inFlNodup
    · intro hbc b' hb' hbfb'
      simp only [releaseOldBlock, f11] at hb' ⊢
      have hb'd : b' ∈ F.stream.drop s.ioDeqSeqNum := by rw [hdrop]; exact List.mem_cons_of_mem _ hb'
      have hold := h.inFlAll hbc b' hb'd hbfb'
      split
      · rename_i hbfb
        obtain ⟨e, he, hek⟩ := List.mem_map.mp hold
        have hne : b'.index ≠ b.index := by
          intro heq
          have hb's : b' ∈ F.stream := List.mem_of_mem_drop hb'd
          have : b' = b := List.inj_of_nodup_map (stream_fb_indices_nodup h.finv)
            (List.mem_filter.mpr ⟨hb's, hbfb'⟩) (List.mem_filter.mpr ⟨hbs, hbfb⟩) heq
          have hs' := (mem_drop_seq h.finv hb').1
          rw [this, hseq] at hs'
          omega
        exact List.mem_map.mpr ⟨e, (List.mem_eraseP_of_neg (by simp [hek, hne])).mpr he, hek⟩
      · exact hold
    · intro hbc
      simp only [releaseOldBlock, h.inFlNone hbc]
      split <;> rfl

end Sqfs.BlockProc
