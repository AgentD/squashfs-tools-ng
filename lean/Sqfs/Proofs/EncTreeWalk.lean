/-
C01 — the whole tree: the walk from the root reference over the finished streams yields `normalise`.
-/
import Sqfs.Proofs.EncTreeLoop
namespace Sqfs.Enc
open Sqfs.Consts
open Sqfs.FsTree (TNode Path lookup Result)
open Sqfs.DirWriter (DEnt)

theorem toEntry_map (des : List DEnt) :
    (des.map DEnt.toEntry).map (fun e => (e.name, e.ref)) = des.map (fun e => (e.name, e.inodeRef)) := by
  rw [List.map_map]; rfl

theorem normNodes_cons {root : TNode} {inodes : List Path} {x : TreeExtra} {f : Nat} {nm : Bytes} {tp : Path}
    {rest : List (Bytes × Path)} {vs : List VNode} (h : normNodes root inodes x (f + 1) ((nm, tp) :: rest) = some vs) :
    ∃ n a cs l, lookup root tp = some n ∧ expectAttr (nodeIn root inodes x [] tp n) = some a
      ∧ (if n.isDir then normNodes root inodes x f (n.children.map (fun c => (c.name, entryTarget tp c))) else some []) = some cs
      ∧ normNodes root inodes x f rest = some l ∧ vs = .mk nm a cs :: l := by
  rw [normNodes] at h
  split at h
  · cases h
  · split at h
    · cases h
    · simp only at h
      split at h
      · cases h; exact ⟨_, _, _, _, ‹_›, ‹_›, ‹_›, ‹_›, rfl⟩
      · cases h

theorem readNodes_dir {bs : Nat} {st : TreeSt} {f : Nat} {e : DirEntry} {rest ents : List DirEntry} {i : Inode} {cs l : List RNode}
    (hi : getInode bs st.inodes e.ref = .ok i) (hty : i.typeBits = sIFDIR) (hd : listDir st i = .ok ents)
    (hc : readNodes bs st f ents = .ok cs) (hl : readNodes bs st f rest = .ok l) :
    readNodes bs st (f + 1) (e :: rest) = .ok (.mk e.name i cs :: l) := by
  rw [readNodes]
  simp only [hi, hty, if_true, hd, hc, hl]

theorem readNodes_leaf {bs : Nat} {st : TreeSt} {f : Nat} {e : DirEntry} {rest : List DirEntry} {i : Inode} {l : List RNode}
    (hi : getInode bs st.inodes e.ref = .ok i) (hty : i.typeBits ≠ sIFDIR) (hl : readNodes bs st f rest = .ok l) :
    readNodes bs st (f + 1) (e :: rest) = .ok (.mk e.name i [] :: l) := by
  rw [readNodes]
  simp only [hi, hty, if_false, hl]

/-- entries whose references are those handed out for the paths `tps` read back as `normNodes` of
those paths, level by level, with the same fuel -/
theorem readNodes_normNodes (bs : Nat) (root : TNode) (inodes : List Path) (x : TreeExtra) (stF : TreeSt) (refsF : List (Path × Nat))
    (hk : refsF.map (·.1) = inodes.reverse) (hst : ∀ p ∈ inodes, StoredAt bs root inodes x stF refsF p) :
    ∀ (fuel : Nat) (tps : List (Bytes × Path)) (ents : List DirEntry) (vs : List VNode),
      ents.map (fun e => (e.name, e.ref)) = tps.map (fun t => (t.1, lookupRef refsF t.2)) →
      (∀ t ∈ tps, t.2 ∈ inodes) → normNodes root inodes x fuel tps = some vs →
      ∃ rns, readNodes bs stF fuel ents = .ok rns ∧ resolveList stF.ids rns = vs := by
  intro fuel tps ents vs hm hin hn
  -- along the recursion of `normNodes`: of its six branches only two give `some`
  fun_induction normNodes root inodes x fuel tps generalizing ents vs with
  | case1 fuel =>
    cases List.map_eq_nil_iff.mp hm
    cases hn
    cases fuel <;> exact ⟨[], rfl, rfl⟩
  | case2 | case3 | case4 | case6 => cases hn
  | case5 f nm tp rest n h1 a' h6' below cs l hr hb ihc ihr =>
    cases hn
    cases ents with
    | nil => simp at hm
    | cons e erest =>
      simp only [List.map_cons, List.cons.injEq, Prod.mk.injEq] at hm
      obtain ⟨⟨hname, href⟩, hmrest⟩ := hm
      obtain ⟨n', i, pos, tail, a, h1', h2, h3, h4, h5, h6, h7, h8, h9⟩ := hst tp (hin (nm, tp) (List.mem_cons_self ..))
      cases h1.symm.trans h1'
      cases h6'.symm.trans h6
      have hget : getInode bs stF.inodes e.ref = .ok i := by
        -- `rw`, not `unfold`: unfolding by definitional equality makes the kernel evaluate `rawPos (rawRef pos)`
        rw [href, h2, getInode, rawPos_rawRef]
        simp only [ge_iff_le, Nat.not_le.mpr h3, if_false, h5, decInode_encInode bs i tail h4]
      have ha : i.resolve stF.ids = a' := List.append_nil stF.ids ▸ h7 []
      obtain ⟨rl, hrl, hvl⟩ := ihr erest l hmrest (fun t ht => hin t (List.mem_cons_of_mem _ ht)) hr
      by_cases hdir : n.isDir = true
      · obtain ⟨dpos, des, dtail, d1, d2, d3, d4, d5, d6, d7⟩ := h9 hdir
        have hlist : listDir stF i = .ok (des.map DEnt.toEntry) := by
          simp only [listDir, d1, d5, d2]
          exact readListing_encListing _ _ _ des dtail d4
        obtain ⟨rcs, hrc, hvc⟩ := ihc (des.map DEnt.toEntry) cs
          (by rw [toEntry_map, d6, List.map_map]; rfl)
          (by
            intro t ht
            obtain ⟨c, hc, rfl⟩ := List.mem_map.mp ht
            have := d7 c hc
            rw [hk] at this
            exact List.mem_reverse.mp this)
          ((if_pos hdir).symm.trans hb)
        refine ⟨.mk e.name i rcs :: rl, readNodes_dir hget (view_typeBits i ▸ h8.mpr hdir) hlist hrc hrl, ?_⟩
        simp only [resolveList, RNode.resolve, hvc, hvl, hname, ha]
      · cases (if_neg hdir).symm.trans hb
        refine ⟨.mk e.name i [] :: rl, readNodes_leaf hget (fun hh => hdir (h8.mp (view_typeBits i ▸ hh))) hrl, ?_⟩
        simp only [resolveList, RNode.resolve, hvl, hname, ha]

theorem orderOk_spec (r : Result) (h : orderOkB r = true) :
    r.inodes.Nodup ∧ [] ∈ r.inodes ∧
    ∀ d p t, r.inodes = d ++ p :: t → ∀ n, lookup r.tree p = some n → n.isDir = true →
      ∀ c ∈ n.children, entryTarget p c ∈ d := by
  simp only [orderOkB, Bool.and_eq_true, decide_eq_true_eq, List.contains_iff_mem, List.all_eq_true, List.mem_range] at h
  obtain ⟨⟨h1, h2⟩, h3⟩ := h
  refine ⟨h1, h2, ?_⟩
  intro d p t hsplit n hl hdir c hc
  have hlen : d.length < r.inodes.length := by
    rw [hsplit, List.length_append, List.length_cons]; exact Nat.lt_add_of_pos_right (Nat.succ_pos _)
  have := h3 d.length hlen
  have hget : r.inodes.getD d.length [] = p := by
    rw [hsplit, List.getD_eq_getElem?_getD, List.getElem?_append_right (Nat.le_refl _), Nat.sub_self]; rfl
  have htake : r.inodes.take d.length = d := by rw [hsplit, List.take_left' rfl]
  rw [hget, hl, htake] at this
  simp only [hdir, Bool.not_true, Bool.false_or, List.all_eq_true, List.contains_iff_mem] at this
  exact this c hc

end Sqfs.Enc
