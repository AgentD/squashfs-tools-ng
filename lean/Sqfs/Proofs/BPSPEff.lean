/-
C02, `packRef = specPack`: inode updates.  `inoFold i es a`: the updates of `es` that belong to inode `i`, applied
to `a` in order — this is what `applyEffs` does to entry `i`.  The writer pass's updates for the data blocks of one file
(`dataEffs`) write the block words `0, 1, …` in order.  The inode of one file from its updates — `size`, then the fragment
pass's update (fragment location or sparse tail), then the writer pass's (`dataEffs`, `start`) — is the `FileResult` of
`Pack.packFile`.
-/
import Sqfs.Proofs.BPSPWriter
import Sqfs.Proofs.BPSPDefs
namespace Sqfs.BlockProc

def inoFold (i : Nat) (es : List Eff) (a : Inode) : Inode := es.foldl (fun a e => if e.id = i then e.e.app a else a) a

theorem inoFold_append (i : Nat) (a b : List Eff) (x : Inode) : inoFold i (a ++ b) x = inoFold i b (inoFold i a x) := by
  simp [inoFold, List.foldl_append]

theorem inoFold_skip (i : Nat) (es : List Eff) (h : ∀ e ∈ es, e.id ≠ i) (x : Inode) : inoFold i es x = x := by
  induction es generalizing x with
  | nil => rfl
  | cons e es ih =>
    simp only [inoFold, List.foldl_cons, if_neg (h e List.mem_cons_self)]
    exact ih (fun e' he' => h e' (List.mem_cons_of_mem _ he')) x

def appAll (es : List Eff) (a : Inode) : Inode := es.foldl (fun a e => e.e.app a) a

theorem inoFold_all (i : Nat) (es : List Eff) (h : ∀ e ∈ es, e.id = i) (x : Inode) : inoFold i es x = appAll es x := by
  induction es generalizing x with
  | nil => rfl
  | cons e es ih =>
    simp only [inoFold, appAll, List.foldl_cons, if_pos (h e List.mem_cons_self)]
    exact ih (fun e' he' => h e' (List.mem_cons_of_mem _ he')) _

theorem appAll_append (a b : List Eff) (x : Inode) : appAll (a ++ b) x = appAll b (appAll a x) := by
  simp [appAll, List.foldl_append]

theorem applyEffs_getElem? (l : List Inode) (xs : List Eff) (i : Nat) :
    (applyEffs l xs)[i]? = l[i]?.map (inoFold i xs) := by
  induction xs generalizing l with
  | nil => cases h : l[i]? <;> simp [applyEffs, inoFold, h]
  | cons x xs ih =>
    simp only [applyEffs, List.foldl_cons] at ih ⊢
    rw [ih, applyEff, List.getElem?_modify]
    cases l[i]? with
    | none => rfl
    | some a => rfl

/-- the inodes: entry `i` gets the updates that carry its number -/
theorem applyEffs_table (n : Nat) (xs : List Eff) :
    (applyEffs (List.replicate n {}) xs).map Inode.res = (List.range n).map (fun i => (inoFold i xs {}).res) := by
  apply List.ext_getElem?
  intro i
  rw [List.getElem?_map, applyEffs_getElem?, List.getElem?_map]
  by_cases hi : i < n
  · rw [List.getElem?_replicate, if_pos hi, List.getElem?_range hi]; rfl
  · rw [List.getElem?_replicate, if_neg hi, List.getElem?_eq_none (by simp; omega)]; rfl

/-- the writer pass's updates for the worked data blocks `j, j+1, …` of file `id` -/
def dataEffs (id : Nat) : Nat → List Sqfs.Pack.Worked → List Eff
  | _, [] => []
  | j, w :: ws => effOf id j (some w) ++ dataEffs id (j + 1) ws

theorem dataEffs_id (id : Nat) : ∀ (ws : List Sqfs.Pack.Worked) (j : Nat), ∀ e ∈ dataEffs id j ws, e.id = id := by
  intro ws
  induction ws with
  | nil => intro j e he; cases he
  | cons w ws ih =>
    intro j e he
    simp only [dataEffs, List.mem_append] at he
    rcases he with he | he
    · cases w <;> simp only [effOf, List.mem_singleton] at he <;> rw [he]
    · exact ih (j + 1) e he

theorem dataEffs_append (id : Nat) : ∀ (a b : List Sqfs.Pack.Worked) (j : Nat),
    dataEffs id j (a ++ b) = dataEffs id j a ++ dataEffs id (j + a.length) b := by
  intro a
  induction a with
  | nil => intro b j; rfl
  | cons w a ih =>
    intro b j
    rw [List.cons_append, dataEffs, dataEffs, ih, List.append_assoc, List.length_cons, Nat.add_assoc, Nat.add_comm 1]

def wordNat (w : Sqfs.Pack.Worked) : Nat := w.word.toNat

theorem wordNat_sparse (n : Nat) : wordNat (.sparse n) = 0 := rfl
theorem wordNat_stored (st : Sqfs.Pack.Stored) : wordNat (.stored st) = wordOf st := wordOf_toNat st

/-- `r` is `a` after the writer pass's updates for the worked blocks `ws`, numbered from `j0` -/
structure WordsRes (ws : List Sqfs.Pack.Worked) (j0 : Nat) (a r : Inode) : Prop where
  size : r.size = a.size
  start : r.start = a.start
  fragIdx : r.fragIdx = a.fragIdx
  fragOff : r.fragOff = a.fragOff
  sparse : r.sparse = a.sparse + (ws.map Sqfs.Pack.Worked.sparseBytes).sum
  used : r.used = max a.used (if ws = [] then 0 else j0 + ws.length)
  extra : ∀ k, r.extra k = if j0 ≤ k ∧ k < j0 + ws.length then (ws[k - j0]?.map wordNat).getD 0 else a.extra k
  ext : a.extended = decide (a.sparse > 0) → r.extended = decide (r.sparse > 0)

theorem WordsRes.cons {w : Sqfs.Pack.Worked} {ws : List Sqfs.Pack.Worked} {j0 : Nat} {a b r : Inode}
    (h : WordsRes ws (j0 + 1) b r)
    (h1 : b.size = a.size) (h2 : b.start = a.start) (h3 : b.fragIdx = a.fragIdx) (h4 : b.fragOff = a.fragOff)
    (h5 : b.sparse = a.sparse + w.sparseBytes) (h6 : b.used = max a.used (j0 + 1))
    (h7 : ∀ k, b.extra k = if k = j0 then wordNat w else a.extra k)
    (h8 : a.extended = decide (a.sparse > 0) → b.extended = decide (b.sparse > 0)) : WordsRes (w :: ws) j0 a r where
  size := h.size.trans h1
  start := h.start.trans h2
  fragIdx := h.fragIdx.trans h3
  fragOff := h.fragOff.trans h4
  sparse := by rw [h.sparse, h5, List.map_cons, List.sum_cons, Nat.add_assoc]
  used := by
    rw [h.used, h6, Nat.max_assoc, if_neg (List.cons_ne_nil w ws)]
    refine congrArg (max a.used) ?_
    cases ws with
    | nil => exact Nat.max_zero _
    | cons v vs =>
      rw [if_neg (List.cons_ne_nil v vs), Nat.max_eq_right (Nat.le_add_right _ _), Nat.add_assoc, Nat.add_comm 1]; rfl
  extra := fun k => by
    rw [h.extra, h7, List.length_cons]
    by_cases hk : j0 + 1 ≤ k ∧ k < j0 + 1 + ws.length
    · have hc : j0 ≤ k ∧ k < j0 + (ws.length + 1) := by omega
      obtain ⟨m, rfl⟩ := Nat.exists_eq_add_of_le hk.1
      rw [if_pos hk, if_pos hc, Nat.add_sub_cancel_left, Nat.add_assoc, Nat.add_sub_cancel_left, Nat.add_comm 1,
        List.getElem?_cons_succ]
    · rw [if_neg hk]
      by_cases hk0 : k = j0
      · rw [if_pos hk0, hk0, if_pos ⟨Nat.le_refl _, Nat.lt_add_of_pos_right (Nat.succ_pos _)⟩, Nat.sub_self]; rfl
      · rw [if_neg hk0, if_neg (by omega)]
  ext := fun h0 => h.ext (h8 h0)

theorem words_fold (id : Nat) : ∀ (ws : List Sqfs.Pack.Worked) (j0 : Nat) (a : Inode),
    (∀ n, Sqfs.Pack.Worked.sparse n ∈ ws → 0 < n) → WordsRes ws j0 a (appAll (dataEffs id j0 ws) a) := by
  intro ws
  induction ws with
  | nil =>
    intro j0 a _
    exact ⟨rfl, rfl, rfl, rfl, rfl, (Nat.max_zero _).symm, fun k => (if_neg (fun h => Nat.lt_irrefl _ (Nat.lt_of_le_of_lt h.1 h.2))).symm,
      fun h => h⟩
  | cons w ws ih =>
    intro j0 a hpos
    rw [dataEffs, appAll_append]
    have hr := ih (j0 + 1) (appAll (effOf id j0 (some w)) a) (fun n hn => hpos n (List.mem_cons_of_mem _ hn))
    cases w with
    | sparse n =>
      exact hr.cons rfl rfl rfl rfl rfl rfl (fun _ => rfl)
        (fun _ => (decide_eq_true (Nat.lt_of_lt_of_le (hpos n List.mem_cons_self) (Nat.le_add_left _ _))).symm)
    | stored st => exact hr.cons rfl rfl rfl rfl rfl rfl (fun _ => by rw [wordNat_stored]; rfl) (fun h => h)

def sparseSum (ws : List Sqfs.Pack.Worked) : Nat := (ws.map Sqfs.Pack.Worked.sparseBytes).sum

/-- the writer pass's updates of one file applied to `a` (the inode after `size` and the fragment pass's update) -/
theorem res_general (id : Nat) (ws : List Sqfs.Pack.Worked) (hpos : ∀ n, Sqfs.Pack.Worked.sparse n ∈ ws → 0 < n) (a : Inode)
    (hext : a.extended = decide (a.sparse > 0)) (se : List Eff) (st : Nat)
    (hse : (se = [] ∧ st = a.start) ∨ se = [⟨id, .start st⟩]) :
    (appAll (dataEffs id 0 ws ++ se) a).res =
      ⟨a.size, (List.range (max a.used ws.length)).map (fun k => if k < ws.length then (ws[k]?.map wordNat).getD 0 else a.extra k),
       st, a.fragIdx, a.fragOff, a.sparse + sparseSum ws, decide (a.sparse + sparseSum ws > 0)⟩ := by
  rw [appAll_append]
  have hr := words_fold id ws 0 a hpos
  generalize appAll (dataEffs id 0 ws) a = r at hr
  obtain ⟨h1, h2, h3, h4, h5, h6, h7, h8⟩ := hr
  have hused : r.used = max a.used ws.length := by
    rw [h6]; by_cases hw : ws = []
    · subst hw; simp
    · rw [if_neg hw, Nat.zero_add]
  have hextra : ∀ k, r.extra k = if k < ws.length then (ws[k]?.map wordNat).getD 0 else a.extra k := by
    intro k; rw [h7 k]; simp only [Nat.zero_le, true_and, Nat.zero_add, Nat.sub_zero]
  have hmap : (List.range r.used).map r.extra =
      (List.range (max a.used ws.length)).map (fun k => if k < ws.length then (ws[k]?.map wordNat).getD 0 else a.extra k) := by
    rw [hused]; exact List.map_congr_left (fun k _ => hextra k)
  have hx := h8 hext
  rcases hse with ⟨hse, hst⟩ | hse
  · subst hse
    simp only [appAll, List.foldl_nil, Inode.res, h1, h2, h3, h4, h5, hmap, hx, hst, sparseSum]
    rfl
  · subst hse
    simp only [appAll, List.foldl_cons, List.foldl_nil, InoEff.app, Inode.res, h1, h3, h4, h5, hmap, hx, sparseSum]
    rfl

theorem range_map_getD {α : Type} (l : List α) (f : α → Nat) (g : Nat → Nat)
    (h : ∀ k, k < l.length → g k = (l[k]?.map f).getD 0) : (List.range l.length).map g = l.map f := by
  apply List.ext_getElem
  · simp
  · intro k h1 h2
    simp only [List.getElem_map, List.getElem_range]
    rw [h k (by simpa using h2)]
    simp at h2
    simp [h2]

theorem range_words (ws : List Sqfs.Pack.Worked) (g : Nat → Nat) :
    (List.range ws.length).map (fun k => if k < ws.length then (ws[k]?.map wordNat).getD 0 else g k) = ws.map wordNat := by
  apply range_map_getD
  intro k hk
  rw [if_pos hk]

theorem range_words_succ (ws : List Sqfs.Pack.Worked) (g : Nat → Nat) :
    (List.range (ws.length + 1)).map (fun k => if k < ws.length then (ws[k]?.map wordNat).getD 0 else g k) =
      ws.map wordNat ++ [g ws.length] := by
  rw [List.range_succ, List.map_append, range_words]
  simp

theorem words_map (ws : List Sqfs.Pack.Worked) : (ws.map Sqfs.Pack.Worked.word).map Sqfs.Pack.Word.toNat = ws.map wordNat := by
  rw [List.map_map]; rfl

/-- no tail-end update (the file has no fragment) -/
theorem res_plain (id sz : Nat) (ws : List Sqfs.Pack.Worked) (hpos : ∀ n, Sqfs.Pack.Worked.sparse n ∈ ws → 0 < n)
    (se : List Eff)
    (st : Nat) (hse : (se = [] ∧ st = 0) ∨ se = [⟨id, .start st⟩]) (sh : Bool) :
    (appAll ([⟨id, .size sz⟩] ++ [] ++ (dataEffs id 0 ws ++ se)) {}).res =
      resView ⟨sz, ws.map Sqfs.Pack.Worked.word, st, none, sparseSum ws, sh⟩ := by
  rw [List.append_nil, appAll_append, res_general id ws hpos _ rfl se st hse]
  simp only [appAll, List.foldl_cons, List.foldl_nil, InoEff.app, Nat.zero_add, Nat.zero_max, range_words, resView, words_map,
    Sqfs.Pack.FileResult.extended, Option.map_none, Option.getD_none]

/-- the tail end is a fragment at `(i, o)` -/
theorem res_frag (id sz : Nat) (ws : List Sqfs.Pack.Worked) (hpos : ∀ n, Sqfs.Pack.Worked.sparse n ∈ ws → 0 < n) (se : List Eff)
    (st : Nat) (hse : (se = [] ∧ st = 0) ∨ se = [⟨id, .start st⟩]) (i o : Nat) (sh : Bool) :
    (appAll ([⟨id, .size sz⟩] ++ [⟨id, .fragLoc i o⟩] ++ (dataEffs id 0 ws ++ se)) {}).res =
      resView ⟨sz, ws.map Sqfs.Pack.Worked.word, st, some (i, o), sparseSum ws, sh⟩ := by
  rw [appAll_append, res_general id ws hpos _ rfl se st hse]
  simp only [appAll, List.cons_append, List.nil_append, List.foldl_cons, List.foldl_nil, InoEff.app, Nat.zero_add, Nat.zero_max,
    range_words, resView, words_map, Sqfs.Pack.FileResult.extended, Option.map_some, Option.getD_some]

/-- the tail end is a hole of `n` bytes: word 0 at index `|ws|` -/
theorem res_sparse (id sz : Nat) (ws : List Sqfs.Pack.Worked) (hpos : ∀ n, Sqfs.Pack.Worked.sparse n ∈ ws → 0 < n)
    (se : List Eff)
    (st : Nat) (hse : (se = [] ∧ st = 0) ∨ se = [⟨id, .start st⟩]) (n : Nat) (hn : 0 < n) (sh : Bool) :
    (appAll ([⟨id, .size sz⟩] ++ [⟨id, .sparse ws.length n⟩] ++ (dataEffs id 0 ws ++ se)) {}).res =
      resView ⟨sz, ws.map Sqfs.Pack.Worked.word ++ [.sparse], st, none, sparseSum ws + n, sh⟩ := by
  rw [appAll_append, res_general id ws hpos _ ?_ se st hse]
  · simp only [appAll, List.cons_append, List.nil_append, List.foldl_cons, List.foldl_nil, InoEff.app, Inode.setBlockSize,
      Nat.zero_add, Nat.zero_max]
    rw [Nat.max_eq_left (Nat.le_succ _), range_words_succ]
    simp only [if_true, Nat.add_comm n, resView, List.map_append, words_map, Sqfs.Pack.FileResult.extended, Option.map_none,
      Option.getD_none]
    rfl
  · exact (decide_eq_true (Nat.lt_of_lt_of_le hn (Nat.le_add_left n 0))).symm

end Sqfs.BlockProc
