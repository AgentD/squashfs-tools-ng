/-
C01 — what the id table, fragment table, export table and super block round trips of `Props/C01` need beyond
`readTableAt_writeTableAt`: a non-empty table has a location, fragment entries decode, `SuperValid`.
-/
import Sqfs.Proofs.EncTable
namespace Sqfs.Enc
open Sqfs.Consts
open Sqfs.MetaWriter (Codec)

/-- a non-empty table has at least one block, so its location list is not empty -/
theorem writeTableAt_start_lt (cmp : Codec) (file data : Bytes) (h : data ≠ []) :
    (writeTableAt cmp file data).2 < (writeTableAt cmp file data).1.length := by
  have hl := locs_fold (Sqfs.MetaWriter.run cmp (Sqfs.MetaWriter.chunksOf (data.length + 1) data)).out [] 0
  have hcnt : 0 < (Sqfs.MetaWriter.run cmp (Sqfs.MetaWriter.chunksOf (data.length + 1) data)).out.length :=
    List.length_pos_iff.mpr fun h0 => h (by
      rw [← chunksOf_flatten _ data (Nat.lt_succ_self _), ← (run_blocksOk cmp _).2, h0]; rfl)
  simp only [writeTableAt, Sqfs.MetaWriter.writeTable, hl, List.nil_append, List.length_append, encWords_length, List.length_map,
    List.length_range]
  omega

theorem decFrags_encFrags (l : List (Nat × Nat)) (h : ∀ f ∈ l, f.1 < 2 ^ 64 ∧ f.2 < 2 ^ 32) : decFrags l.length (encFrags l) = l := by
  induction l with
  | nil => rfl
  | cons f l ih =>
    obtain ⟨h1, h2⟩ := h f (List.mem_cons_self ..)
    simp only [List.length_cons, decFrags, encFrags, List.map_cons, List.flatten_cons, encFrag]
    rw [decFields_encFields_fit _ (.cons h1 (.cons h2 (.cons (by decide) .nil)))]
    have hlen : (encFields [(8, f.1), (4, f.2), (4, 0)]).length = sizeofFragment := by simp [encFields_length, sizeofFragment]
    rw [← hlen, List.drop_left]
    have := ih (fun x hx => h x (List.mem_cons_of_mem _ hx))
    simp only [encFrags] at this
    rw [this]

theorem encFrags_length (l : List (Nat × Nat)) : (encFrags l).length = l.length * sizeofFragment :=
  records_length (fun _ => by simp [encFrag, encFields_length, sizeofFragment]) l

open Sqfs.Writer in
/-- what `sqfs_super_read` checks, on the in-memory super block -/
structure SuperValid (s : Super) : Prop where
  fits : s.wrap = s
  magic : s.magic = Consts.magic
  vmaj : s.vMajor = versionMajor
  vmin : s.vMinor = versionMinor
  log : 12 ≤ s.blockLog ∧ s.blockLog ≤ 20
  bs : s.blockSize = 2 ^ s.blockLog
  comp : compMin ≤ s.compId ∧ s.compId ≤ compMax
  ids : s.idCount ≠ 0

end Sqfs.Enc
