/-
C02: flag words, `process_block`, inode updates as data (`Eff`) and order-preserving merges.
-/
import Sqfs.Spec.BlockProcSpec
import Sqfs.Proofs.Bits
namespace Sqfs.BlockProc
open Sqfs.Consts
open Sqfs.BlockWriter (hasFlag)

theorem hasFlag_or (a b c : Nat) : hasFlag (a ||| b) c = (hasFlag a c || hasFlag b c) :=
  Nat.or_and_bne_zero a b c

theorem hasFlag_and (a k c : Nat) : hasFlag (a &&& k) c = hasFlag a (k &&& c) := by
  unfold hasFlag; rw [Nat.and_assoc]

theorem hasFlag_comm (a b : Nat) : hasFlag a b = hasFlag b a := by
  unfold hasFlag; rw [Nat.and_comm]

theorem hasFlag_or_right (f a b : Nat) : hasFlag f (a ||| b) = (hasFlag f a || hasFlag f b) := by
  rw [hasFlag_comm, hasFlag_or, hasFlag_comm a, hasFlag_comm b]

theorem hasFlag_zero (a : Nat) : hasFlag a 0 = false := by simp [hasFlag]

/-- flags for which `process_block` leaves `hasFlag · c` alone: `c` contains neither `IS_SPARSE` nor `IS_COMPRESSED` -/
def Stable (c : Nat) : Prop := hasFlag blkIsSparse c = false ∧ hasFlag blkIsCompressed c = false

theorem stable_first : Stable blkFirstBlock := by constructor <;> decide
theorem stable_last : Stable blkLastBlock := by constructor <;> decide
theorem stable_isFragment : Stable blkIsFragment := by constructor <;> decide
theorem stable_fragmentBlock : Stable blkFragmentBlock := by constructor <;> decide
theorem stable_manual : Stable blkFlagManualSubmission := by constructor <;> decide
theorem stable_internal : Stable blkFlagInternal := by constructor <;> decide
theorem stable_dontCompress : Stable blkDontCompress := by constructor <;> decide
theorem stable_dontDedup : Stable blkDontDeduplicate := by constructor <;> decide

/-- the four things `process_block` can do to a block -/
theorem processBlock_cases (P : Params) (b : Blk) :
    (b.data = [] ∧ processBlock P b = b) ∨
    (b.data ≠ [] ∧
      ((hasFlag b.flags (blkIgnoreSparse ||| blkFragmentBlock) = false ∧
          processBlock P b = { b with flags := b.flags ||| blkIsSparse }) ∨
        processBlock P b = { b with chk := if hasFlag b.flags blkDontHash then 0 else P.h b.data } ∨
        ∃ z, P.codec.cmp b.data = some z ∧ z ≠ [] ∧
          processBlock P b = { b with chk := if hasFlag b.flags blkDontHash then 0 else P.h b.data, data := z,
                                      flags := b.flags ||| blkIsCompressed })) := by
  fun_cases processBlock P b with
  | case1 h0 => exact .inl ⟨List.eq_nil_of_length_eq_zero h0, rfl⟩
  | case2 h0 hs =>
    rw [Bool.and_eq_true, Bool.not_eq_true'] at hs
    exact .inr ⟨fun h => h0 (by rw [h]; rfl), .inl ⟨hs.1, rfl⟩⟩
  | case4 h0 _ _ _ z hz hl =>
    exact .inr ⟨fun h => h0 (by rw [h]; rfl), .inr (.inr ⟨z, hz, fun h => by rw [h] at hl; exact absurd hl (Nat.lt_irrefl 0), rfl⟩)⟩
  | case3 h0 | case5 h0 | case6 h0 => exact .inr ⟨fun h => h0 (by rw [h]; rfl), .inr (.inl rfl)⟩

theorem processBlock_inode (P : Params) (b : Blk) : (processBlock P b).inode = b.inode := by
  rcases processBlock_cases P b with ⟨_, h⟩ | ⟨_, ⟨_, h⟩ | h | ⟨_, _, _, h⟩⟩ <;> rw [h]

theorem processBlock_index (P : Params) (b : Blk) : (processBlock P b).index = b.index := by
  rcases processBlock_cases P b with ⟨_, h⟩ | ⟨_, ⟨_, h⟩ | h | ⟨_, _, _, h⟩⟩ <;> rw [h]

theorem processBlock_seq (P : Params) (b : Blk) : (processBlock P b).seq = b.seq := by
  rcases processBlock_cases P b with ⟨_, h⟩ | ⟨_, ⟨_, h⟩ | h | ⟨_, _, _, h⟩⟩ <;> rw [h]

theorem processBlock_hasFlag (P : Params) (b : Blk) (c : Nat) (hc : Stable c) :
    hasFlag (processBlock P b).flags c = hasFlag b.flags c := by
  obtain ⟨h1, h2⟩ := hc
  rcases processBlock_cases P b with ⟨_, h⟩ | ⟨_, ⟨_, h⟩ | h | ⟨_, _, _, h⟩⟩ <;> rw [h] <;>
    simp only [hasFlag_or, h1, h2, Bool.or_false]

theorem processBlock_data_nil (P : Params) (b : Blk) : (processBlock P b).data = [] ↔ b.data = [] := by
  rcases processBlock_cases P b with ⟨_, h⟩ | ⟨hne, ⟨_, h⟩ | h | ⟨z, _, hz, h⟩⟩ <;> rw [h]
  exact iff_of_false hz hne

/-- `flags & ~k` keeps every flag outside `k` -/
theorem hasFlag_clearFlag (f k c : Nat) (h : (0xFFFFFFFF ^^^ k) &&& c = c) : hasFlag (clearFlag f k) c = hasFlag f c := by
  unfold hasFlag clearFlag; rw [Nat.and_assoc, h]

/-- `blk->flags & ~BLK_FLAG_INTERNAL` keeps every public flag -/
theorem clearInternal_sparse (f : Nat) : hasFlag (clearFlag f blkFlagInternal) blkIsSparse = hasFlag f blkIsSparse :=
  hasFlag_clearFlag f _ _ rfl
theorem clearInternal_compressed (f : Nat) : hasFlag (clearFlag f blkFlagInternal) blkIsCompressed = hasFlag f blkIsCompressed :=
  hasFlag_clearFlag f _ _ rfl
theorem clearInternal_dontDedup (f : Nat) : hasFlag (clearFlag f blkFlagInternal) blkDontDeduplicate = hasFlag f blkDontDeduplicate :=
  hasFlag_clearFlag f _ _ rfl

theorem applyEffs_append (l : List Inode) (a b : List Eff) : applyEffs l (a ++ b) = applyEffs (applyEffs l a) b := by
  simp [applyEffs, List.foldl_append]

theorem applyEffs_nil (l : List Inode) : applyEffs l [] = l := rfl

theorem applyEffs_length (l : List Inode) (xs : List Eff) : (applyEffs l xs).length = l.length := by
  induction xs generalizing l with
  | nil => rfl
  | cons x xs ih => simp only [applyEffs, List.foldl_cons] at ih ⊢; rw [ih]; simp [applyEff]

theorem applyEffs_snoc (l : List Inode) (xs : List Eff) (i : Inode) (h : ∀ x ∈ xs, x.id < l.length) :
    applyEffs (l ++ [i]) xs = applyEffs l xs ++ [i] := by
  induction xs generalizing l with
  | nil => rfl
  | cons x xs ih =>
    simp only [applyEffs, List.foldl_cons] at ih ⊢
    have hx := h x (List.mem_cons_self)
    have e : applyEff (l ++ [i]) x = applyEff l x ++ [i] := by
      unfold applyEff
      apply List.ext_getElem?
      intro k
      simp only [List.getElem?_modify, List.getElem?_append, List.length_modify]
      by_cases hk : k < l.length
      · simp [hk]
      · have : x.id ≠ k := by omega
        simp [hk, this]
    rw [e]
    apply ih
    intro y hy
    have := h y (List.mem_cons_of_mem _ hy)
    simpa [applyEff] using this

/-- two updates commute (as functions on the inode list) -/
def EffComm (x y : Eff) : Prop := ∀ l, applyEff (applyEff l x) y = applyEff (applyEff l y) x

theorem effComm_of_ne (x y : Eff) (h : x.id ≠ y.id) : EffComm x y :=
  fun l => List.modify_modify_ne _ _ l h

theorem effComm_of_app (x y : Eff) (h : ∀ a, y.e.app (x.e.app a) = x.e.app (y.e.app a)) : EffComm x y := by
  intro l
  by_cases hid : x.id = y.id
  · unfold applyEff
    rw [hid, List.modify_modify_eq, List.modify_modify_eq]
    exact congrArg (l.modify y.id) (funext h)
  · exact effComm_of_ne x y hid l

theorem effComm_symm {x y : Eff} (h : EffComm x y) : EffComm y x := fun l => (h l).symm

theorem size_comm (n : Nat) (e : InoEff) (a : Inode) : e.app ((InoEff.size n).app a) = (InoEff.size n).app (e.app a) := by
  cases e <;> simp [InoEff.app, Inode.setBlockSize, Nat.add_right_comm]

theorem fragLoc_comm_sparse (i o k n : Nat) (a : Inode) :
    (InoEff.sparse k n).app ((InoEff.fragLoc i o).app a) = (InoEff.fragLoc i o).app ((InoEff.sparse k n).app a) := rfl

theorem fragLoc_comm_word (i o k v : Nat) (a : Inode) :
    (InoEff.word k v).app ((InoEff.fragLoc i o).app a) = (InoEff.fragLoc i o).app ((InoEff.word k v).app a) := rfl

theorem fragLoc_comm_start (i o loc : Nat) (a : Inode) :
    (InoEff.start loc).app ((InoEff.fragLoc i o).app a) = (InoEff.fragLoc i o).app ((InoEff.start loc).app a) := rfl

theorem sparse_comm_start (k n loc : Nat) (a : Inode) :
    (InoEff.start loc).app ((InoEff.sparse k n).app a) = (InoEff.sparse k n).app ((InoEff.start loc).app a) := rfl

theorem sparse_comm_sparse (k n k' n' : Nat) (a : Inode) :
    (InoEff.sparse k' n').app ((InoEff.sparse k n).app a) = (InoEff.sparse k n).app ((InoEff.sparse k' n').app a) := by
  simp only [InoEff.app, Inode.setBlockSize, Inode.mk.injEq, true_and, and_true]
  refine ⟨funext fun j => ?_, Nat.max_right_comm .., Nat.add_right_comm ..⟩
  by_cases h1 : j = k <;> by_cases h2 : j = k' <;> simp only [h1, h2, if_true, if_false, ite_self]

theorem sparse_comm_word (k n k' v : Nat) (hk : k ≠ k') (a : Inode) :
    (InoEff.word k' v).app ((InoEff.sparse k n).app a) = (InoEff.sparse k n).app ((InoEff.word k' v).app a) := by
  simp only [InoEff.app, Inode.setBlockSize, Inode.mk.injEq, true_and, and_true]
  refine ⟨funext fun j => ?_, Nat.max_right_comm ..⟩
  by_cases h1 : j = k
  · subst h1; simp only [hk, if_true, if_false]
  · simp only [h1, if_false]

theorem foldl_snoc {α β : Type} (f : β → α → β) (b : β) (l : List α) (x : α) :
    (l ++ [x]).foldl f b = f (l.foldl f b) x := by
  rw [List.foldl_append]; rfl

/-- `Merge h a b`: `h` is an interleaving of `a` and `b` that keeps the order inside each of them -/
inductive Merge {α : Type} : List α → List α → List α → Prop where
  | nil : Merge [] [] []
  | left (x : α) {h a b : List α} : Merge h a b → Merge (x :: h) (x :: a) b
  | right (x : α) {h a b : List α} : Merge h a b → Merge (x :: h) a (x :: b)

theorem Merge.symm {α : Type} {h a b : List α} (m : Merge h a b) : Merge h b a := by
  induction m with
  | nil => exact .nil
  | left x _ ih => exact .right x ih
  | right x _ ih => exact .left x ih

theorem Merge.snoc_left {α : Type} {h a b : List α} (x : α) (m : Merge h a b) : Merge (h ++ [x]) (a ++ [x]) b := by
  induction m with
  | nil => exact .left x .nil
  | left y _ ih => exact .left y ih
  | right y _ ih => exact .right y ih

theorem Merge.snoc_right {α : Type} {h a b : List α} (x : α) (m : Merge h a b) : Merge (h ++ [x]) a (b ++ [x]) :=
  (m.symm.snoc_left x).symm

theorem Merge.append_left {α : Type} {h a b : List α} (xs : List α) (m : Merge h a b) : Merge (h ++ xs) (a ++ xs) b := by
  induction xs generalizing h a with
  | nil => simpa using m
  | cons x xs ih =>
    have := ih (m.snoc_left x)
    simpa [List.append_assoc] using this

theorem Merge.append_right {α : Type} {h a b : List α} (xs : List α) (m : Merge h a b) : Merge (h ++ xs) a (b ++ xs) :=
  (m.symm.append_left xs).symm

theorem Merge.mem {α : Type} {h a b : List α} (m : Merge h a b) (x : α) : x ∈ h ↔ x ∈ a ∨ x ∈ b := by
  induction m with
  | nil => simp
  | left y _ ih => simp [ih, or_assoc]
  | right y _ ih => simp only [List.mem_cons, ih]; grind

theorem foldl_comm_one {α β : Type} (f : β → α → β) (a : List α) (y : α)
    (hc : ∀ x ∈ a, ∀ s, f (f s x) y = f (f s y) x) : ∀ s, a.foldl f (f s y) = f (a.foldl f s) y := by
  induction a with
  | nil => intro s; rfl
  | cons x a ih =>
    intro s
    simp only [List.foldl_cons]
    rw [← hc x List.mem_cons_self s]
    exact ih (fun x' hx' => hc x' (List.mem_cons_of_mem _ hx')) _

theorem Merge.foldl_eq {α β : Type} (f : β → α → β) {h a b : List α} (m : Merge h a b)
    (hc : ∀ x ∈ a, ∀ y ∈ b, ∀ s, f (f s x) y = f (f s y) x) : ∀ s, h.foldl f s = (a ++ b).foldl f s := by
  induction m with
  | nil => intro s; rfl
  | left x _ ih =>
    intro s
    simp only [List.foldl_cons, List.cons_append]
    exact ih (fun x' hx' y hy => hc x' (List.mem_cons_of_mem _ hx') y hy) _
  | @right y h a b _ ih =>
    intro s
    simp only [List.foldl_cons]
    rw [ih (fun x' hx' y' hy' => hc x' hx' y' (List.mem_cons_of_mem _ hy')) _]
    simp only [List.foldl_append, List.foldl_cons]
    rw [foldl_comm_one f a y (fun x hx s => hc x hx y List.mem_cons_self s)]

end Sqfs.BlockProc
