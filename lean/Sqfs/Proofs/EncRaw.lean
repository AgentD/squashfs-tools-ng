/-
C01 — packed references `(block << 16) | offset`; those of uncompressed metadata (`rawRef` / `rawPos`) are inverse.
-/
import Sqfs.Model.EncTree
namespace Sqfs.Enc
open Sqfs.Consts

theorem packed_div {a o : Nat} (h : o < 65536) : (a * 65536 + o) / 65536 = a := by
  rw [Nat.add_comm, Nat.add_mul_div_right _ _ (by decide), Nat.div_eq_of_lt h, Nat.zero_add]

theorem packed_mod {a o : Nat} (h : o < 65536) : (a * 65536 + o) % 65536 = o := by
  rw [Nat.add_comm, Nat.add_mul_mod_self_right, Nat.mod_eq_of_lt h]

theorem packed_inj {a b o1 o2 : Nat} (h1 : o1 < 65536) (h2 : o2 < 65536) (h : a * 65536 + o1 = b * 65536 + o2) :
    a = b ∧ o1 = o2 := by
  have hd := congrArg (· / 65536) h
  have hm := congrArg (· % 65536) h
  simp only [packed_div h1, packed_div h2, packed_mod h1, packed_mod h2] at hd hm
  exact ⟨hd, hm⟩

theorem packed_lt {a o n : Nat} (ha : a < 2 ^ n) (ho : o < 65536) : a * 65536 + o < 2 ^ (n + 16) :=
  calc a * 65536 + o < a * 65536 + 65536 := Nat.add_lt_add_left ho _
    _ = (a + 1) * 65536 := (Nat.succ_mul a 65536).symm
    _ ≤ 2 ^ n * 65536 := Nat.mul_le_mul_right _ ha
    _ = 2 ^ (n + 16) := (Nat.pow_add 2 n 16).symm

theorem mod_8192_lt_65536 (p : Nat) : p % 8192 < 65536 := Nat.lt_trans (Nat.mod_lt p (by decide)) (by decide)

theorem rawRef_eq (p : Nat) : rawRef p = p / 8192 * 8194 * 65536 + p % 8192 := by
  unfold rawRef
  simp only [metaBlockSize]
  rw [← Nat.shiftLeft_add_eq_or_of_lt (mod_8192_lt_65536 p), Nat.shiftLeft_eq]

theorem rawRef_lt (p : Nat) (h : p / metaBlockSize * rawCost < 2 ^ 32) : rawRef p < 2 ^ 48 := by
  rw [rawRef_eq]; exact packed_lt h (mod_8192_lt_65536 p)

theorem rawPos_rawRef (p : Nat) : rawPos (rawRef p) = some p := by
  have ho := mod_8192_lt_65536 p
  unfold rawPos
  have hc : p / 8192 * 8194 % (metaBlockSize + 2) = 0 ∧ p % 8192 < metaBlockSize :=
    ⟨Nat.mul_mod_left _ 8194, Nat.mod_lt p (by decide)⟩
  rw [rawRef_eq, Nat.shiftRight_eq_div_pow, show (2 : Nat) ^ 16 = 65536 from rfl, packed_div ho, packed_mod ho, if_pos hc]
  show some (p / 8192 * 8194 / 8194 * 8192 + p % 8192) = some p
  rw [Nat.mul_div_cancel _ (by decide), Nat.mul_comm, Nat.div_add_mod]

end Sqfs.Enc
