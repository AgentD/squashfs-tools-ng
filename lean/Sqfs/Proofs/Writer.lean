/-
Helper lemmas for C14: the file under `pwrite`/`ftruncate`; `sqfs_super_read` looks at the first 96 bytes only, and operations
that stay clear of them (`Op.Safe`) keep them.  On these rest the two lemmas both layers of Props/C14 (logs that pass
`shapeCheck`, runs of the model) come from, `prefix_rejected_of_safe` and `suffix_complete_of_safe`; `Shape` bundles their
hypotheses.
-/
import Sqfs.Proofs.WriterSuper
import Sqfs.Proofs.ListFacts
namespace Sqfs.Writer
open Sqfs.Consts

theorem zeros_length (n : Nat) : (zeros n).length = n := by simp [zeros]

theorem filePwrite_length (f : Bytes) (off : Nat) (d : Bytes) :
    (filePwrite f off d).length = max f.length (off + d.length) := by
  simp only [filePwrite, zeros_length, List.length_append, List.length_take, List.length_drop]; omega

theorem fileTrunc_length (f : Bytes) (n : Nat) : (fileTrunc f n).length = n := by
  simp only [fileTrunc, zeros_length, List.length_append, List.length_take]; omega

theorem filePwrite_take (f : Bytes) (off : Nat) (d : Bytes) (n : Nat) (h1 : n ≤ off) (h2 : n ≤ f.length) :
    (filePwrite f off d).take n = f.take n := by
  unfold filePwrite
  rw [List.append_assoc, List.append_assoc, List.take_append_of_le_length]
  · rw [List.take_take]; congr 1; omega
  · simp [List.length_take]; omega

theorem fileTrunc_take (f : Bytes) (n m : Nat) (h1 : m ≤ n) (h2 : m ≤ f.length) :
    (fileTrunc f n).take m = f.take m := by
  unfold fileTrunc
  rw [List.take_append_of_le_length]
  · rw [List.take_take]; congr 1; omega
  · simp [List.length_take]; omega

theorem filePwrite_append (f d : Bytes) : filePwrite f f.length d = f ++ d := by
  simp [filePwrite, zeros]

theorem filePwrite_zero (f d : Bytes) : filePwrite f 0 d = d ++ f.drop d.length := by
  simp [filePwrite, zeros]

theorem applyOps_append (f : Bytes) (a b : List Op) : applyOps f (a ++ b) = applyOps (applyOps f a) b := by
  simp [applyOps, List.foldl_append]

theorem applyOps_cons (f : Bytes) (o : Op) (r : List Op) : applyOps f (o :: r) = applyOps (o.apply f) r := rfl

theorem safe_apply (o : Op) (f : Bytes) (ho : o.Safe) (hf : sizeofSuper ≤ f.length) :
    (o.apply f).take sizeofSuper = f.take sizeofSuper ∧ sizeofSuper ≤ (o.apply f).length := by
  cases o with
  | pwrite off d =>
    simp only [Op.Safe] at ho
    exact ⟨filePwrite_take f off d _ ho hf, by simp only [Op.apply, filePwrite_length]; omega⟩
  | ftruncate n =>
    simp only [Op.Safe] at ho
    exact ⟨fileTrunc_take f n _ ho hf, by simp only [Op.apply, fileTrunc_length]; omega⟩

theorem safe_applyOps (ops : List Op) (f : Bytes) (h : ∀ o ∈ ops, o.Safe) (hf : sizeofSuper ≤ f.length) :
    (applyOps f ops).take sizeofSuper = f.take sizeofSuper ∧ sizeofSuper ≤ (applyOps f ops).length := by
  induction ops generalizing f with
  | nil => exact ⟨rfl, hf⟩
  | cons o r ih =>
    have h1 := safe_apply o f (h o (by simp)) hf
    have h2 := ih (o.apply f) (fun x hx => h x (by simp [hx])) h1.2
    rw [applyOps_cons]
    exact ⟨h2.1.trans h1.1, h2.2⟩

theorem all_safe_iff (l : List Op) : l.all (fun o => decide o.Safe) = true ↔ ∀ o ∈ l, o.Safe := by
  simp only [List.all_eq_true, decide_eq_true_eq]

theorem splitSafe_spec (l : List Op) :
    l = (splitSafe l).1 ++ (splitSafe l).2 ∧ (∀ o ∈ (splitSafe l).1, o.Safe) ∧
    (∀ o r, (splitSafe l).2 = o :: r → ¬ o.Safe) := by
  induction l with
  | nil => simp [splitSafe]
  | cons o r ih =>
    by_cases ho : o.Safe
    · simp only [splitSafe, ho, if_true]
      refine ⟨by rw [List.cons_append, ← ih.1], ?_, ih.2.2⟩
      intro x hx
      rcases List.mem_cons.mp hx with rfl | hx
      · exact ho
      · exact ih.2.1 x hx
    · simp only [splitSafe, ho, if_false]
      refine ⟨rfl, by simp, ?_⟩
      intro o' r' h
      injection h with h1 h2
      subst h1; exact ho

theorem splitSafe_append (a : List Op) (b : Op) (c : List Op) (ha : ∀ o ∈ a, o.Safe) (hb : ¬ b.Safe) :
    splitSafe (a ++ b :: c) = (a, b :: c) := by
  induction a with
  | nil => simp [splitSafe, hb]
  | cons o r ih =>
    have ho : o.Safe := ha o (by simp)
    simp only [List.cons_append, splitSafe, ho, if_true]
    rw [ih (fun x hx => ha x (by simp [hx]))]

theorem superRead_congr (f g : Bytes) (hf : sizeofSuper ≤ f.length) (hg : sizeofSuper ≤ g.length)
    (h : f.take sizeofSuper = g.take sizeofSuper) : superRead f = superRead g := by
  simp only [superRead, readAt_super f hf, readAt_super g hg, h]

theorem superRead_short (f : Bytes) (h : f.length < sizeofSuper) : superRead f = .error errOutOfBounds := by
  have : readAt f 0 sizeofSuper = .error errOutOfBounds := by
    simp [readAt, sizeofSuper] at *; omega
  simp only [superRead, this]

theorem superRead_ok_idCount (f : Bytes) (t : Super) (h : superRead f = .ok t) :
    t = Super.decode (f.take sizeofSuper) ∧ t.idCount ≠ 0 := by
  by_cases hl : sizeofSuper ≤ f.length
  · simp only [superRead, readAt_super f hl, Except.ite_error_eq_ok, Except.ok.injEq] at h
    obtain ⟨_, _, _, _, _, _, _, _, h9, rfl⟩ := h
    exact ⟨rfl, h9⟩
  · rw [superRead_short f (by omega)] at h; contradiction

theorem rejected_of_idCount_zero (f : Bytes) (h : (Super.decode (f.take sizeofSuper)).idCount = 0) :
    readerAccepts f = false := by
  cases hs : superRead f with
  | error e => simp [readerAccepts, readerVerdict, hs]
  | ok t =>
    obtain ⟨ht, hne⟩ := superRead_ok_idCount f t hs
    rw [ht] at hne; contradiction

theorem rejected_of_short (f : Bytes) (h : f.length < sizeofSuper) : readerAccepts f = false := by
  simp [readerAccepts, readerVerdict, superRead_short f h]

theorem image_nil_rejected : readerAccepts (image []) = false :=
  rejected_of_short _ (by simp [image, applyOps, sizeofSuper])

theorem superInit_idCount (bs mt c : Nat) (s : Super) (h : superInit bs mt c = .ok s) : s.idCount = 0 := by
  simp only [superInit, Except.ite_error_eq_ok, Except.ok.injEq] at h
  obtain ⟨_, _, _, rfl⟩ := h
  rfl

theorem isProvisional_spec (p : Bytes) (h : isProvisional p = true) :
    p.length = sizeofSuper ∧ (Super.decode p).idCount = 0 := by
  simp only [isProvisional] at h
  split at h
  · contradiction
  · rename_i s hs
    have hp : s.encode = p := by simpa using h
    have h0 := superInit_idCount _ _ _ s hs
    subst hp
    refine ⟨encode_length s, ?_⟩
    rw [decode_encode]; simp [Super.wrap, h0]

theorem superInit_wrap (bs mt c : Nat) (sup : Super) (h : superInit bs mt c = .ok sup) :
    superInit sup.wrap.blockSize sup.wrap.mtime sup.wrap.compId = .ok sup := by
  simp only [superInit, Except.ite_error_eq_ok, Except.ok.injEq] at h
  obtain ⟨h1, h2, h3, rfl⟩ := h
  have hb : bs % 2 ^ 32 = bs := by simp only [maxBlockSize] at h3; omega
  simp only [Super.wrap, hb, Nat.mod_mod]
  unfold superInit
  rw [if_neg h1, if_neg h2, if_neg h3, Nat.mod_mod, Nat.mod_mod]

theorem isProvisional_init (bs mt c : Nat) (sup : Super) (h : superInit bs mt c = .ok sup) :
    isProvisional sup.encode = true := by
  simp only [isProvisional, decode_encode, superInit_wrap bs mt c sup h]
  simp

theorem isZeros_spec (z : Bytes) (h : isZeros z = true) : ∀ b ∈ z, b = 0 := by
  simpa [isZeros] using h

/-- what a log that passes `shapeCheck` gives `prefix_rejected_of_safe` and `suffix_complete_of_safe` -/
structure Shape (p : Bytes) (mid : List Op) (s : Bytes) (pad : List Op) : Prop where
  plen : p.length = sizeofSuper
  idCount : (Super.decode p).idCount = 0
  safe : ∀ o ∈ mid, o.Safe
  slen : s.length = sizeofSuper
  padOk : pad = [] ∨ ∃ z, pad = [.pwrite (image (.pwrite 0 p :: mid)).length z] ∧ ∀ b ∈ z, b = 0
  kFinal : kFinalOf (.pwrite 0 p :: (mid ++ .pwrite 0 s :: pad)) = mid.length + 2

theorem shape_of_check (ops : List Op) (h : shapeCheck ops = true) :
    ∃ p mid s pad, ops = .pwrite 0 p :: (mid ++ .pwrite 0 s :: pad) ∧ Shape p mid s pad := by
  unfold shapeCheck at h
  split at h
  case h_2 => contradiction
  case h_1 p rest =>
    simp only [Bool.and_eq_true] at h
    obtain ⟨hp, h⟩ := h
    split at h
    case h_2 => contradiction
    case h_1 mid s pad hsp =>
      simp only [Bool.and_eq_true, beq_iff_eq] at h
      obtain ⟨⟨hs, _⟩, hpad⟩ := h
      have spec := splitSafe_spec rest
      rw [hsp] at spec
      have hrest : rest = mid ++ .pwrite 0 s :: pad := spec.1
      obtain ⟨hpl, hid⟩ := isProvisional_spec p hp
      refine ⟨p, mid, s, pad, by rw [hrest], ⟨hpl, hid, spec.2.1, hs, ?_, by rw [kFinalOf, List.tail_cons, ← hrest, hsp]⟩⟩
      split at hpad
      · exact Or.inl rfl
      · rename_i off z
        simp only [Bool.and_eq_true, beq_iff_eq] at hpad
        exact Or.inr ⟨z, by rw [hpad.1], isZeros_spec z hpad.2⟩
      · contradiction

/-- Conversely, a log of that form passes `shapeCheck`, and `kFinalOf` is the position behind its second superblock write. -/
theorem shapeCheck_of_form {p s : Bytes} {mid pad : List Op} (hp : isProvisional p = true) (hsafe : ∀ o ∈ mid, o.Safe)
    (hs : s.length = sizeofSuper) (hu : (Super.decode s).bytesUsed = (image (.pwrite 0 p :: mid)).length)
    (hpad : pad = [] ∨ ∃ z, pad = [.pwrite (image (.pwrite 0 p :: mid)).length z] ∧ isZeros z = true) :
    shapeCheck (.pwrite 0 p :: (mid ++ .pwrite 0 s :: pad)) = true ∧
    kFinalOf (.pwrite 0 p :: (mid ++ .pwrite 0 s :: pad)) = mid.length + 2 := by
  have hsp := splitSafe_append mid (.pwrite 0 s) pad hsafe (Nat.not_le_of_gt (by decide))
  refine ⟨?_, by rw [kFinalOf, List.tail_cons, hsp]⟩
  simp only [shapeCheck, hp, hsp, hs, hu, beq_self_eq_true, Bool.true_and]
  rcases hpad with rfl | ⟨z, rfl, hz⟩
  · rfl
  · simp only [beq_self_eq_true, hz, Bool.and_self]

theorem image_snoc (ops : List Op) (o : Op) : image (ops ++ [o]) = o.apply (image ops) := by
  simp [image, applyOps, List.foldl_append]

theorem image_prov_mid (p : Bytes) (mid : List Op) (hp : p.length = sizeofSuper) (hs : ∀ o ∈ mid, o.Safe) :
    (image (.pwrite 0 p :: mid)).take sizeofSuper = p ∧ sizeofSuper ≤ (image (.pwrite 0 p :: mid)).length := by
  have h0 : Op.apply (.pwrite 0 p) [] = p := by simp [Op.apply, filePwrite, zeros]
  have := safe_applyOps mid p hs (by omega)
  simp only [image, applyOps_cons, h0]
  refine ⟨?_, this.2⟩
  rw [this.1, ← hp, List.take_length]

theorem prefix_rejected_of_safe (P : Bytes) (rest ext : List Op) (hP : P.length = sizeofSuper) (hid : (Super.decode P).idCount = 0)
    (hs : ∀ o ∈ rest, o.Safe) (k : Nat) (hk : k ≤ rest.length + 1) :
    readerAccepts (image (((Op.pwrite 0 P :: rest) ++ ext).take k)) = false ∧
    (1 ≤ k → (image (((Op.pwrite 0 P :: rest) ++ ext).take k)).take sizeofSuper = P) := by
  cases k with
  | zero => exact ⟨image_nil_rejected, by omega⟩
  | succ j =>
    have hj : j ≤ rest.length := by omega
    rw [List.cons_append, List.take_succ_cons, List.take_append_of_le_length hj]
    have := image_prov_mid P (rest.take j) hP (fun o ho => hs o (List.mem_of_mem_take ho))
    refine ⟨?_, fun _ => this.1⟩
    apply rejected_of_idCount_zero
    rw [this.1]; exact hid

/-- `z`: the zeros appended behind the final superblock within the first `k` calls; `pad'`: those still to come -/
theorem suffix_complete_of_safe (p s : Bytes) (mid pad : List Op) (hp : p.length = sizeofSuper) (hs : s.length = sizeofSuper)
    (safe : ∀ o ∈ mid, o.Safe)
    (padOk : pad = [] ∨ ∃ z, pad = [.pwrite (image (.pwrite 0 p :: mid)).length z] ∧ ∀ b ∈ z, b = 0)
    (k : Nat) (hk : mid.length + 2 ≤ k) :
    ∃ z pad', image ((Op.pwrite 0 p :: (mid ++ .pwrite 0 s :: pad)).take k) = s ++ (image (.pwrite 0 p :: mid)).drop sizeofSuper ++ z ∧
      image (.pwrite 0 p :: (mid ++ .pwrite 0 s :: pad)) = image ((Op.pwrite 0 p :: (mid ++ .pwrite 0 s :: pad)).take k) ++ pad' ∧
      ∀ b ∈ pad', b = 0 := by
  have hb := image_prov_mid p mid hp safe
  have e1 : Op.pwrite 0 p :: (mid ++ .pwrite 0 s :: pad) = (.pwrite 0 p :: mid ++ [.pwrite 0 s]) ++ pad := by simp
  have hX : image (.pwrite 0 p :: mid ++ [.pwrite 0 s]) = s ++ (image (.pwrite 0 p :: mid)).drop sizeofSuper := by
    rw [image_snoc]; simp only [Op.apply]; rw [filePwrite_zero, hs]
  have hl : (image (.pwrite 0 p :: mid ++ [.pwrite 0 s])).length = (image (.pwrite 0 p :: mid)).length := by
    rw [hX, List.length_append, List.length_drop, hs]; omega
  have hl1 : (Op.pwrite 0 p :: mid ++ [Op.pwrite 0 s]).length = mid.length + 2 := by simp
  rw [e1]
  rcases padOk with rfl | ⟨z, rfl, hz⟩
  · rw [List.append_nil, List.take_of_length_le (by omega), hX]
    exact ⟨[], [], by simp, by simp, by simp⟩
  · have hfull : image ((.pwrite 0 p :: mid ++ [.pwrite 0 s]) ++ [.pwrite (image (.pwrite 0 p :: mid)).length z]) =
        image (.pwrite 0 p :: mid ++ [.pwrite 0 s]) ++ z := by
      rw [image_snoc, ← hl]; exact filePwrite_append _ _
    by_cases hk2 : mid.length + 3 ≤ k
    · rw [List.take_of_length_le (by simp; omega), hfull, hX]
      exact ⟨z, [], rfl, by simp, by simp⟩
    · rw [List.take_append_of_le_length (by omega), List.take_of_length_le (by omega), hfull, hX]
      exact ⟨[], z, by simp, rfl, hz⟩

end Sqfs.Writer
