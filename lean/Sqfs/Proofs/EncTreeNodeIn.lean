/-
C01 — the whole tree: bookkeeping of `sqfs_serialize_fstree`'s loop (references handed out, growth of the
streams) and the per-node hypotheses (`NodeInOk`) from the hypotheses on the input.
-/
import Sqfs.Proofs.EncTreeStep
import Sqfs.Spec.EncTreeSpec
import Mathlib.Tactic.IntervalCases
namespace Sqfs.Enc
open Sqfs.Consts
open Sqfs.FsTree (TNode Path lookup indexOf isType)

theorem lookupRef_cons_self (refs : List (Path × Nat)) (p : Path) (r : Nat) : lookupRef ((p, r) :: refs) p = r := by
  simp [lookupRef, List.find?]

theorem lookupRef_cons_ne (refs : List (Path × Nat)) (p q : Path) (r : Nat) (h : q ≠ p) :
    lookupRef ((q, r) :: refs) p = lookupRef refs p := by
  have : (q == p) = false := by simpa using h
  simp [lookupRef, List.find?, this]

theorem lookupRef_lt (refs : List (Path × Nat)) (p : Path) (b : Nat) (hb : 0 < b) (h : ∀ e ∈ refs, e.2 < b) :
    lookupRef refs p < b := by
  unfold lookupRef
  split
  · next e he => exact h e (List.mem_of_find?_eq_some he)
  · exact hb

theorem indexOf_le (p : Path) : ∀ l : List Path, indexOf p l ≤ l.length := by
  intro l
  induction l with
  | nil => simp [indexOf]
  | cons q r ih =>
    simp only [indexOf]
    split
    · exact Nat.zero_le _
    · exact Nat.succ_le_succ ih

theorem blk_mono (a b : Nat) (h : a ≤ b) : a / metaBlockSize * rawCost ≤ b / metaBlockSize * rawCost :=
  Nat.mul_le_mul_right _ (Nat.div_le_div_right h)

theorem serializeNode_grows (st st' : TreeSt) (n : NodeIn) (h : serializeNode st n = .ok st') :
    (∃ a, st'.inodes = st.inodes ++ a) ∧ (∃ b, st'.dirs = st.dirs ++ b)
    ∧ (∀ ents des, n.kind = .dir ents → addAllEntries ents = .ok des →
        st'.dirs = st.dirs ++ encListing rawCost (st.dirs.length / metaBlockSize * rawCost) (st.dirs.length % metaBlockSize) des) := by
  obtain ⟨i0, b, _, hstep, _, hdir⟩ := serializeNode_step st st' n h
  obtain ⟨_, _, _, _, _, _, rfl⟩ := serializeStep_ok hstep
  refine ⟨⟨_, rfl⟩, ⟨b, rfl⟩, fun ents des hk hae => ?_⟩
  obtain ⟨des', hae', _, rfl⟩ := hdir ents hk
  rw [hae] at hae'; cases hae'
  rfl

theorem serializeGo_cons {root : TNode} {inodes : List Path} {x : TreeExtra} {p : Path} {rest : List Path} {st : TreeSt}
    {refs : List (Path × Nat)} {r : TreeSt × List (Path × Nat)} (h : serializeGo root inodes x (p :: rest) st refs = .ok r) :
    ∃ n st', lookup root p = some n ∧ serializeNode st (nodeIn root inodes x refs p n) = .ok st'
      ∧ serializeGo root inodes x rest st' ((p, rawRef st.inodes.length) :: refs) = .ok r := by
  simp only [serializeGo] at h
  split at h
  · cases h
  · split at h
    · cases h
    · exact ⟨_, _, ‹_›, ‹_›, h⟩

theorem serializeGo_grows (root : TNode) (inodes : List Path) (x : TreeExtra) :
    ∀ (todo : List Path) (st : TreeSt) (refs : List (Path × Nat)) (stF : TreeSt) (refsF : List (Path × Nat)),
      serializeGo root inodes x todo st refs = .ok (stF, refsF) →
      st.inodes.length ≤ stF.inodes.length ∧ st.dirs.length ≤ stF.dirs.length := by
  intro todo
  induction todo with
  | nil => intro st refs stF refsF h; simp only [serializeGo, Except.ok.injEq, Prod.mk.injEq] at h; rw [h.1]; exact ⟨Nat.le_refl _, Nat.le_refl _⟩
  | cons p rest ih =>
    intro st refs stF refsF h
    obtain ⟨n, st', _, hs, h⟩ := serializeGo_cons h
    obtain ⟨⟨a, ha⟩, ⟨b, hb⟩, _⟩ := serializeNode_grows _ _ _ hs
    obtain ⟨i1, i2⟩ := ih _ _ _ _ h
    rw [ha, List.length_append] at i1; rw [hb, List.length_append] at i2
    exact ⟨Nat.le_trans (Nat.le_add_right _ _) i1, Nat.le_trans (Nat.le_add_right _ _) i2⟩

/-- `mode & S_IFMT` of a 16-bit mode, arithmetically -/
theorem fmt16 (m : Nat) (h : m < 65536) : m &&& sIFMT = m / 4096 * 4096 := by
  show m &&& 61440 = m / 4096 * 4096
  have hmask : ∀ i, i < 16 → Nat.testBit 61440 i = decide (12 ≤ i) := by decide
  have e : m / 4096 * 4096 = (m >>> 12) <<< 12 := by rw [Nat.shiftRight_eq_div_pow, Nat.shiftLeft_eq]
  rw [e]
  apply Nat.eq_of_testBit_eq
  intro i
  rw [Nat.testBit_and, Nat.testBit_shiftLeft, Nat.testBit_shiftRight]
  by_cases h16 : 16 ≤ i
  · have h1 : m.testBit i = false :=
      Nat.testBit_lt_two_pow (Nat.lt_of_lt_of_le h (Nat.pow_le_pow_right (by decide : 2 > 0) h16))
    rw [Nat.add_sub_cancel' (Nat.le_trans (by decide) h16), h1, Bool.false_and, Bool.and_false]
  · rw [hmask i (Nat.lt_of_not_le h16)]
    by_cases h12 : 12 ≤ i
    · rw [Nat.add_sub_cancel' h12, Bool.and_comm]
    · simp [h12]

theorem isDir_mode (n : TNode) (hf : n.attr.mode &&& sIFMT = n.attr.mode / 4096 * 4096) :
    n.isDir = true ↔ n.attr.mode / 4096 * 4096 = sIFDIR := by
  simp only [TNode.isDir, Sqfs.FsTree.isDirMode, isType, beq_iff_eq, hf]

/-- what the loop knows about the references handed out so far when it reaches a node -/
structure RefsOk (inodes : List Path) (refs : List (Path × Nat)) : Prop where
  lt : ∀ e ∈ refs, e.2 < 2 ^ 48

theorem nodeIn_dir (root : TNode) (inodes : List Path) (x : TreeExtra) (refs : List (Path × Nat)) (p : Path) {n : TNode}
    (hdir : n.isDir = true) :
    (nodeIn root inodes x refs p n).kind = .dir (n.children.map (fun c =>
      (c.name, indexOf (entryTarget p c) inodes + 1, lookupRef refs (entryTarget p c),
        match lookup root (entryTarget p c) with | some t => t.attr.mode | none => 0))) := by
  simp only [nodeIn, hdir, if_true]
  rfl

/-- the three classes of nodes, as `nodeIn` tells them apart: `S_ISDIR` (`nodeIn_dir`), then `S_ISREG`, then the rest; only a
directory's kind depends on the references handed out so far -/
theorem nodeIn_kind (root : TNode) (inodes : List Path) (x : TreeExtra) (p : Path) (n : TNode) :
    n.isDir = true
    ∨ (n.isDir = false ∧ isType n.attr.mode sIFREG = true ∧ ∀ refs, (nodeIn root inodes x refs p n).kind = .reg (x.fileInode p))
    ∨ (n.isDir = false ∧ isType n.attr.mode sIFREG = false
        ∧ ∀ refs, (nodeIn root inodes x refs p n).kind = .other n.attr.rdev (match n.attr.extra with | .str s => s | _ => [])) := by
  cases hd : n.isDir
  · cases hr : isType n.attr.mode sIFREG
    · exact Or.inr (Or.inr ⟨rfl, rfl, fun _ => by simp only [nodeIn, hd, hr, Bool.false_eq_true, if_false]; rfl⟩)
    · exact Or.inr (Or.inl ⟨rfl, rfl, fun _ => by simp only [nodeIn, hd, hr, if_true, Bool.false_eq_true, if_false]⟩)
  · exact Or.inl rfl

theorem nodeIn_isDir (root : TNode) (inodes : List Path) (x : TreeExtra) (refs : List (Path × Nat)) (p : Path) (n : TNode) :
    (nodeIn root inodes x refs p n).kind.isDir = n.isDir := by
  rcases nodeIn_kind root inodes x p n with h | ⟨h, _, hk⟩ | ⟨h, _, hk⟩
  · rw [nodeIn_dir root inodes x refs p h, h]; rfl
  · rw [hk, h]; rfl
  · rw [hk, h]; rfl

theorem nodeInOk_of (bs : Nat) (root : TNode) (inodes : List Path) (x : TreeExtra) (refs : List (Path × Nat))
    (p : Path) (n : TNode) (st st' : TreeSt) (ha : AttrOk bs x p n) (hlen : inodes.length + 1 < 2 ^ 32)
    (hids : IdsOk st.ids) (hrefs : ∀ e ∈ refs, e.2 < 2 ^ 48)
    (hs : serializeNode st (nodeIn root inodes x refs p n) = .ok st') (hd : st'.dirs.length + 3 < 2 ^ 32) :
    NodeInOk bs st (nodeIn root inodes x refs p n) := by
  have hidx : ∀ q : Path, indexOf q inodes + 1 < 2 ^ 32 := fun q =>
    Nat.lt_of_le_of_lt (Nat.succ_le_succ (indexOf_le q inodes)) hlen
  have hfmt := fmt16 _ ha.mode
  refine ⟨ha.mode, ha.mtime, hidx p, ha.lc, ha.xattr, hids, ?_⟩
  rcases nodeIn_kind root inodes x p n with hdir | ⟨hdir, hreg, hk⟩ | ⟨hdir, hreg, hk⟩
  · have hk := nodeIn_dir root inodes x refs p hdir
    rw [hk]
    refine ⟨(isDir_mode n hfmt).mp hdir, ?_, ?_, ?_⟩
    · simp only [nodeIn]; split
      · decide
      · exact hidx _
    · intro e he
      simp only [List.mem_map] at he
      obtain ⟨c, _, rfl⟩ := he
      exact ⟨hidx _, lookupRef_lt refs _ _ (by decide) hrefs⟩
    · intro des hdes
      have := (serializeNode_grows _ _ _ hs).2.2 _ des hk hdes
      rw [this, List.length_append, encListing_length, Nat.add_assoc] at hd
      exact Nat.lt_of_le_of_lt (Nat.le_add_left _ _) hd
  · obtain ⟨r1, r2⟩ := ha.reg hdir hreg
    rw [hk refs]
    refine ⟨?_, r1, r2⟩
    show n.attr.mode / 4096 * 4096 = sIFREG
    rw [← hfmt]; exact beq_iff_eq.mp hreg
  · obtain ⟨o1, o2⟩ := ha.other hdir hreg
    rw [hk refs]
    refine ⟨o1, ?_, ?_⟩
    · revert o2; cases n.attr.extra <;> simp
    · intro i0 hi0
      rw [(treeNodeToInode_cases hi0).1]
      exact hfmt.symm

end Sqfs.Enc
