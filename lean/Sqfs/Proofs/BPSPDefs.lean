/-
C02, `packRef = specPack`: the observables the two functions share (`PackView`) and the translation of the inputs, which
carries the codec contract of the block processor theorems over to that of `Spec/PackSpec.lean` (so that C17's theorems
about `specPack` apply, `Props/C02.lean`).
-/
import Sqfs.Proofs.BPSpecPack
namespace Sqfs.BlockProc

structure PackView where
  file : Bytes
  frags : List (Nat × Nat)
  files : List FileRes
deriving DecidableEq

/-- forgets `calls` (the `write_data_block` log, which includes the sentinel and sparse calls) -/
def Output.view (o : Output) : PackView := ⟨o.file, o.frags, o.files⟩

/-- the inode fields of one file as the tools serialise them -/
def resView (r : Sqfs.Pack.FileResult) : FileRes :=
  ⟨r.size, r.words.map Sqfs.Pack.Word.toNat, r.start, (r.frag.map (·.1)).getD 0xFFFFFFFF,
   (r.frag.map (·.2)).getD 0xFFFFFFFF, r.sparse, r.extended⟩

/-- forgets `shared` (ghost) and the block boundaries of `blocks` -/
def specView (pre : Bytes) (o : Sqfs.Pack.Out) : PackView :=
  ⟨pre ++ o.area,
   o.frags.map (fun e => (e.start, (Sqfs.Pack.Word.stored e.size e.raw).toNat)),
   o.files.map (fun r => ⟨r.size, r.words.map Sqfs.Pack.Word.toNat, r.start, (r.frag.map (·.1)).getD 0xFFFFFFFF,
                          (r.frag.map (·.2)).getD 0xFFFFFFFF, r.sparse, r.extended⟩)⟩

def toPackFiles (files : List InFile) : List Sqfs.Pack.InFile :=
  files.map fun f => ⟨Sqfs.Pack.Flags.ofNat f.flags, f.data⟩

theorem toPack_codec_ok (P : Params) (hc : CodecOk P.codec) (hpos : ∀ x z, P.codec.cmp x = some z → 0 < z.length) :
    (toPackParams P).codec.Ok :=
  ⟨fun x z h => ⟨hpos x z h, hc.smaller x z h⟩,
   fun x z h => by
     have := hc.roundTrip x z h
     simp only [toPackParams] at h ⊢
     rw [this]; rfl⟩

end Sqfs.BlockProc
