/-
Helper lemmas for C07: `split_line` keeps its write cursor behind its read cursor, never leaves the
`len + 1` byte object and always stops; the loops of `decode_filename` and of the xattr map file's `decode` stop at the
terminator.
-/
import Sqfs.Model.TextParse
import Sqfs.Proofs.ParseTotal
namespace Sqfs.ParseTotal

/-- cursor invariant of `split_line` on an object of `L` bytes with `len0 < L` -/
structure SLInv (L len0 : Nat) (s : SL) : Prop where
  pos : s.src + s.len = len0
  dle : s.dst ≤ s.src
  blen : s.buf.length = L

theorem SLInv.adv {L len0 : Nat} {s : SL} (hi : SLInv L len0 s) (b : Bytes) (hb : b.length = s.buf.length) (n d : Nat)
    (hn : n ≤ s.len) (hd : s.dst + d ≤ s.src + n) :
    SLInv L len0 { s with buf := b, src := s.src + n, dst := s.dst + d, len := s.len - n } :=
  ⟨by have := hi.pos; show s.src + n + (s.len - n) = len0; omega, hd, hb.trans hi.blen⟩

theorem slSkip_spec (sep : Bytes) (L len0 : Nat) (hL : len0 < L) : ∀ fuel (s : SL), s.len + 1 ≤ fuel → SLInv L len0 s →
    (slSkip sep fuel s).Sat fun s' => SLInv L len0 s' ∧ s'.args = s.args ∧ s.src ≤ s'.src ∧
      (s'.len = 0 ∨ ∃ c, s'.buf[s'.src]? = some c ∧ isSep sep c = false) := by
  refine fuel_ind SL.len fun f s ih hi => ?_
  have := hi.pos; have := hi.dle; have := hi.blen
  rw [slSkip]
  refine iteInduction (fun h0 => .ok ⟨hi, rfl, Nat.le_refl _, .inl h0⟩) fun h0 => of_get (by omega) fun c hc =>
    iteInduction (fun _ => ?_) (fun hs => .ok ⟨hi, rfl, Nat.le_refl _, .inr ⟨c, hc, by simpa using hs⟩⟩)
  exact (ih _ (by simp only []; omega) (hi.adv s.buf rfl 1 0 (by omega) (by omega))).mono
    fun s' ⟨h2, h3, h4, h5⟩ => ⟨h2, h3, by simp only [] at h4; omega, h5⟩

theorem slBare_spec (sep : Bytes) (L len0 : Nat) (hL : len0 < L) : ∀ fuel (s : SL), s.len + 1 ≤ fuel → SLInv L len0 s →
    (slBare sep fuel s).Sat fun s' => SLInv L len0 s' ∧ s'.args = s.args ∧ s.src ≤ s'.src := by
  refine fuel_ind SL.len fun f s ih hi => ?_
  have stop : (R.ok s).Sat fun s' => SLInv L len0 s' ∧ s'.args = s.args ∧ s.src ≤ s'.src := .ok ⟨hi, rfl, Nat.le_refl _⟩
  have := hi.pos; have := hi.dle; have := hi.blen
  rw [slBare]
  refine iteInduction (fun _ => stop) fun h0 => of_get (by omega) fun c _ => iteInduction (fun _ => stop) fun _ =>
    of_wr (by omega) fun b hb => ?_
  exact (ih _ (by simp only []; omega) (hi.adv b (wr_spec hb).1 1 1 (by omega) (by omega))).mono
    fun s' ⟨a1, a2, a3⟩ => ⟨a1, a2, by simp only [] at a3; omega⟩

theorem slQuoted_spec (L len0 : Nat) (hL : len0 < L) : ∀ fuel (s : SL), s.len + 1 ≤ fuel → SLInv L len0 s →
    (slQuoted fuel s).Sat fun s' => SLInv L len0 s' ∧ s'.args = s.args ∧ s.src ≤ s'.src := by
  refine fuel_ind SL.len fun f s ih hi => ?_
  have stop : (R.ok s).Sat fun s' => SLInv L len0 s' ∧ s'.args = s.args ∧ s.src ≤ s'.src := .ok ⟨hi, rfl, Nat.le_refl _⟩
  have := hi.pos; have := hi.dle; have := hi.blen
  -- `n` bytes read, one stored
  have go : ∀ (x : UInt8) (n : Nat), 1 ≤ n → n ≤ s.len →
      (match wr s.buf s.dst x with
       | none => R.oob
       | some b => slQuoted f { s with buf := b, src := s.src + n, dst := s.dst + 1, len := s.len - n }).Sat
        fun s' => SLInv L len0 s' ∧ s'.args = s.args ∧ s.src ≤ s'.src := fun x n h1 hn =>
    of_wr (by omega) fun b hb => (ih _ (by simp only []; omega) (hi.adv b (wr_spec hb).1 n 1 hn (by omega))).mono
      fun s' ⟨a1, a2, a3⟩ => ⟨a1, a2, by simp only [] at a3; omega⟩
  rw [slQuoted]
  refine iteInduction (fun _ => stop) fun h0 => of_get (by omega) fun c _ => iteInduction (fun _ => stop) fun _ =>
    iteInduction (fun _ => iteInduction (fun _ => .fail) fun h2 => ?_) (fun _ => go c 1 (by omega) (by omega))
  exact of_get (by omega) fun e _ => iteInduction (fun _ => .fail) fun _ => go e 2 (by omega) (by omega)

theorem slToken_spec (sep : Bytes) (L len0 : Nat) (hL : len0 < L) (s : SL) (hi : SLInv L len0 s) (h0 : s.len ≠ 0)
    (c : UInt8) (hc : s.buf[s.src]? = some c) (hns : isSep sep c = false) (hz : c.toNat ≠ 0) :
    (slToken sep s c).Sat fun t => SLInv L len0 t ∧ t.args = s.args ∧ s.src + 1 ≤ t.src := by
  have := hi.pos; have := hi.dle
  unfold slToken
  refine iteInduction (fun _ => ?_) (fun _ => ?_)
  · -- quoted: the opening quote is skipped here, the closing one by `slCloseQuote`
    refine (slQuoted_spec L len0 hL (s.len + 1) { s with src := s.src + 1, len := s.len - 1 }
      (by simp only []; omega) (hi.adv s.buf rfl 1 0 (by omega) (by omega))).seq (fun q ⟨b1, b2, b3⟩ => ?_) (fun _ => .fail)
    have := b1.pos; have := b1.dle; have := b1.blen
    unfold slCloseQuote
    exact iteInduction (fun _ => .fail) fun hq0 => of_get (by omega) fun x _ => iteInduction (fun _ => .fail) fun _ =>
      .ok ⟨b1.adv q.buf rfl 1 0 (by omega) (by omega), b2, Nat.le_succ_of_le b3⟩
  · -- bare: the first byte is an ordinary one, so the first round stores it
    simp only [slBare, h0, if_false, hc, hns, hz, Bool.false_eq_true, or_self]
    refine of_wr (by rw [hi.blen]; omega) fun b hb => ?_
    exact (slBare_spec sep L len0 hL s.len _ (by simp only []; omega) (hi.adv b (wr_spec hb).1 1 1 (by omega) (by omega))).mono
      fun t ⟨a1, a2, a3⟩ => ⟨a1, a2, by simp only [] at a3; omega⟩

/-- invariant at the top of the outer loop of `split_line` -/
structure OInv (sep : Bytes) (L len0 : Nat) (s : SL) : Prop where
  pos : s.src + s.len = len0
  blen : s.buf.length = L
  cnt : s.args.length + s.len ≤ len0
  dle : s.dst ≤ s.src ∨ s.len = 0 ∨ s.buf[s.src]? = some 0
  nonsep : s.len = 0 ∨ ∃ c, s.buf[s.src]? = some c ∧ isSep sep c = false

/-- what `split_line` hands back: at most `len0` tokens, in the same `L`-byte object -/
def SLDone (L len0 : Nat) (s : SL) : Prop := s.args.length ≤ len0 ∧ s.buf.length = L

theorem isSep_zero (sep : Bytes) : isSep sep 0 = false := by simp [isSep]

theorem slTail_spec (sep : Bytes) (L len0 : Nat) (hL : len0 < L) (k : SL → R SL) (bound : Nat)
    (hk : ∀ s : SL, OInv sep L len0 s → s.len ≤ bound → (k s).Sat (SLDone L len0))
    (t : SL) (ht : SLInv L len0 t) (hcnt : t.args.length + t.len ≤ len0) (hfl : t.len ≤ bound) :
    (slTail sep k t).Sat (SLDone L len0) := by
  unfold slTail
  refine (slSkip_spec sep L len0 hL (t.len + 1) t (Nat.le_refl _) ht).seq (fun u ⟨hu, ha, hs, hn⟩ => ?_) (fun _ => .fail)
  have := hu.pos; have := hu.dle; have := ht.pos
  refine of_wr (by rw [hu.blen]; omega) fun b hw => ?_
  obtain ⟨wl, wa, wo⟩ := wr_spec hw
  refine hk _ ⟨hu.pos, wl.trans hu.blen, by show u.args.length + u.len ≤ len0; rw [ha]; omega, ?_, ?_⟩ (by show u.len ≤ bound; omega)
  · -- the terminator may land on the byte the read cursor stands on: then that byte is NUL now
    by_cases hlt : u.dst < u.src
    · exact .inl (Nat.succ_le_of_lt hlt)
    · have e : u.dst = u.src := by omega
      exact .inr (.inr (e ▸ wa))
  · rcases hn with h | ⟨c, hc, hcs⟩
    · exact .inl h
    · by_cases he : u.src = u.dst
      · exact .inr ⟨0, he ▸ wa, isSep_zero sep⟩
      · exact .inr ⟨c, (wo _ he).trans hc, hcs⟩

theorem slOuter_spec (sep : Bytes) (L len0 : Nat) (hL : len0 < L) : ∀ fuel (s : SL), s.len + 1 ≤ fuel → OInv sep L len0 s →
    (slOuter sep fuel s).Sat (SLDone L len0) := by
  refine fuel_ind SL.len fun f s ih hi => ?_
  have := hi.pos; have := hi.cnt
  have stop : (R.ok s).Sat (SLDone L len0) := .ok ⟨by omega, hi.blen⟩
  rw [slOuter]
  refine iteInduction (fun _ => stop) fun h0 => of_get (by rw [hi.blen]; omega) fun c hc => iteInduction (fun _ => stop) fun hz => ?_
  have hdle : s.dst ≤ s.src := by
    rcases hi.dle with h | h | h
    · exact h
    · exact absurd h h0
    · rw [hc] at h; cases h; simp at hz
  have hns : isSep sep c = false := by
    rcases hi.nonsep with h | ⟨c', hc', h⟩
    · exact absurd h h0
    · rw [hc] at hc'; cases hc'; exact h
  refine (slToken_spec sep L len0 hL { s with args := s.dst :: s.args } ⟨hi.pos, hdle, hi.blen⟩ h0 c hc hns hz).seq
    (fun t ⟨b1, b2, b3⟩ => ?_) (fun _ => .fail)
  have := b1.pos
  simp only [] at b3
  refine slTail_spec sep L len0 hL (slOuter sep f) (s.len - 1) (fun s2 hs2 hl2 => ih s2 (by omega) hs2) t b1 ?_ (by omega)
  rw [b2, List.length_cons]; omega

theorem dfLoop_safe (k : Nat) : ∀ fuel src, k - src + 1 ≤ fuel → ∀ (buf : Bytes) dst, buf[k]? = some 0 → dst < src → src ≤ k →
    (dfLoop fuel buf src dst).safe := by
  refine fuel_ind (k - ·) fun f src ih buf dst hk hd hs => ?_
  have hklt := getElem?_lt hk
  rw [dfLoop]
  refine of_get (by omega) fun c hc => iteInduction (fun _ => trivial) fun hz => ?_
  have := lt_nul hk hs hc (by rintro rfl; simp at hz)
  -- a store at `dst < src` leaves the terminator at `k` in place
  have store : ∀ (x : UInt8) (n : Nat), 1 ≤ n → src + n ≤ k →
      (match wr buf dst x with | none => R.oob | some b => dfLoop f b (src + n) (dst + 1)).safe := fun x n h1 hn =>
    of_wr (by omega) fun b hb => ih _ (by omega) b _ (by rw [(wr_spec hb).2.2 k (by omega)]; exact hk) (by omega) hn
  refine iteInduction (fun _ => ?_) (fun _ => iteInduction (fun _ => ?_) (fun _ => store c 1 (Nat.le_refl _) (by omega)))
  · exact of_get (by omega) fun e _ => iteInduction (fun _ => trivial) fun _ => of_wr (by omega) fun _ _ => trivial
  · refine of_get (by omega) fun e he => iteInduction (fun hesc => store e 2 (by omega) ?_) (fun _ => trivial)
    have := lt_nul hk (by omega : src + 1 ≤ k) he (by rintro rfl; simp at hesc)
    omega

theorem xdLoop_spec (buf : Bytes) (endIdx n : Nat) (hn : buf[n]? = some 0) (hen : endIdx ≤ n) : ∀ fuel v, n - v + 1 ≤ fuel → ∀ acc,
    (xdLoop buf endIdx fuel v acc).Sat fun out => out.length ≤ acc.length + (n - v) := by
  have hnlt := getElem?_lt hn
  have oct_ne : ∀ {i : Nat} {c : UInt8}, buf[i]? = some c → isOct c = true → i ≠ n := by
    intro i c hc ho e; subst e; rw [hn] at hc; cases hc; simp [isOct] at ho
  refine fuel_ind (n - ·) fun f v ih acc => ?_
  rw [xdLoop]
  refine iteInduction (fun _ => .ok (by simp)) fun hge => ?_
  -- every round reads at least one byte and emits exactly one
  have step : ∀ (v' : Nat) (x : UInt8), v + 1 ≤ v' →
      (xdLoop buf endIdx f v' (x :: acc)).Sat fun out => out.length ≤ acc.length + (n - v) := fun v' x hv =>
    (ih v' (by omega) (x :: acc)).mono fun out h => by simp only [List.length_cons] at h; omega
  refine of_get (by omega) fun c _ => iteInduction (fun _ => ?_) (fun _ => step (v + 1) c (by omega))
  refine of_get (by omega) fun e he => iteInduction (fun _ => step (v + 2) e (by omega)) fun _ =>
    iteInduction (fun ho => ?_) (fun _ => step (v + 1) c (by omega))
  have := oct_ne he ho
  refine of_get (by omega) fun e2 he2 => iteInduction (fun ho2 => ?_) (fun _ => step (v + 2) _ (by omega))
  have := oct_ne he2 ho2
  exact of_get (by omega) fun e3 _ => iteInduction (fun _ => step (v + 4) _ (by omega)) (fun _ => step (v + 3) _ (by omega))

end Sqfs.ParseTotal
