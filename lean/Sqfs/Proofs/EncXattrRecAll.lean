/-
C01 — from the input strings to what is stored: what one `add_kv` does to the set being collected, and that `recordAll`
establishes, for every set, the index of a block holding exactly that set (as `canonSet` defines it), and the invariant
the flush/read theorem needs.
-/
import Sqfs.Proofs.EncXattrStr
import Sqfs.Proofs.EncXattrRec
namespace Sqfs.Enc

/-- a key/value pair the format can hold: known prefix, key remainder < 64 KiB, value < 4 GiB -/
def KvOk (kv : Bytes × Bytes) : Prop := (∃ t, prefixId kv.1 = some t) ∧ (afterDot kv.1).length < 65536 ∧ kv.2.length < 2 ^ 32

instance (kv : Bytes × Bytes) : Decidable (KvOk kv) :=
  decidable_of_iff ((prefixId kv.1).isSome = true ∧ (afterDot kv.1).length < 65536 ∧ kv.2.length < 2 ^ 32)
    (by unfold KvOk; rw [Option.isSome_iff_exists])

/-- between two sets: the invariant holds as soon as `begin` has been called -/
def XInv (w : XWriter) : Prop := XCur (beginSet w)

theorem xinv_empty : XInv {} := xcur_empty

theorem XInv.pairOk {w : XWriter} (hi : XInv w) : ∀ b ∈ w.blocks, ∀ p ∈ blockPairs w.pairs b, PairOk w p := by
  intro b _ p hp
  have hr : p.1 < w.keys.length ∧ p.2 < w.values.length := hi.rng p (List.mem_of_mem_drop (List.mem_of_mem_take hp))
  have a := hi.keyOk (keyOf w p.1) (getD_mem _ _ _ hr.1)
  exact ⟨a.1, a.2, hi.valOk _ (getD_mem _ _ _ hr.2)⟩

theorem XInv.count {w : XWriter} (hi : XInv w) : ∀ b ∈ w.blocks, (blockPairs w.pairs b).length = b.2 := by
  intro b hb
  have : b.1 + b.2 ≤ w.pairs.length := hi.bl b hb
  rw [blockPairs, List.length_take, List.length_drop]
  exact Nat.min_eq_left (Nat.le_sub_of_add_le (Nat.add_comm _ _ ▸ this))

/-- everything recorded in `w` is still there, unchanged, in `w'` -/
structure Grows (w w' : XWriter) : Prop where
  keys : ∃ ek, w'.keys = w.keys ++ ek
  vals : ∃ ev, w'.values.map (·.1) = w.values.map (·.1) ++ ev
  blocks : ∃ eb, w'.blocks = w.blocks ++ eb
  same : ∀ b ∈ w.blocks, blockPairs w'.pairs b = blockPairs w.pairs b

theorem Grows.refl (w : XWriter) : Grows w w := ⟨⟨[], by simp⟩, ⟨[], by simp⟩, ⟨[], by simp⟩, fun _ _ => rfl⟩

theorem Grows.trans {a b c : XWriter} (h1 : Grows a b) (h2 : Grows b c) : Grows a c := by
  obtain ⟨k1, hk1⟩ := h1.keys; obtain ⟨k2, hk2⟩ := h2.keys
  obtain ⟨v1, hv1⟩ := h1.vals; obtain ⟨v2, hv2⟩ := h2.vals
  obtain ⟨b1, hb1⟩ := h1.blocks; obtain ⟨b2, hb2⟩ := h2.blocks
  refine ⟨⟨k1 ++ k2, by rw [hk2, hk1]; simp⟩, ⟨v1 ++ v2, by rw [hv2, hv1]; simp⟩, ⟨b1 ++ b2, by rw [hb2, hb1]; simp⟩, ?_⟩
  intro x hx
  rw [h2.same x (by rw [hb1]; exact List.mem_append_left _ hx), h1.same x hx]

theorem strPair_grows {w w' : XWriter} (g : Grows w w') (p : Nat × Nat) (h1 : p.1 < w.keys.length) (h2 : p.2 < w.values.length) :
    strPair w' p = strPair w p := by
  obtain ⟨ek, hk⟩ := g.keys
  obtain ⟨ev, hv⟩ := g.vals
  simp only [strPair, keyOf, valOf]
  rw [hk, getD_append_left _ _ _ _ h1, getD_fst, hv, getD_append_left _ _ _ _ (by rw [List.length_map]; exact h2), ← getD_fst]

theorem addKv_spec (w : XWriter) (hc : XCur w) (key value : Bytes) (t : Nat) (hk : prefixId key = some t)
    (hkl : (afterDot key).length < 65536) (hvl : value.length < 2 ^ 32) :
    ∃ w', addKv w key value = .ok w' ∧ XCur w' ∧ w'.kvStart = w.kvStart ∧ Grows w w'
      ∧ curSet w' = canonStep (curSet w) (key, value) := by
  obtain ⟨n1, k1, ⟨ek, e1⟩, m1⟩ := intern_spec w.keys key hc.kN
  obtain ⟨n2, k2, ⟨ev, e2⟩, m2⟩ := intern_spec (w.values.map (·.1)) value hc.vN
  obtain ⟨i2, v2⟩ := internValue_eq w.values value
  unfold addKv
  simp only [hk, internKey_eq]
  generalize internValue w.values value = rv at i2 v2 ⊢
  obtain ⟨vi, vals'⟩ := rv
  simp only at i2 v2 ⊢
  generalize intern w.keys key = keys' at *
  generalize intern (w.values.map (·.1)) value = svals at *
  generalize hki : List.idxOf key keys' = ki
  obtain ⟨l1, g1⟩ : ki < keys'.length ∧ keys'.getD ki [] = key := hki ▸ getD_idxOf keys' key [] k1
  obtain ⟨l2, g2⟩ : vi < svals.length ∧ svals.getD vi [] = value := i2 ▸ getD_idxOf svals value [] k2
  have hklen : w.keys.length ≤ keys'.length := by rw [e1, List.length_append]; exact Nat.le_add_right _ _
  have hvlen : w.values.length ≤ svals.length := by rw [e2, List.length_append, List.length_map]; exact Nat.le_add_right _ _
  generalize hcur : w.pairs.drop w.kvStart = cur
  have hcurV : ∀ e ∈ cur, e.1 < w.keys.length ∧ e.2 < w.values.length :=
    fun e he => hc.rng e (List.mem_of_mem_drop (hcur ▸ he))
  have htl : (w.pairs.take w.kvStart).length = w.kvStart := by rw [List.length_take, Nat.min_eq_left hc.ks]
  -- every writer that differs from `w` by the grown tables (whatever the reference counts) and the new current set
  have main : ∀ V : List (Bytes × Nat), V.map (·.1) = svals →
      let w' : XWriter := { w with keys := keys', values := V, pairs := w.pairs.take w.kvStart ++ upsert cur (ki, vi) }
      XCur w' ∧ w'.kvStart = w.kvStart ∧ Grows w w' ∧ curSet w' = canonStep (curSet w) (key, value) := by
    intro V hV
    have hVlen : V.length = svals.length := by rw [← hV, List.length_map]
    have hnew : ki < keys'.length ∧ vi < V.length := ⟨l1, hVlen ▸ l2⟩
    have hup : ∀ e : Nat × Nat, e.1 < w.keys.length ∧ e.2 < w.values.length → e.1 < keys'.length ∧ e.2 < V.length :=
      fun e h => ⟨Nat.lt_of_lt_of_le h.1 hklen, Nat.lt_of_lt_of_le h.2 (hVlen ▸ hvlen)⟩
    have strNew : ∀ P : List (Nat × Nat), strPair { w with keys := keys', values := V, pairs := P } (ki, vi) = (key, value) := by
      intro P
      simp only [strPair, keyOf, valOf]
      rw [g1, getD_fst, hV, g2]
    have g : Grows w { w with keys := keys', values := V, pairs := w.pairs.take w.kvStart ++ upsert cur (ki, vi) } :=
      ⟨⟨ek, e1⟩, ⟨ev, hV.trans e2⟩, ⟨[], (List.append_nil _).symm⟩, fun b hb => blockPairs_stable _ _ _ b hc.ks (hc.bl b hb)⟩
    refine ⟨⟨n1, hV ▸ n2, ?_, ?_, hc.bl, ?_, ?_, ?_⟩, rfl, g, ?_⟩
    · intro p hp
      rcases List.mem_append.mp hp with h | h
      · exact hup p (hc.rng p (List.mem_of_mem_take h))
      · rcases mem_upsert h with h | rfl
        · exact hup p (hcurV p h)
        · exact hnew
    · simp only [List.length_append, htl]; exact Nat.le_add_right _ _
    · simp only [List.drop_left' htl]
      exact upsert_keys_nodup (hcur ▸ hc.cur)
    · intro k hkm
      rcases m1 k hkm with h | rfl
      · exact hc.keyOk k h
      · exact ⟨⟨t, hk⟩, hkl⟩
    · intro v hvm
      rcases m2 v.1 (hV ▸ List.mem_map_of_mem hvm) with h | h
      · obtain ⟨z, hz, hz1⟩ := List.mem_map.mp h
        exact hz1 ▸ hc.valOk z hz
      · exact h ▸ hvl
    · -- turning index pairs into strings commutes with `upsert`: `keys'` has no duplicates, so an index is `ki` iff its string is `key`
      simp only [curSet, List.drop_left' htl, hcur]
      rw [map_upsert _ (fun e he => ⟨fun h => nodup_getD_inj keys' n1 _ _ [] (Nat.lt_of_lt_of_le (hcurV e he).1 hklen) l1 h,
        fun h => congrArg (keys'.getD · []) h⟩), strNew,
        List.map_congr_left (fun e he => strPair_grows g e (hcurV e he).1 (hcurV e he).2), canonStep_eq]
  by_cases hin : ki ∈ cur.map (·.1)
  · obtain ⟨old, ho⟩ := replacePair_some (ki, vi) cur (hcur ▸ hc.cur) hin
    rw [ho]
    refine ⟨_, rfl, main _ ?_⟩
    cases old with
    | none => exact v2
    | some o => exact (delRef_map_fst vals' o).trans v2
  · obtain ⟨ho, hup⟩ := replacePair_none (ki, vi) cur hin
    rw [ho]
    refine ⟨_, rfl, ?_⟩
    have := main vals' v2
    rwa [hup, ← List.append_assoc, ← hcur, List.take_append_drop] at this

theorem addAllKv_spec : ∀ (kvs : List (Bytes × Bytes)) (w : XWriter), XCur w → (∀ kv ∈ kvs, KvOk kv) →
    ∃ w', addAllKv w kvs = .ok w' ∧ XCur w' ∧ w'.kvStart = w.kvStart ∧ Grows w w'
      ∧ curSet w' = kvs.foldl canonStep (curSet w) := by
  intro kvs
  induction kvs with
  | nil => intro w hc _; exact ⟨w, rfl, hc, rfl, Grows.refl w, rfl⟩
  | cons kv rest ih =>
    intro w hc hall
    obtain ⟨⟨t, hk⟩, hkl, hvl⟩ := hall kv (List.mem_cons_self ..)
    obtain ⟨w1, h1, c1, s1, g1, cs1⟩ := addKv_spec w hc kv.1 kv.2 t hk hkl hvl
    obtain ⟨w2, h2, c2, s2, g2, cs2⟩ := ih w1 c1 (fun x hx => hall x (List.mem_cons_of_mem _ hx))
    exact ⟨w2, by simp only [addAllKv, h1, h2], c2, s2.trans s1, g1.trans g2, by rw [cs2, cs1]; rfl⟩

/-- index `i` stands for the set `s`: either the set is empty and `i` is "no xattrs", or block `i` holds, sorted, index
pairs `P` within the tables whose strings are exactly `canonSet s` -/
def Stored (w : XWriter) (s : List (Bytes × Bytes)) (i : Nat) : Prop :=
  (canonSet s = [] ∧ i = NONE32) ∨
  (canonSet s ≠ [] ∧ i < w.blocks.length
    ∧ ∃ P, blockPairs w.pairs (w.blocks.getD i (0, 0)) = sortPairs P ∧ P.map (strPair w) = canonSet s
      ∧ ∀ p ∈ P, p.1 < w.keys.length ∧ p.2 < w.values.length)

theorem Stored.grows {w w' : XWriter} {s : List (Bytes × Bytes)} {i : Nat} (h : Stored w s i) (g : Grows w w') : Stored w' s i := by
  rcases h with h | ⟨h0, h1, P, h2, h3, h4⟩
  · exact Or.inl h
  · obtain ⟨eb, hb⟩ := g.blocks
    obtain ⟨ek, hk⟩ := g.keys
    obtain ⟨ev, hv⟩ := g.vals
    have hget : w'.blocks.getD i (0, 0) = w.blocks.getD i (0, 0) := by rw [hb]; exact getD_append_left _ _ _ _ h1
    refine Or.inr ⟨h0, by rw [hb, List.length_append]; exact Nat.lt_add_right _ h1, P, ?_, ?_, ?_⟩
    · rw [hget, g.same _ (getD_mem _ _ _ h1), h2]
    · rw [← h3]; exact List.map_congr_left fun p hp => strPair_grows g p (h4 p hp).1 (h4 p hp).2
    · intro p hp
      have hl := congrArg List.length hv
      rw [List.length_map, List.length_append, List.length_map] at hl
      exact ⟨by rw [hk, List.length_append]; exact Nat.lt_add_right _ (h4 p hp).1, by rw [hl]; exact Nat.lt_add_right _ (h4 p hp).2⟩

theorem idxPair_strPair (w : XWriter) (hk : w.keys.Nodup) (hv : (w.values.map (·.1)).Nodup) (p : Nat × Nat)
    (h1 : p.1 < w.keys.length) (h2 : p.2 < w.values.length) : idxPair w (strPair w p) = p := by
  simp only [idxPair, strPair, keyOf, valOf]
  rw [idxOf_getD hk [] h1, getD_fst, idxOf_getD hv [] (by rw [List.length_map]; exact h2)]

theorem endSet_frame (w : XWriter) :
    (∃ eb, (endSet w).1.blocks = w.blocks ++ eb) ∧ ∀ p ∈ (endSet w).1.pairs, p ∈ w.pairs := by
  fun_cases endSet w
  · exact ⟨⟨[], (List.append_nil _).symm⟩, fun _ => id⟩
  · exact ⟨⟨[], (List.append_nil _).symm⟩, fun _ h => List.mem_of_mem_take h⟩
  · refine ⟨⟨_, rfl⟩, fun p h => ?_⟩
    rcases List.mem_append.mp h with h | h
    · exact List.mem_of_mem_take h
    · exact List.mem_of_mem_drop ((sortPairs_mem p _).mp h)

theorem recordSet_spec (w : XWriter) (hi : XInv w) (s : List (Bytes × Bytes)) (hs : ∀ kv ∈ s, KvOk kv) :
    ∃ w' i, recordSet w s = .ok (w', i) ∧ XInv w' ∧ Grows w w' ∧ Stored w' s i := by
  obtain ⟨w1, h1, c1, _, g1, cs1⟩ := addAllKv_spec s (beginSet w) hi hs
  -- `beginSet` sets `kvStart` only, which no field of `Grows` mentions
  replace g1 : Grows w w1 := ⟨g1.keys, g1.vals, g1.blocks, g1.same⟩
  have hcs : (w1.pairs.drop w1.kvStart).map (strPair w1) = canonSet s := by
    rw [← curSet, cs1, curSet_beginSet]; rfl
  refine ⟨(endSet w1).1, (endSet w1).2, by simp only [recordSet, h1], ?_⟩
  obtain ⟨e1, e2⟩ := endSet_spec w1 c1.ks c1.bl
  obtain ⟨heb, hpm⟩ := endSet_frame w1
  generalize endSet w1 = r at e1 e2 heb hpm ⊢
  rcases Nat.lt_or_ge w1.kvStart w1.pairs.length with hlt | hge
  · -- a non-empty set: its block is found or made
    obtain ⟨a1, a2, a3, a4, ek, ev⟩ := e2 hlt
    have hvalid : ∀ p ∈ w1.pairs.drop w1.kvStart, p.1 < w1.keys.length ∧ p.2 < w1.values.length :=
      fun p hp => c1.rng p (List.mem_of_mem_drop hp)
    refine ⟨?_, g1.trans ⟨⟨[], by rw [ek, List.append_nil]⟩, ⟨[], by rw [ev, List.append_nil]⟩, heb, ?_⟩,
      Or.inr ⟨?_, a1, w1.pairs.drop w1.kvStart, a2, ?_, ?_⟩⟩
    · exact ⟨ek ▸ c1.kN, ev ▸ c1.vN, fun p hp => ek ▸ ev ▸ c1.rng p (hpm p hp), Nat.le_refl _, a4,
        by simp [beginSet], ek ▸ c1.keyOk, ev ▸ c1.valOk⟩
    · intro b hb
      obtain ⟨i, hil, rfl⟩ := List.getElem_of_mem hb
      have := (a3 i hil).2
      rwa [List.getD_eq_getElem?_getD, List.getElem?_eq_getElem hil] at this
    · rw [← hcs]; simp only [ne_eq, List.map_eq_nil_iff, List.drop_eq_nil_iff, Nat.not_le]; exact hlt
    · rw [← hcs]; exact List.map_congr_left fun p _ => by simp only [strPair, keyOf, valOf, ek, ev]
    · rw [ek, ev]; exact hvalid
  · have heq : w1.pairs.length = w1.kvStart := Nat.le_antisymm hge c1.ks
    rw [e1 heq]
    refine ⟨⟨c1.kN, c1.vN, c1.rng, Nat.le_refl _, fun b hb => Nat.le_trans (c1.bl b hb) c1.ks, by simp [beginSet], c1.keyOk, c1.valOk⟩,
      g1, Or.inl ⟨?_, rfl⟩⟩
    rw [← hcs, List.drop_eq_nil_iff.mpr hge]; rfl

theorem recordAll_spec : ∀ (sets : List (List (Bytes × Bytes))) (w : XWriter), XInv w → (∀ s ∈ sets, ∀ kv ∈ s, KvOk kv) →
    ∃ wF idxs, recordAll w sets = .ok (wF, idxs) ∧ XInv wF ∧ Grows w wF ∧ idxs.length = sets.length
      ∧ ∀ k, k < sets.length → Stored wF (sets.getD k []) (idxs.getD k 0) := by
  intro sets
  induction sets with
  | nil => intro w hi _; exact ⟨w, [], rfl, hi, Grows.refl w, rfl, fun k hk => absurd hk (by simp)⟩
  | cons s rest ih =>
    intro w hi hall
    obtain ⟨w1, i, h1, i1, g1, st1⟩ := recordSet_spec w hi s (hall s (List.mem_cons_self ..))
    obtain ⟨wF, idxs, h2, i2, g2, hl, st2⟩ := ih w1 i1 (fun x hx => hall x (List.mem_cons_of_mem _ hx))
    refine ⟨wF, i :: idxs, by simp only [recordAll, h1, h2], i2, g1.trans g2, congrArg (· + 1) hl, ?_⟩
    intro k hk
    cases k with
    | zero => exact st1.grows g2
    | succ k => exact st2 k (Nat.lt_of_succ_lt_succ hk)

end Sqfs.Enc
