/-
Helper lemmas for C06 (unpack confinement): the path strings the walks build and their resolution, the invariant
`Inv` kept by one system call, the set of tree nodes the walks visit (`mem_visit`: the ways down from the root through
sanely named directories, `KindAt`) and what `tree_sort` gives it, and the link between the two: every call of the
plan is made for a visited node (`unpackTree_ops`; for the create walk with its position, `createDfs_at`).
-/
import Sqfs.Spec.Unpack
import Sqfs.Props.C18
import Sqfs.Proofs.ListFacts
namespace Sqfs.Unpack
open Sqfs.Path

/-! ## path strings -/

/-- what `sqfs_tree_node_get_path` accepts as a component -/
def GoodComp (c : Bytes) : Prop := c ≠ [] ∧ SL ∉ c ∧ c ≠ [DOT] ∧ c ≠ [DOT, DOT]

def AllGood (cs : List Bytes) : Prop := ∀ c ∈ cs, GoodComp c

theorem badComp_false_iff (c : Bytes) : badComp c = false ↔ GoodComp c := by
  simp only [badComp, GoodComp, Bool.or_eq_false_iff, List.isEmpty_eq_false_iff, List.contains_eq_mem,
    decide_eq_false_iff_not, beq_eq_false_iff_ne, and_assoc]

theorem goodComp_iff (c : Bytes) : GoodComp c ↔ c ≠ [] ∧ isFilenameSane c = true := by
  rw [Sqfs.C18.sane_iff]
  constructor
  · rintro ⟨h1, h2, h3, h4⟩
    exact ⟨h1, h3, h4, h2⟩
  · rintro ⟨h1, h3, h4, h2⟩
    exact ⟨h1, h2, h3, h4⟩

theorem any_badComp_false {cs : List Bytes} (h : cs.any badComp = false) : AllGood cs := by
  intro c hc
  rw [List.any_eq_false] at h
  exact (badComp_false_iff c).1 (by simpa using h c hc)

theorem getPath_ok {rn : Bytes} {cs : List Bytes} {s : Bytes} (h : getPath rn cs = .ok s) :
    rn = [] ∧ AllGood cs ∧ s = (if cs.isEmpty then [SL] else cs.flatMap (SL :: ·)) := by
  revert h
  fun_cases getPath rn cs <;> intro h <;> cases h
  all_goals
    rename_i hb hr he
    exact ⟨by simpa using hr, any_badComp_false (by simpa using hb), by simp [he]⟩

theorem flatMap_join (c : Bytes) (r : List Bytes) : (c :: r).flatMap (SL :: ·) = SL :: joinSlash (c :: r) := by
  rw [joinSlash_cons]; rfl

/-- `canonicalize_name` applied to what `sqfs_tree_node_get_path` builds gives the components joined by
    single slashes; in particular it never fails (the `assert(ret == 0)` never fires). -/
theorem canon_pathStr {cs : List Bytes} (h : AllGood cs) :
    canonicalize (if cs.isEmpty then [SL] else cs.flatMap (SL :: ·)) = some (joinSlash cs) := by
  rw [Sqfs.C18.canon_eq_spec]
  cases cs with
  | nil => decide
  | cons c r =>
    simp only [List.isEmpty_cons, Bool.false_eq_true, if_false]
    rw [flatMap_join]
    exact specCanon_abs_join (by simp) h

theorem pathOf_ok {rn : Bytes} {cs : List Bytes} {p : Bytes} (h : pathOf rn cs = .ok p) :
    rn = [] ∧ AllGood cs ∧ p = joinSlash cs := by
  revert h
  fun_cases pathOf rn cs <;> intro h <;> cases h
  rename_i hs hc
  obtain ⟨h1, h2, rfl⟩ := getPath_ok hs
  rw [canon_pathStr h2] at hc
  cases hc
  exact ⟨h1, h2, rfl⟩

theorem joinSlash_good_ne_nil {cs : List Bytes} (h : AllGood cs) (hne : cs ≠ []) :
    joinSlash cs ≠ [] ∧ (joinSlash cs).head? ≠ some SL := by
  cases cs with
  | nil => exact absurd rfl hne
  | cons c r =>
    obtain ⟨h1, h2, _, _⟩ := h c (by simp)
    cases c with
    | nil => exact absurd rfl h1
    | cons x t =>
      rw [joinSlash_cons]
      constructor
      · simp
      · simp only [List.cons_append, List.head?_cons]
        intro e
        apply h2
        cases e
        simp

theorem splitSlash_joinSlash_good {cs : List Bytes} (h : AllGood cs) (hne : cs ≠ []) :
    splitSlash (joinSlash cs) = cs :=
  splitSlash_joinSlash cs hne (fun c hc => (h c hc).2.1)

theorem joinSlash_inj {c₁ c₂ : List Bytes} (h1 : AllGood c₁) (h2 : AllGood c₂) (h : joinSlash c₁ = joinSlash c₂) : c₁ = c₂ := by
  by_cases e1 : c₁ = []
  · subst e1
    by_cases e2 : c₂ = []
    · exact e2.symm
    · exact absurd h.symm (by simpa [joinSlash] using (joinSlash_good_ne_nil h2 e2).1)
  · by_cases e2 : c₂ = []
    · subst e2
      exact absurd h (by simpa [joinSlash] using (joinSlash_good_ne_nil h1 e1).1)
    · rw [← splitSlash_joinSlash_good h1 e1, ← splitSlash_joinSlash_good h2 e2, h]

theorem AllGood.prefix {c pre : List Bytes} (h : AllGood c) (hp : pre <+: c) : AllGood pre :=
  fun x hx => h x (hp.subset hx)

/-! ## resolution of a clean relative path -/

def IsDirOrNone (o : Option Node) : Prop := o = none ∨ ∃ a, o = some ⟨.dir, a⟩

def NotSymlink (o : Option Node) : Prop := ∀ t a, o ≠ some ⟨.symlink t, a⟩

def PrefDirOrNone (fs : Fs) (cur : PathC) (comps : List Bytes) : Prop :=
  ∀ pre, pre <+: comps → pre ≠ [] → pre ≠ comps → IsDirOrNone (fs (cur ++ pre))

/-- all that resolution needs of the proper prefixes of `comps`: none is a symbolic link -/
def PrefNoLink (fs : Fs) (cur : PathC) (comps : List Bytes) : Prop :=
  ∀ pre, pre <+: comps → pre ≠ [] → pre ≠ comps → NotSymlink (fs (cur ++ pre))

theorem PrefDirOrNone.noLink {fs : Fs} {cur : PathC} {comps : List Bytes} (h : PrefDirOrNone fs cur comps) :
    PrefNoLink fs cur comps := by
  intro pre hp hne hne2 t a e
  rcases h pre hp hne hne2 with h | ⟨_, h⟩ <;> rw [h] at e <;> cases e

theorem PrefNoLink.tail {fs : Fs} {cur : PathC} {c : Bytes} {rest : List Bytes}
    (h : PrefNoLink fs cur (c :: rest)) : PrefNoLink fs (cur ++ [c]) rest := by
  intro pre hp hne hne2
  have := h (c :: pre) (by simpa using hp) (by simp) (by simpa using hne2)
  simpa using this

theorem walkL_clean (k : PathC → List Bytes → Bool → Res) (fs : Fs) :
    ∀ (comps : List Bytes) (cur : PathC) (fl : Bool), AllGood comps → comps ≠ [] → PrefNoLink fs cur comps →
      (fl = false ∨ NotSymlink (fs (cur ++ comps))) →
      (∃ e, walkL k fs cur comps fl = .error e) ∨ walkL k fs cur comps fl = .ok (cur ++ comps, fs (cur ++ comps)) := by
  intro comps
  induction comps with
  | nil => intro _ _ _ h; exact absurd rfl h
  | cons c rest ih =>
    intro cur fl hg _ hp hfin
    obtain ⟨h1, _, h3, h4⟩ := hg c (by simp)
    unfold walkL
    -- the conditions of `walkL` are rewritten, not `split`: splitting on `c = [DOT]` is slow to check
    rw [if_neg (by simp [h1, h3]), if_neg h4]
    by_cases hl : c.length > NAME_MAX
    · rw [if_pos hl]; exact Or.inl ⟨_, rfl⟩
    rw [if_neg hl]
    cases rest with
    | nil =>
      cases hfs : fs (cur ++ [c]) with
      | none => exact Or.inr rfl
      | some n =>
        obtain ⟨kd, a⟩ := n
        cases kd with
        | symlink t =>
          rcases hfin with hf | hf
          · subst hf; exact Or.inr rfl
          · exact absurd hfs (hf t a)
        | _ => exact Or.inr rfl
    | cons d rest' =>
      cases hfs : fs (cur ++ [c]) with
      | none => exact Or.inl ⟨_, rfl⟩
      | some n =>
        obtain ⟨kd, a⟩ := n
        cases kd with
        | dir =>
          have hrec := ih (cur ++ [c]) fl (fun x hx => hg x (by simp [hx])) (by simp) hp.tail (by simpa using hfin)
          simpa using hrec
        | symlink t => exact absurd hfs (hp [c] (by simp) (by simp) (by simp) t a)
        | _ => exact Or.inl ⟨_, rfl⟩

theorem resolve_nil (fs : Fs) (R : PathC) (fl : Bool) : resolve fs R [] fl = .error .ENOENT := rfl

theorem resolve_clean (fs : Fs) (R : PathC) (comps : List Bytes) (fl : Bool) (hg : AllGood comps)
    (hp : PrefNoLink fs R comps) (hfin : comps ≠ [] → fl = false ∨ NotSymlink (fs (R ++ comps))) :
    (∃ e, resolve fs R (joinSlash comps) fl = .error e) ∨
      (comps ≠ [] ∧ resolve fs R (joinSlash comps) fl = .ok (R ++ comps, fs (R ++ comps))) := by
  by_cases hne : comps = []
  · subst hne; exact Or.inl ⟨_, resolve_nil fs R fl⟩
  · obtain ⟨hj1, hj2⟩ := joinSlash_good_ne_nil hg hne
    unfold resolve
    rw [if_neg (by simpa using hj1), if_neg hj2, splitSlash_joinSlash_good hg hne]
    split
    · exact Or.inl ⟨_, rfl⟩
    · rcases walkL_clean _ fs comps R fl hg hne hp (hfin hne) with h | h
      · exact Or.inl h
      · exact Or.inr ⟨hne, h⟩

/-- what `walkL` reports as "what is there now" is what is there -/
theorem walkL_snd (k : PathC → List Bytes → Bool → Res) (fs : Fs)
    (hk : ∀ cur comps fl key o, k cur comps fl = .ok (key, o) → o = fs key)
    (comps : List Bytes) (cur : PathC) (fl : Bool) (key : PathC) (o : Option Node)
    (h : walkL k fs cur comps fl = .ok (key, o)) : o = fs key := by
  revert h
  fun_induction walkL k fs cur comps fl <;> intro h
  case case1 => cases h; rfl
  case case2 ih | case3 ih | case8 ih => exact ih h
  case case11 => exact hk _ _ _ _ _ h
  -- the other branches fail, or end at `cur ++ [c]` with what `fs` was found to hold there
  all_goals cases h
  all_goals exact (‹fs _ = _›).symm

theorem walk_snd (fs : Fs) : ∀ (n : Nat) (cur : PathC) (comps : List Bytes) (fl : Bool) (key : PathC) (o : Option Node),
    walk n fs cur comps fl = .ok (key, o) → o = fs key
  | 0, cur, comps, fl, key, o, h => walkL_snd _ fs (by intro _ _ _ _ _ h; cases h) comps cur fl key o h
  | m + 1, cur, comps, fl, key, o, h => walkL_snd _ fs (walk_snd fs m) comps cur fl key o h

theorem resolve_snd {fs : Fs} {cwd : PathC} {s : Bytes} {fl : Bool} {key : PathC} {o : Option Node}
    (h : resolve fs cwd s fl = .ok (key, o)) : o = fs key := by
  unfold resolve at h
  split at h
  · cases h
  · split at h
    · cases h
    · exact walk_snd fs _ _ _ _ _ _ h

/-! ## one system call preserves the invariant -/

/-- the object `fk` is what a tree node of kind `k` is unpacked to -/
def kindMatch : FKind → Kind → Bool
  | .dir, .dir => true
  | .file _, .reg => true
  | .symlink _, .lnk => true
  | .special k' _, k => k' == k && (k == .blk || k == .chr || k == .fifo || k == .sock)
  | _, _ => false

/-- the call is one the unpacker makes for a tree node of kind `k` -/
def Compat : Syscall → Kind → Prop
  | .mkdir _ _, k => k = .dir
  | .symlink _ _, k => k = .lnk
  | .mknod _ kd _ _, k => k = kd ∧ (k = .blk ∨ k = .chr ∨ k = .fifo ∨ k = .sock)
  | .openExcl _ _, k => k = .reg
  | .openTrunc _ _, k => k = .reg
  | .setxattr _ _ _ nf, k => nf = true ∨ k ≠ .lnk
  | .utimens _ _ nf, k => nf = true ∨ k ≠ .lnk
  | .chown _ _ _ nf, k => nf = true ∨ k ≠ .lnk
  | .chmod _ _, k => k ≠ .lnk

theorem kindMatch_dir {fk : FKind} (h : kindMatch fk .dir = true) : fk = .dir := by
  cases fk <;> simp_all [kindMatch]

theorem kindMatch_symlink {t : Bytes} {k : Kind} (h : kindMatch (.symlink t) k = true) : k = .lnk := by
  cases k <;> simp_all [kindMatch]

theorem kindMatch_sameSort {a b : FKind} (h : b = a ∨ ∃ d d', a = .file d ∧ b = .file d') {k : Kind}
    (hk : kindMatch a k = true) : kindMatch b k = true := by
  rcases h with rfl | ⟨d, d', rfl, rfl⟩
  · exact hk
  · cases k <;> first | rfl | cases hk

theorem Syscall.follows_compat {sc : Syscall} {k : Kind} (h : Compat sc k) : sc.follows = false ∨ k ≠ .lnk := by
  cases sc <;> simp_all [Compat, Syscall.follows]

/-- the set of (path components, kind) the plan works on -/
abbrev VSet := List (List Bytes × Kind)

def VFun (V : VSet) : Prop := ∀ c k₁ k₂, (c, k₁) ∈ V → (c, k₂) ∈ V → k₁ = k₂

def VPrefix (V : VSet) : Prop := ∀ c k pre, (c, k) ∈ V → pre <+: c → pre ≠ [] → pre ≠ c → (pre, Kind.dir) ∈ V

/-- the call is made for a tree node with components `c` and kind `k` -/
def CallFor (sc : Syscall) (c : List Bytes) (k : Kind) : Prop := AllGood c ∧ sc.path = joinSlash c ∧ Compat sc k

section
variable {sc : Syscall} {c c' : List Bytes} {k k' : Kind}

theorem CallFor.good (h : CallFor sc c k) : AllGood c := h.1

theorem CallFor.path (h : CallFor sc c k) : sc.path = joinSlash c := h.2.1

theorem CallFor.compat (h : CallFor sc c k) : Compat sc k := h.2.2

/-- a call is made for one node only: its path says which -/
theorem CallFor.same_node (h : CallFor sc c k) (h' : CallFor sc c' k') : c = c' :=
  joinSlash_inj h.good h'.good (h.path.symm.trans h'.path)
end

def OpFor (V : VSet) (sc : Syscall) : Prop := ∃ comps k, (comps, k) ∈ V ∧ CallFor sc comps k

/-- the invariant: nothing outside R has changed, and whatever exists below R is a member of `V` unpacked as
    an object of the right sort -/
structure Inv (V : VSet) (R : PathC) (fs₀ fs : Fs) : Prop where
  out : ∀ p, underB R p = false → fs p = fs₀ p
  inn : ∀ comps, comps ≠ [] → fs (R ++ comps) = none ∨
          ∃ n k, fs (R ++ comps) = some n ∧ (comps, k) ∈ V ∧ kindMatch n.kind k = true

theorem Fs.set_self (fs : Fs) (key : PathC) (n : Node) : fs.set key n key = some n := if_pos rfl

theorem Fs.set_of_ne (fs : Fs) {key q : PathC} (n : Node) (h : q ≠ key) : fs.set key n q = fs q := if_neg h

theorem Fs.set_below_ne (fs : Fs) (R : PathC) {c c' : List Bytes} (n : Node) (h : c' ≠ c) :
    fs.set (R ++ c) n (R ++ c') = fs (R ++ c') :=
  fs.set_of_ne n fun e => h (List.append_cancel_left e)

theorem underB_append (R : PathC) {comps : List Bytes} (h : comps ≠ []) : underB R (R ++ comps) = true := by
  unfold underB
  have h1 : R.isPrefixOf (R ++ comps) = true := by
    rw [List.isPrefixOf_iff_prefix]; exact List.prefix_append R comps
  have h2 : R ++ comps ≠ R := by
    intro e
    have := congrArg List.length e
    simp at this
    exact h this
  simp [h1, h2]

theorem set_outside {R : PathC} {fs₀ fs : Fs} (h : ∀ p, underB R p = false → fs p = fs₀ p) {comps : List Bytes}
    (hne : comps ≠ []) (n : Node) : ∀ p, underB R p = false → (fs.set (R ++ comps) n) p = fs₀ p := by
  intro q hq
  have : q ≠ R ++ comps := by
    intro e; subst e; rw [underB_append R hne] at hq; cases hq
  rw [fs.set_of_ne n this]
  exact h q hq

theorem Inv.fresh {V : VSet} {R : PathC} {fs₀ : Fs} (h : Fresh fs₀ R) : Inv V R fs₀ fs₀ :=
  ⟨fun _ _ => rfl, fun _ hne => Or.inl (h.2 _ (underB_append R hne))⟩

/-- the calls that make a new name: `mkdir`, `symlink`, `mknod`, `open(O_CREAT|O_EXCL)` -/
def Syscall.isCreate : Syscall → Bool
  | .mkdir _ _ | .symlink _ _ | .mknod _ _ _ _ | .openExcl _ _ => true
  | _ => false

/-- What a successful call `sc` has done at `key`, where its path resolved to and `o` was found: put a new object where
    nothing was — fit for every kind the call is compatible with, a symbolic link only if the call is `symlink` —, or, not
    being a creating call, left an existing object alone or replaced it by one of the same sort. -/
inductive Wrote (o : Option Node) (fs fs' : Fs) (sc : Syscall) (key : PathC) : Prop
  | new (n : Node) (absent : o = none) (eq : fs' = fs.set key n) (fits : ∀ k, Compat sc k → kindMatch n.kind k = true)
      (link : ∀ t, n.kind = .symlink t → sc = .symlink t sc.path)
  | kept (n₀ : Node) (found : o = some n₀) (notCreate : sc.isCreate = false) (eq : fs' = fs)
  | replaced (n₀ n : Node) (found : o = some n₀) (notCreate : sc.isCreate = false) (eq : fs' = fs.set key n)
      (sameSort : n.kind = n₀.kind ∨ ∃ d d', n₀.kind = .file d ∧ n.kind = .file d')

theorem step_shape {fs fs' : Fs} {R : PathC} {sc : Syscall} (h : step fs R sc = .ok fs') :
    ∃ key o, resolve fs R sc.path sc.follows = .ok (key, o) ∧ Wrote o fs fs' sc key := by
  -- the branches of `step` that succeed, in the order of its definition
  revert h
  fun_cases step fs R sc <;> intro h <;> cases h
  · exact ⟨_, _, ‹_›, .new _ rfl rfl (by intro k hk; cases hk; rfl) fun t e => by cases e⟩         -- mkdir
  · exact ⟨_, _, ‹_›, .new _ rfl rfl (by intro k hk; cases hk; rfl) fun t e => by cases e; rfl⟩    -- symlink
  · refine ⟨_, _, ‹_›, .new _ rfl rfl ?_ fun t e => by cases e⟩                                    -- mknod
    rintro k ⟨rfl, rfl | rfl | rfl | rfl⟩ <;> rfl
  · exact ⟨_, _, ‹_›, .new _ rfl rfl (by intro k hk; cases hk; rfl) fun t e => by cases e⟩         -- open(O_EXCL)
  · exact ⟨_, _, ‹_›, .new _ rfl rfl (by intro k hk; cases hk; rfl) fun t e => by cases e⟩         -- open(O_TRUNC): new file,
  · exact ⟨_, _, ‹_›, .replaced _ _ rfl rfl rfl (.inr ⟨_, _, rfl, rfl⟩)⟩                          --   file rewritten,
  · exact ⟨_, _, ‹_›, .kept _ rfl rfl rfl⟩                                                         --   fifo or device opened
  · rename_i hr _ _                                                                                -- setxattr
    exact ⟨_, _, hr, .replaced _ _ rfl rfl rfl (.inl rfl)⟩
  all_goals                                                                                        -- utimens, chown, chmod
    rename_i hr
    exact ⟨_, _, hr, .replaced _ _ rfl rfl rfl (.inl rfl)⟩

theorem step_wrote_at {fs fs' : Fs} {R : PathC} {sc : Syscall} {comps : List Bytes} (hs : step fs R sc = .ok fs')
    (hres : (∃ e, resolve fs R sc.path sc.follows = .error e) ∨
      (comps ≠ [] ∧ resolve fs R sc.path sc.follows = .ok (R ++ comps, fs (R ++ comps)))) :
    comps ≠ [] ∧ Wrote (fs (R ++ comps)) fs fs' sc (R ++ comps) := by
  obtain ⟨key, o, hr, hw⟩ := step_shape hs
  rcases hres with ⟨e, he⟩ | ⟨hne, hok⟩
  · rw [he] at hr; cases hr
  · rw [hok] at hr
    cases hr
    exact ⟨hne, hw⟩

theorem Inv.prefixes {V : VSet} {R : PathC} {fs₀ fs : Fs} (hi : Inv V R fs₀ fs) (hf : VFun V) (hp : VPrefix V)
    {comps : List Bytes} {k : Kind} (hm : (comps, k) ∈ V) : PrefDirOrNone fs R comps := by
  intro pre hpre hne hne2
  have hd := hp comps k pre hm hpre hne hne2
  rcases hi.inn pre hne with h | ⟨n, k', hn, hk', hmatch⟩
  · exact Or.inl h
  · have : k' = .dir := hf pre k' .dir hk' hd
    subst this
    obtain ⟨kd, a⟩ := n
    have : kd = .dir := kindMatch_dir hmatch
    subst this
    exact Or.inr ⟨a, hn⟩

theorem Inv.set {V : VSet} {R : PathC} {fs₀ fs : Fs} (hi : Inv V R fs₀ fs) {comps : List Bytes} {k : Kind}
    (hne : comps ≠ []) (hm : (comps, k) ∈ V) {n : Node} (hk : kindMatch n.kind k = true) :
    Inv V R fs₀ (fs.set (R ++ comps) n) := by
  refine ⟨set_outside hi.out hne n, fun comps' hne' => ?_⟩
  by_cases he : comps' = comps
  · subst he; exact Or.inr ⟨n, k, fs.set_self _ n, hm, hk⟩
  · rw [fs.set_below_ne R n he]
    exact hi.inn comps' hne'

theorem Inv.step {V : VSet} {R : PathC} {fs₀ fs fs' : Fs} {sc : Syscall} (hi : Inv V R fs₀ fs) (hf : VFun V)
    (hp : VPrefix V) (ho : OpFor V sc) (hs : step fs R sc = .ok fs') : Inv V R fs₀ fs' := by
  obtain ⟨comps, k, hm, hg, hpath, hc⟩ := ho
  -- whatever is at the member's place is an object of the member's kind
  have hat : comps ≠ [] → ∀ n₀, fs (R ++ comps) = some n₀ → kindMatch n₀.kind k = true := by
    intro hne n₀ h0
    rcases hi.inn comps hne with h | ⟨n', k', hn', hk', hmatch⟩
    · rw [h] at h0; cases h0
    · rw [hn'] at h0; cases h0
      exact hf comps k' k hk' hm ▸ hmatch
  -- so the path resolves there, the last component followed only if that is not a symbolic link
  have hfin : comps ≠ [] → sc.follows = false ∨ NotSymlink (fs (R ++ comps)) := fun hne =>
    (Syscall.follows_compat hc).imp id fun hk t a h0 => hk (kindMatch_symlink (hat hne _ h0))
  obtain ⟨hne, hw⟩ :=
    step_wrote_at hs (hpath ▸ resolve_clean fs R comps sc.follows hg (hi.prefixes hf hp hm).noLink hfin)
  cases hw with
  | new n _ eq fits _ => exact eq ▸ hi.set hne hm (fits k hc)
  | kept _ _ _ eq => exact eq ▸ hi
  | replaced n₀ n found _ eq sameSort => exact eq ▸ hi.set hne hm (kindMatch_sameSort sameSort (hat hne n₀ found))

theorem outside_eq_of_out {R : PathC} {fs₀ fs : Fs} (h : ∀ p, underB R p = false → fs p = fs₀ p) :
    outside R fs = outside R fs₀ := by
  funext p
  unfold outside
  cases hp : underB R p with
  | true => rfl
  | false => simpa using h p hp

/-! ## the walks work on the visited nodes only -/

theorem Out.seq_evs_none {a b : Out} (h : a.err = none) : (a.seq b).evs = a.evs ++ b.evs := by
  unfold Out.seq; rw [h]

theorem Out.seq_evs_some {a b : Out} {e : Err} (h : a.err = some e) : (a.seq b).evs = a.evs := by
  unfold Out.seq; rw [h]

theorem Out.mem_seq {a b : Out} {ev : Ev} (h : ev ∈ (a.seq b).evs) : ev ∈ a.evs ∨ ev ∈ b.evs := by
  cases he : a.err with
  | none => rw [Out.seq_evs_none he] at h; exact List.mem_append.1 h
  | some e => rw [Out.seq_evs_some he] at h; exact Or.inl h

theorem Out.seq_ok {a b : Out} (h : (a.seq b).err = none) :
    a.err = none ∧ b.err = none ∧ (a.seq b).evs = a.evs ++ b.evs := by
  unfold Out.seq at h ⊢
  split at h
  · rename_i e he; rw [he] at h; cases h
  · rename_i he; simp only at h; simp [he, h]

theorem OpFor.mono {V W : VSet} {sc : Syscall} (h : OpFor V sc) (hs : ∀ x ∈ V, x ∈ W) : OpFor W sc := by
  obtain ⟨c, k, hm, r⟩ := h
  exact ⟨c, k, hs _ hm, r⟩

theorem compat_createNode (k : Kind) (p pl : Bytes) (a : Attr) (fl : Flags) : Compat (createNode k p pl a fl) k := by
  cases k <;> simp [createNode, Compat]

theorem path_createNode (k : Kind) (p pl : Bytes) (a : Attr) (fl : Flags) : (createNode k p pl a fl).path = p := by
  cases k <;> simp [createNode, Syscall.path]

theorem isCreate_createNode (k : Kind) (p pl : Bytes) (a : Attr) (fl : Flags) : (createNode k p pl a fl).isCreate = true := by
  cases k <;> simp [createNode, Syscall.isCreate]

mutual
/-- (path components, kind) of the nodes a walk reaches below (and including) a node whose own path is
    `comps`: a node with an insane name hides its subtree; only directories are descended into -/
def visit (comps : List Bytes) : TNode → VSet
  | .mk name k _ _ ch =>
    if !isFilenameSane name then [] else (comps, k) :: (if k = .dir then visitL comps ch else [])
def visitL (anc : List Bytes) : List TNode → VSet
  | [] => []
  | c :: cs => visit (anc ++ [c.name]) c ++ visitL anc cs
end

/-- what the three walks of `restore_fstree` / `fill_unpacked_files` / `update_tree_attribs` reach -/
def visitRoot (t : TNode) : VSet := if t.kind = .dir then visitL [] t.children else visit [] t

/-! ### the visited set: prefixes, kinds -/

/-- Going down from `x` along the child names `rest`, through directories, one arrives at a node of kind `k`; every node
    on the way, both ends included, has a sane name. -/
def KindAt : TNode → List Bytes → Kind → Prop
  | .mk name kd _ _ _, [], k => isFilenameSane name = true ∧ k = kd
  | .mk name kd _ _ ch, a :: r, k => isFilenameSane name = true ∧ kd = .dir ∧ ∃ y ∈ ch, y.name = a ∧ KindAt y r k

theorem KindAt.sane {x : TNode} {rest : List Bytes} {k : Kind} (h : KindAt x rest k) : isFilenameSane x.name = true := by
  obtain ⟨name, kd, pl, a, ch⟩ := x
  cases rest <;> exact h.1

mutual
theorem mem_visit : ∀ (x : TNode) (comps c : List Bytes) (k : Kind),
    (c, k) ∈ visit comps x ↔ ∃ rest, c = comps ++ rest ∧ KindAt x rest k
  | .mk name kd pl a ch, comps, c, k => by
    unfold visit
    by_cases hs : (!isFilenameSane name) = true
    · rw [if_pos hs]
      refine ⟨fun h => absurd h List.not_mem_nil, fun ⟨_, _, h⟩ => ?_⟩
      rw [show isFilenameSane name = true from h.sane] at hs; cases hs
    · rw [if_neg hs, List.mem_cons]
      have hs' : isFilenameSane name = true := by simpa using hs
      constructor
      · rintro (h | h)
        · cases h; exact ⟨[], by simp, hs', rfl⟩
        · split at h
          · rename_i hk
            obtain ⟨y, hy, rest, rfl, hr⟩ := (mem_visitL ch comps c k).1 h
            exact ⟨y.name :: rest, rfl, hs', hk, y, hy, rfl, hr⟩
          · cases h
      · rintro ⟨rest, rfl, h⟩
        cases rest with
        | nil => left; rw [h.2, List.append_nil]
        | cons b r =>
          obtain ⟨_, hk, y, hy, rfl, hr⟩ := h
          right
          rw [if_pos hk]
          exact (mem_visitL ch comps _ k).2 ⟨y, hy, r, rfl, hr⟩
theorem mem_visitL : ∀ (l : List TNode) (anc c : List Bytes) (k : Kind),
    (c, k) ∈ visitL anc l ↔ ∃ y ∈ l, ∃ rest, c = anc ++ y.name :: rest ∧ KindAt y rest k
  | [], _, _, _ => by simp [visitL]
  | x :: xs, anc, c, k => by
    unfold visitL
    rw [List.mem_append, mem_visit x _ c k, mem_visitL xs anc c k]
    simp [List.append_assoc]
end

theorem KindAt.dir_of_append : ∀ {x : TNode} (r₁ : List Bytes) {r₂ : List Bytes} {k : Kind}, KindAt x (r₁ ++ r₂) k →
    r₂ ≠ [] → KindAt x r₁ .dir
  | .mk _ _ _ _ _, [], [], _, _, hne => absurd rfl hne
  | .mk _ _ _ _ _, [], _ :: _, _, h, _ => ⟨h.1, h.2.1.symm⟩
  | .mk _ _ _ _ _, _ :: r₁, _, _, ⟨hs, hk, y, hy, hn, hr⟩, hne => ⟨hs, hk, y, hy, hn, KindAt.dir_of_append r₁ hr hne⟩

mutual
/-- below every node the children's names are pairwise distinct (what `tree_sort` establishes) -/
def NodupH : TNode → Prop
  | .mk _ _ _ _ ch => (ch.map TNode.name).Nodup ∧ NodupHL ch
def NodupHL : List TNode → Prop
  | [] => True
  | c :: cs => NodupH c ∧ NodupHL cs
end

theorem NodupHL_iff : ∀ (l : List TNode), NodupHL l ↔ ∀ c ∈ l, NodupH c
  | [] => by simp [NodupHL]
  | x :: xs => by
    unfold NodupHL
    rw [NodupHL_iff xs]
    simp

theorem KindAt.unique : ∀ {x : TNode} (r : List Bytes) {k₁ k₂ : Kind}, NodupH x → KindAt x r k₁ → KindAt x r k₂ → k₁ = k₂
  | .mk _ _ _ _ _, [], _, _, _, h1, h2 => h1.2.trans h2.2.symm
  | .mk _ _ _ _ ch, _ :: r, _, _, hn, ⟨_, _, y₁, hy₁, e₁, hr₁⟩, ⟨_, _, y₂, hy₂, e₂, hr₂⟩ => by
    unfold NodupH at hn
    obtain rfl := List.inj_of_nodup_map hn.1 hy₁ hy₂ (e₁.trans e₂.symm)
    exact KindAt.unique r ((NodupHL_iff ch).1 hn.2 y₁ hy₁) hr₁ hr₂

theorem visitRoot_fun {t : TNode} (h : NodupH t) : VFun (visitRoot t) := by
  intro c k₁ k₂ h1 h2
  unfold visitRoot at h1 h2
  by_cases hk : t.kind = .dir
  · rw [if_pos hk] at h1 h2
    obtain ⟨y₁, hy₁, r₁, rfl, a₁⟩ := (mem_visitL _ [] c k₁).1 h1
    obtain ⟨y₂, hy₂, r₂, e, a₂⟩ := (mem_visitL _ [] _ k₂).1 h2
    obtain ⟨en, rfl⟩ : y₁.name = y₂.name ∧ r₁ = r₂ := by simpa using e
    obtain ⟨name, kd, pl, a, ch⟩ := t
    unfold NodupH at h
    obtain rfl := List.inj_of_nodup_map h.1 hy₁ hy₂ en
    exact KindAt.unique r₁ ((NodupHL_iff ch).1 h.2 y₁ hy₁) a₁ a₂
  · rw [if_neg hk] at h1 h2
    obtain ⟨r₁, e₁, a₁⟩ := (mem_visit t [] c k₁).1 h1
    obtain ⟨r₂, e₂, a₂⟩ := (mem_visit t [] c k₂).1 h2
    obtain rfl : r₁ = r₂ := by simpa using e₁.symm.trans e₂
    exact KindAt.unique r₁ h a₁ a₂

theorem visitRoot_prefix (t : TNode) : VPrefix (visitRoot t) := by
  rintro c k pre hm ⟨r₂, rfl⟩ hne hne2
  have hr₂ : r₂ ≠ [] := fun h => hne2 (by rw [h, List.append_nil])
  unfold visitRoot at hm ⊢
  by_cases hk : t.kind = .dir
  · rw [if_pos hk] at hm ⊢
    obtain ⟨y, hy, rest, e, h⟩ := (mem_visitL _ [] _ k).1 hm
    cases pre with
    | nil => exact absurd rfl hne
    | cons b r₁ =>
      obtain ⟨rfl, rfl⟩ : b = y.name ∧ r₁ ++ r₂ = rest := by simpa using e
      exact (mem_visitL _ [] _ _).2 ⟨y, hy, r₁, rfl, KindAt.dir_of_append r₁ h hr₂⟩
  · rw [if_neg hk] at hm ⊢
    obtain ⟨rest, e, h⟩ := (mem_visit t [] _ k).1 hm
    obtain rfl : pre ++ r₂ = rest := by simpa using e
    exact (mem_visit t [] _ _).2 ⟨pre, rfl, KindAt.dir_of_append pre h hr₂⟩

/-! ### the visited nodes themselves -/

mutual
/-- like `visit`, but keeping the node: (path components, node) of what a walk reaches -/
def visitN (comps : List Bytes) : TNode → List (List Bytes × TNode)
  | .mk name k pl a ch =>
    if !isFilenameSane name then [] else (comps, .mk name k pl a ch) :: (if k = .dir then visitNL comps ch else [])
def visitNL (anc : List Bytes) : List TNode → List (List Bytes × TNode)
  | [] => []
  | c :: cs => visitN (anc ++ [c.name]) c ++ visitNL anc cs
end

def visitNRoot (t : TNode) : List (List Bytes × TNode) := if t.kind = .dir then visitNL [] t.children else visitN [] t

mutual
theorem visit_eq_visitN : ∀ (x : TNode) (comps : List Bytes),
    visit comps x = (visitN comps x).map (fun p => (p.1, p.2.kind))
  | .mk name k pl a ch, comps => by
    unfold visit visitN
    split
    · rfl
    · split
      · simp [TNode.kind, visitL_eq_visitNL ch comps]
      · simp [TNode.kind]
theorem visitL_eq_visitNL : ∀ (l : List TNode) (anc : List Bytes),
    visitL anc l = (visitNL anc l).map (fun p => (p.1, p.2.kind))
  | [], _ => by simp [visitL, visitNL]
  | x :: xs, anc => by
    unfold visitL visitNL
    rw [visit_eq_visitN x _, visitL_eq_visitNL xs anc, List.map_append]
end

theorem visitRoot_eq_visitNRoot (t : TNode) : visitRoot t = (visitNRoot t).map (fun p => (p.1, p.2.kind)) := by
  unfold visitRoot visitNRoot
  split
  · exact visitL_eq_visitNL _ _
  · exact visit_eq_visitN _ _

theorem visitNRoot_visitRoot {t : TNode} {c : List Bytes} {n : TNode} (h : (c, n) ∈ visitNRoot t) :
    (c, n.kind) ∈ visitRoot t := by
  rw [visitRoot_eq_visitNRoot]
  exact List.mem_map.2 ⟨(c, n), h, rfl⟩

/-! ### the create walk, call by call -/

/-- all proper prefixes of `c` that are longer than `n` components have their `mkdir` in `l₁` -/
def PrefMadeIn (l₁ : List Ev) (n : Nat) (c : List Bytes) : Prop :=
  ∀ pre, pre <+: c → n < pre.length → pre ≠ c → ∃ m, Ev.sys (.mkdir (joinSlash pre) m) ∈ l₁

theorem PrefMadeIn.mono {l₁ l₁' : List Ev} {n : Nat} {c : List Bytes} (h : PrefMadeIn l₁ n c) (hs : ∀ e ∈ l₁, e ∈ l₁') :
    PrefMadeIn l₁' n c := by
  intro pre h1 h2 h3
  obtain ⟨m, hm⟩ := h pre h1 h2 h3
  exact ⟨m, hs _ hm⟩

theorem split_append {α : Type} {A B l₁ l₂ : List α} {x : α} (h : A ++ B = l₁ ++ x :: l₂) :
    (∃ r, A = l₁ ++ x :: r) ∨ (∃ a', l₁ = A ++ a' ∧ B = a' ++ x :: l₂) := by
  rcases List.append_eq_append_iff.1 h with ⟨a', h1, h2⟩ | ⟨b', h1, h2⟩
  · exact Or.inr ⟨a', h1, h2⟩
  · cases b' with
    | nil =>
      simp at h1 h2
      exact Or.inr ⟨[], by simp [h1], by simp [h2]⟩
    | cons y ys =>
      simp at h2
      obtain ⟨rfl, _⟩ := h2
      exact Or.inl ⟨ys, h1⟩

theorem Out.seq_evs_split {a b : Out} {l₁ l₂ : List Ev} {x : Ev} (h : (a.seq b).evs = l₁ ++ x :: l₂) :
    (∃ r, a.evs = l₁ ++ x :: r) ∨ (∃ a', a.err = none ∧ l₁ = a.evs ++ a' ∧ b.evs = a' ++ x :: l₂) := by
  cases he : a.err with
  | some e => exact Or.inl ⟨l₂, by rwa [Out.seq_evs_some he] at h⟩
  | none =>
    rw [Out.seq_evs_none he] at h
    exact (split_append h).imp id fun ⟨a', h1, h2⟩ => ⟨a', rfl, h1, h2⟩

mutual
/-- A call of the create walk, at its position: it is the creating call of a visited node, and the `mkdir`s of that
    node's directories inside the walk come before it. -/
theorem createDfs_at (rn : Bytes) (fl : Flags) : ∀ (x : TNode) (comps : List Bytes) (l₁ : List Ev) (sc : Syscall)
    (l₂ : List Ev), (createDfs rn fl comps x).evs = l₁ ++ Ev.sys sc :: l₂ →
      ∃ c n, (c, n) ∈ visitN comps x ∧ AllGood c ∧ sc = createNode n.kind (joinSlash c) n.payload n.attr fl ∧
        comps <+: c ∧ PrefMadeIn l₁ (comps.length - 1) c
  | .mk name k pl a ch, comps, l₁, sc, l₂, h => by
    unfold createDfs at h
    unfold visitN
    by_cases hs : (!isFilenameSane name) = true
    · rw [if_pos hs] at h
      cases l₁ <;> simp at h
    · rw [if_neg hs] at h
      rw [if_neg hs]
      cases hp : pathOf rn comps with
      | error e => rw [hp] at h; cases l₁ <;> simp at h
      | ok p =>
        rw [hp] at h
        simp only at h
        obtain ⟨_, hgood, hpj⟩ := pathOf_ok hp
        rw [Out.seq_evs_none rfl] at h
        cases l₁ with
        | nil =>
          simp at h
          obtain ⟨h1, _⟩ := h
          subst h1
          refine ⟨comps, _, List.mem_cons_self, hgood, by rw [hpj]; rfl, List.prefix_refl _, ?_⟩
          intro pre hp1 hp2 hp3
          have := hp1.length_le
          have : pre = comps := hp1.eq_of_length (by omega)
          exact absurd this hp3
        | cons e l₁' =>
          simp at h
          obtain ⟨he, hrest⟩ := h
          by_cases hk : k = .dir
          · rw [if_pos hk] at hrest
            obtain ⟨c, n, hm, hgc, h1, h2, h3⟩ := createList_at rn fl ch comps l₁' sc l₂ hrest
            refine ⟨c, n, List.mem_cons_of_mem _ (by rw [if_pos hk]; exact hm), hgc, h1, h2, ?_⟩
            intro pre hp1 hp2 hp3
            by_cases hl : comps.length < pre.length
            · obtain ⟨m, hm⟩ := h3 pre hp1 hl hp3
              exact ⟨m, List.mem_cons_of_mem _ hm⟩
            · -- pre = comps: its mkdir is the head
              have : pre = comps := by
                have hq : pre <+: comps := List.prefix_of_prefix_length_le hp1 h2 (by omega)
                exact hq.eq_of_length (by omega)
              subst this
              subst hk
              exact ⟨0o755, by rw [← he]; simp [createNode, hpj]⟩
          · rw [if_neg hk] at hrest
            cases l₁' <;> simp at hrest
theorem createList_at (rn : Bytes) (fl : Flags) : ∀ (l : List TNode) (anc : List Bytes) (l₁ : List Ev) (sc : Syscall)
    (l₂ : List Ev), (createList rn fl anc l).evs = l₁ ++ Ev.sys sc :: l₂ →
      ∃ c n, (c, n) ∈ visitNL anc l ∧ AllGood c ∧ sc = createNode n.kind (joinSlash c) n.payload n.attr fl ∧
        anc <+: c ∧ PrefMadeIn l₁ anc.length c
  | [], _, l₁, _, _, h => by
    unfold createList at h
    cases l₁ <;> simp at h
  | x :: xs, anc, l₁, sc, l₂, h => by
    unfold createList at h
    unfold visitNL
    rcases Out.seq_evs_split h with ⟨r, hA⟩ | ⟨a', _, hl₁, hB⟩
    · obtain ⟨c, n, hm, hgc, h1, h2, h3⟩ := createDfs_at rn fl x _ l₁ sc r hA
      simp at h3
      exact ⟨c, n, List.mem_append_left _ hm, hgc, h1, List.IsPrefix.trans (List.prefix_append anc [x.name]) h2, h3⟩
    · obtain ⟨c, n, hm, hgc, h1, h2, h3⟩ := createList_at rn fl xs anc a' sc l₂ hB
      exact ⟨c, n, List.mem_append_right _ hm, hgc, h1, h2, h3.mono (fun e he' => by rw [hl₁]; simp [he'])⟩
end

theorem restoreFstree_at (fl : Flags) (t : TNode) (l₁ : List Ev) (sc : Syscall) (l₂ : List Ev)
    (h : (restoreFstree fl t).evs = l₁ ++ Ev.sys sc :: l₂) :
    ∃ c n, (c, n) ∈ visitNRoot t ∧ AllGood c ∧ sc = createNode n.kind (joinSlash c) n.payload n.attr fl ∧
      PrefMadeIn l₁ 0 c := by
  unfold restoreFstree at h
  unfold visitNRoot
  split at h
  · rename_i hk
    rw [if_pos hk]
    obtain ⟨c, n, hm, hg, h1, _, h3⟩ := createList_at _ fl _ [] l₁ sc l₂ h
    exact ⟨c, n, hm, hg, h1, h3⟩
  · rename_i hk
    rw [if_neg hk]
    obtain ⟨c, n, hm, hg, h1, _, h3⟩ := createDfs_at _ fl t [] l₁ sc l₂ h
    exact ⟨c, n, hm, hg, h1, h3⟩

theorem GenOut.mem_seq_files {a b : GenOut} {f : FileEnt} (h : f ∈ (a.seq b).files) : f ∈ a.files ∨ f ∈ b.files := by
  unfold GenOut.seq at h
  split at h
  · exact Or.inl h
  · simp at h; exact h

theorem GenOut.mem_seq_evs {a b : GenOut} {ev : Ev} (h : ev ∈ (a.seq b).evs) : ev ∈ a.evs ∨ ev ∈ b.evs := by
  unfold GenOut.seq at h
  split at h
  · exact Or.inl h
  · simp at h; exact h

theorem genFiles_dir (rn : Bytes) (comps : List Bytes) (name pl : Bytes) (a : Attr) (ch : List TNode) :
    genFiles rn comps (.mk name .dir pl a ch) =
      if !isFilenameSane name then ⟨[.skip name], [], none⟩ else genFilesL rn comps ch := by
  rw [genFiles]
  simp

/-- a file-list entry is a visited regular file, named by its clean path -/
def FileFor (V : VSet) (f : FileEnt) : Prop := ∃ comps, (comps, Kind.reg) ∈ V ∧ AllGood comps ∧ f.path = joinSlash comps

mutual
theorem genFiles_sound (rn : Bytes) : ∀ (x : TNode) (comps : List Bytes),
    (∀ sc, Ev.sys sc ∉ (genFiles rn comps x).evs) ∧ ∀ f ∈ (genFiles rn comps x).files, FileFor (visit comps x) f
  | .mk name k pl a ch, comps => by
    unfold genFiles visit
    by_cases hs : (!isFilenameSane name) = true
    · simp [hs]
    · simp only [if_neg hs]
      by_cases hk : k = .reg
      · simp only [if_pos hk]
        cases hp : pathOf rn comps with
        | error e => exact ⟨fun _ => List.not_mem_nil, fun _ h => absurd h List.not_mem_nil⟩
        | ok p =>
          obtain ⟨_, hg, hpj⟩ := pathOf_ok hp
          refine ⟨fun _ => List.not_mem_nil, fun f hf => ?_⟩
          cases List.mem_singleton.1 hf
          exact ⟨comps, by simp [hk], hg, hpj⟩
      · simp only [if_neg hk]
        by_cases hd : k = .dir
        · simp only [if_pos hd]
          obtain ⟨h1, h2⟩ := genFilesL_sound rn ch comps
          refine ⟨h1, fun f hf => ?_⟩
          obtain ⟨c, hm, r⟩ := h2 f hf
          exact ⟨c, List.mem_cons_of_mem _ hm, r⟩
        · simp only [if_neg hd]
          exact ⟨fun _ => List.not_mem_nil, fun _ h => absurd h List.not_mem_nil⟩
theorem genFilesL_sound (rn : Bytes) : ∀ (l : List TNode) (anc : List Bytes),
    (∀ sc, Ev.sys sc ∉ (genFilesL rn anc l).evs) ∧ ∀ f ∈ (genFilesL rn anc l).files, FileFor (visitL anc l) f
  | [], _ => ⟨fun _ => List.not_mem_nil, fun _ h => absurd h List.not_mem_nil⟩
  | c :: cs, anc => by
    unfold genFilesL visitL
    obtain ⟨a1, a2⟩ := genFiles_sound rn c (anc ++ [c.name])
    obtain ⟨b1, b2⟩ := genFilesL_sound rn cs anc
    refine ⟨fun sc h => (GenOut.mem_seq_evs h).elim (a1 sc) (b1 sc), fun f hf => ?_⟩
    rcases GenOut.mem_seq_files hf with h | h
    · obtain ⟨c', hm, r⟩ := a2 f h
      exact ⟨c', List.mem_append_left _ hm, r⟩
    · obtain ⟨c', hm, r⟩ := b2 f h
      exact ⟨c', List.mem_append_right _ hm, r⟩
end

theorem genFilesL_nosys (rn : Bytes) : ∀ (l : List TNode) (anc : List Bytes) (sc : Syscall),
    Ev.sys sc ∉ (genFilesL rn anc l).evs :=
  fun l anc => (genFilesL_sound rn l anc).1

theorem xattrOps_calls {k : Kind} {p : Bytes} {a : Attr} {ev : Ev} (h : ev ∈ (xattrOps p a).evs) :
    ∃ sc, ev = .sys sc ∧ sc.path = p ∧ Compat sc k := by
  unfold xattrOps at h
  split at h <;>
  · simp only [List.mem_map] at h
    obtain ⟨kv, _, rfl⟩ := h
    exact ⟨_, rfl, rfl, Or.inl rfl⟩

theorem attrTail_calls {fl : Flags} {k : Kind} {p : Bytes} {a : Attr} {ev : Ev} (h : ev ∈ attrTail fl k p a) :
    ∃ sc, ev = .sys sc ∧ sc.path = p ∧ Compat sc k := by
  simp only [attrTail, List.mem_append, List.mem_ite_nil_right, List.mem_singleton] at h
  rcases h with (⟨_, rfl⟩ | ⟨_, rfl⟩) | ⟨hc, rfl⟩
  · exact ⟨_, rfl, rfl, Or.inl rfl⟩
  · exact ⟨_, rfl, rfl, Or.inl rfl⟩
  · exact ⟨_, rfl, rfl, by simp at hc; exact hc.2⟩

theorem attrOps_calls {fl : Flags} {k : Kind} {p : Bytes} {a : Attr} {ev : Ev} (h : ev ∈ (attrOps fl k p a).evs) :
    ∃ sc, ev = .sys sc ∧ sc.path = p ∧ Compat sc k := by
  unfold attrOps at h
  rcases Out.mem_seq h with h1 | h1
  · split at h1
    · exact xattrOps_calls h1
    · cases h1
  · exact attrTail_calls h1

mutual
theorem setAttribs_ops (rn : Bytes) (fl : Flags) : ∀ (x : TNode) (comps : List Bytes) (sc : Syscall),
    Ev.sys sc ∈ (setAttribs rn fl comps x).evs → OpFor (visit comps x) sc
  | .mk name k pl a ch, comps, sc, h => by
    unfold setAttribs at h
    unfold visit
    split at h
    · simp at h
    · rename_i hs
      rw [if_neg hs]
      rcases Out.mem_seq h with h1 | h1
      · split at h1
        · rename_i hk
          rw [if_pos hk]
          exact (setAttribsL_ops rn fl ch comps sc h1).mono (fun x hx => by simp [hx])
        · simp at h1
      · split at h1
        · simp at h1
        · rename_i p hp
          obtain ⟨_, hg, hpj⟩ := pathOf_ok hp
          obtain ⟨_, e, h2, h3⟩ := attrOps_calls h1
          cases e
          exact ⟨comps, k, by simp, hg, by rw [h2, hpj], h3⟩
theorem setAttribsL_ops (rn : Bytes) (fl : Flags) : ∀ (l : List TNode) (anc : List Bytes) (sc : Syscall),
    Ev.sys sc ∈ (setAttribsL rn fl anc l).evs → OpFor (visitL anc l) sc
  | [], _, _, h => by simp [setAttribsL] at h
  | c :: cs, anc, sc, h => by
    unfold setAttribsL at h
    unfold visitL
    rcases Out.mem_seq h with h1 | h1
    · exact (setAttribs_ops rn fl c _ sc h1).mono (fun x hx => by simp [hx])
    · exact (setAttribsL_ops rn fl cs anc sc h1).mono (fun x hx => by simp [hx])
end

/-! ## `tree_sort` makes sibling names distinct -/

theorem strLe_iff : ∀ (a b : Bytes), strLe a b = true ↔ a ≤ b
  | [], b => by simp [strLe]
  | _ :: _, [] => by simp [strLe]
  | x :: xs, y :: ys => by
    rw [strLe, List.cons_le_cons_iff, ← strLe_iff xs ys]
    by_cases h1 : x < y
    · simp [h1]
    · by_cases h2 : y < x
      · have : x ≠ y := fun e => UInt8.lt_irrefl y (e ▸ h2)
        simp [h1, h2, this]
      · have : x = y := Decidable.not_not.1 fun e => (UInt8.lt_or_lt_of_ne e).elim h1 h2
        simp [this, UInt8.lt_irrefl]

theorem strLe_total (a b : Bytes) : strLe a b = true ∨ strLe b a = true := by
  simpa only [strLe_iff] using List.le_total a b

theorem strLe_antisymm (a b : Bytes) (h1 : strLe a b = true) (h2 : strLe b a = true) : a = b :=
  List.le_antisymm ((strLe_iff a b).1 h1) ((strLe_iff b a).1 h2)

theorem strLe_trans (a b c : Bytes) (h1 : strLe a b = true) (h2 : strLe b c = true) : strLe a c = true :=
  (strLe_iff a c).2 (List.le_trans ((strLe_iff a b).1 h1) ((strLe_iff b c).1 h2))

def SortedN (l : List TNode) : Prop := l.Pairwise (fun a b => strLe a.name b.name = true)

theorem insertNode_perm (x : TNode) (l : List TNode) : (insertNode x l).Perm (x :: l) := by
  fun_induction insertNode x l
  case case1 | case2 => exact List.Perm.refl _
  case case3 y ys _ ih => exact (ih.cons y).trans (List.Perm.swap x y ys)

theorem sortNodes_perm : ∀ (l : List TNode), (sortNodes l).Perm l
  | [] => by simp [sortNodes]
  | x :: xs => by
    unfold sortNodes
    exact (insertNode_perm x _).trans ((sortNodes_perm xs).cons x)

theorem mem_insertNode {x y : TNode} {l : List TNode} : y ∈ insertNode x l ↔ y = x ∨ y ∈ l :=
  (insertNode_perm x l).mem_iff.trans List.mem_cons

theorem insertNode_sorted (x : TNode) : ∀ (l : List TNode), SortedN l → SortedN (insertNode x l)
  | [], _ => by simp [insertNode, SortedN]
  | z :: zs, h => by
    obtain ⟨hz, hzs⟩ := List.pairwise_cons.1 h
    unfold insertNode
    split
    · -- `x ≤ z`: `x` goes in front
      rename_i hle
      refine List.pairwise_cons.2 ⟨fun y hy => ?_, h⟩
      rcases List.mem_cons.1 hy with rfl | hy
      · exact hle
      · exact strLe_trans _ _ _ hle (hz y hy)
    · -- otherwise `z ≤ x` (the order is total): `z` stays in front of `x` and of the rest
      rename_i hle
      refine List.pairwise_cons.2 ⟨fun y hy => ?_, insertNode_sorted x zs hzs⟩
      rcases mem_insertNode.1 hy with rfl | hy
      · exact (strLe_total _ _).resolve_left hle
      · exact hz y hy

theorem sortNodes_sorted : ∀ (l : List TNode), SortedN (sortNodes l)
  | [] => by simp [sortNodes, SortedN]
  | x :: xs => by
    unfold sortNodes
    exact insertNode_sorted x _ (sortNodes_sorted xs)

theorem mem_sortNodes {y : TNode} {l : List TNode} : y ∈ sortNodes l ↔ y ∈ l := (sortNodes_perm l).mem_iff

theorem nodup_of_sorted_noAdjDup : ∀ (l : List TNode), SortedN l → hasAdjDup l = false → (l.map TNode.name).Nodup
  | [], _, _ => by simp
  | [a], _, _ => by simp
  | a :: b :: r, hs, hd => by
    unfold hasAdjDup at hd
    simp only [Bool.or_eq_false_iff, beq_eq_false_iff_ne] at hd
    unfold SortedN at hs
    rw [List.pairwise_cons] at hs
    have ih := nodup_of_sorted_noAdjDup (b :: r) hs.2 hd.2
    simp only [List.map_cons, List.nodup_cons] at ih ⊢
    refine ⟨?_, ih⟩
    intro hm
    rcases List.mem_cons.1 hm with e | hm
    · exact hd.1 e
    · obtain ⟨c, hc, e⟩ := List.mem_map.1 hm
      -- a ≤ b ≤ c and c.name = a.name, so a.name = b.name
      have hab := hs.1 b (by simp)
      have hbc : strLe b.name c.name = true := (List.pairwise_cons.1 hs.2).1 c hc
      rw [e] at hbc
      exact hd.1 (strLe_antisymm _ _ hab hbc)

theorem treeSort_ok {n : Bytes} {k : Kind} {p : Bytes} {a : Attr} {ch : List TNode} {t' : TNode}
    (h : treeSort (.mk n k p a ch) = .ok t') :
    ∃ ch', treeSortL ch = .ok ch' ∧ hasAdjDup (sortNodes ch') = false ∧ t' = .mk n k p a (sortNodes ch') := by
  unfold treeSort at h
  split at h
  · cases h
  · rename_i ch' hch
    simp only at h
    split at h
    · cases h
    · rename_i hd
      cases h
      exact ⟨ch', hch, by simpa using hd, rfl⟩

theorem treeSortL_ok_cons {c : TNode} {cs l' : List TNode} (h : treeSortL (c :: cs) = .ok l') :
    ∃ c' cs', treeSort c = .ok c' ∧ treeSortL cs = .ok cs' ∧ l' = c' :: cs' := by
  unfold treeSortL at h
  split at h
  · cases h
  · rename_i c' hc
    split at h
    · cases h
    · rename_i cs' hcs
      cases h
      exact ⟨c', cs', hc, hcs, rfl⟩

mutual
theorem treeSort_nodup : ∀ (x x' : TNode), treeSort x = .ok x' → NodupH x'
  | .mk n k p a ch, x', h => by
    obtain ⟨ch', hch, hd, rfl⟩ := treeSort_ok h
    unfold NodupH
    refine ⟨nodup_of_sorted_noAdjDup _ (sortNodes_sorted ch') hd, ?_⟩
    rw [NodupHL_iff]
    intro c hc
    exact (NodupHL_iff ch').1 (treeSortL_nodup ch ch' hch) c (mem_sortNodes.1 hc)
theorem treeSortL_nodup : ∀ (l l' : List TNode), treeSortL l = .ok l' → NodupHL l'
  | [], l', h => by
    unfold treeSortL at h
    cases h
    simp [NodupHL]
  | c :: cs, l', h => by
    obtain ⟨c', cs', hc, hcs, rfl⟩ := treeSortL_ok_cons h
    unfold NodupHL
    exact ⟨treeSort_nodup c c' hc, treeSortL_nodup cs cs' hcs⟩
end

theorem treeSort_name (x x' : TNode) (h : treeSort x = .ok x') : x'.name = x.name := by
  obtain ⟨n, k, p, a, ch⟩ := x
  obtain ⟨_, _, _, rfl⟩ := treeSort_ok h
  rfl

/-! ## the whole plan -/

/-- `qsort` only permutes the file list: it invents no entry -/
def OrdOK (ord : List FileEnt → List FileEnt) : Prop := ∀ l f, f ∈ ord l → f ∈ l

theorem Out.mem_syscalls {o : Out} {sc : Syscall} : sc ∈ o.syscalls ↔ Ev.sys sc ∈ o.evs := by
  unfold Out.syscalls
  rw [List.mem_filterMap]
  constructor
  · rintro ⟨ev, hev, h⟩
    cases ev with
    | sys s => simp at h; subst h; exact hev
    | skip n => simp at h
  · intro h; exact ⟨_, h, rfl⟩

/-- `restoreFstree_at` with the position forgotten -/
theorem restoreFstree_ops (fl : Flags) (t : TNode) (sc : Syscall) (h : Ev.sys sc ∈ (restoreFstree fl t).evs) :
    OpFor (visitRoot t) sc := by
  obtain ⟨l₁, l₂, e⟩ := List.append_of_mem h
  obtain ⟨c, n, hm, hg, rfl, _⟩ := restoreFstree_at fl t l₁ _ l₂ e
  exact ⟨c, n.kind, visitNRoot_visitRoot hm, hg, path_createNode .., compat_createNode ..⟩

theorem updateAttribs_ops (fl : Flags) (t : TNode) (sc : Syscall) (h : Ev.sys sc ∈ (updateAttribs fl t).evs) :
    OpFor (visitRoot t) sc := by
  unfold updateAttribs at h
  unfold visitRoot
  split at h
  · simp at h
  · split at h
    · rename_i hk; rw [if_pos hk]; exact setAttribsL_ops _ fl _ [] sc h
    · rename_i hk; rw [if_neg hk]; exact setAttribs_ops _ fl t [] sc h

theorem genFiles_root_files (t : TNode) (f : FileEnt) (h : f ∈ (genFiles t.name [] t).files) : FileFor (visitRoot t) f := by
  obtain ⟨name, k, pl, a, ch⟩ := t
  by_cases hk : k = .dir
  · subst hk
    simp only [visitRoot, TNode.kind, TNode.children, TNode.name, if_true] at h ⊢
    rw [genFiles_dir] at h
    split at h
    · cases h
    · exact (genFilesL_sound name ch []).2 f h
  · simp only [visitRoot, TNode.kind, hk, if_false]
    exact (genFiles_sound _ _ []).2 f h

theorem fillFiles_mem {sc : Syscall} {l : List FileEnt} (h : Ev.sys sc ∈ (fillFiles l).evs) :
    ∃ f ∈ l, sc = .openTrunc f.path f.data := by
  fun_induction fillFiles l
  case case1 => simp at h
  case case2 f r ih =>
    rcases Out.mem_seq h with h1 | h1
    · exact ⟨f, by simp, by simpa using h1⟩
    · obtain ⟨g, hg, e⟩ := ih h1
      exact ⟨g, by simp [hg], e⟩

theorem fillUnpacked_ops (ord : List FileEnt → List FileEnt) (hord : OrdOK ord) (t : TNode) (sc : Syscall)
    (h : Ev.sys sc ∈ (fillUnpacked ord t).evs) : OpFor (visitRoot t) sc := by
  unfold fillUnpacked at h
  simp only at h
  split at h
  · exact absurd h ((genFiles_sound _ t []).1 sc)
  · rcases Out.mem_seq h with h1 | h1
    · exact absurd h1 ((genFiles_sound _ t []).1 sc)
    · obtain ⟨f, hf, e⟩ := fillFiles_mem h1
      subst e
      obtain ⟨comps, hm, hg, hp⟩ := genFiles_root_files t f (hord _ f hf)
      exact ⟨comps, .reg, hm, hg, hp, rfl⟩

theorem unpackTree_eq (ord : List FileEnt → List FileEnt) (fl : Flags) {t t' : TNode} (hs : treeSort t = .ok t') :
    unpackTree ord fl t = planSorted ord fl t' := by
  unfold unpackTree; rw [hs]

theorem unpackTree_ops (ord : List FileEnt → List FileEnt) (hord : OrdOK ord) (fl : Flags) (t t' : TNode)
    (hs : treeSort t = .ok t') (sc : Syscall) (h : sc ∈ (unpackTree ord fl t).syscalls) : OpFor (visitRoot t') sc := by
  rw [Out.mem_syscalls, unpackTree_eq ord fl hs] at h
  unfold planSorted at h
  rcases Out.mem_seq h with h1 | h1
  · exact restoreFstree_ops fl t' sc h1
  · rcases Out.mem_seq h1 with h2 | h2
    · exact fillUnpacked_ops ord hord t' sc h2
    · exact updateAttribs_ops fl t' sc h2

theorem unpackTree_dup (ord : List FileEnt → List FileEnt) (fl : Flags) {t : TNode} {e : Err}
    (hs : treeSort t = .error e) : unpackTree ord fl t = ⟨[], some e⟩ := by
  unfold unpackTree
  rw [hs]

theorem unpackTree_clean (ord : List FileEnt → List FileEnt) (hord : OrdOK ord) (fl : Flags) (t : TNode) (sc : Syscall)
    (h : sc ∈ (unpackTree ord fl t).syscalls) : ∃ c k, CallFor sc c k := by
  cases hs : treeSort t with
  | error e => rw [unpackTree_dup ord fl hs] at h; cases h
  | ok t' =>
    obtain ⟨c, k, _, r⟩ := unpackTree_ops ord hord fl t t' hs sc h
    exact ⟨c, k, r⟩

/-! ## refused entries, creating calls: what the completeness and order statements speak of -/

mutual
/-- names of the entries a walk refuses: insane name, directly below the root or a visited directory -/
def skipped : TNode → List Bytes
  | .mk name k _ _ ch => if !isFilenameSane name then [name] else if k = .dir then skippedL ch else []
def skippedL : List TNode → List Bytes
  | [] => []
  | c :: cs => skipped c ++ skippedL cs
end

def skippedRoot (t : TNode) : List Bytes := if t.kind = .dir then skippedL t.children else skipped t

/-- the walk made a creating call for the node `(c, k)` -/
def CreatedIn (evs : List Ev) (c : List Bytes) (k : Kind) : Prop :=
  ∃ sc, Ev.sys sc ∈ evs ∧ sc.path = joinSlash c ∧ Compat sc k ∧ sc.isCreate = true

theorem create_dir_is_mkdir {sc : Syscall} (h1 : sc.isCreate = true) (h2 : Compat sc .dir) : ∃ m, sc = .mkdir sc.path m := by
  cases sc <;> simp_all [Syscall.isCreate, Compat, Syscall.path]

end Sqfs.Unpack
