/-
The printer as it is in /repo (`Sqfs.QuoteLF`: with the line-feed test) against the printer without the test
(`Sqfs.Quote`): on a path of image names it is that printer behind the test `HasLF` (`lf_describeNode`).
-/
import Sqfs.Proofs.QuoteTree
import Sqfs.Model.QuoteLF
namespace Sqfs.Quote
open Sqfs.Path (Bytes joinSlash)

theorem contains_false_iff {s : Bytes} {c : UInt8} : s.contains c = false ↔ c ∉ s := by
  constructor
  · intro h m
    have : s.contains c = true := by simpa using m
    rw [h] at this
    exact absurd this (by decide)
  · intro h
    cases hc : s.contains c with
    | false => rfl
    | true => exact absurd (by simpa using hc) h

theorem lf_printEscaped_eq (s : Bytes) :
    Sqfs.QuoteLF.printEscaped s = if LF ∈ s then .error .newline else .ok (printEscaped s) := by
  simp only [Sqfs.QuoteLF.printEscaped, List.contains_eq_mem, decide_eq_true_eq]

theorem lf_printName_eq (p : Bytes) :
    Sqfs.QuoteLF.printName p = if LF ∈ p then .error .newline else .ok (printName p) := by
  unfold Sqfs.QuoteLF.printName printName
  by_cases hp : p = []
  · simp [hp]
  · simp only [hp, if_false, lf_printEscaped_eq]

theorem lf_simple_eq {comps : List Bytes} (hc : ∀ c ∈ comps, ImgName c) (kwd : Bytes) (extra : Option Bytes) (n : Node) :
    Sqfs.QuoteLF.simpleLine comps n kwd extra =
      if LF ∈ joinSlash comps then .error .newline
      else .ok (curLine (joinSlash comps) n kwd (Sqfs.QuoteLF.extraTail extra)) := by
  unfold Sqfs.QuoteLF.simpleLine
  rw [nodePath_img comps hc]
  by_cases hl : LF ∈ joinSlash comps
  · simp only [lf_printName_eq, hl, if_true]
  · simp only [lf_printName_eq, hl, if_false]; rfl

theorem lf_escaped_eq {comps : List Bytes} (hc : ∀ c ∈ comps, ImgName c) (kwd : Bytes) (last : Bytes → Bytes) (n : Node) :
    Sqfs.QuoteLF.escapedLine comps n kwd last =
      if LF ∈ joinSlash comps then .error .newline
      else if LF ∈ last (joinSlash comps) then .error .newline
      else .ok (curLine (joinSlash comps) n kwd (SP :: printEscaped (last (joinSlash comps)))) := by
  unfold Sqfs.QuoteLF.escapedLine
  rw [nodePath_img comps hc]
  by_cases hl : LF ∈ joinSlash comps
  · simp only [lf_printName_eq, hl, if_true]
  · by_cases hx : LF ∈ last (joinSlash comps)
    · simp only [lf_printName_eq, lf_printEscaped_eq, hl, hx, if_true, if_false]
    · simp only [lf_printName_eq, lf_printEscaped_eq, hl, hx, if_false]; rfl

/-- a run behind one line-feed test: refused if the test fires, the run otherwise -/
theorem behind_test {bad : Prop} [Decidable bad] (r : Except DErr Bytes) :
    (bad → (if bad then .error .newline else r) = .error .newline) ∧ (¬ bad → (if bad then .error .newline else r) = r) :=
  ⟨fun h => if_pos h, fun h => if_neg h⟩

theorem behind_tests {b1 b2 : Prop} [Decidable b1] [Decidable b2] (r : Except DErr Bytes) :
    (b1 ∨ b2 → (if b1 then .error .newline else if b2 then .error .newline else r) = .error .newline) ∧
    (¬ (b1 ∨ b2) → (if b1 then .error .newline else if b2 then .error .newline else r) = r) := by
  by_cases h1 : b1 <;> by_cases h2 : b2 <;> simp [h1, h2]

theorem lf_describeNode (ur : Option Bytes) (comps : List Bytes) (n : Node) (hc : ∀ c ∈ comps, ImgName c) :
    (HasLF ur comps n → Sqfs.QuoteLF.describeNode ur comps n = .error .newline) ∧
    (¬ HasLF ur comps n → Sqfs.QuoteLF.describeNode ur comps n = describeNode ur comps n) := by
  have hsl : (LF : UInt8) ≠ SL := by decide
  cases hk : n.kind
  -- both printers in closed form with the same `curLine`, this one behind `if LF ∈ … then .error .newline`
  all_goals simp only [Sqfs.QuoteLF.describeNode, describeNode_img ur comps n hc, hk, sane_last comps hc, dircond comps hc,
    lf_simple_eq hc, lf_escaped_eq hc, Bool.not_true, Bool.false_eq_true, if_false, Sqfs.QuoteLF.extraTail, spTail, devToks,
    List.append_nil, List.cons_append, List.nil_append, List.append_assoc]
  -- what the test looks at for this kind
  all_goals simp only [HasLF, hk, reduceCtorEq, ne_eq, not_false_eq_true, false_and, or_false, true_and, not_true_eq_false]
  case other => exact ⟨id, id⟩
  case slink => exact behind_tests _
  -- the location `<root>/<path>` contains LF iff the root or the path does
  case file => cases ur <;> by_cases hl : LF ∈ joinSlash comps <;> simp [hl, hsl]
  all_goals exact behind_test _

end Sqfs.Quote
