/-
C11: `sort_file_list` (gensquashfs -S) returns a permutation of the file list in non-descending priority order in which
files of equal priority keep their relative order.
-/
import Sqfs.Model.FsTree
import Sqfs.Proofs.SelectSort

namespace Sqfs.FsTree
open Sqfs.SelectSort (Sel)

theorem lowestFile_mem (low : FileEnt) (l : List FileEnt) : lowestFile low l ∈ low :: l := by
  fun_induction lowestFile low l
  case case1 => exact List.mem_cons_self
  case case2 ih => exact List.mem_cons_of_mem _ ih
  case case3 ih =>
    exact (List.mem_cons.1 ih).elim (fun h => by rw [h]; exact List.mem_cons_self) fun h => List.mem_cons_of_mem _ (List.mem_cons_of_mem _ h)

theorem lowestFile_le (low : FileEnt) (l : List FileEnt) : ∀ x ∈ low :: l, (lowestFile low l).prio ≤ x.prio := by
  fun_induction lowestFile low l <;> intro x hx
  case case1 => rw [List.mem_singleton.1 hx]; exact Int.le_refl _
  case case2 low it rest hlt ih =>
    rcases List.mem_cons.1 hx with rfl | hx
    · exact Int.le_trans (ih it List.mem_cons_self) (Int.le_of_lt hlt)
    · exact ih x hx
  case case3 low it rest hge ih =>
    rcases List.mem_cons.1 hx with rfl | hx
    · exact ih _ List.mem_cons_self
    · rcases List.mem_cons.1 hx with rfl | hx
      · exact Int.le_trans (ih low List.mem_cons_self) (Int.not_lt.1 hge)
      · exact ih x (List.mem_cons_of_mem _ hx)

theorem takeFirst_some {p : Int} {l : List FileEnt} {x : FileEnt} {rem : List FileEnt} (h : takeFirst p l = some (x, rem)) :
    ∃ pre post, l = pre ++ x :: post ∧ rem = pre ++ post ∧ x.prio = p ∧ ∀ y ∈ pre, y.prio ≠ p := by
  fun_induction takeFirst p l generalizing x rem
  case case2 f fs hp => cases h; exact ⟨[], fs, rfl, rfl, hp, fun _ hy => nomatch hy⟩
  case case4 f fs hp y r hr ih =>
    cases h
    obtain ⟨pre, post, rfl, rfl, hy, hpre⟩ := ih hr
    exact ⟨f :: pre, post, rfl, rfl, hy, List.forall_mem_cons.2 ⟨hp, hpre⟩⟩
  all_goals cases h

theorem takeFirst_none {p : Int} {l : List FileEnt} (h : takeFirst p l = none) : ∀ x ∈ l, x.prio ≠ p := by
  fun_induction takeFirst p l <;> intro x hx
  case case1 => cases hx
  case case3 hp hr ih => exact (List.mem_cons.1 hx).elim (fun e => e ▸ hp) (ih hr x)
  all_goals cases h

theorem sortFileList_sel (fuel : Nat) (l : List FileEnt) (h : l.length ≤ fuel) : Sel (·.prio) l (sortFileList fuel l) := by
  fun_induction sortFileList fuel l
  case case1 l => cases List.length_eq_zero_iff.1 (Nat.le_zero.1 h); exact .nil
  case case2 => exact .nil
  case case3 f fs hs => exact absurd rfl (takeFirst_none hs _ (lowestFile_mem f fs))
  case case4 fuel f fs x rem hs ih =>
    obtain ⟨pre, post, hl, rfl, hx, hpre⟩ := takeFirst_some hs
    have hlen := congrArg List.length hl
    simp only [List.length_append, List.length_cons] at hlen h
    -- `x` carries the lowest priority of the list, and nothing before it carries the same
    have hle : ∀ y ∈ pre ++ x :: post, x.prio ≤ y.prio := fun y hy => hx ▸ lowestFile_le f fs y (hl ▸ hy)
    rw [hl]
    exact .step (fun y hy => Int.lt_iff_le_and_ne.2 ⟨hle y (List.mem_append_left _ hy), fun e => hpre y hy (e ▸ hx)⟩)
      (fun y hy => hle y (List.mem_append_right _ (List.mem_cons_of_mem _ hy)))
      (ih (by simp only [List.length_append]; omega))

theorem applySortRule_paths (fnm : Fnm) (r : SortRule) (l : List FileEnt) :
    (applySortRule fnm r l).map (·.path) = l.map (·.path) := by
  fun_induction applySortRule fnm r l <;> simp_all <;> rfl

theorem foldl_applySortRule_paths (fnm : Fnm) (rules : List SortRule) (l : List FileEnt) :
    (rules.foldl (fun acc r => applySortRule fnm r acc) l).map (·.path) = l.map (·.path) := by
  induction rules generalizing l with
  | nil => rfl
  | cons r rs ih => simp only [List.foldl_cons]; rw [ih, applySortRule_paths]

end Sqfs.FsTree
