/-
C04 — `parse_uint` / `parse_int` (lib/util/src/parse_int.c as used by pax_header.c with `len = -1`): the value of a decimal
digit string, exactly, or an error; the loop of `pax_sparse_map` on a well-formed `off,num,off,num,…` value.
-/
import Sqfs.Model.TarPax
namespace Sqfs.Tar

/-- the number a string of decimal digits denotes, continuing from `a` -/
def decFrom (a : Nat) (ds : Bytes) : Nat := ds.foldl (fun v c => v * 10 + (c.toNat - 48)) a

def decVal (ds : Bytes) : Nat := decFrom 0 ds

/-- what `parse_uint` accepts: everything below `(2^64 − 1) / 10 · 10` (the overflow test `out >= UINT64_MAX / 10` is
    conservative: the six largest 64-bit values are refused as well — a loud error, never a wrong value) -/
abbrev PARSE_UINT_BOUND : Nat := 18446744073709551610

theorem decFrom_ge (ds : Bytes) : ∀ a, a ≤ decFrom a ds := by
  induction ds with
  | nil => intro a; exact Nat.le_refl a
  | cons c t ih =>
    intro a
    have := ih (a * 10 + (c.toNat - 48))
    simp only [decFrom, List.foldl_cons] at this ⊢
    omega

theorem digit_le (c : UInt8) (h : isDigit c = true) : c.toNat - 48 ≤ 9 := by
  simp only [isDigit, Bool.and_eq_true, decide_eq_true_eq] at h
  omega

/-- the first overflow test of the digit loop, against `M = UINT64_MAX / 10` -/
theorem overflow_test (M out x : Nat) (hx : x ≤ 9) : (M ≤ out → M * 10 ≤ out * 10 + x) ∧ (out < M → out * 10 + x < M * 10) := by
  omega

theorem parseLoop_spec (rest : Bytes) (hr : ∀ c, rest.head? = some c → isDigit c = false) :
    ∀ (ds : Bytes) (out diff : Nat), (∀ c ∈ ds, isDigit c = true) → out < PARSE_UINT_BOUND →
      parseLoop out diff (ds ++ rest) =
        if decFrom out ds < PARSE_UINT_BOUND then some (decFrom out ds, diff + ds.length) else none := by
  intro ds
  induction ds with
  | nil =>
    intro out diff _ ho
    simp only [List.nil_append, decFrom, List.foldl_nil, ho, if_true, List.length_nil, Nat.add_zero]
    cases rest with
    | nil => rfl
    | cons c t =>
      have := hr c rfl
      rw [parseLoop, this]
      rfl
  | cons c t ih =>
    intro out diff hd ho
    have hc : isDigit c = true := hd c (by simp)
    have ht : ∀ d ∈ t, isDigit d = true := fun d hd' => hd d (List.mem_cons_of_mem _ hd')
    -- `PARSE_UINT_BOUND` evaluates to `M * 10` for the `M` of the first test, and `UINT64_MAX` is above it: the second test
    -- never fires
    obtain ⟨hge, hlt⟩ := overflow_test 1844674407370955161 out (c.toNat - 48) (digit_le c hc)
    have hstep : decFrom out (c :: t) = decFrom (out * 10 + (c.toNat - 48)) t := rfl
    rw [List.cons_append, parseLoop, hc, if_pos rfl, hstep]
    by_cases h1 : out ≥ 1844674407370955161
    · rw [if_pos h1, if_neg (Nat.not_lt.2 (Nat.le_trans (hge h1) (decFrom_ge t _)))]
    · have hfit := hlt (Nat.lt_of_not_le h1)
      have h2 := Nat.le_sub_of_add_le (Nat.le_trans (Nat.le_of_lt hfit) (by decide : _ ≤ 18446744073709551615))
      rw [if_neg h1, if_neg (Nat.not_lt.2 h2), ih _ (diff + 1) ht hfit, List.length_cons, Nat.add_assoc, Nat.add_comm 1]

theorem parseUint_spec (ds rest : Bytes) (hne : ds ≠ []) (hd : ∀ c ∈ ds, isDigit c = true)
    (hr : ∀ c, rest.head? = some c → isDigit c = false) :
    parseUint (ds ++ rest) = if decVal ds < PARSE_UINT_BOUND then some (decVal ds, ds.length) else none := by
  cases ds with
  | nil => exact absurd rfl hne
  | cons c t =>
    have hc : isDigit c = true := hd c (by simp)
    have := parseLoop_spec rest hr (c :: t) 0 0 hd (by decide)
    simp only [Nat.zero_add] at this
    rw [List.cons_append, parseUint, hc]
    simp only [if_true]
    rw [← List.cons_append, this]
    rfl

theorem parseInt_pos (c : UInt8) (t : Bytes) (h : c ≠ 45) :
    parseInt (c :: t) = (match parseUint (c :: t) with
      | none => none
      | some (v, _) => if v ≥ 0x7FFFFFFFFFFFFFFF then none else some (v : Int)) := by
  unfold parseInt
  split
  · rename_i neg s' heq
    split at heq
    · rename_i t' h45; exact absurd (List.cons.inj h45).1 h
    · obtain ⟨rfl, rfl⟩ := Prod.mk.inj heq
      simp only [Bool.false_eq_true, if_false]
      cases parseUint (c :: t) with
      | none => rfl
      | some p => rfl

theorem parseInt_neg (s : Bytes) :
    parseInt (45 :: s) = (match parseUint s with
      | none => none
      | some (v, _) => if v ≥ 0x7FFFFFFFFFFFFFFF then none else some (-(v : Int))) := by
  unfold parseInt
  simp only [if_true]
  cases parseUint s with
  | none => rfl
  | some p => rfl

/-- a value answered exactly below `B` and then refused from `L ≤ B` on is answered exactly below `L`: how `parse_int`'s
    range test sits on top of `parse_uint`'s -/
theorem bound_narrows {α : Type} (f : Nat → α) {a n L B : Nat} (hB : L ≤ B) :
    (match (if a < B then some (a, n) else none : Option (Nat × Nat)) with
      | none => none
      | some (v, _) => if v ≥ L then none else some (f v)) = if a < L then some (f a) else none := by
  by_cases h2 : a < L
  · rw [if_pos (Nat.lt_of_lt_of_le h2 hB), if_pos h2]
    exact if_neg (Nat.not_le.2 h2)
  · rw [if_neg h2]
    by_cases h1 : a < B
    · rw [if_pos h1]
      exact if_pos (Nat.le_of_not_lt h2)
    · rw [if_neg h1]

/-- a decimal number as the parser wants it: non-empty, digits only, below the parser's bound -/
def IsDec (ds : Bytes) : Prop := ds ≠ [] ∧ (∀ c ∈ ds, isDigit c = true) ∧ decVal ds < PARSE_UINT_BOUND

/-- `off,num,off,num,…` -/
def renderMap : List (Bytes × Bytes) → Bytes
  | [] => []
  | [(o, c)] => o ++ 44 :: c
  | (o, c) :: p :: rest => o ++ 44 :: (c ++ 44 :: renderMap (p :: rest))

theorem parseUint_dec (ds rest : Bytes) (h : IsDec ds) (hr : ∀ c, rest.head? = some c → isDigit c = false) :
    parseUint (ds ++ rest) = some (decVal ds, ds.length) := by
  rw [parseUint_spec ds rest h.1 h.2.1 hr, if_pos h.2.2]

theorem sparseMapLoop_spec (tail : Bytes) (ht : ∀ c, tail.head? = some c → isDigit c = false ∧ c ≠ 44) :
    ∀ (l : List (Bytes × Bytes)) (f : Nat) (acc : List (Nat × Nat)), l ≠ [] → (renderMap l ++ tail).length + 1 ≤ f →
      (∀ p ∈ l, IsDec p.1 ∧ IsDec p.2) →
      sparseMapLoop f (renderMap l ++ tail) acc = some (acc ++ l.map fun p => (decVal p.1, decVal p.2)) := by
  intro l
  induction l with
  | nil => intro f acc h; exact absurd rfl h
  | cons p rest ih =>
    intro f acc _ hf hd
    obtain ⟨o, c⟩ := p
    obtain ⟨f', rfl⟩ : ∃ f', f = f' + 1 := ⟨f - 1, by omega⟩
    have ⟨ho, hc⟩ := hd (o, c) (by simp)
    have hnd : ∀ (x : Bytes) (d : UInt8), ((44 : UInt8) :: x).head? = some d → isDigit d = false := by
      intro x d h; cases h; decide
    cases rest with
    | nil =>
      simp only [renderMap, List.append_assoc, List.cons_append]
      rw [sparseMapLoop, parseUint_dec o _ ho (hnd _)]
      simp only [List.drop_left' rfl]
      rw [parseUint_dec c tail hc (fun d hd' => (ht d hd').1)]
      simp only [List.drop_left' rfl, List.map_cons, List.map_nil]
      cases tail with
      | nil => rfl
      | cons d t =>
        have := (ht d rfl).2
        split
        · rename_i l3 heq; exact absurd (List.cons.inj heq).1 this
        · rfl
    | cons q rest' =>
      simp only [renderMap, List.append_assoc, List.cons_append]
      rw [sparseMapLoop, parseUint_dec o _ ho (hnd _)]
      simp only [List.drop_left' rfl]
      rw [parseUint_dec c _ hc (hnd _)]
      simp only [List.drop_left' rfl]
      have := ih f' (acc ++ [(decVal o, decVal c)]) (by simp)
        (by simp only [renderMap, List.length_append, List.length_cons] at hf ⊢; omega)
        (fun p hp => hd p (List.mem_cons_of_mem _ hp))
      rw [this]
      simp

end Sqfs.Tar
