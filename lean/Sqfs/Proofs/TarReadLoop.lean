/-
C04 — one iteration of the `for (;;)` loop of `read_header` on blocks of any writer and dialect, case by case: a short rest
(`loop_short`), a zero record (`loop_zero`), an extension record (GNU 'K' / 'L', PAX 'x') whose header block the reader accepts
(`IsHdr`, `extApply`, `loop_ext`), and a member's own header, which `decode_header` turns into `specDecode` (`PlainFlag`, `loop_plain`).
`Reads`: what `read_header` returns on a stream, with the fuel out of sight; records are composed through it.
-/
import Sqfs.Proofs.TarHeaderRT
import Sqfs.Proofs.TarDecodeSpec
namespace Sqfs.Tar

/-- what `read_header` needs to know about a 512-byte header block -/
structure IsHdr (H : Bytes) (tf : UInt8) (sz : Nat) : Prop where
  len : H.length = 512
  nz : isZeroBlock H = false
  ver : (checkVersion H).isSome = true            -- any of the three dialects: v7, pre-POSIX/GNU, POSIX ustar
  ck : isChecksumValid H = true
  tfl : (slice H 156 1).headD 0 = tf
  size : readNumber (slice H 124 12) = some sz

theorem istreamSkip_exact (z s' : Bytes) (k : Nat) (hk : z.length = k) : istreamSkip (z ++ s') k = some s' := by
  unfold istreamSkip
  have : ¬ (z ++ s').length < k := by simp [hk]
  rw [if_neg this, List.drop_left' hk]

theorem istreamSkip_zero (s : Bytes) : istreamSkip s 0 = some s := istreamSkip_exact [] s 0 rfl

theorem recordToMemory_exact (p s' : Bytes) :
    recordToMemory (p ++ (zeros (padding p.length) ++ s')) p.length = some (p, s') := by
  unfold recordToMemory
  have : ¬ (p ++ (zeros (padding p.length) ++ s')).length < p.length := by simp
  rw [if_neg this, List.take_left' rfl, List.drop_left' rfl, istreamSkip_exact _ _ _ (zeros_length _)]

theorem isZeroBlock_zeros (k : Nat) : isZeroBlock (zeros k) = true := by
  unfold isZeroBlock zeros
  simp

theorem loop_short (cfg : ReadCfg) (f : Nat) (s : Bytes) (out : Decoded) (mask : Nat) (pz : Bool) (h : s.length < 512) :
    readHeaderLoop cfg (f + 1) s out mask pz = if isZeroBlock s then .eof else .err := by
  rw [readHeaderLoop, if_pos h]

theorem loop_zero (cfg : ReadCfg) (f : Nat) (s' : Bytes) (out : Decoded) (mask : Nat) (pz : Bool) :
    readHeaderLoop cfg (f + 1) (zeros 512 ++ s') out mask pz = if pz then .eof else readHeaderLoop cfg f s' out mask true := by
  rw [readHeaderLoop, if_neg (by simp [zeros_length]), List.take_left' (zeros_length _), List.drop_left' (zeros_length _)]
  simp only [isZeroBlock_zeros, if_true]

/-- what `read_header` does with the payload of a 'K', 'L' or 'x' record: the long link target, the long name (either wins over
    the following header's own field), or a fresh header filled in by `read_pax_header` -/
def extApply (cfg : ReadCfg) (tf : UInt8) (p : Bytes) (om : Decoded × Nat) : Option (Decoded × Nat) :=
  if tf = 75 then some ({ om.1 with link := some (cstr p) }, setFlag om.2 PAX_SLINK_TARGET)
  else if tf = 76 then some ({ om.1 with name := some (cstr p) }, setFlag om.2 PAX_NAME)
  else readPaxHeader ⟨cfg.xattrKeepOrder, cfg.schilyKeyDecode⟩ p {} 0

theorem extApply_K (cfg : ReadCfg) (p : Bytes) (om : Decoded × Nat) :
    extApply cfg 75 p om = some ({ om.1 with link := some (cstr p) }, setFlag om.2 PAX_SLINK_TARGET) := rfl

theorem extApply_L (cfg : ReadCfg) (p : Bytes) (om : Decoded × Nat) :
    extApply cfg 76 p om = some ({ om.1 with name := some (cstr p) }, setFlag om.2 PAX_NAME) := rfl

theorem extApply_x (cfg : ReadCfg) (p : Bytes) (om : Decoded × Nat) :
    extApply cfg 120 p om = readPaxHeader ⟨cfg.xattrKeepOrder, cfg.schilyKeyDecode⟩ p {} 0 := rfl

theorem loop_ext (cfg : ReadCfg) (f : Nat) (H p s' : Bytes) (out : Decoded) (mask : Nat) (pz : Bool) (tf : UInt8)
    (htf : tf = 75 ∨ tf = 76 ∨ tf = 120) (h : IsHdr H tf p.length) (h1 : 1 ≤ p.length) (h2 : p.length ≤ 65536) :
    readHeaderLoop cfg (f + 1) (H ++ (p ++ (zeros (padding p.length) ++ s'))) out mask pz =
      match extApply cfg tf p (out, mask) with
      | none => .err
      | some om => readHeaderLoop cfg f s' om.1 om.2 false := by
  obtain ⟨v, hv⟩ := Option.isSome_iff_exists.1 h.ver
  have hlen : ¬ (H ++ (p ++ (zeros (padding p.length) ++ s'))).length < 512 := by simp [h.len]
  have hsz : ¬ (p.length < 1 ∨ p.length > 65536) := by omega
  rw [readHeaderLoop]
  simp only [hlen, if_false, List.take_left' h.len, List.drop_left' h.len, h.nz, hv, h.ck, h.tfl, h.size,
    Bool.false_eq_true, not_true_eq_false, recordToMemory_exact, hsz]
  rcases htf with rfl | rfl | rfl
  · simp only [extApply_K, if_true]
  · simp only [extApply_L, show ¬ ((76 : UInt8) = 75) by decide, if_false, if_true]
  · simp only [extApply_x, show ¬ ((120 : UInt8) = 75) by decide, show ¬ ((120 : UInt8) = 76) by decide,
      show ¬ ((120 : UInt8) = 103) by decide, if_false, if_true]
    cases readPaxHeader ⟨cfg.xattrKeepOrder, cfg.schilyKeyDecode⟩ p {} 0 <;> rfl

theorem bind_all {α β : Type} {x : Option α} {f : α → Option β} {P : β → Prop} (h : ∀ a d, f a = some d → P d) :
    ∀ d, (x >>= f) = some d → P d := by
  cases x with
  | none => intro d hd; cases hd
  | some a => exact h a

theorem specDecode_sparse {h : Bytes} {mask : Nat} {out : Decoded} {v : Version} :
    ∀ d, specDecode h mask out v = some d → d.sparse = out.sparse := by
  unfold specDecode
  refine bind_all fun _ => bind_all fun _ => bind_all fun _ => bind_all fun _ => bind_all fun _ => bind_all fun _ =>
    bind_all fun _ d hd => ?_
  cases hd
  rfl

/-- the type flag of a block `read_header` decodes itself: none of the extension records 'K', 'L', 'g', 'x' nor the old GNU
    sparse header 'S' -/
def PlainFlag (tf : UInt8) : Prop := tf ≠ 75 ∧ tf ≠ 76 ∧ tf ≠ 103 ∧ tf ≠ 120 ∧ tf ≠ 83

instance (tf : UInt8) : Decidable (PlainFlag tf) := by unfold PlainFlag; infer_instance

theorem loop_plain (cfg : ReadCfg) (f : Nat) (h s' : Bytes) (pz : Bool) (v : Version) (mask : Nat) (out : Decoded)
    (hl : h.length = 512) (hnz : isZeroBlock h = false) (hv : checkVersion h = some v) (hck : isChecksumValid h = true)
    (htf : PlainFlag ((slice h 156 1).headD 0))
    (hsp : out.sparse = []) (hgnu : hasFlag mask PAX_SPARSE_GNU_1_X = false) :
    readHeaderLoop cfg (f + 1) (h ++ s') out mask pz =
      match specDecode h mask out v with
      | none => .err
      | some d => .ok { d with actualSize := d.recordSize } s' := by
  obtain ⟨hK, hL, hg, hx, hS⟩ := htf
  rw [readHeaderLoop]
  simp only [show ¬ (h ++ s').length < 512 by simp [hl], if_false, List.take_left' hl, List.drop_left' hl, hnz, hv, hck,
    Bool.false_eq_true, not_true_eq_false, hK, hL, hg, hx, hS, decodeHeader_eq_spec, hgnu]
  cases hd : specDecode h mask out v with
  | none => rfl
  | some d =>
    simp only [specDecode_sparse d hd, hsp, List.isEmpty_nil, not_true_eq_false, false_and, and_false, if_false, if_true]

/-- `read_header` on the stream `s`, entered with the state `(out, mask)`, returns `R`: with any fuel that covers the stream (one
    unit per 512 bytes and one more) and whether or not a zero record came before.  The rules below consume a record and its fuel
    together, so records are composed without counting them. -/
def Reads (cfg : ReadCfg) (s : Bytes) (out : Decoded) (mask : Nat) (R : ReadResult) : Prop :=
  ∀ f pz, s.length / 512 + 1 ≤ f → readHeaderLoop cfg f s out mask pz = R

theorem Reads.readHeaderWith {cfg : ReadCfg} {s : Bytes} {R : ReadResult} (h : Reads cfg s {} 0 R) : readHeaderWith cfg s = R :=
  h _ _ (by omega)

theorem Reads.ext {cfg : ReadCfg} {H p s' : Bytes} {out : Decoded} {mask : Nat} {tf : UInt8} {om : Decoded × Nat} {R : ReadResult}
    (htf : tf = 75 ∨ tf = 76 ∨ tf = 120) (h : IsHdr H tf p.length) (h1 : 1 ≤ p.length) (h2 : p.length ≤ 65536)
    (he : extApply cfg tf p (out, mask) = some om) (hR : Reads cfg s' om.1 om.2 R) :
    Reads cfg (H ++ (p ++ (zeros (padding p.length) ++ s'))) out mask R := by
  intro f pz hf
  obtain ⟨g, rfl⟩ : ∃ g, f = g + 1 := ⟨f - 1, by omega⟩
  rw [loop_ext cfg g H p s' out mask pz tf htf h h1 h2, he]
  exact hR g false (by simp only [List.length_append, h.len] at hf; omega)

theorem Reads.plain (cfg : ReadCfg) (h s' : Bytes) (v : Version) (mask : Nat) (out : Decoded)
    (hl : h.length = 512) (hnz : isZeroBlock h = false) (hv : checkVersion h = some v) (hck : isChecksumValid h = true)
    (htf : PlainFlag ((slice h 156 1).headD 0))
    (hsp : out.sparse = []) (hgnu : hasFlag mask PAX_SPARSE_GNU_1_X = false) :
    Reads cfg (h ++ s') out mask
      (match specDecode h mask out v with
       | none => .err
       | some d => .ok { d with actualSize := d.recordSize } s') := by
  intro f pz hf
  obtain ⟨g, rfl⟩ : ∃ g, f = g + 1 := ⟨f - 1, by omega⟩
  exact loop_plain cfg g h s' pz v mask out hl hnz hv hck htf hsp hgnu

end Sqfs.Tar
