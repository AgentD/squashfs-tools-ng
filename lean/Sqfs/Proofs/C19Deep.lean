import Sqfs.Proofs.ObjView
/-!
C19: `copy_equiv` for the objects a copy owns through deep references (`sqfs_copy` inside the hook: the two meta readers of a
directory reader / xattr reader, the fragment table of a data reader): each of them is a fresh object that observes through
every field, buffer and internal pointer what the original's sub-object observes.

The reference-slot loop hands back the sub-copy that filled each deep-copied slot, in its frame (`DeepSlots`, `Sqfs.Proofs.ObjCopy`);
`copyRefs_deep` applies `sqfsCopy_viewP` to it (`Sqfs.Proofs.ObjView`: the heap inside a hook is balanced up to pending references /
buffers); `sqfsCopy_deep` puts the hook together.
-/
namespace Sqfs.Obj

/-- the sub-objects about to be copied: live, below the recursion bound, shaped as their kind's description expects -/
def SubsOk (D : Kind → CopyDesc) (n : Nat) (h : Heap) (rs : List (Option Nat)) : Prop :=
  ∀ r, some r ∈ rs → ∃ o, h.objs r = some o ∧ r < n ∧ ShapeOk (D o.kind) o

theorem SubsOk.step {D : Kind → CopyDesc} {n : Nat} {h h' : Heap} {U : Nat → Nat} {P PB : List Nat} {rs : List (Option Nat)}
    (hg : SubsOk D n h rs) (hb : Bal h U P PB []) (hs : SlotsOk h h') : SubsOk D n h' rs := by
  intro r hm
  obtain ⟨o, ho, hn, hsh⟩ := hg r hm
  obtain ⟨o', hx', hso⟩ := map_erase_some (ho ▸ hs.objsOld r (hb.lt_nobj ho))
  have e0 : o'.kind = o.kind := Obj.erase_kind hso
  have e1 : o'.bufs = o.bufs := Obj.erase_bufs hso
  have e2 : o'.views = o.views := Obj.erase_views hso
  refine ⟨o', hx', hn, ?_⟩
  unfold ShapeOk at hsh ⊢
  rw [e0, e1, e2]; exact hsh

theorem SubsOk.live {D : Kind → CopyDesc} {n : Nat} {h : Heap} {rs : List (Option Nat)} (hg : SubsOk D n h rs) :
    ∀ r, some r ∈ rs → (h.objs r).isSome ∧ r < n := by
  intro r hm
  obtain ⟨o, ho, hn, _⟩ := hg r hm
  exact ⟨by simp [ho], hn⟩

theorem copyRefs_deep (D : Kind → CopyDesc) (hD : ∀ k, WfDesc (D k)) (n : Nat)
    (rs : List (Option Nat)) (as : List RefAct) {h : Heap} {U : Nat → Nat} {P PB : List Nat}
    (hb : Bal h U P PB []) (hw : ∀ a ∈ as, a ≠ .alias) (hg : SubsOk D n h rs)
    (h' : Heap) (nr : List (Option Nat)) (he : copyRefs (sqfsCopy D n) h rs as = (h', nr, true))
    (i r : Nat) (hi : rs[i]? = some (some r)) (ha : as[i]? = some RefAct.deep) :
    ∃ y, nr[i]? = some (some y) ∧ h.nobj ≤ y ∧ view h' y = view h r := by
  -- the sub-copy that filled slot `i` ran inside the loop as `sqfs_copy` runs inside a hook
  obtain ⟨_, hsd, _⟩ := copyRefs_bal (sqfsCopy D n) n (sqfsCopy_bal D hD n) rs as hb hw hg.live h' nr true he
  obtain ⟨y, h1, h2, P1, hy, hb1, hs1, hcp, hs2⟩ := (hsd rfl).2 i r hi ha
  have hrm : some r ∈ rs := List.mem_of_getElem? hi
  obtain ⟨o, ho, hn, hsh⟩ := hg.step hb hs1 r hrm
  obtain ⟨_, hb2, hfresh, _⟩ := sqfsCopy_bal D hD n h1 U P1 PB r hb1 (by simp [ho]) hn h2 (some y) hcp
  obtain ⟨oy, hyl, _⟩ := hb2.mem_live List.mem_cons_self
  -- nothing after it touched `y`; it observes what `r` observed then; nothing before it had touched `r`
  exact ⟨y, hy, Nat.le_trans hs1.nobj hfresh,
    ((hb2.view_step hs2 (by simp [hyl])).trans (sqfsCopy_viewP D hD n hb1 ho hn hsh hcp).1).trans (hb.view_step hs1 (hg.live r hrm).1)⟩

/-- **the sub-objects of a copy**: after a successful `sqfs_copy` of `x`, every reference slot that the hook deep-copies holds in
the copy a fresh object `y` (`y ≥ h.nobj`: it did not exist before) that observes through all its slots what the original's
sub-object `r` observes, and `r` observes what it observed -/
theorem sqfsCopy_deep (D : Kind → CopyDesc) (hD : ∀ k, WfDesc (D k)) (n : Nat) {h : Heap} {U : Nat → Nat} {x : Nat} {o : Obj}
    (hb : Bal h U [] [] []) (hox : h.objs x = some o) (hxn : x < n)
    (hsub : ∀ r, some r ∈ o.refs → ∃ or, h.objs r = some or ∧ ShapeOk (D or.kind) or)
    {h' : Heap} {c : Nat} (he : sqfsCopy D n h x = (h', some c)) :
    ∀ (i r : Nat), o.refs[i]? = some (some r) → (D o.kind).refs[i]? = some RefAct.deep →
      ∃ oc y, h'.objs c = some oc ∧ oc.refs[i]? = some (some y) ∧ h.nobj ≤ y ∧ view h' y = view h r ∧ view h' r = view h r := by
  intro i r hi ha
  obtain ⟨n, rfl⟩ : ∃ k, n = k + 1 := ⟨n - 1, (Nat.succ_pred_eq_of_pos (Nat.zero_lt_of_lt hxn)).symm⟩
  have hxl : (h.objs x).isSome := by simp [hox]
  obtain ⟨_, hres⟩ := sqfsCopy_bal D hD (n + 1) h U [] [] x hb hxl hxn h' (some c) he
  obtain ⟨_, _, hsl⟩ := hres
  have hrefs := hb.refs_lt hox (by simp)
  obtain ⟨_, _, _, hw4, _, _, _⟩ := hD o.kind
  have hrm : some r ∈ o.refs := List.mem_of_getElem? hi
  have hrl : (h.objs r).isSome := hb.ref_live hox (by simp) hrm
  have hg : SubsOk D n h o.refs := by
    intro r' hm
    obtain ⟨or, h1, h2⟩ := hsub r' hm
    exact ⟨or, h1, Nat.lt_of_lt_of_le (hrefs r' hm) (Nat.le_of_lt_succ hxn), h2⟩
  obtain ⟨hB, nb, nr, ⟨_, hR, hS, PB', hbR, hsR, hcr, hbS, hsS⟩, hfin⟩ := sqfsCopy_loops D hD n hb hox hxn he
  -- the reference loop left `y` in slot `i`, observing what `r` observes; nothing after it touched `y`
  obtain ⟨y, h1, h2, h4⟩ := copyRefs_deep D hD n o.refs (D o.kind).refs hbR hw4 (hg.step hb hsR) hS nr hcr i r hi ha
  obtain ⟨oy, hy, _⟩ := hbS.mem_live (List.mem_append_left _ (List.mem_filterMap.mpr ⟨some y, List.mem_of_getElem? h1, rfl⟩))
  have hyl : (hS.objs y).isSome := by simp [hy]
  have hfc : (finishCopy (D o.kind) hB o nb nr).1 = h' := congrArg Prod.fst hfin
  obtain ⟨oc, hoc, _, _, _, hocr, _⟩ := finishCopy_spec (D o.kind) hB o nb nr h' c hfin
  exact ⟨oc, y, hoc, by rw [hocr]; exact h1, Nat.le_trans hsR.nobj h2,
    ((hbS.view_step (hfc ▸ hsS.trans (SlotsOk.finishCopy _ _ _ _ _)) hyl).trans h4).trans (hb.view_step hsR hrl), hb.view_step hsl hrl⟩

end Sqfs.Obj
