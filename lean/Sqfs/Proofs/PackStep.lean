/-
Characterisation of one `packFile` step as a small set of cases (`TailStep`, `placeBlocks_spec`), list/area lemmas, and
what a step does to the slot of a fragment (`Slot`, `FragRule`).  The global theorems about `specPack`
(`Sqfs/Proofs/PackInv.lean`) do their case analysis on these.
-/
import Sqfs.Proofs.PackLocal
import Sqfs.Proofs.Slice
namespace Sqfs.Pack

def areaOf (h : List Stored) : Bytes := h.flatMap (·.data)

theorem areaOf_nil : areaOf [] = [] := rfl

theorem areaOf_append (a b : List Stored) : areaOf (a ++ b) = areaOf a ++ areaOf b := by
  simp [areaOf]

theorem areaOf_cons (s : Stored) (t : List Stored) : areaOf (s :: t) = s.data ++ areaOf t := by
  simp [areaOf]

theorem bytesOf_nil : bytesOf [] = 0 := rfl

theorem bytesOf_cons (s : Stored) (t : List Stored) : bytesOf (s :: t) = s.data.length + bytesOf t := by
  simp [bytesOf]

theorem bytesOf_append (a b : List Stored) : bytesOf (a ++ b) = bytesOf a + bytesOf b := by
  simp [bytesOf]

theorem prefix_bytesOf_le {a b : List Stored} (h : a <+: b) : bytesOf a ≤ bytesOf b := by
  obtain ⟨t, rfl⟩ := h
  rw [bytesOf_append]; exact Nat.le_add_right _ _

theorem areaOf_prefix {a b : List Stored} (h : a <+: b) : ∃ ext, areaOf b = areaOf a ++ ext := by
  obtain ⟨t, rfl⟩ := h
  exact ⟨areaOf t, areaOf_append a t⟩

theorem areaOf_length (h : List Stored) : (areaOf h).length = bytesOf h := by
  induction h with
  | nil => rfl
  | cons s t ih => rw [areaOf_cons, bytesOf_cons, List.length_append, ih]

theorem Out.area_eq (o : Out) : o.area = areaOf o.blocks := rfl

theorem readAt_mid (base : Nat) (A X Z : Bytes) : readAt base (A ++ X ++ Z) (base + A.length) X.length = X := by
  unfold readAt
  rw [Nat.add_sub_cancel_left, List.append_assoc]; exact List.take_drop_mid A X Z

theorem readAt_mid' (base : Nat) (A X Z : Bytes) (off n : Nat) (ho : off = base + A.length) (hn : n = X.length) :
    readAt base (A ++ X ++ Z) off n = X := by
  subst ho hn; exact readAt_mid base A X Z

theorem readAt_ext (base : Nat) (area ext : Bytes) (off n : Nat) (h : off - base + n ≤ area.length) :
    readAt base (area ++ ext) off n = readAt base area off n :=
  List.take_drop_append_left area ext h

theorem findMatch_some (hist mine : List Stored) (i : Nat) (h : findMatch hist mine = some i) :
    i < hist.length ∧ ((hist ++ mine).drop i).take mine.length = mine := by
  unfold findMatch at h
  have h1 := List.find?_some h
  have h2 := List.mem_of_find?_eq_some h
  simp at h1 h2
  exact ⟨h2, h1⟩

/-- where the file's stored blocks end up (`pl` = what `placeBlocks` returns): the new history extends the old one and holds
them between `pre` and `post`; `start` is the offset behind `pre`; `shared = false` means they are the file's own, appended
blocks -/
structure Placed (base : Nat) (hist mine : List Stored) (pl : List Stored × Nat × Bool) (pre post : List Stored) : Prop where
  split : pl.1 = pre ++ mine ++ post
  start : pl.2.1 = base + bytesOf pre
  ext : hist <+: pl.1
  own : pl.2.2 = false → pre = hist ∧ post = []

theorem placeBlocks_spec (base : Nat) (dd : Bool) (hist mine : List Stored) (hne : mine ≠ []) :
    ∃ pre post, Placed base hist mine (placeBlocks base dd hist mine) pre post := by
  have own : Placed base hist mine (hist ++ mine, base + bytesOf hist, false) hist [] :=
    ⟨(List.append_nil _).symm, rfl, List.prefix_append _ _, fun _ => ⟨rfl, rfl⟩⟩
  unfold placeBlocks
  rw [if_neg hne]
  by_cases hdd : dd = true
  · rw [if_pos hdd]
    exact ⟨_, _, own⟩
  · rw [if_neg hdd]
    cases hm : findMatch hist mine with
    | none => exact ⟨_, _, own⟩
    | some i =>
      -- an earlier identical run: the history is cut behind it, but not before the old end
      obtain ⟨hi, hmatch⟩ := findMatch_some hist mine i hm
      have hle : i + mine.length ≤ max (i + mine.length) hist.length := Nat.le_max_left _ _
      refine ⟨hist.take i, (((hist ++ mine).take (max (i + mine.length) hist.length)).drop i).drop mine.length, ?_, rfl,
        List.prefix_take_iff.2 ⟨List.prefix_append _ _, Nat.le_max_right _ _⟩, fun h => Bool.noConfusion h⟩
      simp only
      conv => lhs; rw [← List.take_append_drop i (List.take _ _), ← List.take_append_drop mine.length (List.drop i _)]
      rw [List.take_take, Nat.min_eq_left (Nat.le_trans (Nat.le_add_right i _) hle),
        List.take_append_of_le_length (Nat.le_of_lt hi),
        (List.take_drop_congr (by rw [List.take_take, Nat.min_self]) hle).trans hmatch, List.append_assoc]

theorem placeBlocks_nil (base : Nat) (dd : Bool) (hist : List Stored) : placeBlocks base dd hist [] = (hist, 0, false) := by
  simp [placeBlocks]

theorem placeBlocks_dontDedup (base : Nat) (hist mine : List Stored) : (placeBlocks base true hist mine).2.2 = false := by
  unfold placeBlocks
  split <;> rfl

theorem placeBlocks_prefix (base : Nat) (dd : Bool) (hist mine : List Stored) :
    hist <+: (placeBlocks base dd hist mine).1 := by
  by_cases hne : mine = []
  · subst hne; rw [placeBlocks_nil]; exact List.prefix_refl _
  · obtain ⟨_, _, h⟩ := placeBlocks_spec base dd hist mine hne; exact h.ext

theorem placeBlocks_end_le (base : Nat) (dd : Bool) (hist mine : List Stored) :
    (placeBlocks base dd hist mine).2.1 + bytesOf mine ≤ base + bytesOf (placeBlocks base dd hist mine).1
    ∧ (placeBlocks base dd hist mine).2.1 - base + bytesOf mine ≤ bytesOf (placeBlocks base dd hist mine).1 := by
  by_cases hm : mine = []
  · rw [hm, placeBlocks_nil]; simp [bytesOf_nil]
  · obtain ⟨pre, post, h⟩ := placeBlocks_spec base dd hist mine hm
    rw [h.split, h.start, bytesOf_append, bytesOf_append, Nat.add_sub_cancel_left, Nat.add_assoc base]
    exact ⟨Nat.add_le_add_left (Nat.le_add_right _ _) _, Nat.le_add_right _ _⟩

/-- the cases of `placeTail` that yield a fragment reference; whether the tail fitted the open block is not recorded, so the
relation allows more steps than `placeTail` takes -/
inductive TailStep (P : Params) (F : Flags) (t : Bytes) : State → State → Nat → Nat → Prop where
  /-- deduplicated against a recorded fragment with the same key (`DONT_COMPRESS` setting, checksum, bytes) -/
  | hit (σ : State) (i o : Nat) : ⟨i, o, F.dontCompress, cksumOf P F t, t⟩ ∈ σ.chunks → F.dontDedup = false →
      TailStep P F t σ σ i o
  | append (σ : State) (fb : FragBlock) : σ.openFrag = some fb →
      TailStep P F t σ
        { σ with openFrag := some ⟨fb.data ++ t, fb.dontCompress || F.dontCompress⟩
                 chunks := ⟨σ.frags.length, fb.data.length, F.dontCompress, cksumOf P F t, t⟩ :: σ.chunks }
        σ.frags.length fb.data.length
  | fresh (σ : State) : σ.openFrag = none →
      TailStep P F t σ
        { σ with openFrag := some ⟨t, F.dontCompress⟩
                 chunks := ⟨σ.frags.length, 0, F.dontCompress, cksumOf P F t, t⟩ :: σ.chunks }
        σ.frags.length 0
  /-- the open block is closed (stored, table entry filled) first -/
  | close (σ σ' : State) (i o : Nat) : TailStep P F t (closeOpen P σ) σ' i o → TailStep P F t σ σ' i o

theorem closeOpen_openFrag (P : Params) (σ : State) : (closeOpen P σ).openFrag = none := by
  unfold closeOpen
  cases ho : σ.openFrag <;> simp [ho]

theorem closeOpen_chunks (P : Params) (σ : State) : (closeOpen P σ).chunks = σ.chunks := by
  unfold closeOpen
  cases σ.openFrag <;> rfl

theorem TailStep.chunks {P : Params} {F : Flags} {t : Bytes} {σ σ' : State} {i o : Nat} (h : TailStep P F t σ σ' i o) :
    σ'.chunks = σ.chunks ∨ σ'.chunks = ⟨i, o, F.dontCompress, cksumOf P F t, t⟩ :: σ.chunks := by
  induction h with
  | hit => exact Or.inl rfl
  | append => exact Or.inr rfl
  | fresh => exact Or.inr rfl
  | close σ σ' i o _ ih => rwa [closeOpen_chunks] at ih

theorem lookupChunk_some (chunks : List Chunk) (dc : Bool) (ck : UInt32) (t : Bytes) (c : Chunk)
    (h : lookupChunk chunks dc ck t = some c) : ⟨c.index, c.offset, dc, ck, t⟩ ∈ chunks := by
  unfold lookupChunk at h
  have h1 := List.find?_some h
  simp only [Bool.and_eq_true, beq_iff_eq] at h1
  obtain ⟨⟨rfl, rfl⟩, rfl⟩ := h1
  exact List.mem_of_find?_eq_some h

theorem addFragment_step (P : Params) (σ : State) (F : Flags) (t : Bytes) :
    TailStep P F t σ (addFragment P σ F (cksumOf P F t) t).1 (addFragment P σ F (cksumOf P F t) t).2.1
      (addFragment P σ F (cksumOf P F t) t).2.2 := by
  unfold addFragment
  cases ho : σ.openFrag with
  | none => simp only [ho]; exact .fresh σ ho
  | some fb =>
    simp only
    by_cases hfit : fb.data.length + t.length > P.B
    · simp only [hfit, if_true, closeOpen_openFrag]
      exact .close _ _ _ _ (.fresh _ (closeOpen_openFrag P σ))
    · simp only [hfit, if_false, ho]
      exact .append σ fb ho

theorem placeFrag_step (P : Params) (σ : State) (F : Flags) (t : Bytes) :
    TailStep P F t σ (placeFrag P σ F t).1 (placeFrag P σ F t).2.1 (placeFrag P σ F t).2.2 := by
  unfold placeFrag
  by_cases hd : F.dontDedup = true
  · rw [if_pos hd]; exact addFragment_step P σ F t
  · rw [if_neg hd]
    cases hl : lookupChunk σ.chunks F.dontCompress (cksumOf P F t) t with
    | none => exact addFragment_step P σ F t
    | some c => exact .hit σ _ _ (lookupChunk_some _ _ _ _ _ hl) (Bool.not_eq_true _ ▸ hd)

/-- the stored blocks of the file's data blocks -/
def mineOf (P : Params) (f : InFile) : List Stored := ((dataBlocksOf P.B f).map (workData P f.flags)).filterMap Worked.stored?

/-- the state after the file's data blocks have been placed -/
def afterBlocks (P : Params) (σ : State) (f : InFile) : State :=
  { σ with hist := (placeBlocks P.base f.flags.dontDedup σ.hist (mineOf P f)).1 }

theorem mineOf_eq (P : Params) (f : InFile) : mineOf P f = (workedOf P f).filterMap Worked.stored? := by
  rw [workedOf_eq, List.filterMap_append, mineOf]
  split <;> simp [Worked.stored?]

theorem packFile_start (P : Params) (σ : State) (f : InFile) :
    (packFile P σ f).2.start = (placeBlocks P.base f.flags.dontDedup σ.hist (mineOf P f)).2.1 := by
  rw [packFile_eq, mineOf_eq]; split <;> rfl

theorem packFile_shared (P : Params) (σ : State) (f : InFile) :
    (packFile P σ f).2.shared = (placeBlocks P.base f.flags.dontDedup σ.hist (mineOf P f)).2.2 := by
  rw [packFile_eq, mineOf_eq]; split <;> rfl

/-- the state `packFile` leaves: no fragment step (no tail, a tail stored as a block, a sparse tail), or a `TailStep` from the
state after block placement -/
theorem packFile_step (P : Params) (σ : State) (f : InFile) :
    ((packFile P σ f).1 = afterBlocks P σ f ∧ (packFile P σ f).2.frag = none)
    ∨ ∃ i o, (packFile P σ f).2.frag = some (i, o)
        ∧ TailStep P f.flags (tailOf P.B f.data) (afterBlocks P σ f) (packFile P σ f).1 i o := by
  rw [packFile_eq, afterBlocks, mineOf_eq]
  split
  · exact Or.inr ⟨_, _, rfl, placeFrag_step P _ f.flags _⟩
  · exact Or.inl ⟨rfl, rfl⟩

theorem packFile_state (P : Params) (σ : State) (f : InFile) {Q : State → Prop} (h0 : Q (afterBlocks P σ f))
    (hts : ∀ σ' i o, TailStep P f.flags (tailOf P.B f.data) (afterBlocks P σ f) σ' i o → Q σ') : Q (packFile P σ f).1 := by
  rcases packFile_step P σ f with ⟨h, _⟩ | ⟨i, o, _, h⟩
  · rw [h]; exact h0
  · exact hts _ i o h

/-! ## fragment slots

A tail end goes into the open fragment block; later that block is closed, i.e. stored and entered in the fragment table.
What is known of the block while it is open (`O`), if it survives appending and is carried over by closing to the table
entry (`C`), is known of the entry the file's fragment reference points to in the end (`specPack_frag` in
`Sqfs/Proofs/PackInv.lean`).  That a `dont_compress` tail lies in a block stored raw, that a `dont_deduplicate` tail has a
slot of its own, and that a tail is read back are three such rules. -/

/-- A rule: what is to hold of the block that holds the recorded fragment `c` — `O c` while it is open, `C c` of the data area
and its table entry once it is closed. -/
structure FragRule (P : Params) where
  C : Chunk → List Stored → FragEntry → Prop
  O : Chunk → FragBlock → Prop
  hist : ∀ {c h h' e}, h <+: h' → C c h e → C c h' e
  grow : ∀ {c fb} (t : Bytes) (dc : Bool), O c fb → O c ⟨fb.data ++ t, fb.dontCompress || dc⟩
  close : ∀ {c fb} (h : List Stored), O c fb →
    C c (h ++ [workFragBlock P fb]) ⟨P.base + bytesOf h, (workFragBlock P fb).data.length, (workFragBlock P fb).raw⟩
  fresh : ∀ i dc ck t, O ⟨i, 0, dc, ck, t⟩ ⟨t, dc⟩
  append : ∀ i dc ck t (fb : FragBlock), O ⟨i, fb.data.length, dc, ck, t⟩ ⟨fb.data ++ t, fb.dontCompress || dc⟩

/-- fragment block `k` is closed and `R.C c` holds, or it is the open block and `R.O c` holds -/
def Slot {P : Params} (R : FragRule P) (c : Chunk) (σ : State) (k : Nat) : Prop :=
  (∃ e, σ.frags[k]? = some e ∧ R.C c σ.hist e) ∨ (k = σ.frags.length ∧ ∃ fb, σ.openFrag = some fb ∧ R.O c fb)

/-- every recorded fragment has its slot -/
def ChunksIn {P : Params} (R : FragRule P) (σ : State) : Prop := ∀ c ∈ σ.chunks, Slot R c σ c.index

/-- the recorded fragment a fragment reference `(i, o)` of file `f` stands for -/
def chunkOf (P : Params) (f : InFile) (i o : Nat) : Chunk :=
  ⟨i, o, f.flags.dontCompress, cksumOf P f.flags (tailOf P.B f.data), tailOf P.B f.data⟩

/-- the file's fragment reference has its slot -/
def FragGood {P : Params} (R : FragRule P) (σ : State) (f : InFile) (r : FileResult) : Prop :=
  ∀ i o, r.frag = some (i, o) → Slot R (chunkOf P f i o) σ i

variable {P : Params} {R : FragRule P}

theorem Slot.hist {σ : State} {c : Chunk} {k : Nat} {h' : List Stored} (hp : σ.hist <+: h') (hs : Slot R c σ k) :
    Slot R c { σ with hist := h' } k :=
  hs.imp (fun ⟨e, he, hc⟩ => ⟨e, he, R.hist hp hc⟩) id

theorem Slot.closeOpen {σ : State} {c : Chunk} {k : Nat} (hs : Slot R c σ k) : Slot R c (closeOpen P σ) k := by
  unfold Pack.closeOpen
  cases ho : σ.openFrag with
  | none => exact hs
  | some fb =>
    left
    rcases hs with ⟨e, he, hc⟩ | ⟨hk, fb', hfb, hO⟩
    · exact ⟨e, by rw [List.getElem?_append_left (List.getElem?_eq_some_iff.1 he).1]; exact he, R.hist (List.prefix_append _ _) hc⟩
    · cases ho.symm.trans hfb
      exact ⟨_, by rw [hk]; exact List.getElem?_concat_length, R.close σ.hist hO⟩

theorem Slot.tailStep {F : Flags} {t : Bytes} {σ σ' : State} {i o : Nat} (h : TailStep P F t σ σ' i o) {c : Chunk} {k : Nat}
    (hs : Slot R c σ k) : Slot R c σ' k := by
  induction h with
  | hit => exact hs
  | append σ fb ho =>
    refine hs.imp id fun ⟨hk, fb', hfb, hO⟩ => ?_
    cases ho.symm.trans hfb
    exact ⟨hk, _, rfl, R.grow t F.dontCompress hO⟩
  | fresh σ ho =>
    refine hs.imp id fun ⟨_, fb', hfb, _⟩ => ?_
    cases ho.symm.trans hfb
  | close _ _ _ _ _ ih => exact ih hs.closeOpen

theorem Slot.packFile {σ : State} (f : InFile) {c : Chunk} {k : Nat} (hs : Slot R c σ k) : Slot R c (packFile P σ f).1 k :=
  have h1 := hs.hist (placeBlocks_prefix P.base f.flags.dontDedup σ.hist (mineOf P f))
  packFile_state P σ f h1 (fun _ _ _ hts => h1.tailStep hts)

theorem ChunksIn.closeOpen {σ : State} (hc : ChunksIn R σ) : ChunksIn R (closeOpen P σ) :=
  fun c hcm => (hc c (closeOpen_chunks P σ ▸ hcm)).closeOpen

theorem TailStep.slot {F : Flags} {t : Bytes} {σ σ' : State} {i o : Nat} (h : TailStep P F t σ σ' i o) (hc : ChunksIn R σ) :
    Slot R ⟨i, o, F.dontCompress, cksumOf P F t, t⟩ σ' i := by
  induction h with
  | hit σ i o hm => exact hc _ hm
  | append σ fb ho => exact Or.inr ⟨rfl, _, rfl, R.append _ _ _ _ fb⟩
  | fresh σ ho => exact Or.inr ⟨rfl, _, rfl, R.fresh _ _ _ _⟩
  | close _ _ _ _ _ ih => exact ih hc.closeOpen

theorem TailStep.chunksIn {F : Flags} {t : Bytes} {σ σ' : State} {i o : Nat} (h : TailStep P F t σ σ' i o)
    (hc : ChunksIn R σ) : ChunksIn R σ' := by
  have hold : ∀ c ∈ σ.chunks, Slot R c σ' c.index := fun c hcm => (hc c hcm).tailStep h
  rcases h.chunks with e | e <;> rw [ChunksIn, e]
  · exact hold
  · exact List.forall_mem_cons.2 ⟨h.slot hc, hold⟩

theorem frag_step (R : FragRule P) (σ : State) (f : InFile) (hc : ChunksIn R σ) :
    ChunksIn R (packFile P σ f).1 ∧ FragGood R (packFile P σ f).1 f (packFile P σ f).2 := by
  have h1 : ChunksIn R (afterBlocks P σ f) := fun c hcm => (hc c hcm).hist (placeBlocks_prefix _ _ _ _)
  rcases packFile_step P σ f with ⟨h, hfr⟩ | ⟨i, o, hfr, hts⟩
  · rw [h]; exact ⟨h1, fun i o h' => by rw [hfr] at h'; cases h'⟩
  · refine ⟨hts.chunksIn h1, fun i' o' h' => ?_⟩
    rw [hfr] at h'; cases h'
    exact hts.slot h1

theorem frag_mono (R : FragRule P) (σ : State) (f g : InFile) (r : FileResult) (hg : FragGood R σ g r) :
    FragGood R (packFile P σ f).1 g r :=
  fun i o hr => (hg i o hr).packFile f

theorem chunksIn_init (R : FragRule P) : ChunksIn R {} := fun _ hc => absurd hc List.not_mem_nil

end Sqfs.Pack
