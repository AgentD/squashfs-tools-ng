/-
Lemmas for C10: well-formed programs over metadata readers answer alike on reader objects that differ only in history;
what the text of a program guarantees (`WFEnds`: it reads only what it has positioned, and what it can end with), read off
each decoder of `C10Dec.lean` once, from which the decoders are seek-first and the loop fuel of the models is seen to suffice;
programs on views (`execV`); `read_value` restores the position.
-/
import Sqfs.Model.C10Dec
import Sqfs.Proofs.MetaReader
import Sqfs.Proofs.FuelInd
namespace Sqfs.C10P
open Sqfs.MetaReader Sqfs.Consts
-- the decoders are long `if` chains; the default `split` doubles its cost with every level of a nested `if`
set_option backward.split false

@[simp] theorem set_same (S : Readers) (k : Nat) (m : MR) : (S.set k m) k = m := by
  unfold Readers.set; simp

theorem set_other (S : Readers) {j k : Nat} (m : MR) (h : j ≠ k) : (S.set k m) j = S j := by
  unfold Readers.set; simp [h]

theorem set_coherent {f : File} {unc : Codec} {S : Readers} (h : ∀ k, Coherent f unc (S k)) (k : Nat) {m : MR}
    (hm : Coherent f unc m) : ∀ j, Coherent f unc ((S.set k m) j) := by
  intro j
  by_cases hj : j = k
  · rw [hj, set_same]; exact hm
  · rw [set_other _ _ hj]; exact h j

theorem exec_bind {α β : Type} (fix : Bool) (f : File) (unc : Codec) (p : Prog α) (g : α → Prog β) :
    ∀ S : Readers, exec fix f unc (p.bind g) S =
      match exec fix f unc p S with
      | (.ok a, S') => exec fix f unc (g a) S'
      | (.error e, S') => (.error e, S') := by
  induction p with
  | ret a => intro S; rfl
  | fail e => intro S; rfl
  | seek k b o c ih =>
    intro S
    simp only [Prog.bind, exec]
    split
    · rfl
    · exact ih _
  | read k n c ih =>
    intro S
    simp only [Prog.bind, exec]
    split
    · rfl
    · exact ih _ _
  | pos k c ih =>
    intro S
    simp only [Prog.bind, exec]
    exact ih _ _

/-- the families of reader objects `S` (used) and `S'` (reference): reader by reader coherent over one window that the two share,
and the readers flagged in `fl` moreover related by `Obs` (`Sqfs/Proofs/MetaReader.lean`) -/
def Rel (f : File) (unc : Codec) (fl : Nat → Bool) (S S' : Readers) : Prop :=
  ∀ k, ∃ w, CohW f unc w (S k) ∧ CohW f unc w (S' k) ∧ (fl k = true → Obs f unc (S k) (S' k))

theorem Rel.weaken {f : File} {unc : Codec} {fl : Nat → Bool} {S S' : Readers} (h : Rel f unc fl S S') :
    Rel f unc noneYet S S' := by
  intro k
  obtain ⟨w, a, b, _⟩ := h k
  exact ⟨w, a, b, fun h => nomatch h⟩

theorem Rel.set {f : File} {unc : Codec} {fl : Nat → Bool} {S S' : Readers} (h : Rel f unc fl S S') (k : Nat) {w : Nat × Nat}
    {m m' : MR} (c : CohW f unc w m) (c' : CohW f unc w m')
    (fl' : Nat → Bool) (hfl : ∀ j, j ≠ k → fl' j = true → fl j = true) (ho : fl' k = true → Obs f unc m m') :
    Rel f unc fl' (S.set k m) (S'.set k m') := by
  intro j
  by_cases hj : j = k
  · subst hj
    rw [set_same, set_same]
    exact ⟨w, c, c', ho⟩
  · rw [set_other _ _ hj, set_other _ _ hj]
    obtain ⟨w', a, b, e⟩ := h j
    exact ⟨w', a, b, fun hf => e (hfl j hj hf)⟩

/-- The conclusion is `Rel … noneYet`: what a program has positioned is forgotten at its end, so the next one has to seek first. -/
theorem exec_obs {α : Type} {f : File} {unc : Codec} (hc : CodecOK unc) (p : Prog α) :
    ∀ (fl : Nat → Bool) (S S' : Readers), Rel f unc fl S S' → WF fl p →
      (exec true f unc p S).1 = (exec true f unc p S').1 ∧
      Rel f unc noneYet (exec true f unc p S).2 (exec true f unc p S').2 := by
  induction p with
  | ret a => intro fl S S' hR _; exact ⟨rfl, hR.weaken⟩
  | fail e => intro fl S S' hR _; exact ⟨rfl, hR.weaken⟩
  | seek k b o c ih =>
    intro fl S S' hR hwf
    obtain ⟨w, c₁, c₂, _⟩ := hR k
    obtain ⟨e1, e2⟩ := c₁.sim_seek hc c₂ b o
    have hset := hR.set k (c₁.of_seek hc b o) (c₂.of_seek hc b o)
    unfold exec
    simp only
    rw [← e1]
    by_cases h0 : (MetaReader.seek true f unc (S k) b o).1 = 0
    · simp only [h0, ne_eq, not_true_eq_false, if_false]
      refine ih (fun j => j == k || fl j) _ _ (hset _ (fun j hj hf => ?_) fun _ => Or.inl (e2 h0)) hwf
      have : (j == k) = false := by simpa using hj
      simpa [this] using hf
    · simp only [h0, ne_eq, not_false_eq_true, if_true]
      exact ⟨trivial, hset noneYet (fun _ _ h => nomatch h) (fun h => nomatch h)⟩
  | read k n c ih =>
    intro fl S S' hR hwf
    obtain ⟨hfk, hwf'⟩ := hwf
    obtain ⟨w, c₁, c₂, ho⟩ := hR k
    obtain ⟨e1, e2, e3⟩ := obs_read hc (ho hfk) n
    have hset := hR.set k (c₁.of_read hc n) (c₂.of_read hc n)
    unfold exec
    simp only
    rw [← e1, ← e2]
    by_cases h0 : (MetaReader.read true f unc (S k) n).1 = 0
    · simp only [h0, ne_eq, not_true_eq_false, if_false]
      exact ih _ fl _ _ (hset fl (fun _ _ h => h) fun _ => e3) (hwf' _)
    · simp only [h0, ne_eq, not_false_eq_true, if_true]
      exact ⟨trivial, hset noneYet (fun _ _ h => nomatch h) (fun h => nomatch h)⟩
  | pos k c ih =>
    intro fl S S' hR hwf
    obtain ⟨hfk, hwf'⟩ := hwf
    obtain ⟨_, _, _, ho⟩ := hR k
    unfold exec
    rw [← obs_getPos hc (ho hfk)]
    exact ih _ fl S S' hR (hwf' _)

theorem WF_mono {α : Type} (p : Prog α) : ∀ (fl fl' : Nat → Bool), (∀ k, fl k = true → fl' k = true) → WF fl p → WF fl' p := by
  induction p with
  | ret a => intro _ _ _ _; trivial
  | fail e => intro _ _ _ _; trivial
  | seek k b o c ih =>
    intro fl fl' h hw
    apply ih _ _ _ hw
    intro j hj
    simp only [Bool.or_eq_true] at hj ⊢
    cases hj with
    | inl h1 => exact Or.inl h1
    | inr h2 => exact Or.inr (h j h2)
  | read k n c ih =>
    intro fl fl' h hw
    exact ⟨h k hw.1, fun bs => ih bs fl fl' h (hw.2 bs)⟩
  | pos k c ih =>
    intro fl fl' h hw
    exact ⟨h k hw.1, fun p => ih p fl fl' h (hw.2 p)⟩

/-- the continuation starts with at least what was positioned before the first part -/
theorem WF_bind {α β : Type} (p : Prog α) (g : α → Prog β) :
    ∀ fl : Nat → Bool, WF fl p → (∀ a, WF fl (g a)) → WF fl (p.bind g) := by
  induction p with
  | ret a => exact fun _ _ hg => hg a
  | fail e => exact fun _ _ _ => trivial
  | seek k b o c ih => exact fun fl hw hg => ih _ hw fun a => WF_mono _ fl _ (fun j hj => by simp [hj]) (hg a)
  | read k n c ih => exact fun fl hw hg => ⟨hw.1, fun bs => ih bs fl (hw.2 bs) hg⟩
  | pos k c ih => exact fun fl hw hg => ⟨hw.1, fun p => ih p fl (hw.2 p) hg⟩

theorem WF_ite {α : Type} {fl : Nat → Bool} {c : Prop} [Decidable c] {p q : Prog α} :
    WF fl (if c then p else q) ↔ (c → WF fl p) ∧ (¬ c → WF fl q) := by
  split <;> simp [*]

/-- started with the readers in `fl` positioned, the program reads and asks positions only on readers that are positioned
(`WF`), every value it can return satisfies `P`, and it never fails with `e` of its own accord (`e`: the model-only status that
`exec_ends` then excludes from every run; `loopFuelSt` wherever this is used) -/
def WFEnds {α : Type} (P : α → Prop) (e : Status) : (Nat → Bool) → Prog α → Prop
  | _, .ret a => P a
  | _, .fail e' => e' ≠ e
  | fl, .seek k _ _ c => WFEnds P e (fun j => j == k || fl j) c
  | fl, .read k _ c => fl k = true ∧ ∀ bs, WFEnds P e fl (c bs)
  | fl, .pos k c => fl k = true ∧ ∀ q, WFEnds P e fl (c q)

theorem WFEnds.wf {α : Type} {P : α → Prop} {e : Status} {p : Prog α} : ∀ {fl : Nat → Bool}, WFEnds P e fl p → WF fl p := by
  induction p with
  | ret a => exact fun _ => trivial
  | fail e' => exact fun _ => trivial
  | seek k b o c ih => exact fun h => ih h
  | read k n c ih => exact fun h => ⟨h.1, fun bs => ih bs (h.2 bs)⟩
  | pos k c ih => exact fun h => ⟨h.1, fun q => ih q (h.2 q)⟩

theorem WFEnds_ite {α : Type} {P : α → Prop} {e : Status} {fl : Nat → Bool} {c : Prop} [Decidable c] {p q : Prog α} :
    WFEnds P e fl (if c then p else q) ↔ (c → WFEnds P e fl p) ∧ (¬ c → WFEnds P e fl q) := by
  split <;> simp [*]

/-- the first part leaves more readers positioned than `fl`: the continuation is asked for every flag set (the decoders seek first) -/
theorem WFEnds_bind {α β : Type} {P : α → Prop} {Q : β → Prop} {e : Status} (p : Prog α) (g : α → Prog β) :
    ∀ fl : Nat → Bool, WFEnds P e fl p → (∀ a, P a → ∀ fl', WFEnds Q e fl' (g a)) → WFEnds Q e fl (p.bind g) := by
  induction p with
  | ret a => exact fun fl hp hg => hg a hp fl
  | fail e' => exact fun _ hp _ => hp
  | seek k b o c ih => exact fun fl hp hg => ih _ hp hg
  | read k n c ih => exact fun fl hp hg => ⟨hp.1, fun bs => ih bs fl (hp.2 bs) hg⟩
  | pos k c ih => exact fun fl hp hg => ⟨hp.1, fun q => ih q fl (hp.2 q) hg⟩

theorem error_ne_of_lt {α : Type} {st e : Status} (hlt : st < crashSt) (he : crashSt ≤ e) :
    (Except.error st : Except Status α) ≠ .error e :=
  fun h => Nat.not_lt.mpr he (Except.error.inj h ▸ hlt)

/-- `crashSt ≤ e`: a model-only status (≥ 1000) is reported only if the program fails with it of its own accord -/
theorem exec_ends {α : Type} {f : File} {unc : Codec} (hc : CodecOK unc) (P : α → Prop) {e : Status} (he : crashSt ≤ e)
    (p : Prog α) : ∀ {fl : Nat → Bool} (S : Readers), (∀ k, Coherent f unc (S k)) → WFEnds P e fl p →
      (exec true f unc p S).1 ≠ .error e := by
  induction p with
  | ret a => intro _ S _ _; nofun
  | fail e0 => intro _ S _ hp h; cases h; exact hp rfl
  | seek k b o c ih =>
    intro fl S hS hp
    have hk := seek_coherent hc (hS k) b o
    have hlt := (seek_post (fix := true) (f := f) hc (S k) b o).1
    simp only [exec]
    split
    · exact error_ne_of_lt hlt he
    · exact ih _ (set_coherent hS k hk) hp
  | read k n c ih =>
    intro fl S hS hp
    have hk := read_coherent hc (hS k) n
    have hlt := read_status_lt hc (hS k) n
    simp only [exec]
    split
    · exact error_ne_of_lt hlt he
    · exact ih _ _ (set_coherent hS k hk) (hp.2 _)
  | pos k c ih => intro fl S hS hp; exact ih _ S hS (hp.2 _)

theorem readIndexP_walk {α : Type} {P : α → Prop} (e : Status) (he : errAlloc ≠ e) (k : Nat) (fl : Nat → Bool) (hk : fl k = true)
    (n im : Nat) (acc : Bytes) (cont : Bytes → Prog α) (h : ∀ bs, WFEnds P e fl (cont bs)) :
    WFEnds P e fl (readIndexP k n im acc cont) := by
  fun_induction readIndexP k n im acc cont
  case case1 => exact h _
  case case2 ih =>
    simp only [WFEnds, WFEnds_ite, hk, he, ne_eq, not_false_eq_true, implies_true, true_and]
    exact fun ent _ name => ih ent name h

/-- `read_inode` fails of its own accord only with `SQFS_ERROR_UNSUPPORTED`, `SQFS_ERROR_OVERFLOW` or
`SQFS_ERROR_ALLOC` -/
theorem readInodeP_walk (k tblStart blockSize b o : Nat) (e : Status) (h1 : errUnsupported ≠ e) (h2 : errOverflow ≠ e)
    (h3 : errAlloc ≠ e) (fl : Nat → Bool) : WFEnds (fun _ => True) e fl (readInodeP k tblStart blockSize b o) := by
  unfold readInodeP
  have hk : (fun j => j == k || fl j) k = true := by simp
  refine ⟨hk, fun h => ?_⟩
  simp only
  split
  · exact h1
  · simp only [WFEnds, WFEnds_ite, hk, h2, h3, ne_eq, not_false_eq_true, implies_true, and_true, true_and]
    intro _ _ _ _ _ d _
    exact readIndexP_walk e h3 k _ hk _ _ _ _ (fun _ => trivial)

theorem readInodeP_wf (k tblStart blockSize b o : Nat) : WF noneYet (readInodeP k tblStart blockSize b o) :=
  (readInodeP_walk k tblStart blockSize b o loopFuelSt (by decide) (by decide) (by decide) _).wf

theorem readdirEntP_walk (k : Nat) (it : Rd) (bound : Nat) (hb : it.size ≤ bound) (fl : Nat → Bool) :
    WFEnds (fun r : RdRes × Rd => match r.1 with | .eof => True | .ent _ _ => r.2.size < bound) loopFuelSt fl
      (readdirEntP k it) := by
  unfold readdirEntP
  simp only [WFEnds, WFEnds_ite, implies_true, true_and, beq_self_eq_true, Bool.true_or]
  intro _ e name q
  have : sizeofDirNode = 8 := rfl
  split <;> omega

/-- `sqfs_meta_reader_readdir`: an entry that is delivered has used up some of the cursor's `size` -/
theorem readdirP_walk (k : Nat) (it : Rd) (fl : Nat → Bool) :
    WFEnds (fun r : RdRes × Rd => match r.1 with | .eof => True | .ent _ _ => r.2.size < it.size) loopFuelSt fl
      (readdirP k it) := by
  unfold readdirP
  simp only [WFEnds, WFEnds_ite, implies_true, true_and, beq_self_eq_true, Bool.true_or]
  refine ⟨fun _ _ h => ⟨fun _ => by decide, fun _ q => readdirEntP_walk _ _ _ ?_ _⟩,
    fun _ => readdirEntP_walk k it it.size (Nat.le_refl _) fl⟩
  simp only
  omega

theorem readdirP_wf (k : Nat) (it : Rd) : WF noneYet (readdirP k it) := (readdirP_walk k it _).wf

/-! That a loop does not run out of fuel is read off the program: the leaves of one round say how much of the measure it used. -/

/-- the listing loop: every entry consumes at least 9 bytes of `it.size` -/
theorem listGoP_walk (d : DirRd) : ∀ (fuel : Nat) (it : Rd), it.size < fuel → ∀ (acc : List (Entry × Nat)) (fl : Nat → Bool),
    WFEnds (fun _ => True) loopFuelSt fl (listGoP d fuel it acc) := by
  refine fuel_ind Rd.size fun fuel it ih acc fl => ?_
  unfold listGoP
  refine WFEnds_bind _ _ fl (readdirP_walk 1 it fl) fun r hr fl' => ?_
  split
  · trivial
  · rename_i heq
    rw [heq] at hr
    exact ih _ (by omega) _ _

/-- `r.2`: the length of the component that matched -/
theorem findEntP_walk (d : DirRd) (path : Bytes) : ∀ (fuel : Nat) (it : Rd), it.size < fuel → ∀ fl : Nat → Bool,
    WFEnds (fun r : Nat × Nat => 1 ≤ r.2) loopFuelSt fl (findEntP d path fuel it) := by
  refine fuel_ind Rd.size fun fuel it ih fl => ?_
  unfold findEntP
  refine WFEnds_bind _ _ fl (readdirP_walk 1 it fl) fun r hr fl' => ?_
  split
  · exact fun h => by cases h
  · rename_i heq
    rw [heq] at hr
    exact WFEnds_ite.2 ⟨fun _ => Nat.le_add_left _ _, fun _ => ih _ (by omega) _⟩

/-- `open_dir` fails with `SQFS_ERROR_NOT_DIR` only, so not with `loopFuelSt` -/
theorem openDir_err (d : DirRd) (ino : InodeR) (e : Status) (h : d.openDir ino = .error e) : e ≠ loopFuelSt := by
  unfold DirRd.openDir at h
  split at h
  · cases h
  · split at h <;> cases h
    decide

theorem listP_walk (d : DirRd) (ref : Nat) (fl : Nat → Bool) : WFEnds (fun _ => True) loopFuelSt fl (d.listP ref) := by
  unfold DirRd.listP
  refine WFEnds_bind _ _ fl (readInodeP_walk _ _ _ _ _ loopFuelSt (by decide) (by decide) (by decide) fl) fun ino _ fl' => ?_
  split
  · exact openDir_err d ino _ ‹_›
  · exact listGoP_walk d _ _ (by omega) [] fl'

theorem listP_wf (d : DirRd) (ref : Nat) : WF noneYet (d.listP ref) := (listP_walk d ref _).wf

theorem dropSlashes_length (p : Bytes) : (dropSlashes p).length ≤ p.length := by
  induction p with
  | nil => simp [dropSlashes]
  | cons a p ih =>
    unfold dropSlashes
    split
    · rename_i r heq
      cases heq
      simp only [List.length_cons]
      omega
    · rename_i heq
      simp

/-- path resolution: every component consumes at least one byte of the path -/
theorem resolveGoP_walk (d : DirRd) : ∀ (fuel : Nat) (path : Bytes), path.length < fuel → ∀ (cur : Nat) (fl : Nat → Bool),
    WFEnds (fun _ => True) loopFuelSt fl (resolveGoP d fuel path cur) := by
  refine fuel_ind List.length fun fuel path ih cur fl => ?_
  unfold resolveGoP
  simp only
  have hdl := dropSlashes_length path
  split
  · trivial
  rename_i hne
  have hpos : 0 < (dropSlashes path).length := by
    cases hp : dropSlashes path with
    | nil => rw [hp] at hne; simp at hne
    | cons a l => simp
  refine WFEnds_bind _ _ fl (readInodeP_walk _ _ _ _ _ loopFuelSt (by decide) (by decide) (by decide) fl) fun ino _ fl' => ?_
  split
  · exact openDir_err d ino _ ‹_›
  · refine WFEnds_bind _ _ fl' (findEntP_walk d _ _ _ (by omega) fl') fun r hr fl'' => ih _ ?_ _ _
    simp only [List.length_drop]
    omega

theorem resolveP_wf (d : DirRd) (path : Bytes) : WF noneYet (d.resolveP path) :=
  (resolveGoP_walk d _ path (Nat.lt_succ_self _) d.rootRef _).wf

theorem listSession_wf (d : DirRd) : ∀ (fuel : Nat) (it : Rd) (acc : List (Entry × Nat)), (listSession d fuel it acc).WF := by
  intro fuel
  induction fuel with
  | zero => intro _ _; trivial
  | succ fuel ih =>
    intro it acc
    refine ⟨readdirP_wf 1 it, fun r => ?_⟩
    cases r with
    | error e => trivial
    | ok v =>
      obtain ⟨res, it'⟩ := v
      cases res with
      | eof => trivial
      | ent e iref => exact ih _ _

theorem getDescP_wf (x : XR) (idx : Nat) : WF noneYet (x.getDescP idx) := by
  unfold XR.getDescP
  simp [WF, WF_ite]

theorem readKeyP_wf {α : Type} (x : XR) (fl : Nat → Bool) (h1 : fl 1 = true) (cont : Nat × Nat × Bytes → Prog α)
    (hcont : ∀ r, WF fl (cont r)) : WF fl (x.readKeyP cont) := by
  unfold XR.readKeyP
  refine ⟨h1, fun h => ?_⟩
  simp only
  split
  · trivial
  · exact ⟨h1, fun kb => hcont _⟩

theorem readValueP_wf {α : Type} (x : XR) (fl : Nat → Bool) (h1 : fl 1 = true) (ab keyType : Nat) (cont : Bytes → Prog α)
    (hcont : ∀ v, WF fl (cont v)) : WF fl (x.readValueP ab keyType cont) := by
  unfold XR.readValueP
  simp only [WF, WF_ite, h1, true_and, implies_true, Bool.or_eq_true, beq_self_eq_true, true_or]
  -- after the detour the continuation finds reader 1 sought twice more
  exact fun v => ⟨fun _ r _ p v2 _ val => WF_mono _ fl _ (fun k hk => by simp [hk]) (hcont val), fun _ _ val => hcont val⟩

theorem readPairsP_wf (x : XR) (n : Nat) (acc : List (Bytes × Bytes)) (fl : Nat → Bool) (h1 : fl 1 = true) :
    WF fl (x.readPairsP n acc) := by
  fun_induction XR.readPairsP x n acc
  case case1 => trivial
  case case2 ih => exact readKeyP_wf x fl h1 _ fun k => readValueP_wf x fl h1 _ _ _ fun v => ih k v

/-- `seek_kv` positions the key/value reader for the stepping calls that follow -/
theorem seekKv_pairs_wf (x : XR) (desc : XDesc) (n : Nat) (fl : Nat → Bool) : WF fl (x.seekKvP desc (x.readPairsP n [])) :=
  WF_ite.2 ⟨fun _ => trivial, fun _ => readPairsP_wf x _ _ _ (by simp)⟩

theorem readAllP_wf (x : XR) (idx : Nat) : WF noneYet (x.readAllP idx) :=
  WF_ite.2 ⟨fun _ => trivial, fun _ => WF_bind _ _ _ (getDescP_wf x idx) fun d => seekKv_pairs_wf x d _ _⟩

theorem readTableGoP_wf : ∀ (fuel : Nat) (locs : List Nat) (size : Nat) (acc : Bytes) (fl : Nat → Bool), WF fl (readTableGoP fuel locs size acc) := by
  intro fuel
  induction fuel with
  | zero => intro _ _ _ _; trivial
  | succ fuel ih =>
    intro locs size acc fl
    cases locs with
    | nil => trivial
    | cons start locs =>
      unfold readTableGoP
      exact WF_ite.2 ⟨fun _ => trivial, fun _ => ⟨by simp, fun bs => ih _ _ _ _⟩⟩

theorem interleave_eq (fix : Bool) (f : File) (unc : Codec) (S : Readers) (hs : List (Nat → List Op)) :
    interleave fix f unc S hs = disturb fix f unc S (hs.headD fun _ => []) := by
  cases hs <;> rfl

theorem rel_disturb {f : File} {unc : Codec} (hc : CodecOK unc) {fl : Nat → Bool} {S S' : Readers} (h : Rel f unc fl S S')
    (hist hist' : Nat → List Op) : Rel f unc noneYet (disturb true f unc S hist) (disturb true f unc S' hist') := by
  intro k
  obtain ⟨w, a, b, _⟩ := h k
  exact ⟨w, a.of_run hc (hist k) _, b.of_run hc (hist' k) _, fun h => nomatch h⟩

theorem session_obs {α β : Type} {f : File} {unc : Codec} (hc : CodecOK unc) (s : Session α β) :
    ∀ (S S' : Readers) (hs hs' : List (Nat → List Op)), Rel f unc noneYet S S' → s.WF →
      (s.runI true f unc S hs).1 = (s.runI true f unc S' hs').1 := by
  induction s with
  | done b => intro _ _ _ _ _ _; rfl
  | call p next ih =>
    intro S S' hs hs' hR hwf
    unfold Session.runI
    simp only [interleave_eq]
    obtain ⟨e1, e2⟩ := exec_obs hc p noneYet _ _ (rel_disturb hc hR _ _) hwf.1
    rw [e1]
    exact ih _ _ _ _ _ e2 (hwf.2 _)

/-- the families reachable from freshly created readers (reader `k` created with window `w k`) -/
def usedFam (f : File) (unc : Codec) (w : Nat → Nat × Nat) (h : Nat → List Op) : Readers :=
  fun k => run true f unc (fresh (w k).1 (w k).2) (h k)

def freshFam (w : Nat → Nat × Nat) : Readers := fun k => fresh (w k).1 (w k).2

theorem rel_used_fresh {f : File} {unc : Codec} (hc : CodecOK unc) (w : Nat → Nat × Nat) (hw : ∀ k, (w k).2 ≤ NONE)
    (h : Nat → List Op) : Rel f unc noneYet (usedFam f unc w h) (freshFam w) := by
  intro k
  have c := CohW.fresh f unc (hw k)
  exact ⟨w k, c.of_run hc (h k) _, c, fun h => nomatch h⟩

/-- `exec true` on the views of the reader objects (`Sqfs/Proofs/MetaView.lean`) -/
def execV {α : Type} (f : File) (unc : Codec) : Prog α → (Nat → View) → Except Status α × (Nat → View)
  | .ret a, S => (.ok a, S)
  | .fail e, S => (.error e, S)
  | .seek k b o cont, S =>
    let r := View.seek f unc (S k) b o
    let S' := fun j => if j = k then r.2 else S j
    if r.1 ≠ 0 then (.error r.1, S') else execV f unc cont S'
  | .read k n cont, S =>
    let r := View.read f unc (S k) n
    let S' := fun j => if j = k then r.2.2 else S j
    if r.1 ≠ 0 then (.error r.1, S') else execV f unc (cont r.2.1) S'
  | .pos k cont, S => execV f unc (cont (View.getPos (S k))) S

theorem view_set (S : Readers) (k : Nat) (m : MR) :
    (fun j => view ((S.set k m) j)) = fun j => if j = k then view m else view (S j) := by
  funext j
  unfold Readers.set
  split <;> rfl

theorem view_ite (c : Nat → Prop) [DecidablePred c] (a b : MR) :
    (fun k => view (if c k then a else b)) = fun k => if c k then view a else view b := by
  funext k
  split <;> rfl

theorem view_exec {α : Type} (f : File) (unc : Codec) (p : Prog α) : ∀ S : Readers,
    execV f unc p (fun k => view (S k)) = ((exec true f unc p S).1, fun k => view ((exec true f unc p S).2 k)) := by
  induction p with
  | ret a => intro S; rfl
  | fail e => intro S; rfl
  | seek k b o c ih =>
    intro S
    simp only [execV, exec, view_seek]
    split
    · simp only [view_set]
    · rw [← view_set, ih]
  | read k n c ih =>
    intro S
    simp only [execV, exec, view_read]
    split
    · simp only [view_set]
    · rw [← view_set, ih]
  | pos k c ih => intro S; exact ih _ S

theorem exec_eq_view {α : Type} (f : File) (unc : Codec) (p : Prog α) (S : Readers) :
    (exec true f unc p S).1 = (execV f unc p (fun k => view (S k))).1 := by
  rw [view_exec]

theorem view_exec_state {α : Type} (f : File) (unc : Codec) (p : Prog α) (S : Readers) :
    (fun k => view ((exec true f unc p S).2 k)) = (execV f unc p (fun k => view (S k))).2 := by
  rw [view_exec]

theorem view_usedFam (f : File) (unc : Codec) (w : Nat → Nat × Nat) (h : Nat → List Op) :
    (fun k => view (usedFam f unc w h k)) =
      fun k => (h k).foldl (View.step f unc) ⟨(w k).1, (w k).2, NONE, 0, 0, 0, metaBlockSize, []⟩ := by
  funext k
  rw [usedFam, view_run, view_fresh]

/-- the two header reads every value starts with (`sizeof(sqfs_xattr_value_t)` and, out of line, the 8-byte
reference): the program against which the detour of `read_value` is measured -/
def valueHeaderP : Prog Unit := .read 1 sizeofXattrValue fun _ => .read 1 8 fun _ => .ret ()

theorem exec_read_ok {α : Type} {f : File} {unc : Codec} (hc : CodecOK unc) {k n : Nat} {c : Bytes → Prog α} {S : Readers} {v : α}
    {w : Nat × Nat} {m : MR} (hm : S k = m) (hk : CohW f unc w m) (h : (exec true f unc (.read k n c) S).1 = .ok v) :
    ∃ bs m', MetaReader.read true f unc m n = (0, bs, m') ∧ CohW f unc w m' ∧
      exec true f unc (.read k n c) S = exec true f unc (c bs) (S.set k m') := by
  subst hm
  have ck := hk.of_read hc n
  simp only [exec] at h ⊢
  generalize MetaReader.read true f unc (S k) n = r at *
  obtain ⟨st, bs, m'⟩ := r
  split at h
  · cases h
  · rename_i h0
    obtain rfl : st = 0 := Decidable.not_not.1 h0
    exact ⟨bs, m', rfl, ck, rfl⟩

theorem exec_seek_ok {α : Type} {f : File} {unc : Codec} (hc : CodecOK unc) {k b o : Nat} {c : Prog α} {S : Readers} {v : α}
    {w : Nat × Nat} {m : MR} (hm : S k = m) (hk : CohW f unc w m) (h : (exec true f unc (.seek k b o c) S).1 = .ok v) :
    (MetaReader.seek true f unc m b o).1 = 0 ∧ CohW f unc w (MetaReader.seek true f unc m b o).2 ∧
      exec true f unc (.seek k b o c) S = exec true f unc c (S.set k (MetaReader.seek true f unc m b o).2) := by
  subst hm
  simp only [exec] at h ⊢
  split at h
  · cases h
  · rename_i h0; exact ⟨Decidable.not_not.1 h0, hk.of_seek hc b o, if_neg h0⟩

theorem exec_pos {α : Type} (fix : Bool) (f : File) (unc : Codec) (k : Nat) (c : Nat × Nat → Prog α) (S : Readers) :
    exec fix f unc (.pos k c) S = exec fix f unc (c (getPos (S k))) S := rfl

/-- **`sqfs_xattr_reader_read_value` on an out-of-line value restores the position**: when it succeeds, the
key/value reader is left observationally equivalent to where it stood right behind the value's header and
reference; all other readers are untouched.  `Obs` is not symmetric: the run that skipped the value, which may stand at
a block end, is on the left. -/
theorem readValue_ool_obs {f : File} {unc : Codec} (hc : CodecOK unc) (x : XR) (kt : Nat) (hool : kt / xattrFlagOol % 2 = 1)
    (S : Readers) (hS : ∀ k, Coherent f unc (S k)) (v : Bytes) (hok : (exec true f unc (x.readValueApiP kt) S).1 = .ok v) :
    Rel f unc (fun k => k == 1) (exec true f unc valueHeaderP S).2 (exec true f unc (x.readValueApiP kt) S).2 := by
  unfold XR.readValueApiP XR.readValueP at hok ⊢
  simp only [hool, if_true] at hok ⊢
  -- the value header and the reference: the two reads of `valueHeaderP`
  obtain ⟨ba, ma, ra, ca, ea⟩ := exec_read_ok hc rfl (CohW.of_coherent (hS 1)) hok
  rw [ea] at hok ⊢
  obtain ⟨bb, mb, rb, cb, eb⟩ := exec_read_ok hc (set_same _ _ _) ca hok
  rw [eb] at hok ⊢
  clear ea eb
  simp only [valueHeaderP, exec, ra, set_same, rb, ne_eq, not_true_eq_false, if_false]
  by_cases hrange : wrap64 (x.xattrStart + leAt bb 0 8 / 65536) ≥ x.xattrEnd ∨ leAt bb 0 8 % 65536 ≥ metaBlockSize
  · rw [if_pos hrange] at hok; cases hok
  rw [if_neg hrange, exec_pos] at hok ⊢
  simp only [set_same] at hok ⊢
  -- the detour: seek to the value, its header, its bytes, seek back
  obtain ⟨_, cc, ec⟩ := exec_seek_ok hc (set_same _ _ _) cb hok
  rw [ec] at hok ⊢
  obtain ⟨bd, md, _, cd, ed⟩ := exec_read_ok hc (set_same _ _ _) cc hok
  rw [ed] at hok ⊢
  clear ec ed
  by_cases halloc : sizeofXattrValue + 1 + leAt bd 0 4 > allocLimit
  · rw [if_pos halloc] at hok; cases hok
  rw [if_neg halloc] at hok ⊢
  obtain ⟨be, me, _, ce, ee⟩ := exec_read_ok hc (set_same _ _ _) cd hok
  rw [ee] at hok ⊢
  obtain ⟨hf, cf, ef⟩ := exec_seek_ok hc (set_same _ _ _) ce hok
  rw [ef]
  simp only [exec]
  intro k
  by_cases hk : k = 1
  · subst hk
    simp only [set_same]
    exact ⟨_, cb, cf, fun _ => seek_back_obs hc cb ce hf⟩
  · simp only [set_other _ _ hk]
    exact ⟨_, CohW.of_coherent (hS k), CohW.of_coherent (hS k), fun h => absurd (by simpa using h) hk⟩

end Sqfs.C10P
