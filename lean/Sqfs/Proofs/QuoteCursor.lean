/-
Helper lemmas for C16: `split_line` consumes input on every iteration (fuel suffices) and its write cursor
never overtakes its read cursor.
-/
import Sqfs.Model.Quote
namespace Sqfs.Quote
open Sqfs.Path (Bytes)

/-- `+ 1`: the closing quote is consumed -/
theorem quoted_length (r tok rest : Bytes) (h : quoted r = .ok (tok, rest)) : rest.length + tok.length + 1 ≤ r.length := by
  fun_induction quoted r generalizing tok rest
  case case3 => cases h; exact Nat.le_refl _
  case case5 hx _ _ ih => cases h; exact Nat.succ_le_succ (Nat.le_succ_of_le (ih _ _ hx))
  case case8 hx ih => cases h; exact Nat.succ_le_succ (ih _ _ hx)
  all_goals cases h

theorem quoted_ne_fuel (r : Bytes) : quoted r ≠ .error .fuel := by
  fun_induction quoted r
  case case6 hx _ _ ih => exact fun h => ih (hx.trans h)
  case case9 hx ih => exact fun h => ih (hx.trans h)
  all_goals exact fun h => nomatch h

theorem unquoted_length (sep : Bytes) (s : Bytes) :
    (unquoted sep s).1.length + (unquoted sep s).2.length = s.length := by
  fun_induction unquoted sep s
  case case1 => rfl
  case case2 => exact Nat.zero_add _
  case case3 ih => exact (Nat.succ_add _ _).trans (congrArg Nat.succ ih)

theorem unquoted_stop (sep : Bytes) (s : Bytes) :
    (unquoted sep s).2 = [] ∨ ∃ c r, (unquoted sep s).2 = c :: r ∧ (isSep sep c = true ∨ c = NUL) := by
  fun_induction unquoted sep s
  case case1 => exact .inl rfl
  case case2 c r h => exact .inr ⟨c, r, rfl, by simpa using h⟩
  case case3 ih => exact ih

theorem skipSep_length (sep : Bytes) (s : Bytes) : (skipSep sep s).length ≤ s.length := by
  fun_induction skipSep sep s
  case case1 => exact Nat.le_refl _
  case case2 ih => exact Nat.le_succ_of_le ih
  case case3 => exact Nat.le_refl _

theorem skipSep_sep (sep : Bytes) (c : UInt8) (r : Bytes) (h : isSep sep c = true) :
    (skipSep sep (c :: r)).length ≤ r.length := by
  rw [skipSep, if_pos h]; exact skipSep_length sep r

theorem skipSep_nul (sep : Bytes) (r : Bytes) : skipSep sep (NUL :: r) = NUL :: r := by
  have : isSep sep NUL = false := by simp [isSep]
  simp [skipSep, this]

theorem skip_unquoted_length (sep : Bytes) (c : UInt8) (r : Bytes) (hc : c ≠ NUL) :
    (skipSep sep (unquoted sep (c :: r)).2).length ≤ r.length := by
  by_cases hs : isSep sep c = true
  · have : unquoted sep (c :: r) = ([], c :: r) := by simp [unquoted, hs]
    rw [this]; exact skipSep_sep sep c r hs
  · have : (unquoted sep (c :: r)).2 = (unquoted sep r).2 := by simp [unquoted, hs, hc]
    rw [this]
    exact Nat.le_trans (skipSep_length _ _) (Nat.le.intro ((Nat.add_comm _ _).trans (unquoted_length sep r)))

theorem splitLoop_fuel (sep : Bytes) : ∀ fuel s, s.length ≤ fuel → splitLoop sep fuel s ≠ .error .fuel := by
  intro fuel s
  fun_induction splitLoop sep fuel s <;> intro hs
  case case2 => cases hs
  case case4 hx _ => exact fun h => quoted_ne_fuel _ (hx.trans (by cases h; rfl))
  case case6 hq e hx _ ih =>
    refine fun h => ih (Nat.le_trans (skipSep_length _ _) ?_) (hx.trans h)
    have := quoted_length _ _ _ hq
    simp only [List.length_cons] at hs
    omega
  case case8 hc _ _ e hx ih =>
    exact fun h => ih (Nat.le_trans (skip_unquoted_length sep _ _ hc) (Nat.le_of_succ_le_succ hs)) (hx.trans h)
  all_goals exact fun h => nomatch h

/-- **in-place faithfulness**: at the start of every token the write cursor is not ahead of the read cursor.  The invariant has
two more disjuncts because an unquoted token that runs up to the end of the buffer or to a NUL moves `dst` one further than
`src` (its terminator, with no separator consumed); no token starts after that. -/
theorem splitPos_le (sep : Bytes) : ∀ fuel s dst sp l, splitPos sep fuel s dst sp = .ok l →
    (dst ≤ sp ∨ s = [] ∨ s.head? = some NUL) → ∀ p ∈ l, p.1 ≤ p.2 := by
  intro fuel s dst sp
  -- a token starts at a byte other than NUL, so the first disjunct holds there
  have start {c : UInt8} {r : Bytes} {dst sp : Nat} (hc : c ≠ NUL)
      (hinv : dst ≤ sp ∨ c :: r = [] ∨ (c :: r).head? = some NUL) : dst ≤ sp :=
    hinv.elim id fun h => h.elim (fun h => nomatch h) fun h => absurd (Option.some.inj h) hc
  fun_induction splitPos sep fuel s dst sp <;> intro l h hinv
  case case5 r dst sp tok rest hq _ l' hc hx ih =>
    cases h
    intro p hp
    rcases List.mem_cons.1 hp with rfl | hp
    · exact start hc hinv
    · refine ih _ hx (.inl ?_) p hp
      have := quoted_length _ _ _ hq
      have := skipSep_length sep rest
      have := start hc hinv
      show dst + tok.length + 1 ≤ sp + ((r.length + 1) - (skipSep sep rest).length)
      omega
  case case7 c r dst sp hc _ _ _ l' hx ih =>
    cases h
    intro p hp
    rcases List.mem_cons.1 hp with rfl | hp
    · exact start hc hinv
    · refine ih _ hx ?_ p hp
      have h0 := unquoted_length sep (c :: r)
      show dst + (unquoted sep (c :: r)).1.length + 1 ≤ sp + ((r.length + 1) - (skipSep sep (unquoted sep (c :: r)).2).length) ∨
        skipSep sep (unquoted sep (c :: r)).2 = [] ∨ (skipSep sep (unquoted sep (c :: r)).2).head? = some NUL
      rcases unquoted_stop sep (c :: r) with hs | ⟨x, y, hs, hx | rfl⟩
      · exact .inr (.inl (by rw [hs]; rfl))
      · refine .inl ?_
        have := skipSep_sep sep x y hx
        have := start hc hinv
        rw [hs] at h0 ⊢
        simp only [List.length_cons] at h0
        omega
      · exact .inr (.inr (by rw [hs, skipSep_nul]; rfl))
  all_goals cases h
  all_goals exact fun _ hp => nomatch hp

end Sqfs.Quote
