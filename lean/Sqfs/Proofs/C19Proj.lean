import Sqfs.Proofs.C19Ops
/-!
C19: what an object observes after an interleaving of events on it and on other objects is what it observes after its own
events alone (projection).  The two runs allocate buffer ids from different counters, so the object's part of the two heaps
agrees only up to a renaming `π` of buffer ids (`Iso`); every operation on the object commutes with such renamings
(`Iso.store`; `Iso.putSlot` for the step that `reallocSlot` and `releaseSlot` both are, the pair of fresh ids joining `π`).
-/
namespace Sqfs.Obj

/-- object `y` in `h2` is object `y` in `h1` up to a renaming `π` of the ids of its buffers: same slots (renamed), same contents -/
def Iso (y : Nat) (h1 h2 : Heap) : Prop :=
  ∃ (o1 o2 : Obj) (π : Nat → Nat), h1.objs y = some o1 ∧ h2.objs y = some o2 ∧
    o2.bufs = o1.bufs.map (Option.map π) ∧ o2.views = o1.views.map (Option.map π) ∧
    (∀ a b, some a ∈ o1.bufs → some b ∈ o1.bufs → π a = π b → a = b) ∧
    (∀ b, some b ∈ o1.bufs → h2.bufs (π b) = h1.bufs b)

theorem Iso.refl {y : Nat} {h : Heap} {o : Obj} (hy : h.objs y = some o) : Iso y h h :=
  ⟨o, o, id, hy, hy, by simp, by simp, fun _ _ _ _ h => h, fun _ _ => rfl⟩

theorem listGet_map (l : List (Option Nat)) (f : Nat → Nat) (i : Nat) :
    listGet (l.map (Option.map f)) i = (listGet l i).map f := by
  unfold listGet
  rw [List.getElem?_map]
  cases l[i]? with
  | none => rfl
  | some s => cases s <;> rfl

theorem view_iso {y : Nat} {h1 h2 : Heap} {U : Nat → Nat} (hb : Balanced h1 U) (hi : Iso y h1 h2) : view h2 y = view h1 y := by
  obtain ⟨o1, o2, π, h1y, h2y, eb, ev, _, hc⟩ := hi
  have hv := hb.views_owned h1y (by simp)
  unfold view
  simp only [h1y, h2y, Option.map_some, Option.some.injEq, eb, ev]
  rw [← List.map_append, List.map_map]
  apply List.map_congr_left
  intro s hs
  cases s with
  | none => rfl
  | some b =>
    simp [slotVal, hc b (mem_bufs_of_mem_slots hv hs)]

theorem Iso.keeps {y : Nat} {h1 h2 h1' h2' : Heap} {o1 o2 : Obj} (hi : Iso y h1 h2) (h1y : h1.objs y = some o1) (h2y : h2.objs y = some o2)
    (k1 : KeepsObj h1 h1' y o1) (k2 : KeepsObj h2 h2' y o2) : Iso y h1' h2' := by
  obtain ⟨p1, p2, π, e1, e2, eb, ev, hinj, hc⟩ := hi
  rw [h1y] at e1; cases e1
  rw [h2y] at e2; cases e2
  obtain ⟨o1', a1, a2, a3⟩ := k1
  obtain ⟨o2', b1, b2, b3⟩ := k2
  have eb1 : o1'.bufs = o1.bufs := Obj.erase_bufs a2
  have ev1 : o1'.views = o1.views := Obj.erase_views a2
  have eb2 : o2'.bufs = o2.bufs := Obj.erase_bufs b2
  have ev2 : o2'.views = o2.views := Obj.erase_views b2
  refine ⟨o1', o2', π, a1, b1, by rw [eb1, eb2]; exact eb, by rw [ev1, ev2]; exact ev, by rw [eb1]; exact hinj, ?_⟩
  intro b hbm
  rw [eb1] at hbm
  have hm2 : some (π b) ∈ o2.bufs := by
    rw [eb]; exact List.mem_map.mpr ⟨some b, hbm, rfl⟩
  rw [b3 _ hm2, a3 _ hbm]
  exact hc b hbm

theorem Iso.store {y : Nat} {h1 h2 : Heap} {U1 U2 : Nat → Nat} (hb1 : Balanced h1 U1) (hb2 : Balanced h2 U2) (hi : Iso y h1 h2) (s v : Nat) :
    Iso y (writeSlot h1 y s v) (writeSlot h2 y s v) := by
  obtain ⟨o1, o2, π, h1y, h2y, eb, ev, hinj, hc⟩ := hi
  have hv := hb1.views_owned h1y (by simp)
  have hl2 : listGet (o2.bufs ++ o2.views) s = (listGet (o1.bufs ++ o1.views) s).map π := by
    rw [eb, ev, ← List.map_append, listGet_map]
  unfold writeSlot
  simp only [hb1.ok, hb2.ok, h1y, h2y, hl2]
  cases hs : listGet (o1.bufs ++ o1.views) s with
  | none => exact ⟨o1, o2, π, h1y, h2y, eb, ev, hinj, hc⟩
  | some b =>
    have hown : some b ∈ o1.bufs := slot_owned hv hs
    obtain ⟨bf, hbf⟩ := Option.isSome_iff_exists.mp (hb1.buf_live h1y (by simp) hown)
    have hbf2 : h2.bufs (π b) = some bf := by rw [hc b hown]; exact hbf
    simp only [Option.map_some, hbf, hbf2]
    refine ⟨o1, o2, π, h1y, h2y, eb, ev, hinj, ?_⟩
    intro b' hb'
    show upd h2.bufs (π b) _ (π b') = upd h1.bufs b _ b'
    by_cases hbb : b' = b
    · subst hbb; simp [upd]
    · have : π b' ≠ π b := fun e => hbb (hinj _ _ hb' hown e)
      simp [upd, hbb, this, hc b' hb']

/-- the pointer fix-up commutes with a renaming; the renaming may change (`π'`) where the list does not look -/
theorem rep_map_comm (π π' : Nat → Nat) (old : Nat) (nw nw' : Option Nat) (l : List (Option Nat))
    (hπ : ∀ b, some b ∈ l → π' b = π b) (hnw : nw.map π' = nw') (hinj : ∀ b, some b ∈ l → π b = π old → b = old) :
    (l.map (Option.map π)).map (rep (π old) nw') = (l.map (rep old nw)).map (Option.map π') := by
  rw [List.map_map, List.map_map]
  apply List.map_congr_left
  intro s hs
  cases s with
  | none => simp [rep]
  | some b =>
    by_cases hbo : b = old
    · subst hbo; simp [rep, hnw]
    · have : π b ≠ π old := fun e => hbo (hinj b hs e)
      simp [rep, hbo, this, hπ b hs]

theorem map_congr_opt {π π' : Nat → Nat} {l : List (Option Nat)} (h : ∀ b, some b ∈ l → π' b = π b) :
    l.map (Option.map π') = l.map (Option.map π) :=
  List.map_congr_left fun a ha => by
    cases a with
    | none => rfl
    | some b => exact congrArg some (h b ha)

theorem Iso.putSlot {y : Nat} {h1 h2 : Heap} {U1 U2 : Nat → Nat} {o1 o2 : Obj} {nw1 nw2 : Option Nat}
    (hb1 : Bal h1 U1 [] nw1.toList []) (hb2 : Bal h2 U2 [] nw2.toList []) (hi : Iso y h1 h2)
    (h1y : h1.objs y = some o1) (h2y : h2.objs y = some o2)
    (hn : nw1.isSome = nw2.isSome) (hcn : nw2.bind h2.bufs = nw1.bind h1.bufs) (s : Nat) :
    Iso y (Sqfs.Obj.putSlot h1 y o1 s nw1) (Sqfs.Obj.putSlot h2 y o2 s nw2) := by
  obtain ⟨p1, p2, π, e1, e2, eb, ev, hinj, hc⟩ := hi
  rw [h1y] at e1; cases e1
  rw [h2y] at e2; cases e2
  have hv := hb1.views_owned h1y List.not_mem_nil
  have hl2 : listGet o2.bufs s = (listGet o1.bufs s).map π := by rw [eb, listGet_map]
  have himg : ∀ b, some b ∈ o1.bufs → some (π b) ∈ o2.bufs := fun b hm => eb ▸ List.mem_map.mpr ⟨some b, hm, rfl⟩
  -- a pending pointer stands in no slot
  have fresh : ∀ {h U nw o}, Bal h U [] (Option.toList nw) [] → h.objs y = some o → ∀ b, some b ∈ o.bufs → nw ≠ some b :=
    fun hb hy b hm e => List.count_eq_zero.mp (hb.slot_once hy List.not_mem_nil hm).2.1 (Option.mem_toList.mpr e)
  have fresh1 := fresh hb1 h1y
  have fresh2 := fresh hb2 h2y
  let π' : Nat → Nat := fun b => if nw1 = some b then nw2.getD 0 else π b
  have hπ' : ∀ b, some b ∈ o1.bufs → π' b = π b := fun b hm => if_neg (fresh1 b hm)
  have hπn : ∀ b, nw1 = some b → nw2 = some (π' b) := by
    intro b e
    obtain ⟨n, h2⟩ := Option.isSome_iff_exists.mp (hn ▸ e ▸ rfl : nw2.isSome = true)
    show nw2 = some (if nw1 = some b then nw2.getD 0 else π b)
    rw [if_pos e, h2]; rfl
  have hnw : nw1.map π' = nw2 := by
    cases h1 : nw1 with
    | none =>
      rw [h1] at hn
      cases nw2 with
      | none => rfl
      | some _ => cases hn
    | some n => exact (hπn n h1).symm
  have mem_new := fun a => hb1.mem_set_slot h1y (s := s) (a := a) (nw := nw1)
  have hinj' : ∀ a b, nw1 = some a ∨ some a ∈ o1.bufs → nw1 = some b ∨ some b ∈ o1.bufs → π' a = π' b → a = b := by
    intro a b ha hb' e
    rcases ha with ha | ha <;> rcases hb' with hb' | hb'
    · exact Option.some.inj (ha.symm.trans hb')
    · exact absurd (hπn a ha) (e ▸ hπ' b hb' ▸ fresh2 _ (himg b hb'))
    · exact absurd (hπn b hb') (e ▸ hπ' a ha ▸ fresh2 _ (himg a ha))
    · rw [hπ' a ha, hπ' b hb'] at e; exact hinj a b ha hb' e
  refine ⟨o1.repoint s nw1, o2.repoint s nw2, π', by rw [putSlot_objs, upd_same], by rw [putSlot_objs, upd_same], ?_, ?_, ?_, ?_⟩
  · show o2.bufs.set s nw2 = (o1.bufs.set s nw1).map (Option.map π')
    rw [List.map_set, hnw, eb, map_congr_opt hπ']
  · show (o2.repoint s nw2).views = (o1.repoint s nw1).views.map (Option.map π')
    unfold Obj.repoint
    simp only [hl2, ev]
    cases hg : listGet o1.bufs s with
    | none => exact (map_congr_opt fun b hm => hπ' b (hv b hm)).symm
    | some old =>
      exact rep_map_comm π π' old nw1 nw2 o1.views (fun b hm => hπ' b (hv b hm)) hnw
        fun b hm e => hinj b old (hv b hm) (listGet_mem hg) e
  · exact fun a b ha hb' => hinj' a b ((mem_new a ha).imp_right And.left) ((mem_new b hb').imp_right And.left)
  · intro b hbm
    have side : listGet o1.bufs s ≠ some b ∧ listGet o2.bufs s ≠ some (π' b) ∧ h2.bufs (π' b) = h1.bufs b := by
      rcases mem_new b hbm with e | ⟨hm, hne⟩
      · -- the new buffer: not what either slot held, same contents by hypothesis
        refine ⟨fun hg => fresh1 b (listGet_mem hg) e, fun hg => fresh2 _ (listGet_mem hg) (hπn b e), ?_⟩
        rw [e, hπn b e] at hcn; exact hcn
      · refine ⟨hne, fun hg => ?_, by rw [hπ' b hm]; exact hc b hm⟩
        rw [hl2, hπ' b hm] at hg
        obtain ⟨old, ho, e⟩ := Option.map_eq_some_iff.mp hg
        exact hne (ho.trans (congrArg some (hinj old b (listGet_mem ho) hm e)))
    rw [putSlot_bufs _ _ _ _ _ side.1, putSlot_bufs _ _ _ _ _ side.2.1]
    exact side.2.2

theorem Iso.release {y : Nat} {h1 h2 : Heap} {U1 U2 : Nat → Nat} (hb1 : Balanced h1 U1) (hb2 : Balanced h2 U2) (hi : Iso y h1 h2) (s : Nat) :
    Iso y (releaseSlot h1 y s) (releaseSlot h2 y s) := by
  have ⟨o1, o2, π, h1y, h2y, eb, _⟩ := hi
  rw [hb1.releaseSlot_eq h1y, hb2.releaseSlot_eq h2y, eb, listGet_map, Option.isSome_map]
  split
  · exact Iso.putSlot (nw1 := none) (nw2 := none) hb1 hb2 hi h1y h2y rfl rfl s
  · exact hi

theorem Iso.realloc {y : Nat} {h1 h2 : Heap} {U1 U2 : Nat → Nat} (hb1 : Balanced h1 U1) (hb2 : Balanced h2 U2) (hi : Iso y h1 h2) (s : Nat) (bf : Buf) :
    Iso y (reallocSlot h1 y s bf) (reallocSlot h2 y s bf) := by
  have ⟨o1, o2, π, h1y, h2y, eb, _⟩ := hi
  rw [hb1.reallocSlot_eq h1y, hb2.reallocSlot_eq h2y, eb, List.length_map]
  split
  · -- both sides allocate outside `y`'s buffers, then put the fresh buffer into the slot
    have hi' := hi.keeps h1y h2y (allocBuf_keeps hb1 h1y bf) (allocBuf_keeps hb2 h2y bf)
    exact Iso.putSlot (nw1 := some h1.nbuf) (nw2 := some h2.nbuf) (hb1.allocBuf bf) (hb2.allocBuf bf) hi' h1y h2y rfl (by simp [upd]) s
  · exact hi

theorem grab_keeps {h : Heap} {U : Nat → Nat} {y : Nat} {oy : Obj} (hb : Balanced h U) (hy : h.objs y = some oy) :
    KeepsObj h (Sqfs.Obj.grab h y) y oy := by
  rw [grab_eq hb.ok hy]
  exact ⟨{ oy with rc := oy.rc + 1 }, upd_same _ _ _, Obj.erase_setRc _ _, fun _ _ => rfl⟩

/-- a release that is not the last one only counts down -/
theorem drop_keeps {h : Heap} {U : Nat → Nat} {y : Nat} {oy : Obj} (hb : Balanced h U) (hy : h.objs y = some oy) (hu : 2 ≤ U y) :
    KeepsObj h (sqfsDrop h y) y oy := by
  have hrc : 2 ≤ oy.rc :=
    (hb.rc_eq hy (by simp)) ▸ Nat.le_trans hu (Nat.le_trans (Nat.le_add_right _ _) (Nat.le_add_right _ _))
  obtain ⟨k, hk⟩ := Nat.exists_eq_succ_of_ne_zero (Nat.ne_of_gt (Nat.zero_lt_of_lt (hb.lt_nobj hy)))
  unfold sqfsDrop
  rw [hk, drop_succ_eq k h y oy hb.ok hy, if_neg (Nat.not_le.mpr hrc)]
  exact ⟨{ oy with rc := oy.rc - 1 }, upd_same _ _ _, Obj.erase_setRc _ _, fun _ _ => rfl⟩

/-- the user holds `y` before and after every event of the history (so no event of the history destroys `y`) -/
def Holds (y : Nat) : (Nat → Nat) → List Ev → Prop
  | U, [] => 1 ≤ U y
  | U, e :: es => 1 ≤ U y ∧ Holds y (e.user U) es

theorem Holds.head {y : Nat} {U : Nat → Nat} {es : List Ev} (h : Holds y U es) : 1 ≤ U y := by
  cases es with
  | nil => exact h
  | cons e es => exact h.1

def ownEvs (y : Nat) (es : List Ev) : List Ev := es.filter (fun e => e.target = y)

theorem runEvs_iso (y : Nat) : ∀ (es : List Ev) {h1 h2 : Heap} {U1 U2 : Nat → Nat}, Balanced h1 U1 → Balanced h2 U2 → U1 y = U2 y →
    Iso y h1 h2 → Admissible U1 es → Holds y U1 es →
    Iso y (runEvs h1 es) (runEvs h2 (ownEvs y es)) ∧ Balanced (runEvs h1 es) (userAfter U1 es) := by
  intro es
  induction es with
  | nil => intro h1 h2 U1 U2 hb1 _ _ hi _ _; exact ⟨hi, hb1⟩
  | cons e es ih =>
    intro h1 h2 U1 U2 hb1 hb2 hU hi ha hh
    obtain ⟨o1, o2, π, h1y, h2y, eb, ev, hinj, hc⟩ := hi
    have hi : Iso y h1 h2 := ⟨o1, o2, π, h1y, h2y, eb, ev, hinj, hc⟩
    have hb1' := Ev.apply_bal hb1 e ha.1
    have hnext : 1 ≤ e.user U1 y := hh.2.head
    by_cases ht : e.target = y
    · have hown : ownEvs y (e :: es) = e :: ownEvs y es := by simp [ownEvs, ht]
      rw [hown]
      have hb2' := Ev.apply_bal hb2 e (by rw [ht, ← hU]; exact hh.1)
      have hU' : e.user U1 y = e.user U2 y := by
        cases e with
        | op x w => exact hU
        | grab x => have hx : x = y := ht; subst hx; simp [Ev.user, hU]
        | drop x => have hx : x = y := ht; subst hx; simp [Ev.user, hU]
      have hi' : Iso y (e.apply h1) (e.apply h2) := by
        cases e with
        | op x w =>
          have hx : x = y := ht
          subst hx
          cases w with
          | store s v => exact Iso.store hb1 hb2 hi s v
          | realloc s bf => exact Iso.realloc hb1 hb2 hi s bf
          | release s => exact Iso.release hb1 hb2 hi s
        | grab x =>
          have hx : x = y := ht
          subst hx
          exact hi.keeps h1y h2y (grab_keeps hb1 h1y) (grab_keeps hb2 h2y)
        | drop x =>
          have hx : x = y := ht
          subst hx
          have h2u : 2 ≤ U1 x := by
            have : 1 ≤ U1 x - 1 := by simpa [Ev.user] using hnext
            omega
          exact hi.keeps h1y h2y (drop_keeps hb1 h1y h2u) (drop_keeps hb2 h2y (by rw [← hU]; exact h2u))
      exact ih hb1' hb2' hU' hi' ha.2 hh.2
    · have hown : ownEvs y (e :: es) = ownEvs y es := by simp [ownEvs, ht]
      rw [hown]
      have hU' : e.user U1 y = U2 y := by rw [Ev.user_other U1 e ht]; exact hU
      have hi' : Iso y (e.apply h1) h2 := hi.keeps h1y h2y (Ev.apply_keeps hb1 e ha.1 h1y ht hh.1) (KeepsObj.refl h2y)
      exact ih hb1' hb2 hU' hi' ha.2 hh.2

end Sqfs.Obj
