/-
C02: the loop of `append` in closed form.  From a front end with no open block, `feAppendGo` emits the full blocks
`Pack.fullBlocks` (`mkItems`: the first one with the flags it found, the others without `FIRST`) and ends in the state `goEnd`,
with the tail end `Pack.tailOf` as the open block; it does not run out of fuel (`feAppendGo_none`, an equation).  With it
`feFile` is one equation (`feFile_eq_end`: `begin_file`, the `append` if there is data, `end_file`), and what one file submits
keeps `Acc … false` — the blocks are well formed, the `FIRST`/`LAST` protocol holds, nothing is left open.
-/
import Sqfs.Proofs.BPFront
import Sqfs.Proofs.PackLocal
namespace Sqfs.Pack

theorem fullBlocks_small (B : Nat) (d : Bytes) (h : d.length < B) : fullBlocks B d = [] := by
  unfold fullBlocks
  rw [Nat.div_eq_of_lt h]; rfl

theorem tailOf_small (B : Nat) (d : Bytes) (h : d.length < B) : tailOf B d = d := by
  unfold tailOf
  rw [Nat.div_eq_of_lt h]; simp

theorem fullBlocks_step (B : Nat) (hB : 0 < B) (d : Bytes) (h : B ≤ d.length) :
    fullBlocks B d = d.take B :: fullBlocks B (d.drop B) := by
  unfold fullBlocks
  rw [Nat.div_eq_sub_div hB h, List.length_drop, range_blocks_succ]

theorem tailOf_step (B : Nat) (hB : 0 < B) (d : Bytes) (h : B ≤ d.length) :
    tailOf B d = tailOf B (d.drop B) := by
  unfold tailOf
  rw [Nat.div_eq_sub_div hB h, List.length_drop, List.drop_drop, Nat.add_mul, Nat.one_mul, Nat.add_comm]

end Sqfs.Pack

namespace Sqfs.BlockProc
open Sqfs.Consts

theorem clearFlag_idem (g c : Nat) : clearFlag (clearFlag g c) c = clearFlag g c := by
  unfold clearFlag; rw [Nat.and_assoc, Nat.and_self]

/-- blocks numbered from `i`: the first one carries the flags `a`, the others `b` -/
def mkItems (a b : Nat) (ino : Option Nat) : Nat → List Bytes → List Blk
  | _, [] => []
  | i, x :: xs => { flags := a, inode := ino, index := i, data := x } :: mkItems b b ino (i + 1) xs

/-- the front end after an `append` of `d` that found no open block -/
def goEnd (B : Nat) (f : Front) (d : Bytes) : Front :=
  { f with
    blkFlags := clearFlag f.blkFlags blkFirstBlock
    blkIndex := f.blkIndex + d.length / B + (if d.length % B = 0 then 0 else 1)
    blkCurrent :=
      if d.length % B = 0 then none
      else some { flags := if d.length / B = 0 then f.blkFlags else clearFlag f.blkFlags blkFirstBlock, inode := f.inode,
                  index := f.blkIndex + d.length / B, data := Sqfs.Pack.tailOf B d } }

theorem feAppendGo_none (B : Nat) (hB : 0 < B) : ∀ (fuel : Nat) (d : Bytes), d ≠ [] → 3 * d.length ≤ fuel →
    ∀ f : Front, f.blkCurrent = none →
    feAppendGo B fuel f d =
      some (goEnd B f d, mkItems f.blkFlags (clearFlag f.blkFlags blkFirstBlock) f.inode f.blkIndex (Sqfs.Pack.fullBlocks B d)) := by
  intro fuel
  induction fuel using Nat.strongRecOn with
  | _ fuel ih =>
    intro d hne hfuel f hcur
    have hpos : 0 < d.length := List.length_pos_iff.mpr hne
    have h0 : ¬ d.length = 0 := Nat.ne_of_gt hpos
    obtain ⟨fuel, rfl⟩ : ∃ k, fuel = k + 3 := ⟨fuel - 3, by omega⟩
    -- a new block, then fill it
    rw [feAppendGo, if_neg h0, hcur]
    simp only
    rw [feAppendGo, if_neg h0]
    simp only [List.length_nil, Nat.sub_zero, if_neg (Nat.ne_of_gt hB), List.nil_append]
    by_cases hlt : d.length < B
    · -- the data ends inside the block
      rw [Nat.min_eq_right (Nat.le_of_lt hlt), List.drop_length, List.take_length, feAppendGo]
      simp only [List.length_nil, if_true, if_neg (Nat.ne_of_lt hlt)]
      rw [Sqfs.Pack.fullBlocks_small B d hlt, goEnd]
      simp only [Nat.mod_eq_of_lt hlt, if_neg h0, Nat.div_eq_of_lt hlt, if_true, Nat.add_zero, Sqfs.Pack.tailOf_small B d hlt]
      rfl
    · have hge : B ≤ d.length := Nat.le_of_not_lt hlt
      rw [Nat.min_eq_left hge, Sqfs.Pack.fullBlocks_step B hB d hge]
      by_cases heq : d.length = B
      · -- exactly one block
        have hdrop : d.drop B = [] := by rw [← heq, List.drop_length]
        have htake : d.take B = d := by rw [← heq, List.take_length]
        rw [hdrop, htake, feAppendGo]
        simp only [List.length_nil, if_true, heq]
        rw [Sqfs.Pack.fullBlocks_small B [] hB, goEnd]
        simp only [heq, Nat.mod_self, if_true, Nat.div_self hB, Nat.add_zero]
        rfl
      · -- the block is full and data remains
        have hrest : (d.drop B).length = d.length - B := List.length_drop
        have hr0 : ¬ (d.drop B).length = 0 := by omega
        rw [feAppendGo, if_neg hr0]
        simp only [List.length_take, Nat.min_eq_left hge, Nat.sub_self, if_true]
        rw [ih fuel (by omega) (d.drop B) (fun h => hr0 (by rw [h]; rfl)) (by omega)
          { f with blkCurrent := none, blkIndex := f.blkIndex + 1, blkFlags := clearFlag f.blkFlags blkFirstBlock } rfl]
        simp only [goEnd, clearFlag_idem, hrest, ← Sqfs.Pack.tailOf_step B hB d hge, ← Nat.mod_eq_sub_mod hge,
          Nat.div_eq_sub_div hB hge, Nat.succ_ne_zero, if_false, ite_self, mkItems]
        -- the two states differ in how the index is summed
        rw [Nat.add_assoc f.blkIndex 1, Nat.add_comm 1]

theorem feAppend_some {B : Nat} (hB : 0 < B) (f : Front) (hcur : f.blkCurrent = none) (d : Bytes) (hne : d ≠ []) :
    ∃ r, feAppend B f d = some r ∧ r.1.beginCalled = f.beginCalled ∧ ∀ c, r.1.blkCurrent = some c → c.data ≠ [] := by
  refine ⟨_, feAppendGo_none B hB (3 * d.length + 3) d hne (Nat.le_add_right _ _) f hcur, rfl, fun c hc => ?_⟩
  simp only [goEnd] at hc
  split at hc
  · cases hc
  · cases hc
    intro he
    have := Sqfs.Pack.tailOf_length B d
    rw [show Sqfs.Pack.tailOf B d = [] from he] at this
    simp only [List.length_nil] at this
    omega

/-- `feFile` in one equation: `r` is the front end after the `append`, if there is one, and what that call emitted (the blocks
themselves, written out: `feFile_eq` of BPSPFront) -/
theorem feFile_eq_end {B : Nat} (hB : 0 < B) (n : Nat) (file : InFile) (hfl : file.flags &&& blkUserSettable = file.flags) :
    ∃ r : Front × List Blk, feFile B n file = .ok (r.2 ++ feEndItems r.1) ∧ r.1.beginCalled = true ∧
      (∀ c, r.1.blkCurrent = some c → c.data ≠ []) ∧
      if file.data.length = 0 then r = (feBegin {} n file.flags, []) else feAppend B (feBegin {} n file.flags) file.data = some r := by
  unfold feFile
  rw [if_neg (by simp [hfl])]
  dsimp only
  by_cases hd0 : file.data.length = 0
  · simp only [if_pos hd0]
    exact ⟨(feBegin {} n file.flags, []), rfl, rfl, fun c hc => (by cases hc), rfl⟩
  · simp only [if_neg hd0]
    obtain ⟨r, hr, hrb, hne⟩ := feAppend_some hB (feBegin {} n file.flags) rfl file.data (fun he => hd0 (by simp [he]))
    rw [hr]
    exact ⟨r, rfl, hrb, hne, rfl⟩

/-- `FrontInv` between two files says no more than `Acc … false` of the blocks submitted so far; one file keeps it:
`FrontInv` goes through `begin_file`, the `append` and `end_file` -/
theorem Acc.feFile {B n : Nat} (hB : 0 < B) {front : List Blk} (a : Acc B n front false) (f : InFile) (items : List Blk)
    (hf : feFile B n f = .ok items) : Acc B (n + 1) (front ++ items) false := by
  by_cases hfl : f.flags &&& blkUserSettable = f.flags
  case neg => rw [BlockProc.feFile, if_pos (by simpa using hfl)] at hf; cases hf
  obtain ⟨r, hr, hrb, hne, hap⟩ := feFile_eq_end hB n f hfl
  rw [hr] at hf; cases hf
  have h1 : FrontInv B (feBegin {} n f.flags) front (n + 1) :=
    FrontInv.begin ⟨a.items, a.proto, a.fragIdx, fun _ => ⟨rfl, rfl, a.opened⟩, fun h => by cases h⟩ rfl f.flags hfl
  have h2 : FrontInv B r.1 (front ++ r.2) (n + 1) := by
    split at hap
    · subst hap; simpa using h1
    · exact FrontInv.appendGo _ _ _ r front hap h1 rfl
  have e := h2.endFile hrb hne
  rw [← List.append_assoc]
  exact ⟨e.items, e.proto, e.fragIdx, (e.idle rfl).2.2⟩

end Sqfs.BlockProc
