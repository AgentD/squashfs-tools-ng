/-
C15 — the library conventions say nothing about `XFRM_STREAM_FLUSH_SYNC`.

`LibEncContract` / `LibDecContract` constrain only the modes the wrappers pass (`fl ≠ Flush.sync`), and have to: the real liblzma
and libbz2 answer the action the backends map `FLUSH_SYNC` to in ways that clauses over all three modes would exclude (see `Proto`,
`Sqfs/Spec/XfrmContract.lean`).  The restriction is complete: **whatever** a library does on `FLUSH_SYNC` (`Lib.withSync L f`: `L`
with its `sync` calls replaced by an arbitrary function `f`), it meets the conventions as soon as its `none`/`full` behaviour does.
`Toy.lzmaLikeEnc` / `Toy.lzmaLikeDec` (`Sqfs/Proofs/XfrmToy.lean`) are the toy libraries with liblzma's `sync` answers.
-/
import Sqfs.Spec.XfrmContract
namespace Sqfs.Xfrm

/-- `L`, except that a call with `FLUSH_SYNC` does what `f` says -/
def Lib.withSync {τ : Type} (L : Lib τ) (f : τ → Bytes → Nat → LibOut τ) : Lib τ :=
  { L with call := fun s inp room fl => if fl = Flush.sync then f s inp room else L.call s inp room fl }

theorem Lib.withSync_call {τ : Type} (L : Lib τ) (f : τ → Bytes → Nat → LibOut τ) (s : τ) (inp : Bytes) (room : Nat) {fl : Flush}
    (h : fl ≠ Flush.sync) : (L.withSync f).call s inp room fl = L.call s inp room fl := by
  simp [Lib.withSync, h]

section
variable {τ : Type} {L : Lib τ} {b : Backend} {Dec : Bytes → Option Bytes}

/-- the compressing convention does not constrain `FLUSH_SYNC` -/
def LibEncContract.withSync (h : LibEncContract L b Dec) (f : τ → Bytes → Nat → LibOut τ) : LibEncContract (L.withSync f) b Dec where
  R := h.R
  pend := h.pend
  init := h.init
  mono := h.mono
  ret_ok := by
    intro s x y fin inp room fl hR hP hr
    rw [Lib.withSync_call L f s inp room hP.1]
    exact h.ret_ok inp room fl hR hP hr
  consumed_le := by
    intro s x y fin inp room fl hR hP hr
    rw [Lib.withSync_call L f s inp room hP.1]
    exact h.consumed_le inp room fl hR hP hr
  out_le := by
    intro s x y fin inp room fl hR hP hr
    rw [Lib.withSync_call L f s inp room hP.1]
    exact h.out_le inp room fl hR hP hr
  keep := by
    intro s x y fin inp room fl hR hP hr
    rw [Lib.withSync_call L f s inp room hP.1]
    exact h.keep inp room fl hR hP hr
  finish := by
    intro s x y fin inp room fl hR hP hr
    rw [Lib.withSync_call L f s inp room hP.1]
    exact h.finish inp room fl hR hP hr
  progress := by
    intro s x y fin inp room fl hR hP hr
    rw [Lib.withSync_call L f s inp room hP.1]
    exact h.progress inp room fl hR hP hr
  bytes := by
    intro s x y fin inp room fl hR hP hr
    rw [Lib.withSync_call L f s inp room hP.1]
    exact h.bytes inp room fl hR hP hr

/-- the decompressing convention does not constrain `FLUSH_SYNC` -/
def LibDecContract.withSync (h : LibDecContract L b Dec) (f : τ → Bytes → Nat → LibOut τ) : LibDecContract (L.withSync f) b Dec where
  R := h.R
  pend := h.pend
  init := h.init
  dec_nil := h.dec_nil
  total := h.total
  valid := by
    intro s u v w x tail inp room fl hns
    rw [Lib.withSync_call L f s inp room hns]
    exact h.valid w x tail inp room fl hns
  bytes := by
    intro s u v w x tail inp room fl hns
    rw [Lib.withSync_call L f s inp room hns]
    exact h.bytes w x tail inp room fl hns
  progress := by
    intro s u v w x tail inp room fl hns
    rw [Lib.withSync_call L f s inp room hns]
    exact h.progress w x tail inp room fl hns
  buf_quiet := by
    intro s u v w x tail inp room fl hns
    rw [Lib.withSync_call L f s inp room hns]
    exact h.buf_quiet w x tail inp room fl hns
  drain := by
    intro s u v w x tail inp room fl hns
    rw [Lib.withSync_call L f s inp room hns]
    exact h.drain w x tail inp room fl hns
  idle := by
    intro s room fl hns
    rw [Lib.withSync_call L f s [] room hns]
    exact h.idle room fl hns

end

end Sqfs.Xfrm
