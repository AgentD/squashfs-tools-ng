import Sqfs.Model.RbTree
/-!
Lemmas about the model of `rbtree.c` (`Sqfs.Model.RbTree`) for C19's `rbtree_copy_equiv`:
what `rbtree_copy` leaves in a store that only grows (`Ext`; `rbCopy_spec`, on pointers that may be NULL, like `Shape`), lookup over
the store against lookup on the tree value, the node layout `copy_node` relies on (every node made by `rbtree_insert` has it), a
representation in node memory for every tree value (`writeTree_spec`; it and the copy put a node together in the same way:
`node_assembled`).
-/
namespace Sqfs.Rb

/-- the tree value with `f` applied to every node's `data[]` -/
def Tree.mapData (f : List UInt8 → List UInt8) : Tree → Tree
  | .nil => .nil
  | .node l r o red d => .node (l.mapData f) (r.mapData f) o red (f d)

theorem Tree.mapData_depth (f : List UInt8 → List UInt8) (t : Tree) : (t.mapData f).depth = t.depth := by
  induction t with
  | nil => rfl
  | node l r o red d ihl ihr => simp [Tree.mapData, Tree.depth, ihl, ihr]

theorem copyLen_sub (c : Cfg) : copyLen c - nodeHdr = c.keyPad + c.valueSize := by
  unfold copyLen; rw [Nat.add_assoc, Nat.add_sub_cancel_left]

/-- a node with the layout of `mknode` is copied byte for byte -/
theorem copyData_wf (c : Cfg) (d : List UInt8) (h : d.length = c.keyPad + c.valueSize) : copyData c d = d := by
  have h1 : d.take (c.keyPad + c.valueSize) = d := List.take_of_length_le (Nat.le_of_eq h)
  simp only [copyData, copyLen_sub, h1]
  rw [← h]
  simp

theorem mapData_wf (c : Cfg) (t : Tree) (h : WfTree c t) : t.mapData (copyData c) = t := by
  induction t with
  | nil => rfl
  | node l r o red d ihl ihr =>
    obtain ⟨_, hd, hl, hr⟩ := h
    simp [Tree.mapData, ihl hl, ihr hr, copyData_wf c d hd]

theorem Shape.congr {cells cells' : Nat → Option Cell} {lo hi : Nat} {p : Option Nat} {t : Tree}
    (h : Shape cells lo hi p t) (heq : ∀ i, lo ≤ i → i < hi → cells' i = cells i) : Shape cells' lo hi p t := by
  induction h with
  | nil => exact .nil
  | node h1 h2 h3 _ _ ihl ihr => exact .node h1 h2 (by rw [heq _ h1 h2]; exact h3) ihl ihr

theorem Shape.mono {cells : Nat → Option Cell} {lo hi lo' hi' : Nat} {p : Option Nat} {t : Tree}
    (h : Shape cells lo hi p t) (h1 : lo' ≤ lo) (h2 : hi ≤ hi') : Shape cells lo' hi' p t := by
  induction h with
  | nil => exact .nil
  | node a b c _ _ ihl ihr => exact .node (Nat.le_trans h1 a) (Nat.lt_of_lt_of_le b h2) c ihl ihr

theorem Shape.unique {cells : Nat → Option Cell} {lo hi lo' hi' : Nat} {p : Option Nat} {t t' : Tree}
    (h : Shape cells lo hi p t) (h' : Shape cells lo' hi' p t') : t = t' := by
  induction h generalizing t' with
  | nil => cases h'; rfl
  | node _ _ h3 _ _ ihl ihr =>
    cases h' with
    | node _ _ h3' hl' hr' =>
      rw [h3] at h3'; cases h3'
      rw [ihl hl', ihr hr']

theorem modCell_next (st : Store) (a : Nat) (f : Cell → Cell) : (modCell st a f).next = st.next := by
  unfold modCell; split <;> rfl

theorem modCell_other (st : Store) (a : Nat) (f : Cell → Cell) (i : Nat) (h : i ≠ a) : (modCell st a f).cells i = st.cells i := by
  unfold modCell; split
  · simp [setCell, h]
  · rfl

theorem modCell_self (st : Store) (a : Nat) (f : Cell → Cell) (c : Cell) (h : st.cells a = some c) :
    (modCell st a f).cells a = some (f c) := by
  unfold modCell; rw [h]; simp [setCell]

/-- `st'` came from `st` by allocations and by stores into nodes allocated on the way: the nodes of `st` are untouched -/
structure Ext (st st' : Store) : Prop where
  le : st.next ≤ st'.next
  old : ∀ i, i < st.next → st'.cells i = st.cells i

theorem Ext.refl (st : Store) : Ext st st := ⟨Nat.le_refl _, fun _ _ => rfl⟩

theorem Ext.trans {a b c : Store} (h1 : Ext a b) (h2 : Ext b c) : Ext a c :=
  ⟨Nat.le_trans h1.le h2.le, fun i hi => by rw [h2.old i (Nat.lt_of_lt_of_le hi h1.le), h1.old i hi]⟩

theorem Ext.alloc (st : Store) (c : Cell) : Ext st (st.alloc c).1 :=
  ⟨Nat.le_succ _, fun _ hi => if_neg (Nat.ne_of_lt hi)⟩

theorem Ext.modCell {st st' : Store} (h : Ext st st') {a : Nat} (ha : st.next ≤ a) (f : Cell → Cell) : Ext st (modCell st' a f) :=
  ⟨modCell_next st' a f ▸ h.le, fun i hi => by rw [modCell_other _ _ _ _ (Nat.ne_of_lt (Nat.lt_of_lt_of_le hi ha)), h.old i hi]⟩

theorem Shape.ext {st st' : Store} {lo : Nat} {p : Option Nat} {t : Tree} (h : Shape st.cells lo st.next p t) (e : Ext st st') :
    Shape st'.cells lo st'.next p t :=
  (h.congr fun i _ hi => e.old i hi).mono (Nat.le_refl _) e.le

theorem Shape.modCell {st : Store} {lo hi a : Nat} {p : Option Nat} {t : Tree} (h : Shape st.cells lo hi p t) (ha : a < lo)
    (f : Cell → Cell) : Shape (modCell st a f).cells lo hi p t :=
  h.congr (fun _ hlo _ => modCell_other _ _ _ _ (Nat.ne_of_gt (Nat.lt_of_lt_of_le ha hlo)))

/-- The node that `copy_node` and `writeTree` make: allocated at `st.next` as `c0`, the left subtree built behind it (`s2`), a store
into the node itself (`s3`; `writeTree` has none), the right subtree (`s4`), the last store into the node. -/
theorem node_assembled {st s2 s3 s4 : Store} {c0 : Cell} {g f : Cell → Cell} {pl pr : Option Nat} {l r : Tree}
    {o : Nat} {red : Bool} {d : List UInt8}
    (e2 : Ext (st.alloc c0).1 s2) (hl : Shape s2.cells (st.next + 1) s2.next pl l)
    (n3 : s3.next = s2.next) (o3 : ∀ i, i ≠ st.next → s3.cells i = s2.cells i)
    (c3 : ∀ x, s2.cells st.next = some x → s3.cells st.next = some (g x))
    (e4 : Ext s3 s4) (hr : Shape s4.cells s3.next s4.next pr r) (hf : f (g c0) = ⟨pl, pr, o, red, d⟩) :
    Ext st (modCell s4 st.next f) ∧
      Shape (modCell s4 st.next f).cells st.next (modCell s4 st.next f).next (some st.next) (.node l r o red d) := by
  have hlt3 : st.next < s3.next := n3 ▸ Nat.lt_of_lt_of_le (Nat.lt_succ_self _) e2.le
  have e3 : Ext st s3 :=
    ⟨Nat.le_of_lt hlt3, fun i hi => by rw [o3 i (Nat.ne_of_lt hi), ((Ext.alloc st c0).trans e2).old i hi]⟩
  have hc4 : s4.cells st.next = some (g c0) :=
    (e4.old _ hlt3).trans (c3 _ ((e2.old _ (Nat.lt_succ_self _)).trans (if_pos rfl)))
  have hc5 := modCell_self s4 st.next f _ hc4
  rw [hf] at hc5
  have hl3 : Shape s3.cells (st.next + 1) s3.next pl l := n3 ▸ hl.congr fun i hlo _ => o3 i (Nat.ne_of_gt hlo)
  refine ⟨(e3.trans e4).modCell (Nat.le_refl _) f, ?_⟩
  rw [modCell_next]
  exact .node (Nat.le_refl _) (Nat.lt_of_lt_of_le hlt3 e4.le) hc5
    (((hl3.ext e4).modCell (Nat.lt_succ_self _) f).mono (Nat.le_succ _) (Nat.le_refl _))
    ((hr.modCell hlt3 f).mono (Nat.le_of_lt hlt3) (Nat.le_refl _))

theorem copyNode_succ (c : Cfg) (fuel : Nat) (st : Store) (a : Nat) (n : Cell) (hn : st.cells a = some n) :
    copyNode c (fuel + 1) st a =
      match copyChild (copyNode c fuel) (st.alloc ⟨none, none, n.off, n.red, copyData c n.data⟩).1 n.left with
      | none => none
      | some (st2, l') =>
        match copyChild (copyNode c fuel) (modCell st2 st.next fun x => { x with left := l' }) n.right with
        | none => none
        | some (st4, r') => some (modCell st4 st.next fun x => { x with right := r' }, st.next) := by
  simp only [copyNode, hn, Store.alloc]
  rfl

theorem depth_node_le {l r : Tree} {o : Nat} {red : Bool} {d : List UInt8} {fuel : Nat} (h : (Tree.node l r o red d).depth ≤ fuel + 1) :
    l.depth ≤ fuel ∧ r.depth ≤ fuel :=
  Nat.max_le.mp (Nat.le_of_succ_le_succ h)

theorem rbCopy_spec (c : Cfg) : ∀ (t : Tree) (fuel : Nat) (st : Store) (p : Option Nat),
    Shape st.cells 0 st.next p t → t.depth ≤ fuel →
    ∃ st' p', rbCopy c fuel st p = some (st', p') ∧ Ext st st' ∧
      Shape st'.cells st.next st'.next p' (t.mapData (copyData c)) := by
  intro t
  induction t with
  | nil =>
    intro fuel st p hs _
    cases hs
    exact ⟨st, none, rfl, Ext.refl _, .nil⟩
  | node l r o red d ihl ihr =>
    intro fuel st p hs hd
    cases hs with
    | @node a n _ _ _ _ hn hl hr =>
    cases fuel with
    -- a node has depth at least one
    | zero => exact absurd hd (Nat.not_succ_le_zero _)
    | succ fuel =>
    obtain ⟨hdl, hdr⟩ := depth_node_le hd
    rw [rbCopy, copyChild, copyNode_succ c fuel st a n hn]
    -- the fresh node `st.next`, the left subtree behind it, the left pointer stored, then the right subtree
    have e1 := Ext.alloc st ⟨none, none, n.off, n.red, copyData c n.data⟩
    obtain ⟨s2, l', he2, e2, hsh2⟩ := ihl fuel _ n.left (hl.ext e1) hdl
    have e3 : Ext st (modCell s2 st.next fun x => { x with left := l' }) := (e1.trans e2).modCell (Nat.le_refl _) _
    obtain ⟨s4, r', he4, e4, hsh4⟩ := ihr fuel _ n.right (hr.ext e3) hdr
    rw [show copyChild (copyNode c fuel) _ n.left = _ from he2]; dsimp only
    rw [show copyChild (copyNode c fuel) _ n.right = _ from he4]
    obtain ⟨e5, hsh5⟩ := node_assembled (f := fun x => { x with right := r' }) e2 hsh2 (modCell_next ..)
      (fun i hi => modCell_other _ _ _ i hi) (fun x hx => modCell_self _ _ _ x hx) e4 hsh4 rfl
    exact ⟨_, _, rfl, e5, hsh5⟩

theorem lookupSt_shape (cmp : List UInt8 → List UInt8 → Ordering) (key : List UInt8) {cells : Nat → Option Cell} {lo hi : Nat} :
    ∀ (fuel : Nat) {p : Option Nat} {t : Tree}, Shape cells lo hi p t → t.depth ≤ fuel →
      lookupSt cmp cells fuel p key = t.lookup cmp key := by
  intro fuel
  induction fuel with
  | zero =>
    intro p t hs hd
    cases hs with
    | nil => rfl
    | node => exact absurd hd (Nat.not_succ_le_zero _)
  | succ fuel ih =>
    intro p t hs hd
    cases hs with
    | nil => rfl
    | node h1 h2 h3 hl hr =>
      simp only [lookupSt, h3, Tree.lookup]
      rw [ih hl (depth_node_le hd).1, ih hr (depth_node_le hd).2]

theorem fit_length (n : Nat) (l : List UInt8) : (fit n l).length = n := by
  simp [fit]

theorem mknode_wf (c : Cfg) (key value : List UInt8) : WfTree c (mknode c key value) := by
  simp [mknode, WfTree, fit_length]

theorem flipOne_wf (c : Cfg) (t : Tree) (h : WfTree c t) : WfTree c (flipOne t) := by
  cases t <;> simp_all [flipOne, WfTree]

theorem flipColors_wf (c : Cfg) (t : Tree) (h : WfTree c t) : WfTree c (flipColors t) := by
  cases t with
  | nil => simp [flipColors, WfTree]
  | node l r o red d =>
    obtain ⟨h1, h2, h3, h4⟩ := h
    exact ⟨h1, h2, flipOne_wf c l h3, flipOne_wf c r h4⟩

theorem rotateRight_wf (c : Cfg) (t : Tree) (h : WfTree c t) : WfTree c (rotateRight t) := by
  unfold rotateRight
  split
  · simp_all [WfTree]
  · exact h

theorem rotateLeft_wf (c : Cfg) (t : Tree) (h : WfTree c t) : WfTree c (rotateLeft t) := by
  unfold rotateLeft
  split
  · simp_all [WfTree]
  · exact h

theorem balance_wf (c : Cfg) (t : Tree) (h : WfTree c t) : WfTree c (balance t) := by
  have h1 : WfTree c (bal1 t) := by
    unfold bal1; split
    · exact rotateLeft_wf c t h
    · exact h
  have h2 : WfTree c (bal2 (bal1 t)) := by
    unfold bal2; split
    · exact rotateRight_wf c _ h1
    · exact h1
  unfold balance bal3; split
  · exact flipColors_wf c _ h2
  · exact h2

theorem subtreeInsert_wf (c : Cfg) (lt : List UInt8 → List UInt8 → Bool) (new : Tree) (hn : WfTree c new) :
    ∀ t, WfTree c t → WfTree c (subtreeInsert lt new t) := by
  intro t
  induction t with
  | nil => intro _; exact hn
  | node l r o red d ihl ihr =>
    intro h
    obtain ⟨h1, h2, h3, h4⟩ := h
    unfold subtreeInsert
    split
    · exact balance_wf c _ ⟨h1, h2, ihl h3, h4⟩
    · exact balance_wf c _ ⟨h1, h2, h3, ihr h4⟩

theorem blacken_wf (c : Cfg) (t : Tree) (h : WfTree c t) : WfTree c (blacken t) := by
  cases t <;> simp_all [blacken, WfTree]

theorem insert_wf (c : Cfg) (lt : List UInt8 → List UInt8 → Bool) (t : Tree) (key value : List UInt8) (h : WfTree c t) :
    WfTree c (insert c lt t key value) :=
  blacken_wf c _ (subtreeInsert_wf c lt _ (mknode_wf c key value) t h)

theorem build_wf (c : Cfg) (lt : List UInt8 → List UInt8 → Bool) (kvs : List (List UInt8 × List UInt8)) : WfTree c (build c lt kvs) := by
  unfold build
  suffices h : ∀ t, WfTree c t → WfTree c (kvs.foldl (fun t kv => insert c lt t kv.1 kv.2) t) from h _ trivial
  induction kvs with
  | nil => intro t h; exact h
  | cons kv rest ih => intro t h; exact ih _ (insert_wf c lt t kv.1 kv.2 h)

theorem wfTreeB_iff (c : Cfg) (t : Tree) : wfTreeB c t = true ↔ WfTree c t := by
  induction t with
  | nil => simp [wfTreeB, WfTree]
  | node l r o red d ihl ihr => simp [wfTreeB, WfTree, ihl, ihr, and_assoc]

/-- `rbtree_init`: the padded key size is the key size rounded up to a multiple of `sizeof(void *)` -/
theorem init_some (ks vs : Nat) (c : Cfg) (h : init ks vs = some c) :
    c.keySize = ks ∧ c.valueSize = vs ∧ c.keyPad = padOf ks := by
  unfold init at h
  simp only [Option.ite_none_left_eq_some] at h
  obtain ⟨_, _, _, _, h⟩ := h
  cases h; exact ⟨rfl, rfl, rfl⟩

theorem padOf_ge (ks : Nat) : ks ≤ padOf ks := by
  unfold padOf; dsimp only; split
  · exact Nat.le_add_right _ _
  · exact Nat.le_refl _

theorem padOf_aligned (ks : Nat) : padOf ks % ptrSize = 0 := by
  have hp : 0 < ptrSize := by decide
  unfold padOf; dsimp only
  split
  · rw [Nat.add_mod, Nat.mod_eq_of_lt (Nat.sub_lt hp (Nat.pos_of_ne_zero ‹_›)), Nat.add_sub_cancel' (Nat.le_of_lt (Nat.mod_lt ks hp)),
      Nat.mod_self]
  · rename_i h; simpa using h

theorem writeTree_node (st : Store) (l r : Tree) (o : Nat) (red : Bool) (d : List UInt8) :
    writeTree st (.node l r o red d) =
      (modCell (writeTree (writeTree (st.alloc ⟨none, none, o, red, d⟩).1 l).1 r).1 st.next fun x =>
          { x with left := (writeTree (st.alloc ⟨none, none, o, red, d⟩).1 l).2,
                   right := (writeTree (writeTree (st.alloc ⟨none, none, o, red, d⟩).1 l).1 r).2 },
        some st.next) := rfl

theorem writeTree_spec : ∀ (t : Tree) (st : Store),
    Ext st (writeTree st t).1 ∧ Shape (writeTree st t).1.cells st.next (writeTree st t).1.next (writeTree st t).2 t := by
  intro t
  induction t with
  | nil => intro st; exact ⟨Ext.refl _, .nil⟩
  | node l r o red d ihl ihr =>
    intro st
    rw [writeTree_node]
    obtain ⟨e2, hsh2⟩ := ihl (st.alloc ⟨none, none, o, red, d⟩).1
    obtain ⟨e4, hsh4⟩ := ihr (writeTree (st.alloc ⟨none, none, o, red, d⟩).1 l).1
    exact node_assembled (g := id) e2 hsh2 rfl (fun _ _ => rfl) (fun _ hx => hx) e4 hsh4 rfl

end Sqfs.Rb
