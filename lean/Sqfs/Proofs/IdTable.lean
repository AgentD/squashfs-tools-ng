/-
C03, the id table (`Sqfs/Model/IdTable.lean`): `step` is a lookup, else an append below the limit (`step_eq`), so a table without
duplicates and within the limit stays one and only grows at its end (`step_spec`; `addAll_spec` for a list of ids).
-/
import Sqfs.Model.IdTable
import Sqfs.Proofs.ListFacts
namespace Sqfs.IdTable

theorem step_eq (lim : Nat) (tbl : List Nat) (id : Nat) : step lim tbl id =
    if id ∈ tbl then some (tbl.idxOf id, tbl) else if tbl.length = lim then none else some (tbl.length, tbl ++ [id]) := by
  simp only [step, List.idxOf_lt_length_iff]

theorem step_spec (lim : Nat) (tbl : List Nat) (id i : Nat) (t : List Nat) (hl : tbl.length ≤ lim)
    (hn : tbl.Nodup) (h : step lim tbl id = some (i, t)) :
    t.length ≤ lim ∧ i < t.length ∧ (∃ e, t = tbl ++ e) ∧ t.Nodup ∧ t[i]? = some id := by
  rw [step_eq] at h
  by_cases h1 : id ∈ tbl
  · rw [if_pos h1] at h
    obtain ⟨rfl, rfl⟩ := Prod.mk.inj (Option.some.inj h)
    have hlt := List.idxOf_lt_length_iff.mpr h1
    exact ⟨hl, hlt, ⟨[], (List.append_nil _).symm⟩, hn, by rw [List.getElem?_eq_getElem hlt, List.getElem_idxOf hlt]⟩
  · rw [if_neg h1] at h
    by_cases h2 : tbl.length = lim
    · rw [if_pos h2] at h; cases h
    · rw [if_neg h2] at h
      obtain ⟨rfl, rfl⟩ := Prod.mk.inj (Option.some.inj h)
      rw [List.length_append, List.length_singleton]
      exact ⟨Nat.lt_of_le_of_ne hl h2, Nat.lt_succ_self _, ⟨_, rfl⟩, List.nodup_snoc hn h1, List.getElem?_concat_length ..⟩

theorem addAll_spec (lim : Nat) : ∀ (ids tbl t is : List Nat), tbl.length ≤ lim → tbl.Nodup →
    addAll lim tbl ids = some (t, is) →
    t.length ≤ lim ∧ (∃ e, t = tbl ++ e) ∧ t.Nodup ∧ is.length = ids.length ∧ (∀ i ∈ is, i < t.length) ∧
      ∀ x ∈ ids, x ∈ t := by
  intro ids
  induction ids with
  | nil =>
    intro tbl t is hl hn h
    obtain ⟨rfl, rfl⟩ := Prod.mk.inj (Option.some.inj h)
    exact ⟨hl, ⟨[], (List.append_nil _).symm⟩, hn, rfl, by simp, by simp⟩
  | cons id rest ih =>
    intro tbl t is hl hn h
    rw [addAll] at h
    cases hs : step lim tbl id with
    | none => rw [hs] at h; cases h
    | some p =>
      obtain ⟨s1, s2, ⟨e1, s3⟩, s4, s5⟩ := step_spec lim tbl id p.1 p.2 hl hn hs
      rw [hs] at h
      obtain ⟨q, hr, hq⟩ := Option.map_eq_some_iff.mp h
      obtain ⟨rfl, rfl⟩ := Prod.mk.inj hq
      obtain ⟨r1, ⟨e2, r2⟩, r3, r4, r5, r6⟩ := ih p.2 q.1 q.2 s1 s4 hr
      -- the table only grows behind what it holds
      have hlen : p.2.length ≤ q.1.length := by rw [r2, List.length_append]; exact Nat.le_add_right ..
      refine ⟨r1, ⟨e1 ++ e2, by rw [r2, s3, List.append_assoc]⟩, r3, by simp [r4], fun j hj => ?_, fun x hx => ?_⟩
      · rcases List.mem_cons.mp hj with rfl | hj
        · exact Nat.lt_of_lt_of_le s2 hlen
        · exact r5 j hj
      · rcases List.mem_cons.mp hx with rfl | hx
        · rw [r2]; exact List.mem_append_left _ (List.mem_of_getElem? s5)
        · exact r6 x hx

end Sqfs.IdTable
