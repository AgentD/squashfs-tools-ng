/-
Helper lemmas for C07: `read_pax_header` (framing, key/value split, handlers) never leaves the record
buffer and always stops.  The buffer is the record plus the NUL that `record_to_memory` appends, at index `k`.  That one
terminator carries every proof here: a scan goes on only over bytes other than NUL, so it stays at or in front of `k`
(`nul_ind`), and a store puts a NUL, so the buffer stays terminated at `k` (`wr_nul`); `RecOK` is what is then left to say about
a framed record.  (The NULs that the framing step stores over the record's newline and over the '=' make key and value C strings
of their own; that the accesses stay inside does not depend on them.)
-/
import Sqfs.Proofs.ParseTotal
namespace Sqfs.ParseTotal

theorem isSpace_zero : isSpace 0 = false := by decide

theorem nul_ind {buf : Bytes} {k : Nat} (hk : buf[k]? = some 0) {P : Nat → Nat → Prop}
    (step : ∀ f i, i < buf.length → i ≤ k → (∀ c, buf[i]? = some c → c ≠ 0 → P f (i + 1)) → P (f + 1) i) :
    ∀ fuel i, k - i + 1 ≤ fuel → i ≤ k → P fuel i := by
  have hklt := getElem?_lt hk
  refine fuel_ind (k - ·) fun f i ih hi => step f i (by omega) hi fun c hc hne => ?_
  have := lt_nul hk hi hc hne
  exact ih (i + 1) (by omega) this

theorem strtolSkip_spec (buf : Bytes) (k : Nat) (hk : buf[k]? = some 0) : ∀ fuel i, k - i + 1 ≤ fuel → i ≤ k →
    (strtolSkip buf fuel i).Sat (· ≤ k) := by
  refine nul_ind hk fun f i hlt hi ih => ?_
  rw [strtolSkip]
  exact of_get hlt fun c hc => iteInduction (fun hs => ih c hc (by rintro rfl; simp [isSpace_zero] at hs)) (fun _ => .ok hi)

theorem strtolDigits_spec (buf : Bytes) (k : Nat) (hk : buf[k]? = some 0) : ∀ fuel i, k - i + 1 ≤ fuel → i ≤ k → ∀ acc,
    (strtolDigits buf fuel i acc).Sat fun (_, e) => e ≤ k := by
  refine nul_ind hk fun f i hlt hi ih acc => ?_
  rw [strtolDigits]
  exact of_get hlt fun c hc => iteInduction (fun hs => ih c hc (ne_zero_of_isDigit hs) _) (fun _ => .ok hi)

theorem strtol10_spec (buf : Bytes) (k start : Nat) (hk : buf[k]? = some 0) (hs : start ≤ k) :
    (strtol10 buf start).Sat fun (_, e) => e ≤ k := by
  have hklt := getElem?_lt hk
  unfold strtol10
  refine (strtolSkip_spec buf k hk (buf.length + 1) start (by omega) hs).seq (fun i hi => ?_) (fun _ => .fail)
  refine of_get (by omega) fun s hsg => ?_
  simp only []
  -- a sign is not the terminator, so the byte behind it is still inside
  have hj : (if s.toNat = 45 ∨ s.toNat = 43 then i + 1 else i) ≤ k :=
    iteInduction (motive := (· ≤ k)) (fun hsign => lt_nul hk hi hsg (by rintro rfl; simp at hsign)) (fun _ => hi)
  generalize (if s.toNat = 45 ∨ s.toNat = 43 then i + 1 else i) = j at hj
  refine of_get (by omega) fun d0 _ => iteInduction (fun _ => .ok hs) fun _ => ?_
  exact (strtolDigits_spec buf k hk (buf.length + 1) j (by omega) hj 0).seq (fun (_, e) he => .ok he) (fun _ => .fail)

theorem scanKey_spec (buf : Bytes) (k : Nat) (hk : buf[k]? = some 0) : ∀ fuel i, k - i + 1 ≤ fuel → i ≤ k →
    (scanKey buf fuel i).Sat (· ≤ k) := by
  refine nul_ind hk fun f i hlt hi ih => ?_
  rw [scanKey]
  exact of_get hlt fun c hc => iteInduction (fun _ => .ok hi) fun hs => ih c hc (by rintro rfl; simp at hs)

theorem cstr_safe (buf : Bytes) (k : Nat) (hk : buf[k]? = some 0) : ∀ fuel i, k - i + 1 ≤ fuel → i ≤ k →
    (cstr buf fuel i).safe := by
  refine nul_ind hk fun f i hlt _ ih => ?_
  rw [cstr]
  exact of_get hlt fun c hc => iteInduction (fun _ => trivial) fun hz =>
    (ih c hc (by rintro rfl; simp at hz)).seq (fun _ => trivial) (fun _ => trivial)

/-- this scan tests `ptr < end` itself -/
theorem skipSpaceTo_safe (buf : Bytes) (endIdx : Nat) (he : endIdx ≤ buf.length) : ∀ fuel i, endIdx - i + 1 ≤ fuel →
    (skipSpaceTo buf endIdx fuel i).safe := by
  refine fuel_ind (endIdx - ·) fun f i ih => ?_
  rw [skipSpaceTo]
  exact iteInduction (fun _ => trivial) fun _ => of_get (by omega) fun c _ =>
    iteInduction (fun _ => ih (i + 1) (by omega)) (fun _ => trivial)

theorem wr_nul {buf buf' : Bytes} {i k : Nat} (h : wr buf i 0 = some buf') (hk : buf[k]? = some 0) : buf'[k]? = some 0 := by
  obtain ⟨_, hi, hne⟩ := wr_spec h
  by_cases e : k = i
  · rw [e]; exact hi
  · rw [hne k e]; exact hk

/-- what the handlers are promised about a framed record: the buffer is terminated at `k`; the key starts, and the `valueLen`
bytes of the value end, at or in front of the terminator -/
structure RecOK (buf : Bytes) (r : PaxRec) (k : Nat) : Prop where
  nul : buf[k]? = some 0
  key : r.key ≤ k
  len : r.value + r.valueLen ≤ k

/-- the framing step neither leaves the buffer nor runs on; the record it frames is as the handlers need it, and the next
one starts further on -/
def FrameRes.Good (k line : Nat) : FrameRes → Prop
  | .oob => False
  | .spin => False
  | .fail _ => True
  | .frame buf' r next => line < next ∧ RecOK buf' r k

@[elab_as_elim]
theorem FrameRes.Good.seq {k line : Nat} {motive : FrameRes → Prop} {x : FrameRes} (h : x.Good k line)
    (frame : ∀ b r n, line < n → RecOK b r k → motive (.frame b r n)) (fail : ∀ c, motive (.fail c)) : motive x := by
  cases x with
  | frame b r n => exact frame b r n h.1 h.2
  | fail c => exact fail c
  | oob => exact h.elim
  | spin => exact h.elim

theorem paxFrame_spec (buf : Bytes) (k line : Nat) (hk : buf[k]? = some 0) (hl : line < k) : (paxFrame buf k line).Good k line := by
  have hklt := getElem?_lt hk
  unfold paxFrame
  refine (strtol10_spec buf k line hk (by omega)).seq (fun (len, ptr) hptr => ?_) (fun _ => trivial)
  refine of_get (by omega) fun c _ => iteInduction (fun _ => trivial) fun hbad => iteInduction (fun _ => trivial) fun hov => ?_
  -- the record is at least one byte long and ends in front of the terminator
  have hn : 1 ≤ len.toNat ∧ line + len.toNat ≤ k := by omega
  clear hbad hov
  generalize len.toNat = n at *
  simp only []
  refine of_wr (by omega) fun buf1 hw1 => ?_
  have hk1 := wr_nul hw1 hk
  have hklt1 := getElem?_lt hk1
  refine (skipSpaceTo_safe buf1 k (by omega) (buf1.length + 1) ptr (by omega)).seq (fun p => ?_) (fun _ => trivial)
  refine iteInduction (fun _ => trivial) fun hp => ?_
  refine (scanKey_spec buf1 k hk1 (buf1.length + 1) p (by omega) (by omega)).seq (fun q hq => ?_) (fun _ => trivial)
  refine of_get (by omega) fun e he => iteInduction (fun _ => trivial) fun heq => ?_
  -- the key scan stopped on '=', so in front of the terminator: the value starts at or in front of it
  have hqlt := lt_nul hk1 hq he (by rintro rfl; simp at heq)
  refine of_wr (by omega) fun buf2 hw2 => ?_
  -- `valuelen` is what the record, which ends at `line + n ≤ k`, has left behind the '=' (nothing, if that is beyond the record)
  exact ⟨by omega, wr_nul hw2 hk1, by show p ≤ k; omega, by show q + 1 + (n - (q + 1 - line) - 1) ≤ k; omega⟩

theorem sparseMapLoop_safe (buf : Bytes) (k : Nat) (hk : buf[k]? = some 0) : ∀ fuel i, k - i + 1 ≤ fuel → i ≤ k → ∀ acc,
    (sparseMapLoop buf fuel i acc).safe := by
  have hklt := getElem?_lt hk
  refine fuel_ind (k - ·) fun f i ih hi acc => ?_
  rw [sparseMapLoop]
  refine (parseU_spec 10 buf i none true 0 0 k (.ofNul hi hk)).seq (fun (off, d1) ⟨_, hb⟩ => ?_) (fun _ => trivial)
  refine of_get (by omega) fun c hc => iteInduction (fun _ => trivial) fun hcomma => ?_
  have := lt_nul hk hb hc (by rintro rfl; simp at hcomma)
  refine (parseU_spec 10 buf (i + d1 + 1) none true 0 0 k (.ofNul (by omega) hk)).seq (fun (cnt, d2) ⟨_, hb2⟩ => ?_) (fun _ => trivial)
  refine of_get (by omega) fun c2 hc2 => iteInduction (fun hcomma2 => ?_) (fun _ => trivial)
  have := lt_nul hk hb2 hc2 (by rintro rfl; simp at hcomma2)
  exact ih _ (by omega) (by omega) _

theorem safe_of_cases {α β : Type} {r : R α} (hr : r.safe) (f : α → R β) (g : Nat → R β) (hf : ∀ a, (f a).safe)
    (hg : ∀ c, (g c).safe) :
    (match r with | .ok a => f a | .fail c => g c | .oob => .oob | .spin => .spin : R β).safe := by
  cases r with
  | ok a => exact hf a
  | fail c => exact hg c
  | oob => exact hr.elim
  | spin => exact hr.elim

theorem paxApply_safe {buf : Bytes} {r : PaxRec} {k : Nat} (h : RecOK buf r k) (o : PaxOut) : (paxApply buf r o).safe := by
  have hk := h.nul; have hkey := h.key; have hlen := h.len
  have hvl : r.value ≤ k := by omega
  have hklt := getElem?_lt hk
  unfold paxApply
  refine (cstr_safe buf k hk (buf.length + 1) r.key (by omega) hkey).seq (fun key => ?_) (fun _ => trivial)
  simp -zeta only []
  extract_lets num str
  -- every handler reads the value as a string, up to the terminator at the latest
  have hU := (parseU_spec 10 buf r.value none true 0 0 k (.ofNul hvl hk)).1
  have hnum : ∀ flag f, (num flag f).safe := fun flag f => by
    simp only [num]; exact hU.seq (fun _ => trivial) (fun _ => trivial)
  have hstr : ∀ flag f, (str flag f).safe := fun flag f => by
    simp only [str]; exact (cstr_safe buf k hk (buf.length + 1) r.value (by omega) hvl).seq (fun _ => trivial) (fun _ => trivial)
  refine iteInduction (fun _ => hnum _ _) (fun _ => ?_)   -- uid
  refine iteInduction (fun _ => hnum _ _) (fun _ => ?_)   -- gid
  refine iteInduction (fun _ => hstr _ _) (fun _ => ?_)   -- path
  refine iteInduction (fun _ => hnum _ _) (fun _ => ?_)   -- size
  refine iteInduction (fun _ => hstr _ _) (fun _ => ?_)   -- linkpath
  refine iteInduction (fun _ => ?_) (fun _ => ?_)         -- mtime
  · exact (parseI_safe buf r.value none true k (.ofNul hvl hk)).seq (fun _ => trivial) (fun _ => trivial)
  refine iteInduction (fun _ => hstr _ _) (fun _ => ?_)   -- GNU.sparse.name
  refine iteInduction (fun _ => hnum _ _) (fun _ => ?_)   -- GNU.sparse.size, GNU.sparse.realsize
  refine iteInduction (fun _ => trivial) (fun _ => ?_)    -- GNU.sparse.major, GNU.sparse.minor
  refine iteInduction (fun _ => trivial) (fun _ => ?_)    -- SCHILY.xattr.
  refine iteInduction (fun _ => ?_) (fun _ => ?_)         -- LIBARCHIVE.xattr.
  · -- … except the base-64 decoder, which is handed `valuelen`
    exact (base64Decode_spec buf r.value r.valueLen r.valueLen (by omega)).1.seq (fun _ => trivial) (fun _ => trivial)
  refine iteInduction (fun _ => ?_) (fun _ => ?_)         -- GNU.sparse.map
  · exact (sparseMapLoop_safe buf k hk (buf.length + 1) r.value (by omega) hvl []).seq (fun _ => trivial) (fun _ => trivial)
  refine iteInduction (fun _ => hU.seq (fun _ => trivial) (fun _ => trivial)) (fun _ => ?_)      -- GNU.sparse.offset
  exact iteInduction (fun _ => hU.seq (fun _ => trivial) (fun _ => trivial)) (fun _ => trivial)  -- GNU.sparse.numbytes

theorem paxLoop_safe (k : Nat) : ∀ fuel line, k - line + 1 ≤ fuel → ∀ buf (o : PaxOut), buf[k]? = some 0 →
    (paxLoop k fuel buf line o).safe := by
  refine fuel_ind (k - ·) fun f line ih buf o hk => ?_
  rw [paxLoop]
  refine iteInduction (fun _ => trivial) (fun hlt => ?_)
  refine (paxFrame_spec buf k line hk (by omega)).seq (fun buf' r next hadv hok => ?_) (fun _ => trivial)
  simp only []
  exact (paxApply_safe hok o).seq (fun o' => ih next (by omega) buf' o' hok.nul) (fun _ => trivial)

theorem readPaxHeader_safe (record : Bytes) : (readPaxHeader record).safe :=
  paxLoop_safe record.length (record.length + 1) 0 (by omega) (record ++ [0]) {} List.getElem?_concat_length

end Sqfs.ParseTotal
