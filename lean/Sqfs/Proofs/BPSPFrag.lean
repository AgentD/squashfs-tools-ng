/-
C02, `packRef = specPack`: the fragment pass against `specPack`'s state (`FSim`; `Sim` adds the writer pass on the numbered
stream).  Closing the open fragment block is `Pack.closeOpen`; making room for a fragment is the first half of
`Pack.addFragment`.  The second half and the lookup: BPSPStore.
-/
import Sqfs.Proofs.BPSPWriter
import Sqfs.Proofs.BPSPChunk
namespace Sqfs.BlockProc
open Sqfs.Consts
open Sqfs.BlockWriter (hasFlag)

variable {P : Params} {F : FSt} {W : WSt} {σ : Sqfs.Pack.State}

def openView (o : Option Blk) : Option (Bytes × Bool) := o.map (fun fb => (fb.data, hasFlag fb.flags blkDontCompress))
def openViewS (o : Option Sqfs.Pack.FragBlock) : Option (Bytes × Bool) := o.map (fun fb => (fb.data, fb.dontCompress))

structure FSim (P : Params) (F : FSt) (σ : Sqfs.Pack.State) : Prop where
  opn : openView F.opn = openViewS σ.openFrag
  opnOK : ∀ fb, F.opn = some fb → fb.index = σ.frags.length ∧ FBRawFlags fb.flags ∧ fb.data ≠ [] ∧ fb.data.length ≤ P.B
  ntbl : F.ntbl = σ.frags.length + (if F.opn.isSome then 1 else 0)
  closedIdx : ∀ e ∈ F.closed, e.1 < σ.frags.length
  good : ∀ c ∈ F.ht, ChunkGood F c
  look : ∀ dc ck d, Sqfs.Pack.lookupChunk (F.ht.map (absChunk F)) dc ck d = Sqfs.Pack.lookupChunk σ.chunks dc ck d

/-- `specPack`'s state while the passes of the reference run: `fs` is the writer's `file_start`, `fe` and `we` are the inode
updates of the fragment pass and of the writer pass so far -/
structure ASt where
  σ : Sqfs.Pack.State
  fs : Nat
  fe : List Eff
  we : List Eff

variable {s : ASt}

/-- the joint invariant: the writer pass has run on the whole numbered stream -/
structure Sim (P : Params) (F : FSt) (W : WSt) (s : ASt) : Prop where
  run : wRun { wr := BlockWriter.init P.pre } F.stream = .ok W
  w : WSim P W s.σ.hist s.σ.frags
  f : FSim P F s.σ
  fs : W.wr.fileStart = s.fs
  fe : F.effs = s.fe
  we : W.effs = s.we

theorem Sim.init (P : Params) : Sim P {} { wr := BlockWriter.init P.pre } ⟨{}, 0, [], []⟩ := by
  refine ⟨rfl, ⟨⟨[], BlockWriter.Abs_init P.pre, rfl⟩, fun s hs => (by cases hs), rfl, rfl⟩, ?_, rfl, rfl, rfl⟩
  exact ⟨rfl, fun fb h => (by cases h), rfl, fun e he => (by cases he), fun c hc => (by cases hc), fun _ _ _ => rfl⟩

/-- every fragment block of `F` is still there in `F'`, possibly longer -/
def FExt (F F' : FSt) : Prop := ∀ i blk, F.fragData i = some blk → ∃ blk', F'.fragData i = some blk' ∧ blk <+: blk'

theorem FExt.of_eq {F F' : FSt} (h : ∀ i, F'.fragData i = F.fragData i) : FExt F F' :=
  fun i blk hb => ⟨blk, by rw [h i, hb], List.prefix_refl _⟩

theorem ChunkGood.ext {F F' : FSt} (he : FExt F F') {c : Chunk} (h : ChunkGood F c) :
    ChunkGood F' c ∧ absChunk F' c = absChunk F c := by
  obtain ⟨blk, hb, hin⟩ := h.inb
  obtain ⟨blk', hb', hp⟩ := he _ _ hb
  refine ⟨⟨⟨blk', hb', Nat.le_trans hin hp.length_le⟩, h.flags⟩, ?_⟩
  unfold absChunk chunkData
  rw [hb, hb']
  obtain ⟨t, rfl⟩ := hp
  exact congrArg _ (List.take_drop_append_left blk t hin)

theorem map_abs_ext {F F' : FSt} (he : FExt F F') {l : List Chunk} (h : ∀ c ∈ l, ChunkGood F c) :
    l.map (absChunk F') = l.map (absChunk F) :=
  List.map_congr_left (fun c hc => ((h c hc).ext he).2)

theorem FSim.hist (h : FSim P F σ) (H : List Sqfs.Pack.Stored) :
    FSim P F { σ with hist := H } :=
  ⟨h.opn, h.opnOK, h.ntbl, h.closedIdx, h.good, h.look⟩

/-- the table and its lookups survive when the fragment blocks only grow and the table is left alone -/
theorem FSim.table {F F' : FSt} (h : FSim P F σ) (he : FExt F F') (hht : F'.ht = F.ht) :
    (∀ c ∈ F'.ht, ChunkGood F' c) ∧
      ∀ dc ck d, Sqfs.Pack.lookupChunk (F'.ht.map (absChunk F')) dc ck d = Sqfs.Pack.lookupChunk σ.chunks dc ck d :=
  ⟨fun c hc => ((h.good c (hht ▸ hc)).ext he).1, by rw [hht, map_abs_ext he h.good]; exact h.look⟩

theorem FSim.congr {F F' : FSt} (h : FSim P F σ) (h1 : F'.opn = F.opn)
    (h2 : F'.closed = F.closed) (h3 : F'.ht = F.ht) (h4 : F'.ntbl = F.ntbl) : FSim P F' σ := by
  have hfd : ∀ i, F'.fragData i = F.fragData i := by
    intro i; unfold FSt.fragData; rw [h1, h2]
  obtain ⟨hg, hl⟩ := h.table (FExt.of_eq hfd) h3
  exact ⟨by rw [h1]; exact h.opn, by rw [h1]; exact h.opnOK, by rw [h4, h1]; exact h.ntbl, by rw [h2]; exact h.closedIdx, hg, hl⟩

theorem open_cases (h : openView F.opn = openViewS σ.openFrag) :
    (F.opn = none ∧ σ.openFrag = none) ∨
    (∃ fb, F.opn = some fb ∧ σ.openFrag = some ⟨fb.data, hasFlag fb.flags blkDontCompress⟩) := by
  cases h1 : F.opn with
  | none =>
    cases h2 : σ.openFrag with
    | none => exact Or.inl ⟨rfl, rfl⟩
    | some o => rw [h1, h2] at h; simp [openView, openViewS] at h
  | some fb =>
    cases h2 : σ.openFrag with
    | none => rw [h1, h2] at h; simp [openView, openViewS] at h
    | some o =>
      rw [h1, h2] at h
      simp only [openView, openViewS, Option.map_some, Option.some.injEq, Prod.mk.injEq] at h
      obtain ⟨od, odc⟩ := o
      simp only at h
      exact Or.inr ⟨fb, rfl, by rw [h.1, h.2]⟩

theorem close_sim (hP : CodecFits P) (h : Sim P F W s) :
    ∃ W', Sim P (F.close P) W' { s with σ := Sqfs.Pack.closeOpen (toPackParams P) s.σ } ∧ (F.close P).opn = none := by
  rcases open_cases h.f.opn with ⟨h1, h2⟩ | ⟨fb, h1, h2⟩
  · have e1 : F.close P = F := close_of_opn_none P F h1
    have e2 : Sqfs.Pack.closeOpen (toPackParams P) s.σ = s.σ := by unfold Sqfs.Pack.closeOpen; rw [h2]
    rw [e1, e2]
    exact ⟨W, h, h1⟩
  · obtain ⟨hidx, hraw, hne, hsz⟩ := h.f.opnOK fb h1
    obtain ⟨st, hst⟩ : ∃ st, Sqfs.Pack.workFragBlock (toPackParams P) ⟨fb.data, hasFlag fb.flags blkDontCompress⟩ = st := ⟨_, rfl⟩
    obtain ⟨W', hw, hsim, heff, hkeep⟩ := wStep_fb hP h.w (fb.withSeq F.stream.length) hraw hne hsz hidx hst
    have e1 : F.close P = { F with opn := none, closed := (fb.index, fb.data) :: F.closed,
                                   stream := F.stream ++ [processBlock P (fb.withSeq F.stream.length)] } := by
      unfold FSt.close; rw [h1]
    have e2 : Sqfs.Pack.closeOpen (toPackParams P) s.σ =
        { s.σ with hist := s.σ.hist ++ [st], frags := s.σ.frags ++ [⟨P.pre.length + Sqfs.Pack.bytesOf s.σ.hist, st.data.length, st.raw⟩]
                   openFrag := none } := by
      unfold Sqfs.Pack.closeOpen; rw [h2, ← hst]; rfl
    obtain ⟨hg, hl⟩ := h.f.table (FExt.of_eq (fragData_close P F)) (show (F.close P).ht = F.ht by rw [e1])
    refine ⟨W', ⟨?_, ?_, ?_, hkeep.trans h.fs, by rw [e1]; exact h.fe, heff.trans h.we⟩, by rw [e1]⟩
    · rw [e1]
      show wRun _ (F.stream ++ [_]) = _
      rw [wRun_snoc, h.run]
      exact hw
    · rw [e2]; exact hsim
    · rw [e2]
      refine ⟨?_, ?_, ?_, ?_, hg, hl⟩
      · rw [e1]; rfl
      · rw [e1]; intro fb' hfb'; cases hfb'
      · rw [e1]
        show F.ntbl = (s.σ.frags ++ [_]).length + 0
        rw [h.f.ntbl, h1]; simp
      · rw [e1]
        intro e hmem
        show e.1 < (s.σ.frags ++ [_]).length
        rw [List.length_append, List.length_singleton]
        rcases List.mem_cons.mp hmem with hm | hm
        · rw [hm]; show fb.index < _; omega
        · have := h.f.closedIdx e hm; omega

/-- `addFragment`, first half: the open block is closed when the tail does not fit -/
def specRoom (P' : Sqfs.Pack.Params) (σ : Sqfs.Pack.State) (n : Nat) : Sqfs.Pack.State :=
  match σ.openFrag with
  | some fb => if fb.data.length + n > P'.B then Sqfs.Pack.closeOpen P' σ else σ
  | none => σ

/-- `addFragment`, second half: the tail opens a new block or is appended to the open one -/
def specPlace (σ1 : Sqfs.Pack.State) (Fl : Sqfs.Pack.Flags) (ck : UInt32) (t : Bytes) : Sqfs.Pack.State × (Nat × Nat) :=
  match σ1.openFrag with
  | none =>
    ({ σ1 with openFrag := some ⟨t, Fl.dontCompress⟩, chunks := ⟨σ1.frags.length, 0, Fl.dontCompress, ck, t⟩ :: σ1.chunks },
     (σ1.frags.length, 0))
  | some fb =>
    ({ σ1 with openFrag := some ⟨fb.data ++ t, fb.dontCompress || Fl.dontCompress⟩
               chunks := ⟨σ1.frags.length, fb.data.length, Fl.dontCompress, ck, t⟩ :: σ1.chunks },
     (σ1.frags.length, fb.data.length))

theorem addFragment_eq (P' : Sqfs.Pack.Params) (σ : Sqfs.Pack.State) (Fl : Sqfs.Pack.Flags) (ck : UInt32) (t : Bytes) :
    Sqfs.Pack.addFragment P' σ Fl ck t = specPlace (specRoom P' σ t.length) Fl ck t := rfl

theorem makeRoom_sim (hP : CodecFits P) (h : Sim P F W s) (n : Nat) :
    ∃ W', Sim P (F.makeRoom P n) W' { s with σ := specRoom (toPackParams P) s.σ n } ∧
      ∀ fb, (F.makeRoom P n).opn = some fb → fb.data.length + n ≤ P.B := by
  rcases open_cases h.f.opn with ⟨h1, h2⟩ | ⟨fb, h1, h2⟩
  · have e1 : F.makeRoom P n = F := by unfold FSt.makeRoom; rw [h1]
    have e2 : specRoom (toPackParams P) s.σ n = s.σ := by unfold specRoom; rw [h2]
    rw [e1, e2]
    exact ⟨W, h, fun fb hfb => by rw [h1] at hfb; cases hfb⟩
  · by_cases hgt : fb.data.length + n > P.B
    · have e1 : F.makeRoom P n = F.close P := by unfold FSt.makeRoom; rw [h1]; simp only [hgt, if_true]
      have e2 : specRoom (toPackParams P) s.σ n = Sqfs.Pack.closeOpen (toPackParams P) s.σ := by
        unfold specRoom; rw [h2]
        have : fb.data.length + n > (toPackParams P).B := hgt
        simp only [this, if_true]
      rw [e1, e2]
      obtain ⟨W', hs, he3⟩ := close_sim hP h
      exact ⟨W', hs, fun fb' hfb' => by rw [he3] at hfb'; cases hfb'⟩
    · have e1 : F.makeRoom P n = F := by unfold FSt.makeRoom; rw [h1]; simp only [hgt, if_false]
      have e2 : specRoom (toPackParams P) s.σ n = s.σ := by
        unfold specRoom; rw [h2]
        have : ¬ fb.data.length + n > (toPackParams P).B := hgt
        simp only [this, if_false]
      rw [e1, e2]
      exact ⟨W, h, fun fb' hfb' => by rw [h1] at hfb'; cases hfb'; omega⟩

end Sqfs.BlockProc
