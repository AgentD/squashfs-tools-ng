/-
Lemmas about `specPack` that are local to one file (`packFile`): every file of `specPack` is `packFile`'s result in some state
(`specPack_file`), so what holds of `packFile` in every state holds of every file.  `packFile_eq` writes `packFile` over the blocks
as a reader meets them (`workedOf`: a tail end that became a hole counts as a block); the fields of the result are read off it.
These blocks are `blockAt B d 0, …, blockAt B d (n-1)`, the tail end being block `|d| / B` (`blocksOf_eq_range`); block `i + 1` of
`d` is block `i` of `d.drop B` (`range_blocks_succ`), which is how one inducts over them.
-/
import Sqfs.Spec.PackSpec
namespace Sqfs.Pack

theorem packFiles_length (P : Params) : ∀ (fs : List InFile) (σ : State), (packFiles P σ fs).2.length = fs.length := by
  intro fs
  induction fs with
  | nil => intro σ; rfl
  | cons f fs ih => intro σ; exact congrArg Nat.succ (ih _)

theorem packFiles_getElem (P : Params) : ∀ (fs : List InFile) (σ : State) (i : Nat) (h : i < fs.length),
    ∃ σ', (packFiles P σ fs).2[i]? = some (packFile P σ' fs[i]).2 := by
  intro fs
  induction fs with
  | nil => intro σ i h; exact absurd h (Nat.not_lt_zero i)
  | cons f fs ih =>
    intro σ i h
    cases i with
    | zero => exact ⟨σ, rfl⟩
    | succ i => exact ih (packFile P σ f).1 i (Nat.lt_of_succ_lt_succ h)

theorem specPack_files (P : Params) (files : List InFile) : (specPack P files).files = (packFiles P {} files).2 := rfl

theorem specPack_file (P : Params) (files : List InFile) (i : Nat) (h : i < files.length) :
    ∃ σ, (specPack P files).files[i]? = some (packFile P σ files[i]).2 :=
  packFiles_getElem P files {} i h

theorem encode_cases (P : Params) (dc : Bool) (ck : UInt32) (d : Bytes) :
    ((encode P dc ck d).raw = true ∧ (encode P dc ck d).data = d) ∨
    ((encode P dc ck d).raw = false ∧ P.codec.cmp d = some (encode P dc ck d).data) := by
  unfold encode
  split
  · exact Or.inl ⟨rfl, rfl⟩
  · split
    · rename_i z hz; exact Or.inr ⟨rfl, hz⟩
    · exact Or.inl ⟨rfl, rfl⟩

theorem encode_raw_of_dontCompress (P : Params) (ck : UInt32) (d : Bytes) : (encode P true ck d).raw = true := by
  simp [encode]

theorem workData_word_dontCompress (P : Params) (F : Flags) (d : Bytes) (h : F.dontCompress = true) :
    (workData P F d).word = .sparse ∨ ∃ n, (workData P F d).word = .stored n true := by
  unfold workData
  split
  · left; rfl
  · right
    rw [h]
    exact ⟨_, congrArg (Word.stored _) (encode_raw_of_dontCompress P _ d)⟩

theorem workData_nosparse (P : Params) (F : Flags) (d : Bytes) (h : F.ignoreSparse = true) :
    ∃ s, workData P F d = .stored s := by
  unfold workData
  simp [h]

theorem packFile_empty (P : Params) (σ : State) (f : InFile) (he : f.data = []) :
    packFile P σ f = (σ, ⟨0, [], 0, none, 0, false⟩) := by
  unfold packFile; simp [he]

theorem dataBlocksOf_nil (B : Nat) (f : InFile) (he : f.data = []) : dataBlocksOf B f = [] := by
  simp [dataBlocksOf, fullBlocks, he]

theorem fullBlocks_length (B : Nat) (d : Bytes) : (fullBlocks B d).length = d.length / B := by
  simp [fullBlocks]

theorem tailOf_length (B : Nat) (d : Bytes) : (tailOf B d).length = d.length % B := by
  rw [tailOf, List.length_drop, Nat.mod_eq_sub_div_mul]

/-- the blocks of a file as a reader meets them: the full blocks, then (`wt`) the tail end as a block of its own -/
def blocksOf (B : Nat) (d : Bytes) (wt : Bool) : List Bytes := fullBlocks B d ++ (if wt then [tailOf B d] else [])

theorem blocksOf_length (B : Nat) (d : Bytes) (wt : Bool) :
    (blocksOf B d wt).length = d.length / B + (if wt then 1 else 0) := by
  cases wt <;> simp [blocksOf, fullBlocks]

theorem dataBlocksOf_length (B : Nat) (f : InFile) :
    (dataBlocksOf B f).length = f.data.length / B + (if f.data.length % B > 0 && f.flags.dontFragment then 1 else 0) :=
  blocksOf_length B f.data _

theorem blockAt_length (B : Nat) (d : Bytes) (k : Nat) (h : (k + 1) * B ≤ d.length) : (blockAt B d k).length = B := by
  rw [blockAt, List.length_take, List.length_drop]
  exact Nat.min_eq_left (Nat.le_sub_of_add_le (by rw [Nat.add_comm, ← Nat.succ_mul]; exact h))

theorem blockAt_succ (B : Nat) (d : Bytes) (i : Nat) : blockAt B d (i + 1) = blockAt B (d.drop B) i := by
  rw [blockAt, blockAt, List.drop_drop, Nat.succ_mul, Nat.add_comm]

theorem range_blocks_succ (B : Nat) (d : Bytes) (k : Nat) :
    (List.range (k + 1)).map (blockAt B d) = d.take B :: (List.range k).map (blockAt B (d.drop B)) := by
  rw [List.range_succ_eq_map, List.map_cons, List.map_map]
  congr 1
  · rw [blockAt, Nat.zero_mul, List.drop_zero]
  · exact List.map_congr_left fun i _ => blockAt_succ B d i

theorem range_blocks_flatten (B : Nat) (d : Bytes) (k : Nat) : ((List.range k).map (blockAt B d)).flatten = d.take (k * B) := by
  induction k generalizing d with
  | zero => rw [Nat.zero_mul, List.take_zero]; rfl
  | succ k ih => rw [range_blocks_succ, List.flatten_cons, ih, Nat.succ_mul, Nat.add_comm, List.take_add]

theorem fullBlocks_flatten (B : Nat) (d : Bytes) : (fullBlocks B d).flatten = d.take (d.length / B * B) :=
  range_blocks_flatten B d _

theorem blocksOf_eq_range (B : Nat) (hB : 0 < B) (d : Bytes) (wt : Bool) :
    blocksOf B d wt = (List.range (blocksOf B d wt).length).map (blockAt B d) := by
  rw [blocksOf_length, blocksOf, fullBlocks]
  cases wt
  · simp
  · rw [if_pos rfl, if_pos rfl, List.range_succ, List.map_append, List.map_singleton, blockAt]
    have ht : (tailOf B d).length < B := tailOf_length B d ▸ Nat.mod_lt _ hB
    exact congrArg _ (congrArg (fun x => [x]) (List.take_of_length_le (Nat.le_of_lt ht)).symm)

theorem length_le_succ_mul (B : Nat) (hB : 0 < B) (n : Nat) : n ≤ (n / B + 1) * B := by
  rw [Nat.mul_comm]; exact Nat.le_of_lt (Nat.lt_mul_div_succ n hB)

theorem blocksOf_cover (B : Nat) (hB : 0 < B) (d : Bytes) (wt : Bool) (h : wt = true ∨ d.length % B = 0) :
    d.length ≤ (blocksOf B d wt).length * B := by
  rw [blocksOf_length]
  rcases h with rfl | h
  · exact length_le_succ_mul B hB d.length
  · calc d.length = d.length / B * B := (Nat.div_mul_cancel (Nat.dvd_of_mod_eq_zero h)).symm
      _ ≤ _ := Nat.mul_le_mul_right _ (Nat.le_add_right _ _)

/-- does the tail end go through the worker as a block of its own: the front end submits it as a data block (`DONT_FRAGMENT`),
or it was to be a fragment and is a hole (all zero, not `nosparse`)? -/
def tailAsBlock (B : Nat) (f : InFile) : Bool :=
  (f.data.length % B > 0 && f.flags.dontFragment)
    || (hasTailFrag B f && (!f.flags.ignoreSparse && allZero (tailOf B f.data)))

theorem tailAsBlock_pos {B : Nat} {f : InFile} (h : tailAsBlock B f = true) : 0 < f.data.length % B := by
  simp only [tailAsBlock, hasTailFrag, Bool.or_eq_true, Bool.and_eq_true, decide_eq_true_eq] at h
  exact h.elim (·.1) (·.1.1)

theorem tailAsBlock_of_dontFragment {B : Nat} {f : InFile} (h : f.flags.dontFragment = true) :
    tailAsBlock B f = decide (f.data.length % B > 0) := by
  simp [tailAsBlock, hasTailFrag, h]

/-- what the worker makes of every block of the file -/
def workedOf (P : Params) (f : InFile) : List Worked := (blocksOf P.B f.data (tailAsBlock P.B f)).map (workData P f.flags)

/-- the fragment part of `placeTail`: deduplicated or added -/
def placeFrag (P : Params) (σ : State) (F : Flags) (t : Bytes) : State × (Nat × Nat) :=
  match (if F.dontDedup then none else lookupChunk σ.chunks F.dontCompress (cksumOf P F t) t) with
  | some c => (σ, (c.index, c.offset))
  | none => addFragment P σ F (cksumOf P F t) t

theorem placeTail_eq (P : Params) (σ : State) (F : Flags) (t : Bytes) :
    placeTail P σ F t = if !F.ignoreSparse && allZero t then (σ, .sparse)
      else ((placeFrag P σ F t).1, .frag (placeFrag P σ F t).2.1 (placeFrag P σ F t).2.2) := by
  unfold placeTail placeFrag
  split
  · rfl
  · simp only
    generalize (if F.dontDedup = true then none else lookupChunk σ.chunks F.dontCompress (cksumOf P F t) t) = o
    cases o <;> rfl

theorem workData_hole (P : Params) (F : Flags) (d : Bytes) (h : (!F.ignoreSparse && allZero d) = true) :
    workData P F d = .sparse d.length := by
  rw [workData, if_pos h]

theorem blocksOf_or (B : Nat) (d : Bytes) (a b : Bool) (h : (a && b) = false) :
    blocksOf B d (a || b) = blocksOf B d a ++ (if b then [tailOf B d] else []) := by
  cases a <;> cases b
  · simp [blocksOf]
  · simp [blocksOf]
  · simp [blocksOf]
  · cases h

/-- the blocks the block processor is given as data blocks, against the blocks a reader meets: they differ by a tail end
that became a hole, which is what `workData` makes of an all-zero block -/
theorem workedOf_eq (P : Params) (f : InFile) :
    workedOf P f = (dataBlocksOf P.B f).map (workData P f.flags)
      ++ (if hasTailFrag P.B f && (!f.flags.ignoreSparse && allZero (tailOf P.B f.data)) then [.sparse (tailOf P.B f.data).length]
          else []) := by
  -- a tail end that is to be a fragment is not submitted as a data block
  have hx : ((decide (f.data.length % P.B > 0) && f.flags.dontFragment)
      && (hasTailFrag P.B f && (!f.flags.ignoreSparse && allZero (tailOf P.B f.data)))) = false := by
    unfold hasTailFrag; cases f.flags.dontFragment <;> simp
  rw [workedOf, tailAsBlock, blocksOf_or _ _ _ _ hx, List.map_append]
  congr 1
  split
  · rename_i hole
    rw [List.map_singleton, workData_hole P f.flags _ (Bool.and_eq_true_iff.1 hole).2]
  · rfl

/-- a fragment step happens when there is a tail end and it did not go with the blocks, in the words of `packFile` -/
theorem tailCond_eq (B : Nat) (f : InFile) :
    (decide (f.data.length % B > 0) && !tailAsBlock B f)
      = (hasTailFrag B f && !(!f.flags.ignoreSparse && allZero (tailOf B f.data))) := by
  unfold tailAsBlock hasTailFrag
  generalize decide (f.data.length % B > 0) = a
  generalize f.flags.dontFragment = b
  generalize (!f.flags.ignoreSparse && allZero (tailOf B f.data)) = c
  cases a <;> cases b <;> cases c <;> rfl

/-- All blocks go through the worker and the stored ones are placed; then the tail end, unless it went with the blocks, is
put into a fragment block. -/
theorem packFile_eq (P : Params) (σ : State) (f : InFile) :
    packFile P σ f =
      (let w := workedOf P f
       let pl := placeBlocks P.base f.flags.dontDedup σ.hist (w.filterMap Worked.stored?)
       let res : Option (Nat × Nat) → FileResult :=
         fun fr => ⟨f.data.length, w.map Worked.word, pl.2.1, fr, (w.map Worked.sparseBytes).sum, pl.2.2⟩
       if f.data.length % P.B > 0 && !tailAsBlock P.B f then
         ((placeFrag P { σ with hist := pl.1 } f.flags (tailOf P.B f.data)).1,
          res (some (placeFrag P { σ with hist := pl.1 } f.flags (tailOf P.B f.data)).2))
       else ({ σ with hist := pl.1 }, res none)) := by
  by_cases he : f.data = []
  · rw [packFile_empty P σ f he]
    simp [workedOf, blocksOf, fullBlocks, tailAsBlock, hasTailFrag, he, placeBlocks]
  · unfold packFile
    rw [if_neg he]
    simp only [tailCond_eq, workedOf_eq, placeTail_eq]
    by_cases ht : hasTailFrag P.B f = true
    · by_cases hsp : (!f.flags.ignoreSparse && allZero (tailOf P.B f.data)) = true
      · -- the tail end is a hole: one more word, nothing stored, no fragment step
        simp only [ht, hsp, if_true, Bool.and_self, Bool.not_true, Bool.and_false, Bool.false_eq_true, if_false,
          List.map_append, List.filterMap_append, List.sum_append]
        rw [show [Worked.sparse (tailOf P.B f.data).length].filterMap Worked.stored? = [] from rfl, List.append_nil]
        rfl
      · -- the tail end goes into a fragment block
        rw [Bool.not_eq_true] at hsp
        simp only [ht, hsp, if_true, Bool.and_false, Bool.false_eq_true, if_false, Bool.not_false, Bool.and_self, List.append_nil]
    · -- no tail end, or it is the last data block
      rw [Bool.not_eq_true] at ht
      simp only [ht, Bool.false_and, Bool.false_eq_true, if_false, List.append_nil]

section
variable (P : Params) (σ : State) (f : InFile)

theorem packFile_size : (packFile P σ f).2.size = f.data.length := by rw [packFile_eq]; split <;> rfl

theorem packFile_words : (packFile P σ f).2.words = (workedOf P f).map Worked.word := by rw [packFile_eq]; split <;> rfl

theorem packFile_sparse : (packFile P σ f).2.sparse = ((workedOf P f).map Worked.sparseBytes).sum := by
  rw [packFile_eq]; split <;> rfl

theorem packFile_frag : (packFile P σ f).2.frag =
    if hasTailFrag P.B f && !(!f.flags.ignoreSparse && allZero (tailOf P.B f.data)) then
      some (placeFrag P { σ with hist := (placeBlocks P.base f.flags.dontDedup σ.hist ((workedOf P f).filterMap Worked.stored?)).1 }
        f.flags (tailOf P.B f.data)).2
    else none := by
  rw [← tailCond_eq, packFile_eq]; split <;> rfl

end

end Sqfs.Pack
