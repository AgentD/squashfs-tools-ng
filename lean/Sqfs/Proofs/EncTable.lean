/-
C01 — lookup tables: `sqfs_read_table ∘ sqfs_write_table = id`.  What the id, fragment and export table round trips of
`Props/C01` need beyond it is in `Proofs/EncTables.lean`.
-/
import Sqfs.Proofs.EncMeta
namespace Sqfs.Enc
open Sqfs.Consts
open Sqfs.MetaWriter (Block Codec run chunksOf)

theorem locs_fold (bs : List Block) (l : List Nat) (s : Nat) :
    (bs.foldl (fun (acc : List Nat × Nat) b => (acc.1 ++ [acc.2], acc.2 + 2 + b.stored.length)) (l, s)).1
      = l ++ (List.range bs.length).map (fun i => s + startOf bs i) := by
  rw [Sqfs.MetaWriter.locs_foldl]; rfl

theorem chunksOf_flatten (f : Nat) (d : Bytes) (h : d.length < f) : (chunksOf f d).flatten = d :=
  (Sqfs.MetaWriter.chunksOf_spec f d h).1

/-- the `while (table_size > 0)` loop of `sqfs_read_table`, standing before the blocks `rest` of a table with as many bytes
to go as they hold: every round asks a block for exactly what it holds -/
theorem readTableGo_spec {cmp : Codec} {unc : Unc} (hc : CodecOk cmp unc) (file : Bytes) (lower upper : Nat) :
    ∀ (rest pre : List Block), BlocksOk cmp (pre ++ rest) → FullButLast rest →
      (file.take upper).drop lower = encBlocks (pre ++ rest) → upper = lower + (encBlocks (pre ++ rest)).length →
      readTableGo unc file lower upper (rest.length + 1)
        ((List.range' pre.length rest.length).map (fun j => lower + startOf (pre ++ rest) j)) (rawOf rest).length
        = .ok (rawOf rest) := by
  intro rest
  induction rest with
  | nil => intro _ _ _ _ _; rfl
  | cons b rest ih =>
    intro pre hok hfull hwin hup
    obtain ⟨_, h1, hl⟩ := hok b (List.mem_append_right _ (List.mem_cons_self ..))
    have hdiff : min metaBlockSize (b.raw.length + (rawOf rest).length) = b.raw.length := by
      cases rest with
      | nil => exact Nat.min_eq_right hl
      | cons c rest' =>
        rw [show b.raw.length = metaBlockSize from hfull 0 (Nat.succ_lt_succ (Nat.succ_pos _))]
        exact Nat.min_eq_left (Nat.le_add_right _ _)
    have hw : ¬ (lower + startOf (pre ++ b :: rest) pre.length < lower ∨ lower + startOf (pre ++ b :: rest) pre.length ≥ upper) :=
      not_or.mpr ⟨Nat.not_lt.mpr (Nat.le_add_right _ _),
        Nat.not_le.mpr (hup ▸ Nat.add_lt_add_left (startOf_lt _ _ (by simp)) lower)⟩
    have hrd := metaReadAt_block hc pre b rest (fun x hx => hok x (List.mem_append_right _ hx)) 0 b.raw.length h1
      (Nat.le_add_right _ _)
    rw [List.drop_zero, List.take_left' rfl] at hrd
    have hrec := ih (pre ++ [b]) (by rwa [List.append_assoc]) hfull.tail (by rwa [List.append_assoc]) (by rwa [List.append_assoc])
    rw [List.append_assoc, List.length_append] at hrec
    unfold readTableGo
    simp only [rawOf_cons, List.length_append, List.length_cons, Nat.ne_of_gt (Nat.add_pos_left h1 _), if_false, List.range'_succ,
      List.map_cons, hw, hwin, Nat.add_sub_cancel_left, hdiff, hrd]
    exact hrec ▸ rfl

theorem readTableAt_writeTableAt {cmp : Codec} {unc : Unc} (hc : CodecOk cmp unc) (file data : Bytes)
    (hsz : (writeTableAt cmp file data).1.length < 2 ^ 64) :
    readTableAt unc (writeTableAt cmp file data).1 data.length (writeTableAt cmp file data).2 file.length
      (writeTableAt cmp file data).2 = .ok data := by
  unfold writeTableAt Sqfs.MetaWriter.writeTable at hsz ⊢
  simp only at hsz ⊢
  obtain ⟨hok, hraw⟩ := run_blocksOk cmp (chunksOf (data.length + 1) data)
  have hfull := run_full cmp (chunksOf (data.length + 1) data)
  have hcount := run_count cmp (chunksOf (data.length + 1) data)
  rw [chunksOf_flatten _ _ (Nat.lt_succ_self _)] at hraw hcount
  generalize (run cmp (chunksOf (data.length + 1) data)).out = bs at hok hraw hfull hcount hsz ⊢
  -- the location list, in the form the reader's loop is specified with
  have hL : (bs.foldl (fun (acc : List Nat × Nat) b => (acc.1 ++ [acc.2], acc.2 + 2 + b.stored.length)) ([], 0)).1.map (· + file.length)
      = (List.range' 0 bs.length).map (fun j => file.length + startOf bs j) := by
    rw [locs_fold, List.nil_append, List.range_eq_range', List.map_map]
    exact List.map_congr_left (fun i _ => by simp only [Function.comp, Nat.zero_add, Nat.add_comm])
  rw [hL] at hsz ⊢
  generalize hLdef : (List.range' 0 bs.length).map (fun j => file.length + startOf bs j) = L at hsz ⊢
  have hl : L.length = bs.length := by rw [← hLdef, List.length_map, List.length_range']
  have hfit : ∀ v ∈ L, v < 256 ^ 8 := by
    intro v hv
    rw [← hLdef] at hv
    obtain ⟨i, hi, rfl⟩ := List.mem_map.mp hv
    have := startOf_lt bs i (by simpa using hi)
    rw [List.length_append, List.length_append] at hsz
    exact Nat.lt_of_le_of_lt (Nat.le_trans (Nat.add_le_add_left (Nat.le_of_lt this) _) (Nat.le_add_right _ _)) hsz
  have hwin : ((file ++ encBlocks bs ++ encWords 8 L).take (file.length + (encBlocks bs).length)).drop file.length
      = encBlocks bs := by
    rw [← List.length_append, List.take_left, List.drop_left]
  have hgo := readTableGo_spec hc _ file.length (file.length + (encBlocks bs).length) bs [] hok hfull hwin rfl
  rw [List.nil_append, List.length_nil, hLdef, hraw] at hgo
  unfold readTableAt
  simp only
  rw [← List.length_append, List.drop_left, ← hcount, ← hl, ← encWords_length 8 L, take?_self]
  simp only
  rw [decWords_encWords' 8 L hfit, hl, List.length_append]
  exact hgo

end Sqfs.Enc
