/-
C15 — `ostream_xfrm` over any codec that meets `EncContract`: `flush_inbuf`, `xfrm_append`, `xfrm_flush`, histories of operations
(`oRun_spec`); and `EncPost`, the clauses of the contract for one step, through which the backends' loops meet it.
-/
import Sqfs.Proofs.XfrmLoop
import Sqfs.Spec.XfrmContract
namespace Sqfs.Xfrm
open Sqfs.Xfrm.Spec

/-- what one `process_data` call of an encoder achieves: the clauses of `EncContract` for one step -/
def EncPost {σ : Type} (R : σ → Bytes → Bytes → Bool → Prop) (pend : σ → Nat) (Dec : Bytes → Option Bytes) (s : σ) (x y : Bytes)
    (fin : Bool) (inp : Bytes) (room : Nat) (fl : Flush) (r : StepOut σ) : Prop :=
  r.res ≠ Res.error ∧ r.consumed ≤ inp.length ∧ r.out.length ≤ room ∧
  (r.res ≠ Res.streamEnd →
    R r.st (x ++ inp.take r.consumed) (y ++ r.out) (fin || (decide (fl = Flush.full) && decide (r.consumed = inp.length)))) ∧
  (r.res = Res.streamEnd → fl = Flush.full ∧ r.consumed = inp.length ∧ R r.st [] [] false ∧
    (x ++ inp ≠ [] → Dec (y ++ r.out) = some (x ++ inp))) ∧
  (0 < room → (inp ≠ [] ∨ (fl = Flush.full ∧ x ≠ [])) → r.res ≠ Res.streamEnd → 0 < r.consumed ∨ pend r.st < pend s)

def EncContract.ofPost {σ : Type} {C : Codec σ} {Dec : Bytes → Option Bytes} (R : σ → Bytes → Bytes → Bool → Prop) (pend : σ → Nat)
    (init : R C.init [] [] false)
    (post : ∀ {s x y fin} (inp : Bytes) (room : Nat) (fl : Flush), R s x y fin → Proto fin fl inp →
      EncPost R pend Dec s x y fin inp room fl (C.step s inp room fl)) : EncContract C Dec where
  R := R
  pend := pend
  init := init
  no_error := fun inp room fl hR hP => (post inp room fl hR hP).1
  consumed_le := fun inp room fl hR hP => (post inp room fl hR hP).2.1
  out_le := fun inp room fl hR hP => (post inp room fl hR hP).2.2.1
  keep := fun inp room fl hR hP => (post inp room fl hR hP).2.2.2.1
  finish := fun inp room fl hR hP he => by
    obtain ⟨a, b, c, d⟩ := (post inp room fl hR hP).2.2.2.2.1 he
    exact ⟨by rw [a]; simp, b, c, d⟩
  progress := fun inp room fl hR hP => (post inp room fl hR hP).2.2.2.2.2

section Enc
variable {σ : Type} {C : Codec σ} {Dec : Bytes → Option Bytes}

theorem flushBody_false (bufsz : Nat) (cs : σ) (rest sink : Bytes) : ∀ r, r = C.step cs rest bufsz Flush.none →
    flushBody C bufsz false (cs, rest, sink) =
      if 0 < rest.length then
        if r.res = Res.error then LoopStep.done (.error errCompressor)
        else if r.res = Res.streamEnd then LoopStep.done (.ok (r.st, rest.drop r.consumed, sink ++ r.out))
        else LoopStep.next (r.st, rest.drop r.consumed, sink ++ r.out)
      else LoopStep.done (.ok (cs, rest, sink)) := by
  rintro r rfl
  simp [flushBody]

theorem flushBody_true (bufsz : Nat) (cs : σ) (rest sink : Bytes) : ∀ r, r = C.step cs rest bufsz Flush.full →
    flushBody C bufsz true (cs, rest, sink) =
      if r.res = Res.error then LoopStep.done (.error errCompressor)
      else if r.res = Res.streamEnd then LoopStep.done (.ok (r.st, rest.drop r.consumed, sink ++ r.out))
      else LoopStep.next (r.st, rest.drop r.consumed, sink ++ r.out) := by
  rintro r rfl
  simp [flushBody]

theorem flushLoop_spec (hC : EncContract C Dec) {bufsz : Nat} (hb : 0 < bufsz) (finish : Bool) {cs : σ} {x y : Bytes}
    (rest pre : Bytes) (hR : hC.R cs x y false) (hne : finish = true → x ++ rest ≠ []) :
    ∃ f cs' y', flushLoop C bufsz finish f cs rest (pre ++ y) = some (.ok (cs', [], pre ++ y')) ∧
      if finish = true then hC.R cs' [] [] false ∧ Dec y' = some (x ++ rest) else hC.R cs' (x ++ rest) y' false := by
  have := iter_total (flushBody C bufsz finish)
    (fun a => ∃ x' y' fin, hC.R a.1 x' y' fin ∧ x' ++ a.2.1 = x ++ rest ∧ a.2.2 = pre ++ y' ∧
      (fin = true → finish = true ∧ a.2.1 = []))
    (fun r => ∃ cs' y', r = .ok (cs', [], pre ++ y') ∧
      if finish = true then hC.R cs' [] [] false ∧ Dec y' = some (x ++ rest) else hC.R cs' (x ++ rest) y' false)
    (fun a => (a.2.1.length, hC.pend a.1)) ?_ (cs, rest, pre ++ y) ⟨x, y, false, hR, rfl, rfl, by intro h; cases h⟩
  · obtain ⟨f, r, hf, cs', y', rfl, hpost⟩ := this
    exact ⟨f, cs', y', hf, hpost⟩
  · rintro ⟨cs1, rest1, sink1⟩ ⟨x', y', fin, hR1, hx, hs, hfin⟩
    simp only at hR1 hx hs hfin
    by_cases hcond : finish = true ∨ rest1 ≠ []
    · have hc : (finish || decide (0 < rest1.length)) = true := by simpa [List.length_pos_iff] using hcond
      simp only [flushBody, hc, if_true]
      generalize hfl : (if finish = true then Flush.full else Flush.none) = fl
      have hfull : fl = Flush.full ↔ finish = true := by
        rw [← hfl]; cases finish <;> simp
      have hP : Proto fin fl rest1 :=
        ⟨by rw [← hfl]; cases finish <;> decide, fun h => ⟨hfull.2 (hfin h).1, (hfin h).2⟩⟩
      have hcl := hC.consumed_le rest1 bufsz fl hR1 hP
      have hnoerr := hC.no_error rest1 bufsz fl hR1 hP
      have hfinishes := hC.finish rest1 bufsz fl hR1 hP
      have hkeeps := hC.keep rest1 bufsz fl hR1 hP
      have hprogs := hC.progress rest1 bufsz fl hR1 hP hb (by
        by_cases h1 : rest1 = []
        · have hfinish := hcond.resolve_right (fun h => h h1)
          refine Or.inr ⟨hfull.2 hfinish, ?_⟩
          rintro rfl
          subst h1
          exact hne hfinish (by simpa using hx.symm)
        · exact Or.inl h1)
      generalize C.step cs1 rest1 bufsz fl = r at *
      rw [if_neg hnoerr]
      by_cases hend : r.res = Res.streamEnd
      · rw [if_pos hend]
        obtain ⟨hnone, hcons, hR', hdec⟩ := hfinishes hend
        have hfinish : finish = true := by
          cases finish with
          | true => rfl
          | false => exact absurd hfl.symm hnone
        refine ⟨r.st, y' ++ r.out, by rw [hcons, hs, List.drop_length, List.append_assoc], ?_⟩
        rw [if_pos hfinish]
        have := hdec (by rw [hx]; exact hne hfinish)
        rw [hx] at this
        exact ⟨hR', this⟩
      · rw [if_neg hend]
        refine ⟨⟨x' ++ rest1.take r.consumed, y' ++ r.out, _, hkeeps hend, ?_, by rw [hs, List.append_assoc], fun h => ?_⟩, ?_⟩
        · simp only [List.append_assoc, List.take_append_drop]; exact hx
        · simp only [Bool.or_eq_true, Bool.and_eq_true, decide_eq_true_eq] at h
          rcases h with h | ⟨h1, h2⟩
          · exact ⟨(hfin h).1, by simp [(hfin h).2]⟩
          · exact ⟨hfull.1 h1, List.drop_eq_nil_of_le (by omega)⟩
        · simp only [List.length_drop]
          exact LexLt.of_consumed hcl (hprogs hend)
    · -- nothing buffered and no `finish`: the loop is left
      simp only [not_or, Bool.not_eq_true, ne_eq, Classical.not_not] at hcond
      obtain ⟨hfinish, rfl⟩ := hcond
      subst hfinish
      simp only [flushBody, List.length_nil, Nat.lt_irrefl, decide_false, Bool.or_self, Bool.false_eq_true, if_false]
      have hfalse : fin = false := by
        cases fin with
        | false => rfl
        | true => cases (hfin rfl).1
      refine ⟨cs1, y', by rw [hs], ?_⟩
      rw [← hx, List.append_nil]
      rw [hfalse] at hR1; exact hR1

theorem Members_append {ms xs : List Bytes} {m x : Bytes} (h : Members Dec ms xs) (hm : Dec m = some x) :
    Members Dec (ms ++ [m]) (xs ++ [x]) := by
  induction h with
  | nil => exact Members.cons hm Members.nil
  | cons h1 _ ih => exact Members.cons h1 ih

/-- between two operations: the segments closed by a flush, `done`, are members in the sink; of the open one, `cur`, the codec has
taken `x` (and written `y`) and the rest waits in `inbuf` -/
def OInv (hC : EncContract C Dec) (st : OState σ) (done : List Bytes) (cur : Bytes) : Prop :=
  ∃ ms x y, Members Dec ms done ∧ hC.R st.cs x y false ∧ st.sink = ms.flatten ++ y ∧ cur = x ++ st.inbuf ∧
    (x = [] → y = []) ∧ (x ≠ [] → st.inbuf ≠ [])

theorem OInv_init (hC : EncContract C Dec) : OInv hC (oInit C) [] [] :=
  ⟨[], [], [], Members.nil, hC.init, by simp [oInit], by simp [oInit], fun _ => rfl, fun h => absurd rfl h⟩

/-- what the invariant says of the visible state: the sink holds the finished members and then what the codec has put out of the
    open one; with no open segment nothing is buffered anywhere -/
theorem OInv.sink {hC : EncContract C Dec} {st : OState σ} {done : List Bytes} {cur : Bytes} (hI : OInv hC st done cur) :
    ∃ ms part, Members Dec ms done ∧ st.sink = ms.flatten ++ part ∧ (cur = [] → part = [] ∧ st.inbuf = []) := by
  obtain ⟨ms, x, y, hms, _, hsink, hcur, hxy, _⟩ := hI
  refine ⟨ms, y, hms, hsink, fun h => ?_⟩
  obtain ⟨hx, hin⟩ := List.append_eq_nil_iff.1 (hcur.symm.trans h)
  exact ⟨hxy hx, hin⟩

theorem flushInbuf_spec (hC : EncContract C Dec) {bufsz : Nat} (hb : 0 < bufsz) (finish : Bool) (st : OState σ) {x y pre : Bytes}
    (hR : hC.R st.cs x y false) (hs : st.sink = pre ++ y) (hne : finish = true → x ++ st.inbuf ≠ []) :
    ∃ f0 cs' y',
      (if finish = true then hC.R cs' [] [] false ∧ Dec y' = some (x ++ st.inbuf) else hC.R cs' (x ++ st.inbuf) y' false) ∧
      ∀ f, f0 ≤ f → flushInbuf C bufsz f st finish = some (.ok { st with cs := cs', inbuf := [], sink := pre ++ y' }) := by
  obtain ⟨f0, cs', y', hf, hpost⟩ := flushLoop_spec hC hb finish st.inbuf pre hR hne
  refine ⟨f0, cs', y', hpost, fun f hle => ?_⟩
  have := iter_mono _ _ _ _ hf f hle
  simp only [flushInbuf, flushLoop, hs] at this ⊢
  rw [this]

theorem appendLoop_succ (bufsz fuel k : Nat) (st : OState σ) (data : Bytes) :
    appendLoop C bufsz fuel (k + 1) st data =
      match appendBody C bufsz fuel (st, data) with
      | LoopStep.done r => r
      | LoopStep.next a => appendLoop C bufsz fuel k a.1 a.2 := by
  simp only [appendLoop, iter]
  cases appendBody C bufsz fuel (st, data) <;> rfl

theorem appendLoop_spec (hC : EncContract C Dec) {bufsz : Nat} (hb : 0 < bufsz) :
    ∀ (k : Nat) (data : Bytes) (st : OState σ) (done : List Bytes) (cur : Bytes), data.length < k → OInv hC st done cur →
      ∃ f0 st', OInv hC st' done (cur ++ data) ∧ ∀ f, f0 ≤ f → appendLoop C bufsz f k st data = some (.ok st') := by
  intro k
  induction k with
  | zero => intro data _ _ _ hk; cases hk
  | succ k ih =>
    intro data st done cur hk hI
    by_cases hd : data.length = 0
    · refine ⟨0, st, ?_, fun f _ => ?_⟩
      · simpa [List.eq_nil_of_length_eq_zero hd] using hI
      · rw [appendLoop_succ]; simp [appendBody, hd]
    obtain ⟨ms, x, y, hms, hR, hsink, hcur, hxy, hxi⟩ := hI
    obtain ⟨f1, st1, x1, y1, hR1, hsink1, hcur1, hxy1, hlt, hrun1⟩ : ∃ f1 st1 x1 y1, hC.R st1.cs x1 y1 false ∧
        st1.sink = ms.flatten ++ y1 ∧ cur = x1 ++ st1.inbuf ∧ (x1 = [] → y1 = []) ∧ st1.inbuf.length < bufsz ∧
        ∀ f, f1 ≤ f → (if bufsz ≤ st.inbuf.length then flushInbuf C bufsz f st false else some (.ok st)) = some (.ok st1) := by
      by_cases hfull : bufsz ≤ st.inbuf.length
      · obtain ⟨f1, cs', y1, hR', hfl⟩ := flushInbuf_spec hC hb false st hR hsink (fun h => by cases h)
        rw [if_neg (by simp)] at hR'
        refine ⟨f1, { st with cs := cs', inbuf := [], sink := ms.flatten ++ y1 }, x ++ st.inbuf, y1, hR', rfl, by simp [hcur],
          fun h => ?_, hb, fun f hf => by rw [if_pos hfull, hfl f hf]⟩
        rw [(List.append_eq_nil_iff.1 h).2] at hfull
        simp at hfull; omega
      · exact ⟨0, st, x, y, hR, hsink, hcur, hxy, by omega, fun f _ => by rw [if_neg hfull]⟩
    have hdiff : 0 < min (bufsz - st1.inbuf.length) data.length := by omega
    have hI2 : OInv hC { st1 with inbuf := st1.inbuf ++ data.take (min (bufsz - st1.inbuf.length) data.length) } done
        (cur ++ data.take (min (bufsz - st1.inbuf.length) data.length)) := by
      refine ⟨ms, x1, y1, hms, hR1, hsink1, by simp [hcur1, List.append_assoc], hxy1, fun _ h => ?_⟩
      have := congrArg List.length (List.append_eq_nil_iff.1 h).2
      rw [List.length_take, List.length_nil] at this
      omega
    obtain ⟨f2, st', hI', h2⟩ := ih (data.drop (min (bufsz - st1.inbuf.length) data.length)) _ done _
      (by rw [List.length_drop]; omega) hI2
    refine ⟨max f1 f2, st', by simpa [List.append_assoc, List.take_append_drop] using hI', fun f hf => ?_⟩
    rw [appendLoop_succ]
    simp only [appendBody, hd, if_false, hrun1 f (by omega)]
    exact h2 f (by omega)

theorem oAppend_spec (hC : EncContract C Dec) {bufsz : Nat} (hb : 0 < bufsz) (st : OState σ) (done : List Bytes)
    (cur data : Bytes) (hI : OInv hC st done cur) :
    ∃ f0 st', OInv hC st' done (cur ++ data) ∧ ∀ f, f0 ≤ f → oAppend C bufsz f st data = some (.ok st') :=
  appendLoop_spec hC hb (data.length + 1) data st done cur (Nat.lt_succ_self _) hI

theorem oFlush_spec (hC : EncContract C Dec) {bufsz : Nat} (hb : 0 < bufsz) (st : OState σ) (done : List Bytes)
    (cur : Bytes) (hI : OInv hC st done cur) :
    ∃ f0 st', OInv hC st' (if cur = [] then done else done ++ [cur]) [] ∧
      ∀ f, f0 ≤ f → oFlush C bufsz f st = some (.ok st') := by
  obtain ⟨ms, x, y, hms, hR, hsink, hcur, hxy, hxi⟩ := hI
  by_cases hin : st.inbuf = []
  · have hx : x = [] := Classical.not_not.1 (fun h => hxi h hin)
    have hc : cur = [] := by rw [hcur, hx, hin]; rfl
    refine ⟨0, { st with flushed := st.flushed + 1 }, ?_, fun f _ => ?_⟩
    · rw [if_pos hc]
      have hy := hxy hx
      rw [hx, hy] at hR
      exact ⟨ms, [], [], hms, hR, by simp [hsink, hy], by simp [hin], fun _ => rfl, fun h => absurd rfl h⟩
    · simp [oFlush, hin]
  · have hne : x ++ st.inbuf ≠ [] := fun h => hin (List.append_eq_nil_iff.1 h).2
    obtain ⟨f0, cs', y', ⟨hR', hd⟩, hfl⟩ := flushInbuf_spec hC hb true st hR hsink (fun _ => hne)
    have hc : cur ≠ [] := by rw [hcur]; exact hne
    refine ⟨f0, { st with cs := cs', inbuf := [], sink := ms.flatten ++ y', flushed := st.flushed + 1 }, ?_, fun f hf => ?_⟩
    · rw [if_neg hc]
      exact ⟨ms ++ [y'], [], [], Members_append hms (by rw [hcur]; exact hd), hR', by simp, by simp, fun _ => rfl, fun h => absurd rfl h⟩
    · simp [oFlush, List.length_pos_iff.2 hin, hfl f hf]

theorem oRun_spec (hC : EncContract C Dec) {bufsz : Nat} (hb : 0 < bufsz) :
    ∀ (ops : List OOp) (st : OState σ) (done : List Bytes) (cur : Bytes), OInv hC st done cur →
      ∃ f0 st', OInv hC st' (opsSegs done cur ops).1 (opsSegs done cur ops).2 ∧
        ∀ f, f0 ≤ f → oRun C bufsz f st ops = some (.ok st') := by
  intro ops
  induction ops with
  | nil => intro st done cur hI; exact ⟨0, st, hI, fun f _ => rfl⟩
  | cons op ops ih =>
    intro st done cur hI
    cases op with
    | append d =>
      obtain ⟨f1, st1, hI1, h1⟩ := oAppend_spec hC hb st done cur d hI
      obtain ⟨f2, st2, hI2, h2⟩ := ih st1 done (cur ++ d) hI1
      refine ⟨max f1 f2, st2, by simpa [opsSegs] using hI2, fun f hf => ?_⟩
      simp only [oRun, h1 f (by omega)]
      exact h2 f (by omega)
    | flush =>
      obtain ⟨f1, st1, hI1, h1⟩ := oFlush_spec hC hb st done cur hI
      obtain ⟨f2, st2, hI2, h2⟩ := ih st1 _ [] hI1
      refine ⟨max f1 f2, st2, by by_cases hc : cur = [] <;> simpa [opsSegs, hc] using hI2, fun f hf => ?_⟩
      simp only [oRun, h1 f (by omega)]
      exact h2 f (by omega)

end Enc

end Sqfs.Xfrm
