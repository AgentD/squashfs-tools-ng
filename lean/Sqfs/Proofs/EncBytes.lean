/-
C01 — lemmas about little-endian fields, structs (`encFields`/`decFields`/`readFields`), word lists and tables of
equal-sized records.
-/
import Sqfs.Model.EncBytes
import Sqfs.Proofs.WriterSuper
namespace Sqfs.Enc
open Sqfs.Writer (le leVal le_length)

theorem leVal_le (n v : Nat) : leVal (le n v) = v % 256 ^ n := by
  rw [Sqfs.Writer.leVal_le, show 256 = 2 ^ 8 from rfl, ← Nat.pow_mul]

theorem leVal_le_of_lt {n v : Nat} (h : v < 256 ^ n) : leVal (le n v) = v := by
  rw [leVal_le, Nat.mod_eq_of_lt h]

theorem leVal_lt (bs : Bytes) : leVal bs < 256 ^ bs.length := by
  induction bs with
  | nil => simp [leVal]
  | cons b r ih =>
    simp only [leVal, List.length_cons, Nat.pow_succ]
    have := b.toNat_lt
    omega

theorem le_mod (n v : Nat) : le n (v % 256 ^ n) = le n v := by
  induction n generalizing v with
  | zero => rfl
  | succ n ih =>
    simp only [le]
    rw [Nat.pow_succ, Nat.mul_comm, Nat.mod_mul_right_div_self, ih, Nat.mod_mul_right_mod]

theorem le_add (a b v : Nat) : le (a + b) v = le a v ++ le b (v / 256 ^ a) := by
  induction a generalizing v with
  | zero => simp [le]
  | succ a ih =>
    rw [Nat.add_right_comm, le, le, ih, Nat.div_div_eq_div_mul, Nat.pow_succ, Nat.mul_comm (256 ^ a)]
    rfl

theorem encFields_length (fs : List (Nat × Nat)) : (encFields fs).length = (fs.map (·.1)).sum := by
  induction fs with
  | nil => rfl
  | cons f r ih => obtain ⟨w, v⟩ := f; simp [encFields, le_length, ih]

/-- the values as a reader sees them: each reduced to its field width -/
def wrapFields (fs : List (Nat × Nat)) : List Nat := fs.map (fun f => f.2 % 256 ^ f.1)

theorem decFields_encFields (fs : List (Nat × Nat)) (rest : Bytes) :
    decFields (fs.map (·.1)) (encFields fs ++ rest) = wrapFields fs := by
  induction fs with
  | nil => rfl
  | cons f r ih =>
    obtain ⟨w, v⟩ := f
    simp only [List.map_cons, decFields, encFields, List.append_assoc, wrapFields]
    rw [List.take_left' (le_length w v), List.drop_left' (le_length w v), leVal_le]
    exact congrArg _ ih

theorem take?_append (a rest : Bytes) : take? a.length (a ++ rest) = .ok (a, rest) := by
  simp [take?]

theorem take?_self (a : Bytes) : take? a.length a = .ok (a, []) := by
  simp [take?]

theorem take?_ok {n : Nat} {bs a r : Bytes} (h : take? n bs = .ok (a, r)) : bs = a ++ r ∧ a.length = n := by
  unfold take? at h
  split at h
  · injection h with h; injection h with h1 h2
    subst h1; subst h2
    exact ⟨(List.take_append_drop n bs).symm, by simp; omega⟩
  · cases h

theorem readFields_encFields (fs : List (Nat × Nat)) (rest : Bytes) :
    readFields (fs.map (·.1)) (encFields fs ++ rest) = .ok (wrapFields fs, rest) := by
  unfold readFields
  rw [← encFields_length fs, take?_append]
  have := decFields_encFields fs []
  simp only [List.append_nil] at this
  simp [this]

/-- `fs` are fields of widths `ws` holding values `vs`, each of which fits its field -/
inductive FieldsFit : List Nat → List Nat → List (Nat × Nat) → Prop
  | nil : FieldsFit [] [] []
  | cons {w v : Nat} {ws vs : List Nat} {r : List (Nat × Nat)} (h : v < 256 ^ w) (hr : FieldsFit ws vs r) :
      FieldsFit (w :: ws) (v :: vs) ((w, v) :: r)

theorem FieldsFit.eq {ws vs : List Nat} {fs : List (Nat × Nat)} (h : FieldsFit ws vs fs) :
    ws = fs.map (·.1) ∧ vs = wrapFields fs := by
  induction h with
  | nil => exact ⟨rfl, rfl⟩
  | cons h _ ih => exact ⟨congrArg _ ih.1, by rw [wrapFields, List.map_cons, Nat.mod_eq_of_lt h, ih.2]; rfl⟩

theorem decFields_encFields_fit {ws vs : List Nat} {fs : List (Nat × Nat)} (rest : Bytes) (h : FieldsFit ws vs fs) :
    decFields ws (encFields fs ++ rest) = vs := by
  rw [h.eq.1, h.eq.2, decFields_encFields]

theorem readFields_encFields_fit {ws vs : List Nat} (fs : List (Nat × Nat)) (rest : Bytes) (h : FieldsFit ws vs fs) :
    readFields ws (encFields fs ++ rest) = .ok (vs, rest) := by
  rw [h.eq.1, h.eq.2, readFields_encFields]

theorem encWords_length (w : Nat) (l : List Nat) : (encWords w l).length = w * l.length := by
  induction l with
  | nil => rfl
  | cons v r ih => simp [encWords, le_length, ih, Nat.mul_add]; omega

theorem decWords_encWords (w : Nat) (l : List Nat) (rest : Bytes) (h : ∀ v ∈ l, v < 256 ^ w) :
    decWords w l.length (encWords w l ++ rest) = l := by
  induction l with
  | nil => rfl
  | cons v r ih =>
    simp only [List.length_cons, decWords, encWords, List.append_assoc]
    rw [List.take_left' (le_length w v), List.drop_left' (le_length w v),
      leVal_le_of_lt (h v (List.mem_cons_self ..)), ih (fun x hx => h x (List.mem_cons_of_mem _ hx))]

theorem decWords_encWords' (w : Nat) (l : List Nat) (h : ∀ v ∈ l, v < 256 ^ w) : decWords w l.length (encWords w l) = l := by
  have := decWords_encWords w l [] h
  rwa [List.append_nil] at this

theorem decWords_length (w n : Nat) (bs : Bytes) : (decWords w n bs).length = n := by
  induction n generalizing bs with
  | zero => rfl
  | succ n ih => simp [decWords, ih]

/-! ### records of one size laid end to end (table entries, descriptors) -/

theorem records_length {α : Type} {f : α → Bytes} {c : Nat} (hf : ∀ a, (f a).length = c) (l : List α) :
    ((l.map f).flatten).length = l.length * c := by
  induction l with
  | nil => simp
  | cons a l ih => rw [List.map_cons, List.flatten_cons, List.length_append, ih, hf, List.length_cons, Nat.succ_mul, Nat.add_comm]

theorem records_drop {α : Type} {f : α → Bytes} {c : Nat} (hf : ∀ a, (f a).length = c) : ∀ (l : List α) (j : Nat) (d : α),
    l[j]? = some d → ((l.map f).flatten).drop (j * c) = f d ++ ((l.drop (j + 1)).map f).flatten := by
  intro l
  induction l with
  | nil => intro j d h; simp at h
  | cons x l ih =>
    intro j d h
    cases j with
    | zero => cases h; simp
    | succ j =>
      rw [List.map_cons, List.flatten_cons, Nat.succ_mul, Nat.add_comm, ← List.drop_drop, ← hf x, List.drop_left, hf x]
      exact ih j d h

end Sqfs.Enc
