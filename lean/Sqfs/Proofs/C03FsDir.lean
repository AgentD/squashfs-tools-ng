/-
Lemmas about `Sqfs/Model/C03FsDir.lean`: `strLt` and `insertSorted` are the order and the sorted insertion of
`Sqfs/Proofs/NameOrder.lean`, so `insert_sorted` keeps a duplicate-free list strictly sorted.
-/
import Sqfs.Model.C03FsDir
import Sqfs.Proofs.NameOrder
namespace Sqfs.C03FsDir

theorem strLt_eq : strLt = NameOrder.lt := by
  funext a b
  induction a generalizing b with
  | nil => cases b <;> rfl
  | cons x xs ih =>
    cases b with
    | nil => rfl
    | cons y ys =>
      rw [strLt, NameOrder.lt, ih]
      by_cases h : x < y
      · rw [if_pos h, if_pos (UInt8.lt_iff_toNat_lt.1 h)]
      · by_cases h' : y < x
        · rw [if_neg h, if_pos h', if_neg (h ∘ UInt8.lt_iff_toNat_lt.2), if_neg (Nat.ne_of_gt (UInt8.lt_iff_toNat_lt.1 h'))]
        · rw [if_neg h, if_neg h', if_neg (h ∘ UInt8.lt_iff_toNat_lt.2),
            if_pos (Nat.le_antisymm (Nat.not_lt.1 (h' ∘ UInt8.lt_iff_toNat_lt.2)) (Nat.not_lt.1 (h ∘ UInt8.lt_iff_toNat_lt.2)))]

theorem insertSorted_eq (n : Bytes) : insertSorted n = NameOrder.insertBy id n := by
  funext l
  induction l with
  | nil => rfl
  | cons it rest ih => rw [insertSorted, NameOrder.insertBy, ih, strLt_eq]; rfl

theorem strLt_iff (a b : Bytes) : strLt a b = true ↔ a < b := strLt_eq ▸ NameOrder.lt_iff a b

theorem strLt_irrefl (a : Bytes) : strLt a a = false := strLt_eq ▸ NameOrder.lt_irrefl a

/-- strictly sorted by `strcmp` -/
def Sorted (l : List Bytes) : Prop := l.Pairwise (fun a b => strLt a b = true)

theorem mem_insertSorted (n x : Bytes) (l : List Bytes) : x ∈ insertSorted n l ↔ x = n ∨ x ∈ l :=
  insertSorted_eq n ▸ NameOrder.insertBy_mem id n l x

theorem length_insertSorted (n : Bytes) (l : List Bytes) : (insertSorted n l).length = l.length + 1 :=
  insertSorted_eq n ▸ (NameOrder.insertBy_perm id n l).length_eq

theorem sorted_insertSorted (n : Bytes) (l : List Bytes) (hs : Sorted l) (hn : n ∉ l) : Sorted (insertSorted n l) := by
  rw [Sorted, strLt_eq] at hs ⊢
  have := NameOrder.insertBy_sorted id n l (by rwa [List.map_id]) fun y hy (e : y = n) => hn (e ▸ hy)
  rwa [List.map_id, ← insertSorted_eq] at this

/-- invariant of a directory built by `addChild` from the empty one -/
structure Good (d : Dir) : Prop where
  sorted : Sorted d.children
  links : d.linkCount = 2 + d.children.length
  bound : d.linkCount ≤ 0xFFFFFFFF

theorem good_init : Good {} := ⟨by simp [Sorted], rfl, by decide⟩

theorem addChild_step (d : Dir) (n : Bytes) (hg : Good d) :
    ∃ d1, addAll d [n] = d1 ∧ Good d1 ∧
      (∀ x ∈ d1.children, x = n ∨ x ∈ d.children) ∧ (∀ x ∈ d.children, x ∈ d1.children) ∧
      (d1.linkCount < 0xFFFFFFFF → n ∈ d1.children) ∧ d.linkCount ≤ d1.linkCount := by
  rw [addAll, List.foldl_cons, List.foldl_nil]
  fun_cases addChild d n
  case case1 hc => exact ⟨d, rfl, hg, fun _ => Or.inr, fun _ => id, fun _ => by simpa using hc, Nat.le_refl _⟩
  case case2 hl => exact ⟨d, rfl, hg, fun _ => Or.inr, fun _ => id, fun hlt => absurd hl (Nat.ne_of_lt hlt), Nat.le_refl _⟩
  case case3 hc hl =>
    have hn : n ∉ d.children := by simpa using hc
    refine ⟨_, rfl, ⟨sorted_insertSorted n _ hg.sorted hn, ?_, ?_⟩, fun x => (mem_insertSorted n x _).mp,
      fun x hx => (mem_insertSorted n x _).mpr (Or.inr hx), fun _ => (mem_insertSorted n n _).mpr (Or.inl rfl),
      Nat.le_succ _⟩
    · simp only [length_insertSorted]; have := hg.links; omega
    · have := hg.bound; simp only; omega

theorem addAll_good : ∀ (names : List Bytes) (d : Dir), Good d →
    Good (addAll d names) ∧ (∀ x, x ∈ (addAll d names).children → x ∈ d.children ∨ x ∈ names) ∧
    ((addAll d names).linkCount < 0xFFFFFFFF → ∀ x, x ∈ d.children ∨ x ∈ names → x ∈ (addAll d names).children) ∧
    d.linkCount ≤ (addAll d names).linkCount := by
  intro names
  induction names with
  | nil => intro d hg; simp [addAll, hg]
  | cons n ns ih =>
    intro d hg
    obtain ⟨d1, he, g1, s1, s2, s3, s4⟩ := addChild_step d n hg
    obtain ⟨i1, i2, i3, i4⟩ := ih d1 g1
    rw [show addAll d (n :: ns) = addAll (addAll d [n]) ns from rfl, he]
    refine ⟨i1, fun x hx => ?_, fun hlt x hx => i3 hlt x ?_, Nat.le_trans s4 i4⟩
    · rcases i2 x hx with h | h
      · exact (s1 x h).elim (fun h => Or.inr (h ▸ List.mem_cons_self)) Or.inl
      · exact Or.inr (List.mem_cons_of_mem _ h)
    · -- a refused name was refused because it is there already: EMLINK is excluded by `hlt`
      rcases hx with h | h
      · exact Or.inl (s2 x h)
      · rcases List.mem_cons.mp h with rfl | h
        · exact Or.inl (s3 (Nat.lt_of_le_of_lt i4 hlt))
        · exact Or.inr h

end Sqfs.C03FsDir
