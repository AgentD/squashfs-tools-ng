/-
Little-endian fields, `decode ∘ encode` of the superblock, reading its 96 bytes from a file.
-/
import Sqfs.Model.Writer
import Sqfs.Proofs.Slice
namespace Sqfs.Writer
open Sqfs.Consts

theorem le_length (n v : Nat) : (le n v).length = n := by
  induction n generalizing v with
  | zero => rfl
  | succ n ih => simp [le, ih]

theorem leVal_le (n v : Nat) : leVal (le n v) = v % 2 ^ (8 * n) := by
  induction n generalizing v with
  | zero => simp [le, leVal, Nat.mod_one]
  | succ n ih =>
    have h : 2 ^ (8 * (n + 1)) = 256 * 2 ^ (8 * n) := by rw [Nat.mul_succ, Nat.pow_add, Nat.mul_comm]
    rw [le, leVal, ih, UInt8.toNat_ofNat', h, Nat.mod_mul]
    omega

theorem leVal_le2 (v : Nat) : leVal (le 2 v) = v % 2 ^ 16 := leVal_le 2 v
theorem leVal_le4 (v : Nat) : leVal (le 4 v) = v % 2 ^ 32 := leVal_le 4 v
theorem leVal_le8 (v : Nat) : leVal (le 8 v) = v % 2 ^ 64 := leVal_le 8 v

theorem encode_length (s : Super) : s.encode.length = sizeofSuper := by
  simp [Super.encode, le_length, sizeofSuper]

theorem field_mid (a x b : Bytes) (off n : Nat) (ha : a.length = off) (hx : x.length = n) :
    field (a ++ x ++ b) off n = leVal x := by
  subst ha; subst hx
  rw [field, List.append_assoc, List.take_drop_mid]

theorem field_le_append (w v : Nat) (r : Bytes) : field (le w v ++ r) 0 w = v % 2 ^ (8 * w) := by
  rw [← leVal_le]; exact field_mid [] (le w v) r 0 w rfl (le_length w v)

theorem field_le (w v : Nat) : field (le w v) 0 w = v % 2 ^ (8 * w) := by
  rw [← field_le_append w v [], List.append_nil]

theorem field_skip_le (w v : Nat) (r : Bytes) (off n : Nat) (h : w ≤ off) :
    field (le w v ++ r) off n = field r (off - w) n := by
  have := List.take_drop_append_right (le w v) r n (by rw [le_length]; exact h)
  rw [le_length] at this
  exact congrArg leVal this

/-- the superblock with every field reduced to its on-disk width -/
def Super.wrap (s : Super) : Super where
  magic := s.magic % 2 ^ 32
  inodeCount := s.inodeCount % 2 ^ 32
  mtime := s.mtime % 2 ^ 32
  blockSize := s.blockSize % 2 ^ 32
  fragCount := s.fragCount % 2 ^ 32
  compId := s.compId % 2 ^ 16
  blockLog := s.blockLog % 2 ^ 16
  flags := s.flags % 2 ^ 16
  idCount := s.idCount % 2 ^ 16
  vMajor := s.vMajor % 2 ^ 16
  vMinor := s.vMinor % 2 ^ 16
  rootRef := s.rootRef % 2 ^ 64
  bytesUsed := s.bytesUsed % 2 ^ 64
  idStart := s.idStart % 2 ^ 64
  xattrStart := s.xattrStart % 2 ^ 64
  inodeStart := s.inodeStart % 2 ^ 64
  dirStart := s.dirStart % 2 ^ 64
  fragStart := s.fragStart % 2 ^ 64
  exportStart := s.exportStart % 2 ^ 64

/-- Each field is found by skipping the ones written before it (`field_skip_le`, the generated `offsetof`
constant going down by their widths to 0) and read off there. -/
theorem decode_encode (s : Super) : Super.decode s.encode = s.wrap := by
  simp only [Super.decode, Super.encode, Super.wrap, List.append_assoc,
    offSuperMagic, offSuperInodeCount, offSuperMtime, offSuperBlockSize, offSuperFragCount, offSuperCompId,
    offSuperBlockLog, offSuperFlags, offSuperIdCount, offSuperVersionMajor, offSuperVersionMinor,
    offSuperRootInode, offSuperBytesUsed, offSuperIdTable, offSuperXattrTable, offSuperInodeTable,
    offSuperDirTable, offSuperFragTable, offSuperExportTable,
    field_skip_le, field_le_append, field_le, Nat.reduceLeDiff, Nat.reduceSub, Nat.reduceMul]

theorem readAt_super (f : Bytes) (h : sizeofSuper ≤ f.length) : readAt f 0 sizeofSuper = .ok (f.take sizeofSuper) := by
  simp [readAt, sizeofSuper] at *; omega

end Sqfs.Writer
