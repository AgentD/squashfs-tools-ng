/-
Helper lemmas for C11 (Sqfs/Props/C11.lean): `strcmp` is a strict total order and sorted insertion does not depend on
the order of insertion (both from `Sqfs/Proofs/NameOrder.lean`), `strcmp`/`qsort` as `read_names` uses them, sorting is
invariant under permutations of lists with pairwise different names, the enumeration served by the native iterators is
invariant under `FPerm`.
-/
import Sqfs.Spec.FsTree
import Sqfs.Proofs.NameOrder

namespace Sqfs.FsTree

theorem nameLt_eq : nameLt = NameOrder.lt := by
  funext a b
  induction a generalizing b with
  | nil => cases b <;> rfl
  | cons x xs ih =>
    cases b with
    | nil => rfl
    | cons y ys => rw [nameLt, NameOrder.lt, ih]

theorem insertBy_eq {α : Type} (key : α → Name) : insertBy key = NameOrder.insertBy key := by
  funext x l
  induction l with
  | nil => rfl
  | cons y ys ih => rw [insertBy, NameOrder.insertBy, ih, nameLt_eq]

theorem nameLt_irrefl (a : Name) : nameLt a a = false := nameLt_eq ▸ NameOrder.lt_irrefl a

theorem nameLt_trans {a b c : Name} : nameLt a b = true → nameLt b c = true → nameLt a c = true :=
  nameLt_eq ▸ NameOrder.lt_trans

theorem nameLt_total {a b : Name} : a ≠ b → nameLt a b = true ∨ nameLt b a = true := nameLt_eq ▸ NameOrder.lt_total

theorem nameLt_asymm {a b : Name} (h : nameLt a b = true) : nameLt b a = false :=
  nameLt_eq ▸ NameOrder.lt_asymm (nameLt_eq ▸ h)

theorem insertBy_perm {α : Type} (key : α → Name) (a : α) (l : List α) : (insertBy key a l).Perm (a :: l) :=
  insertBy_eq key ▸ NameOrder.insertBy_perm key a l

theorem insertBy_mem {α : Type} (key : α → Name) (a : α) (l : List α) (z : α) :
    z ∈ insertBy key a l ↔ z = a ∨ z ∈ l :=
  insertBy_eq key ▸ NameOrder.insertBy_mem key a l z

theorem insertBy_sorted {α : Type} (key : α → Name) (a : α) (l : List α)
    (hs : SortedNames (l.map key)) (hnew : ∀ y ∈ l, key y ≠ key a) : SortedNames ((insertBy key a l).map key) := by
  rw [SortedNames, nameLt_eq] at hs ⊢
  exact insertBy_eq key ▸ NameOrder.insertBy_sorted key a l hs hnew

theorem foldl_insertBy_perm {α : Type} (key : α → Name) {l₁ l₂ : List α} (hp : l₁.Perm l₂)
    (hnd : (l₁.map key).Nodup) (init : List α) :
    l₁.foldl (fun acc x => insertBy key x acc) init = l₂.foldl (fun acc x => insertBy key x acc) init :=
  insertBy_eq key ▸ NameOrder.foldl_insertBy_perm key hp hnd init

theorem foldr_insertBy_perm {α : Type} (key : α → Name) {l₁ l₂ : List α} (hp : l₁.Perm l₂)
    (hnd : (l₁.map key).Nodup) (init : List α) :
    l₁.foldr (insertBy key) init = l₂.foldr (insertBy key) init :=
  insertBy_eq key ▸ NameOrder.foldr_insertBy_perm key hp hnd init

theorem strcmpC_neg_iff (a b : Name) : strcmpC a b < 0 ↔ nameLt a b = true := by
  fun_induction strcmpC a b <;> simp_all [nameLt]
  case case5 x _ y _ hxy =>
    have : x.toNat ≠ y.toNat := fun h => hxy (UInt8.toNat_inj.mp h)
    omega

theorem strcmpC_eq_zero_iff (a b : Name) : strcmpC a b = 0 ↔ a = b := by
  fun_induction strcmpC a b <;> simp_all
  case case5 x _ y _ hxy =>
    have : x.toNat ≠ y.toNat := fun h => hxy (UInt8.toNat_inj.mp h)
    omega

theorem strcmpC_swap (a b : Name) : 0 < strcmpC a b ↔ strcmpC b a < 0 := by
  fun_induction strcmpC a b <;> simp_all [strcmpC]
  case case5 x _ y _ hxy =>
    have hyx : ¬ y = x := fun h => hxy h.symm
    simp only [hyx, if_false]
    omega

/-- insertion sort by name with the loop of `insert_sorted`: the form in which the order lemmas are stated -/
def sortByName (l : List HNode) : List HNode := l.foldr (insertBy HNode.name) []

theorem insertCmp_compareNames (x : HNode) (l : List HNode) : insertCmp compareNames x l = insertBy HNode.name x l := by
  induction l with
  | nil => rfl
  | cons y ys ih =>
    simp only [insertCmp, insertBy, compareNames, ih]
    by_cases h : nameLt y.name x.name = true
    · have := (strcmpC_neg_iff y.name x.name).mpr h
      simp [h, this]
    · have h' : ¬ strcmpC y.name x.name < 0 := fun hh => h ((strcmpC_neg_iff _ _).mp hh)
      simp [h, h']

theorem qsortBy_compareNames (l : List HNode) : qsortBy compareNames l = sortByName l := by
  induction l with
  | nil => rfl
  | cons x xs ih => simp only [qsortBy, sortByName, List.foldr_cons, insertCmp_compareNames] at *; rw [ih]

theorem collectNames_eq (l acc : List HNode) : collectNames l acc = acc ++ l := by
  induction l generalizing acc with
  | nil => simp [collectNames]
  | cons x xs ih => simp [collectNames, ih]

/-- `read_names` with the `qsort` call: the `count > 1` guard only skips sorting lists that are sorted anyway -/
theorem readNames_true (l : List HNode) : readNames true l = sortByName l := by
  simp only [readNames, collectNames_eq, List.nil_append, Bool.true_and]
  split
  · exact qsortBy_compareNames l
  · rename_i h
    match l, h with
    | [], _ => rfl
    | [x], _ => rfl
    | _ :: _ :: _, h => simp at h

theorem readNames_false (l : List HNode) : readNames false l = l := by
  simp [readNames, collectNames_eq]

theorem sortByName_perm {l₁ l₂ : List HNode} (hp : l₁.Perm l₂) (hnd : (l₁.map HNode.name).Nodup) :
    sortByName l₁ = sortByName l₂ := by
  unfold sortByName
  exact foldr_insertBy_perm HNode.name hp hnd []

theorem sortByName_perm_self (l : List HNode) : (sortByName l).Perm l := by
  induction l with
  | nil => exact List.Perm.refl _
  | cons x xs ih =>
    show (insertBy HNode.name x (sortByName xs)).Perm (x :: xs)
    exact (insertBy_perm _ _ _).trans (List.Perm.cons x ih)

theorem readNames_perm_self (b : Bool) (l : List HNode) : (readNames b l).Perm l := by
  cases b
  · rw [readNames_false]
  · rw [readNames_true]; exact sortByName_perm_self l

theorem sortByName_sorted (l : List HNode) (hnd : (l.map HNode.name).Nodup) :
    (sortByName l).Pairwise (fun a b => nameLt a.name b.name = true) := by
  rw [← List.pairwise_map (f := HNode.name) (R := fun a b => nameLt a b = true)]
  induction l with
  | nil => simp [sortByName]
  | cons x xs ih =>
    rw [List.map_cons, List.nodup_cons] at hnd
    show SortedNames ((insertBy HNode.name x (sortByName xs)).map HNode.name)
    apply insertBy_sorted HNode.name x _ (ih hnd.2)
    intro y hy heq
    apply hnd.1
    rw [← heq]
    exact List.mem_map_of_mem ((sortByName_perm_self xs).mem_iff.mp hy)

theorem sorted_perm_unique {α : Type} (key : α → Name) {l₁ l₂ : List α} (hp : l₁.Perm l₂)
    (h₁ : l₁.Pairwise (fun a b => nameLt (key a) (key b) = true))
    (h₂ : l₂.Pairwise (fun a b => nameLt (key a) (key b) = true)) : l₁ = l₂ :=
  List.Perm.eq_of_pairwise (fun a b _ _ hab hba => by rw [nameLt_asymm hab] at hba; cases hba) h₁ h₂ hp

theorem nativeNode_name (b : Bool) (x : HNode) : (nativeNode b x).name = x.name := by
  cases x; simp [nativeNode, HNode.name]

theorem nativeList_map_name (b : Bool) (l : List HNode) : (nativeList b l).map HNode.name = l.map HNode.name := by
  induction l with
  | nil => simp [nativeList]
  | cons x xs ih => simp [nativeList, nativeNode_name, ih]

theorem fperm_names {l₁ l₂ : List HNode} (h : FPerm l₁ l₂) : (l₁.map HNode.name).Perm (l₂.map HNode.name) := by
  induction h with
  | nil => exact List.Perm.refl _
  | cons _ _ _ ih => simp only [List.map_cons, HNode.name]; exact List.Perm.cons _ ih
  | swap a b l => simpa using List.Perm.swap _ _ _
  | trans _ _ ih₁ ih₂ => exact ih₁.trans ih₂

theorem wfList_cons (x : HNode) (xs : List HNode) :
    WFList (x :: xs) ↔ (∀ y ∈ xs, y.name ≠ x.name) ∧ WFNode x ∧ WFList xs := by
  simp [WFList]

theorem wfNode_mk (n : Name) (s : Stat) (t : List UInt8) (c : List HNode) : WFNode (.mk n s t c) ↔ WFList c := by
  simp [WFNode]

theorem fperm_wf {l₁ l₂ : List HNode} (h : FPerm l₁ l₂) : WFList l₁ → WFList l₂ := by
  induction h with
  | nil => exact id
  | @cons n s t c c' l l' hc hl ihc ihl =>
    rw [wfList_cons, wfList_cons, wfNode_mk, wfNode_mk]
    rintro ⟨h1, h2, h3⟩
    refine ⟨fun y hy => ?_, ihc h2, ihl h3⟩
    obtain ⟨y0, hy0, hname⟩ := List.mem_map.mp ((fperm_names hl).mem_iff.mpr (List.mem_map_of_mem hy))
    exact hname ▸ h1 y0 hy0
  | swap a b l =>
    rw [wfList_cons, wfList_cons, wfList_cons, wfList_cons]
    rintro ⟨h1, h2, h3, h4, h5⟩
    refine ⟨fun y hy => ?_, h4, fun y hy => h1 y (List.mem_cons_of_mem _ hy), h2, h5⟩
    rcases List.mem_cons.mp hy with rfl | hy'
    · exact Ne.symm (h1 b List.mem_cons_self)
    · exact h3 y hy'
  | trans _ _ ih₁ ih₂ => exact fun h => ih₂ (ih₁ h)

theorem wfList_nodup {l : List HNode} (h : WFList l) : (l.map HNode.name).Nodup := by
  induction l with
  | nil => simp
  | cons x xs ih =>
    rw [wfList_cons] at h
    rw [List.map_cons, List.nodup_cons]
    refine ⟨fun hmem => ?_, ih h.2.2⟩
    obtain ⟨y, hy, hname⟩ := List.mem_map.mp hmem
    exact h.1 y hy hname

theorem fperm_native {l₁ l₂ : List HNode} (h : FPerm l₁ l₂) :
    WFList l₁ → (nativeList true l₁).Perm (nativeList true l₂) := by
  induction h with
  | nil => intro _; exact List.Perm.refl _
  | @cons n s t c c' l l' hc hl ihc ihl =>
    rw [wfList_cons, wfNode_mk]
    rintro ⟨_, h2, h3⟩
    have hs : readNames true (nativeList true c) = readNames true (nativeList true c') := by
      rw [readNames_true, readNames_true]
      apply sortByName_perm (ihc h2)
      rw [nativeList_map_name]
      exact wfList_nodup h2
    simp only [nativeList, nativeNode, hs]
    exact List.Perm.cons _ (ihl h3)
  | swap a b l =>
    intro _
    simp only [nativeList]
    exact List.Perm.swap _ _ _
  | trans h₁ _ ih₁ ih₂ => exact fun h => (ih₁ h).trans (ih₂ (fperm_wf h₁ h))

/-- the native iterators hand the same enumeration to the layers above, whatever order readdir used -/
theorem nativeOrder_sorted_fperm {l₁ l₂ : List HNode} (h : FPerm l₁ l₂) (hwf : WFList l₁) :
    nativeOrder true l₁ = nativeOrder true l₂ := by
  simp only [nativeOrder, readNames_true]
  apply sortByName_perm (fperm_native h hwf)
  rw [nativeList_map_name]
  exact wfList_nodup hwf

mutual
theorem fperm_refl_node : ∀ x : HNode, FPerm x.children x.children
  | .mk _ _ _ c => fperm_refl c
theorem fperm_refl : ∀ l : List HNode, FPerm l l
  | [] => FPerm.nil
  | .mk n s t c :: xs => FPerm.cons (fperm_refl_node (.mk n s t c)) (fperm_refl xs)
end

end Sqfs.FsTree
