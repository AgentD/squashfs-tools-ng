/-
C01 — metadata blocks on disk: a run of blocks written by the meta writer reads back as the stream that was appended
(any codec meeting `CodecOk`), and a `(block start, offset)` reference computed from a stream position leads a reader
to the bytes at that position.
-/
import Sqfs.Model.EncMeta
import Sqfs.Proofs.EncBytes
import Sqfs.Proofs.MetaWriter
import Sqfs.Proofs.Bits
namespace Sqfs.Enc
open Sqfs.Consts
open Sqfs.Writer (le_length)
open Sqfs.MetaWriter (Block Codec Made St append run run_shape position stream outBytes)

theorem encBlock_length (b : Block) : (encBlock b).length = Block.diskSize b := by
  rw [encBlock, List.length_append, le_length, Block.diskSize, Nat.add_comm]

/-- the reader's `header & 0x7FFF` and `header & 0x8000` on the header of a compressed block of at most 8 KiB … -/
theorem header_compressed {len : Nat} (h : len ≤ 8192) :
    len % 65536 % 256 ^ 2 % 32768 = len ∧ len % 65536 % 256 ^ 2 / 32768 = 0 := by
  have h1 : len < 65536 := Nat.lt_of_le_of_lt h (by decide)
  have h2 : len < 32768 := Nat.lt_of_le_of_lt h (by decide)
  rw [(by decide : (256 : Nat) ^ 2 = 65536), Nat.mod_eq_of_lt h1, Nat.mod_eq_of_lt h1, Nat.mod_eq_of_lt h2,
    Nat.div_eq_of_lt h2]
  exact ⟨rfl, rfl⟩

/-- … and of a block stored as it is -/
theorem header_plain {len : Nat} (h : len ≤ 8192) :
    (len ||| 0x8000) % 65536 % 256 ^ 2 % 32768 = len ∧ ¬ (len ||| 0x8000) % 65536 % 256 ^ 2 / 32768 = 0 := by
  have h1 : 32768 + len < 65536 := Nat.lt_of_le_of_lt (Nat.add_le_add_left h _) (by decide)
  have h2 : len < 32768 := Nat.lt_of_le_of_lt h (by decide)
  rw [Nat.or_two_pow_of_lt (i := 15) h2, (by decide : (256 : Nat) ^ 2 = 65536), Nat.mod_eq_of_lt h1, Nat.mod_eq_of_lt h1, Nat.add_mod_left,
    Nat.mod_eq_of_lt h2, Nat.add_div_left _ (by decide), Nat.div_eq_of_lt h2]
  exact ⟨rfl, by decide⟩

theorem decBlock_encBlock {cmp : Codec} {unc : Unc} (hc : CodecOk cmp unc) (b : Block) (hm : Made cmp b)
    (hl : b.raw.length ≤ metaBlockSize) (rest : Bytes) :
    decBlock unc (encBlock b ++ rest) = .ok (b.raw, rest) := by
  unfold decBlock encBlock
  have hf := readFields_encFields [(2, b.header)] (b.stored ++ rest)
  simp only [encFields, List.append_nil, List.map_cons, List.map_nil, wrapFields] at hf
  rw [List.append_assoc, hf]
  cases hcomp : b.compressed with
  | true =>
    obtain ⟨h1, h2⟩ := hm.1 hcomp
    obtain ⟨a1, a2⟩ := header_compressed (hc.fits _ _ h1)
    simp only [Block.header, hcomp, if_true, a1, a2, gt_iff_lt, Nat.not_lt.mpr (hc.fits _ _ h1), if_false, take?_append,
      hc.inv _ _ h1 h2]
  | false =>
    obtain ⟨a1, a2⟩ := header_plain hl
    simp only [Block.header, hcomp, Bool.false_eq_true, if_false, a1, a2, gt_iff_lt, Nat.not_lt.mpr hl, hm.2 hcomp,
      take?_append]

/-- what the meta writer guarantees for every block it emits -/
def BlocksOk (cmp : Codec) (bs : List Block) : Prop := ∀ b ∈ bs, Made cmp b ∧ 1 ≤ b.raw.length ∧ b.raw.length ≤ metaBlockSize

def rawOf (bs : List Block) : Bytes := (bs.map (·.raw)).flatten

theorem encBlocks_cons (b : Block) (bs : List Block) : encBlocks (b :: bs) = encBlock b ++ encBlocks bs := by
  simp [encBlocks]

theorem encBlock_ne_nil (b : Block) (rest : Bytes) : encBlock b ++ rest ≠ [] := by
  intro h
  have := congrArg List.length h
  simp [encBlock, le_length] at this

theorem metaReadAllGo_spec {cmp : Codec} {unc : Unc} (hc : CodecOk cmp unc) : ∀ (bs : List Block) (f : Nat),
    BlocksOk cmp bs → bs.length < f → metaReadAllGo unc f (encBlocks bs) = .ok (rawOf bs) := by
  intro bs
  induction bs with
  | nil =>
    intro f _ hf
    obtain ⟨g, rfl⟩ := Nat.exists_eq_add_one_of_ne_zero (Nat.ne_of_gt hf)
    rfl
  | cons b bs ih =>
    intro f hok hf
    obtain ⟨g, rfl⟩ := Nat.exists_eq_add_one_of_ne_zero (Nat.ne_of_gt (Nat.lt_of_le_of_lt (Nat.zero_le _) hf))
    obtain ⟨hm, _, hl⟩ := hok b (List.mem_cons_self ..)
    have hr := ih g (fun x hx => hok x (List.mem_cons_of_mem _ hx)) (Nat.lt_of_succ_lt_succ hf)
    rw [encBlocks_cons]
    unfold metaReadAllGo
    simp only [encBlock_ne_nil, if_false, decBlock_encBlock hc b hm hl, hr]
    simp [rawOf]

theorem encBlocks_length_ge (bs : List Block) : bs.length ≤ (encBlocks bs).length := by
  induction bs with
  | nil => exact Nat.zero_le _
  | cons b bs ih =>
    rw [encBlocks_cons, List.length_append, List.length_cons, encBlock_length, Block.diskSize, Nat.add_comm]
    exact Nat.add_le_add (Nat.le_trans (by decide : 1 ≤ 2) (Nat.le_add_left 2 _)) ih

theorem run_blocksOk (cmp : Codec) (chunks : List Bytes) :
    BlocksOk cmp (run cmp chunks).out ∧ rawOf (run cmp chunks).out = chunks.flatten := by
  obtain ⟨full, last, h1, _, h3, _, h5, h6, h7⟩ := run_shape cmp chunks
  rw [h1]
  refine ⟨?_, h7⟩
  intro b hb
  refine ⟨h6 b hb, ?_⟩
  rcases List.mem_append.mp hb with h | h
  · have := h3 b h; rw [this]; decide
  · have := h5 b h; omega

theorem rawOf_cons (b : Block) (bs : List Block) : rawOf (b :: bs) = b.raw ++ rawOf bs := rfl

/-- the number of blocks of a finished run, read off the writer's invariant: `len / 8192` blocks were flushed on the way,
the final flush adds one for a remainder — which is how `sqfs_read_table` counts them -/
theorem run_count (cmp : Codec) (chunks : List Bytes) :
    (run cmp chunks).out.length = tableBlockCount chunks.flatten.length := by
  obtain ⟨w, _, hs⟩ := Sqfs.MetaWriter.foldl_append_wf cmp chunks {} (Sqfs.MetaWriter.wf_init cmp)
  rw [MetaWriter.stream_init, List.nil_append] at hs
  rw [run, w.flush_count, hs]
  rfl

theorem metaReadGo_zero (unc : Unc) (f : Nat) (avail next : Bytes) : metaReadGo unc f avail next 0 = .ok [] := by
  cases f <;> simp [metaReadGo]

theorem metaReadGo_spec {cmp : Codec} {unc : Unc} (hc : CodecOk cmp unc) : ∀ (f : Nat) (avail : Bytes) (bs : List Block) (n : Nat),
    BlocksOk cmp bs → n ≤ avail.length + (rawOf bs).length →
    (if avail = [] then 2 * n + 1 else 2 * n) ≤ f →
    metaReadGo unc f avail (encBlocks bs) n = .ok ((avail ++ rawOf bs).take n) := by
  intro f
  induction f with
  | zero =>
    intro avail bs n _ _ hf
    have : n = 0 := by
      split at hf
      · exact absurd hf (Nat.not_succ_le_zero _)
      · exact (Nat.mul_eq_zero.mp (Nat.le_zero.mp hf)).resolve_left (by decide)
    subst this
    simp [metaReadGo]
  | succ f ih =>
    intro avail bs n hok hn hf
    by_cases hn0 : n = 0
    · subst hn0; rw [metaReadGo_zero, List.take_zero]
    unfold metaReadGo
    rw [if_neg hn0]
    by_cases ha : avail = []
    · -- the loaded block is used up: the next one is loaded and must hold something
      subst ha
      rw [if_pos rfl] at hf ⊢
      cases bs with
      | nil => exact absurd (Nat.le_zero.mp hn) hn0
      | cons b bs =>
        obtain ⟨hm, h1, hl⟩ := hok b (List.mem_cons_self ..)
        have hne : b.raw ≠ [] := List.ne_nil_of_length_pos h1
        rw [rawOf_cons, List.length_append, List.length_nil, Nat.zero_add] at hn
        rw [encBlocks_cons, if_neg (encBlock_ne_nil _ _), decBlock_encBlock hc b hm hl]
        simp only [hne, if_false]
        rw [ih b.raw bs n (fun x hx => hok x (List.mem_cons_of_mem _ hx)) hn (by rw [if_neg hne]; exact Nat.le_of_succ_le_succ hf)]
        rfl
    · rw [if_neg ha] at hf ⊢
      have hpos : 0 < avail.length := List.length_pos_iff.mpr ha
      simp only
      rcases Nat.le_total n avail.length with hle | hle
      · -- everything asked for is in the loaded block
        rw [Nat.min_eq_left hle, Nat.sub_self, metaReadGo_zero]
        simp only [List.append_nil, List.take_append_of_le_length hle]
      · -- the loaded block is handed out whole, the rest comes from the following blocks
        have hfuel : 2 * (n - avail.length) + 1 ≤ f := by clear ih; omega
        rw [Nat.min_eq_right hle, List.drop_length, List.take_length,
          ih [] bs (n - avail.length) hok (by rw [List.length_nil, Nat.zero_add]; exact Nat.sub_le_iff_le_add'.mpr hn)
            (by rw [if_pos rfl]; exact hfuel)]
        simp only [List.nil_append]
        rw [List.take_append, List.take_of_length_le hle]

def FullButLast (bs : List Block) : Prop := ∀ i, i + 1 < bs.length → (bs.getD i ⟨false, [], []⟩).raw.length = metaBlockSize

theorem run_full (cmp : Codec) (chunks : List Bytes) : FullButLast (run cmp chunks).out := by
  obtain ⟨full, last, h1, _, h3, h4, _, _, _⟩ := run_shape cmp chunks
  rw [h1]
  intro i hi
  have : i < full.length := by simp only [List.length_append] at hi; omega
  rw [List.getD_eq_getElem?_getD, List.getElem?_append_left this, List.getElem?_eq_getElem this]
  exact h3 _ (List.getElem_mem this)

theorem rawOf_append (a b : List Block) : rawOf (a ++ b) = rawOf a ++ rawOf b := by simp [rawOf]

theorem encBlocks_append (a b : List Block) : encBlocks (a ++ b) = encBlocks a ++ encBlocks b := by simp [encBlocks]

theorem startOf_append_left (a b : List Block) : startOf (a ++ b) a.length = startOf a a.length := by
  simp [startOf]

theorem encBlocks_length (bs : List Block) : (encBlocks bs).length = startOf bs bs.length := by
  induction bs with
  | nil => rfl
  | cons b bs ih =>
    rw [encBlocks_cons, List.length_append, encBlock_length, ih]
    simp [startOf]

theorem FullButLast.tail {b : Block} {bs : List Block} (hf : FullButLast (b :: bs)) : FullButLast bs := by
  intro i hi
  have := hf (i + 1) (Nat.succ_lt_succ hi)
  simpa using this

theorem rawOf_length_le (cmp : Codec) : ∀ (bs : List Block), BlocksOk cmp bs → (rawOf bs).length ≤ bs.length * metaBlockSize := by
  intro bs
  induction bs with
  | nil => intro _; exact Nat.le_refl 0
  | cons b bs ih =>
    intro hok
    rw [rawOf_cons, List.length_append, List.length_cons, Nat.succ_mul, Nat.add_comm]
    exact Nat.add_le_add (ih (fun x hx => hok x (List.mem_cons_of_mem _ hx))) (hok b (List.mem_cons_self ..)).2.2

theorem startOf_succ (bs : List Block) (k : Nat) (hk : k < bs.length) :
    startOf bs (k + 1) = startOf bs k + Block.diskSize bs[k] := by
  simp only [startOf]
  rw [List.take_succ_eq_append_getElem hk, List.map_append, List.sum_append]
  simp

theorem startOf_strictMono (bs : List Block) : ∀ a b, a < b → b ≤ bs.length → startOf bs a < startOf bs b := by
  intro a b hab hb
  induction b with
  | zero => exact absurd hab (Nat.not_lt_zero _)
  | succ b ih =>
    rw [startOf_succ bs b hb]
    rcases Nat.lt_or_eq_of_le (Nat.le_of_lt_succ hab) with h | rfl
    · exact Nat.lt_add_right _ (ih h (Nat.le_of_succ_le hb))
    · exact Nat.lt_add_of_pos_right (Nat.succ_pos _)

theorem startOf_lt (bs : List Block) (k : Nat) (hk : k < bs.length) : startOf bs k < (encBlocks bs).length :=
  encBlocks_length bs ▸ startOf_strictMono bs k bs.length hk (Nat.le_refl _)

/-- the block a stream position lies in: the blocks before it are full, so it is block number `p / 8192` and the
position is `p % 8192` bytes into it -/
theorem stream_split {cmp : Codec} : ∀ (bs : List Block), BlocksOk cmp bs → FullButLast bs → ∀ p, p < (rawOf bs).length →
    ∃ pre b rest, bs = pre ++ b :: rest ∧ (rawOf pre).length = pre.length * metaBlockSize
      ∧ p / metaBlockSize = pre.length ∧ p % metaBlockSize < b.raw.length := by
  intro bs
  induction bs with
  | nil => intro _ _ p hp; exact absurd hp (Nat.not_lt_zero _)
  | cons b bs ih =>
    intro hok hfull p hp
    have hl := (hok b (List.mem_cons_self ..)).2.2
    by_cases h : p < b.raw.length
    · have hpM : p < metaBlockSize := Nat.lt_of_lt_of_le h hl
      exact ⟨[], b, bs, rfl, rfl, Nat.div_eq_of_lt hpM, by rw [Nat.mod_eq_of_lt hpM]; exact h⟩
    · rw [rawOf_cons, List.length_append] at hp
      have hne : 0 < bs.length := by
        cases bs with
        | nil => exact absurd hp (by rw [show (rawOf ([] : List Block)).length = 0 from rfl, Nat.add_zero]; exact h)
        | cons _ _ => exact Nat.succ_pos _
      have hb : b.raw.length = metaBlockSize := hfull 0 (Nat.succ_lt_succ hne)
      rw [hb] at h hp
      have hM : metaBlockSize ≤ p := Nat.le_of_not_lt h
      obtain ⟨pre, b', rest, e1, e2, e3, e4⟩ := ih (fun x hx => hok x (List.mem_cons_of_mem _ hx)) hfull.tail
        (p - metaBlockSize) (Nat.sub_lt_left_of_lt_add hM hp)
      refine ⟨b :: pre, b', rest, by rw [e1]; rfl, ?_, ?_, ?_⟩
      · rw [rawOf_cons, List.length_append, hb, e2, List.length_cons, Nat.succ_mul, Nat.add_comm]
      · rw [← Nat.sub_add_cancel hM, Nat.add_div_right _ (by decide), e3, List.length_cons]
      · rw [← Nat.sub_add_cancel hM, Nat.add_mod_right]; exact e4

theorem metaReadAt_block {cmp : Codec} {unc : Unc} (hc : CodecOk cmp unc) (pre : List Block) (b : Block) (rest : List Block)
    (hok : BlocksOk cmp (b :: rest)) (o n : Nat) (ho : o < b.raw.length)
    (hn : n ≤ (b.raw.drop o).length + (rawOf rest).length) :
    metaReadAt unc (encBlocks (pre ++ b :: rest)) (startOf (pre ++ b :: rest) pre.length) o n
      = .ok ((b.raw.drop o ++ rawOf rest).take n) := by
  obtain ⟨hm, _, hl⟩ := hok b (List.mem_cons_self ..)
  unfold metaReadAt
  rw [startOf_append_left, ← encBlocks_length, encBlocks_append, encBlocks_cons,
    if_neg (by rw [List.length_append, List.length_append, encBlock_length]
               exact Nat.not_le.mpr (Nat.lt_add_of_pos_right (Nat.add_pos_left (Nat.succ_pos _) _))),
    List.drop_left, decBlock_encBlock hc b hm hl]
  simp only
  rw [if_neg (Nat.not_le.mpr ho), metaReadGo_spec hc _ _ rest n (fun x hx => hok x (List.mem_cons_of_mem _ hx)) hn
    (by split; exact Nat.le_succ _; exact Nat.le_add_right _ 2)]

theorem metaReadAt_refOfPos {cmp : Codec} {unc : Unc} (hc : CodecOk cmp unc) (bs : List Block) (hok : BlocksOk cmp bs)
    (hfull : FullButLast bs) (p n : Nat) (hp : p < (rawOf bs).length) (hn : p + n ≤ (rawOf bs).length) :
    metaReadAt unc (encBlocks bs) (refOfPos bs p).1 (refOfPos bs p).2 n = .ok (((rawOf bs).drop p).take n) := by
  obtain ⟨pre, b, rest, rfl, hpre, hdiv, hmod⟩ := stream_split bs hok hfull p hp
  -- `p` is `p % 8192` bytes behind the stream of the blocks in front
  have hpos : p = (rawOf pre).length + p % metaBlockSize := by
    rw [hpre, ← hdiv, Nat.mul_comm]; exact (Nat.div_add_mod p metaBlockSize).symm
  rw [rawOf_append, rawOf_cons] at hn ⊢
  have hn' : n ≤ (b.raw.drop (p % metaBlockSize)).length + (rawOf rest).length := by
    rw [List.length_append, List.length_append, hpos] at hn
    rw [List.length_drop]
    clear hpos hok hp
    omega
  unfold refOfPos
  simp only
  rw [hdiv, metaReadAt_block hc pre b rest (fun x hx => hok x (List.mem_append_right _ hx)) _ n hmod hn']
  congr 2
  conv => rhs; rw [hpos, ← List.drop_drop, List.drop_left, List.drop_append_of_le_length (Nat.le_of_lt hmod)]

theorem startOf_eq (bs : List Block) (k : Nat) : startOf bs k = outBytes (bs.take k) := rfl

theorem writer_position (cmp : Codec) (chunks : List (List UInt8)) (k : Nat) :
    position ((chunks.take k).foldl (append cmp) {})
      = refOfPos (run cmp chunks).out ((chunks.take k).flatten.length) := by
  -- the blocks flushed after `k` appends stay in front to the end of the run
  obtain ⟨w, hext, hs⟩ := Sqfs.MetaWriter.foldl_append_at cmp chunks {} (Sqfs.MetaWriter.wf_init cmp) k
  rw [MetaWriter.stream_init, List.nil_append] at hs
  rw [w.position_in (hext.trans (Sqfs.MetaWriter.flush_ext cmp _)), hs, refOfPos, startOf_eq]
  rfl

end Sqfs.Enc
