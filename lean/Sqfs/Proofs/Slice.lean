/-
Windows of a list.  The models' `slice` (Tar, BlockWriter, FragDedup, IoLoops), `readAt`, `Pack.blockAt` and `Writer.field` are, or
wrap, `(l.drop off).take n`; here is how such a window behaves when the list was built by `++`, when the list or the window is cut
by `take`, and how adjacent windows join.  Stated on `take`/`drop` so that each model's own name for the window is covered up to
unfolding.
-/
namespace List
variable {α : Type _}

theorem take_drop_mid (a x b : List α) : ((a ++ (x ++ b)).drop a.length).take x.length = x := by
  rw [drop_left, take_left]

theorem take_drop_right (a x : List α) : ((a ++ x).drop a.length).take x.length = x := by
  rw [drop_left, take_length]

theorem take_drop_append_left (a b : List α) {off n : Nat} (h : off + n ≤ a.length) :
    ((a ++ b).drop off).take n = (a.drop off).take n := by
  rw [drop_append_of_le_length (Nat.le_trans (Nat.le_add_right off n) h),
    take_append_of_le_length (by rw [length_drop]; exact Nat.le_sub_of_add_le' h)]

theorem take_drop_append_right (a b : List α) {off : Nat} (n : Nat) (h : a.length ≤ off) :
    ((a ++ b).drop off).take n = (b.drop (off - a.length)).take n := by
  rw [drop_append, drop_of_length_le h, nil_append]

/-- lists that agree on their first `m` elements have the same windows below `m` -/
theorem take_drop_congr {l l' : List α} {m off n : Nat} (h : l.take m = l'.take m) (hm : off + n ≤ m) :
    (l.drop off).take n = (l'.drop off).take n := by
  have e : ∀ k : List α, (k.drop off).take n = ((k.take m).drop off).take n := fun k => by
    rw [drop_take, take_take, Nat.min_eq_left (Nat.le_sub_of_add_le' hm)]
  rw [e l, e l', h]

theorem length_take_drop (l : List α) {off n : Nat} (h : off + n ≤ l.length) : ((l.drop off).take n).length = n := by
  rw [length_take, length_drop]; exact Nat.min_eq_left (Nat.le_sub_of_add_le' h)

theorem take_take_drop (l : List α) (off : Nat) {k n : Nat} (h : k ≤ n) :
    ((l.drop off).take n).take k = (l.drop off).take k := by
  rw [take_take, Nat.min_eq_left h]

theorem take_drop_add (l : List α) (off : Nat) {k n : Nat} (h : k ≤ n) :
    (l.drop off).take k ++ (l.drop (off + k)).take (n - k) = (l.drop off).take n := by
  obtain ⟨d, rfl⟩ := Nat.exists_eq_add_of_le h
  rw [Nat.add_sub_cancel_left, take_add, drop_drop]

/-- a record written field after field: the `i`-th field sits behind the lengths of those before it -/
theorem take_drop_flatten (fs : List (List α)) {i : Nat} {x : List α} (h : fs[i]? = some x) :
    (fs.flatten.drop ((fs.take i).map length).sum).take x.length = x := by
  obtain ⟨hi, rfl⟩ := getElem?_eq_some_iff.1 h
  conv => lhs; arg 2; arg 2; rw [← take_append_drop i fs, ← getElem_cons_drop hi]
  rw [flatten_append, flatten_cons, ← length_flatten]
  exact take_drop_mid _ _ _

end List
