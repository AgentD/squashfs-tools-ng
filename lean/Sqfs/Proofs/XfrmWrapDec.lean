/-
C15 — the decompressing side of the backends' `process_data` loop (gzip.c / xz.c / bzip2.c):
library-level calling convention ⇒ the loop is a codec that meets `DecContract`.
-/
import Sqfs.Proofs.XfrmWrap
import Sqfs.Proofs.XfrmIStream
namespace Sqfs.Xfrm

/-- The four ways one round of the decompressing loop goes after a library call that answered `OK`, `STREAM_END` or `BUF_ERROR`.
`BUFFER_FULL` comes with output: otherwise the end-of-input rule would have applied. -/
theorem wrapBody_dec_cases {τ : Type} (L : Lib τ) (b : Backend) (fl : Flush) (st : τ) (inp : Bytes) (room ai : Nat) (ao : Bytes)
    (hw : inp ≠ [] ∨ fl = Flush.full) (hr : 0 < room) : ∀ r B, r = L.call st inp room fl →
    B = wrapBody L b false fl (st, inp, room, ai, ao) → GoodRet b r.ret →
    r.consumed ≤ inp.length → (r.ret = LibRet.ok → inp ≠ [] → 0 < r.consumed + r.out.length) →
    (r.ret = LibRet.bufError → r.out = [] → r.consumed = inp.length ∧ (fl = Flush.full ∨ inp = [])) →
    (r.ret = LibRet.streamEnd ∧ B = LoopStep.done ⟨L.reset r.st, ai + r.consumed, ao ++ r.out, Res.streamEnd⟩) ∨
    (r.ret ≠ LibRet.streamEnd ∧ r.consumed = inp.length ∧ r.out = [] ∧ fl = Flush.full ∧
      B = LoopStep.done ⟨r.st, ai + r.consumed, ao ++ r.out, if 0 < L.totalIn r.st then Res.error else Res.streamEnd⟩) ∨
    (r.ret ≠ LibRet.streamEnd ∧ r.out ≠ [] ∧ B = LoopStep.done ⟨r.st, ai + r.consumed, ao ++ r.out, Res.bufferFull⟩) ∨
    (r.ret = LibRet.ok ∧ 0 < r.consumed + r.out.length ∧ (inp = [] → r.out ≠ []) ∧
      B = LoopStep.next (r.st, inp.drop r.consumed, room - r.out.length, ai + r.consumed, ao ++ r.out)) := by
  rintro r B rfl rfl hret hcl hbytes hquiet
  rw [wrapBody_good L b false fl st inp room ai ao hw hr _ rfl hret]
  generalize L.call st inp room fl = r at *
  simp only [Bool.not_false, Bool.true_and, List.length_drop]
  by_cases hE : r.ret = LibRet.streamEnd
  · exact Or.inl ⟨hE, if_pos hE⟩
  rw [if_neg hE]
  by_cases hrule : (decide (inp.length - r.consumed = 0) && decide (r.out.length = 0) && decide (fl = Flush.full)) = true
  · rw [if_pos hrule]
    simp only [Bool.and_eq_true, decide_eq_true_eq] at hrule
    refine Or.inr (Or.inl ⟨hE, by omega, List.eq_nil_of_length_eq_zero hrule.1.2, hrule.2, ?_⟩)
    split <;> rfl
  rw [if_neg hrule]
  -- a call that took all that was left under `FLUSH_FULL` has handed something out
  have hout_eof : r.consumed = inp.length → fl = Flush.full → r.out ≠ [] := by
    intro h0 hfull hnil
    apply hrule
    simp only [Bool.and_eq_true, decide_eq_true_eq]
    exact ⟨⟨by omega, by rw [hnil]; rfl⟩, hfull⟩
  have hfull0 : inp = [] → fl = Flush.full := fun h0 => hw.resolve_left (fun h => h h0)
  have hnil_out : inp = [] → r.out ≠ [] := fun h0 => hout_eof (by rw [h0] at hcl ⊢; simpa using hcl) (hfull0 h0)
  by_cases hbuf : r.ret = LibRet.bufError
  · rw [if_pos hbuf]
    refine Or.inr (Or.inr (Or.inl ⟨hE, fun hnil => ?_, rfl⟩))
    obtain ⟨q1, q2⟩ := hquiet hbuf hnil
    exact hout_eof q1 (q2.elim id hfull0) hnil
  · rw [if_neg hbuf]
    have hok := hret.ok hE hbuf
    refine Or.inr (Or.inr (Or.inr ⟨hok, ?_, hnil_out, rfl⟩))
    by_cases h0 : inp = []
    · have := List.length_pos_iff.2 (hnil_out h0)
      omega
    · exact hbytes hok h0

/-- bookkeeping of one `process_data` call of a decompressing backend: after the library calls made so far the counters stand
at `ai`, `ao` and the library's measure at `p` (`p0` when the call began) -/
def Track (p0 : Nat) (inp : Bytes) (p ai : Nat) (ao : Bytes) : Prop :=
  (ai = 0 ∧ ao = [] ∧ p = p0) ∨ ((inp ≠ [] → 0 < ai ∨ p < p0) ∧ (inp = [] → ao ≠ []))

theorem Track.progress {p0 p p' ai c : Nat} {inp inp' ao : Bytes} (h : Track p0 inp p ai ao) (hai : ai + inp'.length = inp.length)
    (hloc : inp' ≠ [] → 0 < c ∨ p' < p) (hne : inp ≠ []) : 0 < ai + c ∨ p' < p0 :=
  call_progress (fun hai0 => hloc fun h0 => hne (List.eq_nil_of_length_eq_zero (by rw [← hai, hai0, h0]; rfl)))
    (h.elim (fun h => Or.inl ⟨h.1, h.2.2⟩) fun h => Or.inr (h.1 hne))

theorem Track.started {p0 p ai room room' : Nat} {inp inp' ao : Bytes} {fl : Flush} (h : Track p0 inp p ai ao)
    (hinp : inp' = inp.drop ai) (hao : ao.length + room' = room) (hcond : ¬ ((inp' ≠ [] ∨ fl = Flush.full) ∧ 0 < room'))
    (hr : 0 < room) (hw : inp ≠ [] ∨ fl = Flush.full) : (inp ≠ [] → 0 < ai ∨ p < p0) ∧ (inp = [] → ao ≠ []) := by
  rcases h with ⟨h2, h3, _⟩ | h
  · exact (hcond (loop_runs_at_start hinp hao h2 h3 hr hw)).elim
  · exact h

section DecWrap
variable {τ : Type} {L : Lib τ} {b : Backend} {Dec : Bytes → Option Bytes}

theorem wrapProcess_dec_spec (hL : LibDecContract L b Dec) {s : τ} {u v : Bytes} (w x tail inp : Bytes) (room : Nat)
    (fl : Flush) (hfl : fl ≠ Flush.sync) (hR : hL.R s u v) (hdec : Dec (u ++ w) = some x) (hin : IsPre inp (w ++ tail)) :
    ∃ r, wrapProcess L b false s inp room fl = some r ∧ DecPost hL.R hL.pend s u v w x inp room fl r := by
  refine iter_buf (wrapBody L b false fl) inp room
    (fun st ai ao => ai ≤ w.length ∧ hL.R st (u ++ inp.take ai) (v ++ ao) ∧ Track (hL.pend s) inp (hL.pend st) ai ao)
    (DecPost hL.R hL.pend s u v w x inp room fl) ?_
    ⟨Nat.zero_le _, by simpa using hR, Or.inl ⟨rfl, rfl, rfl⟩⟩
  rintro st inp' room' ai ao hinp hai hao ⟨haw, hRs, htrack⟩
  have hdec' : Dec ((u ++ inp.take ai) ++ w.drop ai) = some x := by
    rw [hin.take_eq (by omega) haw, List.append_assoc, List.take_append_drop]; exact hdec
  by_cases hcond : (inp' ≠ [] ∨ fl = Flush.full) ∧ 0 < room'
  · obtain ⟨hwork, hr0⟩ := hcond
    have hin' : IsPre inp' (w.drop ai ++ tail) := by
      have := hin.drop ai
      rwa [List.drop_append_of_le_length haw, ← hinp] at this
    obtain ⟨hret, hcl, hcw, hol, hpo, hend, hkeep⟩ := hL.valid (w.drop ai) x tail inp' room' fl hfl hRs hdec' hin' hr0
    have hbytes := hL.bytes (w.drop ai) x tail inp' room' fl hfl hRs hdec' hin' hr0
    have hprog := hL.progress (w.drop ai) x tail inp' room' fl hfl hRs hdec' hin' hr0
    have hquiet := hL.buf_quiet (w.drop ai) x tail inp' room' fl hfl hRs hdec' hin' hr0
    have hdrain := hL.drain (w.drop ai) x tail inp' room' fl hfl hRs hdec' hin' hr0
    have hcases := wrapBody_dec_cases L b fl st inp' room' ai ao hwork hr0 _ _ rfl rfl hret hcl (fun hok h0 => hbytes h0 hok) hquiet
    generalize L.call st inp' room' fl = r at *
    rw [List.length_drop] at hcw hdrain hend
    rw [List.append_assoc, hinp, ← List.take_add] at hkeep
    rw [List.append_assoc] at hpo hend hkeep
    have hprog' := htrack.progress hai hprog
    have hci : ai + r.consumed ≤ inp.length := by omega
    have hcw' : ai + r.consumed ≤ w.length := by omega
    have hor : (ao ++ r.out).length ≤ room := by rw [List.length_append]; omega
    rcases hcases with ⟨hE, hb⟩ | ⟨hE, hc, hout, hfull, hb⟩ | ⟨hE, hout, hb⟩ | ⟨hok, hpos, hnil_out, hb⟩ <;> rw [hb]
    · -- the library reports the end of the member
      obtain ⟨e1, e2, e3⟩ := hend hE
      rw [if_pos hE] at hprog'
      exact Or.inr ⟨⟨by simp, hci, hcw', hor, hpo, fun _ => ⟨by simp only; omega, e2, e3⟩, fun h => absurd rfl h,
        fun h => (by cases h)⟩, fun _ hne => hprog' hne, fun _ _ _ => Or.inr rfl⟩
    · -- "no more input will follow and nothing is left to unpack"
      have hcons : ai + r.consumed = inp.length := by omega
      -- the member cannot be complete: a call that completes it hands something out or ends it
      have hshort : inp.length < w.length := by
        by_cases hlt : inp.length < w.length
        · exact hlt
        · rcases hdrain (by omega) with h | h
          · exact absurd hout h
          · exact absurd h hE
      by_cases hti : 0 < L.totalIn r.st
      · exact Or.inl ⟨hfull, hshort, hcons, Or.inl (if_pos hti), fun _ => if_pos hti⟩
      · -- the library has seen nothing of the member: nothing had been consumed before, and there is no input
        obtain ⟨hu, htk⟩ := List.append_eq_nil_iff.1 ((hL.total (hkeep hE)).1 (by omega))
        rw [hcons, List.take_length] at htk
        exact Or.inl ⟨hfull, hshort, hcons, Or.inr ⟨if_neg hti, hu, htk⟩, fun h => absurd hu h⟩
    · -- `BUFFER_FULL`
      rw [if_neg hE] at hprog'
      have hbfout : ao ++ r.out ≠ [] := fun h => hout (List.append_eq_nil_iff.1 h).2
      exact Or.inr ⟨⟨by simp, hci, hcw', hor, hpo, fun h => (by cases h), fun _ => hkeep hE, fun _ => hbfout⟩,
        fun _ hne => hprog' hne, fun _ _ _ => Or.inl hbfout⟩
    · have hE : r.ret ≠ LibRet.streamEnd := by rw [hok]; simp
      rw [if_neg hE] at hprog'
      refine ⟨_, _, _, rfl, hcl, hol, hpos, hcw', hkeep hE, Or.inr ⟨hprog', fun hnil hh => ?_⟩⟩
      exact hnil_out (by rw [hinp, hnil]; simp) (List.append_eq_nil_iff.1 hh).2
  · -- the loop condition is false: leave with XFRM_STREAM_OK
    rw [wrapBody_idle L b false fl st inp' room' ai ao hcond]
    -- what has been handed out is part of the content: whatever a further call hands out continues the content behind it
    have hpre : IsPre (v ++ ao) x := (IsPre.append_left _ _).trans
      (hL.valid (w.drop ai) x tail [] 1 fl hfl hRs hdec' (IsPre.nil _) Nat.one_pos).2.2.2.2.1
    exact Or.inr ⟨⟨by simp, by simp only; omega, haw, by simp only; omega, hpre, fun h => (by cases h), fun _ => hRs,
      fun h => (by cases h)⟩, fun hr0 hne => (htrack.started hinp hao hcond hr0 (Or.inl hne)).1 hne,
      fun hr0 hfull hnil => Or.inl ((htrack.started hinp hao hcond hr0 (Or.inr hfull)).2 hnil)⟩

theorem wrapProcess_dec_idle (hL : LibDecContract L b Dec) {s : τ} (room : Nat) (hR : hL.R s [] []) (hr : 0 < room) :
    wrapProcess L b false s [] room Flush.full = some ⟨(L.call s [] room Flush.full).st, 0, [], Res.streamEnd⟩ ∧
    hL.R (L.call s [] room Flush.full).st [] [] := by
  obtain ⟨hret, hout, hc, hR'⟩ := hL.idle room Flush.full (by decide) hR hr
  have htot : L.totalIn (L.call s [] room Flush.full).st = 0 := (hL.total hR').2 rfl
  have hne : (L.call s [] room Flush.full).ret ≠ LibRet.streamEnd := by
    rcases hret with h | ⟨h, _⟩ <;> rw [h] <;> simp
  refine ⟨?_, hR'⟩
  -- the first round applies the end-of-input rule
  have hbody := wrapBody_good L b false Flush.full s [] room 0 [] (Or.inr rfl) hr _ rfl (.of_not_end hret)
  rw [if_neg hne, hout, hc, htot] at hbody
  simp at hbody
  simp only [wrapProcess, wrapLoop, iter, hbody]

theorem wrapCodec_dec_spec (hL : LibDecContract L b Dec) {s : τ} {u v : Bytes} (w x tail inp : Bytes) (room : Nat)
    (fl : Flush) (hfl : fl ≠ Flush.sync) (hR : hL.R s u v) (hdec : Dec (u ++ w) = some x) (hin : IsPre inp (w ++ tail)) :
    DecPost hL.R hL.pend s u v w x inp room fl ((wrapCodec L b false).step s inp room fl) := by
  obtain ⟨r, hr, hq⟩ := wrapProcess_dec_spec hL w x tail inp room fl hfl hR hdec hin
  rwa [wrapCodec_step hr]

def wrapDecContract (hL : LibDecContract L b Dec) : DecContract (wrapCodec L b false) Dec where
  R := hL.R
  pend := hL.pend
  init := hL.init
  dec_nil := hL.dec_nil
  valid := fun w x tail inp room fl hns hR hd hin hfl => ((wrapCodec_dec_spec hL w x tail inp room fl hns hR hd hin).ok hfl).1
  progress := fun w x tail inp room fl hns hR hd hin hfl hr0 hne =>
    ((wrapCodec_dec_spec hL w x tail inp room fl hns hR hd hin).ok hfl).2.1 hr0 hne
  drain := fun x room hR hd hr0 =>
    ((wrapCodec_dec_spec hL [] x [] [] room Flush.full (by decide) hR (by simpa using hd) (IsPre.nil _)).ok
      fun _ => Nat.le_refl _).2.2 hr0 rfl rfl
  idle_eof := by
    intro s room hR hr0
    obtain ⟨h1, h2⟩ := wrapProcess_dec_idle hL room hR hr0
    rw [wrapCodec_step h1]
    exact ⟨by simp, rfl, rfl, h2⟩
  truncated := fun w x room hR hu hw hd hr0 =>
    (wrapCodec_dec_spec hL w x [] [] room Flush.full (by decide) hR hd (IsPre.nil _)).truncated hu hw hr0

end DecWrap

end Sqfs.Xfrm
