/-
C01 — the inode `serialize_tree_node` hands to `sqfs_meta_writer_write_inode`: its type bits and base fields, that it
is well formed (so that `decInode_encInode` applies to it), and what the writer refuses / accepts.
-/
import Sqfs.Proofs.EncSelect
import Sqfs.Proofs.IdTable
import Mathlib.Data.List.Perm.Subperm
namespace Sqfs.Enc

theorem typeBits_makeExtended (i : Inode) : (makeExtended i).typeBits = i.typeBits := by cases i <;> rfl
theorem typeBits_makeBasic (i : Inode) : (makeBasic i).typeBits = i.typeBits := by
  rw [makeBasic_eq]; split <;> cases i <;> rfl
theorem typeBits_putXattr (x : Nat) (i : Inode) : (putXattr x i).typeBits = i.typeBits := by cases i <;> rfl
theorem base_makeExtended (i : Inode) : (makeExtended i).base = i.base := by cases i <;> rfl
theorem base_makeBasic (i : Inode) : (makeBasic i).base = i.base := by
  rw [makeBasic_eq]; split <;> cases i <;> rfl
theorem base_putXattr (x : Nat) (i : Inode) : (putXattr x i).base = i.base := by cases i <;> rfl

theorem typeBits_withBase (f : Base → Base) (i : Inode) : (i.withBase f).typeBits = i.typeBits := by cases i <;> rfl
theorem base_withBase (f : Base → Base) (i : Inode) : (i.withBase f).base = f i.base := by cases i <;> rfl
theorem typeBits_setFileNlink (lc : Nat) (i : Inode) : (setFileNlink lc i).typeBits = i.typeBits := by
  cases i <;> simp only [setFileNlink] <;> (try split) <;> rfl

theorem setIds_view (u g : Nat) (i : Inode) :
    (setIds u g i).view = { i.view with base := { i.view.base with uidIdx := u, gidIdx := g } } := by
  unfold setIds; rw [withBase_view]

theorem base_setFileNlink (lc : Nat) (i : Inode) : (setFileNlink lc i).base = i.base := by
  cases i with
  | file b st fi fo sz blks => by_cases h : lc > 1 <;> simp [setFileNlink, h, makeExtended, Inode.base]
  | _ => rfl

theorem typeBits_setXattrIndex (x : Nat) (i : Inode) : (setXattrIndex x i).typeBits = i.typeBits := by
  rw [← view_typeBits, setXattrIndex_view]; exact view_typeBits i

theorem base_setXattrIndex (x : Nat) (i : Inode) : (setXattrIndex x i).base = i.base := by
  rw [← view_base, setXattrIndex_view]; exact view_base i

theorem base_serializeInode (d r : Bool) (a : NodeAttr) (i0 : Inode) :
    (serializeInode d r a i0).base = { i0.base with mode := a.mode, mtime := a.mtime, inum := a.inum } := by
  have h1 : (if r = true then setFileNlink a.linkCount i0 else i0).base = i0.base := by
    split
    · exact base_setFileNlink _ _
    · rfl
  unfold serializeInode
  simp only
  split
  · rw [base_makeBasic, base_setXattrIndex, base_withBase, h1]
  · rw [base_setXattrIndex, base_withBase, h1]

theorem typeBits_serializeInode (d r : Bool) (a : NodeAttr) (i0 : Inode) :
    (serializeInode d r a i0).typeBits = i0.typeBits := by
  have h1 : (if r = true then setFileNlink a.linkCount i0 else i0).typeBits = i0.typeBits := by
    split
    · exact typeBits_setFileNlink _ _
    · rfl
  unfold serializeInode
  simp only
  split
  · rw [typeBits_makeBasic, typeBits_setXattrIndex, typeBits_withBase, h1]
  · rw [typeBits_setXattrIndex, typeBits_withBase, h1]

theorem none32_lt : NONE32 < 2 ^ 32 := by decide

theorem wfBody_makeExtended (bs : Nat) (i : Inode) (h : WfBody bs i) : WfBody bs (makeExtended i) := by
  have hN := none32_lt
  cases i with
  | dir b sb nl sz off par =>
    obtain ⟨h1, h2, h3, h4, h5⟩ := h
    exact ⟨h2, Nat.lt_trans h3 (by decide), h1, h5, by decide, h4, hN, rfl, fun _ => rfl, fun _ he => nomatch he⟩
  | file b st fi fo sz blks =>
    obtain ⟨h1, h2, h3, h4, h5⟩ := h
    exact ⟨Nat.lt_trans h1 (by decide), Nat.lt_trans h4 (by decide), by decide, by decide, h2, h3, hN, h5⟩
  | slink b nl ts t => obtain ⟨h1, h2, h3⟩ := h; exact ⟨h1, h2, h3, hN⟩
  | dev b c nl d => obtain ⟨h1, h2⟩ := h; exact ⟨h1, h2, hN⟩
  | ipc b c nl => exact ⟨h, hN⟩
  | _ => exact h

theorem wfBody_makeBasic (bs : Nat) (i : Inode) (h : WfBody bs i) : WfBody bs (makeBasic i) := by
  rw [makeBasic_eq]
  split
  · next hf =>
    cases i with
    | dirExt b nl sz sb par ic off x idx =>
      simp only [Inode.fitsBasic, Bool.and_eq_true, decide_eq_true_eq] at hf
      obtain ⟨h1, h2, h3, h4, h5, h6, _⟩ := h
      exact ⟨h3, h1, Nat.lt_succ_of_le hf.2, h6, h4⟩
    | fileExt b st sz sp nl fi fo x blks =>
      obtain ⟨_, f1, f2, _⟩ := fitsBasic_fileExt.mp hf
      obtain ⟨h1, h2, h3, h4, h5, h6, h7, h8⟩ := h
      exact ⟨Nat.lt_succ_of_le f1, h5, h6, Nat.lt_succ_of_le f2, h8⟩
    | slinkExt b nl ts t x => obtain ⟨h1, h2, h3, _⟩ := h; exact ⟨h1, h2, h3⟩
    | devExt b c nl d x => obtain ⟨h1, h2, _⟩ := h; exact ⟨h1, h2⟩
    | ipcExt b c nl x => exact h.1
    | _ => exact h
  · exact h

theorem wfBody_putXattr (bs x : Nat) (hx : x < 2 ^ 32) (i : Inode) (h : WfBody bs i) : WfBody bs (putXattr x i) := by
  cases i with
  | dirExt b nl sz sb par ic off x' idx => obtain ⟨h1, h2, h3, h4, h5, h6, _, h8⟩ := h; exact ⟨h1, h2, h3, h4, h5, h6, hx, h8⟩
  | fileExt b st sz sp nl fi fo x' blks => obtain ⟨h1, h2, h3, h4, h5, h6, _, h8⟩ := h; exact ⟨h1, h2, h3, h4, h5, h6, hx, h8⟩
  | slinkExt b nl ts t x' => obtain ⟨h1, h2, h3, _⟩ := h; exact ⟨h1, h2, h3, hx⟩
  | devExt b c nl d x' => obtain ⟨h1, h2, _⟩ := h; exact ⟨h1, h2, hx⟩
  | ipcExt b c nl x' => exact ⟨h.1, hx⟩
  | _ => exact h

theorem wfBody_setXattrIndex (bs x : Nat) (hx : x < 2 ^ 32) (i : Inode) (h : WfBody bs i) : WfBody bs (setXattrIndex x i) := by
  unfold setXattrIndex
  split
  · exact wfBody_putXattr bs x hx _ (wfBody_makeExtended bs i h)
  · exact wfBody_putXattr bs x hx _ h

theorem wfBody_setFileNlink (bs lc : Nat) (hlc : lc < 2 ^ 32) (i : Inode) (h : WfBody bs i) : WfBody bs (setFileNlink lc i) := by
  cases i with
  | file b st fi fo sz blks =>
    simp only [setFileNlink]
    split
    · obtain ⟨h1, h2, h3, h4, h5⟩ := h
      exact ⟨Nat.lt_trans h1 (by decide), Nat.lt_trans h4 (by decide), by decide, hlc, h2, h3, none32_lt, h5⟩
    · exact h
  | fileExt b st sz sp nl fi fo x blks =>
    obtain ⟨h1, h2, h3, h4, h5, h6, h7, h8⟩ := h
    exact ⟨h1, h2, h3, hlc, h5, h6, h7, h8⟩
  | _ => exact h

theorem wfBody_withBase (bs : Nat) (f : Base → Base) (i : Inode) : WfBody bs (i.withBase f) ↔ WfBody bs i := by
  cases i <;> exact Iff.rfl

theorem wfBody_serializeInode (bs : Nat) (d r : Bool) (a : NodeAttr) (i0 : Inode) (h0 : WfBody bs i0)
    (hl : a.linkCount < 2 ^ 32) (hx : a.xattrIdx < 2 ^ 32) : WfBody bs (serializeInode d r a i0) := by
  have h1 : WfBody bs (if r then setFileNlink a.linkCount i0 else i0) := by
    split
    · exact wfBody_setFileNlink bs _ hl i0 h0
    · exact h0
  have h3 := fun f => wfBody_setXattrIndex bs a.xattrIdx hx _ ((wfBody_withBase bs f _).mpr h1)
  unfold serializeInode
  simp only
  split
  · exact wfBody_makeBasic bs _ (h3 _)
  · exact h3 _

theorem wfInode_serializeInode (bs : Nat) (isDir isReg : Bool) (a : NodeAttr) (uid gid : Nat) (i0 : Inode) (h0 : WfBody bs i0)
    (hm : a.mode < 65536 ∧ a.mode / 4096 * 4096 = i0.typeBits) (ht : a.mtime < 2 ^ 32) (hn : a.inum < 2 ^ 32)
    (hl : a.linkCount < 2 ^ 32) (hx : a.xattrIdx < 2 ^ 32) (hu : uid < 65536) (hg : gid < 65536) :
    WfInode bs (setIds uid gid (serializeInode isDir isReg a i0)) := by
  unfold setIds
  refine ⟨?_, (wfBody_withBase bs _ _).mpr (wfBody_serializeInode bs isDir isReg a i0 h0 hl hx)⟩
  rw [typeBits_withBase, base_withBase, typeBits_serializeInode, base_serializeInode]
  exact ⟨hm.1, hm.2, hu, hg, ht, hn⟩

/-- "at most 65535 distinct ids": every duplicate-free selection of the ids is that short -/
def IdsRepresentable (ids : List Nat) : Prop := ∀ d : List Nat, d.Nodup → (∀ x ∈ d, x ∈ ids) → d.length ≤ 65535

theorem idsRepresentable_of_length {ids : List Nat} (h : ids.length ≤ 65535) : IdsRepresentable ids :=
  fun _ hd hs => Nat.le_trans (hd.subperm hs).length_le h

/-- a list of distinct ids that is itself too long is not representable -/
theorem not_idsRepresentable_of_nodup {ids : List Nat} (hn : ids.Nodup) (hl : 65535 < ids.length) : ¬ IdsRepresentable ids :=
  fun h => Nat.not_le.mpr hl (h ids hn fun _ hx => hx)

open Sqfs.IdTable in
theorem ids_refused (ids : List Nat) (h : ¬ IdsRepresentable ids) : addAll limit [] ids = none := by
  cases hr : addAll limit [] ids with
  | none => rfl
  | some r =>
    obtain ⟨t, is⟩ := r
    exfalso
    apply h
    intro d hd hsub
    obtain ⟨h1, _, h3, _, _, m2⟩ := addAll_spec limit ids [] t is (by simp) (by simp) hr
    have hsp : d.Subperm t := List.Nodup.subperm hd (fun x hx => m2 x (hsub x hx))
    exact Nat.le_trans hsp.length_le h1

open Sqfs.IdTable in
theorem addAll_accepts (all : List Nat) (hrep : IdsRepresentable all) : ∀ (rest tbl : List Nat), tbl.Nodup →
    (∀ x ∈ tbl, x ∈ all) → (∀ x ∈ rest, x ∈ all) → ∃ r, addAll limit tbl rest = some r := by
  intro rest
  induction rest with
  | nil => intro tbl _ _ _; exact ⟨_, rfl⟩
  | cons id rest ih =>
    intro tbl hn hsub hrest
    have hid := hrest id (List.mem_cons_self ..)
    have hrest' : ∀ x ∈ rest, x ∈ all := fun x hx => hrest x (List.mem_cons_of_mem _ hx)
    rw [addAll, step_eq]
    by_cases c1 : id ∈ tbl
    · rw [if_pos c1]
      obtain ⟨r, hr⟩ := ih tbl hn hsub hrest'
      exact ⟨(r.1, tbl.idxOf id :: r.2), by simp [hr]⟩
    · have hnd := List.nodup_snoc hn c1
      have hsub' : ∀ x ∈ tbl ++ [id], x ∈ all := List.forall_mem_snoc hsub hid
      -- a full table plus the new id would be 65536 distinct ids
      have c2 : ¬ (tbl.length = limit) := fun h => by
        have hlen := hrep _ hnd hsub'
        rw [List.length_append, h] at hlen; exact absurd hlen (by decide : ¬ limit + 1 ≤ 65535)
      rw [if_neg c1, if_neg c2]
      obtain ⟨r, hr⟩ := ih (tbl ++ [id]) hnd hsub' hrest'
      exact ⟨(r.1, tbl.length :: r.2), by simp [hr]⟩

end Sqfs.Enc
