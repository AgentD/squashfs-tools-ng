/-
C01 — the parts of one step of `sqfs_serialize_fstree`: what `add_entry` lets through, the hypotheses on a node
(`NodeInOk`), and the directory inode `write_dir_entries` builds (it fits its layout; start block and offset of the
listing are those of the reference the meta writer reported).  The step itself is in `Proofs/EncTreeStep.lean`.
-/
import Sqfs.Model.EncTree
import Sqfs.Proofs.EncRaw
import Sqfs.Proofs.EncWf
import Sqfs.Proofs.EncInodeRT
import Sqfs.Proofs.EncDir
import Sqfs.Props.C03
namespace Sqfs.Enc
open Sqfs.Consts
open Sqfs.DirWriter (DEnt Run addEntry dirEnd createInode createInodeCap dirSizeOf maxIndex)

theorem addEntry_fields {nm : Bytes} {n r m : Nat} {e : DEnt} (h : addEntry nm n r m = .ok e) :
    e.name = nm ∧ e.inodeNum = n ∧ e.inodeRef = r := by
  -- only the accepting branch of `add_entry` returns an entry
  revert h
  fun_cases addEntry nm n r m <;> intro h <;> cases h
  exact ⟨rfl, rfl, rfl⟩

/-- the entries `write_dir_entries` gets accepted: names and references as handed in, in order; and within the C types
of a listing when the numbers and references handed in are -/
theorem addAllEntries_spec : ∀ (ents : List (Bytes × Nat × Nat × Nat)) (des : List DEnt), addAllEntries ents = .ok des →
    des.map (fun e => (e.name, e.inodeRef)) = ents.map (fun x => (x.1, x.2.2.1))
    ∧ ((∀ x ∈ ents, x.2.1 < 2 ^ 32 ∧ x.2.2.1 < 2 ^ 48) → ∀ e ∈ des, WfDEnt e ∧ e.name.length ≤ 256) := by
  intro ents
  induction ents with
  | nil => intro des h; simp only [addAllEntries, Except.ok.injEq] at h; subst h; simp
  | cons x rest ih =>
    intro des h
    obtain ⟨nm, n, r, m⟩ := x
    simp only [addAllEntries] at h
    cases ha : addEntry nm n r m with
    | unsupported => rw [ha] at h; cases h
    | argInvalid => rw [ha] at h; cases h
    | ok e0 =>
      rw [ha] at h
      simp only at h
      cases hr : addAllEntries rest with
      | error s => rw [hr] at h; cases h
      | ok l =>
        rw [hr] at h
        simp only [Except.ok.injEq] at h
        subst h
        obtain ⟨f1, f2, f3⟩ := addEntry_fields ha
        obtain ⟨_, h2, h3, _, _, _, h7⟩ := Sqfs.C03.add_entry_name_fits nm n r m e0 ha
        obtain ⟨i1, i2⟩ := ih l hr
        refine ⟨by simp only [List.map_cons, i1, f1, f3], ?_⟩
        intro hx e he
        rcases List.mem_cons.mp he with rfl | he
        · obtain ⟨x1, x2⟩ := hx _ (List.mem_cons_self ..)
          exact ⟨⟨h2, Nat.le_trans h3 (by decide), by rw [f2]; exact x1, Nat.lt_of_le_of_lt h7 (by decide), by rw [f3]; exact x2⟩, h3⟩
        · exact i2 (fun y hy => hx y (List.mem_cons_of_mem _ hy)) e he

/-- the node's attributes lie within their C types (`tree_node_t`: `sqfs_u16 mode`, `sqfs_u32` for the rest), its mode
names the kind it is serialized as, the id table is in a state the serializer can have produced, and
* directory: the numbers/references handed to `add_entry` are a `sqfs_u32` / a 48-bit reference, the listing is
  shorter than 4 GiB;
* regular file: the block processor's inode is a file inode whose fields fit;
* others: device number and target length fit 32 bits. -/
structure NodeInOk (bs : Nat) (st : TreeSt) (n : NodeIn) : Prop where
  mode : n.attr.mode < 65536
  mtime : n.attr.mtime < 2 ^ 32
  inum : n.attr.inum < 2 ^ 32
  lc : n.attr.linkCount < 2 ^ 32
  xattr : n.attr.xattrIdx < 2 ^ 32
  ids : st.ids.length ≤ Sqfs.IdTable.limit ∧ st.ids.Nodup
  kind : match n.kind with
    | .dir ents => n.attr.mode / 4096 * 4096 = sIFDIR ∧ n.parentInum < 2 ^ 32
        ∧ (∀ e ∈ ents, e.2.1 < 2 ^ 32 ∧ e.2.2.1 < 2 ^ 48)
        ∧ (∀ des, addAllEntries ents = .ok des →
            listingSize rawCost (st.dirs.length / metaBlockSize * rawCost) (st.dirs.length % metaBlockSize) des + 3 < 2 ^ 32)
    | .reg inode => n.attr.mode / 4096 * 4096 = sIFREG ∧ inode.view.typeBits = sIFREG ∧ WfBody bs inode
    | .other devno target => devno < 2 ^ 32 ∧ target.length < 2 ^ 32
        ∧ ∀ i0, treeNodeToInode n.attr.mode n.attr.linkCount devno target = some i0 → n.attr.mode / 4096 * 4096 = i0.typeBits

theorem toInode_typeBits (d : Sqfs.DirWriter.DirInode) : (DirInode.toInode d).view.typeBits = sIFDIR := by
  unfold DirInode.toInode; simp only; split <;> rfl

theorem setDirNlink_view_typeBits (lc : Nat) (i : Inode) : (setDirNlink lc i).view.typeBits = i.view.typeBits := by
  cases i <;> rfl

theorem dirInodeOf_typeBits (dpos : Nat) (n : NodeIn) (des : List DEnt) : (dirInodeOf dpos n des).view.typeBits = sIFDIR := by
  unfold dirInodeOf
  rw [setDirNlink_view_typeBits]
  exact toInode_typeBits _

theorem createInode_spec (bs ref cnt xattr parent lc : Nat) (runs : List Run) (hlc : lc < 2 ^ 32)
    (hx : xattr < 2 ^ 32) (hpar : parent < 2 ^ 32)
    (hnames : ∀ r ∈ runs, ∃ first tl, r.ents = first :: tl ∧ 1 ≤ first.name.length ∧ first.name.length ≤ 256)
    (hsz : dirSizeOf runs + 3 < 2 ^ 32) :
    WfBody bs (setDirNlink lc (DirInode.toInode (createInode ref runs cnt 0 xattr parent)))
    ∧ ((setDirNlink lc (DirInode.toInode (createInode ref runs cnt 0 xattr parent))).isExt = false → xattr = NONE32)
    ∧ ∀ stream, openDir (setDirNlink lc (DirInode.toInode (createInode ref runs cnt 0 xattr parent))) stream
        = some ⟨stream, dirSizeOf runs + 3, 0, 0, 0⟩ := by
  unfold createInode createInodeCap
  simp only
  by_cases hext : (xattr ≠ 0xFFFFFFFF ∨ ref >>> 16 > 0xFFFFFFFF ∨ dirSizeOf runs > 0xFFFF - 3) ∨ cnt ≥ Sqfs.DirWriter.dirIndexThreshold
  · rw [if_pos hext]
    simp only [DirInode.toInode, if_true, setDirNlink, Sqfs.DirWriter.DirInode.indexCount, List.length_map, List.length_take]
    refine ⟨?_, ?_, ?_⟩
    · refine ⟨hlc, Nat.mod_lt _ (by decide), Nat.mod_lt _ (by decide), hpar, Nat.mod_lt _ (by decide), Nat.mod_lt _ (by decide), hx, ?_, ?_, ?_⟩
      · simp only [List.length_map, List.length_take]
        exact Nat.mod_eq_of_lt (Nat.lt_of_le_of_lt (Nat.min_le_left _ _) (by decide : maxIndex < 65536))
      · intro h0; rw [Nat.mod_eq_of_lt hsz] at h0; cases h0
      · intro e he
        simp only [List.mem_map] at he
        obtain ⟨t, ⟨r, hr, rfl⟩, rfl⟩ := he
        have hrm : r ∈ runs := List.mem_of_mem_take hr
        obtain ⟨first, tl, hents, n1, n2⟩ := hnames r hrm
        rw [hents]
        exact ⟨Nat.mod_lt _ (by decide), Nat.mod_lt _ (by decide), n1, Nat.le_trans n2 (by decide)⟩
    · intro h; cases h
    · intro stream
      simp only [openDir, Nat.mod_eq_of_lt hsz]
  · rw [if_neg hext]
    simp only [DirInode.toInode, Bool.false_eq_true, if_false, setDirNlink]
    simp only [not_or, Nat.not_lt, ge_iff_le, Sqfs.DirWriter.dirIndexThreshold, Decidable.not_not] at hext
    obtain ⟨⟨hxx, _, hds⟩, _⟩ := hext
    refine ⟨⟨Nat.mod_lt _ (by decide), hlc, Nat.mod_lt _ (by decide), Nat.mod_lt _ (by decide), hpar⟩, ?_, ?_⟩
    · intro _; exact hxx
    · intro stream
      have : dirSizeOf runs + 3 < 65536 := Nat.lt_of_le_of_lt (Nat.add_le_add_right hds 3) (by decide : 65535 - 3 + 3 < 65536)
      simp only [openDir, Nat.mod_eq_of_lt this]

theorem dirInodeOf_spec (bs dpos : Nat) (n : NodeIn) (des : List DEnt) (hlc : n.attr.linkCount < 2 ^ 32)
    (hx : n.attr.xattrIdx < 2 ^ 32) (hpar : n.parentInum < 2 ^ 32)
    (hnames : ∀ e ∈ des, 1 ≤ e.name.length ∧ e.name.length ≤ 256)
    (hsz : listingSize rawCost (dpos / metaBlockSize * rawCost) (dpos % metaBlockSize) des + 3 < 2 ^ 32) :
    WfBody bs (dirInodeOf dpos n des)
    ∧ ((dirInodeOf dpos n des).isExt = false → n.attr.xattrIdx = NONE32)
    ∧ ∀ stream, openDir (dirInodeOf dpos n des) stream
        = some ⟨stream, listingSize rawCost (dpos / metaBlockSize * rawCost) (dpos % metaBlockSize) des + 3, 0, 0, 0⟩ := by
  have hruns := Sqfs.DirWriter.dirEndGo_runs_ok rawCost (des.length + 1) (dpos / metaBlockSize * rawCost) (dpos % metaBlockSize) 0 des
  have hflat := Sqfs.DirWriter.dirEndGo_flatten rawCost (des.length + 1) des (Nat.lt_succ_self _) (dpos / metaBlockSize * rawCost) (dpos % metaBlockSize) 0
  have hn : ∀ r ∈ dirEnd rawCost (dpos / metaBlockSize * rawCost) (dpos % metaBlockSize) des,
      ∃ first tl, r.ents = first :: tl ∧ 1 ≤ first.name.length ∧ first.name.length ≤ 256 := by
    intro r hr
    obtain ⟨first, tl, hents, _⟩ := hruns r hr
    have hfm : first ∈ des := by
      rw [← hflat]
      exact List.mem_flatten.mpr ⟨r.ents, List.mem_map.mpr ⟨r, hr, rfl⟩, by rw [hents]; exact List.mem_cons_self ..⟩
    exact ⟨first, tl, hents, hnames first hfm⟩
  exact createInode_spec bs _ des.length n.attr.xattrIdx n.parentInum n.attr.linkCount
    (dirEnd rawCost (dpos / metaBlockSize * rawCost) (dpos % metaBlockSize) des) hlc hx hpar hn hsz

theorem openDir_of_dir (i : Inode) (stream : Bytes) (h : i.view.typeBits = sIFDIR) :
    openDir i stream = some ⟨stream, i.view.nums.getD 1 0, 0, 0, 0⟩ := by
  rcases view_dir_cases h with ⟨b, sb, nl, sz, off, par, rfl⟩ | ⟨b, nl, sz, sb, par, ic, off, x, idx, rfl⟩ <;> rfl

/-- what a reader sees in a directory inode beyond the base: the parent's inode number and the reference `ref` of the
listing, split into start block and offset -/
structure DirView (i : Inode) (parent ref : Nat) : Prop where
  parent : i.view.nums.getD 3 0 = parent
  startBlock : i.view.nums.getD 0 0 = (ref >>> 16) % 4294967296
  offset : i.view.nums.getD 2 0 = ref % 65536
  words : i.view.words = []
  bytes : i.view.bytes = []

/- for any reference: with `rawRef dpos` in its place the kernel evaluates the reference to check the `rfl`s -/
theorem createInode_view (ref cnt xattr parent lc : Nat) (runs : List Run) :
    DirView (setDirNlink lc (DirInode.toInode (createInode ref runs cnt 0 xattr parent))) parent ref := by
  unfold createInode createInodeCap
  simp only
  split <;> exact ⟨rfl, rfl, rfl, rfl, rfl⟩

theorem dirInodeOf_view (dpos : Nat) (n : NodeIn) (des : List DEnt) : DirView (dirInodeOf dpos n des) n.parentInum (rawRef dpos) :=
  createInode_view _ _ _ _ _ _

theorem dirPos_view (i : Inode) (h : i.view.typeBits = sIFDIR) :
    dirPos i = rawPos ((i.view.nums.getD 0 0 <<< 16) ||| i.view.nums.getD 2 0) := by
  rcases view_dir_cases h with ⟨b, sb, nl, sz, off, par, rfl⟩ | ⟨b, nl, sz, sb, par, ic, off, x, idx, rfl⟩ <;> rfl

/-- start block and offset as a directory inode stores them give the listing's reference back -/
theorem rawRef_split (p : Nat) (h : p / metaBlockSize * rawCost < 2 ^ 32) :
    (((rawRef p >>> 16) % 4294967296) <<< 16) ||| (rawRef p % 65536) = rawRef p := by
  have h1 : rawRef p >>> 16 < 4294967296 := by
    rw [rawRef_eq, Nat.shiftRight_eq_div_pow, show (2 : Nat) ^ 16 = 65536 from rfl, packed_div (mod_8192_lt_65536 p)]
    exact h
  rw [Nat.mod_eq_of_lt h1]
  exact ref_roundtrip _

end Sqfs.Enc
