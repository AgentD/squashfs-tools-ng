/-
PAX records (C04): the record parser of `read_pax_header` on a well-formed record of any keyword (`paxLine_record`); it reads
back exactly what `write_schily_xattr` emits, for every NUL-free key (escaped by the writer, `xattrDecode_encode`) and every
(binary) value.
-/
import Sqfs.Proofs.TarHeader
import Sqfs.Spec.TarHeader
namespace Sqfs.Tar

theorem isDigit_not_space_sign (x : UInt8) (h : isDigit x = true) : isSpace x = false ∧ x ≠ 45 ∧ x ≠ 43 := by
  simp only [isDigit, Bool.and_eq_true, decide_eq_true_eq] at h
  refine ⟨?_, ?_, ?_⟩
  · simp only [isSpace, Bool.or_eq_false_iff, decide_eq_false_iff_not, Bool.and_eq_false_imp, decide_eq_true_eq]
    omega
  · intro e; subst e; simp at h
  · intro e; subst e; simp at h

theorem decDigit_isDigit (k : Nat) (hk : k < 10) : isDigit (UInt8.ofNat (48 + k)) = true ∧ (UInt8.ofNat (48 + k)).toNat - 48 = k := by
  have : (UInt8.ofNat (48 + k)).toNat = 48 + k := by rw [UInt8.toNat_ofNat']; omega
  simp only [isDigit, this, Bool.and_eq_true, decide_eq_true_eq]
  omega

theorem decDigitsF_all (f n : Nat) : ∀ x ∈ decDigitsF f n, isDigit x = true := by
  induction f generalizing n with
  | zero =>
    intro x hx
    simp only [decDigitsF, List.mem_singleton] at hx
    subst hx; exact (decDigit_isDigit _ (Nat.mod_lt _ (by omega))).1
  | succ f ih =>
    intro x hx
    unfold decDigitsF at hx
    split at hx
    · rcases List.mem_append.1 hx with h | h
      · exact ih _ x h
      · simp only [List.mem_singleton] at h; subst h; exact (decDigit_isDigit _ (Nat.mod_lt _ (by omega))).1
    · simp only [List.mem_singleton] at hx; subst hx; exact (decDigit_isDigit _ (Nat.mod_lt _ (by omega))).1

theorem decDigitsF_ne_nil (f n : Nat) : decDigitsF f n ≠ [] := by
  cases f with
  | zero => simp [decDigitsF]
  | succ f => unfold decDigitsF; split <;> simp

theorem strtolDigits_append (D tl : Bytes) (acc k : Nat) (hd : ∀ x ∈ D, isDigit x = true) :
    strtolDigits acc k (D ++ tl) = strtolDigits (strtolDigits acc k D).1 (k + D.length) tl := by
  induction D generalizing acc k with
  | nil => simp [strtolDigits]
  | cons d t ih =>
    have hd0 := hd d (by simp)
    simp only [List.cons_append, strtolDigits, hd0, if_true, List.length_cons]
    rw [ih _ _ (fun x hx => hd x (List.mem_cons_of_mem _ hx))]
    congr 1
    omega

theorem strtolDigits_all (D : Bytes) (acc k : Nat) (hd : ∀ x ∈ D, isDigit x = true) :
    (strtolDigits acc k D).2 = k + D.length := by
  have := strtolDigits_append D [] acc k hd
  rw [List.append_nil] at this
  rw [this]; rfl

theorem strtolDigits_decDigitsF (f n acc k : Nat) (h : n ≤ f) :
    (strtolDigits acc k (decDigitsF f n)).1 = acc * 10 ^ numDigitsF f n + n := by
  induction f generalizing n acc k with
  | zero =>
    have : n = 0 := by omega
    subst this
    simp [decDigitsF, numDigitsF, strtolDigits, isDigit]
  | succ f ih =>
    unfold decDigitsF numDigitsF
    by_cases h10 : n ≥ 10
    · rw [if_pos h10, if_pos h10]
      have hd := decDigitsF_all f (n / 10)
      rw [strtolDigits_append _ _ _ _ hd]
      obtain ⟨hdig, hval⟩ := decDigit_isDigit (n % 10) (Nat.mod_lt _ (by omega))
      simp only [strtolDigits, hdig, if_true, hval]
      rw [ih (n / 10) acc k (by omega), pow_succ, Nat.add_mul, Nat.mul_assoc]
      omega
    · rw [if_neg h10, if_neg h10]
      obtain ⟨hdig, hval⟩ := decDigit_isDigit (n % 10) (Nat.mod_lt _ (by omega))
      simp only [strtolDigits, hdig, if_true, hval]
      have : n % 10 = n := Nat.mod_eq_of_lt (by omega)
      omega

theorem strtol10_decStr (L : Nat) (c : UInt8) (tl : Bytes) (hc : isDigit c = false) :
    strtol10 (decStr L ++ c :: tl) = some (false, L, numDigits L) := by
  have hall := decDigitsF_all L L
  have hne := decDigitsF_ne_nil L L
  have hlen := decStr_length L
  unfold decStr at hlen ⊢
  cases hD : decDigitsF L L with
  | nil => exact absurd hD hne
  | cons d0 D' =>
    rw [hD] at hall hlen
    obtain ⟨hs, h45, h43⟩ := isDigit_not_space_sign d0 (hall d0 (by simp))
    unfold strtol10
    simp only [List.cons_append, List.takeWhile, hs, List.length_nil, List.drop_zero]
    split
    · rename_i t heq; simp only [List.cons.injEq] at heq; exact absurd heq.1 h45
    · rename_i t heq; simp only [List.cons.injEq] at heq; exact absurd heq.1 h43
    simp only
    have happ := strtolDigits_append (d0 :: D') (c :: tl) 0 0 hall
    simp only [List.cons_append] at happ
    rw [happ]
    have hstop : ∀ a k, strtolDigits a k (c :: tl) = (a, k) := by intro a k; simp [strtolDigits, hc]
    rw [hstop]
    have hval := strtolDigits_decDigitsF L L 0 0 (Nat.le_refl _)
    rw [hD] at hval
    simp only [Nat.zero_mul, Nat.zero_add] at hval
    simp only [hval, Nat.zero_add]
    have : (d0 :: D').length ≠ 0 := by simp
    rw [if_neg this, hlen]

theorem takeWhile_append_stop (p : UInt8 → Bool) (A B : Bytes) (b : UInt8) (hA : ∀ x ∈ A, p x = true)
    (hb : p b = false) : (A ++ b :: B).takeWhile p = A := by
  rw [List.takeWhile_append_of_pos hA, List.takeWhile_cons_of_neg (by simp [hb]), List.append_nil]

theorem schilyPrefix_eq : schilyPrefix = [83, 67, 72, 73, 76, 89, 46, 120, 97, 116, 116, 114, 46] := by decide

theorem findHandler_schily (key : Bytes) : findHandler (schilyPrefix ++ key) = some .schily := by
  have hne : ∀ s : Bytes, s.head? ≠ some 83 → ¬ (schilyPrefix ++ key = s) := by
    intro s hs heq
    apply hs
    rw [← heq, schilyPrefix_eq]
    rfl
  unfold findHandler
  simp only [hne (ascii "uid") (by decide +kernel), hne (ascii "gid") (by decide +kernel), hne (ascii "path") (by decide +kernel),
    hne (ascii "size") (by decide +kernel), hne (ascii "linkpath") (by decide +kernel), hne (ascii "mtime") (by decide +kernel),
    hne (ascii "GNU.sparse.name") (by decide +kernel), hne (ascii "GNU.sparse.size") (by decide +kernel),
    hne (ascii "GNU.sparse.realsize") (by decide +kernel), hne (ascii "GNU.sparse.major") (by decide +kernel),
    hne (ascii "GNU.sparse.minor") (by decide +kernel), if_false]
  have : isPrefixOf (ascii "SCHILY.xattr.") (schilyPrefix ++ key) = true := by
    unfold isPrefixOf
    have h13 : (ascii "SCHILY.xattr.").length = schilyPrefix.length := by decide
    have he : ascii "SCHILY.xattr." = schilyPrefix := rfl
    rw [h13, List.take_left' rfl, he]
    simp
  rw [if_pos this]

theorem paxRecord_shape (kw value : Bytes) :
    ∃ L, paxRecord kw value = decStr L ++ 32 :: (kw ++ 61 :: value ++ [10]) ∧
      (paxRecord kw value).length = L ∧ numDigits L + 1 < L := by
  refine ⟨kw.length + value.length + 3 + prefixDigitLen (kw.length + value.length + 3), ?_, ?_, ?_⟩
  · unfold paxRecord
    simp only [List.append_assoc, List.cons_append, List.nil_append]
  · unfold paxRecord
    simp only [List.length_append, decStr_length, prefixDigitLen_fix, List.length_cons, List.length_nil]
    omega
  · rw [prefixDigitLen_fix]; omega

/-- **the record parser of `read_pax_header`** (`strtol`, the in-place NUL edits, the blank skip, the key scan) on a well-formed
    record: it hands exactly the keyword and the value bytes to the handler table and consumes exactly the record -/
theorem paxLine_record (pc : PaxCfg) (st : PaxState) (kw value rest : Bytes) (hne : kw ≠ [])
    (hk : ∀ x ∈ kw, x ≠ 0 ∧ x ≠ 61) (hsp : isSpace (kw.headD 0) = false) :
    paxLine pc st (paxRecord kw value ++ rest) = paxApply pc st kw value (paxRecord kw value).length := by
  obtain ⟨L, hrec, hL, hLbig⟩ := paxRecord_shape kw value
  rw [hL]
  have hDlen := decStr_length L
  generalize hD : decStr L = D at hrec hDlen
  have hTlen : (D ++ 32 :: (kw ++ 61 :: value ++ [10])).length = L := by rw [← hrec]; exact hL
  have hl : paxRecord kw value ++ rest = D ++ 32 :: (kw ++ 61 :: value ++ [10] ++ rest) := by
    rw [hrec]; simp only [List.append_assoc, List.cons_append]
  rw [hl]
  unfold paxLine
  have hst : strtol10 (D ++ 32 :: (kw ++ 61 :: value ++ [10] ++ rest)) = some (false, L, numDigits L) := by
    rw [← hD]; exact strtol10_decStr L 32 _ (by decide)
  rw [hst]
  simp only
  have hdrop : ∀ X : Bytes, (D ++ X).drop (numDigits L) = X := fun X => List.drop_left' hDlen
  rw [hdrop]
  simp only [List.headD_cons]
  have hsp32 : isSpace 32 = true := by decide
  have hc1 : ¬ (¬ isSpace 32 = true ∨ false = true ∨ L = 0) := by
    simp only [hsp32, not_true_eq_false, Bool.false_eq_true, false_or]; omega
  simp only [hc1, if_false]
  have hlen2 : ¬ L > (D ++ 32 :: (kw ++ 61 :: value ++ [10] ++ rest)).length := by
    have : (D ++ 32 :: (kw ++ 61 :: value ++ [10] ++ rest)).length = L + rest.length := by
      rw [← hTlen]; simp only [List.length_append, List.length_cons, List.length_nil]; omega
    omega
  simp only [hlen2, if_false]
  have htake : (D ++ 32 :: (kw ++ 61 :: value ++ [10] ++ rest)).take L =
      (D ++ 32 :: (kw ++ 61 :: value)) ++ [10] := by
    have e : D ++ 32 :: (kw ++ 61 :: value ++ [10] ++ rest) =
        ((D ++ 32 :: (kw ++ 61 :: value)) ++ [10]) ++ rest := by
      simp only [List.append_assoc, List.cons_append, List.nil_append]
    rw [e]
    apply List.take_left'
    rw [← hTlen]; simp only [List.append_assoc, List.cons_append]
  rw [htake, List.dropLast_concat]
  have hp : ¬ numDigits L ≥ L := by omega
  simp only [hp, if_false]
  have hrec' : (D ++ 32 :: (kw ++ 61 :: value) ++ [0]) = D ++ (32 :: (kw ++ 61 :: value ++ [0])) := by
    simp only [List.append_assoc, List.cons_append]
  rw [hrec', hdrop]
  obtain ⟨k0, kt, rfl⟩ : ∃ k0 kt, kw = k0 :: kt := by
    cases kw with
    | nil => exact absurd rfl hne
    | cons a b => exact ⟨a, b, rfl⟩
  have hk0 : isSpace k0 = false := by simpa using hsp
  have htw : (32 :: ((k0 :: kt) ++ 61 :: value ++ [0])).takeWhile isSpace = [32] := by
    simp only [List.cons_append, List.takeWhile, hsp32, hk0]
  rw [htw]
  simp only [List.length_singleton]
  have hq : ¬ numDigits L + 1 ≥ L := by omega
  simp only [hq, if_false]
  have hdrop2 : (D ++ 32 :: ((k0 :: kt) ++ 61 :: value ++ [0])).drop (numDigits L + 1) =
      (k0 :: kt) ++ 61 :: value ++ [0] := by
    have e : D ++ 32 :: ((k0 :: kt) ++ 61 :: value ++ [0]) = (D ++ [32]) ++ ((k0 :: kt) ++ 61 :: value ++ [0]) := by
      simp only [List.append_assoc, List.cons_append, List.nil_append]
    rw [e]
    exact List.drop_left' (by simp [hDlen])
  simp only [hdrop2]
  have e : (k0 :: kt) ++ 61 :: value ++ [0] = (k0 :: kt) ++ 61 :: (value ++ [0]) := by
    simp only [List.append_assoc, List.cons_append]
  have hkey : ((k0 :: kt) ++ 61 :: value ++ [0]).takeWhile (fun c => decide (c ≠ 0 ∧ c ≠ 61)) = k0 :: kt := by
    rw [e]
    apply takeWhile_append_stop
    · intro x hx
      have := hk x hx
      simp only [ne_eq, this.1, this.2, not_false_eq_true, and_self, decide_true]
    · decide
  simp only [hkey]
  have hafter : ((k0 :: kt) ++ 61 :: value ++ [0]).drop (k0 :: kt).length = 61 :: (value ++ [0]) := by
    rw [e]
    exact List.drop_left' rfl
  simp only [hafter]
  have hne' : (k0 :: kt).isEmpty = false := rfl
  rw [hne']
  simp only [Bool.false_eq_true, if_false, List.dropLast_concat]

/-- a keyword of the handler table: the handler's result is stored and the kind's flag set (`GNU.sparse.map` alone also forgets the
    tail of the 0.0 list) -/
theorem paxApply_found (pc : PaxCfg) (st : PaxState) {key : Bytes} {k : PaxKind} (value : Bytes) (len : Nat) {o : Decoded}
    (hf : findHandler key = some k) (ho : applyHandler pc st.out k key value = some o) :
    paxApply pc st key value len =
      some ({ st with out := o, mask := setFlag st.mask (kindFlag k),
                      sparseStarted := if k = .sparseMap then false else st.sparseStarted }, len) := by
  simp only [paxApply, hf, ho]

theorem schilyRecordRaw_eq (key value : Bytes) : schilyRecordRaw key value = paxRecord (schilyPrefix ++ key) value := by
  unfold schilyRecordRaw paxRecord
  simp only [List.length_append, List.append_assoc]

theorem paxLine_schilyRaw (pc : PaxCfg) (hpc : pc.keepOrder = false) (st : PaxState) (key value rest : Bytes)
    (hk : ∀ x ∈ key, x ≠ 0 ∧ x ≠ 61) :
    paxLine pc st (schilyRecordRaw key value ++ rest) =
      some ({ st with out := { st.out with xattr := (if pc.schilyDecode then xattrDecodeKey key else key, value) :: st.out.xattr } },
        (schilyRecordRaw key value).length) := by
  rw [schilyRecordRaw_eq]
  rw [paxLine_record pc st (schilyPrefix ++ key) value rest (by rw [schilyPrefix_eq]; simp)
    (by
      intro x hx
      rcases List.mem_append.1 hx with h | h
      · exact (by decide : ∀ x ∈ schilyPrefix, x ≠ 0 ∧ x ≠ 61) x h
      · exact hk x h)
    (by rw [schilyPrefix_eq]; rfl)]
  have hdk : (schilyPrefix ++ key).drop 13 = key := List.drop_left' (by decide)
  rw [paxApply_found pc st value _ (findHandler_schily key) rfl]
  simp only [hpc, hdk, Bool.false_eq_true, if_false]
  rfl

theorem xattrDecode_encode (key : Bytes) : xattrDecodeKey (xattrEncodeKey key) = key := by
  induction key with
  | nil => rfl
  | cons c t ih =>
    unfold xattrEncodeKey
    by_cases h1 : c = 37
    · subst h1; simp only [if_true]; rw [xattrDecodeKey, ih]
    · by_cases h2 : c = 61
      · subst h2; simp only [if_neg h1, if_true]; rw [xattrDecodeKey, ih]
      · simp only [if_neg h1, if_neg h2]
        rw [xattrDecodeKey.eq_def]
        split
        · rename_i heq; exact absurd (List.cons.inj heq).1 h1
        · rename_i heq; exact absurd (List.cons.inj heq).1 h1
        · rename_i heq; obtain ⟨rfl, rfl⟩ := List.cons.inj heq; rw [ih]
        · rename_i heq; cases heq

theorem xattrEncode_clean (key : Bytes) (hk : ∀ x ∈ key, x ≠ 0) : ∀ x ∈ xattrEncodeKey key, x ≠ 0 ∧ x ≠ 61 := by
  induction key with
  | nil => intro x hx; cases hx
  | cons c t ih =>
    have iht := ih (fun y hy => hk y (List.mem_cons_of_mem _ hy))
    have hc : c ≠ 0 := hk c (by simp)
    intro x hx
    unfold xattrEncodeKey at hx
    by_cases h1 : c = 37
    · simp only [h1, if_true, List.mem_cons] at hx
      rcases hx with h | h | h | h
      · rw [h]; decide
      · rw [h]; decide
      · rw [h]; decide
      · exact iht x h
    · by_cases h2 : c = 61
      · subst h2
        rw [if_neg (by decide), if_pos rfl] at hx
        simp only [List.mem_cons] at hx
        rcases hx with h | h | h | h
        · rw [h]; decide
        · rw [h]; decide
        · rw [h]; decide
        · exact iht x h
      · simp only [if_neg h1, if_neg h2, List.mem_cons] at hx
        rcases hx with h | h
        · subst h; exact ⟨hc, h2⟩
        · exact iht x h

/-- the repaired writer's record through the repaired reader: every NUL-free key, '=' and '%' included -/
theorem paxLine_schily (st : PaxState) (key value rest : Bytes) (hk : ∀ x ∈ key, x ≠ 0) :
    paxLine {} st (schilyRecord key value ++ rest) =
      some ({ st with out := { st.out with xattr := (key, value) :: st.out.xattr } }, (schilyRecord key value).length) := by
  unfold schilyRecord
  rw [paxLine_schilyRaw {} rfl st _ value rest (xattrEncode_clean key hk)]
  simp only [if_true, xattrDecode_encode]

theorem schilyRecord_pos (key value : Bytes) : 1 ≤ (schilyRecord key value).length := by
  obtain ⟨L, _, hL, hbig⟩ := paxRecord_shape (schilyPrefix ++ xattrEncodeKey key) value
  rw [schilyRecord, schilyRecordRaw_eq, hL]; omega

/-- the whole payload of `write_schily_xattr` through the record loop of `read_pax_header` (the fuel as `read_pax_header` sets it:
    by the bytes still to be read) -/
theorem paxLoop_schily (xs : List (Bytes × Bytes)) :
    ∀ (fuel : Nat) (st : PaxState), (∀ kv ∈ xs, ∀ x ∈ kv.1, x ≠ 0) →
      ((xs.map fun kv => schilyRecord kv.1 kv.2).flatten).length + 1 ≤ fuel →
      paxLoop {} fuel st ((xs.map fun kv => schilyRecord kv.1 kv.2).flatten) =
        some { st with out := { st.out with xattr := xs.reverse ++ st.out.xattr } } := by
  induction xs with
  | nil =>
    intro fuel st _ hf
    obtain ⟨f, rfl⟩ : ∃ f, fuel = f + 1 := ⟨fuel - 1, by omega⟩
    simp [paxLoop]
  | cons kv t ih =>
    intro fuel st hk hf
    obtain ⟨f, rfl⟩ : ∃ f, fuel = f + 1 := ⟨fuel - 1, by omega⟩
    have hpos := schilyRecord_pos kv.1 kv.2
    simp only [List.map_cons, List.flatten_cons, paxLoop, List.length_append] at hf ⊢
    have hne : (schilyRecord kv.1 kv.2 ++ (t.map fun kv => schilyRecord kv.1 kv.2).flatten).isEmpty = false := by
      cases h : schilyRecord kv.1 kv.2 with
      | nil => rw [h] at hpos; cases hpos
      | cons _ _ => rfl
    rw [hne]
    simp only [Bool.false_eq_true, if_false]
    rw [paxLine_schily st kv.1 kv.2 _ (hk kv (by simp))]
    simp only
    rw [List.drop_left' rfl]
    rw [ih f _ (fun kv' h' => hk kv' (List.mem_cons_of_mem _ h')) (by omega)]
    simp [List.reverse_cons, List.append_assoc]

end Sqfs.Tar
