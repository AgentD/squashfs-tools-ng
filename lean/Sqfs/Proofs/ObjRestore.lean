import Sqfs.Proofs.ObjCopy
/-! Frames: what allocations, grabs, copies, drops and frees leave of the cells that existed before; a framed heap that is
balanced for the same user references as before is the heap it was (objects with their reference counts, buffers with their
contents). -/
namespace Sqfs.Obj

/-- what any mixture of allocations, grabs, copies, drops and frees can do to the cells that existed before: an old object
is gone or is what it was up to its reference count, an old buffer is gone or is what it was; ids only grow -/
structure Frame (h h' : Heap) : Prop where
  nobj : h.nobj ≤ h'.nobj
  nbuf : h.nbuf ≤ h'.nbuf
  objs : ∀ j, j < h.nobj → h'.objs j = none ∨ (h'.objs j).map Obj.erase = (h.objs j).map Obj.erase
  bufs : ∀ b, b < h.nbuf → h'.bufs b = none ∨ h'.bufs b = h.bufs b

theorem Frame.refl (h : Heap) : Frame h h := ⟨Nat.le_refl _, Nat.le_refl _, fun _ _ => Or.inr rfl, fun _ _ => Or.inr rfl⟩

theorem Frame.trans {h h1 h2 : Heap} (a : Frame h h1) (b : Frame h1 h2) : Frame h h2 := by
  refine ⟨Nat.le_trans a.nobj b.nobj, Nat.le_trans a.nbuf b.nbuf, ?_, ?_⟩
  · intro j hj
    rcases b.objs j (Nat.lt_of_lt_of_le hj a.nobj) with h2n | h2e
    · exact Or.inl h2n
    · rcases a.objs j hj with h1n | h1e
      · left
        rw [h1n] at h2e
        cases hv : h2.objs j with
        | none => rfl
        | some _ => rw [hv] at h2e; simp at h2e
      · right; rw [h2e, h1e]
  · intro bb hbb
    rcases b.bufs bb (Nat.lt_of_lt_of_le hbb a.nbuf) with h2n | h2e
    · exact Or.inl h2n
    · rcases a.bufs bb hbb with h1n | h1e
      · left; rw [h2e, h1n]
      · right; rw [h2e, h1e]

theorem Frame.obj_kept {h h' : Heap} (f : Frame h h') {x : Nat} {ox : Obj} (hx : h.objs x = some ox) (hxn : x < h.nobj)
    (hl : (h'.objs x).isSome) : ∃ ox', h'.objs x = some ox' ∧ ox'.erase = ox.erase :=
  (f.objs x hxn).elim (fun hn => by rw [hn] at hl; cases hl) fun he => map_erase_some (hx ▸ he)

theorem Frame.buf_kept {h h' : Heap} (f : Frame h h') {b : Nat} (hbn : b < h.nbuf) (hl : (h'.bufs b).isSome) :
    h'.bufs b = h.bufs b :=
  (f.bufs b hbn).elim (fun hn => by rw [hn] at hl; cases hl) id

theorem Frame.of_slotsOk {h h' : Heap} (hs : SlotsOk h h') : Frame h h' :=
  ⟨hs.nobj, hs.nbuf, fun j hj => Or.inr (hs.objsOld j hj), fun b hb => Or.inr (hs.bufsOld b hb)⟩

theorem Frame.fail (h : Heap) (c : Crash) : Frame h (h.fail c) := Frame.of_slotsOk (SlotsOk.fail h c)

theorem Frame.freeBuf (h : Heap) (b : Nat) : Frame h (Sqfs.Obj.freeBuf h b) := by
  unfold Sqfs.Obj.freeBuf
  split
  · exact Frame.refl _
  · split
    · exact Frame.fail _ _
    · refine ⟨Nat.le_refl _, Nat.le_refl _, fun _ _ => Or.inr rfl, fun b' _ => ?_⟩
      by_cases hb : b' = b
      · left; subst hb; exact upd_same _ _ _
      · right; exact upd_ne _ _ hb

theorem Frame.freeSlot (h : Heap) (s : Option Nat) : Frame h (Sqfs.Obj.freeSlot h s) := by
  cases s with
  | none => exact Frame.refl _
  | some b => exact Frame.freeBuf h b

theorem Frame.freeObj (h : Heap) (x : Nat) : Frame h (Sqfs.Obj.freeObj h x) := by
  unfold Sqfs.Obj.freeObj
  split
  · exact Frame.refl _
  · refine ⟨Nat.le_refl _, Nat.le_refl _, fun j _ => ?_, fun _ _ => Or.inr rfl⟩
    by_cases hj : j = x
    · left; subst hj; exact upd_same _ _ _
    · right; exact congrArg _ (upd_ne _ _ hj)

theorem Frame.foldl {α : Type} (f : Heap → α → Heap) (hf : ∀ h a, Frame h (f h a)) : ∀ (l : List α) (h : Heap), Frame h (l.foldl f h) := by
  intro l
  induction l with
  | nil => intro h; exact Frame.refl _
  | cons a t ih => intro h; exact (hf h a).trans (ih (f h a))

theorem Frame.drop : ∀ (n : Nat) (h : Heap) (x : Nat), Frame h (Sqfs.Obj.drop n h x) := by
  intro n
  induction n with
  | zero => intro h x; exact Frame.fail _ _
  | succ n ih =>
    intro h x
    rw [Sqfs.Obj.drop]
    split
    · exact Frame.refl _
    · split
      · exact Frame.fail _ _
      · rename_i o ho
        split
        · split
          · refine ((Frame.foldl _ ?_ o.refs h).trans (Frame.foldl _ Frame.freeSlot o.bufs _)).trans (Frame.freeObj _ _)
            intro h' r
            cases r with
            | none => exact Frame.refl _
            | some r => exact ih h' r
          · exact Frame.fail _ _
        · exact ⟨Nat.le_refl _, Nat.le_refl _, fun j _ => Or.inr (map_erase_setRc ho _ j), fun _ _ => Or.inr rfl⟩

theorem erase_rc_eq {a b : Obj} (he : a.erase = b.erase) (hr : a.rc = b.rc) : a = b := by
  cases a; cases b
  simp only [Obj.erase, Obj.mk.injEq] at he
  simp only at hr
  simp [he, hr]

theorem restore_of_frame {h h'' : Heap} {U : Nat → Nat} (hb : Bal h U [] [] []) (hb'' : Bal h'' U [] [] [])
    (hf : Frame h h'') : h''.objs = h.objs ∧ h''.bufs = h.bufs := by
  -- the user holds no object id from `h.nobj` on, so none of them is live in `h''`
  have newDead : ∀ z, h.nobj ≤ z → h''.objs z = none :=
    hb''.dead_above fun z hz => (hb.dead z (Or.inl (hb.none_of_ge hz))).1
  -- an object that was live is still live: the user's are, and so is what a live object with the same slots refers to
  have oldLive : ∀ x ox, h.objs x = some ox → (h''.objs x).isSome := fun x ox =>
    hb.held_induction (fun x hu => Option.isSome_iff_exists.mpr (hb''.user_live hu)) fun y oy x hy hm hl =>
      let ⟨_, h1, h2⟩ := hf.obj_kept hy (hb.lt_nobj hy) hl
      hb''.ref_live h1 List.not_mem_nil (Obj.erase_refs h2 ▸ hm)
  -- so every cell holds the same record up to the count
  have same : ∀ x, (h''.objs x).map Obj.erase = (h.objs x).map Obj.erase := fun x => by
    rcases Nat.lt_or_ge x h.nobj with hxn | hxn
    · refine (hf.objs x hxn).elim (fun hn => ?_) id
      cases hx : h.objs x with
      | none => rw [hn]
      | some ox => have := oldLive x ox hx; rw [hn] at this; cases this
    · rw [newDead x hxn, hb.none_of_ge hxn]
  -- and the slot counts agree
  have cnt : ∀ (sel : Obj → List (Option Nat)), (∀ a b : Obj, a.erase = b.erase → sel a = sel b) → ∀ x,
      slotCount sel h'' [] x = slotCount sel h [] x := fun sel hsel x => by
    unfold slotCount
    rw [sumTo_extend hf.nobj (fun j hj _ => by simp [slotAt, newDead j hj])]
    refine sumTo_congr fun j _ => ?_
    cases hv : h.objs j with
    | none => simp [slotAt, hv, Option.map_eq_none_iff.mp (hv ▸ same j)]
    | some oj =>
      obtain ⟨oj'', h1, h2⟩ := map_erase_some (hv ▸ same j)
      simp [slotAt, hv, h1, hsel _ _ h2]
  have hrefs : ∀ x, refCount h'' [] x = refCount h [] x := cnt _ fun _ _ => Obj.erase_refs
  have hbufs : ∀ b, bufCount h'' [] b = bufCount h [] b := cnt _ fun _ _ => Obj.erase_bufs
  constructor
  · funext x
    cases hx : h.objs x with
    | none => simpa [hx] using same x
    | some ox =>
      obtain ⟨ox'', h1, h2⟩ := map_erase_some (hx ▸ same x)
      rw [h1, erase_rc_eq h2 (by rw [hb''.rc_eq h1 List.not_mem_nil, hb.rc_eq hx List.not_mem_nil, hrefs x])]
  · -- a buffer is live exactly when one slot owns it
    funext b
    have hl : (h''.bufs b).isSome ↔ (h.bufs b).isSome :=
      hb''.buf_live_iff.trans (by rw [hbufs b]; exact hb.buf_live_iff.symm)
    cases hv : h.bufs b with
    | none => exact Option.not_isSome_iff_eq_none.mp fun hs => by simpa [hv] using hl.mp hs
    | some bf => rw [hf.buf_kept (hb.bufBound b (by simp [hv])) (hl.mpr (by simp [hv])), hv]

end Sqfs.Obj
