/-
C04 — `urldecode` (pax_header.c, LIBARCHIVE.xattr keys): it inverts percent-encoding.
-/
import Sqfs.Model.TarPax
namespace Sqfs.Tar

/-- upper-case hex digit of a nibble -/
def hexChar (n : Nat) : UInt8 := if n < 10 then UInt8.ofNat (48 + n) else UInt8.ofNat (55 + n)

/-- percent-encoding of every byte (`%XX`), what libarchive does to the bytes it must escape -/
def urlEncodeAll : Bytes → Bytes
  | [] => []
  | c :: t => 37 :: hexChar (c.toNat / 16) :: hexChar (c.toNat % 16) :: urlEncodeAll t

theorem hexDigitVal_hexChar : ∀ n, n < 16 → hexDigitVal (hexChar n) = some n := by decide

theorem ofNat_nibbles (c : UInt8) : UInt8.ofNat (c.toNat / 16 * 16 + c.toNat % 16) = c := by
  rw [Nat.div_add_mod']
  exact UInt8.ofNat_toNat

/-- percent-encoding of the bytes an encoder chooses to escape (`esc`), the others literally -/
def urlEncode (esc : UInt8 → Bool) : Bytes → Bytes
  | [] => []
  | c :: t => if esc c then 37 :: hexChar (c.toNat / 16) :: hexChar (c.toNat % 16) :: urlEncode esc t else c :: urlEncode esc t

theorem urlDecode_literal (c : UInt8) (t : Bytes) (h : c ≠ 37) : urlDecode (c :: t) = c :: urlDecode t := by
  rw [urlDecode.eq_def]
  split
  · rename_i heq; cases heq
  · rename_i heq; exact absurd (List.cons.inj heq).1 h
  · rename_i heq; obtain ⟨rfl, rfl⟩ := List.cons.inj heq; rfl

/-- `urldecode` inverts every percent-encoding that escapes at least the '%' itself -/
theorem urlDecode_encode (esc : UInt8 → Bool) (h37 : esc 37 = true) (k : Bytes) : urlDecode (urlEncode esc k) = k := by
  induction k with
  | nil => rfl
  | cons c t ih =>
    unfold urlEncode
    by_cases he : esc c = true
    · have h1 := hexDigitVal_hexChar (c.toNat / 16) (by have := c.toNat_lt; omega)
      have h2 := hexDigitVal_hexChar (c.toNat % 16) (by omega)
      simp only [he, if_true, urlDecode, h1, h2, ih, ofNat_nibbles]
    · have hc : c ≠ 37 := by intro h; subst h; exact he h37
      simp only [he, Bool.false_eq_true, if_false]
      rw [urlDecode_literal c _ hc, ih]

theorem urlEncodeAll_eq (k : Bytes) : urlEncodeAll k = urlEncode (fun _ => true) k := by
  induction k with
  | nil => rfl
  | cons c t ih => simp only [urlEncodeAll, urlEncode, ih, if_true]

theorem urlDecode_encodeAll (k : Bytes) : urlDecode (urlEncodeAll k) = k :=
  urlEncodeAll_eq k ▸ urlDecode_encode _ rfl k

end Sqfs.Tar
