/-
C06: `tree_sort` *fails* on a level that holds two equal names (the converse of `treeSort_nodup`), and what
that means for raw names that agree before their first NUL: `fill_dir` keeps exactly the `Kept` entries, each under its
name cut at the NUL (`decodeL_eq`, `decode_name`).
-/
import Sqfs.Proofs.Unpack
namespace Sqfs.Unpack
open Sqfs.Path

/-! ### the only error of `tree_sort` is "duplicate" -/

mutual
theorem treeSort_err : ∀ (x : TNode) (e : Err), treeSort x = .error e → e = .duplicate
  | .mk n k p a ch, e, h => by
    unfold treeSort at h
    split at h
    · rename_i e' he
      cases h
      exact treeSortL_err ch _ he
    · simp only at h
      split at h
      · cases h; rfl
      · cases h
theorem treeSortL_err : ∀ (l : List TNode) (e : Err), treeSortL l = .error e → e = .duplicate
  | [], e, h => by unfold treeSortL at h; cases h
  | c :: cs, e, h => by
    unfold treeSortL at h
    split at h
    · rename_i e' he
      cases h
      exact treeSort_err c _ he
    · split at h
      · rename_i e' he
        cases h
        exact treeSortL_err cs _ he
      · cases h
end

theorem treeSortL_names : ∀ (l l' : List TNode), treeSortL l = .ok l' → l'.map TNode.name = l.map TNode.name
  | [], l', h => by unfold treeSortL at h; cases h; rfl
  | c :: cs, l', h => by
    obtain ⟨c', cs', hc, hcs, rfl⟩ := treeSortL_ok_cons h
    simp only [List.map_cons, treeSort_name c c' hc, treeSortL_names cs cs' hcs]

theorem treeSort_dup_level (n : Bytes) (k : Kind) (p : Bytes) (a : Attr) (ch : List TNode)
    (h : ¬ (ch.map TNode.name).Nodup) : treeSort (.mk n k p a ch) = .error .duplicate := by
  cases hs : treeSort (.mk n k p a ch) with
  | error e => rw [treeSort_err _ e hs]
  | ok t' =>
    obtain ⟨ch', hch, hd, _⟩ := treeSort_ok hs
    refine absurd ?_ h
    rw [← treeSortL_names ch ch' hch]
    exact ((sortNodes_perm ch').map TNode.name).nodup_iff.1 (nodup_of_sorted_noAdjDup _ (sortNodes_sorted ch') hd)

/-! ### `decode`: which raw entries survive, and under which name -/

/-- the raw entry `c` is kept by `fill_dir` under the flags `tf`: not dropped by `should_skip`, and not a directory that
ends up empty while `SQFS_TREE_NO_EMPTY` is set -/
def Kept (tf : TreeFlags) (c : TNode) : Prop :=
  shouldSkip tf c.kind = false ∧ ((decode tf c).kind = .dir && (decode tf c).children.isEmpty && tf.noEmpty) = false

instance (tf : TreeFlags) (c : TNode) : Decidable (Kept tf c) := by unfold Kept; exact inferInstance

theorem decode_name (tf : TreeFlags) : ∀ (c : TNode), (decode tf c).name = cstr c.name
  | .mk n k p a ch => by simp [decode, TNode.name]

theorem decodeL_eq (tf : TreeFlags) : ∀ l : List TNode, decodeL tf l = (l.filter (Kept tf ·)).map (decode tf)
  | [] => rfl
  | c :: cs => by
    rw [decodeL, decodeL_eq tf cs, List.filter_cons]
    by_cases h : Kept tf c
    · simp only [h.1, h.2, decide_eq_true h, if_true, if_false, Bool.false_eq_true, List.map_cons]
    · rw [decide_eq_false h]
      cases h1 : shouldSkip tf c.kind
      · have h2 : ((decode tf c).kind = .dir && (decode tf c).children.isEmpty && tf.noEmpty) = true := by
          simpa only [Kept, h1, true_and, Bool.not_eq_false] using h
        simp only [h2, if_true, Bool.false_eq_true, if_false]
      · simp only [if_true, Bool.false_eq_true, if_false]

theorem decodeL_dup (tf : TreeFlags) (l₁ l₂ l₃ : List TNode) (x y : TNode) (hx : Kept tf x) (hy : Kept tf y)
    (h : cstr x.name = cstr y.name) : ¬ ((decodeL tf (l₁ ++ x :: (l₂ ++ y :: l₃))).map TNode.name).Nodup := by
  simp only [decodeL_eq, List.filter_append, List.filter_cons, hx, hy, decide_true, if_true, List.map_append, List.map_cons,
    decode_name]
  -- `x` and `y` both survive, under the same name
  intro hnd
  exact (List.nodup_cons.1 (List.nodup_append.1 hnd).2.1).1 (by rw [h]; simp)

end Sqfs.Unpack
