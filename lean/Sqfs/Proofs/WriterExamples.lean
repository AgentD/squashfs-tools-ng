/-
The concrete log and payloads that `Sqfs/Props/C14.lean` applies its theorems to, and what the model computes on them.
Each closed run is evaluated by the kernel once, here (`exDamaged` in `Props/C14.lean`); the instances in `Props/C14.lean` are
projections.
-/
import Sqfs.Model.Writer
namespace Sqfs.C14
open Sqfs Sqfs.Writer Sqfs.Consts

/-! A well-shaped log (provisional superblock, a data block, a dedup truncate, an id table block + location list,
final superblock, padding) whose final image the readers' first stage accepts. -/

def exProv : Bytes := match superInit 4096 7 1 with | .ok s => s.encode | .error _ => []
def exFinal : Bytes :=
  ({ magic := magic, blockSize := 4096, blockLog := 12, compId := 1, idCount := 1, vMajor := 4,
     bytesUsed := 114, idStart := 106 } : Super).encode
def exLog : List Op :=
  [.pwrite 0 exProv, .pwrite 96 [1, 2, 3, 4, 5, 6, 7, 8, 9, 10], .ftruncate 100, .pwrite 100 [0x02, 0x80, 0, 0, 0, 0],
   .pwrite 106 (le 8 100), .pwrite 0 exFinal, .pwrite 114 (zeros 14)]

/-- the form of the log of a failing run of a real packer: the provisional superblock, calls clear of it, then nothing -/
def exFailLog : List Op := exLog.take 3

theorem exLog_eval : shapeCheck exLog = true ∧ readerAccepts (image exLog) = true ∧
    readerAccepts (image (exLog.take 6)) = true ∧ failShapeCheck exFailLog = true ∧
    failShapeCheck (exLog.take 6) = false := by decide +kernel

/-! A payload with compressor options, a duplicated data block (dedup truncation), inode and directory metadata,
export table, two ids and an xattr table. -/

def exRun : Run where
  blockSize := 4096
  mtime := 7
  compId := 1
  opts := [1, 2, 3, 4]
  cmp := fun _ => none
  blocks := [⟨[1, 2, 3, 4, 5, 6, 7, 8, 9, 10], 6144, 5⟩, ⟨[1, 2, 3, 4, 5, 6, 7, 8, 9, 10], 6144, 5⟩]
  inodeCount := 2
  inodeData := [[1, 2, 3]]
  dirData := [[4, 5]]
  rootRef := 0
  fragTable := []
  fragAnyCompressed := false
  exportTable := some (some [1, 0, 0, 0, 0, 0, 0, 0])
  ids := [0, 1000]
  xattr := some ⟨[[1, 2]], [[0, 0, 0, 0, 0, 0, 0, 0, 1, 0, 0, 0, 2, 0, 0, 0]]⟩
  devblksize := 64

theorem exRun_eval : (run exRun).err = none ∧ (commit exRun).err = none ∧ (run exRun).ops.length = 17 ∧
    kFinal exRun = 16 ∧ (preFinal exRun).1.size = 203 ∧ (run exRun).ops.contains (.ftruncate 112) = true := by
  decide +kernel

def exFaultAt (j : Nat) : Run := exRun.withFault { failAt := some j }
def exLimit (n : Nat) : Run := exRun.withFault { limit := some n }
/-- `exRun` with a tar stream that turns out to be damaged after the data blocks -/
def exDamaged : Run := { exRun with inputError := some errCorrupted }

/-- positions 0 … 15 (15 is the final superblock write itself): the log stops at the fault -/
theorem exFault_eval : ∀ j < 16, j < kFinal (exFaultAt j) ∧ (run (exFaultAt j)).ops.length = j ∧
    (commit (exFaultAt j)).err = some errIo ∧ (j = 15 → (preFinal (exFaultAt j)).1.err = none) := by decide +kernel

/-- position 16, the padding write: the run committed -/
theorem exFault16_eval : (commit (exFaultAt 16)).err = none ∧ (run (exFaultAt 16)).err = some errIo ∧
    (run (exFaultAt 16)).ops.length = 16 ∧ (preFinal (exFaultAt 16)).1.size < 2 ^ 64 ∧ kFinal (exFaultAt 16) ≤ 16 := by
  decide +kernel

/-- "disk full" at 157 bytes (end of the id table: the first xattr block cannot be written), at 96, at 202, and at
`bytes_used` = 203, where only the padding fails -/
theorem exLimit_eval : (commit (exLimit 157)).err = some errIo ∧ (run (exLimit 157)).ops.length = 11 ∧
    (commit (exLimit 96)).err = some errIo ∧ (commit (exLimit 202)).err = some errIo ∧
    (commit (exLimit 203)).err = none ∧ (run (exLimit 203)).err = some errIo := by decide +kernel

end Sqfs.C14
