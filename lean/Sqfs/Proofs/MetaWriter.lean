/-
The meta writer (`Sqfs/Model/MetaWriter.lean`, meta_writer.c): the invariant `WF` between two API calls (flushed blocks
are full 8 KiB chunks made by the codec, the open chunk is shorter, `block_offset` counts the flushed bytes), kept by
`append`; a position reported in such a state, read off any later state of the writer (`Ext`, `WF.position_in`); the shape of a
finished run and the blocks and locations of `sqfs_write_table`, in both models of it.
-/
import Sqfs.Model.MetaWriter
import Sqfs.Proofs.FuelInd
import Sqfs.Proofs.Bits
namespace Sqfs.MetaWriter
open Sqfs.Consts

theorem mb_pos : 0 < metaBlockSize := by decide

theorem mb_eq : metaBlockSize = 8192 := rfl

/-- relation between a block's flag, its stored bytes and the chunk it was made from -/
def Made (cmp : Codec) (b : Block) : Prop :=
  (b.compressed = true → cmp b.raw = some b.stored ∧ 0 < b.stored.length) ∧
  (b.compressed = false → b.stored = b.raw)

/-- the block `sqfs_meta_writer_flush` makes of the open chunk (meta_writer.c:121-128): `flush_eq` -/
def outBlock (cmp : Codec) (cur : Bytes) : Block :=
  match cmp cur with
  | some c => if c.length > 0 then ⟨true, c, cur⟩ else ⟨false, cur, cur⟩
  | none => ⟨false, cur, cur⟩

theorem outBlock_made (cmp : Codec) (cur : Bytes) : (outBlock cmp cur).raw = cur ∧ Made cmp (outBlock cmp cur) := by
  unfold outBlock
  cases hc : cmp cur with
  | none => exact ⟨rfl, by simp, by simp⟩
  | some c =>
    by_cases hl : c.length > 0
    · simp only [hl, if_true]; exact ⟨trivial, fun _ => ⟨hc, hl⟩, by simp⟩
    · simp only [hl, if_false]; exact ⟨trivial, by simp, by simp⟩

/-- a block the codec made of a chunk of at most 8 KiB, the codec keeping the `do_block` contract: it is stored no larger
than it unpacks, flagged compressed exactly when it is smaller, and the 16-bit header decodes to (stored size, flag) -/
theorem Made.header {cmp : Codec} (hc : cmp.Shrinks) {b : Block} (hm : Made cmp b) (hraw : b.raw.length ≤ metaBlockSize) :
    b.stored.length ≤ b.raw.length ∧ b.stored.length ≤ 8192 ∧
    (b.compressed = true ↔ b.stored.length < b.raw.length) ∧
    b.header % 32768 = b.stored.length ∧ (b.header / 32768 = 1 ↔ b.compressed = false) := by
  rw [mb_eq] at hraw
  cases hcmp : b.compressed with
  | true =>
    have hlt := hc _ _ (hm.1 hcmp).1
    rw [Block.header, hcmp, if_pos rfl]
    exact ⟨Nat.le_of_lt hlt, by omega, iff_of_true rfl hlt, by omega, iff_of_false (by omega) (nomatch ·)⟩
  | false =>
    have hor : b.raw.length ||| 0x8000 = 0x8000 + b.raw.length := Nat.or_two_pow_of_lt (i := 15) (Nat.lt_of_le_of_lt hraw (by decide))
    rw [Block.header, hcmp, if_neg (nomatch ·), hm.2 hcmp, hor]
    exact ⟨Nat.le_refl _, hraw, iff_of_false (nomatch ·) (Nat.lt_irrefl _), by omega, iff_of_true (by omega) rfl⟩

/-- the size word of a data block below 2^24 bytes: the stored size in the low 24 bits, bit 24 clear exactly for a block
flagged compressed -/
theorem sizeWord_spec (r : DataBlock) (h : r.data.length < 16777216) :
    sizeWord r % 16777216 = r.data.length ∧ (sizeWord r / 16777216 = 0 ↔ hasFlag r.flags blkIsCompressed = true) := by
  unfold sizeWord
  cases hf : hasFlag r.flags blkIsCompressed with
  | true => rw [if_pos rfl]; exact ⟨Nat.mod_eq_of_lt h, iff_of_true (Nat.div_eq_of_lt h) rfl⟩
  | false =>
    have hor : r.data.length ||| 1 <<< 24 = 16777216 + r.data.length := Nat.or_two_pow_of_lt (i := 24) h
    rw [if_neg (nomatch ·), hor]
    exact ⟨by omega, iff_of_false (by omega) (nomatch ·)⟩

theorem flush_eq (cmp : Codec) (st : St) (h : st.cur ≠ []) :
    flush cmp st = { cur := [], blockOffset := st.blockOffset + (outBlock cmp st.cur).stored.length + 2,
                     out := st.out ++ [outBlock cmp st.cur] } := by
  unfold flush outBlock
  rw [if_neg h]
  cases cmp st.cur with
  | none => rfl
  | some c => by_cases hl : c.length > 0 <;> simp only [hl, if_true, if_false]

/-- `flush_eq` with no more known of the block than `Made`: the form the lemmas below take -/
theorem flush_spec (cmp : Codec) (st : St) :
    (st.cur = [] ∧ flush cmp st = st) ∨
    (st.cur ≠ [] ∧ ∃ b, b.raw = st.cur ∧ Made cmp b ∧
      flush cmp st = { cur := [], blockOffset := st.blockOffset + b.stored.length + 2, out := st.out ++ [b] }) := by
  by_cases h : st.cur = []
  · exact Or.inl ⟨h, by rw [flush, if_pos h]⟩
  · exact Or.inr ⟨h, _, (outBlock_made cmp st.cur).1, (outBlock_made cmp st.cur).2, flush_eq cmp st h⟩

theorem flush_cur (cmp : Codec) (st : St) : (flush cmp st).cur = [] := by
  rcases flush_spec cmp st with ⟨h1, h2⟩ | ⟨_, b, _, _, h⟩
  · rw [h2]; exact h1
  · rw [h]

theorem flush_stream (cmp : Codec) (st : St) : stream (flush cmp st) = stream st := by
  rcases flush_spec cmp st with ⟨_, h2⟩ | ⟨_, b, hb, _, h⟩
  · rw [h2]
  · rw [h]; simp [stream, hb]

/-- holds at every step, also inside `append` where the open chunk may be full: all emitted blocks are full 8 KiB chunks made
by the codec -/
structure Inv (cmp : Codec) (st : St) : Prop where
  curLe : st.cur.length ≤ metaBlockSize
  full : ∀ b ∈ st.out, b.raw.length = metaBlockSize
  made : ∀ b ∈ st.out, Made cmp b

theorem flush_inv_of_full (cmp : Codec) (st : St) (hi : Inv cmp st) (hf : st.cur.length = metaBlockSize) :
    Inv cmp (flush cmp st) := by
  rcases flush_spec cmp st with ⟨h1, _⟩ | ⟨_, b, hb, hm, h⟩
  · rw [h1] at hf; exact absurd hf.symm (Nat.ne_of_gt mb_pos)
  · rw [h]
    exact ⟨by simp, List.forall_mem_append.mpr ⟨hi.full, List.forall_mem_singleton.mpr (hb ▸ hf)⟩,
      List.forall_mem_append.mpr ⟨hi.made, List.forall_mem_singleton.mpr hm⟩⟩

theorem outBytes_append (a b : List Block) : outBytes (a ++ b) = outBytes a + outBytes b := by
  simp [outBytes]

theorem outBytes_cons (b : Block) (bs : List Block) : outBytes (b :: bs) = b.stored.length + 2 + outBytes bs := by
  simp [outBytes]

/-- `m->block_offset` is the number of bytes the flushed blocks occupy -/
def Off (st : St) : Prop := st.blockOffset = outBytes st.out

/-- `b` was reached from `a` by appending/flushing: blocks flushed earlier are never touched again -/
def Ext (a b : St) : Prop := ∃ bs, b.out = a.out ++ bs

theorem Ext.refl (a : St) : Ext a a := ⟨[], by simp⟩

theorem Ext.trans {a b c : St} (h1 : Ext a b) (h2 : Ext b c) : Ext a c := by
  obtain ⟨x, hx⟩ := h1
  obtain ⟨y, hy⟩ := h2
  exact ⟨x ++ y, by rw [hy, hx, List.append_assoc]⟩

theorem Ext.take {a b : St} (h : Ext a b) : b.out.take a.out.length = a.out := by
  obtain ⟨x, hx⟩ := h
  rw [hx]; simp

theorem flush_off (cmp : Codec) (st : St) (h : Off st) : Off (flush cmp st) := by
  rcases flush_spec cmp st with ⟨_, h2⟩ | ⟨_, b, _, _, h2⟩
  · rw [h2]; exact h
  · rw [h2]; unfold Off at h ⊢; simp only [outBytes_append]; rw [h]; simp [outBytes]; omega

theorem flush_ext (cmp : Codec) (st : St) : Ext st (flush cmp st) := by
  rcases flush_spec cmp st with ⟨_, h2⟩ | ⟨_, b, _, _, h2⟩
  · rw [h2]; exact Ext.refl _
  · rw [h2]; exact ⟨[b], rfl⟩

/-- what holds of a meta writer between two API calls: true of a fresh one (`wf_init`), kept by `append` (`append_wf`) -/
structure WF (cmp : Codec) (st : St) : Prop where
  inv : Inv cmp st
  curLt : st.cur.length < metaBlockSize
  off : Off st

theorem wf_init (cmp : Codec) : WF cmp {} :=
  ⟨⟨by simp, by simp, by simp⟩, by simpa using mb_pos, by simp [Off, outBytes]⟩

theorem stream_init : stream ({} : St) = [] := rfl

/-- the flush of a full chunk that `append` makes before copying (in `appendGo`) and on leaving -/
theorem flushFull_spec (cmp : Codec) (st : St) (hi : Inv cmp st) (ho : Off st) :
    ∃ st', (if st.cur.length = metaBlockSize then flush cmp st else st) = st' ∧
      WF cmp st' ∧ Ext st st' ∧ stream st' = stream st := by
  by_cases hf : st.cur.length = metaBlockSize
  · exact ⟨_, if_pos hf, ⟨flush_inv_of_full cmp st hi hf, by rw [flush_cur]; exact mb_pos, flush_off cmp st ho⟩,
      flush_ext cmp st, flush_stream cmp st⟩
  · exact ⟨_, if_neg hf, ⟨hi, Nat.lt_of_le_of_ne hi.curLe hf, ho⟩, Ext.refl st, rfl⟩

theorem appendGo_spec (cmp : Codec) : ∀ (f : Nat) (data : Bytes), data.length < f → ∀ st : St, Inv cmp st → Off st →
    Inv cmp (appendGo cmp f st data) ∧ Off (appendGo cmp f st data) ∧ Ext st (appendGo cmp f st data) ∧
      stream (appendGo cmp f st data) = stream st ++ data := by
  refine fuel_ind List.length fun f data ih st hi ho => ?_
  unfold appendGo
  by_cases hd : data = []
  · simp [hd, hi, ho, Ext.refl]
  · rw [if_neg hd]
    obtain ⟨st', hst', hw, he, hs'⟩ := flushFull_spec cmp st hi ho
    simp only [hst']
    have hlt := hw.curLt
    have hdl : 0 < data.length := List.length_pos_iff.mpr hd
    have hdiff : 1 ≤ min (metaBlockSize - st'.cur.length) data.length := Nat.le_min.mpr ⟨Nat.sub_pos_of_lt hlt, hdl⟩
    have hdiff2 : min (metaBlockSize - st'.cur.length) data.length ≤ metaBlockSize - st'.cur.length := Nat.min_le_left _ _
    have hdiff3 : min (metaBlockSize - st'.cur.length) data.length ≤ data.length := Nat.min_le_right _ _
    generalize min (metaBlockSize - st'.cur.length) data.length = diff at hdiff hdiff2 hdiff3
    have hinv2 : Inv cmp { st' with cur := st'.cur ++ data.take diff } := by
      refine ⟨?_, hw.inv.full, hw.inv.made⟩
      simp only [List.length_append, List.length_take]
      omega
    obtain ⟨r1, r2, r3, r4⟩ := ih (data.drop diff) (by simp only [List.length_drop]; omega)
      { st' with cur := st'.cur ++ data.take diff } hinv2 hw.off
    refine ⟨r1, r2, Ext.trans he r3, ?_⟩
    rw [r4, ← hs']
    simp only [stream, List.append_assoc, List.take_append_drop]

theorem append_wf (cmp : Codec) (st : St) (data : Bytes) (h : WF cmp st) :
    WF cmp (append cmp st data) ∧ Ext st (append cmp st data) ∧ stream (append cmp st data) = stream st ++ data := by
  obtain ⟨h1, h2, h3, h4⟩ := appendGo_spec cmp (data.length + 1) data (by omega) st h.inv h.off
  obtain ⟨st', hst', hw, he, hs⟩ := flushFull_spec cmp _ h1 h2
  subst hst'
  exact ⟨hw, Ext.trans h3 he, hs.trans h4⟩

theorem foldl_append_wf (cmp : Codec) (chunks : List Bytes) (st : St) (h : WF cmp st) :
    WF cmp (chunks.foldl (append cmp) st) ∧ Ext st (chunks.foldl (append cmp) st) ∧
      stream (chunks.foldl (append cmp) st) = stream st ++ chunks.flatten := by
  induction chunks generalizing st with
  | nil => simp [h, Ext.refl]
  | cons c cs ih =>
    obtain ⟨a1, a2, a3⟩ := append_wf cmp st c h
    obtain ⟨b1, b2, b3⟩ := ih (append cmp st c) a1
    simp only [List.foldl_cons, List.flatten_cons]
    exact ⟨b1, Ext.trans a2 b2, by rw [b3, a3, List.append_assoc]⟩

theorem run_shape (cmp : Codec) (chunks : List Bytes) :
    ∃ (fullBlocks last : List Block), (run cmp chunks).out = fullBlocks ++ last ∧ (run cmp chunks).cur = [] ∧
      (∀ b ∈ fullBlocks, b.raw.length = metaBlockSize) ∧ last.length ≤ 1 ∧
      (∀ b ∈ last, 1 ≤ b.raw.length ∧ b.raw.length < metaBlockSize) ∧
      (∀ b ∈ fullBlocks ++ last, Made cmp b) ∧
      ((fullBlocks ++ last).map (·.raw)).flatten = chunks.flatten := by
  unfold run
  obtain ⟨⟨i1, i2, _⟩, _, i3⟩ := foldl_append_wf cmp chunks {} (wf_init cmp)
  generalize chunks.foldl (append cmp) {} = st at i1 i2 i3
  rw [stream_init, List.nil_append] at i3
  rcases flush_spec cmp st with ⟨h1, h2⟩ | ⟨hne, b, hb, hm, h⟩
  · rw [h2]
    exact ⟨st.out, [], by simp, h1, i1.full, by simp, by simp, by simpa using i1.made, by rw [← i3]; simp [stream, h1]⟩
  · rw [h]
    exact ⟨st.out, [b], rfl, rfl, i1.full, by simp,
      List.forall_mem_singleton.mpr (hb ▸ ⟨List.length_pos_iff.mpr hne, i2⟩),
      List.forall_mem_append.mpr ⟨i1.made, List.forall_mem_singleton.mpr hm⟩, by rw [← i3]; simp [stream, hb]⟩

theorem full_raw_length : ∀ (bs : List Block), (∀ b ∈ bs, b.raw.length = metaBlockSize) →
    ((bs.map (·.raw)).flatten).length = metaBlockSize * bs.length := by
  intro bs
  induction bs with
  | nil => intro _; simp
  | cons b bs ih =>
    intro hb
    simp only [List.map_cons, List.flatten_cons, List.length_append, List.length_cons]
    rw [ih (fun x hx => hb x (List.mem_cons_of_mem _ hx)), hb b List.mem_cons_self, Nat.mul_succ]
    omega

theorem inv_stream_length (cmp : Codec) (st : St) (hi : Inv cmp st) :
    (stream st).length = metaBlockSize * st.out.length + st.cur.length := by
  unfold stream
  rw [List.length_append, full_raw_length st.out hi.full]

theorem WF.blocks {cmp : Codec} {st : St} (h : WF cmp st) : st.out.length = (stream st).length / metaBlockSize := by
  rw [inv_stream_length cmp st h.inv]
  have := h.curLt
  rw [Nat.mul_add_div mb_pos, Nat.div_eq_of_lt this]; rfl

theorem WF.offset {cmp : Codec} {st : St} (h : WF cmp st) : st.cur.length = (stream st).length % metaBlockSize := by
  rw [inv_stream_length cmp st h.inv]
  have := h.curLt
  rw [Nat.mul_add_mod, Nat.mod_eq_of_lt this]

theorem WF.flush_count {cmp : Codec} {st : St} (h : WF cmp st) :
    (flush cmp st).out.length =
      (stream st).length / metaBlockSize + (if (stream st).length % metaBlockSize ≠ 0 then 1 else 0) := by
  rw [← h.blocks, ← h.offset]
  rcases flush_spec cmp st with ⟨h1, h2⟩ | ⟨hne, b, _, _, h2⟩
  · rw [h2, h1]; rfl
  · rw [h2, List.length_append, if_pos (fun h0 => hne (List.eq_nil_of_length_eq_zero h0))]; rfl

theorem foldl_append_at (cmp : Codec) (cs : List Bytes) (st : St) (h : WF cmp st) (k : Nat) :
    WF cmp ((cs.take k).foldl (append cmp) st) ∧ Ext ((cs.take k).foldl (append cmp) st) (cs.foldl (append cmp) st) ∧
      stream ((cs.take k).foldl (append cmp) st) = stream st ++ (cs.take k).flatten := by
  obtain ⟨v1, _, v3⟩ := foldl_append_wf cmp (cs.take k) st h
  refine ⟨v1, ?_, v3⟩
  conv => arg 2; rw [← List.take_append_drop k cs, List.foldl_append]
  exact (foldl_append_wf cmp (cs.drop k) _ v1).2.1

/-- what `sqfs_meta_writer_get_position` reports in a well-formed state, read off any later state `fin` of the same writer -/
theorem WF.position_in {cmp : Codec} {st fin : St} (h : WF cmp st) (he : Ext st fin) :
    position st = (outBytes (fin.out.take ((stream st).length / metaBlockSize)), (stream st).length % metaBlockSize) := by
  rw [← h.blocks, ← h.offset, he.take]
  exact congrArg (·, _) h.off

theorem chunksOf_nil (f : Nat) : chunksOf f [] = [] := by
  cases f <;> simp [chunksOf]

theorem chunksOf_spec : ∀ (f : Nat) (data : Bytes), data.length < f →
    (chunksOf f data).flatten = data ∧ (chunksOf f data).length = (data.length + 8191) / 8192 ∧
    ∀ i, i < (chunksOf f data).length → (((chunksOf f data).take i).flatten).length = metaBlockSize * i := by
  refine fuel_ind List.length fun f data ih => ?_
  unfold chunksOf
  by_cases hd : data = []
  · simp [hd]
  · rw [if_neg hd]
    have hl : 0 < data.length := List.length_pos_iff.mpr hd
    obtain ⟨r1, r2, r3⟩ := ih (data.drop metaBlockSize)
      (by rw [List.length_drop]; exact Nat.sub_lt hl mb_pos)
    rw [List.length_drop] at r2
    change _ = (data.length - 8192 + 8191) / 8192 at r2
    refine ⟨by simp only [List.flatten_cons, r1, List.take_append_drop], by simp only [List.length_cons]; omega, ?_⟩
    intro i hi
    cases i with
    | zero => simp
    | succ j =>
      simp only [List.length_cons] at hi
      have hj : j < (chunksOf f (data.drop metaBlockSize)).length := Nat.lt_of_succ_lt_succ hi
      simp only [List.take_succ_cons, List.flatten_cons, List.length_append, List.length_take, r3 j hj]
      rw [Nat.min_eq_left (by rw [mb_eq]; omega), Nat.mul_succ]; exact Nat.add_comm _ _

theorem writeTableGo_eq (cmp : Codec) (base : Nat) : ∀ (cs : List Bytes) (st : St) (locs : List Nat),
    writeTableGo cmp base cs st locs = (cs.foldl (append cmp) st,
      locs ++ (List.range cs.length).map (fun i => base + outBytes ((cs.take i).foldl (append cmp) st).out))
  | [], st, locs => by simp [writeTableGo]
  | c :: cs, st, locs => by
    rw [writeTableGo, writeTableGo_eq cmp base cs, List.length_cons, List.range_succ_eq_map]
    simp [List.append_assoc]

theorem writeTableM_spec (cmp : Codec) (base : Nat) (data : Bytes) :
    (writeTableM cmp base data).locs = (List.range (writeTableM cmp base data).blocks.length).map
      (fun i => base + outBytes ((writeTableM cmp base data).blocks.take i)) ∧
    (writeTableM cmp base data).blocks.length = (data.length + 8191) / 8192 ∧
    (((writeTableM cmp base data).blocks.map (·.raw)).flatten = data) ∧
    (∀ i, i + 1 < (writeTableM cmp base data).blocks.length →
      ((writeTableM cmp base data).blocks[i]?.map (·.raw.length)) = some 8192) := by
  obtain ⟨hflat, hcl, htake⟩ := chunksOf_spec (data.length + 1) data (by omega)
  simp only [writeTableM, writeTableGo_eq, List.nil_append]
  generalize chunksOf (data.length + 1) data = cs at hcl hflat htake ⊢
  -- the writer before the final flush: everything but the last, partial chunk is in full blocks
  obtain ⟨w1, _, w3⟩ := foldl_append_wf cmp cs {} (wf_init cmp)
  rw [stream_init, List.nil_append, hflat] at w3
  have hat := foldl_append_at cmp cs {} (wf_init cmp)
  have hout := w1.blocks
  rw [w3, mb_eq] at hout
  generalize cs.foldl (append cmp) {} = st at w1 w3 hat hout ⊢
  obtain ⟨bs, hbs⟩ := flush_ext cmp st
  have hlen : (flush cmp st).out.length = (data.length + 8191) / 8192 := by
    rw [w1.flush_count, w3, mb_eq]; split <;> omega
  refine ⟨?_, hlen, ?_, fun i hi => ?_⟩
  · rw [hlen, ← hcl]
    refine List.map_congr_left fun i hi => ?_
    -- the state before chunk `i` holds `i` blocks, a prefix of the final block list
    obtain ⟨v1, v2, v3⟩ := hat i
    have hlen : ((cs.take i).foldl (append cmp) {}).out.length = i := by
      rw [v1.blocks, v3, stream_init, List.nil_append, htake i (List.mem_range.mp hi), Nat.mul_div_cancel_left _ mb_pos]
    rw [← (v2.trans (flush_ext cmp st)).take, hlen]
  · have := flush_stream cmp st
    rwa [stream, flush_cur, List.append_nil, w3] at this
  · have hi' : i < st.out.length := by omega
    rw [hbs, List.getElem?_append_left hi', List.getElem?_eq_getElem hi']
    exact congrArg some (w1.inv.full _ (List.getElem_mem hi'))

theorem locs_foldl : ∀ (bs : List Block) (acc : List Nat) (n : Nat),
    bs.foldl (fun (a : List Nat × Nat) b => (a.1 ++ [a.2], a.2 + 2 + b.stored.length)) (acc, n) =
      (acc ++ (List.range bs.length).map (fun i => n + outBytes (bs.take i)), n + outBytes bs)
  | [], acc, n => by simp [outBytes]
  | b :: bs, acc, n => by
    rw [List.foldl_cons, locs_foldl bs, List.length_cons, List.range_succ_eq_map]
    -- what is left differs in the order of the summands only
    simp [List.append_assoc, outBytes_cons, show outBytes [] = 0 from rfl, Function.comp_def, Nat.add_assoc, Nat.add_comm,
      Nat.add_left_comm]

/-- the coarser model of `sqfs_write_table` (locations recomputed from the block list, relative to the table) gives the
blocks and locations of `writeTableM` for a file that is empty before the call -/
theorem writeTable_eq_writeTableM (cmp : Codec) (data : Bytes) :
    writeTable cmp data = ((writeTableM cmp 0 data).blocks, (writeTableM cmp 0 data).locs) := by
  have hb : (writeTableM cmp 0 data).blocks = (run cmp (chunksOf (data.length + 1) data)).out := by
    simp only [writeTableM, writeTableGo_eq]; rfl
  unfold writeTable
  simp only
  rw [locs_foldl, (writeTableM_spec cmp 0 data).1, hb, List.nil_append]

end Sqfs.MetaWriter
