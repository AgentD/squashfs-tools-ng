import Sqfs.Proofs.ObjRestore
/-! C19: whatever `sqfs_copy` does — succeed, or fail at any allocation and clean up — the cells that existed before
are framed (`Frame`); with the balance theorem this gives: a failed `sqfs_copy` leaves exactly the heap there was. -/
namespace Sqfs.Obj
-- the hooks are nests of `if`/`match`; `split` is to take them apart one level at a time, without re-simplifying the goal
set_option backward.split false

/-- the injected budget is no cell -/
theorem Frame.ofBudget {h h' : Heap} {b : Option Nat} (f : Frame { h with budget := b } h') : Frame h h' :=
  ⟨f.nobj, f.nbuf, f.objs, f.bufs⟩

theorem Frame.takeAlloc (h : Heap) : Frame h (takeAlloc h).1 := by
  obtain ⟨bud, ⟨hb, _⟩ | ⟨hb, _⟩⟩ := takeAlloc_spec h <;> rw [hb] <;> exact (Frame.refl _).ofBudget

theorem Frame.grab (h : Heap) (x : Nat) : Frame h (Sqfs.Obj.grab h x) := Frame.of_slotsOk (SlotsOk.grab h x)

theorem Frame.copyBufs (bs : List (Option Nat)) (as : List BufAct) (h : Heap) : Frame h (Sqfs.Obj.copyBufs h bs as).1 :=
  Frame.of_slotsOk (SlotsOk.copyBufs bs as h)

theorem Frame.copyRefs (cp : Heap → Nat → Heap × Option Nat) (hcp : ∀ h x, Frame h (cp h x).1)
    (rs : List (Option Nat)) (as : List RefAct) (h : Heap) : Frame h (Sqfs.Obj.copyRefs cp h rs as).1 := by
  fun_induction Sqfs.Obj.copyRefs cp h rs as with
  | case1 | case2 => exact Frame.refl _
  | case3 _ _ _ _ ih | case4 _ _ _ _ ih => exact ih
  | case5 h x _ _ ih => exact (Frame.grab h x).trans ih
  | case6 h x _ _ _ hc => exact congrArg Prod.fst hc ▸ hcp h x
  | case7 h x _ _ _ _ hc ih => exact (show Frame h (_, some _).1 from hc ▸ hcp h x).trans ih

theorem Frame.dropOpt (n : Nat) (h : Heap) (s : Option Nat) : Frame h (Sqfs.Obj.dropOpt n h s) := by
  cases s with
  | none => exact Frame.refl _
  | some b => exact Frame.drop n h b

/-- the failure path of a hook only drops and frees -/
theorem Frame.failPath (d : CopyDesc) (h : Heap) (o : Obj) (nr nb : List (Option Nat)) : Frame h (Sqfs.Obj.failPath d h o nr nb) := by
  have unwind : ∀ acquired fresh : List Nat, Frame h (fresh.foldl Sqfs.Obj.freeBuf (acquired.foldl (Sqfs.Obj.drop h.nobj) h)) :=
    fun acquired fresh => (Frame.foldl _ (Frame.drop h.nobj) acquired h).trans (Frame.foldl _ Frame.freeBuf fresh _)
  unfold Sqfs.Obj.failPath
  split
  · exact unwind _ _
  · simp only
    split
    · exact (unwind _ _).trans (Frame.freeSlot _ _)
    · exact unwind _ _
  · exact (Frame.foldl _ (fun h' a => Frame.dropOpt h.nobj h' a) _ h).trans (Frame.foldl _ Frame.freeBuf _ _)

theorem Frame.finishCopy (d : CopyDesc) (h : Heap) (o : Obj) (nb nr : List (Option Nat)) : Frame h (Sqfs.Obj.finishCopy d h o nb nr).1 :=
  Frame.of_slotsOk (SlotsOk.finishCopy d h o nb nr)

theorem Frame.sqfsCopy (D : Kind → CopyDesc) : ∀ (n : Nat) (h : Heap) (x : Nat), Frame h (Sqfs.Obj.sqfsCopy D n h x).1 := by
  intro n
  induction n with
  | zero => intro h x; exact Frame.fail _ _
  | succ n ih =>
    intro h x
    rw [Sqfs.Obj.sqfsCopy]
    split
    · exact Frame.refl _
    · split
      · exact Frame.fail _ _
      · rename_i o ho
        split
        · exact Frame.refl _
        · have f0 := Frame.takeAlloc h
          rcases hta : Sqfs.Obj.takeAlloc h with ⟨h0, ok0⟩
          rw [hta] at f0
          cases ok0 with
          | false => exact f0
          | true =>
            simp only
            split
            · have f1 := Frame.copyRefs (Sqfs.Obj.sqfsCopy D n) ih o.refs (D o.kind).refs h0
              rcases hr1 : Sqfs.Obj.copyRefs (Sqfs.Obj.sqfsCopy D n) h0 o.refs (D o.kind).refs with ⟨h1, nr, ok1⟩
              rw [hr1] at f1
              cases ok1 with
              | false => exact (f0.trans f1).trans (Frame.failPath _ _ _ _ _)
              | true =>
                simp only
                have f2 := Frame.copyBufs o.bufs (D o.kind).bufs h1
                rcases hr2 : Sqfs.Obj.copyBufs h1 o.bufs (D o.kind).bufs with ⟨h2, nb, ok2⟩
                rw [hr2] at f2
                cases ok2 with
                | false => exact ((f0.trans f1).trans f2).trans (Frame.failPath _ _ _ _ _)
                | true => exact ((f0.trans f1).trans f2).trans (Frame.finishCopy _ _ _ _ _)
            · have f1 := Frame.copyBufs o.bufs (D o.kind).bufs h0
              rcases hr1 : Sqfs.Obj.copyBufs h0 o.bufs (D o.kind).bufs with ⟨h1, nb, ok1⟩
              rw [hr1] at f1
              cases ok1 with
              | false => exact (f0.trans f1).trans (Frame.failPath _ _ _ _ _)
              | true =>
                simp only
                have f2 := Frame.copyRefs (Sqfs.Obj.sqfsCopy D n) ih o.refs (D o.kind).refs h1
                rcases hr2 : Sqfs.Obj.copyRefs (Sqfs.Obj.sqfsCopy D n) h1 o.refs (D o.kind).refs with ⟨h2, nr, ok2⟩
                rw [hr2] at f2
                cases ok2 with
                | false => exact ((f0.trans f1).trans f2).trans (Frame.failPath _ _ _ _ _)
                | true => exact ((f0.trans f1).trans f2).trans (Frame.finishCopy _ _ _ _ _)

end Sqfs.Obj
