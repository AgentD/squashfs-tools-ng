/-
C02: the API calls on one file (`begin_file`, `append`, `end_file`, and `packFile` that strings them together) as a forward
simulation of the pure front end of the reference, with `At` as the simulation relation.  Each call is followed through the pure
function that mirrors it (`feBegin`, `feAppendGo`, `feEndItems`/`feEnd`): it succeeds, and `At` holds again of what that function
returns and emits.  What is known of the emitted blocks (`ItemOK`, `fproto`) is a fact about the pure front end and comes in as a
hypothesis; `packFile_ok` takes it from `Acc.feFile`.
-/
import Sqfs.Proofs.BPLoop
import Sqfs.Proofs.BPEndSubmit
import Sqfs.Proofs.BPFrontForm
namespace Sqfs.BlockProc
open Sqfs.Consts

theorem PInv.submit {P : Params} (hP : P.ans = serialAns) {s : Proc} {g : Ghost} {W : WSt} {held : Nat} (x : Blk)
    (hb : Back P s g (g.F P) W) (hacct : Acct s g (boolNat s.blkCurrent.isSome + held + 1))
    (hx : ItemOK P.B s.w.inodes.length x) (hfp : fproto false (g.front ++ [x]) = true) (hfin : g.fin = false) :
    ∃ s', enqueueBlock P s x = .ok s' ∧ s'.fe = s.fe ∧ s'.w.inodes.length = s.w.inodes.length ∧ s'.maxBacklog = s.maxBacklog ∧
      PInv P s' { g with front := g.front ++ [x], pend := g.pend ++ [processBlock P x], items := g.items ++ [processBlock P x] } held W := by
  obtain ⟨p', he, hb'⟩ := hb.enqueueFront hP x hx hfp
  refine ⟨_, he, rfl, rfl, rfl, ?_⟩
  refine ⟨hb', ?_, ?_⟩
  · exact Acct.enqueue hacct p' _ _ _
  · intro hf; rw [hfin] at hf; cases hf

theorem Back.h_ids {P : Params} (hc : CodecOk P.codec) {s : Proc} {g : Ghost} {F : FSt} {W : WSt} (h : Back P s g F W) :
    ∀ e ∈ g.h, e.id < s.w.inodes.length := by
  intro e he
  rcases (h.mergeH.mem e).mp he with he | he
  · exact (h.feIds e he).1
  · rcases (h.mergeM.mem e).mp he with he | he
    · exact h.finv.effIds e he
    · obtain ⟨y, hy, hyfb, hyi⟩ := h.winv.effIds e he
      obtain ⟨x, hx, _, hyx⟩ := h.finv.datas y (List.mem_of_mem_take hy) hyfb
      obtain ⟨id, h1, h2⟩ := (h.itemOK_of_mem hc (List.mem_append_left _ hx)).ino
      rw [hyx] at hyi
      simp only [Blk.withSeq_inode] at hyi
      rw [h1] at hyi
      cases hyi
      exact h2

theorem fe_inode {s : Proc} : s.fe.inode = s.inode := rfl
theorem fe_beginCalled {s : Proc} : s.fe.beginCalled = s.beginCalled := rfl
theorem fe_blkCurrent {s : Proc} : s.fe.blkCurrent = s.blkCurrent := rfl
theorem fe_blkFlags {s : Proc} : s.fe.blkFlags = s.blkFlags := rfl

/-- The simulation relation between the implementation and the pure front end of the reference: `s` is a state of a healthy run
(`PInv`, `held` as there, the last fragment block not yet closed by `finish`) in which the front end's fields are `f`, the front
end has submitted the blocks `front` and recorded the `size` updates `es`, and `n` files have been begun. -/
def At (P : Params) (held : Nat) (f : Front) (s : Proc) (front : List Blk) (es : List Eff) (n : Nat) : Prop :=
  ∃ g W, PInv P s g held W ∧ g.fin = false ∧ s.fe = f ∧ g.front = front ∧ g.fe = es ∧ s.w.inodes.length = n

variable {P : Params} {held : Nat} {f : Front} {s : Proc} {front : List Blk} {es : List Eff} {n : Nat}

theorem At.fe (h : At P held f s front es n) : s.fe = f := by
  obtain ⟨_, _, _, _, h, _⟩ := h; exact h

/-- draining the pool keeps the simulation: `Frame` (BPLoop) lists what `At` reads -/
theorem At.getNewBlock (hp : SerialOK P) (h : At P 0 f s front es n) : ∃ s', getNewBlock P s = .ok s' ∧ At P 1 f s' front es n := by
  obtain ⟨g, W, h, hfin, rfl, rfl, rfl, rfl⟩ := h
  obtain ⟨s', g', W', hg, h', fr⟩ := getNewBlock_ok hp h
  exact ⟨s', hg, g', W', h', fr.fin.trans hfin, fr.fe, fr.front, fr.gfe, fr.inodes⟩

theorem At.sync (hp : SerialOK P) (h : At P 0 f s front es n) : ∃ s', sync P s = .ok s' ∧ At P 0 f s' front es n := by
  obtain ⟨g, W, h, hfin, rfl, rfl, rfl, rfl⟩ := h
  obtain ⟨s', g', W', hg, h', fr, _⟩ := sync_ok hp h
  exact ⟨s', hg, g', W', h', fr.fin.trans hfin, fr.fe, fr.front, fr.gfe, fr.inodes⟩

theorem At.submit (hP : P.ans = serialAns) (h : At P (held + 1) f s front es n) (x : Blk) (hx : ItemOK P.B n x)
    (hfp : fproto false (front ++ [x]) = true) : ∃ s', enqueueBlock P s x = .ok s' ∧ At P held f s' (front ++ [x]) es n := by
  obtain ⟨g, W, h, hfin, rfl, rfl, rfl, rfl⟩ := h
  obtain ⟨s', he, hfe, hil, _, h'⟩ := PInv.submit hP x h.back h.acct hx hfp hfin
  exact ⟨s', he, _, W, h', hfin, hfe, rfl, rfl, hil⟩

/-- the front end changes its own fields only (`hs`, by `rfl`); `hk`: the blocks it holds are still accounted for -/
theorem At.setFe (h : At P held f s front es n) {s' : Proc} {held' : Nat}
    (hs : s' = { s with beginCalled := s'.beginCalled, inode := s'.inode, blkFlags := s'.blkFlags, blkIndex := s'.blkIndex,
                        blkCurrent := s'.blkCurrent })
    (hk : boolNat s'.blkCurrent.isSome + held' = boolNat s.blkCurrent.isSome + held) : At P held' s'.fe s' front es n := by
  obtain ⟨g, W, h, hfin, rfl, rfl, rfl, rfl⟩ := h
  rw [hs]
  exact ⟨g, W, ⟨{ h.back with }, h.acct.front rfl rfl rfl (hs ▸ hk), h.finNoPend⟩, hfin, rfl, rfl, rfl, rfl⟩

theorem At.submitCur (hP : P.ans = serialAns) (h : At P 0 f s front es n) {c : Blk} (hcur : f.blkCurrent = some c) (x : Blk)
    (hx : ItemOK P.B n x) (hfp : fproto false (front ++ [x]) = true) :
    ∃ s', enqueueBlock P { s with blkCurrent := none } x = .ok s' ∧ At P 0 { f with blkCurrent := none } s' (front ++ [x]) es n := by
  obtain rfl := h.fe
  exact (h.setFe (s' := { s with blkCurrent := none }) rfl (by rw [show s.blkCurrent = some c from hcur]; rfl)).submit hP x hx hfp

theorem At.addSize (h : At P held f s front es n) (id k : Nat) (hid : id < n) :
    At P held f { s with w := modInode s.w (some id) (InoEff.size k).app } front (es ++ [⟨id, .size k⟩]) n := by
  obtain ⟨g, W, h, hfin, rfl, rfl, rfl, rfl⟩ := h
  exact ⟨{ g with fe := g.fe ++ [⟨id, .size k⟩], h := g.h ++ [⟨id, .size k⟩] }, W,
    ⟨h.back.updInode (some id) (.size k) _ g.m _ h.back.finv (h.back.mergeH.snoc_left _) h.back.mergeM
      (List.forall_mem_snoc h.back.feIds ⟨hid, k, rfl⟩), h.acct, h.finNoPend⟩, hfin, rfl, rfl, rfl, modInode_length _ _ _⟩

theorem At.beginFile (hc : CodecOk P.codec) (h : At P 0 f s front es n) (hbc : f.beginCalled = false) (flags : Nat)
    (hfl : flags &&& blkUserSettable = flags) :
    ∃ s', beginFile s flags = .ok s' ∧ At P 0 (feBegin f n flags) s' front es (n + 1) := by
  obtain ⟨g, W, h, hfin, rfl, rfl, rfl, rfl⟩ := h
  have hne : ¬ (flags &&& blkUserSettable != flags) = true := by simp [hfl]
  have hlen : (s.w.inodes ++ [({} : Inode)]).length = s.w.inodes.length + 1 := by simp
  have hb := h.back
  refine ⟨?s', ?eq, g, W, ?_, hfin, ?_, rfl, rfl, ?_⟩
  case eq => unfold beginFile; rw [if_neg (by simp [show s.beginCalled = false from hbc]), if_neg hne]
  · refine ⟨{ hb with itemsOK := ?_, finv := ?_, inodes := ?_, feIds := ?_ }, h.acct, h.finNoPend⟩
    · intro x hx
      simp only [hlen]
      exact (hb.itemsOK x hx).mono (Nat.le_succ _)
    · simp only [hlen]; exact hb.finv.mono (Nat.le_succ _)
    · simp only [hlen]
      rw [List.replicate_succ', applyEffs_snoc _ _ _ (by simpa using hb.h_ids hc), ← hb.inodes]
    · intro e he
      simp only [hlen]
      obtain ⟨a, b⟩ := hb.feIds e he
      exact ⟨Nat.lt_succ_of_lt a, b⟩
  · simp [Proc.fe, feBegin]
  · exact hlen

/-- `appendGo` follows the pure loop `feAppendGo` (same fuel, same branches): it submits the blocks that loop emits and
leaves the front end as that loop leaves it -/
theorem appendGo_follows (hp : SerialOK P) (fuel : Nat) (f : Front) (data : Bytes) :
    ∀ (s : Proc) (front : List Blk) (r : Front × List Blk), feAppendGo P.B fuel f data = some r → At P 0 f s front es n →
      (∀ x ∈ r.2, ItemOK P.B n x) → fproto false (front ++ r.2) = true →
      ∃ s', appendGo P fuel s data = .ok s' ∧ At P 0 r.1 s' (front ++ r.2) es n := by
  fun_induction feAppendGo P.B fuel f data with
  -- the pure loop does not answer: no fuel; no data and no open block; the call after a full block does not answer
  | case1 | case2 | case6 => intro s front r h; cases h
  | case3 fuel f data hd cur hcur hfull =>
    -- no data left and the open block is full: submit it
    intro s front r h hat hit hpr
    cases h
    obtain rfl := hat.fe
    rw [appendGo, if_pos hd, show s.blkCurrent = some cur from hcur]
    simp only [if_pos hfull]
    exact hat.submitCur hp.ans hcur cur (hit cur List.mem_cons_self) hpr
  | case4 fuel f data hd cur hcur hfull =>
    -- no data left, the open block stays open
    intro s front r h hat _ _
    cases h
    obtain rfl := hat.fe
    rw [appendGo, if_pos hd, show s.blkCurrent = some cur from hcur]
    simp only [if_neg hfull]
    exact ⟨s, rfl, by simpa using hat⟩
  | case5 fuel f data hd hcur ih =>
    -- a new block: the one `get_new_block` accounted for becomes `blk_current`
    intro s front r h hat hit hpr
    obtain ⟨s1, hg1, h1⟩ := hat.getNewBlock hp
    rw [appendGo, if_neg hd, show s.blkCurrent = none from (congrArg Front.blkCurrent hat.fe).trans hcur, hg1]
    obtain rfl := h1.fe
    exact ih _ front r h (h1.setFe rfl (by rw [show s1.blkCurrent = none from hcur]; rfl)) hit hpr
  | case7 fuel f data hd cur hcur diff hdiff r' hr ih =>
    -- the open block is full: submit it
    intro s front r h hat hit hpr
    cases h
    obtain rfl := hat.fe
    rw [List.append_cons] at hpr ⊢
    obtain ⟨s1, he1, h1⟩ := hat.submitCur hp.ans hcur cur (hit cur List.mem_cons_self) (fproto_prefix hpr)
    rw [appendGo, if_neg hd, show s.blkCurrent = some cur from hcur]
    dsimp only
    rw [if_pos (show P.B - cur.data.length = 0 from hdiff), he1]
    exact ih s1 _ r' hr h1 (fun x hx => hit x (List.mem_cons_of_mem _ hx)) hpr
  | case8 fuel f data hd cur hcur diff hdiff k ih =>
    -- copy bytes into the open block
    intro s front r h hat hit hpr
    obtain rfl := hat.fe
    have hcur' : s.blkCurrent = some cur := hcur
    rw [appendGo, if_neg hd, hcur']
    dsimp only
    rw [if_neg (show ¬ P.B - cur.data.length = 0 from hdiff)]
    exact ih _ front r h (hat.setFe rfl (by rw [hcur']; rfl)) hit hpr

theorem append_ok (hp : SerialOK P) (h : At P 0 f s front es n) (hbc : f.beginCalled = true) {id : Nat} (hino : f.inode = some id)
    (hid : id < n) (data : Bytes) (r : Front × List Blk) (hr : feAppend P.B f data = some r)
    (hit : ∀ x ∈ r.2, ItemOK P.B n x) (hpr : fproto false (front ++ r.2) = true) :
    ∃ s', append P s data = .ok s' ∧ At P 0 r.1 s' (front ++ r.2) (es ++ [⟨id, .size data.length⟩]) n := by
  obtain ⟨s', ha, h'⟩ := appendGo_follows hp _ f data _ front r hr (h.addSize id data.length hid) hit hpr
  refine ⟨s', ?_, h'⟩
  obtain rfl := h.fe
  unfold append
  rw [if_neg (by simp [show s.beginCalled = true from hbc]),
    show modInode s.w s.inode (fun i => { i with size := i.size + data.length }) = modInode s.w (some id) (InoEff.size data.length).app by
      rw [show s.inode = some id from hino]; rfl]
  exact ha

theorem addSentinel_ok (hp : SerialOK P) (h : At P 0 f s front es n) (hx : ItemOK P.B n (feSentinel f))
    (hfp : fproto false (front ++ [feSentinel f]) = true) :
    ∃ s', addSentinelBlock P s = .ok s' ∧ At P 0 f s' (front ++ [feSentinel f]) es n := by
  obtain ⟨s1, hg, h1⟩ := h.getNewBlock hp
  obtain ⟨s', he, h'⟩ := h1.submit hp.ans _ hx hfp
  refine ⟨s', ?_, h'⟩
  unfold addSentinelBlock
  rw [hg]
  simp only
  rw [show ({ inode := s1.inode, flags := s1.blkFlags ||| blkLastBlock } : Blk) = feSentinel f by rw [← h1.fe]; rfl]
  exact he

theorem endSubmit_ok (hp : SerialOK P) (h : At P 0 f s front es n) (hitems : ∀ x ∈ feEndItems f, ItemOK P.B n x)
    (hproto : fproto false (front ++ feEndItems f) = true) :
    ∃ s', endSubmit P s = .ok s' ∧ At P 0 { f with blkCurrent := none } s' (front ++ feEndItems f) es n := by
  rw [feEndItems_eq] at hitems hproto ⊢
  -- the sentinel, if one is due
  obtain ⟨s1, hs, h1⟩ : ∃ s1, (if needSentinel f then addSentinelBlock P s else .ok s) = .ok s1 ∧
      At P 0 f s1 (front ++ if needSentinel f then [feSentinel f] else []) es n := by
    cases hn : needSentinel f with
    | false => exact ⟨s, rfl, by simpa using h⟩
    | true =>
      rw [hn] at hitems hproto
      exact addSentinel_ok hp h (hitems _ (by simp)) (fproto_prefix (by simpa using hproto))
  obtain rfl := h.fe
  unfold endSubmit
  rw [hs]
  dsimp only
  -- the open block, if there is one
  cases hy : feEndCur s.fe with
  | none =>
    have hcur : s.fe.blkCurrent = none := Option.map_eq_none_iff.1 hy
    refine ⟨s1, rfl, ?_⟩
    rw [show ({ s.fe with blkCurrent := none } : Front) = s.fe by rw [← hcur]]
    simpa using h1
  | some y =>
    obtain ⟨c, hc, -⟩ := Option.map_eq_some_iff.1 hy
    rw [hy] at hitems hproto
    obtain ⟨s2, he, h2⟩ := h1.submitCur hp.ans hc y (hitems y (by simp)) (by simpa [List.append_assoc] using hproto)
    exact ⟨s2, he, by simpa [List.append_assoc] using h2⟩

theorem endFile_ok (hp : SerialOK P) (h : At P 0 f s front es n) (hbc : f.beginCalled = true)
    (hitems : ∀ x ∈ feEndItems f, ItemOK P.B n x) (hproto : fproto false (front ++ feEndItems f) = true) :
    ∃ s', endFile P s = .ok s' ∧ At P 0 (feEnd f) s' (front ++ feEndItems f) es n := by
  obtain ⟨s2, he, h2⟩ := endSubmit_ok hp h hitems hproto
  have h3 := h2.setFe (s' := { s2 with beginCalled := false, inode := none, blkFlags := 0 }) rfl rfl
  have e : ({ s2 with beginCalled := false, inode := none, blkFlags := 0 } : Proc).fe = feEnd f := by
    show Front.mk false none 0 s2.fe.blkIndex s2.fe.blkCurrent = _
    rw [h2.fe]; rfl
  rw [e] at h3
  obtain rfl := h.fe
  exact ⟨_, by rw [endFile_eq, if_neg (by simp [show s.beginCalled = true from hbc]), he], h3⟩

/-- one file: the blocks `feFile` lists are submitted -/
theorem packFile_ok (hp : SerialOK P) (hBpos : 0 < P.B) (h : At P 0 f s front es n) (a : Acc P.B n front false)
    (hidle : f.beginCalled = false) (hcur : f.blkCurrent = none) (file : InFile)
    (hfl : file.flags &&& blkUserSettable = file.flags) (sy : Bool) :
    ∃ s' f' items, packFile P s file sy = .ok s' ∧ feFile P.B n file = .ok items ∧
      At P 0 f' s' (front ++ items) (es ++ if file.data.length = 0 then [] else [⟨n, .size file.data.length⟩]) (n + 1) ∧
      f'.beginCalled = false ∧ f'.blkCurrent = none := by
  obtain ⟨r, hf, hrb, -, hr⟩ := feFile_eq_end hBpos n file hfl
  have a1 := a.feFile hBpos file _ hf
  rw [← List.append_assoc] at a1
  obtain ⟨s1, hb, h1⟩ := h.beginFile hp.codec hidle file.flags hfl
  rw [show feBegin f n file.flags = feBegin {} n file.flags by simp only [feBegin, hcur]] at h1
  obtain ⟨s2, hap, h2⟩ : ∃ s2, (if file.data.length = 0 then .ok s1 else append P s1 file.data) = .ok s2 ∧
      At P 0 r.1 s2 (front ++ r.2) (es ++ if file.data.length = 0 then [] else [⟨n, .size file.data.length⟩]) (n + 1) := by
    by_cases hd0 : file.data.length = 0
    · simp only [if_pos hd0] at hr ⊢
      subst hr
      exact ⟨s1, rfl, by simpa using h1⟩
    · simp only [if_neg hd0] at hr ⊢
      exact append_ok hp h1 rfl rfl (Nat.lt_succ_self n) file.data r hr
        (fun x hx => a1.items x (List.mem_append_left _ (List.mem_append_right _ hx))) (fproto_prefix a1.proto)
  obtain ⟨s3, hsy, h3⟩ : ∃ s3, (if sy then sync P s2 else .ok s2) = .ok s3 ∧
      At P 0 r.1 s3 (front ++ r.2) (es ++ if file.data.length = 0 then [] else [⟨n, .size file.data.length⟩]) (n + 1) := by
    cases sy with
    | false => exact ⟨s2, rfl, h2⟩
    | true => simpa using h2.sync hp
  obtain ⟨s', he, h'⟩ := endFile_ok hp h3 hrb (fun x hx => a1.items x (List.mem_append_right _ hx)) a1.proto
  refine ⟨s', feEnd r.1, _, ?_, hf, by rw [← List.append_assoc]; exact h', rfl, rfl⟩
  unfold packFile
  rw [hb]
  dsimp only
  rw [hap]
  dsimp only
  rw [hsy]
  exact he

end Sqfs.BlockProc
