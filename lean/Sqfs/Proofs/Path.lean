/-
C18: the functional model of `canonicalize_name` on the list of '/'-separated components.
`joinSlash (c :: r)` is `c` followed by every other component with a slash in front (`joinSlash_cons`); `splitSlash` is its
inverse on non-empty lists of slash-free components (`splitSlash_spec`, `splitSlash_joinSlash`).  Started and with a slash
pending, `normalize_slashes` puts one slash in front of every non-empty component (`normGo_join`); before anything is emitted
it does the same less that first slash (`normGo_false_eq`), which is `normalizeSlashes_eq`.  On a list of non-empty components
(`Norm`) the main loop refuses on ".." and otherwise leaves something of which the following `normalize_slashes` keeps the
components other than "." (`canonGo_join_abs`, `canonGo_join`: one induction for the second and third pass, since only what the
third pass makes of the main loop's output matters).  Independently of the components: every pass only deletes bytes (`normGo_sublist`,
`canonGo_sublist`).
-/
import Sqfs.Spec.Path
namespace Sqfs.Path

def SlashFree (c : Bytes) : Prop := SL ∉ c

theorem slashFree_cons {x : UInt8} {t : Bytes} : SlashFree (x :: t) ↔ x ≠ SL ∧ SlashFree t :=
  ⟨fun h => ⟨fun e => h (by simp [e]), fun m => h (List.mem_cons_of_mem _ m)⟩,
   fun ⟨hx, ht⟩ m => (List.mem_cons.1 m).elim (fun e => hx e.symm) ht⟩

theorem dot_ne_sl : (DOT : UInt8) ≠ SL := by decide

@[simp] theorem isNE_nil : isNE [] = false := rfl
theorem isNE_iff {c : Bytes} : isNE c = true ↔ c ≠ [] := by
  cases c <;> simp [isNE]
theorem isNE_of_ne {c : Bytes} (h : c ≠ []) : isNE c = true := isNE_iff.2 h
theorem notDot_iff {c : Bytes} : notDot c = true ↔ c ≠ [DOT] := by
  simp [notDot]

theorem keep_iff {c : Bytes} : keep c = true ↔ c ≠ [] ∧ c ≠ [DOT] := by
  rw [keep, Bool.and_eq_true, isNE_iff, notDot_iff]

theorem joinSlash_cons (c : Bytes) (ks : List Bytes) : joinSlash (c :: ks) = c ++ ks.flatMap (SL :: ·) := by
  induction ks generalizing c with
  | nil => simp [joinSlash]
  | cons d r ih => rw [joinSlash, ih, List.flatMap_cons, List.cons_append]

theorem joinSlash_eq_tail (ks : List Bytes) : joinSlash ks = (ks.flatMap (SL :: ·)).tail := by
  cases ks with
  | nil => rfl
  | cons c r => rw [joinSlash_cons]; rfl

theorem joinSlash_ne_nil {comps : List Bytes} (hne : comps ≠ []) (h : ∀ c ∈ comps, c ≠ []) : joinSlash comps ≠ [] := by
  obtain ⟨c, r, rfl⟩ := List.exists_cons_of_ne_nil hne
  rw [joinSlash_cons]
  exact List.append_ne_nil_of_left_ne_nil (h c (List.mem_cons_self ..)) _

theorem mem_joinSlash {ps : List Bytes} {x : UInt8} (hx : x ∈ joinSlash ps) : x = SL ∨ ∃ c ∈ ps, x ∈ c := by
  cases ps with
  | nil => cases hx
  | cons c r =>
    rw [joinSlash_cons, List.mem_append, List.mem_flatMap] at hx
    rcases hx with hx | ⟨d, hd, hx⟩
    · exact .inr ⟨c, List.mem_cons_self .., hx⟩
    · exact (List.mem_cons.1 hx).imp id fun h => ⟨d, List.mem_cons_of_mem _ hd, h⟩

theorem splitSlash_ne_nil (s : Bytes) : splitSlash s ≠ [] := by
  cases s with
  | nil => simp [splitSlash]
  | cons c t =>
    unfold splitSlash
    split
    · simp
    · split <;> simp

theorem splitSlash_slash (t : Bytes) : splitSlash (SL :: t) = [] :: splitSlash t := by
  rw [splitSlash, if_pos rfl]

theorem splitSlash_cons_ne {x : UInt8} (hx : x ≠ SL) (t : Bytes) :
    ∃ a r, splitSlash t = a :: r ∧ splitSlash (x :: t) = (x :: a) :: r := by
  obtain ⟨a, r, h⟩ := List.exists_cons_of_ne_nil (splitSlash_ne_nil t)
  exact ⟨a, r, h, by rw [splitSlash, if_neg hx, h]⟩

theorem splitSlash_slashFree {c : Bytes} (h : SlashFree c) : splitSlash c = [c] := by
  induction c with
  | nil => rfl
  | cons x t ih =>
    obtain ⟨hx, ht⟩ := slashFree_cons.1 h
    obtain ⟨a, r, e, e'⟩ := splitSlash_cons_ne hx t
    cases (ih ht).symm.trans e
    exact e'

theorem splitSlash_at_slash (a b : Bytes) : splitSlash (a ++ SL :: b) = splitSlash a ++ splitSlash b := by
  induction a with
  | nil => exact splitSlash_slash b
  | cons x a ih =>
    by_cases hx : x = SL
    · subst hx; rw [List.cons_append, splitSlash_slash, splitSlash_slash, ih, List.cons_append]
    · obtain ⟨h, r, e, e'⟩ := splitSlash_cons_ne hx a
      rw [List.cons_append, splitSlash, if_neg hx, ih, e, e']; rfl

theorem splitSlash_append {c : Bytes} (h : SlashFree c) (rest : Bytes) :
    splitSlash (c ++ SL :: rest) = c :: splitSlash rest := by
  rw [splitSlash_at_slash, splitSlash_slashFree h, List.singleton_append]

theorem splitSlash_spec (s : Bytes) :
    (∀ c ∈ splitSlash s, SlashFree c) ∧ joinSlash (splitSlash s) = s := by
  induction s with
  | nil => exact ⟨fun c hc => by cases List.mem_singleton.1 hc; exact List.not_mem_nil, rfl⟩
  | cons x t ih =>
    by_cases hx : x = SL
    · subst hx
      rw [splitSlash_slash]
      obtain ⟨a, r, h⟩ := List.exists_cons_of_ne_nil (splitSlash_ne_nil t)
      refine ⟨List.forall_mem_cons.2 ⟨List.not_mem_nil, ih.1⟩, ?_⟩
      rw [h, joinSlash, List.nil_append, ← h, ih.2]
    · obtain ⟨a, r, h, h'⟩ := splitSlash_cons_ne hx t
      rw [h] at ih
      rw [h']
      refine ⟨List.forall_mem_cons.2 ⟨slashFree_cons.2 ⟨hx, ih.1 a (List.mem_cons_self ..)⟩,
        fun c hc => ih.1 c (List.mem_cons_of_mem _ hc)⟩, ?_⟩
      rw [joinSlash_cons, List.cons_append, ← joinSlash_cons, ih.2]

theorem splitSlash_joinSlash (ks : List Bytes) (hne : ks ≠ [])
    (hsf : ∀ c ∈ ks, SlashFree c) : splitSlash (joinSlash ks) = ks := by
  fun_induction joinSlash ks with
  | case1 => exact absurd rfl hne
  | case2 c => exact splitSlash_slashFree (hsf c (List.mem_cons_self ..))
  | case3 c d r ih =>
    rw [splitSlash_append (hsf c (List.mem_cons_self ..)), ih (List.cons_ne_nil _ _) fun x hx => hsf x (List.mem_cons_of_mem _ hx)]

theorem specCanon_of_nodots {s : Bytes} (h : ∀ c ∈ splitSlash s, c ≠ [DOT] ∧ c ≠ [DOT, DOT]) :
    specCanon s = some (joinSlash ((splitSlash s).filter isNE)) := by
  have hno : ([DOT, DOT] : Bytes) ∉ splitSlash s := fun m => (h _ m).2 rfl
  unfold specCanon
  rw [if_neg hno, List.filter_congr fun c hc => by rw [keep, notDot_iff.2 (h c hc).1, Bool.and_true]]

theorem specCanon_of_clean {s : Bytes} (h : ∀ c ∈ splitSlash s, c ≠ [] ∧ c ≠ [DOT] ∧ c ≠ [DOT, DOT]) :
    specCanon s = some s := by
  rw [specCanon_of_nodots fun c hc => (h c hc).2, List.filter_eq_self.2 fun c hc => isNE_of_ne (h c hc).1, (splitSlash_spec s).2]

theorem specCanon_abs_join {cs : List Bytes} (hne : cs ≠ [])
    (h : ∀ c ∈ cs, c ≠ [] ∧ SlashFree c ∧ c ≠ [DOT] ∧ c ≠ [DOT, DOT]) :
    specCanon (SL :: joinSlash cs) = some (joinSlash cs) := by
  have hs : splitSlash (SL :: joinSlash cs) = [] :: cs := by
    rw [splitSlash_slash, splitSlash_joinSlash cs hne fun c hc => (h c hc).2.1]
  rw [specCanon_of_nodots, hs, List.filter_cons_of_neg (by decide),
    List.filter_eq_self.2 fun c hc => isNE_of_ne (h c hc).1]
  rw [hs]
  exact List.forall_mem_cons.2 ⟨by decide, fun c hc => (h c hc).2.2⟩

theorem normGo_slash (st p : Bool) (rest : Bytes) :
    normGo st p (SL :: rest) = normGo st true rest := by
  simp [normGo]

theorem normGo_cons_ne {c : UInt8} (hc : c ≠ SL) (st p : Bool) (t : Bytes) :
    normGo st p (c :: t) = (if st && p then [SL] else []) ++ c :: normGo true false t := by
  rw [normGo, if_neg hc]
  split <;> rfl

theorem normGo_copy {c : Bytes} (h : SlashFree c) (rest : Bytes) :
    normGo true false (c ++ rest) = c ++ normGo true false rest := by
  induction c with
  | nil => rfl
  | cons x t ih =>
    obtain ⟨hx, ht⟩ := slashFree_cons.1 h
    rw [List.cons_append, normGo_cons_ne hx, ih ht]; rfl

theorem normGo_comp {c : Bytes} (h : SlashFree c) (hne : c ≠ []) (st p : Bool) (rest : Bytes) :
    normGo st p (c ++ rest) = (if st && p then [SL] else []) ++ c ++ normGo true false rest := by
  obtain ⟨x, t, rfl⟩ := List.exists_cons_of_ne_nil hne
  obtain ⟨hx, ht⟩ := slashFree_cons.1 h
  rw [List.cons_append, normGo_cons_ne hx, normGo_copy ht, List.append_assoc, List.cons_append]

theorem normGo_false_eq (p : Bool) (s : Bytes) : normGo false p s = (normGo true true s).tail := by
  induction s generalizing p with
  | nil => rfl
  | cons c t ih =>
    by_cases hc : c = SL
    · subst hc; rw [normGo_slash, normGo_slash, ih]
    · rw [normGo_cons_ne hc, normGo_cons_ne hc]; rfl

theorem normGo_join (cs : List Bytes) (hsf : ∀ c ∈ cs, SlashFree c) :
    normGo true true (joinSlash cs) = (cs.filter isNE).flatMap (SL :: ·) := by
  fun_induction joinSlash cs with
  | case1 => rfl
  | case2 c =>
    by_cases hc : c = []
    · subst hc; rfl
    · have h : normGo true true c = SL :: c := by
        simpa [normGo] using normGo_comp (hsf c (List.mem_cons_self ..)) hc true true []
      rw [h, List.filter_cons_of_pos (isNE_of_ne hc)]
      simp
  | case3 c d r ih =>
    have ih := ih fun x hx => hsf x (List.mem_cons_of_mem _ hx)
    by_cases hc : c = []
    · subst hc; rw [List.nil_append, normGo_slash, ih]; rfl
    · rw [normGo_comp (hsf c (List.mem_cons_self ..)) hc, normGo_slash, ih, List.filter_cons_of_pos (isNE_of_ne hc)]
      simp

theorem normalizeSlashes_eq (s : Bytes) :
    normalizeSlashes s = joinSlash ((splitSlash s).filter isNE) := by
  rw [normalizeSlashes, normGo_false_eq, joinSlash_eq_tail, ← normGo_join _ (splitSlash_spec s).1, (splitSlash_spec s).2]

/-- `normalize_slashes` only deletes bytes, a pending slash being one of those it has read -/
theorem normGo_sublist (st p : Bool) (s : Bytes) :
    (normGo st p s).Sublist (if st && p then SL :: s else s) := by
  induction s generalizing st p with
  | nil => simp [normGo]
  | cons c t ih =>
    by_cases hc : c = SL
    · -- the slash is dropped or stays pending: either way the bound of `ih` embeds into the longer one
      subst hc
      rw [normGo_slash]
      refine (ih st true).trans ?_
      cases st <;> cases p <;> simp
    · rw [normGo_cons_ne hc]
      have h : (c :: normGo true false t).Sublist (c :: t) := (ih true false).cons_cons c
      by_cases hp : (st && p) = true
      · rw [if_pos hp, if_pos hp]; exact h.cons_cons SL
      · rw [if_neg hp, if_neg hp]; exact h

theorem canonGo_false_cons (c : UInt8) (t : Bytes) :
    canonGo false (c :: t) = (canonGo (decide (c = SL)) t).map (c :: ·) := by
  by_cases h : c = SL <;> simp [canonGo, h]

theorem canonGo_dotslash (rest : Bytes) : canonGo true (DOT :: SL :: rest) = canonGo true rest := by
  cases rest <;> simp [canonGo]

theorem canonGo_dotdotslash (rest : Bytes) : canonGo true (DOT :: DOT :: SL :: rest) = none := by
  simp [canonGo, dot_ne_sl]

theorem canonGo_true_plain1 {c0 : UInt8} (h : c0 ≠ DOT) (t : Bytes) :
    canonGo true (c0 :: t) = canonGo false (c0 :: t) := by
  match t with
  | [] => simp [canonGo, h]
  | [d] => simp [canonGo, h]
  | d :: e :: t' => simp [canonGo, h]

theorem canonGo_true_plain2 {c1 : UInt8} (h1 : c1 ≠ SL) (h2 : c1 ≠ DOT) (t : Bytes) :
    canonGo true (DOT :: c1 :: t) = canonGo false (DOT :: c1 :: t) := by
  match t with
  | [] => simp [canonGo, h1, h2, dot_ne_sl]
  | d :: t' => simp [canonGo, h1, h2, dot_ne_sl]

theorem canonGo_true_plain3 {c2 : UInt8} (h : c2 ≠ SL) (t : Bytes) :
    canonGo true (DOT :: DOT :: c2 :: t) = canonGo false (DOT :: DOT :: c2 :: t) := by
  simp [canonGo, h, dot_ne_sl]

/-- what the top of the outer loop does, for proofs that do not care which bytes it looked at: go to the copy
loop, fail, stop, or skip "./" -/
theorem canonGo_true_cases (u : Bytes) :
    canonGo true u = canonGo false u ∨ canonGo true u = none ∨ canonGo true u = some [] ∨
      ∃ rest, u = DOT :: SL :: rest ∧ canonGo true u = canonGo true rest := by
  match u with
  | [] => exact .inl rfl
  | c0 :: t =>
    by_cases h0 : c0 = DOT
    · subst h0
      match t with
      | [] => exact .inr (.inr (.inl rfl))
      | c1 :: t =>
        by_cases hs : c1 = SL
        · subst hs; exact .inr (.inr (.inr ⟨t, rfl, canonGo_dotslash t⟩))
        · by_cases h1 : c1 = DOT
          · subst h1
            match t with
            | [] => exact .inr (.inl rfl)
            | c2 :: t =>
              by_cases h2 : c2 = SL
              · subst h2; exact .inr (.inl (canonGo_dotdotslash t))
              · exact .inl (canonGo_true_plain3 h2 t)
          · exact .inl (canonGo_true_plain2 hs h1 t)
    · exact .inl (canonGo_true_plain1 h0 t)

/-- induction on the length, because "./" skips two bytes at once -/
theorem canonGo_sublist {u r : Bytes} (b : Bool) (h : canonGo b u = some r) : r.Sublist u := by
  suffices ∀ (n : Nat) (u : Bytes), u.length ≤ n → ∀ (b : Bool) (r : Bytes), canonGo b u = some r → r.Sublist u from
    this u.length u (Nat.le_refl _) b r h
  clear h
  intro n
  induction n with
  | zero =>
    intro u hn b r h
    obtain rfl : u = [] := List.eq_nil_of_length_eq_zero (Nat.le_zero.1 hn)
    cases b <;> simp [canonGo] at h <;> simp [h]
  | succ n ih =>
    intro u hn b r h
    match u with
    | [] => cases b <;> simp [canonGo] at h <;> simp [h]
    | c :: t =>
      have hfalse : ∀ r, canonGo false (c :: t) = some r → r.Sublist (c :: t) := by
        intro r h
        rw [canonGo_false_cons] at h
        obtain ⟨r', h', rfl⟩ := Option.map_eq_some_iff.1 h
        exact (ih t (by simpa using hn) _ r' h').cons_cons c
      cases b with
      | false => exact hfalse r h
      | true =>
        rcases canonGo_true_cases (c :: t) with e | e | e | ⟨rest, hu, e⟩
        · exact hfalse r (e ▸ h)
        · rw [e] at h; cases h
        · rw [e] at h; cases h; exact List.nil_sublist _
        · rw [e] at h
          rw [hu]
          exact ((ih rest (by rw [hu] at hn; simp at hn; omega) true r h).cons _).cons _

theorem canonicalize_sublist {s r : Bytes} (h : canonicalize s = some r) : r.Sublist s := by
  unfold canonicalize at h
  obtain ⟨r2, hg, rfl⟩ := Option.map_eq_some_iff.1 h
  exact ((normGo_sublist false false r2).trans (canonGo_sublist true hg)).trans (normGo_sublist false false s)

theorem canonGo_copy {c : Bytes} (h : SlashFree c) (rest : Bytes) :
    canonGo false (c ++ rest) = (canonGo false rest).map (c ++ ·) := by
  induction c with
  | nil => simp
  | cons x t ih =>
    obtain ⟨hx, ht⟩ := slashFree_cons.1 h
    rw [List.cons_append, canonGo_false_cons, decide_eq_false hx, ih ht, Option.map_map]; rfl

theorem canonGo_start_plain {c : Bytes} (h : SlashFree c) (hne : c ≠ []) (hd : c ≠ [DOT]) (hdd : c ≠ [DOT, DOT])
    (tail : Bytes) :
    canonGo true (c ++ tail) = canonGo false (c ++ tail) := by
  match c with
  | [] => exact absurd rfl hne
  | [x] => exact canonGo_true_plain1 (fun e => hd (by rw [e])) _
  | x :: y :: t =>
    have hy : y ≠ SL := fun e => h (by simp [e])
    by_cases hx : x = DOT
    · subst hx
      by_cases hyd : y = DOT
      · subst hyd
        match t with
        | [] => exact absurd rfl hdd
        | z :: t' => exact canonGo_true_plain3 (fun e => h (by simp [e])) _
      · exact canonGo_true_plain2 hy hyd _
    · exact canonGo_true_plain1 hx _

/-- a list of non-empty, slash-free components: what `normalize_slashes` leaves -/
def Norm (ks : List Bytes) : Prop := ∀ c ∈ ks, SlashFree c ∧ c ≠ []

theorem norm_filter_split (s : Bytes) : Norm ((splitSlash s).filter isNE) := by
  intro c hc
  obtain ⟨h1, h2⟩ := List.mem_filter.1 hc
  exact ⟨(splitSlash_spec s).1 c h1, isNE_iff.1 h2⟩

theorem canonGo_join_abs (ks : List Bytes) (h : Norm ks) :
    (canonGo true (joinSlash ks)).map (normGo true true) =
      if [DOT, DOT] ∈ ks then none else some ((ks.filter notDot).flatMap (SL :: ·)) := by
  fun_induction joinSlash ks with
  | case1 => rfl
  | case2 c =>
    obtain ⟨hc, hcn⟩ := h c (List.mem_cons_self ..)
    by_cases hd : c = [DOT]
    · subst hd; rfl
    · by_cases hdd : c = [DOT, DOT]
      · subst hdd; rfl
      · have h1 : canonGo true c = some c := by
          simpa [canonGo] using (canonGo_start_plain hc hcn hd hdd []).trans (canonGo_copy hc [])
        have h2 : normGo true true c = SL :: c := by simpa [normGo] using normGo_comp hc hcn true true []
        rw [h1, Option.map_some, h2, if_neg (by simpa using Ne.symm hdd), List.filter_cons_of_pos (notDot_iff.2 hd)]
        simp
  | case3 c d r ih =>
    obtain ⟨hc, hcn⟩ := h c (List.mem_cons_self ..)
    have ih := ih fun x hx => h x (List.mem_cons_of_mem _ hx)
    by_cases hdd : c = [DOT, DOT]
    · subst hdd
      rw [show ([DOT, DOT] : Bytes) ++ SL :: joinSlash (d :: r) = DOT :: DOT :: SL :: joinSlash (d :: r) from rfl,
        canonGo_dotdotslash, if_pos (List.mem_cons_self ..)]; rfl
    · have hm : ([DOT, DOT] : Bytes) ∈ c :: d :: r ↔ [DOT, DOT] ∈ d :: r := by
        rw [List.mem_cons, or_iff_right (Ne.symm hdd)]
      simp only [hm]
      by_cases hd : c = [DOT]
      · subst hd
        rw [show ([DOT] : Bytes) ++ SL :: joinSlash (d :: r) = DOT :: SL :: joinSlash (d :: r) from rfl, canonGo_dotslash, ih,
          List.filter_cons_of_neg (show ¬notDot [DOT] = true by decide)]
      · have hn (o : Bytes) : normGo true true (c ++ SL :: o) = SL :: c ++ normGo true true o := by
          rw [normGo_comp hc hcn, normGo_slash]; rfl
        rw [canonGo_start_plain hc hcn hd hdd, canonGo_copy hc, canonGo_false_cons, decide_eq_true rfl,
          Option.map_map, Option.map_map,
          show (normGo true true ∘ (c ++ ·)) ∘ (SL :: ·) = (SL :: c ++ ·) ∘ normGo true true from funext hn,
          ← Option.map_map, ih, List.filter_cons_of_pos (notDot_iff.2 hd), List.flatMap_cons]
        split <;> rfl

theorem canonGo_join (ks : List Bytes) (h : Norm ks) :
    (canonGo true (joinSlash ks)).map normalizeSlashes =
      if [DOT, DOT] ∈ ks then none else some (joinSlash (ks.filter notDot)) := by
  rw [show normalizeSlashes = List.tail ∘ normGo true true from funext (normGo_false_eq false), ← Option.map_map,
    canonGo_join_abs ks h, apply_ite (Option.map _), Option.map_none, Option.map_some, joinSlash_eq_tail]

/-! ### the test vector the instances in `Sqfs/Props/C18.lean` share: "//a/./b//c/." → "a/b/c" -/

theorem vec_abc : canonicalize [47,47,97,47,46,47,98,47,47,99,47,46] = some [97,47,98,47,99] := by decide
theorem vec_abc_nul : (0 : UInt8) ∉ ([47,47,97,47,46,47,98,47,47,99,47,46] : Bytes) := by decide
theorem vec_abc_ne : ([97,47,98,47,99] : Bytes) ≠ [] := by decide

end Sqfs.Path
