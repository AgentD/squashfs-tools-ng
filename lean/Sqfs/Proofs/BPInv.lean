/-
C02: the invariant.

`PInv P s g held W` ties a reachable state `s` of the implementation model to the three passes of the reference
(`Spec/BlockProcSpec.lean`) run on the *history*: `g.front` are the blocks the front end has submitted so far,
`g.done` (worked) the ones the pool has handed back, `F = fRun … g.done` the fragment pass on exactly those, and the
writer pass on the first `io_deq_seq_num` blocks of `F.stream`.  Everything the state contains is a function of that
history, except *where* blocks currently wait (pool, `io_queue`) and where fragment-block bytes currently live
(in-flight copy, cache, output file) — and those only up to the facts listed here.
-/
import Sqfs.Proofs.BPFront
import Sqfs.Proofs.BlockWriter
namespace Sqfs.BlockProc
open Sqfs.Consts
open Sqfs.BlockWriter (hasFlag)

/-! ### the fragment pass -/

/-- flags of a fragment block before the pool works on it: `FRAGMENT_BLOCK`, possibly `| DONT_COMPRESS` -/
def FBRawFlags (f : Nat) : Prop := f = blkFragmentBlock ∨ f = blkFragmentBlock ||| blkDontCompress

/-- `b` is the worked form of a closed fragment block with content `d` -/
def FBWorked (P : Params) (b : Blk) (d : Bytes) : Prop :=
  ∃ fb : Blk, FBRawFlags fb.flags ∧ fb.data = d ∧ b = processBlock P fb

structure FInv (P : Params) (n : Nat) (done : List Blk) (F : FSt) : Prop where
  seqs : ∀ i (h : i < F.stream.length), (F.stream[i]).seq = i
  opn : ∀ fb, F.opn = some fb → FBRawFlags fb.flags ∧ fb.index < F.ntbl ∧ 0 < fb.data.length ∧ fb.data.length ≤ P.B ∧
          (∀ e ∈ F.closed, e.1 ≠ fb.index)
  closedNodup : (F.closed.map (·.1)).Nodup
  closedOK : ∀ e ∈ F.closed, e.1 < F.ntbl ∧ 0 < e.2.length ∧ e.2.length ≤ P.B
  chunks : ∀ c ∈ F.ht, ∃ blk, F.fragData c.index = some blk ∧ c.offset + c.size ≤ blk.length ∧ 0 < c.size
  /-- the fragment blocks of the stream are the closed blocks, oldest first -/
  fbIdx : (F.stream.filter isFB).map (·.index) = (F.closed.map (·.1)).reverse
  fbs : ∀ b ∈ F.stream, isFB b = true → ∃ d, (b.index, d) ∈ F.closed ∧ FBWorked P b d
  /-- the other blocks of the stream are items of `done`, numbered -/
  datas : ∀ b ∈ F.stream, isFB b = false → ∃ x ∈ done, isFrag x = false ∧ b = x.withSeq b.seq
  effIds : ∀ e ∈ F.effs, e.id < n
  effProv : ∀ e ∈ F.effs, (∃ i o, e.e = .fragLoc i o) ∨
              (∃ k m x, e.e = .sparse k m ∧ x ∈ done ∧ isFrag x = true ∧ x.inode = some e.id ∧ x.index = k)
  proto : sproto false F.stream = true
  opened : F.stream.foldl bOpen false = done.foldl fOpen false

/-! ### the writer pass -/

/-- what the block writer's invariant (Proofs/BlockWriter.lean) gives for the blocks `written` so far -/
structure WInv (P : Params) (written : List Blk) (W : WSt) : Prop where
  inv : ∃ ps acc recs loose, BlockWriter.Inv P.pre W.wr ps (written.foldl bOpen false) acc recs loose ∧
          ∀ b ∈ written, isFB b = true →
            ∃ loc, (b.index, loc, sizeWord b) ∈ W.sets ∧ (⟨loc, [⟨sizeWord b, b.chk, b.data⟩]⟩ : BlockWriter.Rec) ∈ recs
  setsIdx : W.sets.map (·.1) = (written.filter isFB).map (·.index)
  effProv : ∀ e ∈ W.effs, (∃ loc, e.e = .start loc) ∨ (∃ k m, e.e = .sparse k m) ∨
              (∃ k v y, e.e = .word k v ∧ y ∈ written ∧ isFB y = false ∧ y.data ≠ [] ∧ y.inode = some e.id ∧ y.index = k)
  effIds : ∀ e ∈ W.effs, ∃ y ∈ written, isFB y = false ∧ y.inode = some e.id

/-! ### the state -/

structure Ghost where
  /-- blocks the front end has submitted so far, as submitted -/
  front : List Blk := []
  /-- worked front-end blocks the pool has handed back -/
  done : List Blk := []
  /-- worked front-end blocks still inside the pool -/
  pend : List Blk := []
  /-- everything inside the pool, FIFO: `pend` interleaved with closed fragment blocks -/
  items : List Blk := []
  /-- `finish` has closed the last fragment block -/
  fin : Bool := false
  /-- `size` updates so far -/
  fe : List Eff := []
  /-- all inode updates in the order the implementation applied them, and its fragment/writer part -/
  h : List Eff := []
  m : List Eff := []

def Ghost.F (P : Params) (g : Ghost) : FSt :=
  if g.fin then (fRun P {} g.done).close P else fRun P {} g.done

def boolNat (b : Bool) : Nat := if b then 1 else 0

/-- everything except the front end's own fields and the backlog counter; `F` is the fragment pass so far and `W` the
writer pass on the first `io_deq_seq_num` blocks of its stream -/
structure Back (P : Params) (s : Proc) (g : Ghost) (F : FSt) (W : WSt) : Prop where
  maxBacklog : 3 ≤ s.maxBacklog
  -- pool and queues
  pool : PoolOk s.pool g.items
  pend : g.items.filter (fun b => !isFB b) = g.pend
  worked : g.done ++ g.pend = g.front.map (processBlock P)
  deqLe : s.ioDeqSeqNum ≤ F.stream.length
  queue : (s.ioQueue ++ g.items.filter isFB).Perm (F.stream.drop s.ioDeqSeqNum)
  sorted : s.ioQueue.Pairwise (fun a b => a.seq < b.seq)
  -- what the front end submitted
  itemsOK : ∀ x ∈ g.front, ItemOK P.B s.w.inodes.length x
  fprotoOK : fproto false g.front = true
  -- fragment pass
  finv : FInv P s.w.inodes.length g.done F
  fragBlock : s.fragBlock = F.opn
  fragHt : s.fragHt = F.ht
  ioSeq : s.ioSeqNum = F.stream.length
  -- writer pass
  wrun : wRun { wr := BlockWriter.init P.pre } (F.stream.take s.ioDeqSeqNum) = .ok W
  winv : WInv P (F.stream.take s.ioDeqSeqNum) W
  wr : s.w.wr = W.wr
  calls : s.w.calls = W.calls
  fragTbl : s.w.fragTbl = applySets (List.replicate F.ntbl (0, 0)) W.sets
  inodes : s.w.inodes = applyEffs (List.replicate s.w.inodes.length {}) g.h
  mergeH : Merge g.h g.fe g.m
  mergeM : Merge g.m F.effs W.effs
  feIds : ∀ e ∈ g.fe, e.id < s.w.inodes.length ∧ ∃ k, e.e = .size k
  -- where fragment-block bytes live
  inFlSub : ∀ e ∈ s.fblkInFlight, e ∈ F.closed
  inFlNodup : (s.fblkInFlight.map (·.1)).Nodup
  inFlAll : P.byteCompare = true → ∀ b ∈ F.stream.drop s.ioDeqSeqNum, isFB b = true → b.index ∈ s.fblkInFlight.map (·.1)
  inFlNone : P.byteCompare = false → s.fblkInFlight = []
  cache : ∀ ci cd, s.cachedFragBlk = some (ci, cd) → (ci, cd) ∈ F.closed

/-- `backlog` counts the blocks inside the pool, in `io_queue`, the open fragment block, and `k` more
(`blk_current`, a block just obtained from `get_new_block`, a block just taken back from the pool) -/
def Acct (s : Proc) (g : Ghost) (k : Nat) : Prop :=
  s.backlog = g.items.length + s.ioQueue.length + boolNat s.fragBlock.isSome + k

/-- the invariant of the implementation model between two primitive steps; `held` = blocks the front end has
obtained from `get_new_block` and not yet stored in `blk_current` or submitted.  (What is known of the blocks submitted
so far, `Acc P.B s.w.inodes.length g.front false` between two files, is carried next to it: it is a fact about the pure
front end, and draining the pool does not touch it.) -/
structure PInv (P : Params) (s : Proc) (g : Ghost) (held : Nat) (W : WSt) : Prop where
  back : Back P s g (g.F P) W
  acct : Acct s g (boolNat s.blkCurrent.isSome + held)
  finNoPend : g.fin = true → g.pend = []

end Sqfs.BlockProc
