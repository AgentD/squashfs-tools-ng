/-
Helper lemmas for the call-stream part of C08 (`Model/C08Stream.lean`).

One invariant, `Inv`, is carried through one walk over the events (`step_cases`: which branch an event takes; `Keeps`: a
successful event keeps the invariant, and a failing one has been refused, once the codec has the round-trip contract, `Hyp`
holds and `B < 2^24`: then the writer, the fragment model and the consistency test of `completeBlock` do not fail).  `Inv` says:
1. Numbering and protocol (`len`, `deq`, `calls`, `queue`, `poolfb`, `wfn`, `opn`, `fe`): the blocks that have been given an
   I/O sequence number, in that order (the ghost list `n`), form a call sequence obeying `wfS`, and what the front end has
   handed over but the back end has not yet numbered (`front`) continues it correctly (`feOk`): tail ends (`IS_FRAGMENT`)
   only come between files.  Since a fragment block is numbered exactly when a tail end is dequeued (or at `finish`, with
   everything drained), it falls between files.  `write_data_block` is called in sequence-number order, so the calls made
   so far are a prefix of `n`.
2. The writer (`bwrun`, `lens`, `link`, `tbl`): its state is the result of running `BlockWriter.run` on the calls made so
   far, and every fragment block the fragment model holds as `written stored` was written by one of those calls, whose
   returned location is what the fragment table records (`Linked`).
3. `PInv` (`pi`), stated on the numbered blocks not yet written, so moving a block from the pool to the I/O queue does not
   concern it.
4. The fragment model (`frun`, `fok`, `goodF`): the fragment events generated so far are a run of it (tail ends are never
   empty).
5. Sizes (`pool`, `pend`, `num`, `goodS`), the one part that needs `Hyp` (the codec's output fits the block size, which is
   positive; 1-4 hold for every codec and block size): no block exceeds the block size.
-/
import Sqfs.Model.C08Stream
import Sqfs.Proofs.ListFacts
import Sqfs.Proofs.BlockWriter
import Sqfs.Proofs.C08FragStruct
namespace Sqfs.C08Stream
open Sqfs.Consts
open Sqfs.BlockWriter (hasFlag Call wfS nextOpened wfS_append wfS_prefix)

variable {codec : Codec} {h : Bytes → UInt32} {B : Nat}

theorem hasFlag_or {f a c : Nat} (h : a &&& c = 0) : hasFlag (f ||| a) c = hasFlag f c := by
  unfold hasFlag
  rw [Nat.and_or_distrib_right, h, Nat.or_zero]

theorem hasFlag_clear {f c : Nat} (h : (0xFFFFFFFF ^^^ blkFlagInternal) &&& c = c) :
    hasFlag (clearFlag f blkFlagInternal) c = hasFlag f c := by
  unfold hasFlag clearFlag
  rw [Nat.and_assoc, h]

theorem hasFlag_or_false {f a b : Nat} (h : hasFlag f (a ||| b) = false) : hasFlag f a = false := by
  unfold hasFlag at h ⊢
  rw [Nat.and_comm, Nat.or_and_bne_zero, Bool.or_eq_false_iff] at h
  rw [Nat.and_comm]; exact h.1

/-- the bits of a block's flags that decide how the main thread treats it -/
structure Kind where
  first : Bool
  last : Bool
  isFrag : Bool
  fragBlk : Bool
  internal : Bool

def kindOf (flags : Nat) : Kind :=
  ⟨hasFlag flags blkFirstBlock, hasFlag flags blkLastBlock, hasFlag flags blkIsFragment,
   hasFlag flags blkFragmentBlock, hasFlag flags blkFlagInternal⟩

def Blk.kind (b : Blk) : Kind := kindOf b.flags

abbrev NoKind (a : Nat) : Prop :=
  a &&& blkFirstBlock = 0 ∧ a &&& blkLastBlock = 0 ∧ a &&& blkIsFragment = 0 ∧ a &&& blkFragmentBlock = 0 ∧
    a &&& blkFlagInternal = 0

theorem kindOf_or (f a : Nat) (h : NoKind a) : kindOf (f ||| a) = kindOf f := by
  obtain ⟨h1, h2, h3, h4, h5⟩ := h
  simp only [kindOf, hasFlag_or h1, hasFlag_or h2, hasFlag_or h3, hasFlag_or h4,
    hasFlag_or h5]

theorem NoKind_user (uf : Nat) (h : uf < 32) : NoKind uf := by
  refine ⟨Nat.and_two_pow_of_lt (i := 11) ?_, Nat.and_two_pow_of_lt (i := 12) ?_, Nat.and_two_pow_of_lt (i := 13) ?_,
    Nat.and_two_pow_of_lt (i := 14) ?_, Nat.and_two_pow_of_lt (i := 28) ?_⟩ <;> omega

theorem kindOf_user (uf x : Nat) (h : uf < 32) : kindOf (uf ||| x) = kindOf x := by
  rw [Nat.or_comm]; exact kindOf_or x uf (NoKind_user uf h)

theorem processBlock_cases (codec : Codec) (h : Bytes → UInt32) (b : Blk) :
    processBlock codec h b = b ∨ processBlock codec h b = { b with flags := b.flags ||| blkIsSparse } ∨
    (∃ chk, processBlock codec h b = { b with chk := chk }) ∨
    (∃ chk z, codec.cmp b.data = some z ∧ hasFlag b.flags (blkIsFragment ||| blkDontCompress) = false ∧
      processBlock codec h b = { b with chk := chk, data := z, flags := b.flags ||| blkIsCompressed }) := by
  fun_cases processBlock codec h b
  · exact Or.inl rfl
  · exact Or.inr (Or.inl rfl)
  · exact Or.inr (Or.inr (Or.inl ⟨_, rfl⟩))
  · rename_i hnf z hz
    exact Or.inr (Or.inr (Or.inr ⟨_, z, hz, by simpa using hnf, rfl⟩))
  · exact Or.inr (Or.inr (Or.inl ⟨_, rfl⟩))

theorem processBlock_kind (codec : Codec) (h : Bytes → UInt32) (b : Blk) :
    (processBlock codec h b).kind = b.kind ∧ (processBlock codec h b).seq = b.seq ∧
      (processBlock codec h b).index = b.index := by
  rcases processBlock_cases codec h b with e | e | ⟨_, e⟩ | ⟨_, _, _, _, e⟩ <;> rw [e]
  · exact ⟨rfl, rfl, rfl⟩
  · exact ⟨kindOf_or _ _ (by decide), rfl, rfl⟩
  · exact ⟨rfl, rfl, rfl⟩
  · exact ⟨kindOf_or _ _ (by decide), rfl, rfl⟩

theorem processBlock_data (codec : Codec) (h : Bytes → UInt32) (b : Blk) :
    (processBlock codec h b).data = b.data ∨
      (∃ z, codec.cmp b.data = some z ∧ (processBlock codec h b).data = z ∧ b.kind.isFrag = false) := by
  rcases processBlock_cases codec h b with e | e | ⟨_, e⟩ | ⟨_, z, hz, hnf, e⟩ <;> rw [e]
  · exact Or.inl rfl
  · exact Or.inl rfl
  · exact Or.inl rfl
  · exact Or.inr ⟨z, hz, rfl, hasFlag_or_false hnf⟩

/-- the `write_data_block` call made for a block -/
def Blk.call (b : Blk) : Call := ⟨b.chk, clearFlag b.flags blkFlagInternal, b.data⟩

theorem call_first (b : Blk) : b.call.first = b.kind.first := hasFlag_clear (by decide)
theorem call_last (b : Blk) : b.call.last = b.kind.last := hasFlag_clear (by decide)
theorem call_fragBlk (b : Blk) : b.call.fragBlk = b.kind.fragBlk := hasFlag_clear (by decide)

/-- `o` = a file is open after the numbered blocks; the list = the kinds of the blocks still to be numbered (`front`).
A tail end (`IS_FRAGMENT`) is never written itself; it marks the only places where a fragment block can be numbered, and
those must lie outside every file.  Data blocks continue the `FIRST … LAST` protocol and are no fragment blocks.  At the
end every file is closed. -/
def feOk : Bool → List Kind → Bool
  | o, [] => !o
  | o, k :: r =>
    if k.isFrag then !o && feOk false r
    else !k.fragBlk && (if k.last then (o || k.first) && feOk false r else feOk (o || k.first) r)

theorem feOk_append : ∀ {xs ys : List Kind} {o : Bool}, feOk o xs = true → feOk false ys = true →
    feOk o (xs ++ ys) = true := by
  intro xs
  induction xs with
  | nil =>
    intro ys o h1 h2
    simp only [feOk, Bool.not_eq_true'] at h1
    subst h1; exact h2
  | cons k r ih =>
    intro ys o h1 h2
    simp only [List.cons_append, feOk] at h1 ⊢
    cases hf : k.isFrag <;> cases hl : k.last <;>
      simp only [hf, hl, if_true, if_false, Bool.false_eq_true, Bool.and_eq_true] at h1 ⊢
    · exact ⟨h1.1, ih h1.2 h2⟩
    · exact ⟨h1.1, h1.2.1, ih h1.2.2 h2⟩
    · exact ⟨h1.1, ih h1.2 h2⟩
    · exact ⟨h1.1, ih h1.2 h2⟩

/-- an item the back end treats as a fragment block coming back from the pool (backend.c:324-335) -/
def Kind.isFB (k : Kind) : Bool := !k.isFrag && k.fragBlk && !k.internal

theorem isFB_of_not_isFrag {k : Kind} (h : k.isFrag = false) : k.isFB = !(!k.fragBlk || k.internal) := by
  cases hf : k.fragBlk <;> cases hi : k.internal <;> simp [Kind.isFB, h, hf, hi]

theorem feOk_noFB : ∀ {ks : List Kind} {o : Bool}, feOk o ks = true → ∀ k ∈ ks, k.isFB = false := by
  intro ks
  induction ks with
  | nil => intro _ _ k hk; cases hk
  | cons k r ih =>
    intro o h k' hk'
    unfold feOk at h
    have hk : k.isFB = false ∧ ∃ o', feOk o' r = true := by
      cases hf : k.isFrag <;> cases hl : k.last <;>
        simp only [hf, hl, if_true, if_false, Bool.false_eq_true, Bool.and_eq_true, Bool.not_eq_true'] at h
      · exact ⟨by simp [Kind.isFB, h.1], _, h.2⟩
      · exact ⟨by simp [Kind.isFB, h.1], _, h.2.2⟩
      · exact ⟨by simp [Kind.isFB, hf], _, h.2⟩
      · exact ⟨by simp [Kind.isFB, hf], _, h.2⟩
    rcases List.mem_cons.1 hk' with rfl | hm
    · exact hk.1
    · obtain ⟨o', ho'⟩ := hk.2
      exact ih ho' k' hm

theorem kind_user (uf x : Nat) (d : Bytes) (h : uf < 32) : Blk.kind { flags := uf ||| x, data := d } = kindOf x :=
  kindOf_user uf x h

theorem kind_full (uf : Nat) (first : Bool) (d : Bytes) (h : uf < 32) :
    Blk.kind { flags := if first = true then uf ||| blkFirstBlock else uf, data := d } = ⟨first, false, false, false, false⟩ := by
  cases first
  · have := kindOf_user uf 0 h
    rwa [Nat.or_zero] at this
  · exact kindOf_user uf _ h

theorem feOk_full (B uf : Nat) (data : Bytes) (huf : uf < 32) : ∀ (k off : Nat) (first o : Bool) (rest : List Kind),
    feOk o ((fullBlocks B uf data k off first).map Blk.kind ++ rest)
      = feOk (if k = 0 then o else o || first) rest := by
  intro k
  induction k with
  | zero => intro off first o rest; rfl
  | succ k ih =>
    intro off first o rest
    simp only [fullBlocks, List.map_cons, List.cons_append, kind_full uf first _ huf, feOk, Bool.false_eq_true,
      if_false, Bool.not_false, Bool.true_and, ih]
    cases k <;> simp

theorem feOk_fileBlocks (B uf : Nat) (data : Bytes) (huf : uf < 32) :
    feOk false ((fileBlocks B uf data).map Blk.kind) = true := by
  unfold fileBlocks
  simp only []
  generalize data.length / B = n
  -- after the full blocks a file is open iff there was one
  have hfull : ∀ rest, feOk false ((fullBlocks B uf data n 0 true).map Blk.kind ++ rest)
      = feOk (decide (n ≠ 0)) rest := by
    intro rest
    rw [feOk_full B uf data huf]
    cases n <;> simp
  have hsent : Blk.kind { flags := uf ||| blkLastBlock } = ⟨false, true, false, false, false⟩ := kindOf_user uf _ huf
  by_cases ht : (List.drop (n * B) data).length = 0
  · rw [if_pos ht, List.map_append, hfull]
    cases n <;> simp [feOk, hsent]
  · rw [if_neg ht]
    by_cases hdf : hasFlag uf blkDontFragment = true
    · rw [if_pos hdf, List.map_append, hfull]
      cases n
      · simp only [if_true, List.map_cons, List.map_nil, Nat.or_assoc, kind_user uf _ _ huf]; rfl
      · simp only [Nat.succ_ne_zero, if_false, List.map_cons, List.map_nil, kind_user uf _ _ huf]; rfl
    · rw [if_neg hdf, List.append_assoc, List.map_append, hfull]
      cases n
      · simp only [if_true, List.nil_append, List.map_cons, List.map_nil, Nat.or_assoc, kind_user uf _ _ huf]; rfl
      · simp only [Nat.succ_ne_zero, if_false, List.map_append, List.map_cons, List.map_nil, kind_user uf _ _ huf]
        rfl

theorem mem_of_eq_cons {α} {l rest : List α} {a : α} (h : l = a :: rest) : a ∈ l := h ▸ List.mem_cons_self ..

theorem forall_mem_tail {α} {P : α → Prop} {l rest : List α} {a : α} (hl : ∀ x ∈ l, P x) (h : l = a :: rest) :
    ∀ x ∈ rest, P x := fun x hx => hl x (h ▸ List.mem_cons_of_mem _ hx)

theorem mem_storeIo (b : Blk) : ∀ (l : List Blk) (x : Blk), x ∈ storeIo b l → x = b ∨ x ∈ l := by
  intro l
  induction l with
  | nil => intro x hx; simp [storeIo] at hx; exact Or.inl hx
  | cons y t ih =>
    intro x hx
    unfold storeIo at hx
    split at hx
    · rcases List.mem_cons.1 hx with h | h
      · exact Or.inr (h ▸ List.mem_cons_self ..)
      · rcases ih x h with h2 | h2
        · exact Or.inl h2
        · exact Or.inr (List.mem_cons_of_mem _ h2)
    · rcases List.mem_cons.1 hx with h | h
      · exact Or.inl h
      · exact Or.inr h

theorem forall_mem_storeIo {P : Blk → Prop} {b : Blk} {l : List Blk} (hb : P b) (hl : ∀ x ∈ l, P x) :
    ∀ x ∈ storeIo b l, P x := by
  intro x hx
  rcases mem_storeIo b l x hx with rfl | hm
  · exact hb
  · exact hl x hm

/-- the state after `process_completed_fragment` has answered `r`, before a closed block is enqueued -/
def afterFrag (s : State) (frag : Blk) (r : FragDedup.Res) (fd' : FragDedup.State) : State :=
  { s with fd := fd', fragTbl := growTbl s.fragTbl fd'.blocks.length,
           fevs := s.fevs ++ [.frag frag.data frag.flags], fres := s.fres ++ [some r] }

/-- the state after `finish` has closed the open fragment block, before the block is enqueued -/
def afterFinish (s : State) : State :=
  { s with fd := FragDedup.closeOpen s.fd, fevs := s.fevs ++ [.finish], fres := s.fres ++ [none] }

theorem completeBlock_ok {s s' : State} {b : Blk} {out : Out}
    (h : completeBlock codec s b = .ok (s', out)) :
    ∃ bw' loc, BlockWriter.writeDataBlock s.bw b.call.chk b.call.flags b.call.data = .ok (bw', loc) ∧
      ((b.kind.fragBlk = false ∧ s' = { s with bw := bw', calls := s.calls ++ [b.call], locs := s.locs ++ [loc] }) ∨
       (b.kind.fragBlk = true ∧ ∃ fd' x y, FragDedup.blockWritten codec s.fd b.index = .ok fd' ∧
          fd'.blocks[b.index]? = some ⟨x, .written b.data (hasFlag b.flags blkIsCompressed), y⟩ ∧
          hasFlag b.flags blkIsSparse = false ∧
          s' = { s with bw := bw', calls := s.calls ++ [b.call], locs := s.locs ++ [loc], fd := fd',
                        fevs := s.fevs ++ [.written b.index], fres := s.fres ++ [none],
                        fragTbl := if b.data.length != 0
                          then s.fragTbl.set b.index (loc, BlockWriter.mkWord b.data.length b.flags) else s.fragTbl })) := by
  revert h
  -- the failing branches close by `cases h`; left: a fragment block (table entry set / block empty), a data block.
  -- `rename_i` names what `fun_cases` introduces, in the order of `completeBlock`'s body: the writer's answer with its equation,
  -- `s1`, `out`, the `FRAGMENT_BLOCK` test, `blockWritten`'s answer, the table entry with its lookup, the consistency test, `s2`,
  -- the length test
  fun_cases completeBlock codec s b <;> intro h <;> try cases h
  · rename_i bw' loc hw _ _ hfb fd' hbw x stored cmp y hget hok _ hlen
    obtain ⟨rfl, rfl⟩ := Prod.mk.inj (Except.ok.inj h)
    obtain ⟨rfl, rfl, e3⟩ := hok
    exact ⟨bw', loc, hw, Or.inr ⟨hfb, fd', x, y, hbw, hget, e3, by simp only [hlen, if_true]; rfl⟩⟩
  · rename_i bw' loc hw _ _ hfb fd' hbw x stored cmp y hget hok _ hlen
    obtain ⟨rfl, rfl⟩ := Prod.mk.inj (Except.ok.inj h)
    obtain ⟨rfl, rfl, e3⟩ := hok
    exact ⟨bw', loc, hw, Or.inr ⟨hfb, fd', x, y, hbw, hget, e3, by simp only [hlen]; rfl⟩⟩
  · rename_i bw' loc hw _ _ hfb
    obtain ⟨rfl, rfl⟩ := Prod.mk.inj (Except.ok.inj h)
    exact ⟨bw', loc, hw, Or.inl ⟨by show hasFlag b.flags blkFragmentBlock = false; simpa using hfb, rfl⟩⟩

/-- which branch of `step` an event takes: refused, or the state it leads to, or the call of `handleFragment` /
`completeBlock` it amounts to -/
theorem step_cases (codec : Codec) (h : Bytes → UInt32) (s : State) (e : Ev) :
    match e with
    | .file uf data => step codec h s e = .error .unsupported ∨ uf < 32 ∧ ∃ out,
        step codec h s e = .ok ({ s with pending := s.pending ++ fileBlocks s.B uf data }, out)
    | .submit => step codec h s e = .error .badEvent ∨ ∃ b rest out, s.pending = b :: rest ∧
        step codec h s e = .ok ({ s with pending := rest, pool := s.pool ++ [processBlock codec h b] }, out)
    | .dequeue => step codec h s e = .error .badEvent ∨ ∃ blk rest, s.pool = blk :: rest ∧
        ((blk.kind.isFrag = true ∧ step codec h s e = handleFragment codec h { s with pool := rest } blk) ∨
         (blk.kind.isFrag = false ∧ blk.kind.isFB = false ∧ ∃ out, step codec h s e =
            .ok ({ s with pool := rest, ioSeq := s.ioSeq + 1,
                          ioQueue := storeIo { blk with seq := s.ioSeq } s.ioQueue }, out)) ∨
         (blk.kind.isFrag = false ∧ blk.kind.isFB = true ∧ ∃ out,
            step codec h s e = .ok ({ s with pool := rest, ioQueue := storeIo blk s.ioQueue }, out)))
    | .complete => step codec h s e = .error .badEvent ∨ ∃ b rest, s.ioQueue = b :: rest ∧ b.seq = s.deqSeq ∧
        step codec h s e = completeBlock codec { s with ioQueue := rest, deqSeq := s.deqSeq + 1 } b
    | .finish => step codec h s e = .error .badEvent ∨ s.pending = [] ∧ s.pool = [] ∧ s.ioQueue = [] ∧ ∃ out,
        step codec h s e = .ok (match FragDedup.openIndex s.fd with
                               | none => afterFinish s
                               | some i => enqueueFragBlock codec h (afterFinish s) i, out) := by
  -- in the order of `step`: file, submit, dequeue (tail end, data block, fragment block), complete, finish (no open
  -- block, open block), each after its refusals; `rename_i` names a branch's patterns and tests in the order `step` makes them
  fun_cases step codec h s e
  · exact Or.inl rfl
  · rename_i uf data hg _
    have h1 : uf &&& blkUserSettable = uf := by simpa using hg
    have h2 : uf &&& blkUserSettable ≤ blkUserSettable := Nat.and_le_right
    exact Or.inr ⟨Nat.lt_succ_of_le (h1 ▸ h2), _, rfl⟩
  · exact Or.inl rfl
  · rename_i b rest hp
    exact Or.inr ⟨b, rest, _, hp, rfl⟩
  · exact Or.inl rfl
  · rename_i blk rest hp _ hif
    exact Or.inr ⟨blk, rest, hp, Or.inl ⟨hif, rfl⟩⟩
  · rename_i blk rest hp _ hif hnum _
    have hif' : blk.kind.isFrag = false := by
      show hasFlag blk.flags blkIsFragment = false; simpa using hif
    refine Or.inr ⟨blk, rest, hp, Or.inr (Or.inl ⟨hif', ?_, _, rfl⟩)⟩
    -- `step` tests `blkFlagManualSubmission`, `Kind.internal` is read off `blkFlagInternal`: the two generated constants are
    -- the same number, which is why `show` takes `hnum` (and `this` in the next case)
    rw [isFB_of_not_isFrag hif', show (!blk.kind.fragBlk || blk.kind.internal) = true from hnum]; rfl
  · rename_i blk rest hp _ hif hnum
    have hif' : blk.kind.isFrag = false := by
      show hasFlag blk.flags blkIsFragment = false; simpa using hif
    have : (!hasFlag blk.flags blkFragmentBlock || hasFlag blk.flags blkFlagManualSubmission) = false := by
      simpa using hnum
    refine Or.inr ⟨blk, rest, hp, Or.inr (Or.inr ⟨hif', ?_, _, rfl⟩)⟩
    rw [isFB_of_not_isFrag hif', show (!blk.kind.fragBlk || blk.kind.internal) = false from this]; rfl
  · exact Or.inl rfl
  · exact Or.inl rfl
  · rename_i b rest hq hseq
    exact Or.inr ⟨b, rest, hq, by simpa using hseq, rfl⟩
  · exact Or.inl rfl
  · rename_i hg hoi
    have hg2 : (s.pending.isEmpty && s.pool.isEmpty && s.ioQueue.isEmpty) = true := by simpa using hg
    simp only [Bool.and_eq_true, List.isEmpty_iff] at hg2
    have hc : FragDedup.closeOpen s.fd = s.fd := by unfold FragDedup.closeOpen; rw [hoi]
    exact Or.inr ⟨hg2.1.1, hg2.1.2, hg2.2, .finished none, by simp only [hoi, afterFinish, hc]⟩
  · rename_i hg i hoi _
    have hg2 : (s.pending.isEmpty && s.pool.isEmpty && s.ioQueue.isEmpty) = true := by simpa using hg
    simp only [Bool.and_eq_true, List.isEmpty_iff] at hg2
    exact Or.inr ⟨hg2.1.1, hg2.1.2, hg2.2, _, by simp only [hoi]; rfl⟩

/-- the worked copy of an in-flight block of the fragment model -/
def IsCopy (codec : Codec) (h : Bytes → UInt32) (fd : FragDedup.State) (b : Blk) : Prop :=
  ∃ fb, fd.blocks[b.index]? = some fb ∧ fb.place = FragDedup.Place.inFlight ∧
    b = processBlock codec h { seq := b.seq, flags := fb.flags, data := fb.data, index := b.index }

/-- `todo` = the numbered blocks not yet written, `n.drop s.deqSeq`, wherever they sit (pool or I/O queue): every fragment
block among them is the worked copy of an in-flight block of the fragment model, at most one per index -/
structure PInv (codec : Codec) (h : Bytes → UInt32) (fd : FragDedup.State) (todo : List Blk) : Prop where
  copy : ∀ b ∈ todo, b.kind.fragBlk = true → IsCopy codec h fd b
  uniq : todo.Pairwise (fun a b => a.kind.fragBlk = true → b.kind.fragBlk = true → a.index ≠ b.index)

theorem PInv.keep {fd fd' : FragDedup.State} {todo : List Blk} (hp : PInv codec h fd todo)
    (hk : FragDedup.Keep fd fd') : PInv codec h fd' todo :=
  ⟨fun b hb hf =>
    let ⟨fb, a1, a2, a3⟩ := hp.copy b hb hf
    ⟨fb, hk _ fb a1 (by rw [a2]; nofun), a2, a3⟩, hp.uniq⟩

theorem PInv.snoc {fd : FragDedup.State} {todo : List Blk} (hp : PInv codec h fd todo) {F : Blk}
    (hF : F.kind.fragBlk = true → IsCopy codec h fd F ∧ ∀ b ∈ todo, b.kind.fragBlk = true → b.index ≠ F.index) :
    PInv codec h fd (todo ++ [F]) :=
  ⟨List.forall_mem_snoc hp.copy (fun hf => (hF hf).1),
    List.pairwise_append.2 ⟨hp.uniq, List.pairwise_singleton _ _, fun a ha x hx haf hxf => by
      rw [List.mem_singleton] at hx; subst hx; exact (hF hxf).2 a ha haf⟩⟩

theorem PInv.tail {fd : FragDedup.State} {b : Blk} {rest : List Blk} (hp : PInv codec h fd (b :: rest)) :
    PInv codec h fd rest :=
  ⟨fun x hx => hp.copy x (List.mem_cons_of_mem _ hx), (List.pairwise_cons.1 hp.uniq).2⟩

/-- the other blocks have another index, so `blockWritten` leaves their in-flight blocks alone -/
theorem PInv.written {fd fd' : FragDedup.State} {b : Blk} {rest : List Blk} (hp : PInv codec h fd (b :: rest))
    (hb : b.kind.fragBlk = true) (hbw : FragDedup.blockWritten codec fd b.index = .ok fd') : PInv codec h fd' rest := by
  obtain ⟨_, _, _, _, _, hothers, _⟩ := FragDedup.blockWritten_struct codec fd fd' b.index hbw
  obtain ⟨hne, hu⟩ := List.pairwise_cons.1 hp.uniq
  exact ⟨fun x hx hxf =>
    let ⟨fbx, a1, a2, a3⟩ := hp.copy x (List.mem_cons_of_mem _ hx) hxf
    ⟨fbx, by rw [hothers _ (Ne.symm (hne x hx hb hxf))]; exact a1, a2, a3⟩, hu⟩

theorem PInv.not_open {fd : FragDedup.State} {todo : List Blk} (hp : PInv codec h fd todo) {i : Nat}
    (ho : FragDedup.openIndex fd = some i) : ∀ b ∈ todo, b.kind.fragBlk = true → b.index ≠ i := by
  intro b hb hfb hidx
  obtain ⟨b0, hb0, hp0, _⟩ := FragDedup.openIndex_eq_some_iff.1 ho
  obtain ⟨fb, h1, h2, _⟩ := hp.copy b hb hfb
  rw [hidx, hb0] at h1
  cases h1
  rw [hp0] at h2; cases h2

theorem closedIdx_some {st st' : FragDedup.State} {i : Nat} (h : closedIdx st st' = some i) :
    FragDedup.openIndex st = some i ∧ FragDedup.openIndex st' ≠ some i := by
  unfold closedIdx at h
  split at h
  · rename_i j hj
    split at h
    · cases h
    · rename_i hne
      cases h
      exact ⟨hj, hne⟩
  · cases h

/-- what the front end has produced and the back end has not yet numbered: the pool without the fragment blocks
travelling through it, then the blocks not yet submitted -/
def front (pool pending : List Blk) : List Kind :=
  (pool.map Blk.kind).filter (fun k => !k.isFB) ++ pending.map Blk.kind

theorem front_cons (blk : Blk) (rest pending : List Blk) :
    front (blk :: rest) pending = (if blk.kind.isFB then [] else [blk.kind]) ++ front rest pending := by
  unfold front
  simp only [List.map_cons, List.filter_cons]
  cases blk.kind.isFB <;> simp

theorem front_append (pool pending bs : List Blk) : front pool (pending ++ bs) = front pool pending ++ bs.map Blk.kind := by
  unfold front; rw [List.map_append, List.append_assoc]

theorem front_snoc_fb (pool pending : List Blk) {F : Blk} (hF : F.kind.isFB = true) :
    front (pool ++ [F]) pending = front pool pending := by
  unfold front; simp [List.filter_append, hF]

/-- `submit`: the head of `pending` goes to the end of the pool, worked (same kind) -/
theorem front_submit (pool rest : List Blk) {b b' : Blk} (hk : b'.kind = b.kind) (hb : b.kind.isFB = false) :
    front (pool ++ [b']) rest = front pool (b :: rest) := by
  unfold front; simp [List.filter_append, hk, hb]

theorem mem_front_pending (pool : List Blk) {pending : List Blk} {b : Blk} (hb : b ∈ pending) :
    b.kind ∈ front pool pending :=
  List.mem_append_right _ (List.mem_map_of_mem hb)

theorem kind_FlagOk (f : Nat) (h : FragDedup.FlagOk f) : kindOf f = ⟨false, false, false, true, false⟩ := by
  rcases h with h | h <;> rw [h] <;> rfl

/-- fragment block `i` is on disk as `stored`: it was written by call `k`, whose location the table records -/
def Linked (s : State) (i : Nat) (stored : Bytes) (cmp : Bool) : Prop :=
  ∃ (k : Nat) (c : Call) (loc : Nat), s.calls[k]? = some c ∧ s.locs[k]? = some loc ∧ c.data = stored ∧
    c.fragBlk = true ∧ c.stored = true ∧ hasFlag c.flags blkIsCompressed = cmp ∧
    s.fragTbl[i]? = some (loc, BlockWriter.mkWord stored.length c.flags)

theorem Linked.mem_calls {s : State} {i : Nat} {stored : Bytes} {cmp : Bool} (hl : Linked s i stored cmp) :
    ∃ c ∈ s.calls, c.data = stored :=
  let ⟨_, c, _, hc, _, hd, _⟩ := hl
  ⟨c, List.mem_of_getElem? hc, hd⟩

theorem Linked_congr {s s' : State} {i : Nat} {stored : Bytes} {cmp : Bool} (h : Linked s i stored cmp)
    (h1 : ∀ (k : Nat) (c : Call), s.calls[k]? = some c → s'.calls[k]? = some c)
    (h2 : ∀ (k : Nat) (l : Nat), s.locs[k]? = some l → s'.locs[k]? = some l)
    (h3 : ∀ (e : Nat × Nat), s.fragTbl[i]? = some e → s'.fragTbl[i]? = some e) : Linked s' i stored cmp := by
  obtain ⟨k, c, loc, a1, a2, a3, a4, a5, a6, a7⟩ := h
  exact ⟨k, c, loc, h1 k c a1, h2 k loc a2, a3, a4, a5, a6, h3 _ a7⟩

theorem mkWord_clear (n f : Nat) : BlockWriter.mkWord n (clearFlag f blkFlagInternal) = BlockWriter.mkWord n f := by
  unfold BlockWriter.mkWord
  rw [hasFlag_clear (by decide)]

theorem Linked_new {s t : State} (b : Blk) (loc : Nat) (hlens : s.locs.length = s.calls.length)
    (t1 : t.calls = s.calls ++ [b.call]) (t2 : t.locs = s.locs ++ [loc])
    (t3 : t.fragTbl[b.index]? = some (loc, BlockWriter.mkWord b.data.length b.flags))
    (hfb : b.kind.fragBlk = true) (hne : b.data ≠ []) (hsp : hasFlag b.flags blkIsSparse = false) :
    Linked t b.index b.data (hasFlag b.flags blkIsCompressed) := by
  have hlen0 : (b.data.length != 0) = true := bne_iff_ne.2 fun h0 => hne (List.length_eq_zero_iff.1 h0)
  refine ⟨s.calls.length, b.call, loc, ?_, ?_, rfl, (call_fragBlk b).trans hfb, ?_, hasFlag_clear (by decide), ?_⟩
  · rw [t1]; exact List.getElem?_concat_length ..
  · rw [t2, ← hlens]; exact List.getElem?_concat_length ..
  · show (b.data.length != 0 && !hasFlag (clearFlag b.flags blkFlagInternal) blkIsSparse) = true
    rw [hasFlag_clear (by decide), hsp, hlen0]; rfl
  · rw [t3]
    show some (loc, BlockWriter.mkWord b.data.length b.flags)
      = some (loc, BlockWriter.mkWord b.data.length (clearFlag b.flags blkFlagInternal))
    rw [mkWord_clear]

theorem growTbl_len (tbl : List (Nat × Nat)) (n : Nat) : n ≤ (growTbl tbl n).length := by
  unfold growTbl; simp; omega

/-- the codec writes into a buffer of `B` bytes (`worker->scratch_size = max_block_size`) -/
def Fits (codec : Codec) (B : Nat) : Prop := ∀ x z, codec.cmp x = some z → z.length ≤ B

/-- what the size bounds need of the codec and the block size -/
def Hyp (codec : Codec) (B : Nat) : Prop := Fits codec B ∧ 0 < B

def BlkOk (codec : Codec) (B : Nat) (b : Blk) : Prop :=
  (Hyp codec B → b.data.length ≤ B) ∧ (b.kind.isFrag = true → b.data ≠ [])

theorem processBlock_size (codec : Codec) (h : Bytes → UInt32) (B : Nat) (b : Blk)
    (hb : BlkOk codec B b) : BlkOk codec B (processBlock codec h b) := by
  unfold BlkOk
  rw [(processBlock_kind codec h b).1]
  rcases processBlock_data codec h b with hd | ⟨z, hz, hd, hnf⟩ <;> rw [hd]
  · exact hb
  · exact ⟨fun hy => hy.1 _ _ hz, fun hf => by rw [hnf] at hf; cases hf⟩

theorem fullBlocks_sizes (B uf : Nat) (data : Bytes) (huf : uf < 32) : ∀ (k off : Nat) (first : Bool),
    ∀ b ∈ fullBlocks B uf data k off first, BlkOk codec B b := by
  intro k
  induction k with
  | zero => intro off first b hb; cases hb
  | succ k ih =>
    intro off first b hb
    simp only [fullBlocks, List.mem_cons] at hb
    rcases hb with rfl | hm
    · refine ⟨fun _ => by simp [BlockWriter.slice]; omega, fun hf => ?_⟩
      rw [kind_full uf first _ huf] at hf; cases hf
    · exact ih _ _ b hm

theorem fileBlocks_sizes (B uf : Nat) (data : Bytes) (huf : uf < 32) :
    ∀ b ∈ fileBlocks B uf data, BlkOk codec B b := by
  have htail : Hyp codec B → (data.drop (data.length / B * B)).length ≤ B := by
    intro hy
    have h1 := Nat.div_add_mod' data.length B
    have h2 := Nat.mod_lt data.length hy.2
    simp only [List.length_drop]; omega
  have hfull := fullBlocks_sizes (codec := codec) B uf data huf (data.length / B) 0 true
  -- a block whose kind bits are `x`, none of them `IS_FRAGMENT`
  have hdata : ∀ (x : Nat) (d : Bytes), (Hyp codec B → d.length ≤ B) → (kindOf x).isFrag = false →
      BlkOk codec B { flags := uf ||| x, data := d } := fun x d hd hx =>
    ⟨hd, fun hf => by rw [kind_user uf x d huf, hx] at hf; cases hf⟩
  have hsent : ∀ b ∈ (if data.length / B = 0 then [] else [({ flags := uf ||| blkLastBlock } : Blk)]),
      BlkOk codec B b := by
    intro b hb
    split at hb
    · cases hb
    · rw [List.mem_singleton] at hb; subst hb
      exact hdata _ [] (fun _ => Nat.zero_le _) rfl
  intro b hb
  unfold fileBlocks at hb
  simp only [] at hb
  by_cases htl : (List.drop (data.length / B * B) data).length = 0
  · rw [if_pos htl] at hb
    rcases List.mem_append.1 hb with hm | hm
    · exact hfull b hm
    · exact hsent b hm
  · rw [if_neg htl] at hb
    split at hb
    · rcases List.mem_append.1 hb with hm | hm
      · exact hfull b hm
      · rw [List.mem_singleton] at hm
        subst hm
        split
        · rw [Nat.or_assoc]; exact hdata _ _ htail rfl
        · exact hdata _ _ htail rfl
    · rcases List.mem_append.1 hb with hm | hm
      · rcases List.mem_append.1 hm with hm2 | hm2
        · exact hfull b hm2
        · exact hsent b hm2
      · rw [List.mem_singleton] at hm
        subst hm
        exact ⟨htail, fun _ he => htl (by rw [show List.drop (data.length / B * B) data = [] from he]; rfl)⟩

/-- what `process_block` tests in the flags of a fragment block -/
theorem FlagOk_tests {fl : Nat} (hfl : FragDedup.FlagOk fl) :
    hasFlag fl (blkIgnoreSparse ||| blkFragmentBlock) = true ∧ hasFlag fl blkIsSparse = false ∧
    hasFlag fl blkIsCompressed = false ∧ hasFlag (fl ||| blkIsCompressed) blkIsSparse = false ∧
    hasFlag (fl ||| blkIsCompressed) blkIsCompressed = true ∧
    hasFlag fl (blkIsFragment ||| blkDontCompress) = FragDedup.hasFlag fl blkDontCompress := by
  rcases hfl with rfl | rfl <;> decide

/-- what the worker makes of a fragment block is what `FragDedup.blockWritten` says is stored -/
theorem processBlock_fragBlock (codec : Codec) (h : Bytes → UInt32) (seq idx fl : Nat) (data : Bytes)
    (hfl : FragDedup.FlagOk fl) (hd : data ≠ []) :
    hasFlag (processBlock codec h { seq := seq, flags := fl, data := data, index := idx }).flags blkIsSparse = false ∧
    FragDedup.Place.written (processBlock codec h { seq := seq, flags := fl, data := data, index := idx }).data
        (hasFlag (processBlock codec h { seq := seq, flags := fl, data := data, index := idx }).flags blkIsCompressed)
      = (if FragDedup.hasFlag fl blkDontCompress then FragDedup.Place.written data false
         else match codec.cmp data with
           | some c => FragDedup.Place.written c true
           | none => FragDedup.Place.written data false) := by
  obtain ⟨t1, t2, t3, t4, t5, t6⟩ := FlagOk_tests hfl
  have hlen : ¬ data.length = 0 := fun h0 => hd (List.length_eq_zero_iff.1 h0)
  unfold processBlock
  -- no sparse test for a fragment block; compression unless `DONT_COMPRESS`
  simp only [hlen, if_false, t1, Bool.not_true, Bool.false_and, Bool.false_eq_true, t6]
  by_cases hdc : FragDedup.hasFlag fl blkDontCompress = true
  · simp only [hdc, if_true, t2, t3, and_self]
  · simp only [hdc, Bool.false_eq_true, if_false]
    cases codec.cmp data with
    | none => simp only [t2, t3, and_self]
    | some c => simp only [t4, t5, and_self]

theorem blockWritten_inFlight (codec : Codec) (fd : FragDedup.State) (idx : Nat) (data : Bytes) (fl : Nat)
    (hb : fd.blocks[idx]? = some ⟨data, FragDedup.Place.inFlight, fl⟩) :
    ∃ fd', FragDedup.blockWritten codec fd idx = .ok fd' ∧
      fd'.blocks[idx]? = some ⟨data, (if FragDedup.hasFlag fl blkDontCompress then FragDedup.Place.written data false
         else match codec.cmp data with
           | some c => FragDedup.Place.written c true
           | none => FragDedup.Place.written data false), fl⟩ := by
  unfold FragDedup.blockWritten
  rw [hb]
  exact ⟨_, rfl, FragDedup.getElem?_modify_self _ _ _ _ hb⟩

variable {pre : Bytes}

/-- `n` = the blocks that have an I/O sequence number, in that order; `o` = a file is open after them.  A numbered block
not yet written waits in the I/O queue, a fragment block before that in the pool, and is the entry of `n` at its number
(`queue`, `poolfb`).  `s.B` is changed by no event (`hB`); as the parameter `B` it can be spoken of (`Hyp codec B`) without a
state.  `lens`: call `k` returned `s.locs[k]`, which is how `Linked` pairs them. -/
structure Inv (pre : Bytes) (codec : Codec) (h : Bytes → UInt32) (B : Nat) (s : State) (n : List Blk) (o : Bool) :
    Prop where
  hB     : s.B = B
  bwrun  : BlockWriter.run (BlockWriter.init pre) s.calls = .ok (s.bw, s.locs)
  lens   : s.locs.length = s.calls.length
  frun   : FragDedup.run codec h true B {} s.fevs = .ok (s.fres, s.fd)
  fok    : FragDedup.evsOk s.fevs
  len    : n.length = s.ioSeq
  calls  : s.calls = (n.take s.deqSeq).map Blk.call
  deq    : s.deqSeq ≤ s.ioSeq
  queue  : ∀ b ∈ s.ioQueue, n[b.seq]? = some b
  poolfb : ∀ b ∈ s.pool, b.kind.isFB = true → n[b.seq]? = some b
  wfn    : wfS false (n.map Blk.call) = true
  opn    : (n.map Blk.call).foldl nextOpened false = o
  fe     : feOk o (front s.pool s.pending) = true
  goodF  : FragDedup.GoodF s.fd
  pi     : PInv codec h s.fd (n.drop s.deqSeq)
  link   : ∀ (i : Nat) (d stored : Bytes) (cmp : Bool) (fl : Nat),
             s.fd.blocks[i]? = some ⟨d, .written stored cmp, fl⟩ → stored ≠ [] → Linked s i stored cmp
  tbl    : s.fd.blocks.length ≤ s.fragTbl.length
  pool   : ∀ b ∈ s.pool, BlkOk codec B b
  pend   : ∀ b ∈ s.pending, BlkOk codec B b
  num    : Hyp codec B → ∀ b ∈ n, b.data.length ≤ B
  goodS  : Hyp codec B → FragDedup.GoodS B s.fd

theorem Inv_init (codec : Codec) (h : Bytes → UInt32) (B : Nat) (pre : Bytes) :
    Inv pre codec h B (init B pre) [] false :=
  { hB := rfl, bwrun := rfl, lens := rfl, frun := rfl, len := rfl, calls := rfl, deq := Nat.le_refl _
    fok := fun e he => by cases he
    queue := fun _ hb => by cases hb
    poolfb := fun _ hb => by cases hb
    wfn := rfl, opn := rfl, fe := rfl
    goodF := fun i b hb => by simp [init] at hb
    pi := ⟨fun _ hb => (by cases hb), List.Pairwise.nil⟩
    link := fun i d stored cmp fl hb => by simp [init] at hb
    tbl := Nat.le_refl _
    pool := fun _ hb => by cases hb
    pend := fun _ hb => by cases hb
    num := fun _ _ hb => by cases hb
    goodS := fun _ i b hb => by simp [init] at hb }

/-- the fragment state is reachable in the fragment model, so it has that model's invariant -/
theorem Inv.fdinv {s : State} {n : List Blk} {o : Bool} (hinv : Inv pre codec h B s n o) (hrt : codec.RoundTrip) :
    FragDedup.Inv codec s.fd :=
  (FragDedup.run_spec_init codec hrt h B hinv.fok hinv.frun).1

theorem Inv.fdStep {s : State} {n : List Blk} {o : Bool} (hinv : Inv pre codec h B s n o) {e : FragDedup.Ev}
    {r : Option FragDedup.Res} {fd' : FragDedup.State}
    (hs : FragDedup.step codec h true B s.fd e = .ok (r, fd')) (he : e.ok) :
    FragDedup.run codec h true B {} (s.fevs ++ [e]) = .ok (s.fres ++ [r], fd') ∧ FragDedup.evsOk (s.fevs ++ [e]) :=
  ⟨FragDedup.run_snoc hinv.frun hs, List.forall_mem_snoc hinv.fok he⟩

theorem Inv.calls_wfS {s : State} {n : List Blk} {o : Bool} (hinv : Inv pre codec h B s n o) :
    wfS false s.calls = true := by
  have h1 := hinv.wfn
  rw [← List.take_append_drop s.deqSeq n, List.map_append] at h1
  rw [hinv.calls]
  exact wfS_prefix h1

theorem Inv.sizesOk {s : State} {n : List Blk} {o : Bool} (hinv : Inv pre codec h B s n o) (hy : Hyp codec B)
    (hB : B < 2 ^ 24) : BlockWriter.sizesOk s.calls := by
  intro c hc
  rw [hinv.calls] at hc
  obtain ⟨b, hb, rfl⟩ := List.mem_map.1 hc
  exact Nat.lt_of_le_of_lt (hinv.num hy b (List.mem_of_mem_take hb)) hB

/-- `F` gets the next sequence number; `p`, `q` are pool and I/O queue afterwards, where `F` is the only block that may
be new -/
theorem Inv.number {s : State} {n : List Blk} {o : Bool} {F : Blk} {p q : List Blk} (hinv : Inv pre codec h B s n o)
    (hseq : F.seq = s.ioSeq) (hw : wfS o [F.call] = true)
    (hF : F.kind.fragBlk = true →
      IsCopy codec h s.fd F ∧ ∀ b ∈ n.drop s.deqSeq, b.kind.fragBlk = true → b.index ≠ F.index)
    (hq : ∀ b ∈ q, b = F ∨ b ∈ s.ioQueue) (hp : ∀ b ∈ p, b = F ∨ b ∈ s.pool)
    (hfe : feOk (nextOpened o F.call) (front p s.pending) = true) (hsz : BlkOk codec B F) :
    Inv pre codec h B { s with ioSeq := s.ioSeq + 1, pool := p, ioQueue := q } (n ++ [F]) (nextOpened o F.call) := by
  have hget : (n ++ [F])[F.seq]? = some F := by rw [hseq, ← hinv.len]; exact List.getElem?_concat_length ..
  have hle : s.deqSeq ≤ n.length := hinv.len ▸ hinv.deq
  exact
    { hinv with
      len := by rw [List.length_append, hinv.len]; rfl
      calls := by
        show s.calls = ((n ++ [F]).take s.deqSeq).map Blk.call
        rw [List.take_append_of_le_length hle]; exact hinv.calls
      deq := Nat.le_succ_of_le hinv.deq
      queue := fun b hb => (hq b hb).elim (fun e => e ▸ hget) fun hb => List.getElem?_append_some (hinv.queue b hb)
      poolfb := fun b hb hfb =>
        (hp b hb).elim (fun e => e ▸ hget) fun hb => List.getElem?_append_some (hinv.poolfb b hb hfb)
      wfn := by rw [List.map_append, wfS_append, hinv.wfn, hinv.opn]; exact hw
      opn := by rw [List.map_append, List.foldl_append, hinv.opn]; rfl
      fe := hfe
      pi := by
        show PInv codec h s.fd ((n ++ [F]).drop s.deqSeq)
        rw [List.drop_append_of_le_length hle]; exact hinv.pi.snoc hF
      pool := fun b hb => (hp b hb).elim (fun e => e ▸ hsz) (hinv.pool b)
      num := fun hy => List.forall_mem_snoc (hinv.num hy) (hsz.1 hy) }

/-- `enqueue_block(proc, frag_block)` with the number taken just before: allowed whenever no file is open.  The block is
a copy of fragment-model block `i`, which has just been closed, and no numbered block carries index `i` yet. -/
theorem enqueue_Inv {s : State} {n : List Blk} (hinv : Inv pre codec h B s n false) (i : Nat)
    (hfl : ∃ fb, s.fd.blocks[i]? = some fb ∧ fb.place = FragDedup.Place.inFlight)
    (hnone : ∀ b ∈ n.drop s.deqSeq, b.kind.fragBlk = true → b.index ≠ i) :
    ∃ n', Inv pre codec h B (enqueueFragBlock codec h s i) n' false := by
  obtain ⟨fb, hb, hfl⟩ := hfl
  unfold enqueueFragBlock
  rw [hb]
  simp only []
  generalize hF : processBlock codec h { seq := s.ioSeq, flags := fb.flags, data := fb.data, index := i } = F
  have hk := processBlock_kind codec h { seq := s.ioSeq, flags := fb.flags, data := fb.data, index := i }
  rw [hF] at hk
  have hkind : F.kind = ⟨false, false, false, true, false⟩ := by
    rw [hk.1]; exact kind_FlagOk _ (hinv.goodF i fb hb)
  have hw : wfS false [F.call] = true := by
    simp [wfS, call_fragBlk, call_first, call_last, hkind]
  have ho : nextOpened false F.call = false := by simp [nextOpened, call_first, call_last, hkind]
  refine ⟨n ++ [F], ho ▸ hinv.number (F := F) (p := s.pool ++ [F]) (q := s.ioQueue) hk.2.1 hw
    (fun _ => ⟨⟨fb, by rw [hk.2.2]; exact hb, hfl, by rw [hk.2.1, hk.2.2]; exact hF.symm⟩,
      fun b hb hfb => hk.2.2 ▸ hnone b hb hfb⟩)
    (fun b hb => Or.inr hb)
    (fun b hb => (List.mem_append.1 hb).symm.imp_left List.mem_singleton.1) ?_ ?_⟩
  · rw [ho, front_snoc_fb _ _ (by rw [hkind]; rfl)]; exact hinv.fe
  · rw [← hF]
    exact processBlock_size codec h B _
      ⟨fun hy => hinv.goodS hy i fb hb, fun hf => by rw [(hk.1.symm.trans hkind : Blk.kind _ = _)] at hf; cases hf⟩

theorem Inv.link_keep {s s' : State} {n : List Blk} {o : Bool} (hinv : Inv pre codec h B s n o)
    (hnw : FragDedup.NoNewWritten s.fd s'.fd) (h1 : s'.calls = s.calls) (h2 : s'.locs = s.locs)
    (h3 : ∀ (i : Nat) (e : Nat × Nat), s.fragTbl[i]? = some e → s'.fragTbl[i]? = some e)
    (i : Nat) (d stored : Bytes) (cmp : Bool) (fl : Nat)
    (hb : s'.fd.blocks[i]? = some ⟨d, .written stored cmp, fl⟩) (hne : stored ≠ []) : Linked s' i stored cmp :=
  Linked_congr (hinv.link i d stored cmp fl (hnw i _ hb ⟨stored, cmp, rfl⟩) hne) (fun k c hc => by rw [h1]; exact hc)
    (fun k l hl => by rw [h2]; exact hl) (h3 i)

def Keeps (pre : Bytes) (codec : Codec) (h : Bytes → UInt32) (B : Nat) (r : Except Err (State × Out)) : Prop :=
  match r with
  | .ok (s', _) => ∃ n' o', Inv pre codec h B s' n' o'
  | .error x => codec.RoundTrip → Hyp codec B → B < 2 ^ 24 → x = .badEvent ∨ x = .unsupported

theorem handleFragment_Inv {s : State} {n : List Blk} (frag : Blk) (hinv : Inv pre codec h B s n false)
    (hfrag : BlkOk codec B frag) (hif : frag.kind.isFrag = true) :
    Keeps pre codec h B (handleFragment codec h s frag) := by
  have hB := hinv.hB
  subst hB
  unfold handleFragment
  cases hpf : FragDedup.processFragment codec h true s.B s.fd frag.data frag.flags with
  | error e =>
    -- the fragment model does not fail in a state it has reached
    intro hrt _ _
    obtain ⟨r, fd', hpf', _⟩ := FragDedup.processFragment_spec codec h s.B s.fd frag.data frag.flags []
      (hinv.fdinv hrt) (hfrag.2 hif) (fun p hp => by cases hp)
    rw [hpf] at hpf'; cases hpf'
  | ok x =>
    obtain ⟨r, fd'⟩ := x
    obtain ⟨hq, hgs, hclosed⟩ := FragDedup.processFragment_quiet codec h s.B s.fd frag.data frag.flags r fd' hpf
    have hs := hinv.fdStep (e := .frag frag.data frag.flags) (r := some r) (fd' := fd')
      (by simp [FragDedup.step, hpf]) (hfrag.2 hif)
    have h1 : Inv pre codec h s.B (afterFrag s frag r fd') n false :=
      { hinv with
        frun := hs.1, fok := hs.2
        goodF := hq.goodF hinv.goodF
        pi := hinv.pi.keep hq.keep
        link := hinv.link_keep (s' := afterFrag s frag r fd') hq.noNew rfl rfl fun i e he => List.getElem?_append_some he
        tbl := growTbl_len _ _
        goodS := fun hy => hgs (hfrag.1 hy) (hinv.goodS hy) }
    simp only []
    cases hc : closedIdx s.fd fd' with
    | none => exact ⟨n, false, h1⟩
    | some i =>
      obtain ⟨ho, hne⟩ := closedIdx_some hc
      obtain ⟨n', hn'⟩ := enqueue_Inv h1 i (hclosed i ho hne) (hinv.pi.not_open ho)
      exact ⟨n', false, hn'⟩

/-- the head of the I/O queue is the first numbered block not yet written -/
theorem Inv.head {s : State} {n : List Blk} {o : Bool} {b : Blk} {rest : List Blk} (hinv : Inv pre codec h B s n o)
    (hq : s.ioQueue = b :: rest) (hseq : b.seq = s.deqSeq) :
    s.deqSeq < n.length ∧ s.calls ++ [b.call] = (n.take (s.deqSeq + 1)).map Blk.call ∧
      n.drop s.deqSeq = b :: n.drop (s.deqSeq + 1) := by
  have hnb : n[s.deqSeq]? = some b := hseq ▸ hinv.queue b (mem_of_eq_cons hq)
  obtain ⟨hlt, hget⟩ := List.getElem?_eq_some_iff.1 hnb
  refine ⟨hlt, ?_, by rw [List.drop_eq_getElem_cons hlt, hget]⟩
  rw [List.take_succ_eq_append_getElem hlt, List.map_append, hinv.calls, hget]; rfl

/-- all three hypotheses of `Keeps` are needed here: `Hyp` and `B < 2^24` make the writer accept the call, `RoundTrip` gives the
fragment model's invariant, by which the consistency test passes -/
theorem completeBlock_total {s : State} {n : List Blk} {o : Bool} {b : Blk} {rest : List Blk}
    (hinv : Inv pre codec h B s n o) (hq : s.ioQueue = b :: rest) (hseq : b.seq = s.deqSeq)
    (hrt : codec.RoundTrip) (hy : Hyp codec B) (hB : B < 2 ^ 24) (e : Err) :
    completeBlock codec { s with ioQueue := rest, deqSeq := s.deqSeq + 1 } b ≠ .error e := by
  obtain ⟨_, _, hdrop⟩ := hinv.head hq hseq
  have hbn : b ∈ n.drop s.deqSeq := hdrop ▸ List.mem_cons_self ..
  -- the writer's state has an abstract view (it is the result of a run), so it accepts one more call
  obtain ⟨bw0, locs0, ps, hr0, habs⟩ := BlockWriter.run_abs s.calls (BlockWriter.Abs_init pre) (hinv.sizesOk hy hB)
  rw [hinv.bwrun] at hr0
  cases hr0
  obtain ⟨bw', loc, _, hw', _⟩ := BlockWriter.write_abs habs b.call
    (Nat.lt_of_le_of_lt (hinv.num hy b (List.mem_of_mem_drop hbn)) hB)
  change BlockWriter.writeDataBlock s.bw b.chk (clearFlag b.flags blkFlagInternal) b.data = _ at hw'
  unfold completeBlock
  by_cases hfb : hasFlag b.flags blkFragmentBlock = true
  · obtain ⟨fb, h1, h2, h3⟩ := hinv.pi.copy b hbn hfb
    obtain ⟨data, place, fl⟩ := fb
    simp only [] at h2
    subst h2
    obtain ⟨fd', hbw, hget⟩ := blockWritten_inFlight codec s.fd b.index data fl h1
    have hcomp := processBlock_fragBlock codec h b.seq b.index fl data (hinv.goodF _ _ h1)
      ((hinv.fdinv hrt).blocks _ _ h1).ne_nil
    rw [← h3] at hcomp
    rw [← hcomp.2] at hget
    simp only [hw', hfb, if_true, hbw, hget, hcomp.1, and_self, if_true]
    split <;> exact fun he => by cases he
  · simp only [hw', hfb, Bool.false_eq_true, if_false]
    exact fun he => by cases he

theorem completeBlock_Inv {s : State} {n : List Blk} {o : Bool} {b : Blk} {rest : List Blk}
    (hinv : Inv pre codec h B s n o) (hq : s.ioQueue = b :: rest) (hseq : b.seq = s.deqSeq) :
    Keeps pre codec h B (completeBlock codec { s with ioQueue := rest, deqSeq := s.deqSeq + 1 } b) := by
  cases hrun : completeBlock codec { s with ioQueue := rest, deqSeq := s.deqSeq + 1 } b with
  | error e => exact fun hrt hy hB => absurd hrun (completeBlock_total hinv hq hseq hrt hy hB e)
  | ok r =>
    obtain ⟨s', out⟩ := r
    have hB := hinv.hB
    subst hB
    obtain ⟨hlt, hcalls, hdrop⟩ := hinv.head hq hseq
    have hpi : PInv codec h s.fd (b :: n.drop (s.deqSeq + 1)) := hdrop ▸ hinv.pi
    obtain ⟨bw', loc, hw, hcase⟩ := completeBlock_ok hrun
    have hrun' : BlockWriter.run (BlockWriter.init pre) (s.calls ++ [b.call]) = .ok (bw', s.locs ++ [loc]) := by
      rw [BlockWriter.run_append, hinv.bwrun]
      simp only [BlockWriter.run, hw]
    -- the calls made before are still there
    have hold : ∀ {t : State} {i stored cmp}, t.calls = s.calls ++ [b.call] → t.locs = s.locs ++ [loc] →
        (∀ e, s.fragTbl[i]? = some e → t.fragTbl[i]? = some e) → Linked s i stored cmp → Linked t i stored cmp :=
      fun t1 t2 t3 hl => Linked_congr hl (fun k c hk => by rw [t1]; exact List.getElem?_append_some hk)
        (fun k l hk => by rw [t2]; exact List.getElem?_append_some hk) t3
    -- a data block; for a fragment block `fd`, its log and the table change besides
    have h0 : Inv pre codec h s.B
        { s with ioQueue := rest, deqSeq := s.deqSeq + 1, bw := bw', calls := s.calls ++ [b.call],
                 locs := s.locs ++ [loc] } n o :=
      { hinv with
        bwrun := hrun'
        lens := by simp [hinv.lens]
        calls := hcalls
        deq := hinv.len ▸ hlt
        queue := forall_mem_tail hinv.queue hq
        pi := hpi.tail
        link := fun i d stored cmp fl hb hne => hold rfl rfl (fun e he => he) (hinv.link i d stored cmp fl hb hne) }
    rcases hcase with ⟨_, rfl⟩ | ⟨hfb, fd', x, y, hbw, hget, hsp, rfl⟩
    · exact ⟨n, o, h0⟩
    · obtain ⟨b0, p, hb0, _, _, hother, hlen⟩ := FragDedup.blockWritten_struct codec s.fd fd' b.index hbw
      have hj : b.index < s.fragTbl.length := Nat.lt_of_lt_of_le (List.getElem?_eq_some_iff.1 hb0).1 hinv.tbl
      have hs := hinv.fdStep (e := .written b.index) (r := none) (fd' := fd') (by simp [FragDedup.step, hbw]) trivial
      refine ⟨n, o,
        { h0 with
          frun := hs.1, fok := hs.2
          goodF := FragDedup.blockWritten_keeps (fun _ fl => FragDedup.FlagOk fl) hbw hinv.goodF
          pi := hpi.written hfb hbw
          link := ?_
          tbl := ?_
          goodS := fun hy => FragDedup.blockWritten_keeps (fun d _ => d.length ≤ s.B) hbw (hinv.goodS hy) }⟩
      · intro i d stored cmp fl hb hne
        by_cases hij : i = b.index
        · -- the block just written: this call, this location
          subst hij
          rw [hget] at hb
          injection hb with hb
          injection hb with _ hpl _
          injection hpl with hst hcm
          subst hst hcm
          refine Linked_new b loc hinv.lens rfl rfl ?_ hfb hne hsp
          show (if _ then _ else _)[b.index]? = _
          rw [if_pos (bne_iff_ne.2 fun h0 => hne (List.length_eq_zero_iff.1 h0)), List.getElem?_set_self hj]
        · rw [show fd'.blocks[i]? = s.fd.blocks[i]? from hother i hij] at hb
          refine hold rfl rfl (fun e he => ?_) (hinv.link i d stored cmp fl hb hne)
          show (if _ then _ else _)[i]? = _
          split
          · rw [List.getElem?_set_ne (Ne.symm hij)]; exact he
          · exact he
      · show fd'.blocks.length ≤ List.length (if _ then _ else _)
        rw [hlen]
        split
        · rw [List.length_set]; exact hinv.tbl
        · exact hinv.tbl

/-- a tail end at the head of the pool: no file is open -/
theorem Inv.deq_frag {s : State} {n : List Blk} {o : Bool} (hinv : Inv pre codec h B s n o) {blk : Blk} {rest : List Blk}
    (hp : s.pool = blk :: rest) (hif : blk.kind.isFrag = true) : Inv pre codec h B { s with pool := rest } n false := by
  have hfe := hinv.fe
  rw [hp, front_cons, show blk.kind.isFB = false by simp [Kind.isFB, hif]] at hfe
  simp only [Bool.false_eq_true, if_false, List.singleton_append, feOk, hif, if_true, Bool.and_eq_true,
    Bool.not_eq_true'] at hfe
  obtain ⟨rfl, hfe0⟩ := hfe
  exact { hinv with poolfb := forall_mem_tail hinv.poolfb hp, fe := hfe0, pool := forall_mem_tail hinv.pool hp }

/-- a data block at the head of the pool continues the protocol -/
theorem Inv.deq_data {s : State} {n : List Blk} {o : Bool} (hinv : Inv pre codec h B s n o) {blk : Blk} {rest : List Blk}
    (hp : s.pool = blk :: rest) (hif : blk.kind.isFrag = false) (hnfb : blk.kind.isFB = false) :
    blk.kind.fragBlk = false ∧ wfS o [blk.call] = true ∧
      feOk (nextOpened o blk.call) (front rest s.pending) = true := by
  have hfe := hinv.fe
  rw [hp, front_cons, hnfb] at hfe
  simp only [Bool.false_eq_true, if_false, List.singleton_append, feOk, hif, Bool.and_eq_true,
    Bool.not_eq_true'] at hfe
  obtain ⟨hnofb, hstep⟩ := hfe
  refine ⟨hnofb, ?_, ?_⟩
  · cases hl : blk.kind.last <;> simp only [hl, if_true, if_false, Bool.false_eq_true, Bool.and_eq_true] at hstep <;>
      simp [wfS, call_fragBlk, call_first, call_last, hnofb, hl, hstep]
  · simp only [nextOpened, call_first, call_last]
    cases hl : blk.kind.last <;> simp only [hl, if_true, if_false, Bool.false_eq_true, Bool.and_eq_true] at hstep ⊢
    · exact hstep
    · exact hstep.2

theorem step_Inv {s : State} {n : List Blk} {o : Bool} (e : Ev) (hinv : Inv pre codec h B s n o) :
    Keeps pre codec h B (step codec h s e) := by
  have hc := step_cases codec h s e
  have hB := hinv.hB
  cases e with
  | file uflags data =>
    obtain hc | ⟨huf, _, hc⟩ := hc <;> rw [hc]
    · exact fun _ _ _ => Or.inr rfl
    · refine ⟨n, o, { hinv with fe := ?_, pend := ?_ }⟩
      · show feOk o (front s.pool (s.pending ++ fileBlocks s.B uflags data)) = true
        rw [front_append]
        exact feOk_append hinv.fe (feOk_fileBlocks s.B uflags data huf)
      · exact List.forall_mem_append.2 ⟨hinv.pend, hB ▸ fileBlocks_sizes s.B uflags data huf⟩
  | submit =>
    obtain hc | ⟨b, rest, _, hp, hc⟩ := hc <;> rw [hc]
    · exact fun _ _ _ => Or.inl rfl
    · have hk := (processBlock_kind codec h b).1
      have hnfb : b.kind.isFB = false := feOk_noFB hinv.fe _ (mem_front_pending _ (mem_of_eq_cons hp))
      refine ⟨n, o, { hinv with
        poolfb := List.forall_mem_snoc hinv.poolfb (fun hfb => by rw [hk, hnfb] at hfb; cases hfb)
        fe := ?_
        pend := forall_mem_tail hinv.pend hp
        pool := List.forall_mem_snoc hinv.pool (processBlock_size codec h B b (hinv.pend b (mem_of_eq_cons hp))) }⟩
      show feOk o (front (s.pool ++ [processBlock codec h b]) rest) = true
      rw [front_submit _ _ hk hnfb, ← hp]; exact hinv.fe
  | dequeue =>
    obtain hc | ⟨blk, rest, hp, ⟨hif, hc⟩ | ⟨hif, hnfb, _, hc⟩ | ⟨hif, hfb, _, hc⟩⟩ := hc <;> rw [hc]
    · exact fun _ _ _ => Or.inl rfl
    · -- a tail end: `process_completed_fragment`
      exact handleFragment_Inv blk (hinv.deq_frag hp hif) (hinv.pool blk (mem_of_eq_cons hp)) hif
    · -- a data block: it gets its number now
      obtain ⟨hnofb, hw, hfe⟩ := hinv.deq_data hp hif hnfb
      exact ⟨_, _, hinv.number (F := { blk with seq := s.ioSeq }) rfl hw
        (fun hf => by rw [show ({ blk with seq := s.ioSeq } : Blk).kind = blk.kind from rfl, hnofb] at hf; cases hf)
        (mem_storeIo _ _) (fun x hx => Or.inr (hp ▸ List.mem_cons_of_mem _ hx)) hfe
        (hinv.pool blk (mem_of_eq_cons hp))⟩
    · -- a fragment block coming back from the pool: it keeps its number
      have hfe := hinv.fe
      rw [hp, front_cons, hfb] at hfe
      exact ⟨n, o, { hinv with
        fe := hfe
        poolfb := forall_mem_tail hinv.poolfb hp
        queue := forall_mem_storeIo (hinv.poolfb blk (mem_of_eq_cons hp) hfb) hinv.queue
        pool := forall_mem_tail hinv.pool hp }⟩
  | complete =>
    obtain hc | ⟨b, rest, hq, hseq, hc⟩ := hc <;> rw [hc]
    · exact fun _ _ _ => Or.inl rfl
    · exact completeBlock_Inv hinv hq hseq
  | finish =>
    obtain hc | ⟨h1, h2, _, _, hc⟩ := hc <;> rw [hc]
    · exact fun _ _ _ => Or.inl rfl
    · subst hB
      have ho : o = false := by
        have := hinv.fe
        rw [h1, h2] at this
        simpa [feOk, front] using this
      subst ho
      obtain ⟨hq, hgs, hclosed⟩ := FragDedup.closeOpen_quiet s.fd
      have hs := hinv.fdStep (e := .finish) (r := none) (fd' := FragDedup.closeOpen s.fd)
        (by simp [FragDedup.step]) trivial
      have hfin : Inv pre codec h s.B (afterFinish s) n false :=
        { hinv with
          frun := hs.1, fok := hs.2
          goodF := hq.goodF hinv.goodF
          pi := hinv.pi.keep hq.keep
          link := hinv.link_keep (s' := afterFinish s) hq.noNew rfl rfl fun i e he => he
          tbl := by
            show (FragDedup.closeOpen s.fd).blocks.length ≤ s.fragTbl.length
            rw [FragDedup.closeOpen_length]; exact hinv.tbl
          goodS := fun hy => hgs s.B (hinv.goodS hy) }
      show ∃ n' o', Inv pre codec h s.B _ n' o'
      cases hoi : FragDedup.openIndex s.fd with
      | none => exact ⟨n, false, hfin⟩
      | some i =>
        obtain ⟨n', hn'⟩ := enqueue_Inv hfin i (hclosed i hoi) (hinv.pi.not_open hoi)
        exact ⟨n', false, hn'⟩

theorem run_Inv : ∀ (evs : List Ev) {s : State} {n : List Blk} {o : Bool}, Inv pre codec h B s n o →
    match run codec h s evs with
    | .ok (s', _) => ∃ n' o', Inv pre codec h B s' n' o'
    | .error x => codec.RoundTrip → Hyp codec B → B < 2 ^ 24 → x = .badEvent ∨ x = .unsupported := by
  intro evs
  induction evs with
  | nil => intro s n o hinv; exact ⟨n, o, hinv⟩
  | cons e es ih =>
    intro s n o hinv
    have hk := step_Inv e hinv
    unfold run
    cases hs : step codec h s e with
    | error x => rw [hs] at hk; exact hk
    | ok r =>
      obtain ⟨s1, o1⟩ := r
      rw [hs] at hk
      obtain ⟨n1, o1, h1⟩ := hk
      have := ih h1
      simp only []
      cases hr : run codec h s1 es with
      | error x => rw [hr] at this; exact this
      | ok r => rw [hr] at this; exact this

theorem Inv_of_run {evs : List Ev} {s : State} {outs : List Out}
    (hrun : run codec h (init B pre) evs = .ok (s, outs)) : ∃ n o, Inv pre codec h B s n o := by
  have := run_Inv evs (Inv_init codec h B pre)
  rwa [hrun] at this

theorem fragBlocksOk_get (file : Bytes) : ∀ (cs : List Call) (locs : List Nat) (k : Nat) (c : Call) (loc : Nat),
    BlockWriter.fragBlocksOk file cs locs = true → cs[k]? = some c → locs[k]? = some loc → c.fragBlk = true →
    c.stored = true → BlockWriter.slice file loc c.data.length = c.data := by
  intro cs
  induction cs with
  | nil => intro locs k c loc _ hc; simp at hc
  | cons x xs ih =>
    intro locs k c loc hok hc hl hfb hst
    cases locs with
    | nil => simp at hl
    | cons l ls =>
      simp only [BlockWriter.fragBlocksOk, Bool.and_eq_true] at hok
      cases k with
      | zero =>
        simp only [List.getElem?_cons_zero, Option.some.injEq] at hc hl
        subst hc hl
        have := hok.1
        rw [if_pos ⟨hfb, hst⟩] at this
        simpa using this
      | succ k =>
        simp only [List.getElem?_cons_succ] at hc hl
        exact ih ls k c loc hok.2 hc hl hfb hst

theorem mkWord_raw (n flags : Nat) (h : n < 2 ^ 24) :
    (BlockWriter.mkWord n flags &&& (1 <<< 24) != 0) = !hasFlag flags blkIsCompressed := by
  unfold BlockWriter.mkWord
  split
  · rename_i hc; rw [hc, Nat.one_shiftLeft, Nat.and_two_pow_of_lt h]; rfl
  · rename_i hc
    rw [Bool.not_eq_true] at hc
    rw [hc, Nat.one_shiftLeft, Nat.or_two_pow_and_two_pow]; rfl

theorem fileRead_of_linked (codec : Codec) (s : State) (i : Nat) (d stored : Bytes) (cmp : Bool) (fl : Nat)
    (hb : s.fd.blocks[i]? = some ⟨d, .written stored cmp, fl⟩) (hsz : stored.length < 2 ^ 24)
    (hl : Linked s i stored cmp) (hok : BlockWriter.fragBlocksOk s.bw.file s.calls s.locs = true) :
    fileReadBlock codec s i = FragDedup.readBlock codec s.fd i ∧
      ∃ loc word, s.fragTbl[i]? = some (loc, word) ∧ word % 2 ^ 24 = stored.length ∧
        (word &&& (1 <<< 24) != 0) = !cmp ∧ BlockWriter.readAt s.bw.file loc stored.length = some stored := by
  obtain ⟨k, c, loc, a1, a2, a3, a4, a5, a6, a7⟩ := hl
  have hs := fragBlocksOk_get s.bw.file s.calls s.locs k c loc hok a1 a2 a4 a5
  rw [a3] at hs
  have hr := BlockWriter.readAt_of_slice s.bw.file loc stored hs
  have hw := BlockWriter.mkWord_size stored.length c.flags hsz
  have hraw := mkWord_raw stored.length c.flags hsz
  rw [a6] at hraw
  refine ⟨?_, loc, _, a7, hw, hraw, hr⟩
  unfold fileReadBlock FragDedup.readBlock
  rw [a7, hb]
  simp only [hw, hr, hraw]
  cases cmp <;> simp

end Sqfs.C08Stream
