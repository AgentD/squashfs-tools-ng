/-
The `strcmp` order on byte strings and sorted insertion by a byte-string key (the loop of `insert_sorted`, fstree.c).  The models
that have these (`Sqfs.FsTree`, the record of the older code `Sqfs.C11Pinned`, `Sqfs.C03FsDir`) each define their own with the
equations below, identify them with `lt` / `insertBy` here (`nameLt_eq`, `strLt_eq`, `insertBy_eq`, `insertSorted_eq`) and take the
order facts from this file.
-/
import Sqfs.Proofs.ListFacts
namespace Sqfs.NameOrder

/-- `strcmp(a, b) < 0` for NUL-free strings: lexicographic on unsigned bytes -/
def lt : List UInt8 → List UInt8 → Bool
  | [], [] => false
  | [], _ :: _ => true
  | _ :: _, [] => false
  | a :: as, b :: bs => if a.toNat < b.toNat then true else if a.toNat = b.toNat then lt as bs else false

theorem lt_iff (a b : List UInt8) : lt a b = true ↔ a < b := by
  induction a generalizing b with
  | nil => cases b <;> simp [lt]
  | cons x xs ih =>
    cases b with
    | nil => simp [lt]
    | cons y ys =>
      rw [List.cons_lt_cons_iff, lt, UInt8.lt_iff_toNat_lt, ← UInt8.toNat_inj, ← ih]
      by_cases h : x.toNat < y.toNat
      · simp [h]
      · by_cases h' : x.toNat = y.toNat <;> simp [h, h']

theorem lt_irrefl (a : List UInt8) : lt a a = false := by
  rw [← Bool.not_eq_true, lt_iff]; exact List.lt_irrefl a

theorem lt_trans {a b c : List UInt8} (h₁ : lt a b = true) (h₂ : lt b c = true) : lt a c = true :=
  (lt_iff a c).mpr (List.lt_trans ((lt_iff a b).mp h₁) ((lt_iff b c).mp h₂))

theorem lt_asymm {a b : List UInt8} (h : lt a b = true) : lt b a = false := by
  rw [← Bool.not_eq_true, lt_iff]; exact List.lt_asymm ((lt_iff a b).mp h)

theorem lt_total {a b : List UInt8} (h : a ≠ b) : lt a b = true ∨ lt b a = true := by
  rw [lt_iff, lt_iff]
  rcases List.le_total a b with h' | h'
  · exact Or.inl ((List.le_iff_lt_or_eq.mp h').resolve_right h)
  · exact Or.inr ((List.le_iff_lt_or_eq.mp h').resolve_right (Ne.symm h))

def insertBy {α : Type} (key : α → List UInt8) (x : α) : List α → List α
  | [] => [x]
  | y :: ys => if lt (key y) (key x) then y :: insertBy key x ys else x :: y :: ys

theorem insertBy_comm {α : Type} (key : α → List UInt8) (a b : α) (h : key a ≠ key b) (l : List α) :
    insertBy key a (insertBy key b l) = insertBy key b (insertBy key a l) := by
  induction l with
  | nil =>
    rcases lt_total h with hab | hba
    · simp [insertBy, hab, lt_asymm hab]
    · simp [insertBy, hba, lt_asymm hba]
  | cons y ys ih =>
    have below : ∀ {u v : α}, lt (key y) (key v) = true → ¬ lt (key y) (key u) = true → lt (key u) (key v) = true := by
      intro u v hyv hyu
      by_cases huy : key u = key y
      · rw [huy]; exact hyv
      · exact lt_trans ((lt_total huy).resolve_right hyu) hyv
    by_cases hyb : lt (key y) (key b) = true <;> by_cases hya : lt (key y) (key a) = true
    · simp [insertBy, hyb, hya, ih]
    · simp [insertBy, hyb, hya, below hyb hya]
    · simp [insertBy, hyb, hya, below hya hyb]
    · rcases lt_total h with hab | hba
      · simp [insertBy, hyb, hya, hab, lt_asymm hab]
      · simp [insertBy, hyb, hya, hba, lt_asymm hba]

theorem insertBy_perm {α : Type} (key : α → List UInt8) (a : α) (l : List α) : (insertBy key a l).Perm (a :: l) := by
  induction l with
  | nil => exact List.Perm.refl _
  | cons y ys ih =>
    rw [insertBy]
    split
    · exact (List.Perm.cons y ih).trans (List.Perm.swap a y ys)
    · exact List.Perm.refl _

theorem insertBy_mem {α : Type} (key : α → List UInt8) (a : α) (l : List α) (z : α) :
    z ∈ insertBy key a l ↔ z = a ∨ z ∈ l := by
  rw [(insertBy_perm key a l).mem_iff, List.mem_cons]

theorem insertBy_sorted {α : Type} (key : α → List UInt8) (a : α) (l : List α)
    (hs : (l.map key).Pairwise (fun x y => lt x y = true)) (hnew : ∀ y ∈ l, key y ≠ key a) :
    ((insertBy key a l).map key).Pairwise (fun x y => lt x y = true) := by
  induction l with
  | nil => simp [insertBy]
  | cons y ys ih =>
    rw [List.map_cons, List.pairwise_cons] at hs
    rw [insertBy]
    split
    · rename_i hlt
      rw [List.map_cons, List.pairwise_cons]
      refine ⟨fun k hk => ?_, ih hs.2 fun z hz => hnew z (List.mem_cons_of_mem _ hz)⟩
      obtain ⟨z, hz, rfl⟩ := List.mem_map.mp hk
      rcases (insertBy_mem key a ys z).mp hz with rfl | hz'
      · exact hlt
      · exact hs.1 _ (List.mem_map_of_mem hz')
    · rename_i hnlt
      have hay := (lt_total (hnew y List.mem_cons_self)).resolve_left hnlt
      simp only [List.map_cons, List.pairwise_cons, List.mem_cons, forall_eq_or_imp]
      exact ⟨⟨hay, fun k hk => lt_trans hay (hs.1 k hk)⟩, hs.1, hs.2⟩

theorem foldl_insertBy_perm {α : Type} (key : α → List UInt8) {l₁ l₂ : List α} (hp : l₁.Perm l₂)
    (hnd : (l₁.map key).Nodup) (init : List α) :
    l₁.foldl (fun acc x => insertBy key x acc) init = l₂.foldl (fun acc x => insertBy key x acc) init := by
  refine hp.foldl_eq' (fun x hx y hy z => ?_) init
  by_cases hxy : x = y
  · rw [hxy]
  · exact insertBy_comm key y x (fun hk => hxy (List.inj_of_nodup_map hnd hx hy hk.symm)) z

theorem foldr_insertBy_perm {α : Type} (key : α → List UInt8) {l₁ l₂ : List α} (hp : l₁.Perm l₂)
    (hnd : (l₁.map key).Nodup) (init : List α) :
    l₁.foldr (insertBy key) init = l₂.foldr (insertBy key) init := by
  refine hp.foldr_eq' (fun x hx y hy z => ?_) init
  by_cases hxy : x = y
  · rw [hxy]
  · exact insertBy_comm key y x (fun hk => hxy (List.inj_of_nodup_map hnd hx hy hk.symm)) z

end Sqfs.NameOrder
