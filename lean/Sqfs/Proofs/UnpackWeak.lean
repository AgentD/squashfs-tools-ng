/-
C06, confinement from a weaker hypothesis than freshness.  The unpack root may hold anything (files, directories,
devices left by an earlier run, …) as long as no *symbolic link* sits strictly below it, or only where the image has a
symlink node of its own (`unpackTree_confined_of_links`): the invariant is then "every symbolic link below R is the object
of a visited symlink node", which is all that resolution under R needs.  Every confinement statement about `unpackTree` /
`unpackMain` is proved here (`unpackTree_confinedF`, `unpackMain_confined`).
-/
import Sqfs.Proofs.UnpackRun
namespace Sqfs.Unpack
open Sqfs.Path

/-- `R` is a directory and no symbolic link exists strictly below it (anything else may) -/
def NoLinkBelow (fs : Fs) (R : PathC) : Prop :=
  (∃ a, fs R = some ⟨.dir, a⟩) ∧ ∀ p, underB R p = true → ∀ t a, fs p ≠ some ⟨.symlink t, a⟩

theorem Fresh.noLinkBelow {fs : Fs} {R : PathC} (h : Fresh fs R) : NoLinkBelow fs R :=
  ⟨h.1, fun p hp t a e => by rw [h.2 p hp] at e; cases e⟩

/-- the weak invariant: nothing outside R has changed, and every symbolic link below R is at the path of a visited
    symlink node -/
structure InvW (V : VSet) (R : PathC) (fs₀ fs : Fs) : Prop where
  out : ∀ p, underB R p = false → fs p = fs₀ p
  lnk : ∀ comps, comps ≠ [] → ∀ t a, fs (R ++ comps) = some ⟨.symlink t, a⟩ → (comps, Kind.lnk) ∈ V

theorem InvW.resolves {V : VSet} {R : PathC} {fs₀ fs : Fs} (hi : InvW V R fs₀ fs) (hf : VFun V) (hp : VPrefix V)
    {comps : List Bytes} {k : Kind} (hm : (comps, k) ∈ V) (hg : AllGood comps) (fl : Bool) (hfl : fl = false ∨ k ≠ .lnk) :
    (∃ e, resolve fs R (joinSlash comps) fl = .error e) ∨
      (comps ≠ [] ∧ resolve fs R (joinSlash comps) fl = .ok (R ++ comps, fs (R ++ comps))) := by
  apply resolve_clean fs R comps fl hg
  · intro pre hpre hne1 hne2 t a hfs
    have hd := hp comps k pre hm hpre hne1 hne2
    have hl := hi.lnk pre hne1 t a hfs
    have := hf pre .dir .lnk hd hl
    cases this
  · intro hne
    rcases hfl with h | h
    · exact Or.inl h
    · right
      intro t a hfs
      exact h (hf comps k .lnk hm (hi.lnk comps hne t a hfs))

theorem InvW.set {V : VSet} {R : PathC} {fs₀ fs : Fs} (hi : InvW V R fs₀ fs) {comps : List Bytes} (hne : comps ≠ [])
    {n : Node} (hl : ∀ t, n.kind = .symlink t → (comps, Kind.lnk) ∈ V) : InvW V R fs₀ (fs.set (R ++ comps) n) := by
  refine ⟨set_outside hi.out hne n, fun comps' hne' t a hq => ?_⟩
  by_cases he : comps' = comps
  · subst he
    rw [fs.set_self] at hq
    cases hq
    exact hl t rfl
  · rw [fs.set_below_ne R n he] at hq
    exact hi.lnk comps' hne' t a hq

/-- a symbolic link at the place written was there before, or the call is the `symlink` made for a symlink node -/
theorem InvW.step {V : VSet} {R : PathC} {fs₀ fs fs' : Fs} {sc : Syscall} (hi : InvW V R fs₀ fs) (hf : VFun V)
    (hp : VPrefix V) (ho : OpFor V sc) (hs : step fs R sc = .ok fs') : InvW V R fs₀ fs' := by
  obtain ⟨comps, k, hm, hg, hpath, hc⟩ := ho
  obtain ⟨hne, hw⟩ := step_wrote_at hs (hpath ▸ hi.resolves hf hp hm hg sc.follows (Syscall.follows_compat hc))
  cases hw with
  | new n _ eq _ link =>
    refine eq ▸ hi.set hne fun t ht => ?_
    rw [link t ht] at hc
    cases hc
    exact hm
  | kept _ _ _ eq => exact eq ▸ hi
  | replaced n₀ n found _ eq sameSort =>
    refine eq ▸ hi.set hne fun t ht => ?_
    obtain ⟨kd, a⟩ := n₀
    rcases sameSort with e | ⟨d, d', _, e⟩
    · exact hi.lnk comps hne t a (by rw [found, ← ht, e])
    · rw [e] at ht; cases ht

theorem InvW.run {V : VSet} {R : PathC} {fs₀ : Fs} (hf : VFun V) (hp : VPrefix V) (flt : Faults) (scs : List Syscall)
    (i : Nat) (fs : Fs) (hi : InvW V R fs₀ fs) (ho : ∀ sc ∈ scs, OpFor V sc) : InvW V R fs₀ (run flt R i fs scs).fs :=
  run_preserves flt scs i fs hi fun sc hsc _ _ hi hs => hi.step hf hp (ho sc hsc) hs

/-- **The plan is confined**, whatever fails, to a root below which every symbolic link sits at the path of a symlink
    node the walks visit (what an earlier run on the same image left, say): there `symlink` answers `EEXIST` and the run
    ends; everywhere else the invariant starts as it stands. -/
theorem unpackTree_confined_of_links (ord : List FileEnt → List FileEnt) (hord : OrdOK ord) (fl : Flags) (t : TNode)
    (R : PathC) (fs₀ : Fs)
    (h : ∀ t', treeSort t = .ok t' → ∀ comps, comps ≠ [] → ∀ tg a, fs₀ (R ++ comps) = some ⟨.symlink tg, a⟩ →
      (comps, Kind.lnk) ∈ visitRoot t') : ConfinedF R fs₀ (unpackTree ord fl t).syscalls := by
  intro flt i
  cases hs : treeSort t with
  | error e => rw [unpackTree_dup ord fl hs]; rfl
  | ok t' =>
    exact outside_eq_of_out (InvW.run (visitRoot_fun (treeSort_nodup t t' hs)) (visitRoot_prefix t') flt _ i fs₀
      ⟨fun _ _ => rfl, h t' hs⟩ (unpackTree_ops ord hord fl t t' hs)).out

/-- In particular to a root below which no symbolic link sits at all (a fresh root is one; `exec` is a run without
    faults). -/
theorem unpackTree_confinedF (ord : List FileEnt → List FileEnt) (hord : OrdOK ord) (fl : Flags) (t : TNode) (R : PathC)
    (fs₀ : Fs) (h : NoLinkBelow fs₀ R) : ConfinedF R fs₀ (unpackTree ord fl t).syscalls :=
  unpackTree_confined_of_links ord hord fl t R fs₀ fun _ _ _ hne tg a e => absurd e (h.2 _ (underB_append R hne) tg a)

theorem unpackMain_confined (ord : List FileEnt → List FileEnt) (hord : OrdOK ord) (fl : Flags) (t : TNode)
    (root : Option Bytes) (flt : Faults) (cwd₀ : PathC) (fs₀ : Fs)
    (h : NoLinkBelow (unpackMain ord fl t root flt cwd₀ fs₀).fsEst (unpackMain ord fl t root flt cwd₀ fs₀).cwd) :
    outside (unpackMain ord fl t root flt cwd₀ fs₀).cwd (unpackMain ord fl t root flt cwd₀ fs₀).fs =
      outside (unpackMain ord fl t root flt cwd₀ fs₀).cwd (unpackMain ord fl t root flt cwd₀ fs₀).fsEst := by
  cases he : (unpackMain ord fl t root flt cwd₀ fs₀).established with
  | false => rw [(main_not_established rfl he).2.2]
  | true =>
    obtain ⟨t', i, _, hs, hfs, _⟩ := main_established rfl he
    rw [hfs, ← unpackTree_eq ord fl hs]
    exact unpackTree_confinedF ord hord fl t _ _ h flt i

end Sqfs.Unpack
