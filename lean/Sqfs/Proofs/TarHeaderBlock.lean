/-
C04 — the header record as the writer lays it out, and what the reader sees in it.

Slicing the fields back out of a 512-byte record built by field-wise concatenation: one general lemma (`slice_flatten_at`:
the `i`-th field of a flattened field list sits at the sum of the lengths before it), applied to the 16 fields of `rawHeader`;
the offsets that come out are the `offsetof`/`sizeof` values of `tar_header_t` (`Sqfs/Generated/Consts.lean`, regenerated from
`include/tar/format.h` on every run and compared with the numbers used here in `Sqfs/Props/C04.lean`, section `layout`).
`update_checksum` only rewrites `[148, 156)`.  Then `hdrBlock` = `update_checksum` of the field-wise concatenation: every field
`read_header`/`decode_header` slices out is the field the writer put there.
-/
import Sqfs.Proofs.TarHeaderRT
import Sqfs.Proofs.Slice
namespace Sqfs.Tar

theorem slice_flatten_at (fs : List Bytes) (lens : List Nat) (h : fs.map List.length = lens) (i : Nat) (hi : i < lens.length) :
    slice fs.flatten (lens.take i).sum (lens.getD i 0) = fs.getD i [] := by
  subst h
  rw [List.length_map] at hi
  rw [← List.map_take, List.getD_eq_getElem?_getD, List.getD_eq_getElem?_getD, List.getElem?_map,
    List.getElem?_eq_getElem hi]
  exact List.take_drop_flatten fs (List.getElem?_eq_getElem hi)

/-- the fields `write_header` and `write_hard_link` fill in: `tar_header_t` without the checksum, the magic and the user names
    (which are functions of these) -/
structure HdrFields where
  name : Bytes
  mode : Nat
  uid : Nat
  gid : Nat
  size : Nat
  mtime : Int
  tf : UInt8
  linkname : Bytes
  maj : Nat
  min : Nat

def HdrFields.raw (a : HdrFields) : Bytes := rawHeader a.name a.mode a.uid a.gid a.size a.mtime a.tf a.linkname a.maj a.min

/-- the two string fields have their size in the struct -/
structure HdrFields.Sized (a : HdrFields) : Prop where
  name : a.name.length = 100
  linkname : a.linkname.length = 100

theorem HdrFields.raw_length {a : HdrFields} (hs : a.Sized) : a.raw.length = 512 :=
  rawHeader_length _ _ _ _ _ _ _ _ _ _ hs.name hs.linkname

/-- `h` carries the fields at the offsets of `tar_header_t`; the ustar `prefix` field (and the rest of the `tail` union) is
    zero: the writer never splits a name -/
structure HasFields (h : Bytes) (a : HdrFields) : Prop where
  name : slice h 0 100 = a.name
  mode : slice h 100 8 = writeNumber a.mode 8
  uid : slice h 108 8 = writeNumber a.uid 8
  gid : slice h 116 8 = writeNumber a.gid 8
  size : slice h 124 12 = writeNumber a.size 12
  mtime : slice h 136 12 = writeNumberSigned a.mtime 12
  typeflag : slice h 156 1 = [a.tf]
  linkname : slice h 157 100 = a.linkname
  magic : slice h 257 6 = magicOld
  version : slice h 263 2 = versionOld
  devmajor : slice h 329 8 = writeNumber a.maj 8
  devminor : slice h 337 8 = writeNumber a.min 8
  pfx : slice h 345 155 = zeros 155

def rawFields (a : HdrFields) : List Bytes :=
  [a.name, writeNumber a.mode 8, writeNumber a.uid 8, writeNumber a.gid 8, writeNumber a.size 12, writeNumberSigned a.mtime 12,
   zeros 8, [a.tf], a.linkname, magicOld, versionOld, field 32 (decStr a.uid), field 32 (decStr a.gid),
   writeNumber a.maj 8, writeNumber a.min 8, zeros 167]

theorem rawHeader_fields {a : HdrFields} (hs : a.Sized) : HasFields a.raw a := by
  have e : a.raw = (rawFields a).flatten := by
    simp only [HdrFields.raw, rawHeader, rawFields, List.flatten_cons, List.flatten_nil, List.append_assoc, List.append_nil]
  have fld := slice_flatten_at (rawFields a) [100, 8, 8, 8, 12, 12, 8, 1, 100, 6, 2, 32, 32, 8, 8, 167]
    (by simp [rawFields, hs.name, hs.linkname, writeNumber_length, writeNumberSigned_length, zeros_length, field_length, magicOld,
      versionOld])
  rw [e]
  have tail : slice (rawFields a).flatten 345 167 = zeros 167 := fld 15 (by decide)
  exact ⟨fld 0 (by decide), fld 1 (by decide), fld 2 (by decide), fld 3 (by decide), fld 4 (by decide), fld 5 (by decide),
    fld 7 (by decide), fld 8 (by decide), fld 9 (by decide), fld 10 (by decide), fld 13 (by decide), fld 14 (by decide),
    (List.take_take_drop _ 345 (show 155 ≤ 167 by decide)).symm.trans ((congrArg (List.take 155) tail).trans (by simp [zeros]))⟩

theorem updateChecksum_spec (h : Bytes) (hl : h.length = 512) :
    isChecksumValid (updateChecksum h) = true ∧
    computeChecksum (updateChecksum h) = computeChecksum h ∧
    (updateChecksum h).take 148 = h.take 148 ∧ (updateChecksum h).drop 156 = h.drop 156 ∧
    (updateChecksum h).length = 512 := by
  have hA : (h.take 148).length = 148 := by simp [hl]
  have hF : ∀ c, (chksumField c).length = 8 := by intro c; simp [chksumField, octDigits_length]
  have hAF : ∀ c, (h.take 148 ++ chksumField c).length = 156 := by intro c; simp [hA, hF]
  have e1 : (updateChecksum h).take 148 = h.take 148 := by
    unfold updateChecksum
    rw [List.append_assoc]; exact List.take_left' hA
  have e2 : (updateChecksum h).drop 156 = h.drop 156 := by
    unfold updateChecksum
    exact List.drop_left' (hAF _)
  have e3 : ((updateChecksum h).drop 148).take 8 = chksumField (computeChecksum h) := by
    unfold updateChecksum
    rw [List.append_assoc, List.drop_left' hA]; exact List.take_left' (hF _)
  have e4 : computeChecksum (updateChecksum h) = computeChecksum h := by
    unfold computeChecksum; rw [e1, e2]
  have hc := computeChecksum_lt h hl
  have e5 : readNumber (chksumField (computeChecksum h)) = some (computeChecksum h) := by
    unfold chksumField
    exact readNumber_octDigits 5 _ [0, 32] (Or.inr ⟨0, [32], rfl, by decide⟩) hc
      (by simp only [U64]; norm_num at hc; omega)
  refine ⟨?_, e4, e1, e2, ?_⟩
  · unfold isChecksumValid
    rw [e3, e5, e4]; simp
  · unfold updateChecksum
    simp [hF, hl]

theorem slice_updateChecksum (h : Bytes) (off n : Nat) (hl : h.length = 512) (hb : off + n ≤ 148 ∨ 156 ≤ off) :
    slice (updateChecksum h) off n = slice h off n := by
  obtain ⟨_, _, e1, e2, _⟩ := updateChecksum_spec h hl
  rcases hb with hb | hb
  · exact List.take_drop_congr e1 hb
  · obtain ⟨d, rfl⟩ := Nat.exists_eq_add_of_le hb
    unfold slice
    rw [← List.drop_drop, ← List.drop_drop, e2]

theorem HasFields.updateChecksum {h : Bytes} {a : HdrFields} (f : HasFields h a) (hl : h.length = 512) :
    HasFields (updateChecksum h) a where
  name := (slice_updateChecksum h _ _ hl (by decide)).trans f.name
  mode := (slice_updateChecksum h _ _ hl (by decide)).trans f.mode
  uid := (slice_updateChecksum h _ _ hl (by decide)).trans f.uid
  gid := (slice_updateChecksum h _ _ hl (by decide)).trans f.gid
  size := (slice_updateChecksum h _ _ hl (by decide)).trans f.size
  mtime := (slice_updateChecksum h _ _ hl (by decide)).trans f.mtime
  typeflag := (slice_updateChecksum h _ _ hl (by decide)).trans f.typeflag
  linkname := (slice_updateChecksum h _ _ hl (by decide)).trans f.linkname
  magic := (slice_updateChecksum h _ _ hl (by decide)).trans f.magic
  version := (slice_updateChecksum h _ _ hl (by decide)).trans f.version
  devmajor := (slice_updateChecksum h _ _ hl (by decide)).trans f.devmajor
  devminor := (slice_updateChecksum h _ _ hl (by decide)).trans f.devminor
  pfx := (slice_updateChecksum h _ _ hl (by decide)).trans f.pfx

/-- the 512 bytes `write_header` / `write_hard_link` append: all fields, then `update_checksum` -/
def hdrBlock (name : Bytes) (mode uid gid size : Nat) (mtime : Int) (tf : UInt8) (linkname : Bytes) (maj min : Nat) : Bytes :=
  updateChecksum (rawHeader name mode uid gid size mtime tf linkname maj min)

def HdrFields.block (a : HdrFields) : Bytes := hdrBlock a.name a.mode a.uid a.gid a.size a.mtime a.tf a.linkname a.maj a.min

/-- the writer's dialect: "ustar " + " \0" (pre-POSIX / GNU), so `decode_header` never joins the ustar `prefix` field -/
theorem HasFields.prePosix {h : Bytes} {a : HdrFields} (f : HasFields h a) : checkVersion h = some .prePosix := by
  unfold checkVersion
  rw [f.magic, f.version]
  decide

theorem HasFields.nonzero {h : Bytes} {a : HdrFields} (f : HasFields h a) : isZeroBlock h = false := by
  have hm : (117 : UInt8) ∈ h := by
    have : (117 : UInt8) ∈ slice h 257 6 := by rw [f.magic]; decide
    exact List.mem_of_mem_drop (List.mem_of_mem_take this)
  unfold isZeroBlock
  rw [Bool.eq_false_iff]
  intro hall
  have := List.all_eq_true.1 hall 117 hm
  revert this; decide

section block
variable {a : HdrFields} (hs : a.Sized)
include hs

theorem HdrFields.block_length : a.block.length = 512 := (updateChecksum_spec _ (HdrFields.raw_length hs)).2.2.2.2

theorem HdrFields.block_checksum : isChecksumValid a.block = true := (updateChecksum_spec _ (HdrFields.raw_length hs)).1

theorem HdrFields.block_fields : HasFields a.block a := (rawHeader_fields hs).updateChecksum (HdrFields.raw_length hs)

end block

end Sqfs.Tar
