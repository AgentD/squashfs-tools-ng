/-
C04 — `base64_decode` (lib/util/src/base64_decode.c as `pax_xattr_libarchive` calls it): it inverts base64 encoding.
-/
import Sqfs.Model.TarPax
namespace Sqfs.Tar

/-- the base64 alphabet `A–Z a–z 0–9 + /` -/
def b64Char (n : Nat) : UInt8 :=
  if n < 26 then UInt8.ofNat (65 + n) else if n < 52 then UInt8.ofNat (97 + (n - 26)) else if n < 62 then UInt8.ofNat (48 + (n - 52))
  else if n = 62 then 43 else 47

/-- RFC 4648 base64 with '=' padding -/
def b64Encode : Bytes → Bytes
  | [] => []
  | [a] => [b64Char (a.toNat / 4), b64Char (a.toNat % 4 * 16), 61, 61]
  | [a, b] => [b64Char (a.toNat / 4), b64Char (a.toNat % 4 * 16 + b.toNat / 16), b64Char (b.toNat % 16 * 4), 61]
  | a :: b :: c :: t =>
    b64Char (a.toNat / 4) :: b64Char (a.toNat % 4 * 16 + b.toNat / 16) :: b64Char (b.toNat % 16 * 4 + c.toNat / 64) ::
      b64Char (c.toNat % 64) :: b64Encode t

theorem b64Digit_char : ∀ n, n < 64 → b64Digit (b64Char n) = some n ∧ isPad (b64Char n) = false := by decide

theorem isPad_eq : isPad 61 = true := by decide

theorem ofNat_of_toNat {n : Nat} {c : UInt8} (h : n = c.toNat) : UInt8.ofNat n = c := h ▸ UInt8.ofNat_toNat

theorem b64Loop_four {c1 c2 c3 c4 : UInt8} {i1 i2 i3 i4 : Nat} (h1 : b64Digit c1 = some i1) (h2 : b64Digit c2 = some i2)
    (h3 : b64Digit c3 = some i3 ∧ isPad c3 = false) (h4 : b64Digit c4 = some i4 ∧ isPad c4 = false)
    (rest acc : Bytes) (cap f : Nat) (hc : acc.length + 3 ≤ cap) :
    b64Loop cap (f + 1) (c1 :: c2 :: c3 :: c4 :: rest) acc =
      b64Loop cap f rest (acc ++ [UInt8.ofNat ((i1 * 4 + i2 / 16) % 256), UInt8.ofNat ((i2 % 16 * 16 + i3 / 4) % 256),
        UInt8.ofNat ((i3 % 4 * 64 + i4) % 256)]) := by
  have hl : ¬ acc.length ≥ cap := by omega
  have hl2 : ¬ acc.length + 1 ≥ cap := by omega
  have hl3 : ¬ acc.length + 1 + 1 ≥ cap := by omega
  simp only [b64Loop, h1, h2, h3.1, h3.2, h4.1, h4.2, hl, hl2, hl3, if_false, Bool.false_eq_true,
    List.length_append, List.length_cons, List.length_nil, List.append_assoc, List.cons_append, List.nil_append]

theorem b64Loop_two {c1 c2 : UInt8} {i1 i2 : Nat} (h1 : b64Digit c1 = some i1) (h2 : b64Digit c2 = some i2) (pad : Bool)
    (acc : Bytes) (cap f : Nat) (hc : acc.length + 1 ≤ cap) :
    b64Loop cap (f + 1) (c1 :: c2 :: (if pad then [61, 61] else [])) acc =
      some (acc ++ [UInt8.ofNat ((i1 * 4 + i2 / 16) % 256)]) := by
  have hl : ¬ acc.length ≥ cap := by omega
  cases pad <;>
    simp only [b64Loop, h1, h2, hl, if_false, if_true, isPad_eq, not_true_eq_false, ne_eq, or_self, Bool.false_eq_true]

theorem b64Loop_three {c1 c2 c3 : UInt8} {i1 i2 i3 : Nat} (h1 : b64Digit c1 = some i1) (h2 : b64Digit c2 = some i2)
    (h3 : b64Digit c3 = some i3 ∧ isPad c3 = false) (pad : Bool) (acc : Bytes) (cap f : Nat) (hc : acc.length + 2 ≤ cap) :
    b64Loop cap (f + 1) (c1 :: c2 :: c3 :: (if pad then [61] else [])) acc =
      some (acc ++ [UInt8.ofNat ((i1 * 4 + i2 / 16) % 256), UInt8.ofNat ((i2 % 16 * 16 + i3 / 4) % 256)]) := by
  have hl : ¬ acc.length ≥ cap := by omega
  have hl2 : ¬ acc.length + 1 ≥ cap := by omega
  cases pad <;>
    simp only [b64Loop, h1, h2, h3.1, h3.2, hl, hl2, if_false, if_true, isPad_eq, not_true_eq_false, ne_eq,
      Bool.false_eq_true, List.length_append, List.length_cons, List.length_nil, List.append_assoc,
      List.cons_append, List.nil_append]

/-! What one byte of a group contributes: the digits it determines are below 64, and the decoder's recombination gives the byte
back: a digit `x * k + y` with `y < k` falls apart into `x` and `y` again.  What the neighbouring bytes add to those digits is a
variable (`p`: cut off by the decoder; `q`: too small to carry), and is 0 in a last group of one or two bytes. -/

theorem mul_add_divMod (x y k : Nat) (hy : y < k) : (x * k + y) / k = x ∧ (x * k + y) % k = y := by
  have hk : 0 < k := Nat.lt_of_le_of_lt (Nat.zero_le _) hy
  rw [Nat.add_comm, Nat.add_mul_div_right _ _ hk, Nat.add_mul_mod_self_right, Nat.div_eq_of_lt hy, Nat.mod_eq_of_lt hy,
    Nat.zero_add]
  exact ⟨rfl, rfl⟩

theorem byte1 (a : UInt8) (q : Nat) (hq : q < 16) : a.toNat / 4 < 64 ∧ a.toNat % 4 * 16 + q < 64 ∧
    UInt8.ofNat ((a.toNat / 4 * 4 + (a.toNat % 4 * 16 + q) / 16) % 256) = a := by
  refine ⟨Nat.div_lt_of_lt_mul a.toNat_lt, by omega, ofNat_of_toNat ?_⟩
  rw [(mul_add_divMod _ q 16 hq).1, Nat.div_add_mod', Nat.mod_eq_of_lt a.toNat_lt]

theorem byte2 (b : UInt8) (p q : Nat) (hq : q < 4) : b.toNat % 16 * 4 + q < 64 ∧
    UInt8.ofNat (((p * 16 + b.toNat / 16) % 16 * 16 + (b.toNat % 16 * 4 + q) / 4) % 256) = b := by
  refine ⟨by omega, ofNat_of_toNat ?_⟩
  rw [(mul_add_divMod p _ 16 (Nat.div_lt_of_lt_mul b.toNat_lt)).2, (mul_add_divMod _ q 4 hq).1, Nat.div_add_mod',
    Nat.mod_eq_of_lt b.toNat_lt]

theorem byte3 (c : UInt8) (p : Nat) : c.toNat % 64 < 64 ∧
    UInt8.ofNat (((p * 4 + c.toNat / 64) % 4 * 64 + c.toNat % 64) % 256) = c := by
  refine ⟨Nat.mod_lt _ (by decide), ofNat_of_toNat ?_⟩
  rw [(mul_add_divMod p _ 4 (Nat.div_lt_of_lt_mul c.toNat_lt)).2, Nat.div_add_mod', Nat.mod_eq_of_lt c.toNat_lt]

/-- base64 without the trailing '=' padding (what libarchive writes) -/
def b64EncodeNoPad : Bytes → Bytes
  | [] => []
  | [a] => [b64Char (a.toNat / 4), b64Char (a.toNat % 4 * 16)]
  | [a, b] => [b64Char (a.toNat / 4), b64Char (a.toNat % 4 * 16 + b.toNat / 16), b64Char (b.toNat % 16 * 4)]
  | a :: b :: c :: t =>
    b64Char (a.toNat / 4) :: b64Char (a.toNat % 4 * 16 + b.toNat / 16) :: b64Char (b.toNat % 16 * 4 + c.toNat / 64) ::
      b64Char (c.toNat % 64) :: b64EncodeNoPad t

/-- both encoders at once: `pad` says whether the last group is filled up with '=' -/
def b64EncodeWith (pad : Bool) : Bytes → Bytes
  | [] => []
  | [a] => b64Char (a.toNat / 4) :: b64Char (a.toNat % 4 * 16) :: (if pad then [61, 61] else [])
  | [a, b] => b64Char (a.toNat / 4) :: b64Char (a.toNat % 4 * 16 + b.toNat / 16) :: b64Char (b.toNat % 16 * 4) ::
      (if pad then [61] else [])
  | a :: b :: c :: t =>
    b64Char (a.toNat / 4) :: b64Char (a.toNat % 4 * 16 + b.toNat / 16) :: b64Char (b.toNat % 16 * 4 + c.toNat / 64) ::
      b64Char (c.toNat % 64) :: b64EncodeWith pad t

theorem b64Encode_eq (v : Bytes) : b64Encode v = b64EncodeWith true v := by
  induction v using b64Encode.induct with
  | case4 a b c t ih => simp only [b64Encode, b64EncodeWith, ih]
  | _ => rfl

theorem b64EncodeNoPad_eq (v : Bytes) : b64EncodeNoPad v = b64EncodeWith false v := by
  induction v using b64EncodeNoPad.induct with
  | case4 a b c t ih => simp only [b64EncodeNoPad, b64EncodeWith, ih]
  | _ => rfl

theorem b64Loop_encodeWith (pad : Bool) : ∀ (v acc : Bytes) (cap f : Nat), acc.length + (b64EncodeWith pad v).length ≤ cap →
    (b64EncodeWith pad v).length ≤ f → b64Loop cap (f + 1) (b64EncodeWith pad v) acc = some (acc ++ v) := by
  intro v
  induction v using b64EncodeWith.induct with
  | case1 => intro acc cap f _ _; simp [b64EncodeWith, b64Loop]
  | case2 a =>
    intro acc cap f hc _
    obtain ⟨h1, h2, e1⟩ := byte1 a 0 (by decide)
    rw [Nat.add_zero] at h2 e1
    rw [b64EncodeWith, List.length_cons, List.length_cons] at hc
    rw [b64EncodeWith, b64Loop_two (b64Digit_char _ h1).1 (b64Digit_char _ h2).1 pad acc cap f (by omega), e1]
  | case3 a b =>
    intro acc cap f hc _
    obtain ⟨h1, h2, e1⟩ := byte1 a (b.toNat / 16) (Nat.div_lt_of_lt_mul b.toNat_lt)
    obtain ⟨h3, e2⟩ := byte2 b (a.toNat % 4) 0 (by decide)
    rw [Nat.add_zero] at h3 e2
    rw [b64EncodeWith, List.length_cons, List.length_cons, List.length_cons] at hc
    rw [b64EncodeWith, b64Loop_three (b64Digit_char _ h1).1 (b64Digit_char _ h2).1 (b64Digit_char _ h3) pad acc cap f (by omega),
      e1, e2]
  | case4 a b c t ih =>
    intro acc cap f hc hf
    obtain ⟨h1, h2, e1⟩ := byte1 a (b.toNat / 16) (Nat.div_lt_of_lt_mul b.toNat_lt)
    obtain ⟨h3, e2⟩ := byte2 b (a.toNat % 4) (c.toNat / 64) (Nat.div_lt_of_lt_mul c.toNat_lt)
    obtain ⟨h4, e3⟩ := byte3 c (b.toNat % 16)
    simp only [b64EncodeWith, List.length_cons] at hc hf ⊢
    obtain ⟨f', rfl⟩ : ∃ f', f = f' + 1 := ⟨f - 1, by omega⟩
    rw [b64Loop_four (b64Digit_char _ h1).1 (b64Digit_char _ h2).1 (b64Digit_char _ h3) (b64Digit_char _ h4) _ acc cap (f' + 1)
      (by omega), e1, e2, e3, ih _ cap f' (by simp; omega) (by omega)]
    simp

theorem base64Decode_encodeWith (pad : Bool) (v : Bytes) : base64Decode (b64EncodeWith pad v) = some v := by
  simpa [base64Decode] using b64Loop_encodeWith pad v [] _ _ (by simp) (Nat.le_refl _)

theorem base64Decode_encode (v : Bytes) : base64Decode (b64Encode v) = some v :=
  b64Encode_eq v ▸ base64Decode_encodeWith true v

theorem base64Decode_encodeNoPad (v : Bytes) : base64Decode (b64EncodeNoPad v) = some v :=
  b64EncodeNoPad_eq v ▸ base64Decode_encodeWith false v

end Sqfs.Tar
