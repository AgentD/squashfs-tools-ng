/-
Lemmas about the model of the metadata reader, for C10: what `loadBlock` and `seek` can answer; `CohW` (coherent over a
window: `start` and `limit` never change), kept by `seek`, by every iteration of the read loop and so by every history; what
two coherent readers over the same window have in common (`seek_status`, `CohW.sim`, `CohW.sim_seek`); `Obs`: two readers
that no continuation can tell apart (equal views, or the end of a block against the start of the next one), a congruence
for `getPos`, `read` and `answerReads`, and what seeking back to a remembered position yields (`seek_back_obs`).
The congruence lemmas of `Sim` come from `Sqfs/Proofs/MetaView.lean`.
-/
import Sqfs.Proofs.MetaView
namespace Sqfs.MetaReader
open Sqfs.Consts
-- `split` as a single rewrite of the `if`/`match` it splits (the default re-simplifies the whole goal through the
-- congruence lemmas of `ite`, at a cost that doubles with every level of nesting)
set_option backward.split false

theorem errOOB_ne_zero : errOutOfBounds ≠ 0 := by decide
theorem zero_lt_crash : (0 : Nat) < crashSt := by decide
theorem zero_ne_crash : (0 : Nat) ≠ crashSt := by decide
theorem zero_ne_fuel : (0 : Nat) ≠ fuelSt := by decide

theorem readAt_length {f : File} {off n : Nat} {bs : Bytes} (h : f.readAt off n = .ok bs) : bs.length = n := by
  revert h
  fun_cases File.readAt f off n <;> intro h <;> cases h
  simp

theorem readAt_err {f : File} {off n : Nat} {e : Status} (h : f.readAt off n = .error e) : e ≠ 0 ∧ e < crashSt := by
  revert h
  fun_cases File.readAt f off n <;> intro h <;> cases h <;> decide

/-- `e < crashSt`: an error code of the C side, none of the model's own -/
theorem loadBlock_spec {f : File} {unc : Codec} (hc : CodecOK unc) (limit b : Nat) :
    match loadBlock f unc limit b with
    | .early e => e ≠ 0 ∧ e < crashSt
    | .uncErr e raw => (e ≠ 0 ∧ e < crashSt) ∧ raw.length ≤ metaBlockSize
    | .done raw blk size => raw.length = size ∧ size ≤ metaBlockSize ∧ blk.length ≤ metaBlockSize := by
  fun_cases loadBlock f unc limit b
  case case1 he | case4 he => exact readAt_err he
  case case2 | case3 => decide
  case case5 hsz _ raw hr _ e he =>
    exact ⟨⟨Nat.ne_of_gt (hc.2 _ _ _ he).1, (hc.2 _ _ _ he).2⟩, by have := readAt_length hr; omega⟩
  case case6 hsz _ raw hr _ out ho => exact ⟨readAt_length hr, Nat.le_of_not_gt hsz, hc.1 _ _ _ ho⟩
  case case7 hsz _ raw hr _ => exact ⟨readAt_length hr, Nat.le_of_not_gt hsz, by have := readAt_length hr; omega⟩

section
variable {f : File} {unc : Codec} {m : MR} (h : Coherent f unc m)
include h
theorem Coherent.offset_le : m.offset ≤ m.dataUsed := h.1.1
theorem Coherent.dataUsed_le : m.dataUsed ≤ m.data.length := h.1.2.1
theorem Coherent.length_eq : m.data.length = metaBlockSize := h.1.2.2.1
theorem Coherent.limit_le : m.limit ≤ NONE := h.1.2.2.2
theorem Coherent.empty (ht : m.tag = NONE) : m.dataUsed = 0 := h.2.1 ht
theorem Coherent.cached (ht : m.tag ≠ NONE) : ∃ raw blk size, loadBlock f unc m.limit m.tag = .done raw blk size ∧
    m.data.take m.dataUsed = blk ∧ m.dataUsed = blk.length ∧ m.nextBlock = wrap64 (m.tag + size + 2) := h.2.2 ht
theorem Coherent.setOffset {o : Nat} (ho : o ≤ m.dataUsed) : Coherent f unc { m with offset := o } := ⟨⟨ho, h.1.2⟩, h.2⟩
end

theorem coherent_of_empty {f : File} {unc : Codec} {m : MR} (ht : m.tag = NONE) (hd : m.dataUsed = 0) (ho : m.offset = 0)
    (hlen : m.data.length = metaBlockSize) (hl : m.limit ≤ NONE) : Coherent f unc m :=
  ⟨⟨by omega, by omega, hlen, hl⟩, fun _ => hd, fun h => absurd ht h⟩

theorem fresh_coherent (f : File) (unc : Codec) (s l : Nat) (hl : l ≤ NONE) : Coherent f unc (fresh s l) :=
  coherent_of_empty rfl rfl rfl List.length_replicate hl

theorem seek_coherent {f : File} {unc : Codec} (hc : CodecOK unc) {m : MR} (hm : Coherent f unc m) (b o : Nat) :
    Coherent f unc (seek true f unc m b o).2 := by
  have hlb := loadBlock_spec hc (f := f) m.limit b
  have hlim := hm.limit_le
  -- what is copied into the buffer fits, so the buffer keeps its size
  have hlen : ∀ {new buf : Bytes}, buf.length = metaBlockSize → new.length ≤ metaBlockSize →
      (overwrite buf new).length = metaBlockSize := fun hb hn => (overwrite_length (by omega)).trans hb
  fun_cases seek true f unc m b o
  case case1 | case2 => exact hm
  case case3 => exact hm.setOffset (by omega)
  case case4 => exact coherent_of_empty rfl rfl rfl hm.length_eq hlim
  case case5 hl => rw [hl] at hlb; exact coherent_of_empty rfl rfl rfl (hlen hm.length_eq hlb.2) hlim
  case case6 hl _ _ =>
    rw [hl] at hlb
    exact coherent_of_empty rfl rfl rfl (hlen (hlen hm.length_eq (by omega)) hlb.2.2) hlim
  case case7 raw blk size hl _ ho =>
    rw [hl] at hlb
    have hl2 := hlen (hlen (new := raw) hm.length_eq (by omega)) hlb.2.2
    refine ⟨⟨Nat.le_of_lt (Nat.lt_of_not_ge ho), hl2 ▸ hlb.2.2, hl2, hlim⟩, fun (hb' : b = NONE) => by omega,
      fun _ => ⟨raw, blk, size, hl, overwrite_take _ _, rfl, rfl⟩⟩

theorem seek_post {fix : Bool} {f : File} {unc : Codec} (hc : CodecOK unc) (m : MR) (b o : Nat) :
    (seek fix f unc m b o).1 < crashSt ∧
    ((seek fix f unc m b o).1 = 0 → (seek fix f unc m b o).2.offset = o ∧ o < (seek fix f unc m b o).2.dataUsed ∧
      (seek fix f unc m b o).2.tag = b) := by
  have oob : ∀ {p : Prop}, errOutOfBounds < crashSt ∧ (errOutOfBounds = 0 → p) :=
    ⟨by decide, fun h => absurd h errOOB_ne_zero⟩
  have hs := loadBlock_spec hc (f := f) m.limit b
  fun_cases seek fix f unc m b o
  case case1 | case2 | case6 => exact oob
  case case3 hb _ => exact ⟨zero_lt_crash, fun _ => ⟨rfl, by simp only; omega, hb.symm⟩⟩
  case case4 hl => rw [hl] at hs; exact ⟨hs.2, fun h => absurd h hs.1⟩
  case case5 hl => rw [hl] at hs; exact ⟨hs.1.2, fun h => absurd h hs.1.1⟩
  case case7 => exact ⟨zero_lt_crash, fun _ => ⟨rfl, by simp only; omega, rfl⟩⟩

theorem seek_getPos {fix : Bool} {f : File} {unc : Codec} (hc : CodecOK unc) {m : MR} {b o : Nat}
    (h : (seek fix f unc m b o).1 = 0) : getPos (seek fix f unc m b o).2 = (b, o) := by
  obtain ⟨h1, h2, h3⟩ := (seek_post hc _ _ _).2 h
  unfold getPos
  rw [h1, h3]
  have : ¬ o = (seek fix f unc m b o).2.dataUsed := by omega
  simp only [this, if_false]

theorem seek_start_limit (fix : Bool) (f : File) (unc : Codec) (m : MR) (b o : Nat) :
    (seek fix f unc m b o).2.start = m.start ∧ (seek fix f unc m b o).2.limit = m.limit := by
  fun_cases seek fix f unc m b o <;> cases fix <;> exact ⟨rfl, rfl⟩

theorem refill_start_limit (fix : Bool) (f : File) (unc : Codec) (m : MR) :
    (refill fix f unc m).2.1.start = m.start ∧ (refill fix f unc m).2.1.limit = m.limit := by
  unfold refill
  simp only
  split
  · exact seek_start_limit _ _ _ _ _ _
  · exact ⟨rfl, rfl⟩

theorem readStep_start_limit (fix : Bool) (f : File) (unc : Codec) (m : MR) (size : Nat) :
    match readStep fix f unc m size with
    | .done _ m' => m'.start = m.start ∧ m'.limit = m.limit
    | .more m' _ _ => m'.start = m.start ∧ m'.limit = m.limit := by
  have hr := refill_start_limit fix f unc m
  fun_cases readStep fix f unc m size
  · exact ⟨rfl, rfl⟩
  · fun_cases readStepBody fix f unc m size <;> exact hr

theorem readLoop_start_limit (fix : Bool) (f : File) (unc : Codec) (k : Nat) (m : MR) (size : Nat) (acc : Bytes) :
    (readLoop fix f unc k m size acc).2.2.start = m.start ∧ (readLoop fix f unc k m size acc).2.2.limit = m.limit := by
  fun_induction readLoop fix f unc k m size acc
  case case1 | case2 | case3 => exact ⟨rfl, rfl⟩
  case case4 m size _ _ _ _ h => have := readStep_start_limit fix f unc m size; rwa [h] at this
  case case5 m size _ _ _ _ _ h ih =>
    have := readStep_start_limit fix f unc m size
    rw [h] at this
    exact ⟨ih.1.trans this.1, ih.2.trans this.2⟩

theorem read_start_limit (fix : Bool) (f : File) (unc : Codec) (m : MR) (n : Nat) :
    (read fix f unc m n).2.2.start = m.start ∧ (read fix f unc m n).2.2.limit = m.limit :=
  readLoop_start_limit fix f unc n m n []

/-- coherent, over the window `w`: `start` and `limit` never change, so this is what every call keeps -/
structure CohW (f : File) (unc : Codec) (w : Nat × Nat) (m : MR) : Prop where
  coherent : Coherent f unc m
  start_eq : m.start = w.1
  limit_eq : m.limit = w.2

theorem CohW.of_coherent {f : File} {unc : Codec} {m : MR} (h : Coherent f unc m) : CohW f unc (m.start, m.limit) m :=
  ⟨h, rfl, rfl⟩

theorem CohW.fresh (f : File) (unc : Codec) {w : Nat × Nat} (hl : w.2 ≤ NONE) : CohW f unc w (fresh w.1 w.2) :=
  ⟨fresh_coherent f unc _ _ hl, rfl, rfl⟩

theorem CohW.of_seek {f : File} {unc : Codec} (hc : CodecOK unc) {w : Nat × Nat} {m : MR} (h : CohW f unc w m) (b o : Nat) :
    CohW f unc w (seek true f unc m b o).2 :=
  ⟨seek_coherent hc h.coherent b o, (seek_start_limit true f unc m b o).1.trans h.start_eq,
    (seek_start_limit true f unc m b o).2.trans h.limit_eq⟩

/-- on a coherent reader `data_used - offset` does not wrap (closes D3 for the repaired code) -/
theorem CohW.of_refill {f : File} {unc : Codec} (hc : CodecOK unc) {w : Nat × Nat} {m : MR} (hm : CohW f unc w m) :
    CohW f unc w (refill true f unc m).2.1 ∧ (refill true f unc m).1 < crashSt ∧
    ((refill true f unc m).1 = 0 →
      (refill true f unc m).2.1.offset + (refill true f unc m).2.2 ≤ (refill true f unc m).2.1.dataUsed ∧
      0 < (refill true f unc m).2.2) := by
  unfold refill
  simp only
  split
  · refine ⟨hm.of_seek hc _ _, (seek_post hc _ _ _).1, fun h => ?_⟩
    obtain ⟨h1, h2, _⟩ := (seek_post hc _ _ _).2 h
    constructor <;> simp only <;> omega
  · rename_i hd
    refine ⟨hm, zero_lt_crash, fun _ => ?_⟩
    have hle := hm.coherent.offset_le
    rw [subWrap_of_le hle] at hd ⊢
    constructor <;> simp only <;> omega

/-- `st < crashSt`: the copy stays inside `m->data`; `size' < size`: an iteration delivers at least one byte of a non-empty request -/
theorem CohW.of_readStep {f : File} {unc : Codec} (hc : CodecOK unc) {w : Nat × Nat} {m : MR} (hm : CohW f unc w m) (size : Nat) :
    match readStep true f unc m size with
    | .done st m' => CohW f unc w m' ∧ st < crashSt
    | .more m' size' _ => CohW f unc w m' ∧ (size ≠ 0 → size' < size) := by
  obtain ⟨hc1, hst, hok⟩ := hm.of_refill hc
  rw [readStep_of_le _ _ _ _ _ hm.coherent.offset_le]
  unfold readStepBody
  generalize refill true f unc m = r at hc1 hst hok ⊢
  obtain ⟨st, m1, d1⟩ := r
  simp only at hc1 hst hok ⊢
  by_cases h0 : st = 0
  · subst h0
    obtain ⟨hle, hpos⟩ := hok rfl
    have hdu := hc1.coherent.dataUsed_le
    generalize hdiff : (if d1 > size then size else d1) = diff
    have hd : diff ≤ d1 ∧ (size ≠ 0 → 0 < diff ∧ diff ≤ size) := by rw [← hdiff]; split <;> omega
    simp only [ne_eq, not_true_eq_false, if_false]
    rw [if_neg (by omega)]
    exact ⟨⟨hc1.coherent.setOffset (by omega), hc1.start_eq, hc1.limit_eq⟩, fun hsz => by have := hd.2 hsz; omega⟩
  · simp only [ne_eq, h0, not_false_eq_true, if_true]
    exact ⟨hc1, hst⟩

/-- `< crashSt` rules out both `crashSt` (a copy that leaves `m->data`) and `fuelSt` (the fuel `size` given by `read`
running out) -/
theorem CohW.of_readLoop {f : File} {unc : Codec} (hc : CodecOK unc) {w : Nat × Nat} (k : Nat) (m : MR) (size : Nat) (acc : Bytes)
    (hm : CohW f unc w m) :
    CohW f unc w (readLoop true f unc k m size acc).2.2 ∧ (size ≤ k → (readLoop true f unc k m size acc).1 < crashSt) := by
  fun_induction readLoop true f unc k m size acc
  case case1 | case3 => exact ⟨hm, fun _ => zero_lt_crash⟩
  case case2 => exact ⟨hm, fun _ => by omega⟩
  case case4 m size _ _ _ _ h =>
    have := hm.of_readStep hc size
    rw [h] at this
    exact ⟨this.1, fun _ => this.2⟩
  case case5 m size _ hsz _ _ _ h ih =>
    have := hm.of_readStep hc size
    rw [h] at this
    exact ⟨(ih this.1).1, fun _ => (ih this.1).2 (by have := this.2 hsz; omega)⟩

theorem CohW.of_read {f : File} {unc : Codec} (hc : CodecOK unc) {w : Nat × Nat} {m : MR} (h : CohW f unc w m) (n : Nat) :
    CohW f unc w (read true f unc m n).2.2 := (h.of_readLoop hc n m n []).1

theorem read_coherent {f : File} {unc : Codec} (hc : CodecOK unc) {m : MR} (hm : Coherent f unc m) (n : Nat) :
    Coherent f unc (read true f unc m n).2.2 := ((CohW.of_coherent hm).of_read hc n).coherent

theorem read_status_lt {f : File} {unc : Codec} (hc : CodecOK unc) {m : MR} (hm : Coherent f unc m) (n : Nat) :
    (read true f unc m n).1 < crashSt := ((CohW.of_coherent hm).of_readLoop hc n m n []).2 (Nat.le_refl n)

theorem CohW.of_run {f : File} {unc : Codec} (hc : CodecOK unc) {w : Nat × Nat} (h : List Op) :
    ∀ m : MR, CohW f unc w m → CohW f unc w (run true f unc m h) := by
  induction h with
  | nil => intro m hm; exact hm
  | cons op rest ih =>
    intro m hm
    have hstep : CohW f unc w (step true f unc m op) := by
      cases op with
      | seek b o => exact hm.of_seek hc b o
      | read n => exact hm.of_read hc n
      | pos => exact hm
    exact ih _ hstep

theorem seek_status {f : File} {unc : Codec} {w : Nat × Nat} {m : MR} (hm : CohW f unc w m) (b o : Nat) :
    (seek true f unc m b o).1 = (seek true f unc (fresh w.1 w.2) b o).1 := by
  rw [← hm.start_eq, ← hm.limit_eq]
  have hm := hm.coherent
  unfold seek
  by_cases hw : b < m.start ∨ b ≥ m.limit
  · simp only [fresh, hw, if_true]
  have hN : ¬ b = NONE := by have := hm.limit_le; omega
  simp only [fresh, hw, hN, if_false, if_true]
  by_cases ht : b = m.tag
  · -- a hit: the cached block is the one `loadBlock` yields, so the offset test is the same
    subst ht
    obtain ⟨raw, blk, size, hl, _, hdu, _⟩ := hm.cached hN
    simp only [if_true, hl, hdu]
    split <;> rfl
  · simp only [ht, if_false]
    cases loadBlock f unc m.limit b with
    | early e => rfl
    | uncErr e raw => rfl
    | done raw blk size => simp only; split <;> rfl

/-- with something to read the tag is not `NONE`, and the cache of a coherent reader is a function of window and tag -/
theorem CohW.sim {f : File} {unc : Codec} {w : Nat × Nat} {m₁ m₂ : MR} (c₁ : CohW f unc w m₁) (c₂ : CohW f unc w m₂)
    (ht : m₁.tag = m₂.tag) (hd : 0 < m₁.dataUsed) (ho : m₁.offset = m₂.offset) : Sim m₁ m₂ := by
  have hN : m₁.tag ≠ NONE := fun hN => by have := c₁.coherent.empty hN; omega
  have hl := c₁.limit_eq.trans c₂.limit_eq.symm
  obtain ⟨raw, blk, size, l1, t1, d1, n1⟩ := c₁.coherent.cached hN
  obtain ⟨raw', blk', size', l2, t2, d2, n2⟩ := c₂.coherent.cached (ht ▸ hN)
  rw [← hl, ← ht, l1] at l2
  cases l2
  exact ⟨c₁.start_eq.trans c₂.start_eq.symm, hl, ht, by rw [n1, n2, ht], d1.trans d2.symm, ho,
    c₁.coherent.length_eq.trans c₂.coherent.length_eq.symm, t1.trans t2.symm⟩

theorem CohW.sim_seek {f : File} {unc : Codec} (hc : CodecOK unc) {w : Nat × Nat} {m₁ m₂ : MR}
    (c₁ : CohW f unc w m₁) (c₂ : CohW f unc w m₂) (b o : Nat) :
    (seek true f unc m₁ b o).1 = (seek true f unc m₂ b o).1 ∧
    ((seek true f unc m₁ b o).1 = 0 → Sim (seek true f unc m₁ b o).2 (seek true f unc m₂ b o).2) := by
  have e := (seek_status c₁ b o).trans (seek_status c₂ b o).symm
  refine ⟨e, fun h0 => ?_⟩
  obtain ⟨o1, d1, t1⟩ := (seek_post hc m₁ b o).2 h0
  obtain ⟨o2, _, t2⟩ := (seek_post hc m₂ b o).2 (e ▸ h0)
  exact (c₁.of_seek hc b o).sim (c₂.of_seek hc b o) (t1.trans t2.symm) (by omega) (o1.trans o2.symm)

/-- … hence the same answer to every query: after the seek both stand at `(b, o)` over the same block -/
theorem CohW.answer_eq {f : File} {unc : Codec} (hc : CodecOK unc) {w : Nat × Nat} {m₁ m₂ : MR} (c₁ : CohW f unc w m₁)
    (c₂ : CohW f unc w m₂) (b o : Nat) (ns : List Nat) : answer true f unc m₁ b o ns = answer true f unc m₂ b o ns := by
  have hv := c₁.sim_seek hc c₂ b o
  unfold answer
  simp only
  rw [hv.1]
  by_cases hst : (seek true f unc m₂ b o).1 = 0
  · simp only [hst, ne_eq, not_true_eq_false, if_false]
    rw [sim_answerReads (hv.2 (hv.1.trans hst)) ns]
  · simp only [hst, ne_eq, not_false_eq_true, if_true]

theorem refill_at_end (fix : Bool) (f : File) (unc : Codec) {m : MR} (h : m.offset = m.dataUsed) :
    refill fix f unc m =
      ((seek fix f unc m m.nextBlock 0).1, (seek fix f unc m m.nextBlock 0).2, (seek fix f unc m m.nextBlock 0).2.dataUsed) := by
  unfold refill
  have : subWrap m.dataUsed m.offset = 0 := by rw [subWrap_of_le (Nat.le_of_eq h), h, Nat.sub_self]
  simp only [this, if_true]

theorem refill_at_start (fix : Bool) (f : File) (unc : Codec) {m : MR} (h0 : m.offset = 0) (hd : m.dataUsed ≠ 0) :
    refill fix f unc m = (0, m, m.dataUsed) := by
  unfold refill
  have : subWrap m.dataUsed m.offset = m.dataUsed := by rw [subWrap_of_le (h0 ▸ Nat.zero_le _), h0, Nat.sub_zero]
  simp only [this, hd, if_false]

theorem read_zero (fix : Bool) (f : File) (unc : Codec) (m : MR) : read fix f unc m 0 = (0, [], m) := by
  unfold read
  rw [readLoop]
  simp

/-- two reader objects no continuation can tell apart: indistinguishable in every field that matters (`Sim`), or
the first sits at the very end of its block and the second at the start of the following one (what seeking back to
a remembered `get_position` produces when the remembered position was a block end) -/
def Obs (f : File) (unc : Codec) (m₁ m₂ : MR) : Prop :=
  Sim m₁ m₂ ∨
  (m₁.offset = m₁.dataUsed ∧ (seek true f unc m₁ m₁.nextBlock 0).1 = 0 ∧ Sim (seek true f unc m₁ m₁.nextBlock 0).2 m₂)

theorem obs_getPos {f : File} {unc : Codec} (hc : CodecOK unc) {m₁ m₂ : MR} (h : Obs f unc m₁ m₂) : getPos m₁ = getPos m₂ := by
  rcases h with h | ⟨hend, hs0, hsim⟩
  · exact sim_getPos h
  · rw [← sim_getPos hsim, seek_getPos hc hs0]
    unfold getPos
    simp only [hend, if_true]

/-- the first iteration of the reader at the block end *is* the first iteration of the reader it becomes by the seek (its
`refill` does that seek, the other's `refill` does nothing), so the two reads are equal, and the rest is the congruence of `Sim` -/
theorem obs_read {f : File} {unc : Codec} (hc : CodecOK unc) {m₁ m₂ : MR} (h : Obs f unc m₁ m₂) (n : Nat) :
    (read true f unc m₁ n).1 = (read true f unc m₂ n).1 ∧ (read true f unc m₁ n).2.1 = (read true f unc m₂ n).2.1 ∧
    Obs f unc (read true f unc m₁ n).2.2 (read true f unc m₂ n).2.2 := by
  by_cases hn : n = 0
  · subst hn
    simp only [read_zero]
    exact ⟨trivial, trivial, h⟩
  have hsim : ∃ m, read true f unc m₁ n = read true f unc m n ∧ Sim m m₂ := by
    rcases h with h | ⟨hend, hs0, hsim⟩
    · exact ⟨m₁, rfl, h⟩
    refine ⟨_, ?_, hsim⟩
    obtain ⟨ho, hdu, _⟩ := (seek_post hc _ _ _).2 hs0
    generalize hs : seek true f unc m₁ m₁.nextBlock 0 = s at hs0 ho hdu
    have hstep : readStep true f unc m₁ n = readStep true f unc s.2 n := by
      rw [readStep_of_le _ _ _ _ _ (Nat.le_of_eq hend), readStep_of_le _ _ _ _ _ (ho ▸ Nat.zero_le _)]
      unfold readStepBody
      rw [refill_at_end _ _ _ hend, refill_at_start _ _ _ ho (by omega), hs, hs0]
    obtain ⟨k, rfl⟩ : ∃ k, n = k + 1 := ⟨n - 1, by omega⟩
    simp only [read, readLoop, hn, if_false, hstep]
  obtain ⟨m, e, hsim⟩ := hsim
  rw [e]
  exact ⟨(sim_read hsim n).1, (sim_read hsim n).2.1, .inl (sim_read hsim n).2.2⟩

theorem obs_answerReads {f : File} {unc : Codec} (hc : CodecOK unc) (ns : List Nat) :
    ∀ {m₁ m₂ : MR}, Obs f unc m₁ m₂ → answerReads true f unc m₁ ns = answerReads true f unc m₂ ns := by
  induction ns with
  | nil => intro m₁ m₂ h; simp only [answerReads, obs_getPos hc h]
  | cons n ns ih =>
    intro m₁ m₂ h
    obtain ⟨e1, e2, e3⟩ := obs_read hc h n
    simp only [answerReads, e1, e2, ih e3]

theorem answerReads_from_block_end {f : File} {unc : Codec} (hc : CodecOK unc) (ns : List Nat) :
    ∀ (m m3 : MR), Coherent f unc m → Coherent f unc m3 → m.offset = m.dataUsed →
      (seek true f unc m m.nextBlock 0).1 = 0 → Sim (seek true f unc m m.nextBlock 0).2 m3 →
      answerReads true f unc m ns = answerReads true f unc m3 ns :=
  fun _ _ _ _ hend hs0 hsim => obs_answerReads hc ns (.inr ⟨hend, hs0, hsim⟩)

/-- seeking back to a remembered position, as the xattr reader does for out-of-line values -/
theorem seek_back_obs {f : File} {unc : Codec} (hc : CodecOK unc) {w : Nat × Nat} {m r : MR} (cm : CohW f unc w m)
    (cr : CohW f unc w r) (hok : (seek true f unc r (getPos m).1 (getPos m).2).1 = 0) :
    Obs f unc m (seek true f unc r (getPos m).1 (getPos m).2).2 := by
  by_cases hend : m.offset = m.dataUsed
  · have hp : getPos m = (m.nextBlock, 0) := by unfold getPos; simp only [hend, if_true]
    rw [hp] at hok ⊢
    have hv := cr.sim_seek hc cm m.nextBlock 0
    exact Or.inr ⟨hend, hv.1.symm.trans hok, (hv.2 hok).symm⟩
  · have hp : getPos m = (m.tag, m.offset) := by unfold getPos; simp only [hend, if_false]
    rw [hp] at hok ⊢
    -- `r` now stands where `m` stands
    obtain ⟨o1, _, t1⟩ := (seek_post hc r m.tag m.offset).2 hok
    have := cm.coherent.offset_le
    exact Or.inl (cm.sim (cr.of_seek hc m.tag m.offset) t1.symm (by omega) o1.symm)

end Sqfs.MetaReader
