/-
Helper lemmas for C16: the path printed for a node, `handle_line` on a well-formed token list.
-/
import Sqfs.Proofs.QuoteLine
import Sqfs.Props.C18
namespace Sqfs.Quote
open Sqfs.Path (Bytes joinSlash splitSlash canonicalize)

theorem foldr_getPath (comps : List Bytes) (hne : comps ≠ []) :
    comps.foldr (fun c acc => SL :: c ++ acc) [] = SL :: joinSlash comps := by
  fun_induction joinSlash comps with
  | case1 => exact absurd rfl hne
  | case2 c => exact congrArg (SL :: ·) (List.append_nil c)
  | case3 c d r ih => rw [List.foldr_cons, ih (List.cons_ne_nil _ _)]; rfl

theorem canon_abs_join_img (comps : List Bytes) (hne : comps ≠ []) (h : ∀ c ∈ comps, ImgName c) :
    canonicalize (SL :: joinSlash comps) = some (joinSlash comps) := by
  rw [Sqfs.C18.canon_eq_spec]
  exact Sqfs.Path.specCanon_abs_join hne fun c hc => ⟨(h c hc).1, (h c hc).slashFree, (h c hc).2.1, (h c hc).2.2.1⟩

theorem nodePath_img (comps : List Bytes) (h : ∀ c ∈ comps, ImgName c) :
    nodePath comps = .ok (joinSlash comps) := by
  unfold nodePath getPath
  by_cases hne : comps = []
  · subst hne
    have : canonicalize [SL] = some [] := by decide
    simp [this, joinSlash]
  · have hany : comps.any (fun c => c = [] || c.contains SL || c = [46] || c = [46, 46]) = false := by
      rw [List.any_eq_false]
      intro c hc
      obtain ⟨h1, h2, h3, h4, _⟩ := h c hc
      simp [h1, h2, h3, h4]
    simp only [hne, if_false, hany, Bool.false_eq_true]
    rw [foldr_getPath comps hne, canon_abs_join_img comps hne h]

theorem joinSlash_img_ne_nil (comps : List Bytes) (hne : comps ≠ []) (h : ∀ c ∈ comps, ImgName c) :
    joinSlash comps ≠ [] :=
  Sqfs.Path.joinSlash_ne_nil hne fun c hc => (h c hc).1

theorem nul_joinSlash (comps : List Bytes) (h : ∀ c ∈ comps, ImgName c) : NUL ∉ joinSlash comps := by
  intro hx
  rcases Sqfs.Path.mem_joinSlash hx with h0 | ⟨c, hc, hxc⟩
  · exact absurd h0 (by decide)
  · exact (h c hc).2.2.2.2 hxc

theorem safe_joinSlash (comps : List Bytes) (h : ∀ c ∈ comps, GoodName c) : Safe (joinSlash comps) := by
  intro x hx
  rcases Sqfs.Path.mem_joinSlash hx with rfl | ⟨c, hc, hxc⟩
  · decide
  · exact safe_of_lineSafe (h c hc).2.2.2.2 x hxc

/-- the token the path is printed as, and the token it is read back as -/
def pathTok (p : Bytes) : Bytes := if p = [] then [SL] else p

theorem canon_printed_path (comps : List Bytes) (h : ∀ c ∈ comps, ImgName c) :
    canonicalize (pathTok (joinSlash comps)) = some (joinSlash comps) := by
  unfold pathTok
  by_cases hne : comps = []
  · subst hne; decide
  · rw [if_neg (joinSlash_img_ne_nil comps hne h)]
    exact Sqfs.C18.canon_idempotent _ _ (canon_abs_join_img comps hne h)

theorem handleLine_known (opt : Opt) (h : Hook) (kw p' p m u g : Bytes) (rest : List Bytes) (mode uid gid : Nat)
    (hk : findHook kw hooks = some h) (hp : canonicalize p' = some p) (hroot : p ≠ [] ∨ h.allowRoot = true)
    (hm : parseNum 8 0 0o7777 m = .ok mode) (hu : parseNum 10 0 0x0FFFFFFFF u = .ok uid)
    (hg : parseNum 10 0 0x0FFFFFFFF g = .ok gid) (hex : h.needExtra = true → rest ≠ [])
    (hku : opt.keepUid = true) (hkg : opt.keepGid = true) :
    handleLine opt (kw :: p' :: m :: u :: g :: rest) =
      match h.cb with
      | .generic => addGeneric { name := p, mode := mode ||| h.mode, uid := uid, gid := gid, rdev := 0, extra := none, flags := h.flags } rest
      | .device => addDevice { name := p, mode := mode ||| h.mode, uid := uid, gid := gid, rdev := 0, extra := none, flags := h.flags } rest
      | .file => addFile { name := p, mode := mode ||| h.mode, uid := uid, gid := gid, rdev := 0, extra := none, flags := h.flags } rest := by
  have hr : (p = [] && !(false || h.allowRoot)) = false := by
    rcases hroot with h1 | h1
    · simp [h1]
    · simp [h1]
  have hx : (h.needExtra && decide (rest = [])) = false := by
    cases hne : h.needExtra with
    | false => simp
    | true => simp [hex hne]
  simp only [handleLine, hk, hp, hm, hu, hg, hku, hkg, Option.isNone_some, Bool.false_and, Bool.not_false,
    Bool.false_eq_true, if_false, if_true, Option.map_some, Option.getD_some, hr, hx]
  cases h.cb <;> rfl

end Sqfs.Quote
