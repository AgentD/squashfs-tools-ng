/-
C02: `chunk_info_equals` answers the same wherever the bytes of a fragment block currently
live — in-flight copy, open block, or the output file (re-read, uncompressed, through the one-entry cache).  This is
where the codec's round-trip contract and the block writer's read-back invariant are used.  Of `Back` the lookups read `finv`,
`fragBlock`, `winv`, `wr`, `fragTbl`, `inFlSub`, `inFlAll` and `cache`; the only field of the state they write is the cache.
-/
import Sqfs.Proofs.BPWriter
namespace Sqfs.BlockWriter

theorem HoldsIn_readAt {m pre s ps loc K P} (ha : Abs pre s ps) (h : HoldsIn m pre ps loc K P) :
    readAt s.file loc P.length = some P :=
  readAt_of_slice _ _ _ (HoldsIn_slice ha h)

end Sqfs.BlockWriter

namespace Sqfs.BlockProc
open Sqfs.Consts
open Sqfs.BlockWriter (hasFlag)

theorem sizeWord_size (b : Blk) (h : b.data.length < 2 ^ 24) : sizeWord b % 2 ^ 24 = b.data.length := by
  rw [← callOf_word]; exact BlockWriter.mkWord_size _ _ h

theorem sizeWord_compressed (b : Blk) (h : b.data.length < 2 ^ 24) :
    (sizeWord b &&& (1 <<< 24) = 0) ↔ hasFlag b.flags blkIsCompressed = true := by
  unfold sizeWord
  rw [Nat.one_shiftLeft]
  split
  · rename_i hc; exact iff_of_true (Nat.and_two_pow_of_lt h) hc
  · rename_i hc; rw [Nat.or_two_pow_and_two_pow]; exact iff_of_false (by decide) hc

/-- the one-entry cache of `load_frag_block` holds a closed fragment block -/
def CacheOK (F : FSt) (c : Option (Nat × Bytes)) : Prop := ∀ ci cd, c = some (ci, cd) → (ci, cd) ∈ F.closed

variable {P : Params} {s : Proc} {g : Ghost} {F : FSt} {W : WSt}

theorem Back.setCache (h : Back P s g F W) (c : Option (Nat × Bytes)) (hc : CacheOK F c) :
    Back P { s with cachedFragBlk := c } g F W :=
  { h with cache := hc }

theorem closed_unique {n : Nat} {done : List Blk} (h : FInv P n done F) {i : Nat} {d d' : Bytes}
    (h1 : (i, d) ∈ F.closed) (h2 : (i, d') ∈ F.closed) : d = d' :=
  (Prod.mk.inj (List.inj_of_nodup_map h.closedNodup h1 h2 rfl)).2

theorem stream_fb_indices_nodup {n : Nat} {done : List Blk} (h : FInv P n done F) :
    ((F.stream.filter isFB).map (·.index)).Nodup := by
  rw [h.fbIdx]; exact (List.reverse_perm _).symm.nodup h.closedNodup

theorem cacheHit_some {c : Option (Nat × Bytes)} {idx : Nat} {cd : Bytes} (h : cacheHit c idx = some cd) : c = some (idx, cd) := by
  unfold cacheHit at h
  split at h
  · split at h
    · rename_i hci; rw [← hci, ← Option.some.inj h]
    · cases h
  · cases h

theorem fragData_closed {n : Nat} {done : List Blk} (h : FInv P n done F) {e : Nat × Bytes}
    (he : e ∈ F.closed) : F.fragData e.1 = some e.2 := by
  have hob : openBytes F.opn e.1 = none := by
    unfold openBytes
    cases hop : F.opn with
    | none => rfl
    | some fb => exact if_neg fun heq => (h.opn fb hop).2.2.2.2 e he heq.symm
  unfold FSt.fragData
  rw [hob, find?_fst_of_mem h.closedNodup he]; rfl

/-- `load_frag_block` on a closed fragment block of which no in-flight copy exists: the cache holds it, or it has been written and
its table entry leads to its bytes -/
theorem loadFragBlock_closed (hc : CodecOk P.codec) (hB : P.B < 2 ^ 24)
    (h : Back P s g F W) (hbc : P.byteCompare = true) {e : Nat × Bytes} (he : e ∈ F.closed)
    (hfl : e.1 ∉ s.fblkInFlight.map (·.1)) :
    ∃ cache', loadFragBlock P s e.1 = .ok (e.2, cache') ∧ CacheOK F cache' := by
  unfold loadFragBlock
  cases hca : cacheHit s.cachedFragBlk e.1 with
  | some cd =>
    have : cd = e.2 := closed_unique h.finv (h.cache _ _ (cacheHit_some hca)) he
    subst this
    exact ⟨s.cachedFragBlk, rfl, h.cache⟩
  | none =>
    obtain ⟨b, hbm, hbi⟩ : ∃ b ∈ F.stream.filter isFB, b.index = e.1 := by
      apply List.mem_map.mp
      rw [h.finv.fbIdx, List.mem_reverse]
      exact List.mem_map_of_mem he
    obtain ⟨hbs, hbfb⟩ := List.mem_filter.mp hbm
    -- a fragment block still waiting for its turn has its in-flight copy
    have hbt : b ∈ F.stream.take s.ioDeqSeqNum := by
      rw [← List.take_append_drop s.ioDeqSeqNum F.stream] at hbs
      exact (List.mem_append.mp hbs).resolve_right fun hbd => hfl (hbi ▸ h.inFlAll hbc b hbd hbfb)
    obtain ⟨d, hd, hw⟩ := h.finv.fbs b hbs hbfb
    have : d = e.2 := closed_unique h.finv hd (hbi ▸ he)
    subst this
    obtain ⟨hidx, hpos, hle⟩ := h.finv.closedOK _ he
    have hne : e.2 ≠ [] := List.ne_nil_of_length_pos hpos
    have hlen : b.data.length ≤ P.B := Nat.le_trans (hw.length_le hc hne) hle
    have hlt : b.data.length < 2 ^ 24 := Nat.lt_of_le_of_lt hlen hB
    obtain ⟨⟨ps, acc, recs, _loose, hinv, hrecs⟩, hsets, _, _⟩ := h.winv
    obtain ⟨loc, hset, hrec⟩ := hrecs b hbt hbfb
    have hread := BlockWriter.HoldsIn_readAt hinv.abs (hinv.recs _ hrec)
    simp only [BlockWriter.blkBytes, List.append_nil] at hread
    have hnodup : (W.sets.map (·.1)).Nodup := by
      rw [hsets]
      exact ((List.Sublist.filter _ (List.take_sublist _ _)).map _).nodup (stream_fb_indices_nodup h.finv)
    have htbl : s.w.fragTbl[e.1]? = some (loc, sizeWord b) := by
      rw [h.fragTbl, ← hbi]
      exact applySets_get _ _ hnodup _ _ _ hset (by simpa [hbi] using hidx)
    have hcok : CacheOK F (some e) := fun ci cd hcc => Option.some.inj hcc ▸ he
    simp only [htbl, sizeWord_size b hlt, if_neg (Nat.not_lt.mpr hlen), h.wr, hread]
    rcases hw.payload hc hne with ⟨h1, h2⟩ | ⟨h1, h2, _, _⟩
    · rw [if_neg (mt (sizeWord_compressed b hlt).mp (by rw [h1]; exact Bool.false_ne_true)), h2]
      exact ⟨_, rfl, hcok⟩
    · rw [if_pos ((sizeWord_compressed b hlt).mpr h1), h2]
      simp only [List.isEmpty_eq_false_iff.mpr hne, Bool.false_eq_true, if_false]
      exact ⟨_, rfl, hcok⟩

/-- the bytes `chunk_info_equals` compares against are the content of the fragment block, wherever they are taken from -/
theorem fragBytes_eq (hc : CodecOk P.codec) (hB : P.B < 2 ^ 24)
    (h : Back P s g F W) (hbc : P.byteCompare = true) (idx : Nat) (blk : Bytes)
    (hfd : F.fragData idx = some blk) :
    ∃ cache', fragBytes P s idx = .ok (blk, cache') ∧ CacheOK F cache' := by
  unfold fragBytes
  cases hfl : s.fblkInFlight.find? (fun e => e.1 == idx) with
  | some e =>
    have hek : e.1 = idx := by simpa using List.find?_some hfl
    have := fragData_closed h.finv (h.inFlSub e (List.mem_of_find?_eq_some hfl))
    rw [hek, hfd] at this
    rw [Option.some.inj this]
    exact ⟨s.cachedFragBlk, rfl, h.cache⟩
  | none =>
    unfold FSt.fragData at hfd
    rw [h.fragBlock]
    cases hmo : openBytes F.opn idx with
    | some d0 =>
      rw [hmo] at hfd
      rw [Option.some.inj hfd]
      exact ⟨s.cachedFragBlk, rfl, h.cache⟩
    | none =>
      rw [hmo] at hfd
      obtain ⟨e, hfe, rfl⟩ := Option.map_eq_some_iff.mp hfd
      obtain ⟨hec, rfl⟩ := mem_of_find?_fst hfe
      refine loadFragBlock_closed hc hB h hbc hec fun hm => ?_
      obtain ⟨e', he', hek'⟩ := List.mem_map.mp hm
      exact (List.find?_eq_none.mp hfl) e' he' (by simp [hek'])

theorem chunkEquals_eq (hc : CodecOk P.codec) (hB : P.B < 2 ^ 24)
    (h : Back P s g F W) (d : Bytes) (hd : UInt32) (kf : Nat) (c : Chunk) (hck : ChunkOK F c) :
    ∃ cache', chunkEquals P s d hd kf c = .ok (chunkEqRef P.byteCompare F d hd kf c, cache') ∧ CacheOK F cache' := by
  unfold chunkEquals chunkEqRef
  by_cases hk : (c.size != d.length || c.hash != hd || c.flags != kf) = true
  · rw [if_pos hk, if_pos hk]; exact ⟨s.cachedFragBlk, rfl, h.cache⟩
  · rw [if_neg hk, if_neg hk]
    by_cases hbc : (!P.byteCompare) = true
    · rw [if_pos hbc, if_pos hbc]; exact ⟨s.cachedFragBlk, rfl, h.cache⟩
    · rw [if_neg hbc, if_neg hbc]
      obtain ⟨blk, h1, h2, h3⟩ := hck
      obtain ⟨cache', hf, hco⟩ := fragBytes_eq hc hB h (by simpa using hbc) c.index blk h1
      rw [hf, h1]
      have : ¬ (c.offset ≥ blk.length || blk.length - c.offset < c.size) = true := by
        simp only [ge_iff_le, Bool.or_eq_true, decide_eq_true_eq, not_or, Nat.not_le, Nat.not_lt]
        omega
      dsimp only
      rw [if_neg this]
      exact ⟨cache', rfl, hco⟩

theorem search_eq (hc : CodecOk P.codec) (hB : P.B < 2 ^ 24)
    (d : Bytes) (hd : UInt32) (kf : Nat) (l : List Chunk) (hl : ∀ c ∈ l, ChunkOK F c) :
    ∀ {s : Proc}, Back P s g F W →
      ∃ cache', search P s d hd kf l = .ok (l.find? (chunkEqRef P.byteCompare F d hd kf), { s with cachedFragBlk := cache' }) ∧
        CacheOK F cache' := by
  induction l with
  | nil => intro s h; exact ⟨s.cachedFragBlk, rfl, h.cache⟩
  | cons c rest ih =>
    intro s h
    obtain ⟨cache', he, hco⟩ := chunkEquals_eq hc hB h d hd kf c (hl c List.mem_cons_self)
    unfold search
    rw [he, List.find?_cons]
    cases hv : chunkEqRef P.byteCompare F d hd kf c with
    | true => exact ⟨cache', rfl, hco⟩
    | false =>
      simp only
      exact ih (fun c' hc' => hl c' (List.mem_cons_of_mem _ hc')) (h.setCache cache' hco)

theorem insert_eq (hc : CodecOk P.codec) (hB : P.B < 2 ^ 24)
    (d : Bytes) (new : Chunk) (l : List Chunk) (hl : ∀ c ∈ l, ChunkOK F c) :
    ∀ (pre : List Chunk) {s : Proc}, Back P s g F W →
      ∃ cache', insert P s d new pre l =
          .ok { s with fragHt := pre ++ insertRef (chunkEqRef P.byteCompare F d new.hash new.flags) new l, cachedFragBlk := cache' } ∧
        CacheOK F cache' := by
  induction l with
  | nil => intro pre s h; exact ⟨s.cachedFragBlk, rfl, h.cache⟩
  | cons c rest ih =>
    intro pre s h
    obtain ⟨cache', he, hco⟩ := chunkEquals_eq hc hB h d new.hash new.flags c (hl c List.mem_cons_self)
    unfold insert insertRef
    rw [he]
    cases hv : chunkEqRef P.byteCompare F d new.hash new.flags c with
    | true => exact ⟨cache', rfl, hco⟩
    | false =>
      simp only [Bool.false_eq_true, if_false]
      obtain ⟨cache'', hs, hco'⟩ := ih (fun c' hc' => hl c' (List.mem_cons_of_mem _ hc')) (pre ++ [c]) (h.setCache cache' hco)
      refine ⟨cache'', ?_, hco'⟩
      rw [hs]
      simp [List.append_assoc]

end Sqfs.BlockProc
