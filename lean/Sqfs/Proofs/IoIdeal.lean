/-
Helper lemmas for C12: closed forms of the generic stream clients over the ideal window stream
(`sqfs_istream_read/skip/splice`, `record_to_memory`, `istream_get_line`): what they return is a function of the
file content and the position only — no buffer size, no chunking.  For `istream_get_line` also the closed form over
the file stream that follows from it (`getLine_file`), which C07 builds on.
-/
import Sqfs.Proofs.IoStream
namespace Sqfs.IoLoops
open Sqfs.IoLoops.Spec

/-- the ideal window lies inside the file -/
def Iv (data : Bytes) (t : Ideal) : Prop := t.pos + t.avail ≤ data.length

theorem slice_length (data : Bytes) (pos n : Nat) (h : pos + n ≤ data.length) : (slice data pos n).length = n :=
  List.length_take_drop data h

theorem slice_append (data : Bytes) (pos k n : Nat) (hk : k ≤ n) :
    slice data pos k ++ slice data (pos + k) (n - k) = slice data pos n :=
  List.take_drop_add data pos hk

theorem slice_drop (data : Bytes) (pos a : Nat) : data.drop pos = slice data pos a ++ data.drop (pos + a) := by
  simp only [slice]
  rw [← List.drop_drop, List.take_append_drop]

theorem idealGet_facts (B : Nat) (hB : 0 < B) (data : Bytes) (t : Ideal) (want : Nat) (os : OS) (hi : Iv data t) :
    ∃ a, (idealStream B data).get t want os = (if a = 0 then .eof else .ok, slice data t.pos a, ⟨t.pos, a⟩, os) ∧
      t.pos + a ≤ data.length ∧ (a = 0 → t.pos = data.length) := by
  unfold Iv at hi
  simp only [idealStream, idealGet]
  generalize (if want > B then B else want) = w
  by_cases hc : t.avail = 0 ∨ t.avail < w
  · rw [if_pos hc]
    exact ⟨min B (data.length - t.pos), rfl, by omega, fun h => by omega⟩
  · rw [if_neg hc]
    exact ⟨t.avail, rfl, hi, fun h0 => by omega⟩

theorem idealAdv_le (data : Bytes) (p a n : Nat) (hn : n ≤ a) (ha : p + a ≤ data.length) :
    (idealAdv ⟨p, a⟩ n).pos = p + n ∧ Iv data (idealAdv ⟨p, a⟩ n) := by
  unfold idealAdv Iv
  by_cases h : n < a
  · simp only [h, if_true, true_and]; omega
  · simp only [h, if_false]; omega

/-- `d` of the `size` bytes wanted at position `p` are consumed: they and what the rest of the request can still get
make what the whole request gets -/
theorem consumed_add_min (p d size len : Nat) (hds : d ≤ size) (hdl : p + d ≤ len) :
    d + min (size - d) (len - (p + d)) = min size (len - p) := by
  rw [← Nat.add_min_add_left, Nat.add_sub_cancel' hds]
  congr 1
  omega

theorem ideal_round (B : Nat) (hB : 0 < B) (data : Bytes) (t : Ideal) (size : Nat) (os : OS) (hi : Iv data t)
    (h0 : size ≠ 0) :
    ∃ r w t1, (idealStream B data).get t size os = (r, w, t1, os) ∧
      ((r = .eof ∧ t1.pos = t.pos ∧ t.pos = data.length ∧ Iv data t1) ∨
       (r = .ok ∧ ∃ diff, (if w.length > size then size else w.length) = diff ∧ 0 < diff ∧ diff ≤ size ∧
          t.pos + diff ≤ data.length ∧ w.take diff = slice data t.pos diff ∧
          ((idealStream B data).adv t1 diff).pos = t.pos + diff ∧ Iv data ((idealStream B data).adv t1 diff))) := by
  obtain ⟨a, hg, ha1, ha2⟩ := idealGet_facts B hB data t size os hi
  by_cases hz : a = 0
  · subst hz
    exact ⟨_, _, _, hg, Or.inl ⟨rfl, rfl, ha2 rfl, ha1⟩⟩
  · rw [if_neg hz] at hg
    refine ⟨_, _, _, hg, Or.inr ⟨rfl, _, rfl, ?_⟩⟩
    rw [slice_length data t.pos a ha1]
    have hd : 0 < (if a > size then size else a) ∧ (if a > size then size else a) ≤ size ∧
        (if a > size then size else a) ≤ a := by split <;> omega
    generalize (if a > size then size else a) = diff at hd
    obtain ⟨hp, hv⟩ := idealAdv_le data t.pos a diff hd.2.2 ha1
    exact ⟨hd.1, hd.2.1, by omega, List.take_take_drop _ _ hd.2.2, hp, hv⟩

theorem idealRead_closed (B : Nat) (hB : 0 < B) (data : Bytes) :
    ∀ (fuel size : Nat), size < fuel → ∀ (t : Ideal) (acc : Bytes) (os : OS), Iv data t →
    ∃ t', istreamReadLoop (idealStream B data) fuel t size acc os = (.n (acc ++ slice data t.pos size), t', os) ∧
      t'.pos = t.pos + min size (data.length - t.pos) ∧ Iv data t' := by
  refine fuel_ind (·) fun fuel size ih t acc os hi => ?_
  unfold istreamReadLoop
  by_cases h0 : size = 0
  · subst h0; exact ⟨t, by simp [slice], by simp, hi⟩
  · obtain ⟨r, w, t1, hg, ⟨rfl, hp, hend, hi1⟩ | ⟨rfl, diff, hd, hd0, hds, hdl, htk, hpos, hi1⟩⟩ :=
      ideal_round B hB data t size os hi h0
    · simp only [h0, if_false, hg]
      refine ⟨t1, ?_, by omega, hi1⟩
      rw [slice, List.drop_eq_nil_of_le (Nat.le_of_eq hend.symm), List.take_nil, List.append_nil]
    · simp only [h0, if_false, hg, hd]
      obtain ⟨t', h', hp', hi'⟩ := ih (size - diff) (by omega) _ (acc ++ w.take diff) os hi1
      refine ⟨t', ?_, by rw [hp', hpos, Nat.add_assoc, consumed_add_min _ _ _ _ hds hdl], hi'⟩
      rw [h', hpos, htk, List.append_assoc, slice_append _ _ _ _ hds]

/-- status of skipping `size` bytes when `left` bytes are left: running into the end of the data is an error -/
def skipRc (size left : Nat) : Err := if size ≤ left then .ok else .oob

theorem idealSkip_closed (B : Nat) (hB : 0 < B) (data : Bytes) :
    ∀ (fuel size : Nat), size < fuel → ∀ (t : Ideal) (os : OS), Iv data t →
    ∃ t', istreamSkipLoop (idealStream B data) fuel t size os = (skipRc size (data.length - t.pos), t', os) ∧
      t'.pos = t.pos + min size (data.length - t.pos) ∧ Iv data t' := by
  refine fuel_ind (·) fun fuel size ih t os hi => ?_
  unfold istreamSkipLoop
  by_cases h0 : size = 0
  · subst h0; exact ⟨t, by simp [skipRc], by simp, hi⟩
  · obtain ⟨r, w, t1, hg, ⟨rfl, hp, hend, hi1⟩ | ⟨rfl, diff, hd, hd0, hds, hdl, htk, hpos, hi1⟩⟩ :=
      ideal_round B hB data t size os hi h0
    · simp only [h0, if_false, hg]
      exact ⟨t1, by rw [skipRc, if_neg]; omega, by omega, hi1⟩
    · simp only [h0, if_false, hg, hd]
      obtain ⟨t', h', hp', hi'⟩ := ih (size - diff) (by omega) _ os hi1
      refine ⟨t', ?_, by rw [hp', hpos, Nat.add_assoc, consumed_add_min _ _ _ _ hds hdl], hi'⟩
      have : (size - diff ≤ data.length - (t.pos + diff)) ↔ (size ≤ data.length - t.pos) := by omega
      rw [h', hpos]
      simp only [skipRc, this]

/-- Stated on `logical`, not on `out`, so that it holds from every state of the output stream (a hole pending, the
position ahead of the file after a failed `ftruncate`). -/
theorem idealSplice_logical (B : Nat) (hB : 0 < B) (data : Bytes) :
    ∀ (fuel size : Nat), size < fuel → ∀ (t : Ideal) (o : OStream) (total : Nat) (os : OS), Iv data t →
    noHard os.sc = true →
    ∃ t' o' os', istreamSpliceLoop (idealStream B data) fuel t o size total os =
        ((.ok, total + min size (data.length - t.pos)), t', o', os') ∧
      logical o' = logical o ++ slice data t.pos size ∧ (o.sparse = 0 → o'.sparse = 0) ∧ (o.skew = 0 → o'.skew = 0) ∧
      t'.pos = t.pos + min size (data.length - t.pos) ∧ Iv data t' ∧ noHard os'.sc = true := by
  refine fuel_ind (·) fun fuel size ih t o total os hi hn => ?_
  unfold istreamSpliceLoop
  by_cases h0 : size = 0
  · subst h0; exact ⟨t, o, os, by simp, by simp [slice], id, id, by simp, hi, hn⟩
  · obtain ⟨r, w, t1, hg, ⟨rfl, hp, hend, hi1⟩ | ⟨rfl, diff, hd, hd0, hds, hdl, htk, hpos, hi1⟩⟩ :=
      ideal_round B hB data t size os hi h0
    · simp only [h0, if_false, hg]
      refine ⟨t1, o, os, by rw [hend, Nat.sub_self, Nat.min_zero]; rfl, ?_, id, id, by omega, hi1, hn⟩
      rw [slice, List.drop_eq_nil_of_le (Nat.le_of_eq hend.symm), List.take_nil, List.append_nil]
    · have hlen : (slice data t.pos diff).length = diff := slice_length _ _ _ hdl
      obtain ⟨os1, ha, hn1⟩ := fileAppend_det o (slice data t.pos diff) diff hlen.symm os hn
      obtain ⟨f1, _, f3, _⟩ := stepRes_facts o (.data (slice data t.pos diff))
      simp only [h0, if_false, hg, hd, htk, ha]
      obtain ⟨t', o', os', h', ho1, ho2, ho3, hp', hi', hn'⟩ := ih (size - diff) (by omega) _
        (stepRes o (.data (slice data t.pos diff))) (total + diff) os1 hi1 hn1
      refine ⟨t', o', os', ?_, ?_, fun h => ho2 (stepRes_data_sparse _ _ h), fun h => ho3 (f3 h),
        by rw [hp', hpos, Nat.add_assoc, consumed_add_min _ _ _ _ hds hdl], hi', hn'⟩
      · rw [h', hpos, Nat.add_assoc, consumed_add_min _ _ _ _ hds hdl]
      · rw [ho1, f1, oopBytes, hpos, List.append_assoc, slice_append _ _ _ _ hds]

/-- the position of the stream after `record_to_memory(size)`: behind the record and its padding to a multiple of
512 (as far as the data reaches); when the record is cut short, behind what `sqfs_istream_read` consumed -/
def recordEnd (len pos size : Nat) : Nat :=
  if pos + size ≤ len ∧ size ≤ 0x7FFFFFFF then
    (if size % 512 ≠ 0 then pos + size + min (512 - size % 512) (len - (pos + size)) else pos + size)
  else pos + min (min size 0x7FFFFFFF) (len - pos)

theorem idealRecord_closed (B : Nat) (hB : 0 < B) (data : Bytes) (t : Ideal) (size : Nat) (os : OS) (hi : Iv data t) :
    (recordToMemory (idealStream B data) t size os).1 =
      (if t.pos + size ≤ data.length ∧ size ≤ 0x7FFFFFFF ∧
          (size % 512 = 0 ∨ t.pos + size + (512 - size % 512) ≤ data.length)
        then some (slice data t.pos size) else none) ∧
    (recordToMemory (idealStream B data) t size os).2.2 = os ∧
    Iv data (recordToMemory (idealStream B data) t size os).2.1 ∧
    (recordToMemory (idealStream B data) t size os).2.1.pos = recordEnd data.length t.pos size := by
  have hpl : t.pos ≤ data.length := Nat.le_trans (Nat.le_add_right _ _) hi
  unfold recordToMemory istreamRead
  simp only []
  generalize hsz : (if size > 0x7FFFFFFF then 0x7FFFFFFF else size) = sz
  have hszm : sz = min size 0x7FFFFFFF := by rw [← hsz]; split <;> omega
  clear hsz
  obtain ⟨t1, h1, hp1, hi1⟩ := idealRead_closed B hB data (sz + 1) sz (Nat.lt_succ_self _) t [] os hi
  have hlen : (slice data t.pos sz).length = min sz (data.length - t.pos) := by
    rw [slice, List.length_take, List.length_drop]
  simp only [h1, List.nil_append, hlen]
  by_cases hd : min sz (data.length - t.pos) < size
  · -- the record is cut short, or longer than one `sqfs_istream_read` transfers
    have hneg : ¬ (t.pos + size ≤ data.length ∧ size ≤ 0x7FFFFFFF) := by omega
    simp only [hd, if_true]
    exact ⟨(if_neg fun h => hneg ⟨h.1, h.2.1⟩).symm, trivial, hi1, by rw [recordEnd, if_neg hneg, hp1, hszm]⟩
  · obtain ⟨hc1, hc2, hp1', rfl⟩ : t.pos + size ≤ data.length ∧ size ≤ 0x7FFFFFFF ∧ t1.pos = t.pos + size ∧ sz = size := by
      omega
    have hcond := And.intro hc1 hc2
    clear hp1 hszm hlen
    simp only [hd, if_false]
    by_cases hp : sz % 512 ≠ 0
    · obtain ⟨t2, h2, hp2, hi2⟩ :=
        idealSkip_closed B hB data (512 - sz % 512 + 1) (512 - sz % 512) (Nat.lt_succ_self _) t1 os hi1
      have hfit : 512 - sz % 512 ≤ data.length - (t.pos + sz) ↔ t.pos + sz + (512 - sz % 512) ≤ data.length := by
        omega
      rw [if_pos hp]
      simp only [istreamSkip, h2, skipRc, hp1', hfit]
      have hend : t2.pos = recordEnd data.length t.pos sz := by
        rw [recordEnd, if_pos hcond, if_pos hp, hp2, hp1']
      by_cases hf : t.pos + sz + (512 - sz % 512) ≤ data.length
      · rw [if_pos hf]
        exact ⟨(if_pos ⟨hc1, hc2, Or.inr hf⟩).symm, rfl, hi2, hend⟩
      · rw [if_neg hf]
        exact ⟨(if_neg fun h => h.2.2.elim hp hf).symm, rfl, hi2, hend⟩
    · rw [if_neg hp]
      exact ⟨(if_pos ⟨hc1, hc2, Or.inl (Decidable.not_not.1 hp)⟩).symm, rfl, hi1,
        by rw [recordEnd, if_pos hcond, if_neg hp, hp1']⟩

theorem findNl_le (w : Bytes) : findNl w ≤ w.length := by
  induction w with
  | nil => simp [findNl]
  | cons c t ih => unfold findNl; split <;> simp <;> omega

theorem findNl_spec : ∀ (w : Bytes), (∀ c ∈ w.take (findNl w), c ≠ 10) ∧
    (findNl w < w.length → w = w.take (findNl w) ++ 10 :: w.drop (findNl w + 1)) := by
  intro w
  induction w with
  | nil => simp [findNl]
  | cons c t ih =>
    unfold findNl
    by_cases hc : c = 10
    · simp [hc]
    · simp only [hc, if_false]
      obtain ⟨h1, h2⟩ := ih
      constructor
      · intro x hx
        simp only [List.take_succ_cons, List.mem_cons] at hx
        rcases hx with rfl | hx
        · exact hc
        · exact h1 x hx
      · intro hlt
        simp only [List.length_cons] at hlt
        have := h2 (by omega)
        simp only [List.take_succ_cons, List.drop_succ_cons, List.cons_append]
        congr 1

theorem nextLineAux_prefix (flags : Nat) : ∀ (pre cur r : Bytes) (ln : Nat), (∀ c ∈ pre, c ≠ 10) →
    nextLineAux flags cur (pre ++ r) ln = nextLineAux flags (cur ++ pre) r ln := by
  intro pre
  induction pre with
  | nil => intro cur r ln _; simp
  | cons c t ih =>
    intro cur r ln h
    have hc : c ≠ 10 := h c (by simp)
    simp only [List.cons_append, nextLineAux, hc, if_false]
    rw [ih (cur ++ [c]) r ln (fun x hx => h x (by simp [hx]))]
    simp

/-- The byte-at-a-time scanner taken a window at a time, as `istream_get_line` does: up to the first '\n' of the window,
or the whole window when it has none. -/
theorem nextLineAux_window (flags : Nat) (cur w r : Bytes) (ln : Nat) :
    nextLineAux flags cur (w ++ r) ln =
      if findNl w < w.length then nextLineAux flags (cur ++ w.take (findNl w)) (10 :: (w ++ r).drop (findNl w + 1)) ln
      else nextLineAux flags (cur ++ w) r ln := by
  obtain ⟨h1, h2⟩ := findNl_spec w
  by_cases hlt : findNl w < w.length
  · rw [if_pos hlt, List.drop_append_of_le_length hlt, ← nextLineAux_prefix flags _ cur _ ln h1, ← List.cons_append,
      ← List.append_assoc, ← h2 hlt]
  · rw [List.take_of_length_le (Nat.le_of_not_lt hlt)] at h1
    rw [if_neg hlt, nextLineAux_prefix flags w cur r ln h1]

def lineRetOf : Option Bytes → LineRet
  | none => .eof
  | some l => .line l

theorem idealGetLine_closed (B : Nat) (hB : 0 < B) (data : Bytes) (flags : Nat) :
    ∀ (fuel : Nat) (t : Ideal), data.length - t.pos + 1 < fuel → ∀ (acc : Bytes) (ln : Nat) (os : OS), Iv data t →
    ∃ t', getLineLoop (idealStream B data) flags fuel t acc ln os =
        (lineRetOf (nextLineAux flags acc (data.drop t.pos) ln).1, t', (nextLineAux flags acc (data.drop t.pos) ln).2.2, os) ∧
      data.drop t'.pos = (nextLineAux flags acc (data.drop t.pos) ln).2.1 ∧ Iv data t' := by
  refine fuel_ind (fun t : Ideal => data.length - t.pos + 1) fun fuel t ih acc ln os hi => ?_
  unfold getLineLoop
  obtain ⟨a, hg, ha1, ha2⟩ := idealGet_facts B hB data t 0 os hi
  rw [hg]
  by_cases hz : a = 0
  · -- end of the data: what has been collected is the last line
    subst hz
    have hrest : data.drop t.pos = [] := List.drop_eq_nil_of_le (Nat.le_of_eq (ha2 rfl).symm)
    simp only [if_true, hrest, nextLineAux]
    by_cases hacc : acc.length = 0
    · simp only [hacc, if_true]; exact ⟨⟨t.pos, 0⟩, rfl, hrest, ha1⟩
    · simp only [hacc, if_false]
      by_cases hl : (trimFlags flags acc).length > 0 ∨ (!skipEmpty flags) = true
      · simp only [hl, if_true]; exact ⟨⟨t.pos, 0⟩, rfl, hrest, ha1⟩
      · simp only [hl, if_false]; exact ⟨⟨t.pos, 0⟩, rfl, hrest, ha1⟩
  · simp only [hz, if_false]
    have hl : (slice data t.pos a).length = a := slice_length data t.pos a ha1
    have hsplit := slice_drop data t.pos a
    have hle := findNl_le (slice data t.pos a)
    rw [hsplit, nextLineAux_window, ← hsplit, List.drop_drop]
    generalize slice data t.pos a = w at *
    generalize findNl w = i at *
    by_cases hlt : i < w.length
    · -- a newline inside the window: the line ends there
      obtain ⟨hpos, hiv⟩ := idealAdv_le data t.pos a (i + 1) (by omega) ha1
      simp only [hlt, nextLineAux, if_true]
      by_cases hacc : (trimFlags flags (stripCr (acc ++ w.take i))).length > 0 ∨ (!skipEmpty flags) = true
      · simp only [hacc, if_true]
        exact ⟨_, rfl, by rw [← hpos]; rfl, hiv⟩
      · simp only [hacc, if_false]
        obtain ⟨t', h', hd', hi'⟩ := ih _ (by rw [hpos]; omega) [] (ln + 1) os hiv
        rw [hpos] at h' hd'
        exact ⟨t', h', hd', hi'⟩
    · -- no newline: the whole window joins the line
      obtain rfl : i = a := by omega
      obtain ⟨hpos, hiv⟩ := idealAdv_le data t.pos i i (Nat.le_refl _) ha1
      simp only [hlt, if_false, List.take_of_length_le (Nat.le_of_eq hl)]
      obtain ⟨t', h', hd', hi'⟩ := ih _ (by rw [hpos]; omega) (acc ++ w) ln os hiv
      rw [hpos] at h' hd'
      exact ⟨t', h', hd', hi'⟩

/-- `istream_get_line` on the file stream in closed form, from any state that represents a position of the file and with any
pending partial line.  `noHard os'` is stated so that calls can be chained. -/
theorem getLine_file (B : Nat) (hB : 0 < B) (data : Bytes) (flags : Nat) (s : IStream) (t : Ideal) (acc : Bytes)
    (ln : Nat) (os : OS) (hr : Rel B data s t) (hi : Iv data t) (hn : noHard os.sc = true) :
    ∃ s' t' os', getLineLoop (fileStream B) flags ((fileStream B).bound s + 2) s acc ln os =
        (lineRetOf (nextLineAux flags acc (data.drop t.pos) ln).1, s',
          (nextLineAux flags acc (data.drop t.pos) ln).2.2, os') ∧
      Rel B data s' t' ∧ Iv data t' ∧ noHard os'.sc = true ∧
      data.drop t'.pos = (nextLineAux flags acc (data.drop t.pos) ln).2.1 := by
  obtain ⟨r, s', t', ln', os', oj', h1, hJ, h'⟩ := getLineLoop_sim (file_sim B hB data) flags ((fileStream B).bound s + 2)
    acc ln (⟨hr, hn, noHard_full⟩ : Conf _ s t os OS.full)
  obtain ⟨t'', c1, hd, hi'⟩ := idealGetLine_closed B hB data flags ((fileStream B).bound s + 2) t
    (by rw [(file_sim B hB data).bound hr]; simp [idealStream]) acc ln OS.full hi
  simp only [c1, Prod.mk.injEq] at hJ
  obtain ⟨rfl, rfl, rfl, rfl⟩ := hJ
  exact ⟨s', t'', os', h1, h'.rel, hi', h'.soft, hd⟩

end Sqfs.IoLoops
