/-
C15 — `istream_xfrm` over any decoder that meets the stream-level contract.  The ghost invariant `G` makes a per-member decoder
(`DecContract`) a stream-level one (`streamOfDec`, `streamOfDecErr`): the wrapped stream stands inside the member being decoded
(`InMember`), at the clean end, or behind the point where the input has gone wrong.  `precache`, `get_buffered_data` and a reader
keep one invariant (`IInv`: what the reader has taken and what it sees continue the content from the start, `Link`/`Deliv`), read
off for a fresh stream by kind of input in `iRead_valid` and `iRead_bad`.  `DecPost`: the clauses of `DecContract` for one step,
through which the backends' loops and the toy decoder meet it.
-/
import Sqfs.Proofs.XfrmLoop
import Sqfs.Proofs.XfrmPrefix
namespace Sqfs.Xfrm
open Sqfs.Xfrm.Spec

section DecSide
variable {σ : Type} {C : Codec σ} {Dec : Bytes → Option Bytes}

theorem Link.of_eq {rem out rem' : Bytes} (j : Nat) (h : rem = out ++ rem') : Link rem j out rem' j :=
  ⟨out, [], by simp, h, fun h => absurd rfl h, by simp⟩

theorem Link.refl (rem : Bytes) (j : Nat) : Link rem j [] rem j := Link.of_eq j rfl

theorem Link.junk {out : Bytes} {j j' : Nat} (h : out.length + j' ≤ j) : Link [] j out [] j' :=
  ⟨[], out, by simp, rfl, fun _ => rfl, h⟩

theorem Link.trans {rem rem1 rem2 o1 o2 : Bytes} {j j1 j2 : Nat} (h1 : Link rem j o1 rem1 j1)
    (h2 : Link rem1 j1 o2 rem2 j2) : Link rem j (o1 ++ o2) rem2 j2 := by
  obtain ⟨a1, b1, ho1, hr1, hb1, hj1⟩ := h1
  obtain ⟨a2, b2, ho2, hr2, hb2, hj2⟩ := h2
  by_cases hb : b1 = []
  · subst hb
    refine ⟨a1 ++ a2, b2, by simp [ho1, ho2], by rw [hr1, hr2]; simp, hb2, ?_⟩
    simp only [List.length_nil, Nat.zero_add] at hj1
    omega
  · have h0 := hb1 hb
    rw [h0] at hr2
    have ha2 : a2 = [] := (List.append_eq_nil_iff.1 hr2.symm).1
    have hrem2 : rem2 = [] := (List.append_eq_nil_iff.1 hr2.symm).2
    subst ha2
    refine ⟨a1, b1 ++ b2, by simp [ho1, ho2], by rw [hr1, h0, hrem2], fun _ => hrem2, ?_⟩
    rw [List.length_append]; omega

theorem Link.eq_of_zero {rem out rem' : Bytes} {j' : Nat} (h : Link rem 0 out rem' j') : rem = out ++ rem' := by
  obtain ⟨a, b, ho, hr, _, hj⟩ := h
  rw [ho, hr, List.eq_nil_of_length_eq_zero (show b.length = 0 by omega), List.append_nil]

theorem Link.nil_out {rem rem' : Bytes} {j j' : Nat} (h : Link rem j [] rem' j') : rem = rem' := by
  obtain ⟨a, b, ho, hr, _, _⟩ := h
  have := List.append_eq_nil_iff.1 ho.symm
  rw [hr, this.1]; rfl

theorem Link.deliv {X D rem acc : Bytes} {J j : Nat} (h : Link X J D rem j) (hp : IsPre acc D) : Deliv X J acc := by
  obtain ⟨a, b, rfl, rfl, hb, hj⟩ := h
  obtain ⟨t, ht⟩ := hp
  rcases List.append_eq_append_iff.1 ht with ⟨b', rfl, rfl⟩ | ⟨a', rfl, rfl⟩
  · -- `acc` reaches into the junk
    rw [List.length_append] at hj
    refine ⟨a, b', rfl, ⟨rem, rfl⟩, by omega, fun hne => ?_⟩
    rw [hb (by simp [hne]), List.append_nil]
  · exact ⟨acc, [], by simp, ⟨a' ++ rem, by simp⟩, by simp, fun h => absurd rfl h⟩

theorem Deliv.zero {X acc : Bytes} (h : Deliv X 0 acc) : IsPre acc X := by
  obtain ⟨a, b, hacc, hp, hb, _⟩ := h
  have : b = [] := List.eq_nil_of_length_eq_zero (by omega)
  rw [hacc, this, List.append_nil]; exact hp

theorem Deliv.length_le {X acc : Bytes} {J : Nat} (h : Deliv X J acc) : acc.length ≤ X.length + J := by
  obtain ⟨a, b, hacc, hp, hb, _⟩ := h
  have := hp.length_le
  rw [hacc, List.length_append]; omega

theorem Link.length_le {X D rem : Bytes} {J j : Nat} (h : Link X J D rem j) : D.length ≤ X.length + J :=
  (h.deliv (IsPre.refl D)).length_le

/-- what one `process_data` call of a decoder achieves inside a valid member `u ++ w`: the end-of-input rule has applied to a member
that is cut off, or the clauses of `DecContract` for this step -/
def DecPost {σ : Type} (R : σ → Bytes → Bytes → Prop) (pend : σ → Nat) (s : σ) (u v w x inp : Bytes) (room : Nat) (fl : Flush)
    (r : StepOut σ) : Prop :=
  (fl = Flush.full ∧ inp.length < w.length ∧ r.consumed = inp.length ∧ (r.res = Res.error ∨ (r.res = Res.streamEnd ∧ u = [] ∧ inp = [])) ∧
    (u ≠ [] → r.res = Res.error)) ∨
  ((r.res ≠ Res.error ∧ r.consumed ≤ inp.length ∧ r.consumed ≤ w.length ∧ r.out.length ≤ room ∧ IsPre (v ++ r.out) x ∧
      (r.res = Res.streamEnd → r.consumed = w.length ∧ v ++ r.out = x ∧ R r.st [] []) ∧
      (r.res ≠ Res.streamEnd → R r.st (u ++ inp.take r.consumed) (v ++ r.out)) ∧
      (r.res = Res.bufferFull → r.out ≠ [])) ∧
    (0 < room → inp ≠ [] → 0 < r.consumed ∨ pend r.st < pend s) ∧
    (0 < room → fl = Flush.full → inp = [] → r.out ≠ [] ∨ r.res = Res.streamEnd))

section Post
variable {σ : Type} {R : σ → Bytes → Bytes → Prop} {pend : σ → Nat} {s : σ} {u v w x inp : Bytes} {room : Nat} {fl : Flush} {r : StepOut σ}

/-- a caller that has offered the rest of the member does not meet the end-of-input rule: the clauses `valid`, `progress`, `drain` -/
theorem DecPost.ok (h : DecPost R pend s u v w x inp room fl r) (hfl : fl = Flush.full → w.length ≤ inp.length) :
    (r.res ≠ Res.error ∧ r.consumed ≤ inp.length ∧ r.consumed ≤ w.length ∧ r.out.length ≤ room ∧ IsPre (v ++ r.out) x ∧
      (r.res = Res.streamEnd → r.consumed = w.length ∧ v ++ r.out = x ∧ R r.st [] []) ∧
      (r.res ≠ Res.streamEnd → R r.st (u ++ inp.take r.consumed) (v ++ r.out)) ∧ (r.res = Res.bufferFull → r.out ≠ [])) ∧
    (0 < room → inp ≠ [] → 0 < r.consumed ∨ pend r.st < pend s) ∧
    (0 < room → fl = Flush.full → inp = [] → r.out ≠ [] ∨ r.res = Res.streamEnd) :=
  h.resolve_left fun h' => by have := hfl h'.1; have := h'.2.1; omega

/-- the clause `truncated` -/
theorem DecPost.truncated (h : DecPost R pend s u v w x [] room Flush.full r) (hu : u ≠ []) (hw : w ≠ []) (hr0 : 0 < room) :
    r.res = Res.error ∨
    (r.res ≠ Res.streamEnd ∧ r.out ≠ [] ∧ r.consumed = 0 ∧ r.out.length ≤ room ∧ IsPre (v ++ r.out) x ∧ R r.st u (v ++ r.out)) := by
  have hw0 : 0 < w.length := List.length_pos_iff.2 hw
  rcases h with ⟨_, _, _, _, h5⟩ | ⟨⟨h1, h2, h3, h4, h5, h6, h7, _⟩, _, h10⟩
  · exact Or.inl (h5 hu)
  · right
    have hc0 : r.consumed = 0 := by simpa using h2
    have hne : r.res ≠ Res.streamEnd := by
      intro he; have := (h6 he).1; omega
    have hout : r.out ≠ [] := (h10 hr0 rfl rfl).resolve_right hne
    refine ⟨hne, hout, hc0, h4, h5, ?_⟩
    have := h7 hne
    rwa [hc0, List.take_zero, List.append_nil] at this

end Post

section Pos

/-- Of the member `u ++ w` (content `x`) `u` has been consumed and `v` handed out; `rest`, what the wrapped stream still holds, is
`w` followed by further members and a tail of `tl` bytes — or, on a cut-off input, a proper prefix of `w`.  `rem`: content to come. -/
def InMember (Dec : Bytes → Option Bytes) (K : Kind) (u v w x rest rem : Bytes) (tl : Nat) : Prop :=
  Dec (u ++ w) = some x ∧ IsPre v x ∧
  ((∃ ms xs t xT, Members Dec ms xs ∧ Tail Dec K t xT ∧ rest = w ++ (ms.flatten ++ t) ∧
      rem = x.drop v.length ++ (xs.flatten ++ xT) ∧ tl = t.length) ∨
   (K = Kind.truncated ∧ ∃ w'', w'' ≠ [] ∧ w = rest ++ w'' ∧ (u ≠ [] ∨ rest ≠ []) ∧ rem = x.drop v.length))

variable {K : Kind} {u v w x rest rem : Bytes} {tl : Nat}

theorem InMember.complete {ms xs : List Bytes} {t xT : Bytes} (hdec : Dec (u ++ w) = some x) (hpv : IsPre v x) (hms : Members Dec ms xs)
    (ht : Tail Dec K t xT) : InMember Dec K u v w x (w ++ (ms.flatten ++ t)) (x.drop v.length ++ (xs.flatten ++ xT)) t.length :=
  ⟨hdec, hpv, Or.inl ⟨ms, xs, t, xT, hms, ht, rfl, rfl, rfl⟩⟩

theorem InMember.cutoff {w'' : Bytes} (hdec : Dec (u ++ (rest ++ w'')) = some x) (hpv : IsPre v x) (hw'' : w'' ≠ [])
    (hne : u ≠ [] ∨ rest ≠ []) : InMember Dec Kind.truncated u v (rest ++ w'') x rest (x.drop v.length) tl :=
  ⟨hdec, hpv, Or.inr ⟨rfl, w'', hw'', rfl, hne, rfl⟩⟩

theorem InMember.boundary {ms xs : List Bytes} {t xT : Bytes} (hms : Members Dec ms xs) (ht : Tail Dec K t xT) :
    (∃ w x, InMember Dec K [] [] w x (ms.flatten ++ t) (xs.flatten ++ xT) t.length) ∨
    (K = Kind.valid ∧ ms.flatten ++ t = [] ∧ xs.flatten ++ xT = []) ∨
    (K = Kind.corrupt ∧ ms.flatten ++ t = t ∧ xs.flatten ++ xT = [] ∧ Dead Dec t) := by
  cases hms with
  | cons hm hrest =>
    exact Or.inl ⟨_, _, by simpa using InMember.complete (u := []) (v := []) (by simpa using hm) (IsPre.nil _) hrest ht⟩
  | nil =>
    cases K with
    | valid => obtain ⟨rfl, rfl⟩ := ht; exact Or.inr (Or.inl ⟨rfl, rfl, rfl⟩)
    | truncated =>
      obtain ⟨ht0, t', ht', hd⟩ := ht
      exact Or.inl ⟨_, _, by simpa using InMember.cutoff (u := []) (v := []) (by simpa using hd) (IsPre.nil xT) ht' (Or.inr ht0)⟩
    | corrupt => obtain ⟨hdead, rfl⟩ := ht; exact Or.inr (Or.inr ⟨rfl, rfl, rfl, hdead⟩)

/-- what the contracts' `valid` clauses ask of the offered input -/
theorem InMember.offer (h : InMember Dec K u v w x rest rem tl) : ∃ tail, ∀ {inp}, IsPre inp rest → IsPre inp (w ++ tail) := by
  obtain ⟨_, _, ⟨ms, xs, t, xT, _, _, hrest, _⟩ | ⟨_, w'', _, hw, _⟩⟩ := h
  · exact ⟨ms.flatten ++ t, fun hp => hrest ▸ hp⟩
  · exact ⟨[], fun hp => by rw [hw]; exact (hp.append_right _).append_right _⟩

theorem InMember.step (h : InMember Dec K u v w x rest rem tl) {inp out : Bytes} {c : Nat} (hp : IsPre inp rest)
    (hci : c ≤ inp.length) (hcw : c ≤ w.length) (hpo : IsPre (v ++ out) x) :
    ∃ rem', rem = out ++ rem' ∧ InMember Dec K (u ++ inp.take c) (v ++ out) (w.drop c) x (rest.drop c) rem' tl := by
  obtain ⟨tail, hoff⟩ := h.offer
  -- what has been consumed is the head of `w`
  have hdec : Dec ((u ++ inp.take c) ++ w.drop c) = some x := by
    rw [(hoff hp).take_eq hci hcw, List.append_assoc, List.take_append_drop]; exact h.1
  have hx := IsPre.drop_eq hpo
  have hcr : c ≤ rest.length := Nat.le_trans hci hp.length_le
  obtain ⟨_, _, ⟨ms, xs, t, xT, hms, ht, hrest, hrem, htl⟩ | ⟨hK, w'', hw'', hw, hne, hrem⟩⟩ := h
  · exact ⟨x.drop (v ++ out).length ++ (xs.flatten ++ xT), by rw [hrem, hx, List.append_assoc], hdec, hpo,
      Or.inl ⟨ms, xs, t, xT, hms, ht, by rw [hrest, List.drop_append_of_le_length hcw], rfl, htl⟩⟩
  · refine ⟨x.drop (v ++ out).length, by rw [hrem, hx], hdec, hpo,
      Or.inr ⟨hK, w'', hw'', by rw [hw, List.drop_append_of_le_length hcr], ?_, rfl⟩⟩
    rcases hne with h | h
    · exact Or.inl fun h' => h (List.append_eq_nil_iff.1 h').1
    · by_cases hc0 : c = 0
      · right; rw [hc0]; simpa using h
      · left; intro h'
        rw [(hp.append_right []).take_eq hci hcr] at h'
        exact (List.take_eq_nil_iff.1 (List.append_eq_nil_iff.1 h').2).elim hc0 h

theorem InMember.finish (h : InMember Dec K u v w x rest rem tl) {out : Bytes} (hcr : w.length ≤ rest.length) (hx : v ++ out = x) :
    ∃ ms xs t xT, Members Dec ms xs ∧ Tail Dec K t xT ∧ rest.drop w.length = ms.flatten ++ t ∧
      rem = out ++ (xs.flatten ++ xT) ∧ tl = t.length := by
  obtain ⟨_, _, ⟨ms, xs, t, xT, hms, ht, hrest, hrem, htl⟩ | ⟨_, w'', hw'', hw, _⟩⟩ := h
  · exact ⟨ms, xs, t, xT, hms, ht, by rw [hrest, List.drop_left], by rw [hrem, ← hx, List.drop_left], htl⟩
  · have := List.length_pos_iff.2 hw''
    rw [hw, List.length_append] at hcr; omega

theorem Members_flatten_nil (hnil : Dec [] = none) {ms xs : List Bytes} (h : Members Dec ms xs) (hf : ms.flatten = []) :
    ms = [] ∧ xs = [] := by
  cases h with
  | nil => exact ⟨rfl, rfl⟩
  | cons hm _ =>
    rename_i m x ms' xs'
    simp only [List.flatten_cons, List.append_eq_nil_iff] at hf
    rw [hf.1, hnil] at hm; cases hm

theorem InMember.at_end (hnil : Dec [] = none) (h : InMember Dec K u v w x [] rem tl) :
    u ≠ [] ∧ rem = x.drop v.length ∧ ((K = Kind.valid ∧ w = []) ∨ (K = Kind.truncated ∧ w ≠ [])) := by
  obtain ⟨hdec, _, ⟨ms, xs, t, xT, hms, ht, hrest, hrem, _⟩ | ⟨hK, w'', hw'', hw, hne, hrem⟩⟩ := h
  · obtain ⟨rfl, hmt⟩ := List.append_eq_nil_iff.1 hrest.symm
    obtain ⟨hm0, rfl⟩ := List.append_eq_nil_iff.1 hmt
    obtain ⟨rfl, rfl⟩ := Members_flatten_nil hnil hms hm0
    have hu : u ≠ [] := by rintro rfl; rw [List.append_nil, hnil] at hdec; cases hdec
    cases K
    · exact ⟨hu, by rw [hrem, ht.2]; simp, Or.inl ⟨rfl, rfl⟩⟩
    · exact absurd rfl ht.1
    · exact absurd rfl ht.1.1
  · exact ⟨hne.resolve_right fun h => h rfl, hrem, Or.inr ⟨hK, by rw [hw]; simpa using hw''⟩⟩

end Pos

/-- no statement about input that has gone wrong -/
def Doom.none (hD : DecContract C Dec) : Doom hD where
  B := fun _ _ _ => False
  budget := fun _ => 0
  step_none := by intro s rest j h; exact h.elim
  step_full := by intro s j h; exact h.elim

/-- at a member boundary dead bytes lead into `B` -/
def Enter {hD : DecContract C Dec} (E : Doom hD) : Prop :=
  ∀ (s : σ) (c : Bytes), hD.R s [] [] → Dead Dec c → E.B s c (E.budget c.length)

/--
Ghost description of "decoder state `cs`, `rest` still in the wrapped stream (an input of kind `K`), content `rem` and
then at most `j` bytes of junk still to come": inside a member (complete or cut off: `InMember`), between two members at the
end of a valid input, or behind the point where the input has gone wrong.
-/
def G (hD : DecContract C Dec) (E : Doom hD) (K : Kind) (cs : σ) (rest rem : Bytes) (j : Nat) : Prop :=
  (K = Kind.corrupt → Enter E) ∧ (K ≠ Kind.corrupt → j = 0) ∧
  ((∃ u v w x tl, hD.R cs u v ∧ InMember Dec K u v w x rest rem tl ∧ (K = Kind.corrupt → j = E.budget tl)) ∨
   (K = Kind.valid ∧ hD.R cs [] [] ∧ rest = [] ∧ rem = []) ∨
   (K = Kind.corrupt ∧ rem = [] ∧ E.B cs rest j))

theorem G_boundary (hD : DecContract C Dec) (E : Doom hD) {K : Kind} (hen : K = Kind.corrupt → Enter E) {cs : σ}
    (hR : hD.R cs [] []) {ms xs : List Bytes} {t xT : Bytes} {j : Nat}
    (hms : Members Dec ms xs) (htail : Tail Dec K t xT) (hj0 : K ≠ Kind.corrupt → j = 0)
    (hjc : K = Kind.corrupt → j = E.budget t.length) :
    G hD E K cs (ms.flatten ++ t) (xs.flatten ++ xT) j := by
  refine ⟨hen, hj0, ?_⟩
  rcases InMember.boundary hms htail with ⟨w, x, hM⟩ | ⟨hK, hrest, hrem⟩ | ⟨hK, hrest, hrem, hdead⟩
  · exact Or.inl ⟨[], [], w, x, _, hR, hM, hjc⟩
  · exact Or.inr (Or.inl ⟨hK, hR, hrest, hrem⟩)
  · refine Or.inr (Or.inr ⟨hK, hrem, ?_⟩)
    rw [hrest, hjc hK]; exact hen hK cs t hR hdead

def streamOfDoom (hD : DecContract C Dec) (E : Doom hD) : StreamDecContract C Dec where
  G := G hD E
  pend := hD.pend
  start_valid := by
    intro ms xs hms
    have := G_boundary hD E (K := Kind.valid) nofun hD.init hms (t := []) (xT := []) (j := 0) ⟨rfl, rfl⟩ (fun _ => rfl) nofun
    simpa using this
  start_truncated := fun hms ht ht' hd =>
    G_boundary hD E (K := Kind.truncated) nofun hD.init hms ⟨ht, _, ht', hd⟩ (fun _ => rfl) nofun
  no_junk := fun hG hK => hG.2.1 hK
  step_none := by
    intro K cs rest rem j hG n room hn hnr hroom r hr
    have hinp : rest.take n ≠ [] := take_ne_nil hn (List.length_pos_iff.1 (by omega))
    have hlen : (rest.take n).length = n := List.length_take_of_le hnr
    obtain ⟨hen, hj0, hG⟩ := hG
    rcases hG with ⟨u, v, w, x, tl, hR, hM, hjc⟩ | ⟨_, _, hrest, _⟩ | ⟨hK, hrem, hB⟩
    · -- inside a member
      obtain ⟨tail, hoff⟩ := hM.offer
      have hip := hoff (IsPre.take rest n)
      obtain ⟨h1, h2, h3, h4, h5, h6, h7, h8⟩ := hD.valid w x tail _ room Flush.none (by decide) hR hM.1 hip (fun h => by cases h)
      have hprog := hD.progress w x tail _ room Flush.none (by decide) hR hM.1 hip (fun h => by cases h) hroom hinp
      rw [← hr] at h1 h2 h3 h4 h5 h6 h7 h8 hprog
      refine Or.inr ⟨h1, h4, by omega, ?_, h8, hprog.imp id Or.inl⟩
      by_cases hend : r.res = Res.streamEnd
      · obtain ⟨hc, hx, hR'⟩ := h6 hend
        obtain ⟨ms, xs, t, xT, hms, ht, hrest, hrem, htl⟩ := hM.finish (by omega) hx
        refine ⟨_, j, ?_, Link.of_eq j hrem⟩
        rw [hc, hrest]
        exact G_boundary hD E hen hR' hms ht hj0 (fun h => htl ▸ hjc h)
      · obtain ⟨rem', hrem, hM'⟩ := hM.step (IsPre.take rest n) h2 h3 h5
        exact ⟨rem', j, ⟨hen, hj0, Or.inl ⟨_, _, _, _, tl, h7 hend, hM', hjc⟩⟩, Link.of_eq j hrem⟩
    · rw [hrest] at hnr; simp at hnr; omega
    · -- the input has gone wrong
      rcases E.step_none hB n room hn hnr hroom r hr with he | ⟨hol, hcn, ⟨j', hB', hjj⟩, hbf, hprog⟩
      · exact Or.inl ⟨he, hK⟩
      · by_cases herr : r.res = Res.error
        · exact Or.inl ⟨herr, hK⟩
        · right
          refine ⟨herr, hol, hcn, ⟨[], j', ⟨hen, fun h => absurd hK h, Or.inr (Or.inr ⟨hK, rfl, hB'⟩)⟩, ?_⟩, hbf, hprog⟩
          rw [hrem]; exact Link.junk hjj
  step_full := by
    intro K cs rem j hG room hroom r hr
    obtain ⟨hen, hj0, hG⟩ := hG
    rcases hG with ⟨u, v, w, x, tl, hR, hM, hjc⟩ | ⟨hK, hR, _, hrem⟩ | ⟨hK, hrem, hB⟩
    · obtain ⟨hu, hrem, hcase⟩ := hM.at_end hD.dec_nil
      have hstay : ∀ {out : Bytes}, IsPre (v ++ out) x → hD.R r.st u (v ++ out) →
          ∃ rem' j', G hD E K r.st [] rem' j' ∧ Link rem j out rem' j' := fun hpo hR' => by
        obtain ⟨rem', hrem', hM'⟩ := hM.step (inp := []) (c := 0) (IsPre.nil _) (Nat.le_refl _) (Nat.zero_le _) hpo
        exact ⟨rem', j, ⟨hen, hj0, Or.inl ⟨_, _, _, _, tl, hR', by simpa using hM', hjc⟩⟩, Link.of_eq j hrem'⟩
      rcases hcase with ⟨hKv, rfl⟩ | ⟨hKt, hw⟩
      · -- the last member has been consumed completely
        have hdec : Dec u = some x := by simpa using hM.1
        obtain ⟨h1, h2, h3, h4, h5, h6, h7, h8⟩ := hD.valid [] x [] [] room Flush.full (by decide) hR hM.1 (IsPre.nil _) (fun _ => by simp)
        have hdrain := hD.drain x room hR hdec hroom
        rw [← hr] at h1 h2 h3 h4 h5 h6 h7 h8 hdrain
        refine Or.inr ⟨h1, by simpa using h2, h4, ?_, fun _ ho => ?_, fun h => absurd hKv h⟩
        · by_cases hend : r.res = Res.streamEnd
          · obtain ⟨_, hx, hR'⟩ := h6 hend
            exact ⟨[], j, ⟨hen, hj0, Or.inr (Or.inl ⟨hKv, hR', rfl, rfl⟩)⟩, Link.of_eq j (by rw [hrem, ← hx]; simp)⟩
          · exact hstay h5 (by simpa using h7 hend)
        · rcases hdrain with hd | hd
          · exact absurd ho hd
          · rw [hrem, ← (h6 hd).2.1, ho]; simp
      · -- the stream ends inside a member
        have hKn : K ≠ Kind.valid := by rw [hKt]; decide
        have htr := hD.truncated w x room hR hu hw hM.1 hroom
        rw [← hr] at htr
        rcases htr with he | ⟨h1, h2, h3, h4, h5, h6⟩
        · exact Or.inl ⟨he, hKn⟩
        · by_cases herr : r.res = Res.error
          · exact Or.inl ⟨herr, hKn⟩
          · exact Or.inr ⟨herr, h3, h4, hstay h5 h6, fun h => absurd h hKn, fun _ => h2⟩
    · -- between two members: clean end of the stream
      obtain ⟨h1, h2, h3, h4⟩ := hr ▸ hD.idle_eof room hR hroom
      exact Or.inr ⟨h1, h3, by rw [h2]; simp, ⟨[], j, ⟨hen, hj0, Or.inr (Or.inl ⟨hK, h4, rfl, rfl⟩)⟩, Link.of_eq j (by simp [hrem, h2])⟩,
        fun _ _ => hrem, fun h => absurd hK h⟩
    · -- the input has gone wrong: an error, or more junk — never empty-handed
      have hKn : K ≠ Kind.valid := by rw [hK]; decide
      rcases E.step_full hB room hroom r hr with he | ⟨hc, hout, hol, j', hB', hjj⟩
      · exact Or.inl ⟨he, hKn⟩
      · by_cases herr : r.res = Res.error
        · exact Or.inl ⟨herr, hKn⟩
        · right
          refine ⟨herr, hc, hol, ⟨[], j', ⟨hen, fun h => absurd hK h, Or.inr (Or.inr ⟨hK, rfl, hB'⟩)⟩, ?_⟩, fun h => absurd h hKn, fun _ => hout⟩
          rw [hrem]; exact Link.junk hjj

def streamOfDec (hD : DecContract C Dec) : StreamDecContract C Dec := streamOfDoom hD (Doom.none hD)

def streamOfDecErr (hD : DecContract C Dec) (hE : DecErrContract hD) : StreamDecErrContract C Dec where
  toStreamDecContract := streamOfDoom hD hE.toDoom
  budget := hE.budget
  start_corrupt := by
    intro ms xs c hms hdead
    have := G_boundary hD hE.toDoom (K := Kind.corrupt) (fun _ s c hR hd => hE.enter hR hd) hD.init hms (t := c) (xT := [])
      (j := hE.budget c.length) ⟨hdead, rfl⟩ (fun h => absurd rfl h) (fun _ => rfl)
    rw [List.append_nil] at this
    exact this

theorem peek_nil {i : Inner} (h : i.rest = []) :
    i.peek.1 = [] ∧ i.peek.2.1 = true ∧ i.peek.2.2.rest = [] := by
  simp [Inner.peek, h]

theorem peek_cons {i : Inner} (h : i.rest ≠ []) :
    ∃ n, 0 < n ∧ n ≤ i.rest.length ∧ i.peek.1 = i.rest.take n ∧ i.peek.2.1 = false ∧ i.peek.2.2.rest = i.rest := by
  have hl : i.rest.length ≠ 0 := fun h0 => h (List.eq_nil_of_length_eq_zero h0)
  cases hs : i.script with
  | nil => exact ⟨i.rest.length, by omega, Nat.le_refl _, by simp [Inner.peek, hl, hs], by simp [Inner.peek, hl], by simp [Inner.peek, hl]⟩
  | cons k t =>
    exact ⟨min (k + 1) i.rest.length, by omega, by omega, by simp [Inner.peek, hl, hs], by simp [Inner.peek, hl], by simp [Inner.peek, hl]⟩

/-- `precache` for a reader that has taken `acc`: what it has taken and what the buffer holds continue, from the start, the content `X`
and then at most `J` bytes of junk; an empty buffer means that a valid input has been delivered completely -/
def PrecachePost (S : StreamDecContract C Dec) (K : Kind) (bufsz : Nat) (X : Bytes) (J : Nat) (acc : Bytes)
    (r : Except Int (σ × Bytes × Inner)) : Prop :=
  (r = .error errCompressor ∧ K ≠ Kind.valid) ∨
  ∃ cs' buf' inner' rem' j', r = .ok (cs', buf', inner') ∧ buf'.length ≤ bufsz ∧ S.G K cs' inner'.rest rem' j' ∧
    Link X J (acc ++ buf') rem' j' ∧ (buf' = [] → K = Kind.valid ∧ rem' = [])

theorem precacheLoop_spec (S : StreamDecContract C Dec) {bufsz : Nat} {K : Kind} {X acc : Bytes} {J : Nat} {cs : σ}
    {buf0 rem0 : Bytes} {j0 : Nat} {inner : Inner} (hG : S.G K cs inner.rest rem0 j0) (hX : Link X J (acc ++ buf0) rem0 j0)
    (hlen : buf0.length < bufsz) :
    ∃ f r, precacheLoop C bufsz f cs buf0 inner = some r ∧ PrecachePost S K bufsz X J acc r := by
  refine iter_total (precacheBody C bufsz)
    (fun a => a.2.1.length < bufsz ∧ ∃ rem1 j1, S.G K a.1 a.2.2.rest rem1 j1 ∧ Link X J (acc ++ a.2.1) rem1 j1)
    (PrecachePost S K bufsz X J acc)
    (fun a => (a.2.2.rest.length, S.pend a.1)) ?_ (cs, buf0, inner) ⟨hlen, rem0, j0, hG, hX⟩
  rintro ⟨cs1, buf1, inner1⟩ ⟨hl1, rem1, j1, hG1, hX1⟩
  simp only at hl1 hG1 hX1
  have hroom : 0 < bufsz - buf1.length := by omega
  -- what a call hands out goes to the end of the buffer
  have hnext : ∀ {out rem' : Bytes} {j' : Nat}, Link rem1 j1 out rem' j' → Link X J (acc ++ (buf1 ++ out)) rem' j' := fun h => by
    rw [← List.append_assoc]; exact hX1.trans h
  by_cases hrest : inner1.rest = []
  · -- end of the wrapped stream: one call with FLUSH_FULL, then leave
    obtain ⟨hp1, hp2, hp3⟩ := peek_nil hrest
    rw [hrest] at hG1
    have hstep := S.step_full hG1 (bufsz - buf1.length) hroom _ rfl
    simp only [precacheBody, hp1, hp2, if_true]
    generalize C.step cs1 [] (bufsz - buf1.length) Flush.full = r at *
    rcases hstep with ⟨he, hK⟩ | ⟨hne, hc, hol, ⟨rem', j', hG', hr'⟩, hF, hTt⟩
    · rw [if_pos he]
      exact Or.inl ⟨rfl, hK⟩
    · rw [if_neg hne, ite_self]
      refine Or.inr ⟨r.st, _, inner1.peek.2.2.advance r.consumed, rem', j', rfl, by rw [List.length_append]; omega,
        by simpa [Inner.advance, hp3] using hG', hnext hr', fun h => ?_⟩
      obtain ⟨_, ho⟩ := List.append_eq_nil_iff.1 h
      by_cases hK : K = Kind.valid
      · rw [ho] at hr'
        exact ⟨hK, by rw [← hr'.nil_out]; exact hF hK ho⟩
      · exact absurd ho (hTt hK)
  · -- data available: one call with FLUSH_NONE
    obtain ⟨n, hn0, hn1, hp1, hp2, hp3⟩ := peek_cons hrest
    have hstep := S.step_none hG1 n (bufsz - buf1.length) hn0 hn1 hroom _ rfl
    simp only [precacheBody, hp1, hp2, Bool.false_eq_true, if_false]
    generalize C.step cs1 (inner1.rest.take n) (bufsz - buf1.length) Flush.none = r at *
    rcases hstep with ⟨he, hK⟩ | ⟨hne, hol, hcn, ⟨rem', j', hG', hr'⟩, hbf, hprog⟩
    · rw [if_pos he]
      exact Or.inl ⟨rfl, by rw [hK]; decide⟩
    rw [if_neg hne]
    have hG'' : S.G K r.st (inner1.peek.2.2.advance r.consumed).rest rem' j' := by simpa [Inner.advance, hp3] using hG'
    by_cases hexit : (r.res = Res.bufferFull || decide (bufsz ≤ (buf1 ++ r.out).length)) = true
    · rw [if_pos hexit]
      have hout : r.out ≠ [] := by
        simp only [Bool.or_eq_true, decide_eq_true_eq] at hexit
        rcases hexit with h | h
        · exact hbf h
        · intro h0; rw [h0] at h; simp at h; omega
      exact Or.inr ⟨r.st, _, _, rem', j', rfl, by rw [List.length_append]; omega, hG'', hnext hr',
        fun h => absurd (List.append_eq_nil_iff.1 h).2 hout⟩
    · rw [if_neg hexit]
      simp only [Bool.or_eq_true, decide_eq_true_eq, not_or, Nat.not_le] at hexit
      refine ⟨⟨hexit.2, rem', j', hG'', hnext hr'⟩, ?_⟩
      simp only [Inner.advance, hp3, List.length_drop]
      exact LexLt.of_consumed (by omega) (hprog.imp id (fun h => h.resolve_right hexit.1))

/-- invariant of the input stream between two operations of a reader that has taken `acc`: what it has taken and what it sees continue,
from the start, the content `X` and then at most `J` bytes of junk; `rem`, `j`: what is still to come -/
def IInv (S : StreamDecContract C Dec) (K : Kind) (bufsz : Nat) (X : Bytes) (J : Nat) (st : IState σ) (acc : Bytes) : Prop :=
  st.off ≤ st.buf.length ∧ st.buf.length ≤ bufsz ∧
  ∃ rem j, S.G K st.cs st.inner.rest rem j ∧ Link X J (acc ++ st.buf.drop st.off) rem j

theorem IInv.init (S : StreamDecContract C Dec) (bufsz : Nat) {K : Kind} {rest X : Bytes} {J : Nat} (hG : S.G K C.init rest X J)
    (script : List Nat) : IInv S K bufsz X J (iInit C ⟨rest, script⟩) [] :=
  ⟨Nat.le_refl _, Nat.zero_le _, X, J, hG, Link.refl X J⟩

section
variable {S : StreamDecContract C Dec} {K : Kind} {bufsz : Nat} {X : Bytes} {J : Nat} {st : IState σ} {acc : Bytes}

theorem IInv.deliv (h : IInv S K bufsz X J st acc) : Deliv X J acc := by
  obtain ⟨_, _, _, _, _, hX⟩ := h
  exact hX.deliv ⟨_, rfl⟩

/-- `advance_buffer` by no more than is visible: its asserts hold, and what was skipped has been taken -/
theorem IInv.advance (h : IInv S K bufsz X J st acc) {n : Nat} (hn : n ≤ (st.buf.drop st.off).length) :
    iAdvance st n = some { st with off := st.off + n } ∧
      IInv S K bufsz X J { st with off := st.off + n } (acc ++ (st.buf.drop st.off).take n) := by
  obtain ⟨hoff, hlen, rem, j, hG, hX⟩ := h
  rw [List.length_drop] at hn
  refine ⟨by simp only [iAdvance]; rw [if_pos]; constructor <;> omega, by simp only; omega, hlen, rem, j, hG, ?_⟩
  simp only
  rw [List.append_assoc, ← List.drop_drop, List.take_append_drop]
  exact hX

end

theorem iGet_spec (S : StreamDecContract C Dec) {bufsz : Nat} (hb : 0 < bufsz) {K : Kind} {X : Bytes} {J : Nat}
    (hJ : K = Kind.valid → J = 0) {st : IState σ} {acc : Bytes} (hI : IInv S K bufsz X J st acc) (want : Nat) :
    ∃ f0 r, (∀ f, f0 ≤ f → iGet C bufsz f st want = some r) ∧
      ((r = .error errCompressor ∧ K ≠ Kind.valid) ∨
       ∃ st', r = .ok (st', st'.buf.drop st'.off, decide ((st'.buf.drop st'.off).length = 0)) ∧ IInv S K bufsz X J st' acc ∧
         (0 < want → st'.buf.drop st'.off = [] → K = Kind.valid ∧ acc = X)) := by
  obtain ⟨hoff, hlen, rem, j, hG, hX⟩ := hI
  by_cases hpre : (st.buf.length = 0 || decide (st.buf.length - st.off < (if bufsz < want then bufsz else want))) = true
  · have hl0 : (st.buf.drop st.off).length < bufsz := by
      simp only [Bool.or_eq_true, decide_eq_true_eq] at hpre
      rw [List.length_drop]
      rcases hpre with h | h
      · omega
      · split at h <;> omega
    obtain ⟨f0, r, hrun, hpost⟩ := precacheLoop_spec S hG hX hl0
    have hget : ∀ f, f0 ≤ f → precacheLoop C bufsz f st.cs (st.buf.drop st.off) st.inner = some r := iter_mono _ _ _ _ hrun
    rcases hpost with ⟨rfl, hK⟩ | ⟨cs', buf', inner', rem', j', rfl, hl', hG', hX', hE⟩
    · exact ⟨f0, .error errCompressor, fun f hf => by simp only [iGet, hpre, if_true, precache, hget f hf], Or.inl ⟨rfl, hK⟩⟩
    · refine ⟨f0, _, fun f hf => ?_, Or.inr ⟨{ cs := cs', buf := buf', off := 0, inner := inner' }, rfl,
        ⟨Nat.zero_le _, hl', rem', j', hG', hX'⟩, fun _ hv => ?_⟩⟩
      · simp only [iGet, hpre, if_true, precache, hget f hf]
      · have hv' : buf' = [] := hv
        obtain ⟨hK, rfl⟩ := hE hv'
        rw [hv', hJ hK] at hX'
        exact ⟨hK, by simpa using hX'.eq_of_zero.symm⟩
  · refine ⟨0, _, fun f _ => ?_, Or.inr ⟨st, rfl, ⟨hoff, hlen, rem, j, hG, hX⟩, fun hw hv => ?_⟩⟩
    · simp only [iGet, hpre]; rfl
    · exfalso
      simp only [Bool.or_eq_true, decide_eq_true_eq, not_or, Nat.not_lt] at hpre
      have := congrArg List.length hv
      simp only [List.length_drop, List.length_nil] at this
      obtain ⟨h1, h2⟩ := hpre
      split at h2 <;> omega

/-- the number of reader rounds that take at least one byte (when there is one) -/
def takingRounds (ops : List (Nat × Nat)) : Nat := ops.countP fun op => decide (0 < op.2)

theorem takingRounds_all {ops : List (Nat × Nat)} (h : ∀ op ∈ ops, 0 < op.2) : takingRounds ops = ops.length :=
  List.countP_eq_length.2 fun op hop => by simpa using h op hop

theorem takingRounds_drain {ops : List (Nat × Nat)} {bufsz n : Nat} (hb : 0 < bufsz) :
    takingRounds (ops ++ drainOps bufsz n) = takingRounds ops + n := by
  simp [takingRounds, drainOps, List.countP_append, List.countP_replicate, hb]

theorem iRead_spec (S : StreamDecContract C Dec) {bufsz : Nat} (hb : 0 < bufsz) {K : Kind} (X : Bytes) (J : Nat)
    (hJ : K = Kind.valid → J = 0) :
    ∀ (ops : List (Nat × Nat)) (st : IState σ) (acc : Bytes), IInv S K bufsz X J st acc → (∀ op ∈ ops, 0 < op.1) →
      ∃ f0 r, (∀ f, f0 ≤ f → iRead C bufsz f st ops acc = some r) ∧
        ((r = .error errCompressor ∧ K ≠ Kind.valid) ∨
         ∃ st' acc' eof, r = .ok (st', acc', eof) ∧ Deliv X J acc' ∧ (eof = true → K = Kind.valid ∧ acc' = X) ∧
           (eof = true ∨ acc.length + takingRounds ops ≤ acc'.length)) := by
  intro ops
  induction ops with
  | nil =>
    intro st acc hI _
    exact ⟨0, _, fun f _ => rfl, Or.inr ⟨st, acc, false, rfl, hI.deliv, (by intro h; cases h), Or.inr (by simp [takingRounds])⟩⟩
  | cons op ops ih =>
    intro st acc hI hw
    obtain ⟨want, take⟩ := op
    obtain ⟨f1, r1, hrun1, hpost1⟩ := iGet_spec S hb hJ hI want
    rcases hpost1 with ⟨rfl, hK⟩ | ⟨st1, rfl, hI1, hempty⟩
    · refine ⟨f1, .error errCompressor, fun f hf => ?_, Or.inl ⟨rfl, hK⟩⟩
      simp only [iRead, hrun1 f hf]
    · by_cases hv : (st1.buf.drop st1.off).length = 0
      · refine ⟨f1, .ok (st1, acc, true), fun f hf => ?_, Or.inr ⟨st1, acc, true, rfl, hI1.deliv,
          fun _ => hempty (hw (want, take) (List.mem_cons_self ..)) (List.eq_nil_of_length_eq_zero hv), Or.inl rfl⟩⟩
        simp only [iRead, hrun1 f hf, hv, decide_true, if_true]
      · obtain ⟨hadv, hI2⟩ := hI1.advance (Nat.min_le_right take _)
        obtain ⟨f2, r2, hrun2, hpost2⟩ := ih _ _ hI2 (fun op hop => hw op (List.mem_cons_of_mem _ hop))
        refine ⟨max f1 f2, r2, fun f hf => ?_, ?_⟩
        · simp only [iRead, hrun1 f (by omega), hv, decide_false, Bool.false_eq_true, if_false, hadv]
          exact hrun2 f (by omega)
        · rcases hpost2 with h | ⟨st', acc', eof, rfl, hp, he, hlive⟩
          · exact Or.inl h
          · refine Or.inr ⟨st', acc', eof, rfl, hp, he, hlive.imp id (fun h => ?_)⟩
            simp only [takingRounds, List.countP_cons, decide_eq_true_eq, List.length_append, List.length_take] at h ⊢
            split <;> omega

theorem iRead_valid (S : StreamDecContract C Dec) {bufsz : Nat} (hb : 0 < bufsz) {rest X : Bytes}
    (hG : S.G Kind.valid C.init rest X 0) (script : List Nat) (ops : List (Nat × Nat)) (hw : ∀ op ∈ ops, 0 < op.1) :
    ∃ fuel st acc eof, (∀ f, fuel ≤ f → iRead C bufsz f (iInit C ⟨rest, script⟩) ops [] = some (.ok (st, acc, eof))) ∧
      IsPre acc X ∧ (eof = true → acc = X) ∧ (eof = true ∨ takingRounds ops ≤ acc.length) := by
  obtain ⟨f0, r, hrun, hpost⟩ := iRead_spec S hb X 0 (fun _ => rfl) ops _ [] (IInv.init S bufsz hG script) hw
  rcases hpost with ⟨_, hK⟩ | ⟨st, acc, eof, rfl, hp, he, hl⟩
  · exact absurd rfl hK
  · exact ⟨f0, st, acc, eof, hrun, hp.zero, fun h => (he h).2, by simpa using hl⟩

theorem iRead_bad (S : StreamDecContract C Dec) {bufsz : Nat} (hb : 0 < bufsz) {K : Kind} (hK : K ≠ Kind.valid)
    {rest X : Bytes} {J : Nat} (hG : S.G K C.init rest X J) (script : List Nat) (ops : List (Nat × Nat))
    (hw : ∀ op ∈ ops, 0 < op.1) :
    ∃ fuel r, (∀ f, fuel ≤ f → iRead C bufsz f (iInit C ⟨rest, script⟩) ops [] = some r) ∧
      (r = .error errCompressor ∨ ∃ st acc, r = .ok (st, acc, false) ∧ Deliv X J acc) ∧
      (X.length + J < takingRounds ops → r = .error errCompressor) := by
  obtain ⟨f0, r, hrun, hpost⟩ := iRead_spec S hb X J (fun h => absurd h hK) ops _ [] (IInv.init S bufsz hG script) hw
  refine ⟨f0, r, hrun, ?_⟩
  rcases hpost with ⟨h, _⟩ | ⟨st, acc, eof, rfl, hp, he, hl⟩
  · exact ⟨Or.inl h, fun _ => h⟩
  · cases eof with
    | true => exact absurd (he rfl).1 hK
    | false =>
      refine ⟨Or.inr ⟨st, acc, rfl, hp⟩, fun hlen => ?_⟩
      have := hp.length_le
      simp only [Bool.false_eq_true, false_or, List.length_nil, Nat.zero_add] at hl
      omega

end DecSide

end Sqfs.Xfrm
