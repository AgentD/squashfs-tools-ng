/-
Export table (`dir_writer.c: add_export_table_entry`) of the pack specification: `addExport` is the generic
`ExportTable.add` with the filler `noRef`, so `ExportTable.Ok` says what `exportTable` holds.
-/
import Sqfs.Spec.PackSpec
import Sqfs.Proofs.ExportTable
namespace Sqfs.Pack

theorem addExport_eq : addExport = ExportTable.add noRef :=
  funext fun t => funext fun n => funext fun r => ExportTable.set_ite_eq_add noRef t n r

end Sqfs.Pack
