/-
C02: the pool under the serial behaviour is a FIFO list of worked items; worked blocks keep the properties of the
blocks the front end submitted.
-/
import Sqfs.Proofs.BPFront
namespace Sqfs.BlockProc
open Sqfs.BlockWriter (hasFlag)

theorem serialAns_hist (p : PoolSt) (op : Pool.Op) : serialAns p op = serialAnsHist (p.calls ++ [op]) := by
  unfold serialAns serialAnsHist
  rw [Pool.Serial.run_append, ← p.tracks]
  rfl

theorem PoolOk.init : PoolOk ({} : PoolSt) [] := ⟨rfl, rfl⟩

theorem poolSubmit_ok (P : Params) (hP : P.ans = serialAns) (p : PoolSt) (items : List Blk) (h : PoolOk p items) (b : Blk) :
    (poolSubmit P p b).2 = 0 ∧ PoolOk (poolSubmit P p b).1 (items ++ [processBlock P b]) := by
  have hst := h.status
  have hcall : Pool.Serial.call rc0 p.ser (.submit p.table.length) =
      { p.ser with queue := p.ser.queue ++ [p.table.length], recycle := p.ser.recycle - 1, rets := p.ser.rets ++ [.submit 0] } := by
    simp [Pool.Serial.call, hst]
  refine ⟨?_, ?_, ?_⟩
  · simp only [poolSubmit, hP, serialAns, hcall]
    simp
  · simp only [poolSubmit, PoolSt.record, hcall]; exact hst
  · simp only [poolSubmit, PoolSt.record, hcall]
    rw [List.map_append, List.map_append]
    congr 1
    · rw [← h.queue]
      apply List.map_congr_left
      intro id hid
      obtain ⟨x, _, hx⟩ := List.mem_map.mp (h.queue ▸ List.mem_map_of_mem (f := fun id => p.table[id]?) hid)
      exact List.getElem?_append_left (List.getElem?_eq_some_iff.mp hx.symm).1
    · simp

theorem poolDequeue_cons (P : Params) (hP : P.ans = serialAns) (p : PoolSt) (x : Blk) (rest : List Blk) (h : PoolOk p (x :: rest)) :
    (poolDequeue P p).2 = some x ∧ PoolOk (poolDequeue P p).1 rest := by
  have hq := h.queue
  cases hqq : p.ser.queue with
  | nil => rw [hqq] at hq; simp at hq
  | cons id q =>
    rw [hqq] at hq
    simp only [List.map_cons, List.cons.injEq] at hq
    have hcall : Pool.Serial.call rc0 p.ser .dequeue =
        { p.ser with queue := q, recycle := p.ser.recycle + 1, processed := p.ser.processed ++ [id],
                     status := p.ser.status, rets := p.ser.rets ++ [.deq (some id)] } := by
      simp [Pool.Serial.call, hqq, rc0]
    refine ⟨?_, ?_, ?_⟩
    · simp only [poolDequeue, hP, serialAns, hcall]
      simp [hq.1]
    · simp only [poolDequeue, PoolSt.record, hcall]; exact h.status
    · simp only [poolDequeue, PoolSt.record, hcall]; exact hq.2

theorem poolStatus_ok (P : Params) (hP : P.ans = serialAns) (p : PoolSt) (items : List Blk) (h : PoolOk p items) :
    (poolStatus P p).2 = 0 ∧ PoolOk (poolStatus P p).1 items := by
  have hst := h.status
  have hcall : Pool.Serial.call rc0 p.ser .getStatus = { p.ser with rets := p.ser.rets ++ [.status p.ser.status] } := rfl
  refine ⟨?_, ?_, ?_⟩
  · simp only [poolStatus, hP, serialAns, hcall]
    simp [hst]
  · simp only [poolStatus, PoolSt.record, hcall]; exact hst
  · simp only [poolStatus, PoolSt.record, hcall]; exact h.queue

theorem isFrag_worked (P : Params) (x : Blk) : isFrag (processBlock P x) = isFrag x :=
  processBlock_hasFlag P x _ stable_isFragment
theorem isLast_worked (P : Params) (x : Blk) : isLast (processBlock P x) = isLast x :=
  processBlock_hasFlag P x _ stable_last
theorem isFirst_worked (P : Params) (x : Blk) : isFirst (processBlock P x) = isFirst x :=
  processBlock_hasFlag P x _ stable_first
theorem isFB_worked (P : Params) (x : Blk) : isFB (processBlock P x) = isFB x :=
  processBlock_hasFlag P x _ stable_fragmentBlock

theorem processBlock_length_le (P : Params) (hc : CodecOk P.codec) (b : Blk) : (processBlock P b).data.length ≤ b.data.length := by
  rcases processBlock_cases P b with ⟨_, h⟩ | ⟨_, ⟨_, h⟩ | h | ⟨z, hz, _, h⟩⟩ <;> rw [h]
  · exact Nat.le_refl _
  · exact Nat.le_refl _
  · exact Nat.le_refl _
  · exact Nat.le_of_lt (hc.smaller _ _ hz)

theorem ItemOK.worked {P : Params} (hc : CodecOk P.codec) {n : Nat} {x : Blk} (h : ItemOK P.B n x) :
    ItemOK P.B n (processBlock P x) := by
  refine ⟨?_, ?_, ?_, ?_, ?_⟩
  · rw [processBlock_hasFlag P x _ stable_fragmentBlock]; exact h.notFB
  · rw [processBlock_hasFlag P x _ stable_manual]; exact h.notManual
  · rw [processBlock_inode]; exact h.ino
  · exact Nat.le_trans (processBlock_length_le P hc x) h.size
  · intro hf
    rw [processBlock_hasFlag P x _ stable_isFragment] at hf
    intro he
    exact h.frag hf ((processBlock_data_nil P x).mp he)

theorem fOpen_worked (P : Params) (o : Bool) (x : Blk) : fOpen o (processBlock P x) = fOpen o x := by
  simp [fOpen, bOpen, isFrag_worked, isLast_worked, isFirst_worked]

theorem foldl_fOpen_worked (P : Params) (front : List Blk) (o : Bool) :
    (front.map (processBlock P)).foldl fOpen o = front.foldl fOpen o := by
  induction front generalizing o with
  | nil => rfl
  | cons x r ih => simp [List.foldl_cons, fOpen_worked, ih]

theorem fproto_worked (P : Params) (front : List Blk) (o : Bool) :
    fproto o (front.map (processBlock P)) = fproto o front := by
  induction front generalizing o with
  | nil => rfl
  | cons x r ih => simp [fproto, fOpen_worked, isFrag_worked, isLast_worked, isFirst_worked, ih]

theorem FragIdx.worked {front : List Blk} (P : Params) (h : FragIdx front) : FragIdx (front.map (processBlock P)) := by
  intro a ha b hb fa fb hne hi
  obtain ⟨x, hx, rfl⟩ := List.mem_map.mp ha
  obtain ⟨y, hy, rfl⟩ := List.mem_map.mp hb
  rw [isFrag_worked] at fa fb
  rw [processBlock_inode, processBlock_inode] at hi
  rw [processBlock_index, processBlock_index]
  exact h x hx y hy fa fb (fun he => hne ((processBlock_data_nil P y).mpr he)) hi

end Sqfs.BlockProc
