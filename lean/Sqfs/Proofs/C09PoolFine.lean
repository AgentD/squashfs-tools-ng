/-
Helper lemmas for the fine-granularity model (`Model/C09PoolFine.lean`): the main thread's lock-free tails commute with
every worker step (mover lemma, `stepWorker_applyTail`), mutual exclusion (`Mx`, `MxW`), the step-by-step simulation of
the fine model by the base model under the abstraction `fabs` (complete the pending tails; `fstep_sim`), and progress.
The two step functions are inverted where they are used (`fun_cases`), twice per thread kind: for what the step does to
`fbase` resp. `fabs` (a stutter or the base model's step), and for what it does to the phases (`fstepWorker_shape`,
`fstepMain_shape`: a phase `locked` appears only under the guard `mutexFree`; a worker step leaves the main thread's
pending tail as it is).  The cases come in the order of the model's text: (a) lock granted, (b) critical sections,
(c) tails.
-/
import Sqfs.Proofs.Pool
import Sqfs.Model.C09PoolFine
namespace Sqfs.Pool
open List

theorem fgetNextWork_eq (fs : FState) (i : Nat) :
    ∃ q w, fgetNextWork fs i = { fs with queue := q, fw := fs.fw.set i w } ∧ w.isLocked = false := by
  fun_cases fgetNextWork fs i <;> exact ⟨_, _, rfl, rfl⟩

theorem fdeqCrit_eq (cfg : Cfg) (fs : FState) :
    ∃ d n m, fdeqCrit cfg fs = { fs with done := d, nextDeq := n, fm := m } ∧ m.isLocked = false := by
  have g : ∃ m, fdeqGiveUp cfg fs = { fs with fm := m } ∧ m.isLocked = false := by
    fun_cases fdeqGiveUp cfg fs <;> exact ⟨_, rfl, rfl⟩
  obtain ⟨m, e, hm⟩ := g
  fun_cases fdeqCrit cfg fs
  · exact ⟨_, _, m, e, hm⟩
  · exact ⟨_, _, _, rfl, rfl⟩
  · exact ⟨_, _, m, e, hm⟩

theorem fsubmitCrit_frame (fs : FState) (d : Nat) :
    (fsubmitCrit fs d).fw = fs.fw.map wakeFW ∧ (fsubmitCrit fs d).fm = .unlocked (.submit fs.status) := by
  unfold fsubmitCrit; dsimp only; split <;> exact ⟨rfl, rfl⟩

theorem fmainTail_frame (fs : FState) (t : MTail) :
    (fmainTail fs t).fw = fs.fw ∧ (fmainTail fs t).fm.isLocked = false := by
  cases t with
  | deq o => cases o <;> exact ⟨rfl, rfl⟩
  | destroy => refine ⟨rfl, ?_⟩; simp only [fmainTail]; split <;> rfl
  | _ => exact ⟨rfl, rfl⟩

theorem getNextWork_privUpd (f1 f2 : Nat → Nat) (l1 : List Nat) (l2 : List Ret) (s : State) (i : Nat) :
    getNextWork (privUpd f1 f2 l1 l2 s) i = privUpd f1 f2 l1 l2 (getNextWork s i) := by
  unfold getNextWork privUpd
  dsimp only
  split
  · rfl
  · split <;> rfl

theorem stepWorker_privUpd (cfg : Cfg) (f1 f2 : Nat → Nat) (l1 : List Nat) (l2 : List Ret) (s : State) (i : Nat)
    (spur : Bool) :
    stepWorker cfg (privUpd f1 f2 l1 l2 s) i spur = (stepWorker cfg s i spur).map (privUpd f1 f2 l1 l2) := by
  unfold stepWorker
  have hw : (privUpd f1 f2 l1 l2 s).workers = s.workers := rfl
  rw [hw]
  split
  · rfl
  · split
    · rfl
    · simp only [Option.map_some, getNextWork_privUpd]
  · split
    · simp only [Option.map_some, getNextWork_privUpd]
    · rfl
  · split <;> rfl
  · split
    · rfl
    · simp only [Option.map_some, ← getNextWork_privUpd]; rfl
  · rfl

theorem stepWorker_applyTail (cfg : Cfg) (n : Nat) (m : FM) (s : State) (i : Nat) (spur : Bool) :
    stepWorker cfg (applyTail n m s) i spur = (stepWorker cfg s i spur).map (applyTail n m) := by
  unfold applyTail
  split
  case h_6 => cases stepWorker cfg s i spur <;> rfl
  all_goals exact stepWorker_privUpd ..

/-- mutual exclusion, as far as the refinement needs it: while the main thread holds the mutex no worker does -/
def Mx (fs : FState) : Prop := fs.fm.isLocked = true → ∀ (j : Nat) (w : FW), fs.fw[j]? = some w → w.isLocked = false

theorem fbase_workers_get {fs : FState} {i : Nat} {w : FW} (h : fs.fw[i]? = some w) :
    (fbase fs).workers[i]? = some (absW w) :=
  getElem?_map.trans (congrArg (Option.map absW) h)

theorem fbase_main (fs : FState) : (fbase fs).main = absM fs.fw.length fs.fm := rfl

theorem fbase_set (fs : FState) (i : Nat) (w : FW) :
    fbase { fs with fw := fs.fw.set i w } = { fbase fs with workers := (fbase fs).workers.set i (absW w) } := by
  simp [fbase, List.map_set]

theorem fbase_fgetNextWork (fs : FState) (i : Nat) : fbase (fgetNextWork fs i) = getNextWork (fbase fs) i := by
  by_cases hs : fs.status ≠ 0
  · have hs' : (fbase fs).status ≠ 0 := hs
    simp only [fgetNextWork, getNextWork, if_pos hs, if_pos hs']
    rw [fbase_set]; rfl
  · have hs' : ¬ (fbase fs).status ≠ 0 := hs
    cases hq : fs.queue with
    | nil =>
      have hq' : (fbase fs).queue = [] := hq
      simp only [fgetNextWork, getNextWork, if_neg hs, if_neg hs', hq, hq']
      simp [fbase, List.map_set, absW, hq]
    | cons it q =>
      have hq' : (fbase fs).queue = it :: q := hq
      simp only [fgetNextWork, getNextWork, if_neg hs, if_neg hs', hq, hq']
      simp [fbase, List.map_set, absW]

theorem wakeFM_spec (n : Nat) (m : FM) :
    (wakeFM m).isLocked = m.isLocked ∧ applyTail n (wakeFM m) = applyTail n m ∧
    (m.isLocked = false → absM n (wakeFM m) = wakeMain (absM n m)) := by
  cases m with
  | «at» pc => cases pc <;> exact ⟨rfl, rfl, fun _ => rfl⟩
  | locked l => exact ⟨rfl, rfl, nofun⟩
  | unlocked t =>
    refine ⟨rfl, rfl, fun _ => ?_⟩
    cases t with
    | destroy => simp only [wakeFM, absM]; split <;> rfl
    | _ => rfl

theorem fbase_set_same (fs : FState) (i : Nat) (w w' : FW) (hi : fs.fw[i]? = some w) (he : absW w' = absW w) :
    fbase { fs with fw := fs.fw.set i w' } = fbase fs := by
  obtain ⟨l₁, l₂, e, e'⟩ := set_split (absW w') (he ▸ fbase_workers_get hi)
  rw [fbase_set, e', ← e]

/-- stated on `fbase`, not on `fabs`: a worker step leaves the main thread's pending tail as it is (`fstepWorker_shape`),
and `fstep_sim` carries the tail across the base-model step by `stepWorker_applyTail` -/
theorem fbase_stepWorker (cfg : Cfg) {fs fs' : FState} (i : Nat) (spur : Bool) (hmx : Mx fs)
    (h : fstepWorker cfg fs i spur = some fs') :
    fbase fs' = fbase fs ∨ ∃ spur', stepWorker cfg (fbase fs) i spur' = some (fbase fs') := by
  revert h
  fun_cases fstepWorker cfg fs i spur <;> intro h <;> cases h
  -- (a) the lock is granted at `start`, `waitQ sig`, `finishing it rc`: the base program counter stays where it is
  next hi _ => exact .inl (fbase_set_same fs i _ _ hi rfl)
  next sig hi _ => exact .inl (fbase_set_same fs i _ _ hi rfl)
  next it rc hi _ => exact .inl (fbase_set_same fs i _ _ hi rfl)
  -- the callback (lock-free): `working it → finishing it rc`, the base model's `run`
  next it hi _ =>
    refine .inr ⟨false, (stepWorker_iff.2 (.run it (fbase_workers_get hi))).trans (congrArg some ?_)⟩
    simp [fbase, List.map_set, absW]
  -- (b) critical section after a callback, `store_completed` then `get_next_work_item`: the base model's `store`
  next it rc hi _ =>
    have hml : fs.fm.isLocked = false := by
      cases hm : fs.fm.isLocked with
      | false => rfl
      | true => cases hmx hm i _ hi
    refine .inr ⟨false, (stepWorker_iff.2 (.store it rc (fbase_workers_get hi))).trans (congrArg some ?_)⟩
    rw [fbase_fgetNextWork]
    refine (getNextWork_set_self (stored (fbase fs) i it rc) (fbase fs).workers i .start).trans ?_
    simp only [stored, fbase, (wakeFM_spec fs.fw.length fs.fm).2.2 hml]
    rfl
  -- (b) critical section from `start` / `waitQ sig`, `get_next_work_item`: the base model's `next`
  next l hnf hi _ =>
    refine .inr ?_
    rw [fbase_fgetNextWork]
    cases l with
    | start => exact ⟨false, stepWorker_iff.2 (.next _ _ (fbase_workers_get hi) (.inl ⟨rfl, rfl⟩))⟩
    | waitQ sig => exact ⟨!sig, stepWorker_iff.2 (.next _ _ (fbase_workers_get hi) (.inr (by rw [Bool.not_not]; rfl)))⟩
    | finishing it rc => exact absurd rfl (hnf it rc)
  -- (c) tails, thread exit and callback entry: `absW` has made the move already
  next hi _ => exact .inl (fbase_set_same fs i _ _ hi rfl)
  next it hi _ => exact .inl (fbase_set_same fs i _ _ hi rfl)

theorem wakeFW_isLocked (w : FW) : (wakeFW w).isLocked = w.isLocked := by
  cases w with
  | «at» pc => cases pc <;> rfl
  | locked l => rfl
  | unlocked o => rfl

theorem absW_wakeFW (w : FW) (h : w.isLocked = false) : absW (wakeFW w) = wakeW (absW w) := by
  cases w with
  | «at» pc => cases pc <;> rfl
  | locked l => cases h
  | unlocked o => cases o <;> rfl

theorem map_absW_wakeFW (fw : List FW) (h : ∀ (j : Nat) (w : FW), fw[j]? = some w → w.isLocked = false) :
    (fw.map wakeFW).map absW = wakeAll (fw.map absW) := by
  unfold wakeAll
  rw [List.map_map, List.map_map]
  apply List.map_congr_left
  intro w hw
  obtain ⟨j, hj⟩ := List.getElem?_of_mem hw
  exact absW_wakeFW w (h j w hj)

theorem fabs_of_at (fs : FState) (pc : MPc) (h : fs.fm = .at pc) : fabs fs = fbase fs := by
  simp [fabs, h, applyTail]

theorem fabs_of_locked (fs : FState) (l : MLk) (h : fs.fm = .locked l) : fabs fs = fbase fs := by
  simp [fabs, h, applyTail]

theorem fabs_fsubmitCrit (fs : FState) (d : Nat)
    (hnl : ∀ (j : Nat) (w : FW), fs.fw[j]? = some w → w.isLocked = false) :
    fabs (fsubmitCrit fs d) = submitBody (fbase fs) d := by
  have hw := map_absW_wakeFW fs.fw hnl
  by_cases h0 : fs.status = 0 <;>
    simp [fabs, fsubmitCrit, submitBody, applyTail, privUpd, fbase, absM, h0, hw]

theorem fabs_fdeqGiveUp (cfg : Cfg) (fs : FState) : fabs (fdeqGiveUp cfg fs) = deqWaitOrNull cfg (fbase fs) := by
  unfold deqWaitOrNull fdeqGiveUp
  have hst : (fbase fs).status = fs.status := rfl
  rw [hst]
  split
  · simp [fabs, applyTail, privUpd, fbase, absM]
  · simp [fabs, applyTail, fbase, absM]

theorem fabs_fdeqCrit (cfg : Cfg) (fs : FState) : fabs (fdeqCrit cfg fs) = deqTry cfg (fbase fs) := by
  cases hd : fs.done with
  | nil =>
    have hd' : (fbase fs).done = [] := hd
    simp only [fdeqCrit, deqTry, hd, hd']
    exact fabs_fdeqGiveUp cfg fs
  | cons it r =>
    have hd' : (fbase fs).done = it :: r := hd
    have hn : (fbase fs).nextDeq = fs.nextDeq := rfl
    simp only [fdeqCrit, deqTry, hd, hd', hn]
    split
    · simp [fabs, applyTail, privUpd, fbase, absM, deqReturn]
    · exact fabs_fdeqGiveUp cfg fs

theorem fabs_fmainTail (fs : FState) (t : MTail) (h : fs.fm = .unlocked t) : fabs (fmainTail fs t) = fabs fs := by
  cases t with
  | submit st => simp [fabs, fmainTail, applyTail, privUpd, fbase, absM, h]
  | deq o => cases o <;> simp [fabs, fmainTail, applyTail, privUpd, fbase, absM, h]
  | status st => simp [fabs, fmainTail, applyTail, privUpd, fbase, absM, h]
  | destroy =>
    by_cases hn : fs.fw.length = 0 <;> simp [fabs, fmainTail, applyTail, privUpd, fbase, absM, h, hn]

theorem fabs_stepMain (cfg : Cfg) {fs fs' : FState} (c : MChoice) (hmx : Mx fs)
    (h : fstepMain cfg fs c = some fs') :
    fabs fs' = fabs fs ∨ ∃ c', stepMain cfg (fabs fs) c' = some (fabs fs') := by
  have hmain : ∀ pc, fs.fm = .at pc → (fbase fs).main = pc := fun pc h => by rw [fbase_main, h]; rfl
  -- a lock-free move between two blocking points is the base model's move
  have atat : ∀ {pc pc' : MPc} {c : MChoice} {g : FState}, fs.fm = .at pc → g.fm = .at pc' →
      MainStep cfg (fbase fs) c (fbase g) → fabs g = fabs fs ∨ ∃ c', stepMain cfg (fabs fs) c' = some (fabs g) :=
    fun hm hg hstep => .inr ⟨_, by rw [fabs_of_at fs _ hm, fabs_of_at _ _ hg]; exact stepMain_iff.2 hstep⟩
  -- the lock is granted: a stutter
  have lock : ∀ l : MLk, fs.fm = .at l.pc → fabs { fs with fm := .locked l } = fabs fs := fun l hm => by
    rw [fabs_of_locked _ l rfl, fabs_of_at fs _ hm]
    simp only [fbase, hm, absM]
  -- the critical section of `dequeue`, entered from `l.pc`
  have deq : ∀ (l : MLk) (spur : Bool), fs.fm = .locked l → (l.pc = .deqLock ∧ spur = false ∨ l.pc = .deqWait (!spur)) →
      fabs (fdeqCrit cfg fs) = fabs fs ∨ ∃ c', stepMain cfg (fabs fs) c' = some (fabs (fdeqCrit cfg fs)) :=
    fun l spur hm hl => by
      refine .inr ⟨.cont spur, ?_⟩
      rw [fabs_fdeqCrit, fabs_of_locked fs _ hm]
      exact stepMain_iff.2 (.deq spur (by rw [fbase_main, hm]; exact hl))
  revert h
  fun_cases fstepMain cfg fs c <;> intro h <;> cases h
  -- lock-free prefix of a call, from `idle`: `submit`; `dequeue` (empty pool, fast path, slow path); `get_status`; `destroy`
  next d hm => exact atat hm rfl (.callSubmit d (hmain _ hm))
  next hm h0 => exact atat hm hm (.deqEmpty (hmain _ hm) h0)
  next hm h0 it r hsd =>
    refine .inr ⟨.call .dequeue, ?_⟩
    rw [fabs_of_at fs _ hm]
    refine (stepMain_iff.2 (.deqFast it r (hmain _ hm) h0 hsd)).trans (congrArg some ?_)
    simp only [fabs, fbase, hm, applyTail, absM, deqReturn]
  next hm h0 hsd => exact atat hm rfl (.deqSlow (hmain _ hm) h0 hsd)
  next hm => exact atat hm rfl (.callStatus (hmain _ hm))
  next hm => exact atat hm rfl (.callDestroy (hmain _ hm))
  -- (a) the lock is granted at `submitLock d`, `deqLock`, `deqWait sig`, `statusLock`, `destroyLock`: a stutter
  next d hm _ => exact .inl (lock (.submit d) hm)
  next hm _ => exact .inl (lock .deq hm)
  next sig spur hm _ => exact .inl (lock (.deqWait sig) hm)
  next hm _ => exact .inl (lock .status hm)
  next hm _ => exact .inl (lock .destroy hm)
  -- (b) critical section of `submit`: with its tail, the base model's `submit`
  next d hm =>
    refine .inr ⟨.cont false, ?_⟩
    rw [fabs_fsubmitCrit fs d (hmx (by rw [hm]; rfl)), fabs_of_locked fs _ hm]
    exact stepMain_iff.2 (.submit d (by rw [fbase_main, hm]; rfl))
  -- (b) critical section of `dequeue`, entered from `deqLock` / from `deqWait sig`: the base model's `deq`
  next hm => exact deq .deq false hm (.inl ⟨rfl, rfl⟩)
  next sig hm => exact deq (.deqWait sig) (!sig) hm (.inr (by rw [Bool.not_not]; rfl))
  -- (b) critical section of `get_status`
  next hm =>
    refine .inr ⟨.cont false, ?_⟩
    rw [fabs_of_locked fs _ hm]
    simp [stepMain, fabs, applyTail, privUpd, fbase, hm, absM, MLk.pc]
  -- (b) critical section of `destroy`
  next hm =>
    have hw := map_absW_wakeFW fs.fw (hmx (by rw [hm]; rfl))
    refine .inr ⟨.cont false, ?_⟩
    rw [fabs_of_locked fs _ hm]
    by_cases hn : fs.fw.length = 0 <;> simp [stepMain, fabs, applyTail, privUpd, fbase, hm, absM, MLk.pc, hw, hn]
  -- (c) the tail: `fabs` has run it already
  next t hm => exact .inl (fabs_fmainTail fs t hm)
  -- `pthread_join`, not the last / the last worker
  next j hm hex hlt =>
    exact atat hm rfl (.joinNext j (hmain _ hm) (fbase_workers_get hex) (by rw [fbase, length_map]; exact hlt))
  next j hm hex hlt =>
    exact atat hm rfl (.joinLast j (hmain _ hm) (fbase_workers_get hex) (by rw [fbase, length_map]; exact hlt))

theorem mutexFree_spec (fs : FState) (h : mutexFree fs = true) :
    fs.fm.isLocked = false ∧ ∀ (j : Nat) (w : FW), fs.fw[j]? = some w → w.isLocked = false := by
  simp only [mutexFree, Bool.and_eq_true, Bool.not_eq_true', List.all_eq_true] at h
  exact ⟨h.1, fun j w hj => h.2 w (List.mem_of_getElem? hj)⟩

theorem fstepWorker_shape (cfg : Cfg) {fs fs' : FState} (i : Nat) (spur : Bool)
    (h : fstepWorker cfg fs i spur = some fs') :
    (fs'.fm = fs.fm ∨ fs'.fm = wakeFM fs.fm) ∧
    ∃ w', fs'.fw = fs.fw.set i w' ∧ (w'.isLocked = true → mutexFree fs = true) := by
  have gn : ∀ g : FState, (fgetNextWork g i).fm = g.fm ∧
      ∃ w', (fgetNextWork g i).fw = g.fw.set i w' ∧ (w'.isLocked = true → mutexFree fs = true) := fun g => by
    obtain ⟨q, w, e, hw⟩ := fgetNextWork_eq g i
    rw [e]; exact ⟨rfl, w, rfl, fun hl => nomatch hw.symm.trans hl⟩
  revert h
  fun_cases fstepWorker cfg fs i spur <;> intro h <;> cases h
  -- (a) the lock is granted at `start`, `waitQ sig`, `finishing it rc`: the guard holds `mutexFree`
  next _ hg => exact ⟨.inl rfl, _, rfl, fun _ => (Bool.and_eq_true_iff.1 hg).2⟩
  next sig _ hg => exact ⟨.inl rfl, _, rfl, fun _ => (Bool.and_eq_true_iff.1 hg).2⟩
  next it rc _ hg => exact ⟨.inl rfl, _, rfl, fun _ => (Bool.and_eq_true_iff.1 hg).2⟩
  -- the callback
  next it _ _ => exact ⟨.inl rfl, _, rfl, nofun⟩
  -- (b) critical sections, after a callback and from `start` / `waitQ`: they end unlocked or waiting
  next it rc _ _ => exact ⟨.inr (gn _).1, (gn _).2⟩
  next l _ _ _ => exact ⟨.inl (gn _).1, (gn _).2⟩
  -- (c) tails
  next _ _ => exact ⟨.inl rfl, _, rfl, nofun⟩
  next it _ _ => exact ⟨.inl rfl, _, rfl, nofun⟩

theorem fstepMain_shape (cfg : Cfg) {fs fs' : FState} (c : MChoice) (h : fstepMain cfg fs c = some fs') :
    (fs'.fw = fs.fw ∨ fs'.fw = fs.fw.map wakeFW) ∧ (fs'.fm.isLocked = true → mutexFree fs = true ∧ fs'.fw = fs.fw) := by
  have crit : ∀ g : FState, fdeqCrit cfg fs = g → (g.fw = fs.fw ∨ g.fw = fs.fw.map wakeFW) ∧
      (g.fm.isLocked = true → mutexFree fs = true ∧ g.fw = fs.fw) := fun g hg => by
    obtain ⟨_, _, m, e, hm⟩ := fdeqCrit_eq cfg fs
    rw [← hg, e]; exact ⟨.inl rfl, fun hl => nomatch hm.symm.trans hl⟩
  revert h
  fun_cases fstepMain cfg fs c <;> intro h <;> cases h
  -- lock-free prefix of a call, from `idle`: `submit`; `dequeue` (empty pool, fast path, slow path); `get_status`; `destroy`
  next d _ => exact ⟨.inl rfl, nofun⟩
  next hm _ => exact ⟨.inl rfl, fun hl => by rw [hm] at hl; cases hl⟩
  next hm _ it r _ => exact ⟨.inl rfl, fun hl => by rw [hm] at hl; cases hl⟩
  next _ _ _ => exact ⟨.inl rfl, nofun⟩
  next _ => exact ⟨.inl rfl, nofun⟩
  next _ => exact ⟨.inl rfl, nofun⟩
  -- (a) the lock is granted at `submitLock d`, `deqLock`, `deqWait sig`, `statusLock`, `destroyLock`: the guard holds `mutexFree`
  next d _ hfree => exact ⟨.inl rfl, fun _ => ⟨hfree, rfl⟩⟩
  next _ hfree => exact ⟨.inl rfl, fun _ => ⟨hfree, rfl⟩⟩
  next sig spur _ hg => exact ⟨.inl rfl, fun _ => ⟨(Bool.and_eq_true_iff.1 hg).2, rfl⟩⟩
  next _ hfree => exact ⟨.inl rfl, fun _ => ⟨hfree, rfl⟩⟩
  next _ hfree => exact ⟨.inl rfl, fun _ => ⟨hfree, rfl⟩⟩
  -- (b) critical sections of `submit`, `dequeue` (from `deqLock`, from `deqWait sig`), `get_status`, `destroy`: they end unlocked or waiting
  next d _ =>
    obtain ⟨e1, e2⟩ := fsubmitCrit_frame fs d
    exact ⟨.inr e1, fun hl => by rw [e2] at hl; cases hl⟩
  next _ => exact crit _ rfl
  next sig _ => exact crit _ rfl
  next _ => exact ⟨.inl rfl, nofun⟩
  next _ => exact ⟨.inr rfl, nofun⟩
  -- (c) the tail
  next t _ =>
    obtain ⟨e1, e2⟩ := fmainTail_frame fs t
    exact ⟨.inl e1, fun hl => nomatch e2.symm.trans hl⟩
  -- `pthread_join`, not the last / the last worker
  next j _ _ _ => exact ⟨.inl rfl, nofun⟩
  next j _ _ _ => exact ⟨.inl rfl, nofun⟩

theorem mx_step (cfg : Cfg) {fs fs' : FState} (c : Choice) (hmx : Mx fs) (hs : fstep cfg fs c = some fs') : Mx fs' := by
  cases c with
  | main mc =>
    intro hl j w hj
    obtain ⟨hfree, hfw⟩ := (fstepMain_shape cfg mc hs).2 hl
    rw [hfw] at hj
    exact (mutexFree_spec fs hfree).2 j w hj
  | worker i spur =>
    obtain ⟨hfm, w', hfw, hw'⟩ := fstepWorker_shape cfg i spur hs
    intro hl j w hj
    have hl : fs.fm.isLocked = true := by
      rcases hfm with e | e <;> rw [e] at hl
      · exact hl
      · exact (wakeFM_spec 0 fs.fm).1 ▸ hl
    rw [hfw] at hj
    rcases getElem?_set_cases hj with ⟨_, hwe⟩ | ⟨_, hj'⟩
    · subst hwe
      cases hwl : w.isLocked with
      | false => rfl
      | true =>
        have := (mutexFree_spec fs (hw' hwl)).1
        rw [hl] at this; cases this
    · exact hmx hl j w hj'

theorem mx_init (n : Nat) : Mx (finit n) := nofun

theorem mx_reachable {cfg : Cfg} {n : Nat} {fs : FState} (hr : FReachable cfg n fs) : Mx fs := by
  induction hr with
  | init => exact mx_init n
  | step c _ hs ih => exact mx_step cfg c ih hs

/-- two workers never hold the mutex together -/
def MxW (fs : FState) : Prop :=
  ∀ (j k : Nat) (w w' : FW), fs.fw[j]? = some w → fs.fw[k]? = some w' → w.isLocked = true → w'.isLocked = true → j = k

theorem mxw_step (cfg : Cfg) {fs fs' : FState} (c : Choice) (hmx : MxW fs) (hs : fstep cfg fs c = some fs') :
    MxW fs' := by
  cases c with
  | main mc =>
    intro j k w w' hj hk hw hw'
    rcases (fstepMain_shape cfg mc hs).1 with e | e
    · rw [e] at hj hk; exact hmx j k w w' hj hk hw hw'
    · rw [e, List.getElem?_map] at hj hk
      obtain ⟨v, hj0, rfl⟩ := Option.map_eq_some_iff.1 hj
      obtain ⟨v', hk0, rfl⟩ := Option.map_eq_some_iff.1 hk
      rw [wakeFW_isLocked] at hw hw'
      exact hmx j k v v' hj0 hk0 hw hw'
  | worker i spur =>
    obtain ⟨_, w0, hfw, hw0⟩ := fstepWorker_shape cfg i spur hs
    intro j k w w' hj hk hw hw'
    rw [hfw] at hj hk
    rcases getElem?_set_cases hj with ⟨hji, hwe⟩ | ⟨hji, hj'⟩
    · subst hwe
      rcases getElem?_set_cases hk with ⟨hki, _⟩ | ⟨_, hk'⟩
      · rw [← hji, ← hki]
      · have := (mutexFree_spec fs (hw0 hw)).2 k w' hk'
        rw [hw'] at this; cases this
    · rcases getElem?_set_cases hk with ⟨_, hwe⟩ | ⟨_, hk'⟩
      · subst hwe
        have := (mutexFree_spec fs (hw0 hw')).2 j w hj'
        rw [hw] at this; cases this
      · exact hmx j k w w' hj' hk' hw hw'

theorem mxw_init (n : Nat) : MxW (finit n) := by
  intro j k w w' hj _ hw _
  cases (eq_of_mem_replicate (mem_of_getElem? hj) : w = .at .start)
  cases hw

theorem mxw_reachable {cfg : Cfg} {n : Nat} {fs : FState} (hr : FReachable cfg n fs) : MxW fs := by
  induction hr with
  | init => exact mxw_init n
  | step c _ hs ih => exact mxw_step cfg c ih hs

theorem fstep_sim (cfg : Cfg) {fs fs' : FState} (c : Choice) (hmx : Mx fs) (hs : fstep cfg fs c = some fs') :
    fabs fs' = fabs fs ∨ ∃ c', step cfg (fabs fs) c' = some (fabs fs') := by
  cases c with
  | main mc => exact (fabs_stepMain cfg mc hmx hs).imp_right fun ⟨c', h⟩ => ⟨.main c', h⟩
  | worker i spur =>
    -- the pending tail is the one of `fs`: a worker step does a broadcast to the main thread at most
    have e : fabs fs' = applyTail fs.fw.length fs.fm (fbase fs') := by
      obtain ⟨hfm, w', hfw, _⟩ := fstepWorker_shape cfg i spur hs
      unfold fabs
      rw [hfw, length_set]
      rcases hfm with e | e <;> rw [e]
      rw [(wakeFM_spec _ fs.fm).2.1]
    rw [e]
    exact (fbase_stepWorker cfg i spur hmx hs).imp (congrArg _) fun ⟨spur', hb⟩ =>
      ⟨.worker i spur', (stepWorker_applyTail ..).trans (congrArg _ hb)⟩

theorem fabs_finit (n : Nat) : fabs (finit n) = init n := by
  simp [fabs, finit, applyTail, fbase, absM, init, absW]

theorem fabs_history (fs : FState) :
    (fabs fs).submitted = fs.submitted ∧ (fabs fs).started = fs.started ∧ fs.returned <+: (fabs fs).returned := by
  unfold fabs applyTail
  split <;> exact ⟨rfl, rfl, by first | exact prefix_append _ _ | exact prefix_rfl⟩

/-- the main thread is inside an API call -/
def fmainInCall (fs : FState) : Bool :=
  match fs.fm with
  | .at .idle => false
  | .at .finished => false
  | _ => true

theorem all_at_or_past (fs : FState) :
    (∀ (j : Nat) (w : FW), fs.fw[j]? = some w → ∃ pc, w = .at pc) ∨
    ∃ (j : Nat) (w : FW), fs.fw[j]? = some w ∧ ∀ pc, w ≠ .at pc := by
  by_cases h : ∃ (j : Nat) (w : FW), fs.fw[j]? = some w ∧ ∀ pc, w ≠ .at pc
  · exact .inr h
  · refine .inl fun j w hj => ?_
    cases w with
    | «at» pc => exact ⟨pc, rfl⟩
    | locked l => exact (h ⟨j, _, hj, nofun⟩).elim
    | unlocked o => exact (h ⟨j, _, hj, nofun⟩).elim

/-- a thread that is past a lock acquisition or past an unlock can always go on -/
theorem fw_phase_steps (cfg : Cfg) (fs : FState) (i : Nat) (w : FW) (hi : fs.fw[i]? = some w)
    (hw : ∀ pc, w ≠ .at pc) : ∃ fs', fstepWorker cfg fs i false = some fs' := by
  unfold fstepWorker
  rw [hi]
  cases w with
  | «at» pc => exact absurd rfl (hw pc)
  | locked l => cases l <;> exact ⟨_, rfl⟩
  | unlocked o => cases o <;> exact ⟨_, rfl⟩

theorem fm_phase_steps (cfg : Cfg) (fs : FState) (h : ∀ pc, fs.fm ≠ .at pc) :
    ∃ fs', fstepMain cfg fs (.cont false) = some fs' := by
  unfold fstepMain
  cases hm : fs.fm with
  | «at» pc => exact absurd hm (h pc)
  | unlocked t => exact ⟨_, rfl⟩
  | locked l => cases l <;> exact ⟨_, rfl⟩

theorem mutexFree_of_at {fs : FState} {pc : MPc} (hfm : fs.fm = .at pc)
    (hall : ∀ (j : Nat) (w : FW), fs.fw[j]? = some w → ∃ pc', w = FW.at pc') : mutexFree fs = true := by
  simp only [mutexFree, hfm, FM.isLocked, Bool.not_false, Bool.true_and, List.all_eq_true]
  intro w hw
  obtain ⟨j, hj⟩ := List.getElem?_of_mem hw
  obtain ⟨pc', rfl⟩ := hall j w hj
  rfl

theorem fstepWorker_isSome_at (cfg : Cfg) {fs : FState} {pc : MPc} (hfm : fs.fm = .at pc)
    (hall : ∀ (j : Nat) (w : FW), fs.fw[j]? = some w → ∃ pc', w = FW.at pc') (i : Nat) :
    (fstepWorker cfg fs i false).isSome = workerEnabled (fbase fs) i := by
  have hfree := mutexFree_of_at hfm hall
  unfold fstepWorker workerEnabled
  cases hi : fs.fw[i]? with
  | none => rw [fbase, getElem?_map, hi]; rfl
  | some w =>
    obtain ⟨pc', rfl⟩ := hall i w hi
    have hb : (fbase fs).workers[i]? = some pc' := fbase_workers_get hi
    rw [hb]
    cases pc' with
    | waitQ sig => cases sig <;> simp [hfree]
    | _ => simp [hfree]

theorem fstepMain_isSome_at (cfg : Cfg) {fs : FState} {pc : MPc} (hfm : fs.fm = .at pc)
    (hall : ∀ (j : Nat) (w : FW), fs.fw[j]? = some w → ∃ pc', w = FW.at pc') :
    (fstepMain cfg fs (.cont false)).isSome = mainContEnabled (fbase fs) := by
  have hfree := mutexFree_of_at hfm hall
  unfold fstepMain mainContEnabled
  rw [hfm, fbase_main, hfm]
  cases pc with
  | idle | finished => rfl
  | submitLock | deqLock | statusLock | destroyLock => exact congrArg Option.isSome (if_pos hfree)
  | deqWait sig =>
    cases sig
    · rfl
    · exact congrArg Option.isSome (if_pos (Bool.and_eq_true_iff.2 ⟨rfl, hfree⟩))
  | join i =>
    -- `absW` also maps an unlocked worker on its way out to `exited`; here every worker stands at a blocking point
    have hb : (fbase fs).workers[i]? = some .exited ↔ fs.fw[i]? = some (.at .exited) := by
      rw [fbase, getElem?_map]
      cases hw : fs.fw[i]? with
      | none => exact ⟨nofun, nofun⟩
      | some w =>
        obtain ⟨pc', rfl⟩ := hall i w hw
        exact ⟨fun h => congrArg (some ∘ FW.at) (Option.some.inj h), fun h => congrArg (Option.map absW) h⟩
    show (if fs.fw[i]? = some (.at .exited) then _ else none).isSome = ((fbase fs).workers[i]? == some .exited)
    by_cases h : fs.fw[i]? = some (.at .exited)
    · rw [if_pos h, hb.2 h]; split <;> rfl
    · rw [if_neg h]; exact (beq_eq_false_iff_ne.2 (mt hb.1 h)).symm

/-- **Progress at fine granularity reduces to the base model**, in any fine state: a thread that holds the mutex or is in a
lock-free tail can go on; and when every thread stands at a blocking point of the base model, the steps enabled there are those
of the base state. -/
theorem fine_progress (cfg : Cfg) (fs : FState) (hcall : fmainInCall fs = true)
    (hbase : ∀ pc, fs.fm = .at pc → isDeadlock (fbase fs) = false) :
    ∃ c fs', c.strict = true ∧ (∀ op, c ≠ .main (.call op)) ∧ fstep cfg fs c = some fs' := by
  by_cases hm : ∃ pc, fs.fm = .at pc
  · obtain ⟨pc, hfm⟩ := hm
    rcases all_at_or_past fs with hall | ⟨j, w, hj, hw⟩
    · have hic : mainInCall (fbase fs) = true := by
        rw [fmainInCall, hfm] at hcall
        rw [mainInCall, fbase_main, hfm]
        cases pc <;> first | exact hcall | rfl
      rcases isDeadlock_eq_false.1 (hbase pc hfm) hic with h | ⟨i, h⟩
      · rw [← fstepMain_isSome_at cfg hfm hall] at h
        obtain ⟨fs', h⟩ := Option.isSome_iff_exists.1 h
        exact ⟨.main (.cont false), fs', rfl, nofun, h⟩
      · rw [← fstepWorker_isSome_at cfg hfm hall] at h
        obtain ⟨fs', h⟩ := Option.isSome_iff_exists.1 h
        exact ⟨.worker i false, fs', rfl, nofun, h⟩
    · obtain ⟨fs', h⟩ := fw_phase_steps cfg fs j w hj hw
      exact ⟨.worker j false, fs', rfl, nofun, h⟩
  · obtain ⟨fs', h⟩ := fm_phase_steps cfg fs fun pc he => hm ⟨pc, he⟩
    exact ⟨.main (.cont false), fs', rfl, nofun, h⟩

end Sqfs.Pool
