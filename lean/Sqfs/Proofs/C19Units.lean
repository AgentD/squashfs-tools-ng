import Sqfs.Model.C19Units
import Sqfs.Proofs.ObjKinds
/-! Lemmas about the unit models of the generic containers (C19): answers depend on the used part of an array only; `str_table_copy`
leaves the table's state as it is. -/
namespace Sqfs.C19U
open Sqfs.Obj.Kinds Sqfs.Rb

theorem arrStep_data (sz : Nat) (t u : ByteArr) (h : t.data = u.data) (op : ArrOp) :
    (arrStep sz t op).2 = (arrStep sz u op).2 ∧ (arrStep sz t op).1.data = (arrStep sz u op).1.data := by
  cases op with
  | app x => simp [arrStep, Arr.append_data, h]
  | get i => simp [arrStep, h]
  | set i x =>
    have hs := Arr.set_data t u h i (fit sz x)
    simp only [arrStep]
    cases ht : t.set i (fit sz x) <;> cases hu : u.set i (fit sz x) <;> simp_all
  | used => simp [arrStep, h]

theorem arrRun_data (sz : Nat) (ops : List ArrOp) : ∀ (t u : ByteArr), t.data = u.data → arrRun sz t ops = arrRun sz u ops := by
  induction ops with
  | nil => intros; rfl
  | cons op ops ih =>
    intro t u h
    have := arrStep_data sz t u h op
    simp only [arrRun]
    rw [this.1, ih _ _ this.2]

theorem strCopy_eq (t : StrTable) : strCopy t = t := by
  unfold strCopy
  induction t with
  | nil => rfl
  | cons b r ih => simp [List.map, ih]

end Sqfs.C19U
