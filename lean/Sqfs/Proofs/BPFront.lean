/-
C02: what the front end submits.  `FrontInv` is an invariant of the pure front end
(`feBegin` / the steps of `feAppendGo` / `feEnd` of Spec/BlockProcSpec.lean): every submitted block is well formed,
the `FIRST`/`LAST` protocol of `write_data_block` is respected, a fragment is only submitted between files, and a
fragment's index differs from the index of every stored data block of its file.  The file also holds what every later module of
C02 needs first: the codec's contract `CodecOk`, `PoolOk`, and `sproto`, the same protocol for the numbered stream.
-/
import Sqfs.Proofs.BPBasic
import Sqfs.Proofs.ListFacts
namespace Sqfs.BlockProc
open Sqfs.Consts
open Sqfs.BlockWriter (hasFlag)

/-- the contract assumed of the block codec (trusted base) -/
structure CodecOk (c : Codec) : Prop where
  roundTrip : ∀ x z, c.cmp x = some z → c.unc z = some x
  smaller : ∀ x z, c.cmp x = some z → z.length < x.length

def isFB (b : Blk) : Bool := hasFlag b.flags blkFragmentBlock
def isFrag (b : Blk) : Bool := hasFlag b.flags blkIsFragment
def isFirst (b : Blk) : Bool := hasFlag b.flags blkFirstBlock
def isLast (b : Blk) : Bool := hasFlag b.flags blkLastBlock

/-- the pool holds exactly `items` (worked), in FIFO order, and no worker has failed -/
structure PoolOk (p : PoolSt) (items : List Blk) : Prop where
  status : p.ser.status = 0
  queue : p.ser.queue.map (fun id => p.table[id]?) = items.map some

/-- a block handed to `enqueue_block` by the front end (`n` = number of inodes, `B` = block size) -/
structure ItemOK (B n : Nat) (x : Blk) : Prop where
  notFB : hasFlag x.flags blkFragmentBlock = false
  notManual : hasFlag x.flags blkFlagManualSubmission = false
  ino : ∃ id, x.inode = some id ∧ id < n
  size : x.data.length ≤ B
  frag : hasFlag x.flags blkIsFragment = true → x.data ≠ []

/-- `write_data_block` protocol state after a block (`nextOpened` of Proofs/BlockWriter.lean) -/
def bOpen (o : Bool) (b : Blk) : Bool := if isLast b then false else o || isFirst b

/-- the front end's view: fragments never reach the writer -/
def fOpen (o : Bool) (x : Blk) : Bool := if isFrag x then o else bOpen o x

/-- every `LAST` is preceded by a `FIRST`, and a fragment is only submitted between files -/
def fproto : Bool → List Blk → Bool
  | _, [] => true
  | o, x :: r => (if isFrag x then !o else (!isLast x || o || isFirst x)) && fproto (fOpen o x) r

/-- the same for the numbered stream: a fragment block is only written between files -/
def sproto : Bool → List Blk → Bool
  | _, [] => true
  | o, b :: r => (if isFB b then !o else (!isLast b || o || isFirst b)) && sproto (bOpen o b) r

/-- a fragment's block index differs from the index of every stored data block of the same file -/
def FragIdx (front : List Blk) : Prop :=
  ∀ x ∈ front, ∀ y ∈ front, isFrag x = true → isFrag y = false → y.data ≠ [] → x.inode = y.inode → x.index ≠ y.index

/-- flag words the front end keeps in `blk_flags` / in the open block: nothing private, neither `LAST` nor `IS_FRAGMENT` -/
structure FlagsClean (fl : Nat) : Prop where
  notFB : hasFlag fl blkFragmentBlock = false
  notManual : hasFlag fl blkFlagManualSubmission = false
  notLast : hasFlag fl blkLastBlock = false
  notFrag : hasFlag fl blkIsFragment = false

/-- the index every stored block of the current file stays below -/
def Front.bound (f : Front) : Nat :=
  match f.blkCurrent with
  | some c => c.index
  | none => f.blkIndex

/-- inside the file with inode `id`, the newest of the `n` inodes (`last`): what it has submitted are data blocks, the non-empty ones with indices
below `f.bound` (`mine`: the index its tail end will get is new, which is `FragIdx`); while `FIRST` stands in `blk_flags` nothing of it has
been opened or submitted (`fresh`); afterwards the protocol of `write_data_block` is open, unless the file's first block is still
the open one (`opened`) -/
structure FrontBusy (B : Nat) (f : Front) (front : List Blk) (n id : Nat) : Prop where
  ino : f.inode = some id
  last : id + 1 = n
  flags : FlagsClean f.blkFlags
  mine : ∀ x ∈ front, x.inode = some id → isFrag x = false ∧ (x.data = [] ∨ x.index < f.bound)
  fresh : hasFlag f.blkFlags blkFirstBlock = true → f.blkCurrent = none ∧ front.foldl fOpen false = false
  opened : hasFlag f.blkFlags blkFirstBlock = false →
    front.foldl fOpen false = (match f.blkCurrent with
                               | none => true
                               | some c => !isFirst c)
  cur : ∀ c, f.blkCurrent = some c → c.inode = some id ∧ c.index + 1 = f.blkIndex ∧ c.data.length ≤ B ∧ FlagsClean c.flags

structure FrontInv (B : Nat) (f : Front) (front : List Blk) (n : Nat) : Prop where
  items : ∀ x ∈ front, ItemOK B n x
  proto : fproto false front = true
  fragIdx : FragIdx front
  idle : f.beginCalled = false → f.inode = none ∧ f.blkCurrent = none ∧ front.foldl fOpen false = false
  busy : f.beginCalled = true → ∃ id, FrontBusy B f front n id

theorem ItemOK.mono {B n m : Nat} {x : Blk} (h : ItemOK B n x) (hm : n ≤ m) : ItemOK B m x :=
  ⟨h.notFB, h.notManual, by obtain ⟨id, h1, h2⟩ := h.ino; exact ⟨id, h1, by omega⟩, h.size, h.frag⟩

theorem fproto_append (o : Bool) (a b : List Blk) :
    fproto o (a ++ b) = (fproto o a && fproto (a.foldl fOpen o) b) := by
  induction a generalizing o with
  | nil => simp [fproto]
  | cons x a ih => simp [fproto, ih, Bool.and_assoc]

theorem fproto_prefix {o : Bool} {a b : List Blk} (h : fproto o (a ++ b) = true) : fproto o a = true := by
  rw [fproto_append, Bool.and_eq_true] at h; exact h.1

theorem sproto_append (o : Bool) (a b : List Blk) :
    sproto o (a ++ b) = (sproto o a && sproto (a.foldl bOpen o) b) := by
  induction a generalizing o with
  | nil => simp [sproto]
  | cons x a ih => simp [sproto, ih, Bool.and_assoc]

theorem FragIdx.snoc {front : List Blk} (h : FragIdx front) (y : Blk)
    (h1 : isFrag y = true → ∀ z ∈ front, isFrag z = false → z.data ≠ [] → y.inode = z.inode → y.index ≠ z.index)
    (h2 : isFrag y = false → y.data ≠ [] → ∀ x ∈ front, isFrag x = true → x.inode = y.inode → x.index ≠ y.index) :
    FragIdx (front ++ [y]) := by
  intro a ha b hb fa fb hne hi
  rw [List.mem_append, List.mem_singleton] at ha hb
  rcases ha with ha | ha <;> rcases hb with hb | hb
  · exact h a ha b hb fa fb hne hi
  · subst hb; exact h2 fb hne a ha fa hi
  · subst ha; exact h1 fa b hb fb hne hi
  · subst ha; subst hb; rw [fa] at fb; cases fb

theorem FragIdx.snoc_empty {front : List Blk} (h : FragIdx front) (y : Blk) (hf : isFrag y = false) (he : y.data = []) :
    FragIdx (front ++ [y]) :=
  h.snoc y (fun hy => by rw [hf] at hy; cases hy) (fun _ hne => absurd he hne)

/-- what `FrontInv` says of the submitted blocks alone (its first three fields, and the protocol state `o`); it grows block by
block, and between two files it is all `FrontInv` says -/
structure Acc (B n : Nat) (front : List Blk) (o : Bool) : Prop where
  items : ∀ x ∈ front, ItemOK B n x
  proto : fproto false front = true
  fragIdx : FragIdx front
  opened : front.foldl fOpen false = o

theorem Acc.snoc {B n : Nat} {front : List Blk} {o : Bool} (a : Acc B n front o) (y : Blk) (hy : ItemOK B n y)
    (hp : (if isFrag y then !o else (!isLast y || o || isFirst y)) = true)
    (h1 : isFrag y = true → ∀ z ∈ front, isFrag z = false → z.data ≠ [] → y.inode = z.inode → y.index ≠ z.index)
    (h2 : isFrag y = false → y.data ≠ [] → ∀ x ∈ front, isFrag x = true → x.inode = y.inode → x.index ≠ y.index) :
    Acc B n (front ++ [y]) (fOpen o y) := by
  refine ⟨List.forall_mem_snoc a.items hy, ?_, a.fragIdx.snoc y h1 h2, by rw [foldl_snoc, a.opened]⟩
  rw [fproto_append, a.proto, a.opened]
  simp only [fproto, hp, Bool.and_self]

section
variable {B : Nat} {f : Front} {front : List Blk} {n : Nat}

theorem FrontBusy.notFirst {id : Nat} (h : FrontBusy B f front n id) {c : Blk} (hc : f.blkCurrent = some c) :
    hasFlag f.blkFlags blkFirstBlock = false := by
  cases hf : hasFlag f.blkFlags blkFirstBlock with
  | false => rfl
  | true => have := (h.fresh hf).1; rw [hc] at this; cases this

theorem FrontBusy.mine_cur {id : Nat} (h : FrontBusy B f front n id) {c : Blk} (hc : f.blkCurrent = some c) :
    ∀ x ∈ front, x.inode = some id → isFrag x = false ∧ (x.data = [] ∨ x.index < c.index) := by
  have := h.mine
  rwa [Front.bound, hc] at this

theorem FrontBusy.opened_none {id : Nat} (h : FrontBusy B f front n id) (hc : f.blkCurrent = none) :
    front.foldl fOpen false = !hasFlag f.blkFlags blkFirstBlock := by
  cases hf : hasFlag f.blkFlags blkFirstBlock with
  | true => exact (h.fresh hf).2
  | false => have := h.opened hf; rwa [hc] at this

theorem FrontBusy.opened_cur {id : Nat} (h : FrontBusy B f front n id) {c : Blk} (hc : f.blkCurrent = some c) :
    front.foldl fOpen false = !isFirst c := by
  have := h.opened (h.notFirst hc); rwa [hc] at this

/-- `hfl` is the test `begin_file` applies to the flag word it is given -/
theorem user_hasFlag {fl : Nat} (hfl : fl &&& blkUserSettable = fl) {c : Nat} (hc : blkUserSettable &&& c = 0) :
    hasFlag fl c = false := by
  unfold hasFlag; rw [← hfl, Nat.and_assoc, hc, Nat.and_zero]; rfl

/-- `c` is a flag the library keeps to itself (outside the user-settable ones): of `fl ||| x` only `x` can carry it -/
theorem hasFlag_lib {fl : Nat} (hfl : fl &&& blkUserSettable = fl) (x : Nat) {c : Nat} (hc : blkUserSettable &&& c = 0) :
    hasFlag (fl ||| x) c = hasFlag x c := by
  rw [hasFlag_or, user_hasFlag hfl hc, Bool.false_or]

theorem FrontInv.begin (h : FrontInv B f front n)
    (hb : f.beginCalled = false) (flags : Nat) (hfl : flags &&& blkUserSettable = flags) :
    FrontInv B (feBegin f n flags) front (n + 1) := by
  obtain ⟨hi, hc, ho⟩ := h.idle hb
  refine ⟨fun x hx => (h.items x hx).mono (Nat.le_succ n), h.proto, h.fragIdx, fun hb' => by simp [feBegin] at hb', fun _ => ⟨n, ?_⟩⟩
  have hfirst : hasFlag (flags ||| blkFirstBlock) blkFirstBlock = true := hasFlag_lib hfl _ rfl
  refine ⟨rfl, rfl, ⟨hasFlag_lib hfl _ rfl, hasFlag_lib hfl _ rfl, hasFlag_lib hfl _ rfl, hasFlag_lib hfl _ rfl⟩, ?_,
    fun _ => ⟨hc, ho⟩, fun hf => ?_, fun c hcur => ?_⟩
  · intro x hx hxi
    obtain ⟨id, h1, h2⟩ := (h.items x hx).ino
    rw [h1] at hxi; cases hxi; omega
  · simp only [feBegin] at hf; rw [hfirst] at hf; cases hf
  · simp only [feBegin] at hcur; rw [hc] at hcur; cases hcur

/-- `get_new_block` in `append` -/
theorem FrontInv.newBlock (h : FrontInv B f front n)
    (hb : f.beginCalled = true) (hc : f.blkCurrent = none) :
    FrontInv B { f with blkCurrent := some { flags := f.blkFlags, inode := f.inode, index := f.blkIndex },
                        blkIndex := f.blkIndex + 1, blkFlags := clearFlag f.blkFlags blkFirstBlock } front n := by
  obtain ⟨id, hbz⟩ := h.busy hb
  refine ⟨h.items, h.proto, h.fragIdx, fun hb' => by simp [hb] at hb', fun _ => ⟨id, ?_⟩⟩
  have hcl : FlagsClean (clearFlag f.blkFlags blkFirstBlock) :=
    ⟨(hasFlag_and _ _ _).trans hbz.flags.notFB, (hasFlag_and _ _ _).trans hbz.flags.notManual,
     (hasFlag_and _ _ _).trans hbz.flags.notLast, (hasFlag_and _ _ _).trans hbz.flags.notFrag⟩
  have hnf : hasFlag (clearFlag f.blkFlags blkFirstBlock) blkFirstBlock = false := (hasFlag_and _ _ _).trans (hasFlag_zero _)
  refine ⟨hbz.ino, hbz.last, hcl, ?_, fun hf => ?_, fun _ => ?_, fun c hcur => ?_⟩
  · have := hbz.mine
    rwa [Front.bound, hc] at this
  · rw [show hasFlag _ blkFirstBlock = false from hnf] at hf; cases hf
  · exact hbz.opened_none hc
  · simp only [Option.some.injEq] at hcur
    subst hcur
    exact ⟨hbz.ino, rfl, by simp, hbz.flags⟩

theorem FrontInv.fill (h : FrontInv B f front n)
    (hb : f.beginCalled = true) (c : Blk) (hc : f.blkCurrent = some c) (d : Bytes) (hd : c.data.length + d.length ≤ B) :
    FrontInv B { f with blkCurrent := some { c with data := c.data ++ d } } front n := by
  obtain ⟨id, hbz⟩ := h.busy hb
  refine ⟨h.items, h.proto, h.fragIdx, fun hb' => by simp [hb] at hb', fun _ => ⟨id, ?_⟩⟩
  refine ⟨hbz.ino, hbz.last, hbz.flags, ?_, fun hf => ?_, fun hf => ?_, fun c' hcur => ?_⟩
  · exact hbz.mine_cur (c := c) hc
  · rw [hbz.notFirst hc] at hf; cases hf
  · simpa [isFirst] using hbz.opened_cur hc
  · simp only [Option.some.injEq] at hcur
    subst hcur
    obtain ⟨a, b, _, e⟩ := hbz.cur c hc
    exact ⟨a, b, by simpa using hd, e⟩

theorem FrontInv.emit (h : FrontInv B f front n)
    (hb : f.beginCalled = true) (c : Blk) (hc : f.blkCurrent = some c) :
    FrontInv B { f with blkCurrent := none } (front ++ [c]) n := by
  obtain ⟨id, hbz⟩ := h.busy hb
  obtain ⟨ci, cidx, csz, cfl⟩ := hbz.cur c hc
  have hcf : isFrag c = false := cfl.notFrag
  have hcl : isLast c = false := cfl.notLast
  have hnofirst := hbz.notFirst hc
  have hmine := hbz.mine_cur hc
  have ho := hbz.opened_cur hc
  have a := Acc.snoc ⟨h.items, h.proto, h.fragIdx, ho⟩ c
    ⟨cfl.notFB, cfl.notManual, ⟨id, ci, by have := hbz.last; omega⟩, csz, fun hf => by rw [cfl.notFrag] at hf; cases hf⟩
    (by simp [hcf, hcl]) (fun hy => absurd (hcf.symm.trans hy) Bool.false_ne_true)
    (fun _ _ x hx fx hxi => absurd ((hmine x hx (hxi.trans ci)).1.symm.trans fx) Bool.false_ne_true)
  refine ⟨a.items, a.proto, a.fragIdx, fun hb' => by simp [hb] at hb', fun _ => ⟨id, hbz.ino, hbz.last, hbz.flags, ?_,
    fun hf => (by rw [hnofirst] at hf; cases hf), fun _ => ?_, fun c' hcur => (by simp at hcur)⟩⟩
  · show ∀ x ∈ front ++ [c], x.inode = some id → isFrag x = false ∧ (x.data = [] ∨ x.index < f.blkIndex)
    refine List.forall_mem_append.mpr ⟨fun x hx hxi => ?_, List.forall_mem_singleton.mpr fun _ => ⟨hcf, Or.inr (by omega)⟩⟩
    exact ⟨(hmine x hx hxi).1, (hmine x hx hxi).2.imp_right (fun h => by omega)⟩
  · rw [a.opened]
    simp only [fOpen, hcf, bOpen, hcl]
    cases isFirst c <;> rfl

end

theorem FrontInv.appendGo {B n : Nat} (fuel : Nat) (f : Front) (data : Bytes) :
    ∀ (r : Front × List Blk) (front : List Blk), feAppendGo B fuel f data = some r → FrontInv B f front n →
      f.beginCalled = true → FrontInv B r.1 (front ++ r.2) n := by
  fun_induction feAppendGo B fuel f data with
  -- the loop does not answer: no fuel; no data and no open block; the call after a full block does not answer
  | case1 | case2 | case6 => intro r front h; cases h
  | case3 _ f _ _ cur hcur _ => intro r front h hi hb; cases h; exact hi.emit hb cur hcur
  | case4 => intro r front h hi _; cases h; simpa using hi
  | case5 _ f _ _ hcur ih => intro r front h hi hb; exact ih r front h (hi.newBlock hb hcur) hb
  | case7 _ f _ _ cur hcur _ _ r' hr ih =>
    intro r front h hi hb; cases h
    simpa [List.append_assoc] using ih r' (front ++ [cur]) hr (hi.emit hb cur hcur) hb
  | case8 _ f data _ cur hcur _ hdiff _ ih =>
    intro r front h hi hb
    exact ih r front h (hi.fill hb cur hcur _ (by simp only [List.length_take]; omega)) hb

theorem FlagsClean.or {fl : Nat} (h : FlagsClean fl) (x : Nat) :
    hasFlag (fl ||| x) blkFragmentBlock = hasFlag x blkFragmentBlock ∧
    hasFlag (fl ||| x) blkFlagManualSubmission = hasFlag x blkFlagManualSubmission ∧
    hasFlag (fl ||| x) blkIsFragment = hasFlag x blkIsFragment ∧ hasFlag (fl ||| x) blkLastBlock = hasFlag x blkLastBlock := by
  simp only [hasFlag_or, h.notFB, h.notManual, h.notFrag, h.notLast, Bool.false_or, and_self]

theorem Acc.sentinel {B n id : Nat} {front : List Blk} {f : Front} (a : Acc B n front true) (hi : f.inode = some id) (hid : id < n)
    (hfl : FlagsClean f.blkFlags) : Acc B n (front ++ [feSentinel f]) false := by
  obtain ⟨s1, s2, s3, s4⟩ := hfl.or blkLastBlock
  have hfr : isFrag (feSentinel f) = false := s3
  have hla : isLast (feSentinel f) = true := s4
  have := a.snoc (feSentinel f) ⟨s1, s2, ⟨id, hi, hid⟩, Nat.zero_le _, fun h => absurd (hfr.symm.trans h) Bool.false_ne_true⟩
    (by simp [hfr]) (fun h => absurd (hfr.symm.trans h) Bool.false_ne_true) (fun _ hne => absurd rfl hne)
  simpa [fOpen, hfr, bOpen, hla] using this

/-- `end_file` closes the protocol with the sentinel if a block is open -/
theorem Acc.close {B n id : Nat} {front : List Blk} {f : Front} {o : Bool} (a : Acc B n front o) (hi : f.inode = some id) (hid : id < n)
    (hfl : FlagsClean f.blkFlags) : Acc B n (front ++ if o then [feSentinel f] else []) false := by
  cases o with
  | false => simpa using a
  | true => exact a.sentinel hi hid hfl

theorem FrontInv.endFile {B : Nat} {f : Front} {front : List Blk} {n : Nat} (h : FrontInv B f front n)
    (hb : f.beginCalled = true) (hne : ∀ c, f.blkCurrent = some c → c.data ≠ []) :
    FrontInv B (feEnd f) (front ++ feEndItems f) n := by
  obtain ⟨id, hbz⟩ := h.busy hb
  have hid : id < n := by have := hbz.last; omega
  suffices hs : Acc B n (front ++ feEndItems f) false by
    exact ⟨hs.items, hs.proto, hs.fragIdx, fun _ => ⟨rfl, rfl, hs.opened⟩, fun hb' => by simp [feEnd] at hb'⟩
  have a0 : Acc B n front (front.foldl fOpen false) := ⟨h.items, h.proto, h.fragIdx, rfl⟩
  -- except under `DONT_FRAGMENT`, the sentinel is submitted exactly when the protocol is open
  have a1 := a0.close hbz.ino hid hbz.flags
  unfold feEndItems
  cases hc : f.blkCurrent with
  | none =>
    simp only
    rw [← hbz.opened_none hc]; exact a1
  | some c =>
    simp only
    obtain ⟨ci, cidx, csz, cfl⟩ := hbz.cur c hc
    have ho := hbz.opened_cur hc
    have hmine := hbz.mine_cur hc
    by_cases hdf : hasFlag f.blkFlags blkDontFragment = true
    · -- the tail end as a data block with `LAST`
      simp only [hdf, if_true]
      obtain ⟨s1, s2, s3, s4⟩ := cfl.or blkLastBlock
      let y : Blk := { c with flags := c.flags ||| blkLastBlock }
      have hfr : isFrag y = false := s3
      have hla : isLast y = true := s4
      have hfi : isFirst y = isFirst c := by show hasFlag (c.flags ||| blkLastBlock) blkFirstBlock = _; rw [hasFlag_or]; exact Bool.or_false _
      have := a0.snoc y ⟨s1, s2, ⟨id, ci, hid⟩, csz, fun h => absurd (hfr.symm.trans h) Bool.false_ne_true⟩
        (by rw [ho, hfi]; simp only [hfr, Bool.false_eq_true, if_false]; cases isFirst c <;> simp)
        (fun h => absurd (hfr.symm.trans h) Bool.false_ne_true)
        (fun _ _ x hx fx hxi => absurd ((hmine x hx (hxi.trans ci)).1.symm.trans fx) Bool.false_ne_true)
      simpa [fOpen, hfr, bOpen, hla] using this
    · -- the tail end as a fragment, behind the sentinel if there is one
      simp only [hdf, Bool.false_eq_true, if_false]
      obtain ⟨s1, s2, s3, _⟩ := cfl.or blkIsFragment
      let y : Blk := { c with flags := c.flags ||| blkIsFragment }
      have hfr : isFrag y = true := s3
      have := a1.snoc y ⟨s1, s2, ⟨id, ci, hid⟩, csz, fun _ => hne c hc⟩ (by simp [hfr])
        (fun _ z hz _ hzne hzi => by
          rcases List.mem_append.mp hz with hz | hz
          · rcases (hmine z hz (hzi.symm.trans ci)).2 with h0 | h0
            · exact absurd h0 hzne
            · show c.index ≠ z.index; omega
          · split at hz
            · obtain rfl := List.mem_singleton.mp hz; exact absurd rfl hzne
            · cases hz)
        (fun h => absurd (h.symm.trans hfr) Bool.false_ne_true)
      rw [show (!hasFlag c.flags blkFirstBlock) = front.foldl fOpen false from ho.symm, ← List.append_assoc]
      simpa [fOpen, hfr] using this

end Sqfs.BlockProc
