/-
The toy RLE codec of the C08/C02 harnesses meets the codec contract (`Codec.RoundTrip`): what it compressed, it
expands to the original.  So the fragment theorems, which hold for every codec with that contract, apply to
the codec the correspondence runs use — it is not merely assumed of it.
-/
import Sqfs.Model.ToyCodec
namespace Sqfs.ToyCodec
open Sqfs.FragDedup

theorem take_takeWhile_all {α} (p : α → Bool) (t : List α) (n : Nat) (h : n ≤ (t.takeWhile p).length) :
    ∀ x ∈ t.take n, p x = true := by
  obtain ⟨rest, hr⟩ := List.takeWhile_prefix p (l := t)
  have : t.take n = (t.takeWhile p).take n := by
    conv => lhs; rw [← hr]
    exact List.take_append_of_le_length h
  intro x hx
  rw [this] at hx
  exact List.all_eq_true.1 List.all_takeWhile x (List.mem_of_mem_take hx)

theorem rleGo_expand (limit : Nat) : ∀ (fuel : Nat) (x : Bytes) (used : Nat), x.length ≤ fuel →
    used + x.length ≤ limit → expand limit (rleGo fuel x) used = some x := by
  intro fuel
  induction fuel with
  | zero =>
    intro x used h _
    have : x = [] := List.length_eq_zero_iff.1 (by omega)
    subst this; simp [rleGo, expand]
  | succ fuel ih =>
    intro x used hx hl
    cases x with
    | nil => simp [rleGo, expand]
    | cons b t =>
      simp only [rleGo]
      generalize hn : min (t.takeWhile (· == b)).length 254 = n
      have hn1 : n ≤ (t.takeWhile (· == b)).length := by omega
      have hn2 : n ≤ 254 := by omega
      have hnt : n ≤ t.length := Nat.le_trans hn1 (List.takeWhile_prefix _).length_le
      have htn : (UInt8.ofNat (n + 1)).toNat = n + 1 := UInt8.toNat_ofNat_of_lt' (show n + 1 < 256 by omega)
      have hne : UInt8.ofNat (n + 1) ≠ 0 := by
        intro h0
        have := congrArg UInt8.toNat h0
        rw [htn] at this; simp at this
      simp only [expand, hne, if_false, htn]
      simp only [List.length_cons] at hx hl
      rw [if_neg (by omega)]
      rw [ih (t.drop n) (used + (n + 1)) (by simp; omega) (by simp; omega)]
      simp only [Option.map_some, Option.some.injEq]
      have hall := take_takeWhile_all (· == b) t n hn1
      have htake : t.take n = List.replicate n b := by
        rw [List.eq_replicate_iff]
        refine ⟨by simp; omega, ?_⟩
        intro y hy
        have := hall y hy
        simpa using this
      rw [List.replicate_succ, List.cons_append, ← htake, List.take_append_drop]

theorem toy_roundtrip (limit : Nat) (x y : Bytes) (hx : x.length ≤ limit) (h : compress x = some y) :
    expand limit y 0 = some x := by
  unfold compress at h
  simp only [] at h
  split at h
  · cases h
    exact rleGo_expand limit x.length x 0 (Nat.le_refl _) (by omega)
  · cases h

theorem codec_roundTrip (limit : Nat) : (codec limit).RoundTrip := by
  intro x y h
  simp only [codec] at h ⊢
  split at h
  · rename_i hx
    exact toy_roundtrip limit x y hx h
  · cases h

theorem ident_roundTrip : ident.RoundTrip := by
  intro x y h; simp [ident] at h

/-- the toy compressor only answers with something strictly smaller than its input, which has at most `limit` bytes -/
theorem codec_fits (limit : Nat) : ∀ x z, (codec limit).cmp x = some z → z.length ≤ limit := by
  intro x z h
  simp only [codec] at h
  split at h
  · rename_i hx
    unfold compress at h
    simp only [] at h
    split at h
    · cases h; omega
    · cases h
  · cases h

theorem ident_fits (limit : Nat) : ∀ x z, ident.cmp x = some z → z.length ≤ limit := by
  intro x z h; cases h

end Sqfs.ToyCodec
