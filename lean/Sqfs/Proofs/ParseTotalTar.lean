/-
Helper lemmas for C07: the readers of the old GNU and the GNU 1.0 sparse map never leave their buffers and always stop.
-/
import Sqfs.Proofs.ParseTotal
namespace Sqfs.ParseTotal

theorem oldParse_safe (buf : Bytes) : ∀ cnt i acc, i + 24 * cnt ≤ buf.length →
    (oldParse buf cnt i acc).safe := by
  intro cnt
  induction cnt with
  | zero => intro i acc _; trivial
  | succ cnt ih =>
    intro i acc h
    rw [oldParse]
    refine of_get2 (by omega) (by omega) fun a b => iteInduction (fun _ => trivial) fun _ => ?_
    refine (readNumber_safe buf i 12 (by omega) (by omega)).seq (fun off => ?_) (fun _ => trivial)
    exact (readNumber_safe buf (i + 12) 12 (by omega) (by omega)).seq (fun sz => ih _ _ (by omega)) (fun _ => trivial)

theorem oldExt_safe : ∀ fuel (stream : Bytes), stream.length / 512 + 1 ≤ fuel → ∀ acc, (oldExt fuel stream acc).safe := by
  refine fuel_ind (fun stream : Bytes => stream.length / 512) fun f stream ih acc => ?_
  simp only [oldExt]
  refine iteInduction (fun _ => trivial) fun hlen => ?_
  have hblk : (stream.take 512).length = 512 := by rw [List.length_take]; omega
  refine (oldParse_safe (stream.take 512) 21 0 acc (by omega)).seq (fun (stopped, acc') => ?_) (fun _ => trivial)
  refine of_get (by omega) fun x _ => iteInduction (fun _ => ih _ ?_ _) (fun _ => trivial)
  rw [List.length_drop]; omega

theorem readGnuOldSparse_safe (hdr stream : Bytes) (hlen : hdr.length = 512) :
    (readGnuOldSparse hdr stream).safe := by
  unfold readGnuOldSparse
  refine (oldParse_safe hdr 4 386 [] (by omega)).seq (fun (stopped, acc) => ?_) (fun _ => trivial)
  exact of_get (by omega) fun x _ => iteInduction (fun _ => trivial) (fun _ => oldExt_safe _ stream (Nat.le_refl _) acc)

theorem decDigits_spec (buf : Bytes) : ∀ len i cnt v, i + len ≤ buf.length →
    (decDigits buf len i cnt v).Sat fun (c', _) => cnt ≤ c' ∧ c' ≤ cnt + len := by
  intro len
  induction len with
  | zero => intro i cnt v _; exact .ok ⟨Nat.le_refl _, Nat.le_refl _⟩
  | succ len ih =>
    intro i cnt v h
    rw [decDigits]
    refine of_get (by omega) fun c _ => iteInduction (fun _ => .ok ⟨Nat.le_refl _, by omega⟩) (fun _ =>
      iteInduction (fun _ => .fail) (fun _ => iteInduction (fun _ => .fail) (fun _ => ?_)))
    exact (ih (i + 1) (cnt + 1) _ (by omega)).mono fun ⟨c', _⟩ ⟨h1, h2⟩ => ⟨by omega, by omega⟩

/-- on a window that agrees on `[i, i+len)` and is `extra` bytes longer the digit run gets at least as far, and stops
where the short run stopped in front of its end -/
theorem decDigits_longer (buf buf' : Bytes) (extra : Nat) (len i cnt v c1 v1 c2 v2 : Nat)
    (hag : ∀ j, i ≤ j → j < i + len → buf'[j]? = buf[j]?) (hl : i + len + extra ≤ buf'.length)
    (h1 : decDigits buf len i cnt v = .ok (c1, v1)) (h2 : decDigits buf' (len + extra) i cnt v = .ok (c2, v2)) :
    c1 ≤ c2 ∧ (c1 < cnt + len → c2 = c1) := by
  revert hag hl h1 h2
  fun_induction decDigits buf len i cnt v <;> intro hag hl h1 h2
  · -- the short run is at its end: the long one only counts on
    cases h1
    have := (decDigits_spec buf' (0 + extra) _ c1 v1 (by omega)).2 (c2, v2) h2
    omega
  · cases h1
  · -- the short run stops on a byte that is no digit: the long one reads the same byte
    rename_i len i cnt v c hc hd
    cases h1
    rw [show len + 1 + extra = (len + extra) + 1 by omega] at h2
    simp only [decDigits, hag i (Nat.le_refl _) (by omega), hc, hd, if_true] at h2
    cases h2; omega
  · cases h1
  · cases h1
  · -- a digit: both runs take it
    rename_i len i cnt v c hc hd ho1 ho2 ih
    rw [show len + 1 + extra = (len + extra) + 1 by omega] at h2
    simp only [decDigits, hag i (Nat.le_refl _) (by omega), hc, hd, ho1, ho2, if_false] at h2
    have := ih (fun j h1 h2 => hag j (by omega) (by omega)) (by omega) h1 h2
    omega

theorem decode_spec (buf : Bytes) (i len : Nat) (h : i + len ≤ buf.length) :
    (decode buf i len).Sat fun (ret, _) => ret ≤ len := by
  unfold decode
  refine (decDigits_spec buf len i 0 0 h).seq (fun (cnt, v) hb => ?_) (fun _ => .fail)
  exact iteInduction (fun _ => .ok (Nat.zero_le _)) fun hz => of_get (by omega) fun c _ => iteInduction (fun _ => .ok (by omega)) (fun _ => .fail)

theorem decode_ok {buf : Bytes} {i len ret v : Nat} (h : decode buf i len = .ok (ret, v)) :
    ∃ cnt, decDigits buf len i 0 0 = .ok (cnt, v) ∧
      ((ret = 0 ∧ (cnt = 0 ∨ cnt = len)) ∨ (ret = cnt + 1 ∧ cnt ≠ 0 ∧ cnt ≠ len)) := by
  -- of the branches of `decode` only two answer `.ok`: the run stopped at once or filled the field, or a newline ends it
  revert h
  fun_cases decode buf i len <;> intro h <;> cases h
  · rename_i cnt hz hd
    exact ⟨cnt, hd, .inl ⟨rfl, hz⟩⟩
  · rename_i cnt hz _ _ _ hd
    exact ⟨cnt, hd, .inr ⟨rfl, by omega, by omega⟩⟩

theorem blit_spec {win src w : Bytes} {pos : Nat} (h : blit win pos src = some w) :
    w.length = win.length ∧ ∀ j, j < pos → w[j]? = win[j]? := by
  unfold blit at h
  split at h
  · rename_i hle
    cases h
    constructor
    · simp; omega
    · intro j hj
      rw [List.getElem?_append_left (by simp; omega), List.getElem?_append_left (by simp; omega)]
      simp [hj]
  · cases h

theorem blit_some {win src : Bytes} {pos : Nat} (h : pos + src.length ≤ win.length) : ∃ w, blit win pos src = some w := by
  unfold blit; simp [h]

/--
The refill step of `read_gnu_new_sparse` makes progress: when the number at `diff` did not end
inside the first 512 bytes and does end inside the refilled window, it ends beyond byte 512, so
`diff + ret - 512` is at least 1 (and the `int` never goes negative).
-/
theorem refill_progress {win win1 x : Bytes} {diff v1 ret2 v2 : Nat} (hlen : win.length = 1024) (hd : diff ≤ 512)
    (hb : blit win 512 x = some win1) (h1 : decode win diff (512 - diff) = .ok (0, v1))
    (h2 : decode win1 diff (1024 - diff) = .ok (ret2, v2)) (hr : ret2 ≠ 0) : 513 ≤ diff + ret2 := by
  obtain ⟨hl1, hagree⟩ := blit_spec hb
  obtain ⟨cnt1, hd1, hc1⟩ := decode_ok h1
  obtain ⟨cnt2, hd2, hc2⟩ := decode_ok h2
  -- a first run that stopped at once stops at once again (then `ret2 = 0`); one that filled `[diff, 512)` is at least repeated
  rw [show 1024 - diff = 512 - diff + 512 by omega] at hd2
  have := decDigits_longer win win1 512 (512 - diff) diff 0 0 cnt1 v1 cnt2 v2 (fun j _ h => hagree j (by omega)) (by omega) hd1 hd2
  omega

/-- the invariant of the `for` loop: the window, and one entry completed per two rounds -/
structure NewSp.Inv (s : NewSp) (idx : Nat) : Prop where
  win : s.win.length = 1024
  hi : s.diff ≤ 512
  cnt : s.ents.length = idx / 2

theorem NewSp.Inv.set {s : NewSp} {idx : Nat} (hi : s.Inv idx) {w st : Bytes} {d rs : Nat} (hw : w.length = 1024)
    (hh : d ≤ 512) : ({ s with win := w, diff := d, stream := st, recordSize := rs } : NewSp).Inv idx :=
  ⟨hw, hh, hi.cnt⟩

theorem NewSp.Inv.step {s : NewSp} {idx value : Nat} (hi : s.Inv idx) :
    NewSp.Inv (if idx % 2 = 0 then { s with pendingOff := some value }
      else { s with ents := { offset := s.pendingOff.getD 0, count := value } :: s.ents, pendingOff := none }) (idx + 1) := by
  obtain ⟨hw, hh, hc⟩ := hi
  split
  · exact ⟨hw, hh, by show s.ents.length = (idx + 1) / 2; omega⟩
  · exact ⟨hw, hh, by show s.ents.length + 1 = (idx + 1) / 2; omega⟩

theorem newLoop_spec : ∀ n idx (s : NewSp), s.Inv idx → (newLoop n idx s).Sat fun s' => s'.ents.length = (idx + n) / 2 := by
  intro n
  induction n with
  | zero => intro idx s h; exact .ok h.cnt
  | succ n ih =>
    intro idx s hinv
    -- `hinv.cnt` stays packed: with `idx / 2` among the hypotheses every `omega` below would have to deal with the division
    have hwin := hinv.win; have hhi := hinv.hi
    rw [← Nat.add_assoc, Nat.add_right_comm]
    simp only [newLoop]
    rw [if_neg (by omega : ¬ s.diff > 512)]
    refine (decode_spec s.win s.diff (512 - s.diff) (by omega)).withEq.seq (fun (ret, value) ⟨hdec, hret⟩ => ?_) (fun _ => .fail)
    refine iteInduction (fun hpos => ?_) (fun hpos => iteInduction (fun _ => .fail) (fun hrs => iteInduction (fun _ => .fail) (fun hst => ?_)))
    · exact ih (idx + 1) _ ((hinv.set (d := s.diff + ret) hwin (by omega)).step (value := value))
    -- the number runs into byte 512: read the next block behind the window, decode again, shift the window down
    obtain rfl : ret = 0 := by omega
    have htake : (s.stream.take 512).length = 512 := by rw [List.length_take]; omega
    obtain ⟨win1, hb1⟩ := blit_some (win := s.win) (src := s.stream.take 512) (pos := 512) (by omega)
    obtain ⟨hl1, _⟩ := blit_spec hb1
    simp only [hb1]
    refine (decode_spec win1 s.diff (1024 - s.diff) (by omega)).withEq.seq (fun (ret2, value2) ⟨hdec2, hret2⟩ => ?_) (fun _ => .fail)
    refine iteInduction (fun _ => .fail) (fun hr0 => ?_)
    have hsrc : ((win1.drop 512).take 512).length = 512 := by rw [List.length_take, List.length_drop]; omega
    obtain ⟨win2, hb2⟩ := blit_some (win := win1) (src := (win1.drop 512).take 512) (pos := 0) (by omega)
    obtain ⟨hl2, _⟩ := blit_spec hb2
    have hprog := refill_progress hwin hhi hb1 hdec hdec2 hr0
    simp only [hb2]
    rw [if_neg (by omega : ¬ s.diff + ret2 < 512)]
    exact ih (idx + 1) _ ((hinv.set (w := win2) (d := s.diff + ret2 - 512) (by omega) (by omega)).step (value := value2))

theorem readGnuNewSparse_spec (stream : Bytes) (recordSize : Nat) :
    (readGnuNewSparse stream recordSize).Sat fun (m, _, _) => 1 ≤ m.length ∧ m.length ≤ Sqfs.Consts.tarMaxSparseEnt := by
  unfold readGnuNewSparse
  refine iteInduction (fun _ => .fail) (fun h1 => iteInduction (fun _ => .fail) (fun h2 => ?_))
  generalize hwin0 : stream.take 512 ++ List.replicate 512 (0 : UInt8) = win0
  have hw : win0.length = 1024 := by
    rw [← hwin0, List.length_append, List.length_take, List.length_replicate]; omega
  simp only []
  refine (decode_spec win0 0 512 (by omega)).seq (fun (diff, count) hdiff => ?_) (fun _ => .fail)
  refine iteInduction (fun _ => .fail) (fun _ => iteInduction (fun _ => .fail) (fun hc => ?_))
  have hinv : (NewSp.mk win0 diff (stream.drop 512) (recordSize - 512) [] none).Inv 0 :=
    ⟨hw, hdiff, rfl⟩
  -- `2 * count` rounds make `count` entries
  refine (newLoop_spec (count * 2) 0 _ hinv).seq (fun s' hlen => .ok ?_) (fun _ => .fail)
  rw [List.length_reverse, hlen]; omega

end Sqfs.ParseTotal
