/-
The tar number codec (C04): `read_number` computes the unbounded meaning of the field or fails (`readNumber_spec`).  Each reader
loop tests its accumulator against 2^64 / base before it shifts (`shift_lt`); a negative base-256 number is read as the
complement of what the positive loop reads on the complemented bytes (`compl_shift`, `beVal_compl`).  Reading back a run of
octal digits and the output of `write_binary`; the checksum fits its six octal digits.
-/
import Sqfs.Spec.TarNumber
import Mathlib.Tactic.Ring
import Mathlib.Tactic.Linarith
namespace Sqfs.Tar

/-- The overflow guards of `read_octal` (`b = 8`, `Q = 2^61`) and `read_binary` (`b = 256`, `Q = 2^56`) test the right side. -/
theorem shift_lt {b Q U : Nat} (hU : U = b * Q) (acc : Nat) {d : Nat} (hd : d < b) : acc * b + d < U ↔ acc < Q := by
  rw [hU, Nat.mul_comm b Q, ← Nat.div_lt_iff_lt_mul (Nat.zero_lt_of_lt hd), Nat.mul_comm acc b,
    Nat.mul_add_div (Nat.zero_lt_of_lt hd), Nat.div_eq_of_lt hd, Nat.add_zero]

theorem compl_shift {B U : Nat} (hU : U = 256 * B) {n x : Nat} (hx : x < 256) (hn : n < U) :
    ((U - 1 - n) / B = 255 ↔ n < B) ∧
    (n < B → ((U - 1 - n) * 256 + x) % U = U - 1 - (n * 256 + (255 - x))) := by
  subst hU
  refine ⟨?_, fun h => ?_⟩
  · rw [Nat.div_eq_iff (by omega)]; omega
  · rw [show (256 * B - 1 - n) * 256 + x = 256 * B - 1 - (n * 256 + (255 - x)) + 256 * B * 255 by omega,
      Nat.add_mul_mod_self_left, Nat.mod_eq_of_lt (by omega)]

theorem octRun_ge (acc : Nat) (f : Bytes) : acc ≤ octRun acc f := by
  induction f generalizing acc with
  | nil => exact Nat.le_refl _
  | cons c t ih =>
    unfold octRun
    split
    · exact Nat.le_trans (by omega) (ih _)
    · exact Nat.le_refl _

theorem octLoop_spec (acc : Nat) (f : Bytes) (hacc : acc < U64) :
    octLoop acc f = if octRun acc f < U64 then some (octRun acc f) else none := by
  induction f generalizing acc with
  | nil => simp [octLoop, octRun, hacc]
  | cons c t ih =>
    unfold octLoop octRun
    by_cases hd : isOctDigit c = true
    · have hc : c.toNat - 48 < 8 := by
        simp only [isOctDigit, Bool.and_eq_true, decide_eq_true_eq] at hd; omega
      have hg : acc * 8 + (c.toNat - 48) < U64 ↔ ¬ acc > 0x1FFFFFFFFFFFFFFF :=
        (shift_lt (Q := 0x1FFFFFFFFFFFFFFF + 1) rfl acc hc).trans (Nat.lt_succ_iff.trans Nat.not_lt.symm)
      rw [if_pos hd, if_pos hd]
      by_cases hov : acc > 0x1FFFFFFFFFFFFFFF
      · rw [if_pos hov, if_neg fun h => hg.1 (Nat.lt_of_le_of_lt (octRun_ge _ t) h) hov]
      · rw [if_neg hov]; exact ih _ (hg.2 hov)
    · simp [hd, hacc]

theorem readOctal_spec (f : Bytes) :
    readOctal f = if specOctal f < U64 then some (specOctal f) else none :=
  octLoop_spec 0 _ (by decide)

theorem beVal_ge (acc : Nat) (t : Bytes) : acc * 256 ^ t.length ≤ beVal acc t := by
  induction t generalizing acc with
  | nil => simp [beVal]
  | cons b t ih =>
    simp only [beVal, List.length_cons]
    calc acc * 256 ^ (t.length + 1) = (acc * 256) * 256 ^ t.length := by ring
      _ ≤ (acc * 256 + b.toNat) * 256 ^ t.length := Nat.mul_le_mul_right _ (by omega)
      _ ≤ _ := ih _

theorem beVal_ge' (acc : Nat) (t : Bytes) : acc ≤ beVal acc t :=
  Nat.le_trans (Nat.le_mul_of_pos_right _ (Nat.pow_pos (by omega))) (beVal_ge acc t)

theorem binLoop_pos_spec (acc : Nat) (t : Bytes) (hacc : acc < U64) :
    binLoop false acc t = if beVal acc t < U64 then some (beVal acc t) else none := by
  induction t generalizing acc with
  | nil => simp [binLoop, beVal, hacc]
  | cons b t ih =>
    unfold binLoop beVal
    have hg := (shift_lt (U := U64) rfl acc b.toNat_lt).trans (Nat.div_eq_zero_iff_lt (k := 72057594037927936) (by decide)).symm
    simp only [Bool.false_eq_true, if_false]
    by_cases hov : acc / 72057594037927936 = 0
    · rw [if_neg (not_not.2 hov), Nat.mod_eq_of_lt (hg.2 hov)]; exact ih _ (hg.2 hov)
    · rw [if_pos hov, if_neg fun h => hov (hg.1 (Nat.lt_of_le_of_lt (beVal_ge' _ t) h))]

theorem binLoop_neg_spec (n : Nat) (t : Bytes) (hn : n < U64) :
    binLoop true (U64 - 1 - n) t =
      if beVal n (t.map (~~~ ·)) < U64 then some (U64 - 1 - beVal n (t.map (~~~ ·))) else none := by
  induction t generalizing n with
  | nil => simp [binLoop, beVal, hn]
  | cons x t ih =>
    unfold binLoop
    have hx : (~~~x).toNat = 255 - x.toNat := UInt8.toNat_not x
    simp only [List.map_cons, beVal, hx, if_true]
    have hc := compl_shift (B := 72057594037927936) (U := U64) rfl x.toNat_lt hn
    have hlt := shift_lt (Q := 72057594037927936) (U := U64) rfl n (Nat.lt_succ_of_le (Nat.sub_le 255 x.toNat))
    by_cases hov : n < 72057594037927936
    · rw [if_neg (not_not.2 (hc.1.2 hov)), hc.2 hov]; exact ih _ (hlt.2 hov)
    · rw [if_pos (mt hc.1.1 hov), if_neg fun h => hov (hlt.1 (Nat.lt_of_le_of_lt (beVal_ge' _ _) h))]

theorem beVal_compl (a a' : Nat) (t : Bytes) :
    beVal a t + (beVal a' (t.map (~~~ ·)) + 1) = (a + a' + 1) * 256 ^ t.length := by
  induction t generalizing a a' with
  | nil => simp only [List.map_nil, beVal, List.length_nil, Nat.pow_zero, Nat.mul_one, Nat.add_assoc]
  | cons x t ih =>
    have hx : (~~~x).toNat = 255 - x.toNat := UInt8.toNat_not x
    have := x.toNat_lt
    simp only [List.map_cons, beVal, List.length_cons, hx]
    rw [ih, Nat.pow_succ', ← Nat.mul_assoc]
    exact congrArg (· * 256 ^ t.length) (by omega)

theorem fits64_nat (V : Nat) : fits64 (V : Int) = if V < U64 then some V else none := by
  unfold fits64
  by_cases h : V < U64
  · rw [if_pos ⟨Int.natCast_nonneg V, Int.ofNat_lt.2 h⟩, if_pos h, Int.toNat_natCast]
  · rw [if_neg fun hh => h (Int.ofNat_lt.1 hh.2)]
    rw [if_neg fun hh => Int.not_lt.2 (Int.natCast_nonneg V) hh.2, if_neg h]

theorem fits64_neg (N : Nat) :
    fits64 (-((N + 1 : Nat) : Int)) = if N < 9223372036854775808 then some (U64 - 1 - N) else none := by
  unfold fits64
  have hv : (-((N + 1 : Nat) : Int) + (U64 : Int)).toNat = U64 - 1 - N := by generalize U64 = U; omega
  rw [if_neg (by omega : ¬ (0 ≤ -((N + 1 : Nat) : Int) ∧ _)), hv]
  by_cases h : N < 9223372036854775808
  · rw [if_pos h, if_pos ⟨by omega, by omega⟩]
  · rw [if_neg h, if_neg fun hh => h (by omega)]

theorem readBinary_spec (f : Bytes) : readBinary f = fits64 (specBinary f) := by
  cases f with
  | nil => simp [readBinary, specBinary, fits64, U64]
  | cons b0 t =>
    rw [readBinary, specBinary]
    by_cases h255 : b0.toNat = 255
    · rw [if_pos h255, if_pos h255]
      -- the field means `-(N + 1)`, `N` the value of the complemented digits
      have hN : (beVal 255 t : Int) + ((beVal 0 (t.map (~~~ ·)) + 1 : Nat) : Int) = 256 ^ (t.length + 1) := by
        rw [pow_succ, mul_comm]; exact_mod_cast beVal_compl 255 0 t
      have hb : binLoop true (U64 - 1) t = _ := binLoop_neg_spec 0 t (by decide)
      rw [← hN, sub_add_cancel_left, fits64_neg, hb]
      generalize beVal 0 (t.map (~~~ ·)) = N
      -- the sign bit of `U64 - 1 - N` is set exactly when `N < 2^63`
      by_cases h : N < 9223372036854775808
      · rw [if_pos (Nat.lt_trans h (by decide)), if_pos h]; exact if_neg (by simp only [U64]; omega)
      · rw [if_neg h]
        by_cases h2 : N < U64
        · rw [if_pos h2]; exact if_pos (by simp only [U64]; omega)
        · rw [if_neg h2]
    · rw [if_neg h255, if_neg h255, fits64_nat]
      by_cases hearly : t.length > 7 ∧ b0.toNat % 128 ≠ 0
      · have : U64 ≤ beVal (b0.toNat % 128) t :=
          Nat.le_trans (Nat.mul_le_mul (Nat.pos_of_ne_zero hearly.2) (Nat.pow_le_pow_right (n := 256) (by decide) hearly.1))
            (beVal_ge _ t)
        rw [if_pos hearly, if_neg (Nat.not_lt.2 this)]
      · rw [if_neg hearly]
        exact binLoop_pos_spec _ t (Nat.lt_trans (Nat.mod_lt _ (by omega)) (by decide))

theorem readNumber_spec (f : Bytes) : readNumber f = specNumber f := by
  cases f with
  | nil => rfl
  | cons b0 t =>
    show (if b0.toNat ≥ 128 then readBinary (b0 :: t) else readOctal (b0 :: t)) =
      (if b0.toNat ≥ 128 then fits64 (specBinary (b0 :: t))
       else if specOctal (b0 :: t) < U64 then some (specOctal (b0 :: t)) else none)
    rw [readBinary_spec, readOctal_spec]

theorem octDigit_toNat (k : Nat) (hk : k < 8) : (UInt8.ofNat (48 + k)).toNat = 48 + k := by
  rw [UInt8.toNat_ofNat']; omega

theorem octDigit_isDigit (k : Nat) (hk : k < 8) : isOctDigit (UInt8.ofNat (48 + k)) = true := by
  simp only [isOctDigit, octDigit_toNat k hk, Bool.and_eq_true, decide_eq_true_eq]; omega

theorem octDigit_notSpace (k : Nat) (hk : k < 8) : isSpace (UInt8.ofNat (48 + k)) = false := by
  simp only [isSpace, octDigit_toNat k hk, Bool.or_eq_false_iff, Bool.and_eq_false_imp,
    decide_eq_false_iff_not, decide_eq_true_eq]; omega

theorem mod_pow_succ' (b v n : Nat) : v % b ^ (n + 1) = (v / b ^ n % b) * b ^ n + v % b ^ n := by
  rw [Nat.mod_pow_succ]; ring

theorem octRun_octDigits (n acc v : Nat) (rest : Bytes) :
    octRun acc (octDigits n v ++ rest) = octRun (acc * 8 ^ n + v % 8 ^ n) rest := by
  induction n generalizing acc with
  | zero => simp [octDigits, Nat.mod_one]
  | succ n ih =>
    have hk : v / 8 ^ n % 8 < 8 := Nat.mod_lt _ (by omega)
    simp only [octDigits, List.cons_append, octRun, octDigit_isDigit _ hk, if_true,
      octDigit_toNat _ hk]
    rw [ih, mod_pow_succ']
    congr 1
    have : 48 + v / 8 ^ n % 8 - 48 = v / 8 ^ n % 8 := by omega
    rw [this]; ring

theorem beVal_beBytes (n acc v : Nat) (rest : Bytes) :
    beVal acc (beBytes n v ++ rest) = beVal (acc * 256 ^ n + v % 256 ^ n) rest := by
  induction n generalizing acc with
  | zero => simp [beBytes, Nat.mod_one]
  | succ n ih =>
    have hk : v / 256 ^ n % 256 < 256 := Nat.mod_lt _ (by omega)
    simp only [beBytes, List.cons_append, beVal]
    rw [ih, mod_pow_succ', UInt8.toNat_ofNat', Nat.mod_eq_of_lt hk]
    congr 1
    ring

theorem beBytes_length (n v : Nat) : (beBytes n v).length = n := by
  induction n with
  | zero => rfl
  | succ n ih => simp [beBytes, ih]

theorem octDigits_length (n v : Nat) : (octDigits n v).length = n := by
  induction n with
  | zero => rfl
  | succ n ih => simp [octDigits, ih]

theorem octRun_stop (acc : Nat) (rest : Bytes)
    (hrest : rest = [] ∨ ∃ c t, rest = c :: t ∧ isOctDigit c = false) : octRun acc rest = acc := by
  rcases hrest with h | ⟨c, t, h, hc⟩
  · subst h; rfl
  · subst h; simp [octRun, hc]

theorem readNumber_octDigits (n v : Nat) (rest : Bytes)
    (hrest : rest = [] ∨ ∃ c t, rest = c :: t ∧ isOctDigit c = false)
    (hv : v < 8 ^ (n + 1)) (hv64 : v < U64) :
    readNumber (octDigits (n + 1) v ++ rest) = some v := by
  rw [readNumber_spec]
  have hk : v / 8 ^ n % 8 < 8 := Nat.mod_lt _ (by omega)
  have hd : octDigits (n + 1) v ++ rest = UInt8.ofNat (48 + v / 8 ^ n % 8) :: (octDigits n v ++ rest) := rfl
  have hval : specOctal (octDigits (n + 1) v ++ rest) = v := by
    unfold specOctal
    have : skipSpaces (octDigits (n + 1) v ++ rest) = octDigits (n + 1) v ++ rest := by
      rw [hd]; unfold skipSpaces; rw [octDigit_notSpace _ hk]; rfl
    rw [this, octRun_octDigits, octRun_stop _ _ hrest, Nat.mod_eq_of_lt hv]; omega
  rw [hd] at hval ⊢
  unfold specNumber
  have h128 : ¬ (UInt8.ofNat (48 + v / 8 ^ n % 8)).toNat ≥ 128 := by
    rw [octDigit_toNat _ hk]; omega
  simp only [h128, if_false, hval, hv64, if_true]

theorem or128 : ∀ k : Fin 127, (UInt8.ofNat k.val ||| 128).toNat = k.val + 128 := by decide

theorem readNumber_writeBinary (n v : Nat) (hk : v / 256 ^ n % 256 < 127) (hv : v < 256 ^ (n + 1))
    (hv64 : v < U64) : readNumber (writeBinary v (n + 1)) = some v := by
  rw [readNumber_spec]
  have hb := or128 ⟨_, hk⟩
  simp only at hb
  have hw : writeBinary v (n + 1) = (UInt8.ofNat (v / 256 ^ n % 256) ||| 128) :: beBytes n v := rfl
  rw [hw]
  have h128 : (UInt8.ofNat (v / 256 ^ n % 256) ||| 128).toNat ≥ 128 := by omega
  have h255 : ¬ (UInt8.ofNat (v / 256 ^ n % 256) ||| 128).toNat = 255 := by omega
  have hm : (v / 256 ^ n % 256 + 128) % 128 = v / 256 ^ n % 256 := by omega
  have hbe := beVal_beBytes n (v / 256 ^ n % 256) v []
  simp only [List.append_nil, beVal] at hbe
  show (if (UInt8.ofNat (v / 256 ^ n % 256) ||| 128).toNat ≥ 128 then
      fits64 (if (UInt8.ofNat (v / 256 ^ n % 256) ||| 128).toNat = 255 then _ else
        (beVal ((UInt8.ofNat (v / 256 ^ n % 256) ||| 128).toNat % 128) (beBytes n v) : Int)) else _) = _
  rw [if_pos h128, if_neg h255, hb, hm, hbe, ← mod_pow_succ', Nat.mod_eq_of_lt hv, fits64_nat, if_pos hv64]

theorem sumBytes_le (l : Bytes) : sumBytes l ≤ 255 * l.length := by
  induction l with
  | nil => simp [sumBytes]
  | cons b t ih =>
    have := b.toNat_lt
    simp only [sumBytes, List.length_cons]; omega

theorem computeChecksum_lt (h : Bytes) (hl : h.length = 512) : computeChecksum h < 8 ^ 6 := by
  unfold computeChecksum
  have h1 := sumBytes_le (h.take 148)
  have h2 := sumBytes_le (h.drop 156)
  simp only [List.length_take, List.length_drop, hl] at h1 h2
  norm_num at h1 h2 ⊢
  omega

end Sqfs.Tar
