/-
Structural facts about the fragment model (`Model/FragDedup.lean`) that the composition with the block writer
(`Proofs/C08Stream.lean`) needs, beyond the invariant of `Proofs/FragDedup.lean`; they hold of every state and every codec.
* `GoodF`: a fragment block's flags are `FRAGMENT_BLOCK` or `FRAGMENT_BLOCK | DONT_COMPRESS`, nothing else;
* `GoodS`: a fragment block never exceeds the block size;
* `Quiet`: what fragment processing and closing do to the blocks that are there: one that is not open is left as it is
  (`Keep`), none is put on disk and none on disk is changed (`NoNewWritten`), the flags stay good.
The model changes the block list in two ways, `modify` at the open index and appending an open block (`Quiet.modify`,
`Quiet.append`); there is one lemma `…_quiet` for each of `closeOpen`, `overflow`, `place`, `processFragment`.  `blockWritten`
changes the place of one block in flight.
-/
import Sqfs.Proofs.FragDedup
import Sqfs.Proofs.FragFlags
import Sqfs.Proofs.ListFacts
namespace Sqfs.FragDedup

@[reducible] def GoodF (st : State) : Prop := ∀ (i : Nat) (b : FragBlock), st.blocks[i]? = some b → FlagOk b.flags
@[reducible] def GoodS (B : Nat) (st : State) : Prop :=
  ∀ (i : Nat) (b : FragBlock), st.blocks[i]? = some b → b.data.length ≤ B

@[reducible] def NoNewWritten (st st' : State) : Prop :=
  ∀ (i : Nat) (b' : FragBlock), st'.blocks[i]? = some b' → (∃ s c, b'.place = Place.written s c) → st.blocks[i]? = some b'

@[reducible] def Keep (st st' : State) : Prop :=
  ∀ (i : Nat) (b : FragBlock), st.blocks[i]? = some b → b.place ≠ Place.opened → st'.blocks[i]? = some b

/-- a step from `st` to `st'` that puts no block on disk.  Each lemma `…_quiet` states beside it that `GoodS` is kept and,
last, where the block that was open has gone: it is still the open one, or in flight (handed to the pool). -/
structure Quiet (st st' : State) : Prop where
  keep  : Keep st st'
  noNew : NoNewWritten st st'
  goodF : GoodF st → GoodF st'

theorem Quiet.of_eq {a b : State} (h : b.blocks = a.blocks) : Quiet a b :=
  ⟨fun _ _ hx _ => by rw [h]; exact hx, fun _ _ hx _ => by rw [← h]; exact hx,
    fun hg i x hx => hg i x (by rw [← h]; exact hx)⟩

theorem Quiet.trans {a b c : State} (h1 : Quiet a b) (h2 : Quiet b c) : Quiet a c :=
  ⟨fun i x hx hp => h2.keep i x (h1.keep i x hx hp) hp, fun i x hx hw => h1.noNew i x (h2.noNew i x hx hw) hw,
    fun hg => h2.goodF (h1.goodF hg)⟩

theorem GoodS_of_eq {B : Nat} {a b : State} (h : b.blocks = a.blocks) (hg : GoodS B a) : GoodS B b :=
  fun i x hx => hg i x (by rw [← h]; exact hx)

theorem Quiet.modify {st : State} {i : Nat} {b : FragBlock} (hb : st.blocks[i]? = some b) (hp : b.place = .opened)
    {f : FragBlock → FragBlock} (hf : (f b).place = .opened ∨ (f b).place = .inFlight)
    (hfl : FlagOk b.flags → FlagOk (f b).flags) : Quiet st { st with blocks := st.blocks.modify i f } := by
  refine ⟨fun j x hx hpx => ?_, forall_modify hb (fun j x _ hx _ => hx) fun ⟨s, c, hw⟩ => ?_,
    fun hg => forall_modify hb (fun j x _ hx => hg j x hx) (hfl (hg i b hb))⟩
  · by_cases hij : i = j
    · subst hij; rw [hb] at hx; cases hx; exact absurd hp hpx
    · exact (List.getElem?_modify_ne _ _ hij).trans hx
  · rcases hf with h | h <;> rw [h] at hw <;> cases hw

theorem Quiet.append (st : State) {b : FragBlock} (hp : b.place = .opened) (hfl : FlagOk b.flags) :
    Quiet st { st with blocks := st.blocks ++ [b] } := by
  refine ⟨fun _ _ hx _ => List.getElem?_append_some hx, fun j x hx ⟨s, c, hw⟩ => ?_, fun hg j x hx => ?_⟩
  · rcases getElem?_concat_cases hx with h | ⟨_, rfl⟩
    · exact h
    · rw [hp] at hw; cases hw
  · rcases getElem?_concat_cases hx with h | ⟨_, rfl⟩
    · exact hg j x h
    · exact hfl

theorem closeOpen_quiet (st : State) : Quiet st (closeOpen st) ∧ (∀ B, GoodS B st → GoodS B (closeOpen st)) ∧
    ∀ i, openIndex st = some i → ∃ fb, (closeOpen st).blocks[i]? = some fb ∧ fb.place = .inFlight := by
  unfold closeOpen
  cases ho : openIndex st with
  | none => exact ⟨Quiet.of_eq rfl, fun _ => id, fun i h => by cases h⟩
  | some i =>
    simp only []
    obtain ⟨b, hb, hp, _⟩ := openIndex_eq_some_iff.1 ho
    refine ⟨Quiet.modify hb hp (Or.inr rfl) id, fun B hg => forall_modify hb (fun j x _ hx => hg j x hx) (hg i b hb),
      fun j hj => ?_⟩
    cases hj
    exact ⟨_, getElem?_modify_self _ _ _ _ hb, rfl⟩

theorem overflow_quiet (B : Nat) (st : State) (d : Bytes) :
    Quiet st (overflow B st d) ∧ (GoodS B st → GoodS B (overflow B st d)) ∧
    (∀ i b, openIndex (overflow B st d) = some i → (overflow B st d).blocks[i]? = some b → b.data.length + d.length ≤ B) ∧
    ∀ i, openIndex st = some i → openIndex (overflow B st d) = some i ∨
      ∃ fb, (overflow B st d).blocks[i]? = some fb ∧ fb.place = .inFlight := by
  rcases overflow_cases B st d with ⟨h, _⟩ | ⟨h, hroom⟩ <;> rw [h]
  · obtain ⟨hq, hgs, hclosed⟩ := closeOpen_quiet st
    exact ⟨hq, hgs B, fun j b' h => (by rw [closeOpen_openIndex] at h; cases h), fun i ho => Or.inr (hclosed i ho)⟩
  · exact ⟨Quiet.of_eq rfl, id, hroom, fun i ho => Or.inl ho⟩

theorem place_quiet (B : Nat) (st : State) (d : Bytes) (flags : Nat) :
    Quiet st (place st d flags).2.2 ∧
    (GoodS B st → (∀ i b, openIndex st = some i → st.blocks[i]? = some b → b.data.length + d.length ≤ B) →
      d.length ≤ B → GoodS B (place st d flags).2.2) ∧
    ∀ i, openIndex st = some i → openIndex (place st d flags).2.2 = some i := by
  unfold place
  cases ho : openIndex st with
  | none =>
    simp only []
    refine ⟨Quiet.append st rfl (FlagOk_new flags), fun hg _ hd j b' hb' => ?_, fun i h => by cases h⟩
    rcases getElem?_concat_cases hb' with h | ⟨_, rfl⟩
    · exact hg j b' h
    · exact hd
  | some i =>
    simp only []
    obtain ⟨b, hb, hp, hlen⟩ := openIndex_eq_some_iff.1 ho
    refine ⟨Quiet.modify hb hp (Or.inl hp) (FlagOk_or _ _),
      fun hg hroom _ => forall_modify hb (fun j x _ hx => hg j x hx) (by simpa using hroom i b rfl hb), fun j hj => ?_⟩
    cases hj
    exact openIndex_eq_some_iff.2 ⟨_, getElem?_modify_self _ _ _ _ hb, hp, by rw [List.length_modify]; exact hlen⟩

theorem search_blocks (codec : Codec) (bc : Bool) (d : Bytes) (hd : UInt32) (kf : Nat) (l : List Chunk) (st : State)
    (r : Option Chunk) (st' : State) (h : search codec bc st d hd kf l = .ok (r, st')) : st'.blocks = st.blocks := by
  fun_induction search codec bc st d hd kf l with
  | case1 => cases h; rfl
  | case2 => cases h
  | case3 => cases h; rfl
  | case4 _ _ _ _ _ ih => exact ih h

theorem insert_blocks (codec : Codec) (bc : Bool) (d : Bytes) (hd : UInt32) (new : Chunk) (l done : List Chunk)
    (st st' : State) (h : insert codec bc st d hd new done l = .ok st') : st'.blocks = st.blocks := by
  fun_induction insert codec bc st d hd new done l with
  | case1 => cases h; rfl
  | case2 => cases h
  | case3 => cases h; rfl
  | case4 _ _ _ _ _ _ ih => exact ih h

theorem findShared_blocks (codec : Codec) (st : State) (d : Bytes) (hd : UInt32) (flags : Nat) (r : Option Chunk)
    (st' : State) (h : findShared codec true st d hd flags = .ok (r, st')) : st'.blocks = st.blocks := by
  revert h
  fun_cases findShared codec true st d hd flags <;> intro h
  · cases h; rfl
  · exact search_blocks _ _ _ _ _ _ _ _ _ h

/-- `st1`: the state after a lookup in vain (only the cache differs) -/
theorem processFragment_blocks (codec : Codec) (h : Bytes → UInt32) (B : Nat) (st : State) (d : Bytes)
    (flags : Nat) (r : Res) (st' : State) (hrun : processFragment codec h true B st d flags = .ok (r, st')) :
    st'.blocks = st.blocks ∨
    ∃ st1, st1.blocks = st.blocks ∧
      st'.blocks = (place (overflow B st1 d) d flags).2.2.blocks := by
  revert hrun
  fun_cases processFragment codec h true B st d flags <;> intro hrun
  · cases hrun; exact Or.inl rfl
  · cases hrun
  · rename_i c st1 hfs
    cases hrun
    exact Or.inl (findShared_blocks _ _ _ _ _ _ _ hfs)
  · rename_i st1 hfs
    revert hrun
    fun_cases storeFragment codec true B st1 d (fragHash h d flags) flags <;> intro hrun <;> cases hrun
    rename_i st4 hins
    exact Or.inr ⟨st1, findShared_blocks _ _ _ _ _ _ _ hfs, insert_blocks _ _ _ _ _ _ _ _ _ hins⟩

theorem openIndex_congr {a b : State} (h : b.blocks = a.blocks) : openIndex b = openIndex a := by
  unfold openIndex; rw [h]

/-- a block that was open and is no longer the open one has been closed by `overflow`, and `place` leaves it alone -/
theorem processFragment_quiet (codec : Codec) (h : Bytes → UInt32) (B : Nat) (st : State) (d : Bytes)
    (flags : Nat) (r : Res) (st' : State) (hrun : processFragment codec h true B st d flags = .ok (r, st')) :
    Quiet st st' ∧ (d.length ≤ B → GoodS B st → GoodS B st') ∧
    ∀ i, openIndex st = some i → openIndex st' ≠ some i → ∃ fb, st'.blocks[i]? = some fb ∧ fb.place = .inFlight := by
  rcases processFragment_blocks codec h B st d flags r st' hrun with hb | ⟨st1, hb1, hb4⟩
  · exact ⟨Quiet.of_eq hb, fun _ => GoodS_of_eq hb, fun i h1 h2 => absurd ((openIndex_congr hb).trans h1) h2⟩
  · obtain ⟨oq, og, oroom, oclosed⟩ := overflow_quiet B st1 d
    obtain ⟨pq, pg, popen⟩ := place_quiet B (overflow B st1 d) d flags
    refine ⟨((Quiet.of_eq hb1).trans oq).trans (pq.trans (Quiet.of_eq hb4)),
      fun hd hg => GoodS_of_eq hb4 (pg (og (GoodS_of_eq hb1 hg)) oroom hd), fun i ho hne => ?_⟩
    rcases oclosed i ((openIndex_congr hb1).trans ho) with ho2 | ⟨fb, hfb, hpl⟩
    · exact absurd ((openIndex_congr hb4).trans (popen i ho2)) hne
    · exact ⟨fb, by rw [hb4]; exact pq.keep i fb hfb (by rw [hpl]; nofun), hpl⟩

theorem blockWritten_struct (codec : Codec) (st st' : State) (idx : Nat) (h : blockWritten codec st idx = .ok st') :
    ∃ b p, st.blocks[idx]? = some b ∧ b.place = .inFlight ∧ st'.blocks[idx]? = some { b with place := p } ∧
      (∀ j, j ≠ idx → st'.blocks[j]? = st.blocks[j]?) ∧ st'.blocks.length = st.blocks.length := by
  unfold blockWritten at h
  split at h
  · rename_i data fl hb
    cases h
    refine ⟨_, _, hb, rfl, getElem?_modify_self _ _ _ _ hb, ?_, by simp⟩
    intro j hj
    exact List.getElem?_modify_ne _ _ (Ne.symm hj)
  · cases h

theorem blockWritten_keeps {codec : Codec} (P : Bytes → Nat → Prop) {st st' : State} {idx : Nat}
    (h : blockWritten codec st idx = .ok st')
    (hg : ∀ (i : Nat) (b : FragBlock), st.blocks[i]? = some b → P b.data b.flags) :
    ∀ (i : Nat) (b : FragBlock), st'.blocks[i]? = some b → P b.data b.flags := by
  obtain ⟨b, p, hb, _, hb', hne, _⟩ := blockWritten_struct codec st st' idx h
  intro j x hx
  by_cases hj : j = idx
  · subst hj
    rw [hb'] at hx; cases hx
    exact hg j b hb
  · rw [hne j hj] at hx
    exact hg j x hx

end Sqfs.FragDedup
