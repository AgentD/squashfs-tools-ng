/-
C01 — the record side of the xattr writer: what index `sqfs_xattr_writer_end` hands out.
-/
import Sqfs.Model.EncXattr
namespace Sqfs.Enc

theorem insertPair_perm (p : Nat × Nat) : ∀ l, (insertPair p l).Perm (p :: l) := by
  intro l
  induction l with
  | nil => exact List.Perm.refl _
  | cons e r ih =>
    simp only [insertPair]
    split
    · exact List.Perm.refl _
    · exact (List.Perm.cons e ih).trans (List.Perm.swap p e r)

theorem sortPairs_perm : ∀ l, (sortPairs l).Perm l := by
  intro l
  induction l with
  | nil => exact List.Perm.refl _
  | cons e r ih => exact (insertPair_perm e _).trans (List.Perm.cons e ih)

theorem sortPairs_length (l : List (Nat × Nat)) : (sortPairs l).length = l.length :=
  (sortPairs_perm l).length_eq

theorem sortPairs_mem (q : Nat × Nat) (l : List (Nat × Nat)) : q ∈ sortPairs l ↔ q ∈ l :=
  (sortPairs_perm l).mem_iff

theorem blockPairs_take (l : List (Nat × Nat)) (k : Nat) (b : Nat × Nat) (hb : b.1 + b.2 ≤ k) :
    blockPairs (l.take k) b = blockPairs l b := by
  unfold blockPairs
  rw [List.drop_take, List.take_take, Nat.min_eq_left (Nat.le_sub_of_add_le (Nat.add_comm _ _ ▸ hb))]

theorem blockPairs_append (a x : List (Nat × Nat)) (b : Nat × Nat) (hb : b.1 + b.2 ≤ a.length) :
    blockPairs (a ++ x) b = blockPairs a b := by
  unfold blockPairs
  rw [List.drop_append_of_le_length (Nat.le_trans (Nat.le_add_right _ _) hb),
    List.take_append_of_le_length (by rw [List.length_drop]; exact Nat.le_sub_of_add_le (Nat.add_comm _ _ ▸ hb))]

theorem blockPairs_stable (l x : List (Nat × Nat)) (k : Nat) (b : Nat × Nat) (hk : k ≤ l.length) (hb : b.1 + b.2 ≤ k) :
    blockPairs (l.take k ++ x) b = blockPairs l b := by
  rw [blockPairs_append _ _ _ (by rw [List.length_take, Nat.min_eq_left hk]; exact hb), blockPairs_take l k b hb]

theorem endSet_spec (w : XWriter) (hk : w.kvStart ≤ w.pairs.length) (hb : ∀ b ∈ w.blocks, b.1 + b.2 ≤ w.kvStart) :
    (w.pairs.length = w.kvStart → endSet w = (w, NONE32))
    ∧ (w.kvStart < w.pairs.length →
        (endSet w).2 < (endSet w).1.blocks.length
        ∧ blockPairs (endSet w).1.pairs ((endSet w).1.blocks.getD (endSet w).2 (0, 0)) = sortPairs (w.pairs.drop w.kvStart)
        ∧ (∀ i, i < w.blocks.length → (endSet w).1.blocks.getD i (0, 0) = w.blocks.getD i (0, 0)
              ∧ blockPairs (endSet w).1.pairs (w.blocks.getD i (0, 0)) = blockPairs w.pairs (w.blocks.getD i (0, 0)))
        ∧ (∀ b ∈ (endSet w).1.blocks, b.1 + b.2 ≤ (endSet w).1.pairs.length)
        ∧ (endSet w).1.keys = w.keys ∧ (endSet w).1.values = w.values) := by
  have hslen : (sortPairs (w.pairs.drop w.kvStart)).length = w.pairs.length - w.kvStart := by
    rw [sortPairs_length, List.length_drop]
  have htl : (w.pairs.take w.kvStart).length = w.kvStart := by rw [List.length_take, Nat.min_eq_left hk]
  -- a block recorded earlier does not see what stands behind `kv_start`
  have hstab : ∀ i (hi : i < w.blocks.length) (x : List (Nat × Nat)),
      blockPairs (w.pairs.take w.kvStart ++ x) (w.blocks.getD i (0, 0)) = blockPairs w.pairs (w.blocks.getD i (0, 0)) := by
    intro i hi x
    rw [List.getD_eq_getElem?_getD, List.getElem?_eq_getElem hi]
    exact blockPairs_stable w.pairs x w.kvStart _ hk (hb _ (List.getElem_mem hi))
  fun_cases endSet w
  · next count h0 => exact ⟨fun _ => rfl, fun hlt => absurd h0 (Nat.sub_ne_zero_of_lt hlt)⟩
  · next count h0 sorted pairs j hj =>
    refine ⟨fun h => absurd (Nat.sub_eq_zero_of_le (Nat.le_of_eq h)) h0, fun _ => ⟨hj, ?_, fun i hi => ⟨rfl, ?_⟩, fun b hbm => htl.symm ▸ hb b hbm, rfl, rfl⟩⟩
    · have hget := List.getElem_idxOf (xs := w.blocks.map (blockPairs pairs)) (x := sorted) (by simpa using hj)
      rw [List.getElem_map] at hget
      have := hstab j hj
      simp only [List.getD_eq_getElem?_getD, List.getElem?_eq_getElem hj, Option.getD_some] at this ⊢
      rw [← List.append_nil (List.take _ _), this, ← this sorted]
      exact hget
    · have := hstab i hi []
      rwa [List.append_nil] at this
  · next count h0 sorted pairs j hj =>
    have hpl : pairs.length = w.pairs.length := by
      simp only [pairs, sorted, List.length_append, htl, hslen, Nat.add_sub_cancel' hk]
    refine ⟨fun h => absurd (Nat.sub_eq_zero_of_le (Nat.le_of_eq h)) h0, fun _ => ⟨by simp, ?_, fun i hi => ⟨?_, hstab i hi _⟩, ?_, rfl, rfl⟩⟩
    · simp only [List.getD_eq_getElem?_getD, List.getElem?_append_right (Nat.le_refl _), Nat.sub_self, List.getElem?_cons_zero,
        Option.getD_some, blockPairs, pairs, count, sorted]
      rw [List.drop_left' htl, ← hslen, List.take_length]
    · simp only [List.getD_eq_getElem?_getD, List.getElem?_append_left hi]
    · intro b hbm
      rw [hpl]
      rcases List.mem_append.mp hbm with h | h
      · exact Nat.le_trans (hb b h) hk
      · simp only [List.mem_singleton] at h; subst h; exact Nat.le_of_eq (Nat.add_sub_cancel' hk)

end Sqfs.Enc
