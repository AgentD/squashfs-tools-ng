/-
C01 — the whole tree: the loop invariant of `sqfs_serialize_fstree` (every node written so far is found again at its
reference, resolving to the attributes expected of it) and its induction over `fs->inodes`.
-/
import Sqfs.Proofs.EncTreeNodeIn
namespace Sqfs.Enc
open Sqfs.Consts
open Sqfs.FsTree (TNode Path lookup indexOf isType)

theorem expectAttr_refs (root : TNode) (inodes : List Path) (x : TreeExtra) (refs : List (Path × Nat)) (p : Path) (n : TNode) :
    expectAttr (nodeIn root inodes x refs p n) = expectAttr (nodeIn root inodes x [] p n) := by
  unfold expectAttr
  rcases nodeIn_kind root inodes x p n with h | ⟨_, _, hk⟩ | ⟨_, _, hk⟩
  · rw [nodeIn_dir root inodes x refs p h, nodeIn_dir root inodes x [] p h]; rfl
  · rw [hk refs, hk []]; rfl
  · rw [hk refs, hk []]; rfl

theorem resolve_written (st : TreeSt) (n : NodeIn) (i i0 : Inode) (ui gi : Nat) (ids : List Nat)
    (hpre : preInode st n = some i0) (hv : i.view = withIds ui gi (wanted n.attr i0.view))
    (hu : ids[ui]? = some n.uid) (hg : ids[gi]? = some n.gid)
    (hnd : n.kind.isDir = false → i0.view.typeBits ≠ sIFDIR) :
    expectAttr n = some (i.resolve ids) := by
  unfold Inode.resolve
  simp only [hv, withIds, wanted, hu, hg]
  unfold preInode at hpre
  unfold expectAttr
  split at hpre
  · next ents hk =>
    split at hpre
    · next des hae =>
      cases hpre
      have v := dirInodeOf_view st.dirs.length n des
      simp only [hk, dirInodeOf_typeBits, v.parent, v.words, v.bytes, if_true]
    · cases hpre
  · next inode hk =>
    cases hpre
    simp only [hk]
    have hd := hnd (by rw [hk]; rfl)
    simp only [hd, if_false]
  · next devno target hk =>
    simp only [hk, hpre, Option.map_some]
    have hd := hnd (by rw [hk]; rfl)
    simp only [hd, if_false]

/-- what is known about the node at `p` once it has been written (all of it stable while the loop goes on) -/
def StoredAt (bs : Nat) (root : TNode) (inodes : List Path) (x : TreeExtra) (st : TreeSt) (refs : List (Path × Nat))
    (p : Path) : Prop :=
  ∃ n i pos tail a, lookup root p = some n ∧ lookupRef refs p = rawRef pos ∧ pos < st.inodes.length
    ∧ WfInode bs i ∧ st.inodes.drop pos = encInode i ++ tail
    ∧ expectAttr (nodeIn root inodes x [] p n) = some a ∧ (∀ e, i.resolve (st.ids ++ e) = a)
    ∧ (i.view.typeBits = sIFDIR ↔ n.isDir = true)
    ∧ (n.isDir = true → ∃ dpos des dtail, dirPos i = some dpos
        ∧ st.dirs.drop dpos = encListing rawCost (dpos / metaBlockSize * rawCost) (dpos % metaBlockSize) des ++ dtail
        ∧ dpos ≤ st.dirs.length
        ∧ (∀ e ∈ des, WfDEnt e)
        ∧ (∀ stream, openDir i stream
            = some ⟨stream, listingSize rawCost (dpos / metaBlockSize * rawCost) (dpos % metaBlockSize) des + 3, 0, 0, 0⟩)
        ∧ des.map (fun e => (e.name, e.inodeRef)) = n.children.map (fun c => (c.name, lookupRef refs (entryTarget p c)))
        ∧ ∀ c ∈ n.children, entryTarget p c ∈ refs.map (·.1))

theorem StoredAt.mono {bs : Nat} {root : TNode} {inodes : List Path} {x : TreeExtra} {st st' : TreeSt}
    {refs : List (Path × Nat)} {p : Path} (h : StoredAt bs root inodes x st refs p) (q : Path) (r : Nat)
    (hp : p ∈ refs.map (·.1)) (hq : q ∉ refs.map (·.1))
    (hi : ∃ a, st'.inodes = st.inodes ++ a) (hd : ∃ b, st'.dirs = st.dirs ++ b) (hids : ∃ e, st'.ids = st.ids ++ e) :
    StoredAt bs root inodes x st' ((q, r) :: refs) p := by
  obtain ⟨n, i, pos, tail, a, h1, h2, h3, h4, h5, h6, h7, h8, h9⟩ := h
  obtain ⟨ia, hia⟩ := hi
  obtain ⟨db, hdb⟩ := hd
  obtain ⟨e0, he0⟩ := hids
  have hne : q ≠ p := fun hqp => hq (hqp ▸ hp)
  refine ⟨n, i, pos, tail ++ ia, a, h1, ?_, ?_, h4, ?_, h6, ?_, h8, ?_⟩
  · rw [lookupRef_cons_ne _ _ _ _ hne]; exact h2
  · rw [hia, List.length_append]; exact Nat.lt_add_right _ h3
  · rw [hia, List.drop_append_of_le_length (Nat.le_of_lt h3), h5, List.append_assoc]
  · intro e; rw [he0, List.append_assoc]; exact h7 _
  · intro hdir
    obtain ⟨dpos, des, dtail, d1, d2, d3, d4, d5, d6, d7⟩ := h9 hdir
    refine ⟨dpos, des, dtail ++ db, d1, ?_, ?_, d4, d5, ?_, ?_⟩
    · rw [hdb, List.drop_append_of_le_length d3, d2, List.append_assoc]
    · rw [hdb, List.length_append]; exact Nat.le_add_right_of_le d3
    · rw [d6]
      apply List.map_congr_left
      intro c hc
      have hne2 : q ≠ entryTarget p c := fun hqc => hq (hqc ▸ d7 c hc)
      rw [lookupRef_cons_ne _ _ _ _ hne2]
    · intro c hc
      simp only [List.map_cons, List.mem_cons]
      exact Or.inr (d7 c hc)

theorem storedAt_new (bs : Nat) (root : TNode) (inodes : List Path) (x : TreeExtra) (st st' : TreeSt)
    (refs : List (Path × Nat)) (p : Path) (n : TNode) (hl : lookup root p = some n)
    (hok : NodeInOk bs st (nodeIn root inodes x refs p n)) (hlc : 1 ≤ n.attr.linkCount)
    (hs : serializeNode st (nodeIn root inodes x refs p n) = .ok st')
    (hp : p ∉ refs.map (·.1))
    (hch : n.isDir = true → ∀ c ∈ n.children, entryTarget p c ∈ refs.map (·.1))
    (hD : st.dirs.length / metaBlockSize * rawCost < 2 ^ 32) :
    StoredAt bs root inodes x st' ((p, rawRef st.inodes.length) :: refs) p ∧ IdsOk st'.ids ∧ ∃ e, st'.ids = st.ids ++ e := by
  obtain ⟨i, i0, ui, gi, w⟩ := serializeNode_full bs st st' _ hok hs
  have hview := w.view (fun _ => hlc)
  have hisd := nodeIn_isDir root inodes x refs p n
  have hres : ∀ e, expectAttr (nodeIn root inodes x refs p n) = some (i.resolve (st'.ids ++ e)) :=
    fun e => resolve_written st _ i i0 ui gi _ w.pre hview (List.getElem?_append_some w.uid) (List.getElem?_append_some w.gid)
      (fun h => (w.notDir h).2)
  have htb : i.view.typeBits = i0.view.typeBits := by rw [hview]; rfl
  refine ⟨⟨n, i, st.inodes.length, [], i.resolve (st'.ids ++ []), hl, lookupRef_cons_self _ _ _, ?_, w.wf, ?_, ?_, ?_, ?_, ?_⟩,
    w.idsOk, w.idsExt⟩
  · rw [w.inodes, List.length_append]; exact Nat.lt_add_of_pos_right (encInode_pos i)
  · rw [w.inodes, List.drop_left, List.append_nil]
  · rw [← expectAttr_refs root inodes x refs p n]; exact hres []
  · intro e
    have := (hres e).symm.trans (hres [])
    exact Option.some.inj this
  · rw [htb]
    by_cases hdir : n.isDir = true
    · obtain ⟨des, d⟩ := w.dir _ (nodeIn_dir root inodes x refs p hdir)
      simp only [hdir, iff_true]
      rw [d.pre]; exact dirInodeOf_typeBits _ _ _
    · have hdir' : n.isDir = false := by simpa using hdir
      rw [hdir'] at hisd
      simp only [hdir', Bool.false_eq_true, iff_false]
      exact (w.notDir hisd).2
  · intro hdir
    obtain ⟨des, d⟩ := w.dir _ (nodeIn_dir root inodes x refs p hdir)
    have v := dirInodeOf_view st.dirs.length (nodeIn root inodes x refs p n) des
    have hv : i.view.nums = i0.view.nums := by rw [hview]; rfl
    refine ⟨st.dirs.length, des, [], ?_, ?_, ?_, d.wf, d.openDir, ?_, ?_⟩
    · rw [dirPos_view i (by rw [htb, d.pre]; exact dirInodeOf_typeBits _ _ _), hv, d.pre, v.startBlock, v.offset, rawRef_split _ hD]
      exact rawPos_rawRef _
    · rw [d.dirs, List.drop_left, List.append_nil]
    · rw [d.dirs, List.length_append]; exact Nat.le_add_right _ _
    · rw [(addAllEntries_spec _ _ d.accepted).1, List.map_map]
      apply List.map_congr_left
      intro c hc
      have hne : p ≠ entryTarget p c := fun hpc => hp (hpc ▸ hch hdir c hc)
      simp only [Function.comp]
      rw [lookupRef_cons_ne _ _ _ _ hne]
    · intro c hc
      simp only [List.map_cons, List.mem_cons]
      exact Or.inr (hch hdir c hc)

/-- the loop invariant: `done` = the nodes written so far, in order -/
structure GInv (bs : Nat) (root : TNode) (inodes : List Path) (x : TreeExtra) (st : TreeSt) (refs : List (Path × Nat))
    (done : List Path) : Prop where
  keys : refs.map (·.1) = done.reverse
  ids : IdsOk st.ids
  lt : ∀ e ∈ refs, e.2 < 2 ^ 48
  stored : ∀ p ∈ done, StoredAt bs root inodes x st refs p

theorem ginv_empty (bs : Nat) (root : TNode) (inodes : List Path) (x : TreeExtra) : GInv bs root inodes x {} [] [] :=
  ⟨rfl, ⟨by simp [Sqfs.IdTable.limit], by simp⟩, by simp, by simp⟩

theorem serializeGo_inv (bs : Nat) (root : TNode) (inodes : List Path) (x : TreeExtra)
    (hattr : ∀ p ∈ inodes, ∀ n, lookup root p = some n → AttrOk bs x p n)
    (hlen : inodes.length + 1 < 2 ^ 32) (hnd : inodes.Nodup)
    (hord : ∀ d p t, inodes = d ++ p :: t → ∀ n, lookup root p = some n → n.isDir = true →
      ∀ c ∈ n.children, entryTarget p c ∈ d)
    (stF : TreeSt) (refsF : List (Path × Nat))
    (hI : stF.inodes.length / metaBlockSize * rawCost < 2 ^ 32)
    (hD1 : stF.dirs.length / metaBlockSize * rawCost < 2 ^ 32) (hD2 : stF.dirs.length + 3 < 2 ^ 32) :
    ∀ (todo done : List Path) (st : TreeSt) (refs : List (Path × Nat)), inodes = done ++ todo →
      GInv bs root inodes x st refs done → serializeGo root inodes x todo st refs = .ok (stF, refsF) →
      GInv bs root inodes x stF refsF inodes := by
  intro todo
  induction todo with
  | nil =>
    intro done st refs hsplit hinv h
    simp only [serializeGo, Except.ok.injEq, Prod.mk.injEq] at h
    obtain ⟨rfl, rfl⟩ := h
    have hd : done = inodes := by rw [hsplit, List.append_nil]
    rw [hd] at hinv; exact hinv
  | cons p rest ih =>
    intro done st refs hsplit hinv h
    -- the bounds on the finished streams hold of the streams before and after this node
    obtain ⟨g1, g2⟩ := serializeGo_grows _ _ _ _ _ _ _ _ h
    obtain ⟨n, st', hl, hs, h⟩ := serializeGo_cons h
    obtain ⟨_, g2'⟩ := serializeGo_grows _ _ _ _ _ _ _ _ h
    have hpin : p ∈ inodes := by rw [hsplit]; simp
    have ha := hattr p hpin n hl
    obtain ⟨hia, hdb, _⟩ := serializeNode_grows _ _ _ hs
    have hok : NodeInOk bs st (nodeIn root inodes x refs p n) :=
      nodeInOk_of bs root inodes x refs p n st st' ha hlen hinv.ids hinv.lt hs (Nat.lt_of_le_of_lt (Nat.add_le_add_right g2' 3) hD2)
    have hpnot : p ∉ done := by
      rw [hsplit] at hnd
      have := (List.nodup_append.mp hnd).2.2
      intro hpd
      exact this p hpd p (List.mem_cons_self ..) rfl
    have hpk : p ∉ refs.map (·.1) := by rw [hinv.keys]; simpa using hpnot
    have hch : n.isDir = true → ∀ c ∈ n.children, entryTarget p c ∈ refs.map (·.1) := by
      intro hdir c hc
      rw [hinv.keys]
      simpa using hord done p rest hsplit n hl hdir c hc
    obtain ⟨hnew, f6, f7⟩ := storedAt_new bs root inodes x st st' refs p n hl hok ha.lc1 hs hpk hch
      (Nat.lt_of_le_of_lt (blk_mono _ _ g2) hD1)
    have hinv' : GInv bs root inodes x st' ((p, rawRef st.inodes.length) :: refs) (done ++ [p]) := by
      refine ⟨by simp [hinv.keys], f6, ?_, ?_⟩
      · intro e he
        rcases List.mem_cons.mp he with rfl | he
        · exact rawRef_lt _ (Nat.lt_of_le_of_lt (blk_mono _ _ g1) hI)
        · exact hinv.lt e he
      · intro q hq
        rcases List.mem_append.mp hq with hq | hq
        · exact (hinv.stored q hq).mono p _ (by rw [hinv.keys]; simpa using hq) hpk hia hdb f7
        · simp only [List.mem_singleton] at hq; subst hq; exact hnew
    exact ih (done ++ [p]) st' _ (by rw [hsplit]; simp) hinv' h

end Sqfs.Enc
