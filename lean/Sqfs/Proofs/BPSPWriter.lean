/-
C02, `packRef = specPack`: one step of the writer pass (`wStep`) against `specPack`'s history.  A block of a file
appends its stored form to the history (`FIRST` marks the file start); the block that carries `LAST` — a data block or
the size-0 sentinel — runs `deduplicate_blocks` = `Pack.placeBlocks`; a closed fragment block appends
`Pack.workFragBlock` and sets its table entry.
-/
import Sqfs.Proofs.BPSPHist
import Sqfs.Proofs.BPSpecPack
import Sqfs.Proofs.BPWriter
namespace Sqfs.BlockProc
open Sqfs.Consts
open Sqfs.BlockWriter (hasFlag PE Abs)

/-- `write_data_block` on the call for `b`; `st` is the state `deduplicate_blocks` starts from -/
theorem writeDataBlock_callOf (s : BlockWriter.State) (b : Blk) {st : BlockWriter.State}
    (hst : BlockWriter.afterStore (BlockWriter.afterFirst s (callOf b)) (callOf b) = st) :
    BlockWriter.writeDataBlock s b.chk (clearFlag b.flags blkFlagInternal) b.data =
      if isLast b then BlockWriter.deduplicateBlocks st (clearFlag b.flags blkFlagInternal) else .ok (st, s.file.length) := by
  have hfile : (BlockWriter.afterFirst s (callOf b)).file = s.file := by unfold BlockWriter.afterFirst; split <;> rfl
  rw [← hst, ← callOf_last b, ← hfile]
  exact BlockWriter.writeDataBlock_eq s (callOf b)

theorem fileStart_afterStore {pre : Bytes} {s : BlockWriter.State} {ps : List PE} (habs : Abs pre s ps) (c : BlockWriter.Call) :
    (BlockWriter.afterStore (BlockWriter.afterFirst s c) c).fileStart = if c.first then ps.length else s.fileStart := by
  have h1 : ∀ s1 : BlockWriter.State, (BlockWriter.afterStore s1 c).fileStart = s1.fileStart := fun s1 => by
    unfold BlockWriter.afterStore; split <;> rfl
  rw [h1, BlockWriter.afterFirst, BlockWriter.Call.first]
  split
  · exact habs.len
  · rfl

def fragView (e : Sqfs.Pack.FragEntry) : Nat × Nat := (e.start, (Sqfs.Pack.Word.stored e.size e.raw).toNat)

structure WSim (P : Params) (W : WSt) (H : List Sqfs.Pack.Stored) (frags : List Sqfs.Pack.FragEntry) : Prop where
  abs : ∃ ps, Abs P.pre W.wr ps ∧ Hist ps H
  hok : HOK H
  setsIdx : W.sets.map (·.1) = List.range frags.length
  setsVal : W.sets.map (·.2) = frags.map fragView

/-- what the writer sees of a worked block of a file; `none`: the sentinel -/
def BlkRel (b : Blk) : Option Sqfs.Pack.Worked → Prop
  | none => b.data = [] ∧ hasFlag b.flags blkIsSparse = false
  | some (.sparse n) => b.data ≠ [] ∧ hasFlag b.flags blkIsSparse = true ∧ n = b.data.length
  | some (.stored st) => b.data ≠ [] ∧ hasFlag b.flags blkIsSparse = false ∧ b.data = st.data ∧ b.chk = st.cksum ∧
      hasFlag b.flags blkIsCompressed = !st.raw ∧ st.data.length < 2 ^ 24

def storedOf : Option Sqfs.Pack.Worked → List Sqfs.Pack.Stored
  | some (.stored st) => [st]
  | _ => []

def effOf (id j : Nat) : Option Sqfs.Pack.Worked → List Eff
  | none => []
  | some (.sparse n) => [⟨id, .sparse j n⟩]
  | some (.stored st) => [⟨id, .word j (wordOf st)⟩]

theorem mkWord_wordOf (flags : Nat) (st : Sqfs.Pack.Stored) (h : hasFlag flags blkIsCompressed = !st.raw) :
    BlockWriter.mkWord st.data.length flags = wordOf st := by
  unfold BlockWriter.mkWord wordOf
  rw [h]
  cases st.raw <;> simp

theorem sizeWord_wordOf (b : Blk) (st : Sqfs.Pack.Stored) (hd : b.data = st.data)
    (h : hasFlag b.flags blkIsCompressed = !st.raw) :
    sizeWord b = wordOf st := by
  rw [← callOf_word, hd]
  exact mkWord_wordOf _ st ((clearInternal_compressed b.flags).trans h)

theorem placeBlocks_hok (base : Nat) (dd : Bool) (hs mine : List Sqfs.Pack.Stored) (h : HOK (hs ++ mine)) :
    HOK (Sqfs.Pack.placeBlocks base dd hs mine).1 := by
  unfold Sqfs.Pack.placeBlocks
  split
  · rename_i hm; subst hm; simpa using h
  · split
    · exact h
    · split
      · exact h.take _
      · exact h

/-- `write_data_block` up to `deduplicate_blocks` on a block of a file -/
theorem store_rel {pre : Bytes} {s : BlockWriter.State} {ps : List PE} (habs : Abs pre s ps) {H : List Sqfs.Pack.Stored}
    (hh : Hist ps H) (b : Blk) (ow : Option Sqfs.Pack.Worked) (hrel : BlkRel b ow) {st : BlockWriter.State}
    (hst : BlockWriter.afterStore (BlockWriter.afterFirst s (callOf b)) (callOf b) = st) :
    ∃ ps2, Abs pre st ps2 ∧ Hist ps2 (H ++ storedOf ow) ∧ st.fileStart = (if isFirst b then H.length else s.fileStart) ∧
      HOK (storedOf ow) := by
  subst hst
  have h1 := habs.first (callOf b)
  have hfs := fileStart_afterStore habs (callOf b)
  rw [callOf_first, hh.length] at hfs
  have hstored := callOf_stored b
  match ow, hrel with
  | none, hrel =>
    rw [BlockWriter.afterStore_of_not_stored (by rw [hstored, hrel.1]; rfl)] at hfs ⊢
    exact ⟨ps, h1, by simpa [storedOf] using hh, hfs, fun s hs => by cases hs⟩
  | some (.sparse n), hrel =>
    rw [BlockWriter.afterStore_of_not_stored (by rw [hstored, hrel.2.1, Bool.not_true, Bool.and_false])] at hfs ⊢
    exact ⟨ps, h1, by simpa [storedOf] using hh, hfs, fun s hs => by cases hs⟩
  | some (.stored st), hrel =>
    obtain ⟨hne, hs, hd, hck, hcomp, hsz⟩ := hrel
    have hlen : b.data.length < 2 ^ 24 := by rw [hd]; exact hsz
    refine ⟨_, h1.store (callOf b) (by rw [hstored, hs]; simpa using hne) hlen, hh.append ?_, hfs, ?_⟩
    · show [(BlockWriter.mkWord b.data.length (clearFlag b.flags blkFlagInternal), b.chk, b.data)] = [sview st]
      rw [hck, hd, mkWord_wordOf _ st (by rw [clearInternal_compressed]; exact hcomp)]
      rfl
    · intro s hs
      simp only [storedOf, List.mem_singleton] at hs
      subst hs; exact hsz

theorem blockEffs_rel (b : Blk) (ow : Option Sqfs.Pack.Worked) (hrel : BlkRel b ow)
    (hnfb : hasFlag b.flags blkFragmentBlock = false) (id j : Nat) (hino : b.inode = some id) (hidx : b.index = j) (loc : Nat) :
    blockEffs b loc = effOf id j ow ++ (if isLast b then [⟨id, .start loc⟩] else []) := by
  unfold blockEffs
  rw [hino, hidx, hnfb]
  congr 1
  match ow, hrel with
  | none, hrel =>
    obtain ⟨hd, hs⟩ := hrel
    simp [hs, hd, effOf]
  | some (.sparse n), hrel =>
    obtain ⟨_, hs, hn⟩ := hrel
    simp [hs, hn, mkEff, effOf]
  | some (.stored st), hrel =>
    obtain ⟨hne, hs, hd, hck, hcomp, hsz⟩ := hrel
    simp [hs, hne, mkEff, effOf, sizeWord_wordOf b st hd hcomp]

/-- **one block of a file through the writer**; `fs`: where the writer takes the file to start -/
theorem wStep_gen {P : Params} {W : WSt} {H : List Sqfs.Pack.Stored} {frags : List Sqfs.Pack.FragEntry}
    (hsim : WSim P W H frags) (b : Blk) (ow : Option Sqfs.Pack.Worked) (hrel : BlkRel b ow)
    (hnfb : hasFlag b.flags blkFragmentBlock = false) (id j : Nat) (hino : b.inode = some id) (hidx : b.index = j)
    {fs : Nat} (hfs : (if isFirst b then H.length else W.wr.fileStart) = fs)
    {pl : List Sqfs.Pack.Stored × Nat × Bool}
    (hpl : Sqfs.Pack.placeBlocks P.pre.length (hasFlag b.flags blkDontDeduplicate) (H.take fs) (H.drop fs ++ storedOf ow) = pl) :
    ∃ W', wStep W b = .ok W' ∧ W'.wr.fileStart = fs ∧
      WSim P W' (if isLast b then pl.1 else H ++ storedOf ow) frags ∧
      W'.effs = W.effs ++ (effOf id j ow ++ if isLast b then [⟨id, .start pl.2.1⟩] else []) := by
  obtain ⟨ps, habs, hh⟩ := hsim.abs
  obtain ⟨st, hst⟩ : ∃ st, BlockWriter.afterStore (BlockWriter.afterFirst W.wr (callOf b)) (callOf b) = st := ⟨_, rfl⟩
  obtain ⟨ps2, habs2, hh2, hfs2, hok2⟩ := store_rel habs hh b ow hrel hst
  rw [hfs] at hfs2
  have hle : fs ≤ H.length := by
    rw [← hfs]; split
    · exact Nat.le_refl _
    · exact hh.length ▸ habs.fs
  have hokall : HOK (H ++ storedOf ow) := hsim.hok.append hok2
  have heff : ∀ loc, W.effs ++ blockEffs b loc = W.effs ++ (effOf id j ow ++ if isLast b then [⟨id, .start loc⟩] else []) :=
    fun loc => by rw [blockEffs_rel b ow hrel hnfb id j hino hidx]
  unfold wStep
  rw [writeDataBlock_callOf W.wr b hst]
  by_cases hl : isLast b = true
  · simp only [hl, if_true] at heff ⊢
    have hsplit : H ++ storedOf ow = H.take fs ++ (H.drop fs ++ storedOf ow) := by
      rw [← List.append_assoc, List.take_append_drop]
    rw [hsplit] at hh2 hokall
    obtain ⟨s', ps', hd, habs', hh', hkeep⟩ := dedup_place habs2 hh2 hokall
      (hfs2.trans (by rw [List.length_take, Nat.min_eq_left hle])) (clearFlag b.flags blkFlagInternal)
    rw [clearInternal_dontDedup, hpl] at hd hh'
    rw [hd]
    simp only [hnfb, Bool.and_false, Bool.false_eq_true, if_false]
    exact ⟨_, rfl, hkeep.trans hfs2, ⟨⟨ps', habs', hh'⟩, hpl ▸ placeBlocks_hok _ _ _ _ hokall, hsim.setsIdx, hsim.setsVal⟩,
      heff _⟩
  · simp only [hl, if_false, hnfb, Bool.and_false, Bool.false_eq_true] at heff ⊢
    exact ⟨_, rfl, hfs2, ⟨⟨ps2, habs2, hh2⟩, hokall, hsim.setsIdx, hsim.setsVal⟩, heff _⟩

theorem blkRel_stored (P : Params) (hP : CodecFits P) (b : Blk) (hne : b.data ≠ []) (hsz : b.data.length ≤ P.B)
    (hsp : (!hasFlag b.flags (blkIgnoreSparse ||| blkFragmentBlock) && allZero b.data) = false)
    (hnf : hasFlag b.flags blkIsFragment = false) (hns : hasFlag b.flags blkIsSparse = false)
    (hnc : hasFlag b.flags blkIsCompressed = false) (st : Sqfs.Pack.Stored)
    (hst : st = Sqfs.Pack.encode (toPackParams P) (hasFlag b.flags blkDontCompress)
      (if hasFlag b.flags blkDontHash then 0 else P.h b.data) b.data) :
    BlkRel (processBlock P b) (some (.stored st)) := by
  obtain ⟨h1, h2⟩ : st.data ≠ [] ∧ st.data.length < 2 ^ 24 := hst ▸ encode_data P hP _ _ b.data hne hsz
  rw [processBlock_encode P hP.pos b hne hsp hnf st hst]
  refine ⟨h1, ?_, rfl, rfl, ?_, h2⟩
  · cases st.raw
    · show hasFlag (b.flags ||| blkIsCompressed) blkIsSparse = false
      rw [hasFlag_or, hns]; rfl
    · exact hns
  · cases st.raw
    · exact (hasFlag_or _ _ _).trans (Bool.or_true _)
    · exact hnc

/-- `process_block` on a closed fragment block is `Pack.workFragBlock` -/
theorem fb_rel (P : Params) (hP : CodecFits P) (fb : Blk) (hf : FBRawFlags fb.flags) (hne : fb.data ≠ [])
    (hsz : fb.data.length ≤ P.B) :
    BlkRel (processBlock P fb)
      (some (.stored (Sqfs.Pack.workFragBlock (toPackParams P) ⟨fb.data, hasFlag fb.flags blkDontCompress⟩))) ∧
    FBFlagFacts (processBlock P fb).flags ∧ (processBlock P fb).index = fb.index := by
  have hff := fbRaw_facts hf
  refine ⟨?_, ?_, processBlock_index P fb⟩
  · refine blkRel_stored P hP fb hne hsz ?_ hff.notFrag hff.notSparse ?_ _ ?_
    · rw [hasFlag_or_right, hff.fb, Bool.or_true]; rfl
    · rcases hf with h | h <;> rw [h] <;> decide
    · rw [hff.notHash]; rfl
  · exact FBWorked.facts ⟨fb, hf, rfl, rfl⟩ hne

theorem wStep_fb {P : Params} (hP : CodecFits P) {W : WSt} {H : List Sqfs.Pack.Stored} {frags : List Sqfs.Pack.FragEntry}
    (hsim : WSim P W H frags) (fb : Blk) (hf : FBRawFlags fb.flags) (hne : fb.data ≠ []) (hsz : fb.data.length ≤ P.B)
    (hidx : fb.index = frags.length) {st : Sqfs.Pack.Stored}
    (hst : Sqfs.Pack.workFragBlock (toPackParams P) ⟨fb.data, hasFlag fb.flags blkDontCompress⟩ = st) :
    ∃ W', wStep W (processBlock P fb) = .ok W' ∧
      WSim P W' (H ++ [st]) (frags ++ [⟨P.pre.length + Sqfs.Pack.bytesOf H, st.data.length, st.raw⟩]) ∧ W'.effs = W.effs ∧
      W'.wr.fileStart = W.wr.fileStart := by
  obtain ⟨hrel, hfacts, hindex⟩ := fb_rel P hP fb hf hne hsz
  rw [hst] at hrel
  generalize processBlock P fb = b at hrel hfacts hindex ⊢
  obtain ⟨ps, habs, hh⟩ := hsim.abs
  obtain ⟨ps2, habs2, hh2, hfs2, hok2⟩ := store_rel habs hh b _ hrel rfl
  obtain ⟨hbne, hs, hd, hck, hcomp, hsz'⟩ := hrel
  have hb0 : (b.data.length != 0) = true := by simpa using hbne
  unfold wStep
  rw [writeDataBlock_callOf W.wr b rfl, show isLast b = false from hfacts.notLast]
  simp only [Bool.false_eq_true, if_false, hs, hfacts.fb, hb0, Bool.not_false, Bool.and_self, if_true]
  refine ⟨_, rfl, ⟨⟨ps2, habs2, hh2⟩, hsim.hok.append hok2, ?_, ?_⟩, ?_, ?_⟩
  · show List.map (fun x : Nat × Nat × Nat => x.1) (W.sets ++ [_]) = _
    rw [List.map_append, hsim.setsIdx, List.length_append, List.length_singleton, List.range_succ, hindex, hidx]; rfl
  · show List.map (fun x : Nat × Nat × Nat => x.2) (W.sets ++ [_]) = _
    rw [List.map_append, hsim.setsVal, List.map_append]
    congr 1
    simp only [List.map_cons, List.map_nil, fragView, stored_toNat, sizeWord_wordOf b st hd hcomp, wordOf, habs.fileLen,
      hh.bytesLen]
  · show W.effs ++ blockEffs b _ = W.effs
    unfold blockEffs
    simp [hs, hfacts.fb, hfacts.notLast]
  · exact hfs2.trans (if_neg (by rw [show isFirst b = false from hfacts.notFirst]; exact Bool.false_ne_true))

end Sqfs.BlockProc
