/-
C02, `packRef = specPack`: the fragment table.  The reference keeps `proc->frag_ht` as the hash table does
(`insertRef` replaces the first entry that compares equal, else appends; the lookup compares against the *content* of
the fragment block); `specPack` keeps the recorded fragments newest first with their bytes.  `absChunk F c` reads the
bytes a table entry stands for; both lookups are a `find?` for a key (`ckey`: `DONT_COMPRESS`, checksum, bytes), so with
the byte comparison on a lookup in either structure gives the same answer for every key.
-/
import Sqfs.Proofs.FragFlags
import Sqfs.Proofs.Slice
import Sqfs.Spec.BlockProcSpec
import Sqfs.Spec.PackSpec
namespace Sqfs.BlockProc
open Sqfs.Consts
open Sqfs.BlockWriter (hasFlag)

def chunkData (F : FSt) (c : Chunk) : Bytes :=
  match F.fragData c.index with
  | some blk => BlockWriter.slice blk c.offset c.size
  | none => []

def absChunk (F : FSt) (c : Chunk) : Sqfs.Pack.Chunk := ⟨c.index, c.offset, c.flags != 0, c.hash, chunkData F c⟩

structure ChunkGood (F : FSt) (c : Chunk) : Prop where
  inb : ∃ blk, F.fragData c.index = some blk ∧ c.offset + c.size ≤ blk.length
  flags : c.flags = 0 ∨ c.flags = blkDontCompress

/-- what `lookupChunk` compares -/
def ckey (c : Sqfs.Pack.Chunk) : Bool × UInt32 × Bytes := (c.dontCompress, c.cksum, c.data)

theorem lookupChunk_eq (l : List Sqfs.Pack.Chunk) (dc : Bool) (ck : UInt32) (d : Bytes) :
    Sqfs.Pack.lookupChunk l dc ck d = l.find? (ckey · == (dc, ck, d)) :=
  congrArg (l.find? ·) (funext fun _ => Bool.and_assoc _ _ _)

theorem keyFlags_eq (x : Nat) : x &&& blkDontCompress = if hasFlag x blkDontCompress then blkDontCompress else 0 := by
  unfold hasFlag
  rcases FragDedup.dc_cases x with h | h
  · rw [h]; rfl
  · rw [h]; rfl

theorem chunkEq_abs (F : FSt) (c : Chunk) (hg : ChunkGood F c) (d : Bytes) (hd : UInt32) (dc : Bool) :
    chunkEqRef true F d hd (if dc then blkDontCompress else 0) c = (ckey (absChunk F c) == (dc, hd, d)) := by
  obtain ⟨blk, hblk, hin⟩ := hg.inb
  have hfl : (c.flags != (if dc then blkDontCompress else 0)) = !((c.flags != 0) == dc) := by
    rcases hg.flags with h | h <;> rw [h] <;> cases dc <;> decide
  show _ = ((c.flags != 0) == dc && (c.hash == hd && chunkData F c == d))
  unfold chunkEqRef chunkData
  rw [hblk, hfl]
  by_cases hs : BlockWriter.slice blk c.offset c.size = d
  · -- equal bytes, hence equal sizes
    have hsz : c.size = d.length := by rw [← hs]; exact (List.length_take_drop blk hin).symm
    have e1 : (d.length != d.length) = false := bne_self_eq_false _
    have e2 : (c.hash != hd) = !(c.hash == hd) := rfl
    dsimp only
    rw [hsz] at hs ⊢
    rw [hs, e1, e2, beq_self_eq_true d]
    generalize ((c.flags != 0) == dc) = a
    generalize (c.hash == hd) = b
    cases a <;> cases b <;> rfl
  · rw [beq_false_of_ne hs, Bool.and_false, Bool.and_false]
    dsimp only
    rw [beq_false_of_ne hs]
    exact ite_self _

theorem find_abs (F : FSt) (l : List Chunk) (hg : ∀ c ∈ l, ChunkGood F c) (d : Bytes) (hd : UInt32) (dc : Bool) :
    (l.find? (chunkEqRef true F d hd (if dc then blkDontCompress else 0))).map (absChunk F) =
      Sqfs.Pack.lookupChunk (l.map (absChunk F)) dc hd d := by
  rw [lookupChunk_eq, List.find?_map, ← List.head?_filter, ← List.head?_filter,
    List.filter_congr (fun c hc => chunkEq_abs F c (hg c hc) d hd dc)]
  rfl

/-- as far as lookups by key see, `insertRef` under the test "same key as `new`" puts `new` in front (`g`: how an entry is read, `κ`: its key) -/
theorem lookup_insertRef {β K : Type} [BEq K] [LawfulBEq K] (g : Chunk → β) (κ : β → K) (eq : Chunk → Bool) (new : Chunk) (k : K) :
    ∀ l : List Chunk, (∀ c ∈ l, eq c = (κ (g c) == κ (g new))) →
      ((insertRef eq new l).map g).find? (κ · == k) = (g new :: l.map g).find? (κ · == k) := by
  intro l
  induction l with
  | nil => intro _; rfl
  | cons c rest ih =>
    intro heq
    have ih' := ih (fun c' hc' => heq c' (List.mem_cons_of_mem _ hc'))
    have hc := heq c List.mem_cons_self
    unfold insertRef
    rw [List.find?_cons] at ih' ⊢
    by_cases he : eq c = true
    · -- `c` is replaced: it has the key of `new`, so whatever finds `c` finds `new` first
      rw [if_pos he, List.map_cons, List.map_cons, List.find?_cons, List.find?_cons,
        show κ (g c) = κ (g new) from eq_of_beq (hc.symm.trans he)]
      cases κ (g new) == k <;> rfl
    · -- `c` stays: a key that finds `c` is not the key of `new`
      rw [if_neg he, List.map_cons, List.map_cons, List.find?_cons, List.find?_cons, ih']
      by_cases hm : (κ (g c) == k) = true
      · rw [hm, show (κ (g new) == k) = false from Bool.eq_false_iff.mpr fun hn =>
          he (hc.trans (beq_iff_eq.mpr ((eq_of_beq hm).trans (eq_of_beq hn).symm)))]
      · rw [Bool.eq_false_iff.mpr hm]

end Sqfs.BlockProc
