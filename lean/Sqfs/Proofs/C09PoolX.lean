/-
The C09 extension (`Model/C09PoolX.lean`): the extended steps as rules (`XStep`, `xstep_iff`); the inductions over the
extended executions are case analyses on the rules.  They give the projection onto the base model (`xreachable_base`) and
where the context pointers come from (`InvX`, `ctxInUse_logged`: a non-NULL pointer was passed for that worker by a
logged `set_worker_ptr` call), which is what the context clause rests on.
-/
import Sqfs.Proofs.Pool
import Sqfs.Model.C09PoolX

theorem List.getD_cases {α : Type} (l : List α) (i : Nat) (d : α) : l[i]? = some (l.getD i d) ∨ l.getD i d = d := by
  cases h : l[i]? with
  | none => right; simp [List.getD, h]
  | some a => left; simp [List.getD, h]

namespace Sqfs.Pool
open List

inductive XStep (cfg : Cfg) (xs : XState) : XChoice → XState → Prop where
  /-- a worker step during which the callback ran and returned -/
  | leave (i : Nat) (spur : Bool) (b' : State) (it : Item) : stepWorker cfg xs.base i spur = some b' →
      xs.base.workers[i]? = some (.working it) →
      XStep cfg xs (.base (.worker i spur)) { xs with base := b', log := xs.log ++ [.leave i] }
  /-- a worker step that takes `it` from the queue: the callback is entered with the worker's `user` as it is now -/
  | enter (i : Nat) (spur : Bool) (b' : State) (it : Item) : stepWorker cfg xs.base i spur = some b' →
      (∀ it', xs.base.workers[i]? ≠ some (.working it')) → b'.workers[i]? = some (.working it) →
      XStep cfg xs (.base (.worker i spur))
        { xs with base := b', ctxAt := xs.ctxAt.set i (xs.users.getD i 0),
                  log := xs.log ++ [.enter i (xs.users.getD i 0) it.data] }
  | worker (i : Nat) (spur : Bool) (b' : State) : stepWorker cfg xs.base i spur = some b' →
      (∀ it', xs.base.workers[i]? ≠ some (.working it')) → (∀ it, b'.workers[i]? ≠ some (.working it)) →
      XStep cfg xs (.base (.worker i spur)) { xs with base := b' }
  /-- `set_worker_ptr` from its lock to the return -/
  | store (i p : Nat) : xs.setPtr = some (i, p) →
      XStep cfg xs (.base (.main (.cont false))) { xs with users := xs.users.set i p, setPtr := none }
  | main (mc : MChoice) (b' : State) : xs.setPtr = none → stepMain cfg xs.base mc = some b' →
      XStep cfg xs (.base (.main mc)) { xs with base := b' }
  | setPtr (i p : Nat) : xs.base.main = .idle → xs.setPtr = none → i < xs.users.length →
      XStep cfg xs (.setPtr i p) { xs with setPtr := some (i, p), log := xs.log ++ [.setPtr i p] }
  /-- `set_worker_ptr` with an index out of range returns at once -/
  | setPtrRange (i p : Nat) : xs.base.main = .idle → xs.setPtr = none → ¬ i < xs.users.length →
      XStep cfg xs (.setPtr i p) xs
  | oom (d : Nat) : xs.base.main = .idle → xs.setPtr = none → xs.base.recycle = 0 →
      XStep cfg xs (.submitOom d) { xs with log := xs.log ++ [.oom d] }
  /-- `submit` with a non-empty `recycle` list does not call `calloc` -/
  | submit (d : Nat) (b' : State) : xs.base.main = .idle → xs.setPtr = none → xs.base.recycle ≠ 0 →
      stepMain cfg xs.base (.call (.submit d)) = some b' → XStep cfg xs (.submitOom d) { xs with base := b' }

theorem xstep_iff {cfg : Cfg} {xs xs' : XState} {c : XChoice} : xstep cfg xs c = some xs' ↔ XStep cfg xs c xs' := by
  constructor
  · intro h
    revert h
    fun_cases xstep cfg xs c <;> intro h
    · rename_i i spur
      revert h
      fun_cases xstepWorker cfg xs i spur <;> intro h <;> cases h
      · exact .leave _ _ _ _ ‹_› ‹_›
      · exact .enter _ _ _ _ ‹_› ‹_› ‹_›
      · exact .worker _ _ _ ‹_› ‹_› ‹_›
    · cases h; exact .store _ _ ‹_›
    · cases h
    · cases h
    · cases h; exact .main _ _ ‹_› ‹_›
    · cases h; exact .setPtr _ _ (‹_ ∧ _›).1 (‹_ ∧ _›).2 ‹_›
    · cases h; exact .setPtrRange _ _ (‹_ ∧ _›).1 (‹_ ∧ _›).2 ‹_›
    · cases h
    · cases h; exact .oom _ (‹_ ∧ _›).1 (‹_ ∧ _›).2 ‹_›
    · cases h
    · cases h; exact .submit _ _ (‹_ ∧ _›).1 (‹_ ∧ _›).2 ‹_› ‹_›
    · cases h
  · intro h
    cases h with
    | leave i spur b' it hb hw => simp [xstep, xstepWorker, hb, hw]
    -- the side conditions of the overlapping `match`es of `xstepWorker` are found among the hypotheses
    | enter i spur b' it hb hw hw' => simp [xstep, xstepWorker, hb, hw']
    | worker i spur b' hb hw hw' => simp [xstep, xstepWorker, hb]
    | store i p hp => simp [xstep, hp]
    | main mc b' hp hb => simp [xstep, hp, hb]
    | setPtr i p hm hp hi => simp [xstep, hm, hp, hi]
    | setPtrRange i p hm hp hi => simp [xstep, hm, hp, hi]
    | oom d hm hp h0 => simp [xstep, hm, hp, h0]
    | submit d b' hm hp h0 hb => simp [xstep, hm, hp, h0, hb]

theorem xreachable_base {cfg : Cfg} {n : Nat} {xs : XState} (hr : XReachable cfg n xs) :
    Reachable cfg n xs.base := by
  induction hr with
  | init => exact .init
  | step c _ hs ih =>
    cases xstep_iff.1 hs with
    | leave i spur b' _ hb _ | enter i spur b' _ hb _ _ | worker i spur b' hb _ _ => exact .step (.worker i spur) ih hb
    | main mc b' _ hb => exact .step (.main mc) ih hb
    | submit d b' _ _ _ hb => exact .step (.main (.call (.submit d))) ih hb
    | store | setPtr | setPtrRange | oom => exact ih

theorem xreachable_ctxAt_length {cfg : Cfg} {n : Nat} {xs : XState} (hr : XReachable cfg n xs) : xs.ctxAt.length = n := by
  induction hr with
  | init => exact length_replicate
  | step c _ hs ih =>
    cases xstep_iff.1 hs with
    | enter => exact length_set.trans ih
    | leave | worker | store | main | setPtr | setPtrRange | oom | submit => exact ih

/-- where the pointers come from: a non-NULL pointer, wherever it sits (a worker's `user` field, the context a worker
read at its last callback entry, the argument of a `set_worker_ptr` call in progress), was passed for that worker by a
`set_worker_ptr` call among the events `L` -/
structure InvX (L : List XEvent) (xs : XState) : Prop where
  users : ∀ i p, xs.users[i]? = some p → p ≠ 0 → .setPtr i p ∈ L
  ctxAt : ∀ i p, xs.ctxAt[i]? = some p → p ≠ 0 → .setPtr i p ∈ L
  pend : ∀ i p, xs.setPtr = some (i, p) → p ≠ 0 → .setPtr i p ∈ L

theorem InvX.mono {L : List XEvent} {xs : XState} (h : InvX L xs) (l : List XEvent) : InvX (L ++ l) xs :=
  ⟨fun i p hi hp => mem_append_left l (h.users i p hi hp), fun i p hi hp => mem_append_left l (h.ctxAt i p hi hp),
   fun i p hi hp => mem_append_left l (h.pend i p hi hp)⟩

theorem invX_reachable {cfg : Cfg} {n : Nat} {xs : XState} (hr : XReachable cfg n xs) : InvX xs.log xs := by
  induction hr with
  | init =>
    have h0 : ∀ i p, (replicate n 0)[i]? = some p → p ≠ 0 → XEvent.setPtr i p ∈ [] :=
      fun i p h hp => absurd (eq_of_mem_replicate (mem_of_getElem? h)) hp
    exact ⟨h0, h0, nofun⟩
  | @step xs _ c _ hs ih =>
    cases xstep_iff.1 hs with
    | enter i spur b' it _ _ _ =>
      -- the context read is the worker's own `user` field
      have h := ih.mono [.enter i (xs.users.getD i 0) it.data]
      refine ⟨h.users, fun j q hj hq => ?_, h.pend⟩
      rcases getElem?_set_cases hj with ⟨rfl, rfl⟩ | ⟨_, hj'⟩
      · rcases getD_cases xs.users i 0 with hu | hu
        · exact h.users i _ hu hq
        · exact absurd hu hq
      · exact h.ctxAt j q hj' hq
    | store i p hp =>
      refine ⟨fun j q hj hq => ?_, ih.ctxAt, nofun⟩
      rcases getElem?_set_cases hj with ⟨rfl, rfl⟩ | ⟨_, hj'⟩
      · exact ih.pend i q hp hq
      · exact ih.users j q hj' hq
    | setPtr i p _ _ _ =>
      have h := ih.mono [.setPtr i p]
      refine ⟨h.users, h.ctxAt, fun j q hj _ => ?_⟩
      cases hj
      exact mem_append_right _ (mem_singleton_self _)
    | leave | oom => exact ⟨(ih.mono _).users, (ih.mono _).ctxAt, (ih.mono _).pend⟩
    | worker | main | setPtrRange | submit => exact ⟨ih.users, ih.ctxAt, ih.pend⟩

theorem ctxAt_of_ctxInUse {xs : XState} {i p : Nat} (h : ctxInUse xs i = some p) : xs.ctxAt[i]? = some p := by
  unfold ctxInUse at h
  split at h
  · exact h
  · cases h

theorem ctxInUse_logged {cfg : Cfg} {n : Nat} {xs : XState} (hr : XReachable cfg n xs) {i p : Nat}
    (h : ctxInUse xs i = some p) (hp : p ≠ 0) : .setPtr i p ∈ xs.log :=
  (invX_reachable hr).ctxAt i p (ctxAt_of_ctxInUse h) hp

theorem xstep_of_base (cfg : Cfg) {xs : XState} {bc : Choice} {b' : State} (hsp : xs.setPtr = none)
    (h : step cfg xs.base bc = some b') : ∃ xs', xstep cfg xs (.base bc) = some xs' ∧ xs'.base = b' := by
  cases bc with
  | main mc => exact ⟨_, xstep_iff.2 (.main mc b' hsp h), rfl⟩
  | worker i spur =>
    simp only [xstep, xstepWorker, show stepWorker cfg xs.base i spur = some b' from h]
    split
    · exact ⟨_, rfl, rfl⟩
    · split <;> exact ⟨_, rfl, rfl⟩

end Sqfs.Pool
