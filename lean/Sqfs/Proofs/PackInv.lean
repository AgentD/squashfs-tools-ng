/-
Invariant framework for `packFiles` (`packFiles_inv`: a state invariant `Inv`, a fact `Good` about each file that packing later
files keeps, a relation `Rel` between an earlier and a later file) and the global (cross-file) lemmas behind
`layout_follows_order`, `dont_dedup_effect` and the fragment-block part of `dont_compress_effect`.
-/
import Sqfs.Proofs.PackStep
namespace Sqfs.Pack

section framework
variable (P : Params) (Inv : State → Prop) (Good : State → InFile → FileResult → Prop)
variable (hstep : ∀ σ f, Inv σ → Inv (packFile P σ f).1 ∧ Good (packFile P σ f).1 f (packFile P σ f).2)
variable (hmono : ∀ σ f g r, Good σ g r → Good (packFile P σ f).1 g r)
variable (Rel : InFile → FileResult → InFile → FileResult → Prop)
variable (hrel : ∀ σ g rg f, Good σ g rg → Rel g rg f (packFile P σ f).2)
include hstep hmono hrel

theorem packFiles_later (g : InFile) (rg : FileResult) : ∀ (fs : List InFile) (σ : State), Inv σ → Good σ g rg →
    Good (packFiles P σ fs).1 g rg ∧ ∀ j (h : j < fs.length), ∃ r, (packFiles P σ fs).2[j]? = some r ∧ Rel g rg fs[j] r := by
  intro fs
  induction fs with
  | nil => intro σ _ hg; exact ⟨hg, fun j h => absurd h (Nat.not_lt_zero j)⟩
  | cons f fs ih =>
    intro σ hi hg
    obtain ⟨h1, h2⟩ := ih _ (hstep σ f hi).1 (hmono σ f g rg hg)
    refine ⟨h1, fun j h => ?_⟩
    cases j with
    | zero => exact ⟨_, rfl, hrel σ g rg f hg⟩
    | succ j => exact h2 j (Nat.lt_of_succ_lt_succ h)

/-- `Rel` between an earlier and a later file is established when the later one is packed -/
theorem packFiles_inv : ∀ (fs : List InFile) (σ : State), Inv σ →
    (∀ i (h : i < fs.length), ∃ r, (packFiles P σ fs).2[i]? = some r ∧ Good (packFiles P σ fs).1 fs[i] r)
    ∧ ∀ i j (hij : i < j) (hj : j < fs.length), ∃ ri rj, (packFiles P σ fs).2[i]? = some ri
        ∧ (packFiles P σ fs).2[j]? = some rj ∧ Rel (fs[i]'(by omega)) ri fs[j] rj := by
  intro fs
  induction fs with
  | nil => intro σ _; exact ⟨fun i h => absurd h (Nat.not_lt_zero i), fun i j _ hj => absurd hj (Nat.not_lt_zero j)⟩
  | cons f fs ih =>
    intro σ hi
    have h1 := hstep σ f hi
    obtain ⟨hG, hR⟩ := ih _ h1.1
    obtain ⟨k1, k2⟩ := packFiles_later P Inv Good hstep hmono Rel hrel f _ fs _ h1.1 h1.2
    refine ⟨fun i h => ?_, fun i j hij hj => ?_⟩
    · cases i with
      | zero => exact ⟨_, rfl, k1⟩
      | succ i => exact hG i (Nat.lt_of_succ_lt_succ h)
    · cases j with
      | zero => exact absurd hij (Nat.not_lt_zero i)
      | succ j =>
        cases i with
        | zero =>
          obtain ⟨r, hr, hR'⟩ := k2 j (Nat.lt_of_succ_lt_succ hj)
          exact ⟨_, r, rfl, hr, hR'⟩
        | succ i => exact hR i j (Nat.lt_of_succ_lt_succ hij) (Nat.lt_of_succ_lt_succ hj)

theorem packFiles_rel (fs : List InFile) (σ : State) (hi : Inv σ) (i j : Nat) (hij : i < j) (hj : j < fs.length) :
    ∃ ri rj, (packFiles P σ fs).2[i]? = some ri ∧ (packFiles P σ fs).2[j]? = some rj ∧ Rel (fs[i]'(by omega)) ri fs[j] rj :=
  (packFiles_inv P Inv Good hstep hmono Rel hrel fs σ hi).2 i j hij hj

omit hrel in
/-- the per-file facts alone, where no relation between files is wanted -/
theorem packFiles_good (fs : List InFile) (σ : State) (hi : Inv σ) (i : Nat) (h : i < fs.length) :
    ∃ r, (packFiles P σ fs).2[i]? = some r ∧ Good (packFiles P σ fs).1 fs[i] r :=
  (packFiles_inv P Inv Good hstep hmono (fun _ _ _ _ => True) (fun _ _ _ _ _ => trivial) fs σ hi).1 i h

end framework

theorem closeOpen_hist_prefix (P : Params) (σ : State) : σ.hist <+: (closeOpen P σ).hist := by
  unfold closeOpen
  cases σ.openFrag
  · exact List.prefix_refl _
  · exact List.prefix_append _ _

theorem TailStep.hist_prefix {P : Params} {F : Flags} {t : Bytes} {σ σ' : State} {i o : Nat}
    (h : TailStep P F t σ σ' i o) : σ.hist <+: σ'.hist := by
  induction h with
  | hit => exact List.prefix_refl _
  | append => exact List.prefix_refl _
  | fresh => exact List.prefix_refl _
  | close σ _ _ _ _ ih => exact (closeOpen_hist_prefix P σ).trans ih

theorem afterBlocks_prefix_packFile (P : Params) (σ : State) (f : InFile) :
    (afterBlocks P σ f).hist <+: (packFile P σ f).1.hist :=
  packFile_state P σ f (List.prefix_refl _) (fun _ _ _ hts => hts.hist_prefix)

theorem packFile_hist_prefix (P : Params) (σ : State) (f : InFile) : σ.hist <+: (packFile P σ f).1.hist :=
  (placeBlocks_prefix _ _ _ _).trans (afterBlocks_prefix_packFile P σ f)

/-- on-disk bytes referenced by the block words -/
def diskBytes (ws : List Word) : Nat := (ws.map Word.diskSize).sum

theorem diskBytes_cons (w : Word) (ws : List Word) : diskBytes (w :: ws) = w.diskSize + diskBytes ws := rfl

theorem diskBytes_append (a b : List Word) : diskBytes (a ++ b) = diskBytes a + diskBytes b := by
  simp [diskBytes]

theorem diskBytes_worked (l : List Worked) : diskBytes (l.map Worked.word) = bytesOf (l.filterMap Worked.stored?) := by
  induction l with
  | nil => rfl
  | cons w t ih =>
    rw [List.map_cons, diskBytes_cons, ih]
    cases w with
    | sparse n => exact Nat.zero_add _
    | stored s => exact (bytesOf_cons s _).symm

theorem packFile_diskBytes (P : Params) (σ : State) (f : InFile) :
    diskBytes (packFile P σ f).2.words = bytesOf (mineOf P f) := by
  rw [packFile_words, mineOf_eq, diskBytes_worked]

theorem packFile_end_le (P : Params) (σ : State) (f : InFile) :
    (packFile P σ f).2.start + diskBytes (packFile P σ f).2.words ≤ P.base + bytesOf (packFile P σ f).1.hist := by
  have hstart := packFile_start P σ f
  have hle := prefix_bytesOf_le (afterBlocks_prefix_packFile P σ f)
  have := (placeBlocks_end_le P.base f.flags.dontDedup σ.hist (mineOf P f)).1
  rw [packFile_diskBytes, hstart]
  simp only [afterBlocks] at hle
  omega

theorem packFile_own_start (P : Params) (σ : State) (f : InFile) (hm : mineOf P f ≠ [])
    (hns : (packFile P σ f).2.shared = false) : (packFile P σ f).2.start = P.base + bytesOf σ.hist := by
  obtain ⟨pre, _, h⟩ := placeBlocks_spec P.base f.flags.dontDedup σ.hist (mineOf P f) hm
  rw [packFile_start, h.start, (h.own (packFile_shared P σ f ▸ hns)).1]

theorem packFile_dontDedup_not_shared (P : Params) (σ : State) (f : InFile) (hdd : f.flags.dontDedup = true) :
    (packFile P σ f).2.shared = false := by
  rw [packFile_shared, hdd, placeBlocks_dontDedup]

theorem blocks_before (P : Params) (fs : List InFile) (i j : Nat) (hij : i < j) (hj : j < fs.length) :
    ∃ ri rj, (specPack P fs).files[i]? = some ri ∧ (specPack P fs).files[j]? = some rj ∧
      (rj.shared = false → diskBytes rj.words > 0 → ri.start + diskBytes ri.words ≤ rj.start)
      ∧ (fs[j].flags.dontDedup = true → rj.shared = false) := by
  rw [specPack_files]
  refine packFiles_rel P (fun _ => True)
    (fun σ _ r => r.start + diskBytes r.words ≤ P.base + bytesOf σ.hist)
    (fun σ f _ => ⟨trivial, packFile_end_le P σ f⟩)
    (fun σ f _ r h => Nat.le_trans h (Nat.add_le_add_left (prefix_bytesOf_le (packFile_hist_prefix P σ f)) _))
    (fun _ rg f r => (r.shared = false → diskBytes r.words > 0 → rg.start + diskBytes rg.words ≤ r.start)
        ∧ (f.flags.dontDedup = true → r.shared = false))
    ?_ fs {} trivial i j hij hj
  intro σ g rg f hg
  refine ⟨?_, packFile_dontDedup_not_shared P σ f⟩
  intro hns hpos
  have hm : mineOf P f ≠ [] := by
    intro e; rw [packFile_diskBytes, e] at hpos; simp [bytesOf] at hpos
  rw [packFile_own_start P σ f hm hns]
  exact hg

/-- what a rule gives for the table entry of the block a tail end went into holds in the layout `specPack` returns -/
theorem specPack_frag {P : Params} (R : FragRule P) (fs : List InFile) (i : Nat) (h : i < fs.length) :
    ∃ r, (specPack P fs).files[i]? = some r ∧ ∀ k o, r.frag = some (k, o) →
      ∃ e, (specPack P fs).frags[k]? = some e ∧ R.C (chunkOf P fs[i] k o) (specPack P fs).blocks e := by
  obtain ⟨r, hr, hg⟩ := packFiles_good P (ChunksIn R) (FragGood R) (frag_step R)
    (frag_mono R) fs {} (chunksIn_init R) i h
  refine ⟨r, hr, fun k o hk => ?_⟩
  -- after the final `closeOpen` there is no open block left
  rcases (hg k o hk).closeOpen with h | ⟨_, fb, hfb, _⟩
  · exact h
  · rw [closeOpen_openFrag] at hfb; cases hfb

/-- a fragment reference `(i, o)` of `n` bytes points into a written block or into the open block -/
def SlotOK (σ : State) (i o n : Nat) : Prop :=
  i < σ.frags.length ∨ (i = σ.frags.length ∧ ∃ fb, σ.openFrag = some fb ∧ o + n ≤ fb.data.length)

theorem slotOK_afterBlocks (P : Params) (σ : State) (f : InFile) (i o n : Nat) :
    SlotOK (afterBlocks P σ f) i o n ↔ SlotOK σ i o n := Iff.rfl

/-- a tail lies inside the open block -/
def slotRule (P : Params) : FragRule P where
  C _ _ _ := True
  O c fb := c.offset + c.data.length ≤ fb.data.length
  hist _ _ := trivial
  grow _ _ h := by rw [List.length_append]; exact Nat.le_trans h (Nat.le_add_right _ _)
  close _ _ := trivial
  fresh _ _ _ t := Nat.le_of_eq (Nat.zero_add _)
  append _ _ _ t fb := Nat.le_of_eq List.length_append.symm

theorem Slot.slotOK {P : Params} {σ : State} {c : Chunk} {i : Nat} (h : Slot (slotRule P) c σ i) :
    SlotOK σ i c.offset c.data.length :=
  h.imp (fun ⟨_, he, _⟩ => (List.getElem?_eq_some_iff.1 he).1) id

theorem TailStep.new_disjoint {P : Params} {F : Flags} {t : Bytes} {σ σ' : State} {b o' : Nat}
    (h : TailStep P F t σ σ' b o') (hdd : F.dontDedup = true) (a : Nat) (c : Chunk) (hs : Slot (slotRule P) c σ a) :
    a ≠ b ∨ c.offset + c.data.length ≤ o' := by
  induction h with
  | hit σ i o hm hd => rw [hdd] at hd; cases hd
  | append σ fb ho =>
    rcases hs.slotOK with hs | ⟨ha, fb', hfb, hle⟩
    · exact Or.inl (Nat.ne_of_lt hs)
    · cases ho.symm.trans hfb
      exact Or.inr hle
  | fresh σ ho =>
    rcases hs.slotOK with hs | ⟨ha, fb', hfb, hle⟩
    · exact Or.inl (Nat.ne_of_lt hs)
    · cases ho.symm.trans hfb
  | close _ _ _ _ _ ih => exact ih hs.closeOpen

theorem frag_slot_disjoint (P : Params) (fs : List InFile) (i j : Nat) (hij : i < j) (hj : j < fs.length) :
    ∃ ri rj, (specPack P fs).files[i]? = some ri ∧ (specPack P fs).files[j]? = some rj ∧
      (fs[j].flags.dontDedup = true → ∀ a o b o', ri.frag = some (a, o) → rj.frag = some (b, o') →
        a ≠ b ∨ o + (fs[i]'(by omega)).data.length % P.B ≤ o') := by
  rw [specPack_files]
  refine packFiles_rel P _ _ (frag_step (slotRule P)) (frag_mono (slotRule P))
    (fun g rg f r => f.flags.dontDedup = true → ∀ a o b o', rg.frag = some (a, o) → r.frag = some (b, o') →
        a ≠ b ∨ o + g.data.length % P.B ≤ o')
    ?_ fs {} (chunksIn_init _) i j hij hj
  intro σ g rg f hg hdd a o b o' hra hrb
  rcases packFile_step P σ f with ⟨_, hfr⟩ | ⟨i', o'', hfr, hts⟩
  · rw [hfr] at hrb; cases hrb
  · rw [hfr] at hrb; cases hrb
    rw [← tailOf_length]
    exact hts.new_disjoint hdd a _ (hg a o hra)

theorem workFragBlock_raw (P : Params) (fb : FragBlock) (h : fb.dontCompress = true) : (workFragBlock P fb).raw = true := by
  rw [workFragBlock, h]
  exact encode_raw_of_dontCompress P _ _

/-- a `dont_compress` tail marks the open block, and a marked block is stored raw -/
def rawRule (P : Params) : FragRule P where
  C c _ e := c.dontCompress = true → e.raw = true
  O c fb := c.dontCompress = true → fb.dontCompress = true
  hist _ h := h
  grow _ _ h hc := by simp [h hc]
  close _ h hc := workFragBlock_raw P _ (h hc)
  fresh _ _ _ _ h := h
  append _ dc _ _ _ (h : dc = true) := by simp [h]

theorem dont_compress_frag_raw (P : Params) (fs : List InFile) (i : Nat) (h : i < fs.length)
    (hf : fs[i].flags.dontCompress = true) :
    ∃ r, (specPack P fs).files[i]? = some r ∧
      ∀ k o, r.frag = some (k, o) → ∃ e, (specPack P fs).frags[k]? = some e ∧ e.raw = true :=
  (specPack_frag (rawRule P) fs i h).imp fun _ hr => ⟨hr.1, fun k o hk => (hr.2 k o hk).imp fun _ he => ⟨he.1, he.2 hf⟩⟩

end Sqfs.Pack
