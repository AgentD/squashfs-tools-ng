/-
C13 — lemmas about the skeleton walk `runSites` and the phases of `run`, and the observation of a model run on which
the specification's oracle is evaluated (`observed`, `observedReader`).

The walk is read through its two equations on a site (`runSites_ok`: `okStep`; `runSites_fail`: `failAt`, where the result
is tested).  For every variant: `runSites_clean` (no fault in reach), `Framed` (what any walk does to the bookkeeping),
`run_cases` (the ways through `main`), `run_safe`.  Under `AllChecked`: the first fault ends the walk
(`runSites_first_fault`), and the phases in a row are one walk over the program (`runSites_append`, `run_walk`).
-/
import Sqfs.Model.FailStop
import Sqfs.Spec.FailStop
namespace Sqfs.FailStop

/-- trace extension by a site that succeeds -/
def okStep (c : Cfg) (t : Trace) (s : Site) : Trace :=
  effect c s { t with msgs := t.msgs ++ says c.quiet s, ran := t.ran ++ [s], ops := t.ops ++ emits s }

def okAll (c : Cfg) (sites : List Site) (t : Trace) : Trace := sites.foldl (okStep c) t

theorem okAll_cons (c : Cfg) (s : Site) (rest : List Site) (t : Trace) :
    okAll c (s :: rest) t = okAll c rest (okStep c t s) := rfl

/-- trace extension by a site whose failure is reported -/
def failAt (c : Cfg) (t : Trace) (s : Site) : Trace :=
  { t with msgs := t.msgs ++ says c.quiet s, ran := t.ran ++ [s], failed := some s }

/-! `effect` touches only the working directory and the remembered name -/
@[simp] theorem effect_ops (c : Cfg) (s : Site) (t : Trace) : (effect c s t).ops = t.ops := by
  unfold effect; split <;> rfl
@[simp] theorem effect_ran (c : Cfg) (s : Site) (t : Trace) : (effect c s t).ran = t.ran := by
  unfold effect; split <;> rfl
@[simp] theorem effect_msgs (c : Cfg) (s : Site) (t : Trace) : (effect c s t).msgs = t.msgs := by
  unfold effect; split <;> rfl
@[simp] theorem effect_failed (c : Cfg) (s : Site) (t : Trace) : (effect c s t).failed = t.failed := by
  unfold effect; split <;> rfl
@[simp] theorem effect_swallowed (c : Cfg) (s : Site) (t : Trace) : (effect c s t).swallowed = t.swallowed := by
  unfold effect; split <;> rfl

theorem okAll_ops (c : Cfg) (sites : List Site) (t : Trace) :
    (okAll c sites t).ops = t.ops ++ sites.flatMap emits := by
  induction sites generalizing t with
  | nil => simp [okAll]
  | cons s rest ih => simp [okAll_cons, ih, okStep]

theorem okAll_ran (c : Cfg) (sites : List Site) (t : Trace) :
    (okAll c sites t).ran = t.ran ++ sites := by
  induction sites generalizing t with
  | nil => simp [okAll]
  | cons s rest ih => simp [okAll_cons, ih, okStep]

theorem okAll_failed (c : Cfg) (sites : List Site) (t : Trace) :
    (okAll c sites t).failed = t.failed := by
  induction sites generalizing t with
  | nil => rfl
  | cons s rest ih => simp [okAll_cons, ih, okStep]

/-- no fault among the first `n` script entries -/
def allFalse (n : Nat) (fs : List Bool) : Prop := ∀ i, i < n → fs.getD i false = false

theorem allFalse_nil (n : Nat) : allFalse n [] := by
  intro i _; simp

theorem allFalse_zero (fs : List Bool) : allFalse 0 fs := fun _ h => absurd h (Nat.not_lt_zero _)

/-- in the terms of the walk: the head of the script, and its tail -/
theorem allFalse_succ (n : Nat) (fs : List Bool) :
    allFalse (n + 1) fs ↔ fs.headD false = false ∧ allFalse n fs.tail := by
  cases fs with
  | nil => exact ⟨fun _ => ⟨rfl, allFalse_nil n⟩, fun _ => allFalse_nil _⟩
  | cons b fs =>
    constructor
    · intro h
      exact ⟨h 0 (Nat.succ_pos n), fun i hi => h (i + 1) (Nat.succ_lt_succ hi)⟩
    · rintro ⟨hb, h⟩ i hi
      cases i with
      | zero => exact hb
      | succ i => exact h i (Nat.lt_of_succ_lt_succ hi)

theorem runSites_ok {v : Variant} (c : Cfg) (s : Site) (rest : List Site) {fs : List Bool} (t : Trace)
    (h : fs.headD false = false) :
    runSites v c 0 (s :: rest) fs t = runSites v c 0 rest fs.tail (okStep c t s) := by
  simp only [runSites, h, Bool.false_eq_true, if_false]; rfl

theorem runSites_fail {v : Variant} (c : Cfg) {s : Site} (rest : List Site) {fs : List Bool} (t : Trace)
    (hr : reaction v s = .abort) (h : fs.headD false = true) :
    runSites v c 0 (s :: rest) fs t = (false, fs.tail, failAt c t s) := by
  simp only [runSites, h, if_true, hr]; rfl

/-! ### facts that hold for every variant -/

theorem runSites_clean {v : Variant} (c : Cfg) (sites : List Site) (fs : List Bool) (t : Trace)
    (h : allFalse sites.length fs) :
    runSites v c 0 sites fs t = (true, fs.drop sites.length, okAll c sites t) := by
  induction sites generalizing fs t with
  | nil => rfl
  | cons s rest ih =>
    obtain ⟨h0, hr⟩ := (allFalse_succ _ _).1 h
    rw [runSites_ok c s rest t h0, ih _ _ hr, List.drop_tail]; rfl

theorem effect_absName (c : Cfg) (s : Site) (t : Trace) : t.absName = true → (effect c s t).absName = true := by
  intro h; unfold effect; split <;> simp [h]

theorem effect_cwd (c : Cfg) (s : Site) (t : Trace) : s ≠ .chdirPack → (effect c s t).cwd = t.cwd := by
  intro h; unfold effect; split <;> simp_all

/-- What a phase walk does to the bookkeeping in every variant: a phase that succeeds reports no failure; one that
    fails reports one of its own sites, the last one run; once `main` holds the absolute output name it keeps it; the
    process changes directory at `chdirPack` only. -/
structure Framed (sites : List Site) (t : Trace) (ok : Bool) (t' : Trace) : Prop where
  failed_ok : ok = true → t'.failed = t.failed
  failed_stop : ok = false → ∃ s, s ∈ sites ∧ t'.failed = some s ∧ t'.ran.getLast? = some s
  absName : t.absName = true → t'.absName = true
  cwd : Site.chdirPack ∉ sites → t'.cwd = t.cwd

theorem Framed.cons {s : Site} {rest : List Site} {t t₁ t' : Trace} {ok : Bool} (h : Framed rest t₁ ok t')
    (hf : t₁.failed = t.failed) (ha : t.absName = true → t₁.absName = true) (hc : s ≠ .chdirPack → t₁.cwd = t.cwd) :
    Framed (s :: rest) t ok t' where
  failed_ok e := (h.failed_ok e).trans hf
  failed_stop e := by
    obtain ⟨x, hx, r⟩ := h.failed_stop e
    exact ⟨x, List.mem_cons_of_mem _ hx, r⟩
  absName e := h.absName (ha e)
  cwd hm := (h.cwd (fun e => hm (List.mem_cons_of_mem _ e))).trans (hc (fun e => hm (by simp [e])))

theorem runSites_frame {v : Variant} {c : Cfg} {sites : List Site} {skip : Nat} {fs fs' : List Bool} {t t' : Trace}
    {ok : Bool} (h : runSites v c skip sites fs t = (ok, fs', t')) : Framed sites t ok t' := by
  fun_induction runSites v c skip sites fs t with
  | case1 => cases h; exact ⟨fun _ => rfl, nofun, id, fun _ => rfl⟩
  | case2 _ _ _ _ _ ih => exact (ih h).cons rfl id (fun _ => rfl)
  | case3 s => cases h; exact ⟨nofun, fun _ => ⟨s, List.mem_cons_self, rfl, List.getLast?_concat⟩, id, fun _ => rfl⟩
  | case4 _ _ _ _ _ _ _ _ ih => exact (ih h).cons rfl id (fun _ => rfl)
  | case5 s _ _ _ _ _ ih =>
    exact (ih h).cons (effect_failed c s _) (fun e => effect_absName c s _ e) (fun e => effect_cwd c s _ e)

/-! ### variants in which every result is checked -/

def AllChecked (v : Variant) : Prop := ∀ s, reaction v s = .abort

/-- `reaction` swallows a failure at one site only, the export table's root entry -/
theorem allChecked_of_exportChecked {v : Variant} (h : v.exportChecked = true) : AllChecked v := by
  intro s; unfold reaction; split <;> simp [h]

theorem beforeRealpath_allChecked : AllChecked Variant.beforeRealpath := allChecked_of_exportChecked rfl

theorem fixed_allChecked : AllChecked Variant.fixed := allChecked_of_exportChecked rfl

/-- /repo at d69b61b (and since): every result of the skeleton is tested. -/
theorem current_allChecked : AllChecked Variant.current := allChecked_of_exportChecked rfl

section
variable {v : Variant} (hA : AllChecked v) (c : Cfg) (sites : List Site) (fs : List Bool) (t : Trace)
include hA

theorem allFalse_of_runSites_ok (h : (runSites v c 0 sites fs t).1 = true) : allFalse sites.length fs := by
  induction sites generalizing fs t with
  | nil => exact allFalse_zero fs
  | cons s rest ih =>
    cases h0 : fs.headD false with
    | true => rw [runSites_fail c rest t (hA s) h0] at h; cases h
    | false => rw [runSites_ok c s rest t h0] at h; exact (allFalse_succ _ _).2 ⟨h0, ih _ _ h⟩
end

section
variable {v : Variant} (hA : AllChecked v) {c : Cfg} {a : List Site} {fs fs' : List Bool} {t t' : Trace}
include hA

theorem runSites_append {ok : Bool} (h : runSites v c 0 a fs t = (ok, fs', t')) (b : List Site) :
    runSites v c 0 (a ++ b) fs t = if ok then runSites v c 0 b fs' t' else (false, fs', t') := by
  induction a generalizing fs t with
  | nil => cases h; rfl
  | cons s rest ih =>
    rw [List.cons_append]
    cases h0 : fs.headD false with
    | true => rw [runSites_fail c _ t (hA s) h0] at h; cases h; exact runSites_fail c _ t (hA s) h0
    | false => rw [runSites_ok c s _ t h0] at h ⊢; exact ih h

theorem runSites_stop (b : List Site) (h : runSites v c 0 a fs t = (false, fs', t')) :
    runSites v c 0 (a ++ b) fs t = (false, fs', t') :=
  runSites_append hA h b

theorem runSites_go {b : List Site} {r : Bool × List Bool × Trace} (h : runSites v c 0 a fs t = (true, fs', t'))
    (hb : runSites v c 0 b fs' t' = r) : runSites v c 0 (a ++ b) fs t = r := by
  rw [runSites_append hA h]; exact hb
end

theorem runSites_first_fault {v : Variant} (hA : AllChecked v) (c : Cfg) (sites : List Site) (fs : List Bool) (t : Trace)
    {k : Nat} (hk : k < sites.length) (h1 : allFalse k fs) (h2 : fs.getD k false = true) :
    ∃ fs' t', runSites v c 0 sites fs t = (false, fs', t') ∧ t'.ran = t.ran ++ sites.take (k + 1) ∧
      t'.ops = t.ops ++ (sites.take k).flatMap emits ∧ t'.failed = sites[k]? := by
  -- the sites in front of the `k`-th are walked without a fault, then the `k`-th fails
  have hl : (sites.take k).length = k := List.length_take_of_le (Nat.le_of_lt hk)
  have clean := runSites_clean (v := v) c (sites.take k) fs t (hl.symm ▸ h1)
  rw [hl] at clean
  have fault : (fs.drop k).headD false = true := by
    rw [← h2, List.getD_eq_getElem?_getD, List.headD_eq_head?_getD, List.head?_drop]
  have hw := runSites_go hA clean (runSites_fail c (sites.drop (k + 1)) _ (hA sites[k]) fault)
  rw [← List.drop_eq_getElem_cons hk, List.take_append_drop] at hw
  refine ⟨_, _, hw, ?_, okAll_ops .., ?_⟩
  · rw [List.take_succ_eq_append_getElem hk, ← List.append_assoc, ← okAll_ran c]; rfl
  · rw [List.getElem?_eq_getElem hk]; rfl

/-! ### the working directory and the remembered output name -/

theorem chdirPack_not_mem_packSites (b : Bool) : ∀ (n i : Nat), Site.chdirPack ∉ packSites b n i := by
  intro n
  induction n with
  | zero => intro i; simp [packSites]
  | succ n ih => intro i; cases b <;> simp [packSites, ih]

theorem chdirPack_not_mem_tarSites : ∀ (es : List TarEnt) (i : Nat), Site.chdirPack ∉ tarSites es i := by
  intro es
  induction es with
  | nil => intro i; simp [tarSites]
  | cons e rest ih =>
    intro i
    have := ih (i + 1)
    cases e.link <;> cases e.skipped <;> simp [tarSites, this]

/-- `pack_files` of gensquashfs, and only with a pack directory, is where the process changes directory. -/
theorem chdirPack_mem_phase {v : Variant} {c : Cfg} {sites : List Site}
    (hm : sites ∈ [preSites c, initSites c, bodySites v c, finishSites c]) (h : Site.chdirPack ∈ sites) :
    sites = bodySites v c ∧ c.tool = .gensquashfs ∧ c.packDir = true := by
  simp only [List.mem_cons, List.not_mem_nil, or_false] at hm
  rcases hm with rfl | rfl | rfl | rfl
  · exact absurd h (by unfold preSites; split <;> simp)
  · exact absurd h (by simp [initSites])
  · refine ⟨rfl, ?_⟩
    revert h
    unfold bodySites
    cases c.tool
    · cases c.packDir
      · simp [chdirPack_not_mem_packSites]
        split <;> simp
      · exact fun _ => ⟨rfl, rfl⟩
    · simp [chdirPack_not_mem_tarSites]
  · exact absurd h (by simp [finishSites])

/-! ### the phases of `main` -/

/-- The ways through `main` of the packers: a failure before the writer exists, inside `sqfs_writer_init`, or behind
    it, where the cleanup is reached; or all four phases succeed. -/
theorem run_cases (v : Variant) (c : Cfg) (fs : List Bool) :
    (∃ t s, t.failed = some s ∧ t.ran.getLast? = some s ∧
      ((s ∈ preSites c ∧ run v c fs = ⟨1, .never, false, false, none, t⟩) ∨
       (s ∈ initSites c ∧ run v c fs = ⟨1, (afterFailedInit v c t).1, false, false, (afterFailedInit v c t).2, t⟩) ∨
       (s ∈ bodySites v c ++ finishSites c ∧
         run v c fs = ⟨1, (cleanup c 1 t).1, true, false, (cleanup c 1 t).2, t⟩))) ∨
    (∃ t, t.failed = none ∧ run v c fs = ⟨0, .present, true, true, none, t⟩) := by
  fun_cases run v c fs
  next h =>
    obtain ⟨s, hs, hf, hl⟩ := (runSites_frame h).failed_stop rfl
    exact Or.inl ⟨_, s, hf, hl, Or.inl ⟨hs, rfl⟩⟩
  next h =>
    obtain ⟨s, hs, hf, hl⟩ := (runSites_frame h).failed_stop rfl
    exact Or.inl ⟨_, s, hf, hl, Or.inr (Or.inl ⟨hs, rfl⟩)⟩
  next h =>
    obtain ⟨s, hs, hf, hl⟩ := (runSites_frame h).failed_stop rfl
    exact Or.inl ⟨_, s, hf, hl, Or.inr (Or.inr ⟨List.mem_append_left _ hs, rfl⟩)⟩
  next h =>
    obtain ⟨s, hs, hf, hl⟩ := (runSites_frame h).failed_stop rfl
    exact Or.inl ⟨_, s, hf, hl, Or.inr (Or.inr ⟨List.mem_append_right _ hs, rfl⟩)⟩
  next h1 _ _ h2 _ _ h3 _ _ h4 _ =>
    refine Or.inr ⟨_, ?_, rfl⟩
    rw [(runSites_frame h4).failed_ok rfl, (runSites_frame h3).failed_ok rfl, (runSites_frame h2).failed_ok rfl,
      (runSites_frame h1).failed_ok rfl]

theorem run_trace_inv {P : Trace → Prop} (v : Variant) (c : Cfg) (fs : List Bool) (h0 : P {})
    (hP : ∀ sites, sites ∈ [preSites c, initSites c, bodySites v c, finishSites c] →
      ∀ gs t ok gs' t', runSites v c 0 sites gs t = (ok, gs', t') → P t → P t') : P (run v c fs).trace := by
  unfold run
  rcases h1 : runSites v c 0 (preSites c) fs {} with ⟨ok₁, fs₁, t₁⟩
  have p1 := hP (preSites c) (by simp) _ _ _ _ _ h1 h0
  cases ok₁
  · exact p1
  dsimp only
  rcases h2 : runSites v c 0 (initSites c) fs₁ t₁ with ⟨ok₂, fs₂, t₂⟩
  have p2 := hP (initSites c) (by simp) _ _ _ _ _ h2 p1
  cases ok₂
  · exact p2
  dsimp only
  rcases h3 : runSites v c 0 (bodySites v c) fs₂ t₂ with ⟨ok₃, fs₃, t₃⟩
  have p3 := hP (bodySites v c) (by simp) _ _ _ _ _ h3 p2
  cases ok₃
  · exact p3
  dsimp only
  rcases h4 : runSites v c 0 (finishSites c) fs₃ t₃ with ⟨ok₄, fs₄, t₄⟩
  have p4 := hP (finishSites c) (by simp) _ _ _ _ _ h4 p3
  cases ok₄ <;> exact p4

theorem run_walk {v : Variant} (hA : AllChecked v) (c : Cfg) (fs : List Bool) :
    (run v c fs).trace = (runSites v c 0 (program v c) fs {}).2.2 ∧
    ((run v c fs).status = 0 ∧ (runSites v c 0 (program v c) fs {}).1 = true ∨
     (run v c fs).status = 1 ∧ (runSites v c 0 (program v c) fs {}).1 = false) := by
  -- the phases in a row are one walk: a failing phase ends it, a phase that succeeds hands over to the next
  have stop := @runSites_stop v hA c
  have go := @runSites_go v hA c
  unfold program
  fun_cases run v c fs
  next h1 => rw [stop _ (stop _ (stop _ h1))]; exact ⟨rfl, .inr ⟨rfl, rfl⟩⟩
  next h1 _ _ h2 => rw [stop _ (stop _ (go h1 h2))]; exact ⟨rfl, .inr ⟨rfl, rfl⟩⟩
  next h1 _ _ h2 _ _ h3 => rw [stop _ (go (go h1 h2) h3)]; exact ⟨rfl, .inr ⟨rfl, rfl⟩⟩
  next h1 _ _ h2 _ _ h3 _ _ h4 => rw [go (go (go h1 h2) h3) h4]; exact ⟨rfl, .inr ⟨rfl, rfl⟩⟩
  next h1 _ _ h2 _ _ h3 _ _ h4 _ => rw [go (go (go h1 h2) h3) h4]; exact ⟨rfl, .inl ⟨rfl, rfl⟩⟩

theorem run_clean {v : Variant} (hA : AllChecked v) (c : Cfg) (fs : List Bool) (h : allFalse (program v c).length fs) :
    run v c fs = ⟨0, .present, true, true, none, okAll c (program v c) {}⟩ := by
  obtain ⟨ht, hs⟩ := run_walk hA c fs
  rw [runSites_clean c _ fs {} h] at ht hs
  have h0 : (run v c fs).status = 0 := by simpa using hs
  rcases run_cases v c fs with ⟨t, s, _, _, ⟨_, hr⟩ | ⟨_, hr⟩ | ⟨_, hr⟩⟩ | ⟨t, _, hr⟩ <;> rw [hr] at h0 ht ⊢ <;>
    cases h0
  cases ht; rfl

/-- the stored name designates the output file: it is absolute, or was made absolute, or the process never left the
    directory it started in -/
def Safe (t : Trace) : Prop := t.absName = true ∨ t.cwd = .start

theorem nameResolves_of_safe (c : Cfg) (t : Trace) : Safe t → nameResolves c t = true := by
  intro h
  unfold nameResolves
  rcases h with h | h <;> simp [h]

/-- The name stays valid through the whole run when no pack directory is given, and when `main` resolves the output
    name (b5ce20d): it is made absolute before `pack_files` changes directory. -/
theorem run_safe {v : Variant} {c : Cfg} (ha : v.outPathAbsolute = true ∨ c.packDir = false) (fs : List Bool) :
    Safe (run v c fs).trace := by
  refine run_trace_inv v c fs (Or.inr rfl) ?_
  intro sites hm gs t ok gs' t' h hs
  by_cases hc : Site.chdirPack ∈ sites
  · obtain ⟨rfl, ht, hp⟩ := chdirPack_mem_phase hm hc
    have ha : v.outPathAbsolute = true := ha.resolve_right (by simp [hp])
    -- the first site of the body is `realpath`: it fails where the process stands, or the name is absolute from then on
    obtain ⟨rest, hb⟩ : ∃ rest, bodySites v c = .realpathOut :: rest :=
      ⟨_, by simp only [bodySites, ht, hp, ha, Bool.and_self, if_true]; rfl⟩
    rw [hb] at h
    cases hf : gs.headD false with
    | true => rw [runSites_fail c rest t rfl hf] at h; cases h; exact hs
    | false => rw [runSites_ok c _ rest t hf] at h; exact Or.inl ((runSites_frame h).absName rfl)
  · rcases hs with hs | hs
    · exact Or.inl ((runSites_frame h).absName hs)
    · exact Or.inr (((runSites_frame h).cwd hc).trans hs)

theorem out_removed {v : Variant} (hi : v.initUnlinks = true) {c : Cfg} {fs : List Bool}
    (hn : nameResolves c (run v c fs).trace = true) : (run v c fs).status ≠ 0 → (run v c fs).out ≠ .present := by
  revert hn
  rcases run_cases v c fs with ⟨t, s, _, _, ⟨_, hr⟩ | ⟨_, hr⟩ | ⟨_, hr⟩⟩ | ⟨t, _, hr⟩ <;> rw [hr]
  · simp
  · simp only [afterFailedInit, hi, unlinkOut]
    intro hn _
    split <;> simp [hn]
  · intro hn; simp [cleanup, unlinkOut, hn]
  · simp

theorem allFalse_single (k : Nat) : allFalse k (single k) := by
  intro i hi; simp [single, List.getD_eq_getElem?_getD, List.getElem?_append, hi]

theorem single_getD (k : Nat) : (single k).getD k false = true := by
  simp [single, List.getD_eq_getElem?_getD]

/-! ### what the specification's oracle would observe of a model run -/

/-- The observation `Spec.Observed` of a packer run of the model: it cannot crash, exit status 0 or 1, a diagnostic
    iff the reported site prints one (`diagOnFail`), the output file is there or not, and "same output as the
    fault-free run" is equality of the whole result (step sequence). -/
def observed (v : Variant) (c : Cfg) (fs : List Bool) : Spec.Observed :=
  { crashed := false
    exit0 := (run v c fs).status == 0
    diagnostic := match (run v c fs).trace.failed with | some s => diagOnFail v s | none => false
    packer := true
    outputLeft := (run v c fs).out == .present
    sameAsFaultFree := run v c fs == faultFree v c }

/-- … and of a reader run: the results are "the same as fault-free" when the same sites ran and nothing handed to
    stdio was lost. -/
def observedReader (v : Variant) (c : RCfg) (fs : List Bool) : Spec.Observed :=
  { crashed := false
    exit0 := (runReader v c fs).status == 0
    diagnostic := (runReader v c fs).trace.failed.isSome     -- every reader site prints (`diagOnFail _ s = true`)
    packer := false
    outputLeft := false
    sameAsFaultFree := (runReader v c fs).trace == (runReader v c []).trace && !(runReader v c fs).stdoutLost }

/-- `Spec.failStopOk` from its clauses, read as implications. -/
theorem failStopOk_of {o : Spec.Observed} (hc : o.crashed = false) (h0 : o.exit0 = true → o.sameAsFaultFree = true)
    (h1 : o.exit0 = false → o.diagnostic = true ∧ (o.packer = true → o.outputLeft = false)) :
    Spec.failStopOk o = true := by
  unfold Spec.failStopOk
  cases h : o.exit0 with
  | true => simp [hc, h0 h]
  | false => cases hk : o.packer <;> simp [hc, h1 h, hk]

/-! ### the readers -/

theorem runReader_clean {v : Variant} (c : RCfg) {fs : List Bool} (h : allFalse (readerSites v c).length fs) :
    runReader v c fs = ⟨0, okAll {} (readerSites v c) {},
      printsResults c && !v.stdoutChecked && (fs.drop (readerSites v c).length).headD false⟩ := by
  unfold runReader
  rw [runSites_clean {} _ fs {} h]

/-- A failing reader run reports a site of `main`, the last one it executed (every variant). -/
theorem runReader_reports_site {v : Variant} {c : RCfg} {fs : List Bool} (h : (runReader v c fs).status ≠ 0) :
    ∃ s, s ∈ readerSites v c ∧ (runReader v c fs).trace.failed = some s ∧
      (runReader v c fs).trace.ran.getLast? = some s := by
  unfold runReader at h ⊢
  rcases hr : runSites v {} 0 (readerSites v c) fs {} with ⟨_ | _, fs', t⟩ <;> rw [hr] at h
  · exact (runSites_frame hr).failed_stop rfl
  · exact absurd rfl h

end Sqfs.FailStop
