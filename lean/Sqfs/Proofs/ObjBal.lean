import Sqfs.Proofs.Obj
/-!
Reference-count soundness for the object heap of `Sqfs.Model.Obj`: the invariant `Bal h U P PB Z`.

The counts are sums over the records the invariant sees (`vis`: the record at an id unless its destroy hook is running), so
a step that changes one record (`Bal.objStep`) or one buffer (`Bal.bufStep`) moves counts between that cell and the pending
lists; `grab`, the three stages of `sqfs_drop`, `free` and the two allocations are instances. `U` and `P` enter only through
their sum (`Bal.reweigh`): the references a user is about to release count as pending ones (`Bal.releasing`), and every
sequence of releases — a destroy hook's, a failure path's, the user's — is `Bal.foldl_pending` of one sound `sqfs_drop`.
What a balanced heap lets one read off: a count is positive exactly when some record holds the id (`slotCount_pos`), what is
held is allocated, and every object hangs on the user by a chain of references with growing ids (`Bal.held_induction`), so
where the user holds no id from `lo` on no object from `lo` on is left (`Bal.dead_above`).
-/
namespace Sqfs.Obj

def sumTo : Nat → (Nat → Nat) → Nat
  | 0, _ => 0
  | n + 1, f => sumTo n f + f n

theorem sumTo_congr {n : Nat} {f g : Nat → Nat} (h : ∀ i, i < n → f i = g i) : sumTo n f = sumTo n g := by
  induction n with
  | zero => rfl
  | succ n ih =>
    simp only [sumTo]
    rw [ih (fun i hi => h i (Nat.lt_succ_of_lt hi)), h n (Nat.lt_succ_self n)]

theorem sumTo_trade {n x : Nat} {f g : Nat → Nat} (hx : x < n) (h : ∀ y, y ≠ x → g y = f y) :
    sumTo n g + f x = sumTo n f + g x := by
  induction n with
  | zero => exact absurd hx (Nat.not_lt_zero _)
  | succ n ih =>
    simp only [sumTo]
    rcases Nat.lt_succ_iff_lt_or_eq.mp hx with hlt | rfl
    · rw [h n (Nat.ne_of_gt hlt), Nat.add_right_comm, ih hlt, Nat.add_right_comm]
    · rw [sumTo_congr fun y hy => h y (Nat.ne_of_lt hy)]; exact Nat.add_right_comm _ _ _

theorem sumTo_extend {n m : Nat} {f : Nat → Nat} (hnm : n ≤ m) (h : ∀ i, n ≤ i → i < m → f i = 0) : sumTo m f = sumTo n f := by
  induction m with
  | zero => rw [Nat.le_zero.mp hnm]
  | succ m ih =>
    by_cases hm : n = m + 1
    · subst hm; rfl
    · have : n ≤ m := Nat.le_of_lt_succ (Nat.lt_of_le_of_ne hnm hm)
      simp only [sumTo]
      rw [ih this (fun i h1 h2 => h i h1 (Nat.lt_succ_of_lt h2)), h m this (Nat.lt_succ_self m)]; rfl

theorem sumTo_pos {n : Nat} {f : Nat → Nat} : 0 < sumTo n f ↔ ∃ i, i < n ∧ 0 < f i := by
  induction n with
  | zero => simp [sumTo]
  | succ n ih =>
    rw [sumTo, Nat.add_pos_iff_pos_or_pos, ih]
    constructor
    · rintro (⟨i, hi, hf⟩ | hf)
      · exact ⟨i, Nat.lt_succ_of_lt hi, hf⟩
      · exact ⟨n, Nat.lt_succ_self n, hf⟩
    · rintro ⟨i, hi, hf⟩
      rcases Nat.lt_succ_iff_lt_or_eq.mp hi with hi | rfl
      · exact Or.inl ⟨i, hi, hf⟩
      · exact Or.inr hf

/-- contribution of object `y` to the number of slots (selected by `sel`) holding `x` -/
def slotAt (sel : Obj → List (Option Nat)) (h : Heap) (Z : List Nat) (x y : Nat) : Nat :=
  if y ∈ Z then 0 else match h.objs y with
    | some oy => (sel oy).count (some x)
    | none => 0

/-- number of slots of live objects outside `Z` that hold `x` -/
def slotCount (sel : Obj → List (Option Nat)) (h : Heap) (Z : List Nat) (x : Nat) : Nat :=
  sumTo h.nobj (slotAt sel h Z x)

abbrev refCount := slotCount (·.refs)
abbrev bufCount := slotCount (·.bufs)

/-- heap `h` is *balanced* with respect to
* `U x`  : number of references to object `x` held by the user,
* `P`    : references held by code that is in the middle of a hook (pending `sqfs_drop`s, or references a copy
           hook has acquired for an object it has not published yet),
* `PB`   : buffers held the same way (pending `free`s / fresh allocations of a copy hook),
* `Z`    : objects whose destroy hook is running (their slots have been moved to `P`/`PB`).

Balanced means: every live object has both hooks and a reference count equal to the number of references that
exist to it (user + pending + slots of live objects); nothing refers to a dead object; every live buffer has
exactly one owner; internal pointers point into the owner's own buffers; references go to smaller ids. -/
structure Bal (h : Heap) (U : Nat → Nat) (P PB Z : List Nat) : Prop where
  ok : h.crash = none
  live : ∀ x ox, h.objs x = some ox → x ∉ Z →
    ox.destroy = true ∧ ox.copy = true ∧ ox.rc = U x + P.count x + refCount h Z x ∧ 1 ≤ ox.rc ∧
    (∀ r, some r ∈ ox.refs → r < x) ∧ (∀ v, some v ∈ ox.views → some v ∈ ox.bufs)
  bound : ∀ x, (h.objs x).isSome → x < h.nobj
  dead : ∀ x, (h.objs x = none ∨ x ∈ Z) → U x = 0 ∧ P.count x = 0 ∧ refCount h Z x = 0
  bufLive : ∀ b, (h.bufs b).isSome → PB.count b + bufCount h Z b = 1
  bufDead : ∀ b, h.bufs b = none → PB.count b = 0 ∧ bufCount h Z b = 0
  bufBound : ∀ b, (h.bufs b).isSome → b < h.nbuf

/-- `Balanced h U`: nothing is in flight — the only references are the user's (`U`) and those in object slots -/
abbrev Balanced (h : Heap) (U : Nat → Nat) : Prop := Bal h U [] [] []

theorem foldl_opt {α : Type} (f : α → Nat → α) (l : List (Option Nat)) (a : α) :
    l.foldl (fun h r => r.elim h (f h)) a = (l.filterMap id).foldl f a := by
  induction l generalizing a with
  | nil => rfl
  | cons x t ih => cases x <;> simp [List.foldl_cons, ih]

theorem foldl_freeSlot (l : List (Option Nat)) (a : Heap) : l.foldl freeSlot a = (l.filterMap id).foldl freeBuf a := by
  induction l generalizing a with
  | nil => rfl
  | cons x t ih => cases x <;> simp [List.foldl_cons, freeSlot, ih]

theorem count_filterMap_append (l : List (Option Nat)) (Q : List Nat) (x : Nat) :
    (l.filterMap id ++ Q).count x = l.count (some x) + Q.count x := by
  rw [List.count_append, List.count_filterMap]; rfl

/-- the object at `x` as the invariant sees it: nothing while its destroy hook runs -/
def vis (h : Heap) (Z : List Nat) (x : Nat) : Option Obj := if x ∈ Z then none else h.objs x

def visCount (sel : Obj → List (Option Nat)) (o : Option Obj) (y : Nat) : Nat :=
  match o with
  | some o => (sel o).count (some y)
  | none => 0

theorem vis_some {h : Heap} {Z : List Nat} {x : Nat} {ox : Obj} : vis h Z x = some ox ↔ h.objs x = some ox ∧ x ∉ Z := by
  unfold vis; split <;> simp [*]

theorem vis_none {h : Heap} {Z : List Nat} {x : Nat} : vis h Z x = none ↔ h.objs x = none ∨ x ∈ Z := by
  unfold vis; split <;> simp [*]

theorem vis_congr {h h' : Heap} {Z Z' : List Nat} {y : Nat} (ho : h'.objs y = h.objs y) (hz : y ∈ Z' ↔ y ∈ Z) : vis h' Z' y = vis h Z y := by
  simp only [vis, ho, hz]

theorem slotAt_vis (sel : Obj → List (Option Nat)) (h : Heap) (Z : List Nat) (x y : Nat) :
    slotAt sel h Z x y = visCount sel (vis h Z y) x := by
  unfold slotAt vis visCount; split <;> rfl

theorem visCount_pos {sel : Obj → List (Option Nat)} {o : Option Obj} {x : Nat} :
    0 < visCount sel o x ↔ ∃ oy, o = some oy ∧ some x ∈ sel oy := by
  cases o with
  | none => simp [visCount]
  | some oy => simp [visCount, List.count_pos_iff]

theorem slotCount_pos {sel : Obj → List (Option Nat)} {h : Heap} {Z : List Nat} {x : Nat} :
    0 < slotCount sel h Z x ↔ ∃ y oy, y < h.nobj ∧ h.objs y = some oy ∧ y ∉ Z ∧ some x ∈ sel oy := by
  simp only [slotCount, sumTo_pos, slotAt_vis, visCount_pos, vis_some, exists_and_left, and_assoc]

theorem slotCount_step (sel : Obj → List (Option Nat)) {h h' : Heap} {Z Z' : List Nat} {x : Nat}
    (hvis : ∀ y, y ≠ x → vis h' Z' y = vis h Z y)
    (hnew : ∀ y, (h.objs y).isSome → y < h.nobj) (hnew' : ∀ y, (h'.objs y).isSome → y < h'.nobj) (b : Nat) :
    slotCount sel h' Z' b + visCount sel (vis h Z x) b = slotCount sel h Z b + visCount sel (vis h' Z' x) b := by
  -- both counts as sums up to a common bound: there is nothing from `nobj` on
  have e : ∀ (g : Heap) (W : List Nat), (∀ y, (g.objs y).isSome → y < g.nobj) → g.nobj ≤ h.nobj + h'.nobj + x + 1 →
      slotCount sel g W b = sumTo (h.nobj + h'.nobj + x + 1) (fun y => visCount sel (vis g W y) b) := fun g W hg hle => by
    rw [sumTo_extend hle (fun i hi _ => by
      cases hv : g.objs i with
      | none => simp [vis, hv, visCount]
      | some _ => exact absurd (hg i (by simp [hv])) (Nat.not_lt.mpr hi))]
    exact sumTo_congr fun y _ => slotAt_vis sel g W b y
  have l1 : h'.nobj ≤ h.nobj + h'.nobj + x + 1 := by omega
  have l2 : h.nobj ≤ h.nobj + h'.nobj + x + 1 := by omega
  have l3 : x < h.nobj + h'.nobj + x + 1 := by omega
  rw [e h' Z' hnew' l1, e h Z hnew l2]
  exact sumTo_trade (f := fun y => visCount sel (vis h Z y) b) (g := fun y => visCount sel (vis h' Z' y) b) l3
    fun y hy => by simp only [hvis y hy]

theorem Bal.rc_eq {h : Heap} {U : Nat → Nat} {P PB Z : List Nat} (hb : Bal h U P PB Z) {x : Nat} {ox : Obj}
    (hx : h.objs x = some ox) (hz : x ∉ Z) : ox.rc = U x + P.count x + refCount h Z x :=
  (hb.live x ox hx hz).2.2.1

theorem Bal.views_owned {h : Heap} {U : Nat → Nat} {P PB Z : List Nat} (hb : Bal h U P PB Z) {x : Nat} {ox : Obj}
    (hx : h.objs x = some ox) (hz : x ∉ Z) : ∀ v, some v ∈ ox.views → some v ∈ ox.bufs :=
  (hb.live x ox hx hz).2.2.2.2.2

theorem Bal.hooks {h : Heap} {U : Nat → Nat} {P PB Z : List Nat} (hb : Bal h U P PB Z) {x : Nat} {ox : Obj}
    (hx : h.objs x = some ox) (hz : x ∉ Z) : ox.destroy = true ∧ ox.copy = true :=
  ⟨(hb.live x ox hx hz).1, (hb.live x ox hx hz).2.1⟩

theorem Bal.refs_lt {h : Heap} {U : Nat → Nat} {P PB Z : List Nat} (hb : Bal h U P PB Z) {x : Nat} {ox : Obj}
    (hx : h.objs x = some ox) (hz : x ∉ Z) : ∀ r, some r ∈ ox.refs → r < x :=
  (hb.live x ox hx hz).2.2.2.2.1

theorem mem_bufs_of_mem_slots {ox : Obj} (hviews : ∀ v, some v ∈ ox.views → some v ∈ ox.bufs) {b : Nat}
    (hm : some b ∈ ox.bufs ++ ox.views) : some b ∈ ox.bufs :=
  (List.mem_append.mp hm).elim id (hviews b)

theorem Bal.lt_nobj {h : Heap} {U : Nat → Nat} {P PB Z : List Nat} (hb : Bal h U P PB Z) {x : Nat} {ox : Obj} (hx : h.objs x = some ox) :
    x < h.nobj :=
  hb.bound x (by simp [hx])

theorem Bal.none_of_ge {h : Heap} {U : Nat → Nat} {P PB Z : List Nat} (hb : Bal h U P PB Z) {x : Nat} (hx : h.nobj ≤ x) :
    h.objs x = none := by
  cases hv : h.objs x with
  | none => rfl
  | some _ => exact absurd (hb.lt_nobj hv) (Nat.not_lt.mpr hx)

theorem Bal.mem_live {h : Heap} {U : Nat → Nat} {P PB Z : List Nat} (hb : Bal h U P PB Z) {x : Nat} (hp : x ∈ P) :
    ∃ ox, h.objs x = some ox ∧ x ∉ Z := by
  have hc : P.count x ≠ 0 := Nat.ne_of_gt (List.count_pos_iff.mpr hp)
  cases hx : h.objs x with
  | none => exact absurd (hb.dead x (Or.inl hx)).2.1 hc
  | some ox =>
    refine ⟨ox, rfl, fun hz => ?_⟩
    exact absurd (hb.dead x (Or.inr hz)).2.1 hc

theorem Bal.pending_lt {h : Heap} {U : Nat → Nat} {P PB Z : List Nat} (hb : Bal h U P PB Z) {x : Nat} (hp : x ∈ P) : x < h.nobj :=
  let ⟨_, hx, _⟩ := hb.mem_live hp
  hb.lt_nobj hx

theorem Bal.user_live {h : Heap} {U : Nat → Nat} {P PB Z : List Nat} (hb : Bal h U P PB Z) {x : Nat} (hu : 1 ≤ U x) :
    ∃ ox, h.objs x = some ox := by
  cases hv : h.objs x with
  | none => rw [(hb.dead x (Or.inl hv)).1] at hu; cases hu
  | some ox => exact ⟨ox, rfl⟩

theorem Bal.slot_pending_lt {h : Heap} {U : Nat → Nat} {P PB Z : List Nat} {nb : List (Option Nat)}
    (hb : Bal h U P (nb.filterMap id ++ PB) Z) {b : Nat} (hm : some b ∈ nb) : b < h.nbuf := by
  have hc : (nb.filterMap id ++ PB).count b ≠ 0 :=
    Nat.ne_of_gt (List.count_pos_iff.mpr (List.mem_append_left _ (List.mem_filterMap.mpr ⟨some b, hm, rfl⟩)))
  cases hv : h.bufs b with
  | none => exact absurd (hb.bufDead b hv).1 hc
  | some _ => exact hb.bufBound b (by simp [hv])

theorem trade_counts {r r' c c' p p' : Nat} (h1 : r' + c = r + c') (h2 : p' + c' = p + c) : p' + r' = p + r := by omega

/-- **the invariant is local**: the record at `x` is replaced by `w` (and `x` enters or leaves `Z`), so that the invariant sees `v'` at `x`
where it saw `v`; what `x`'s slots lose the pending lists gain -/
theorem Bal.objStep {h : Heap} {U : Nat → Nat} {P P' PB PB' Z Z' : List Nat} (hb : Bal h U P PB Z) (x : Nat) (w : Option Obj) {n : Nat}
    (hn : h.nobj ≤ n) (hxn : w.isSome → x < n) (hZ : ∀ y, y ≠ x → (y ∈ Z' ↔ y ∈ Z))
    (v v' : Option Obj)
    (hx : match v' with
      | some ox' => ox'.destroy = true ∧ ox'.copy = true ∧ ox'.rc = U x + P'.count x + refCount h Z x ∧ 1 ≤ ox'.rc ∧
          (∀ r, some r ∈ ox'.refs → r < x) ∧ (∀ v, some v ∈ ox'.views → some v ∈ ox'.bufs)
      | none => U x = 0 ∧ P'.count x = 0 ∧ refCount h Z x = 0)
    (hv : vis h Z x = v) (hv' : (if x ∈ Z' then none else w) = v')
    (hP : ∀ y, y ≠ x → P'.count y + visCount (·.refs) v' y = P.count y + visCount (·.refs) v y)
    (hPB : ∀ b, PB'.count b + visCount (·.bufs) v' b = PB.count b + visCount (·.bufs) v b) :
    Bal { h with objs := upd h.objs x w, nobj := n } U P' PB' Z' := by
  generalize hh' : ({ h with objs := upd h.objs x w, nobj := n } : Heap) = h'
  have hvx : vis h' Z' x = v' := by
    rw [← hh', ← hv']; show (if x ∈ Z' then none else upd h.objs x w x) = _; rw [upd_same]
  have hvis : ∀ y, y ≠ x → vis h' Z' y = vis h Z y := fun y hy => by
    rw [← hh']; exact vis_congr (upd_ne _ _ hy) (hZ y hy)
  have hbound : ∀ y, (h'.objs y).isSome → y < h'.nobj := by
    rw [← hh']
    intro y (hy : (upd h.objs x w y).isSome)
    by_cases hyx : y = x
    · subst hyx; exact hxn (by simpa using hy)
    · exact Nat.lt_of_lt_of_le (hb.bound y (by rwa [upd_ne _ _ hyx] at hy)) hn
  have hC : ∀ sel b, slotCount sel h' Z' b + visCount sel v b = slotCount sel h Z b + visCount sel v' b :=
    fun sel b => hv ▸ hvx ▸ slotCount_step sel hvis hb.bound hbound b
  -- no record refers to itself, so the references to `x` are counted as before
  have self0 : ∀ o : Option Obj, (∀ ox, o = some ox → ∀ r, some r ∈ ox.refs → r < x) → visCount (·.refs) o x = 0 :=
    fun o ho => Nat.eq_zero_of_not_pos fun hp => let ⟨ox, e, hm⟩ := visCount_pos.mp hp; Nat.lt_irrefl _ (ho ox e x hm)
  have hRx : refCount h' Z' x = refCount h Z x := by
    have := hC (·.refs) x
    rw [self0 v (fun ox e => hb.refs_lt (vis_some.mp (hv.trans e)).1 (vis_some.mp (hv.trans e)).2),
      self0 v' (fun ox e => by rw [e] at hx; exact hx.2.2.2.2.1)] at this
    exact this
  have hR : ∀ y, y ≠ x → P'.count y + refCount h' Z' y = P.count y + refCount h Z y := fun y hy => trade_counts (hC _ y) (hP y hy)
  have hB : ∀ b, PB'.count b + bufCount h' Z' b = PB.count b + bufCount h Z b := fun b => trade_counts (hC _ b) (hPB b)
  have hbufs : h'.bufs = h.bufs := by rw [← hh']
  have hnb : h'.nbuf = h.nbuf := by rw [← hh']
  refine ⟨by rw [← hh']; exact hb.ok, ?_, hbound, ?_, ?_, ?_, fun b hv => hnb ▸ hb.bufBound b (hbufs ▸ hv)⟩
  · intro y oy hy hyz
    have hvy := vis_some.mpr ⟨hy, hyz⟩
    by_cases hyx : y = x
    · subst hyx; rw [hvx] at hvy; rw [hvy] at hx; rw [hRx]; exact hx
    · obtain ⟨h1, h2, h3, h4⟩ := hb.live y oy (vis_some.mp (hvis y hyx ▸ hvy)).1 (vis_some.mp (hvis y hyx ▸ hvy)).2
      exact ⟨h1, h2, by rw [h3, Nat.add_assoc, Nat.add_assoc, hR y hyx], h4⟩
  · intro y hy
    have hvy := vis_none.mpr hy
    by_cases hyx : y = x
    · subst hyx; rw [hvx] at hvy; rw [hvy] at hx; rw [hRx]; exact hx
    · obtain ⟨h1, h2, h3⟩ := hb.dead y (vis_none.mp (hvis y hyx ▸ hvy))
      have := hR y hyx
      rw [h2, h3] at this
      exact ⟨h1, Nat.add_eq_zero_iff.mp this⟩
  · intro b hv
    rw [hB b]; exact hb.bufLive b (hbufs ▸ hv)
  · intro b hv
    have := hB b
    rw [(hb.bufDead b (hbufs ▸ hv)).1, (hb.bufDead b (hbufs ▸ hv)).2] at this
    exact Nat.add_eq_zero_iff.mp this

theorem Bal.bufStep {h : Heap} {U : Nat → Nat} {P PB PB' Z : List Nat} (hb : Bal h U P PB Z) (b : Nat) (w : Option Buf) {n : Nat}
    (hn : h.nbuf ≤ n) (hbn : w.isSome → b < n) (hPB : ∀ b', b' ≠ b → PB'.count b' = PB.count b')
    (hw : PB'.count b + bufCount h Z b = if w.isSome then 1 else 0) :
    Bal { h with bufs := upd h.bufs b w, nbuf := n } U P PB' Z := by
  refine ⟨hb.ok, hb.live, hb.bound, hb.dead, fun b' (hv : (upd h.bufs b w b').isSome) => ?_,
    fun b' (hv : upd h.bufs b w b' = none) => ?_, fun b' (hv : (upd h.bufs b w b').isSome) => ?_⟩
  · by_cases hne : b' = b
    · subst hne; rw [upd_same] at hv; rw [if_pos hv] at hw; exact hw
    · rw [upd_ne _ _ hne] at hv; rw [hPB b' hne]; exact hb.bufLive b' hv
  · by_cases hne : b' = b
    · subst hne; rw [upd_same] at hv; rw [hv] at hw; exact Nat.add_eq_zero_iff.mp hw
    · rw [upd_ne _ _ hne] at hv; rw [hPB b' hne]; exact hb.bufDead b' hv
  · by_cases hne : b' = b
    · subst hne; rw [upd_same] at hv; exact hbn hv
    · rw [upd_ne _ _ hne] at hv; exact Nat.lt_of_lt_of_le (hb.bufBound b' hv) hn

theorem Bal.setRc {h : Heap} {U : Nat → Nat} {x : Nat} {P P' PB Z : List Nat} {ox : Obj} {r' : Nat}
    (hb : Bal h U P PB Z) (hx : h.objs x = some ox) (hz : x ∉ Z)
    (hP : ∀ y, y ≠ x → P'.count y = P.count y)
    (hr : r' = U x + P'.count x + refCount h Z x) (h1r : 1 ≤ r') :
    Bal { h with objs := upd h.objs x (some { ox with rc := r' }) } U P' PB Z := by
  obtain ⟨h1, h2, _, _, h5, h6⟩ := hb.live x ox hx hz
  exact hb.objStep x _ (Nat.le_refl _) (fun _ => hb.lt_nobj hx) (fun _ _ => Iff.rfl) _ (some { ox with rc := r' }) ⟨h1, h2, hr, h1r, h5, h6⟩
    (vis_some.mpr ⟨hx, hz⟩) (if_neg hz) (fun y hy => congrArg (· + _) (hP y hy)) (fun _ => rfl)

/-- `sqfs_drop` of an object with other references left: the pending reference is consumed -/
theorem Bal.dec {h : Heap} {U : Nat → Nat} {x : Nat} {P PB Z : List Nat} {ox : Obj}
    (hb : Bal h U (x :: P) PB Z) (hx : h.objs x = some ox) (hrc : ¬ ox.rc ≤ 1) :
    Bal { h with objs := upd h.objs x (some { ox with rc := ox.rc - 1 }) } U P PB Z := by
  obtain ⟨_, _, hz⟩ := hb.mem_live (List.mem_cons_self)
  have h3 := hb.rc_eq hx hz
  rw [List.count_cons_self, ← Nat.add_assoc, Nat.add_right_comm] at h3
  exact hb.setRc hx hz (fun y hy => by rw [List.count_cons_of_ne (Ne.symm hy)]) (Nat.sub_eq_of_eq_add h3)
    (Nat.le_sub_one_of_lt (Nat.lt_of_not_le hrc))

theorem grab_eq {h : Heap} {x : Nat} {ox : Obj} (hc : h.crash = none) (hx : h.objs x = some ox) :
    grab h x = { h with objs := upd h.objs x (some { ox with rc := ox.rc + 1 }) } := by
  simp [grab, hc, hx]

theorem Bal.grabbed {h : Heap} {U : Nat → Nat} {x : Nat} {P PB Z : List Nat} {ox : Obj}
    (hb : Bal h U P PB Z) (hx : h.objs x = some ox) (hz : x ∉ Z) :
    Bal (Sqfs.Obj.grab h x) U (x :: P) PB Z := by
  have h3 := hb.rc_eq hx hz
  rw [grab_eq hb.ok hx]
  exact hb.setRc hx hz (fun y hy => by rw [List.count_cons_of_ne (Ne.symm hy)])
    (by rw [List.count_cons_self, h3, ← Nat.add_assoc, Nat.add_right_comm]) (Nat.le_add_left 1 _)

/-- the destroy hook starts: the object's slots become pending drops / frees -/
theorem Bal.toZ {h : Heap} {U : Nat → Nat} {x : Nat} {P PB Z : List Nat} {ox : Obj}
    (hb : Bal h U (x :: P) PB Z) (hx : h.objs x = some ox) (hrc : ox.rc ≤ 1) :
    Bal h U (ox.refs.filterMap id ++ P) (ox.bufs.filterMap id ++ PB) (x :: Z) := by
  obtain ⟨_, _, hz⟩ := hb.mem_live (List.mem_cons_self)
  have h3 := hb.rc_eq hx hz
  have h5 := hb.refs_lt hx hz
  rw [List.count_cons_self] at h3
  -- the last reference was the pending one
  obtain ⟨hU, hPx, hRx⟩ : U x = 0 ∧ P.count x = 0 ∧ refCount h Z x = 0 := by omega
  have := hb.objStep (Z' := x :: Z) (P' := ox.refs.filterMap id ++ P) (PB' := ox.bufs.filterMap id ++ PB) x (some ox) (Nat.le_refl _)
    (fun _ => hb.lt_nobj hx) (fun y hy => by simp [hy]) _ none
    (by rw [count_filterMap_append, hPx]
        exact ⟨hU, congrArg (· + 0) (List.count_eq_zero.mpr fun hm => Nat.lt_irrefl _ (h5 x hm)), hRx⟩)
    (vis_some.mpr ⟨hx, hz⟩) (if_pos List.mem_cons_self)
    (fun y hy => by rw [count_filterMap_append, List.count_cons_of_ne (Ne.symm hy)]; exact Nat.add_comm (ox.refs.count (some y)) _)
    (fun b => by rw [count_filterMap_append]; exact Nat.add_comm (ox.bufs.count (some b)) _)
  rwa [upd_self hx] at this

theorem Bal.freeBuf {h : Heap} {U : Nat → Nat} {b : Nat} {P PB Z : List Nat}
    (hb : Bal h U P (b :: PB) Z) : Bal (Sqfs.Obj.freeBuf h b) U P PB Z := by
  have hlive : (h.bufs b).isSome := by
    cases hv : h.bufs b with
    | none => have := (hb.bufDead b hv).1; simp at this
    | some _ => rfl
  obtain ⟨bf, hbf⟩ := Option.isSome_iff_exists.mp hlive
  rw [show Sqfs.Obj.freeBuf h b = { h with bufs := upd h.bufs b none } by simp [Sqfs.Obj.freeBuf, hb.ok, hbf]]
  refine hb.bufStep b none (Nat.le_refl _) nofun (fun b' hne => (List.count_cons_of_ne (Ne.symm hne)).symm) ?_
  have := hb.bufLive b hlive
  rw [List.count_cons_self, Nat.add_right_comm] at this
  exact Nat.succ.inj this

theorem Bal.freeBufs {U : Nat → Nat} {P Z : List Nat} (L : List Nat) : ∀ {h : Heap} {PB : List Nat},
    Bal h U P (L ++ PB) Z → Bal (L.foldl Sqfs.Obj.freeBuf h) U P PB Z := by
  induction L with
  | nil => intro h PB hb; exact hb
  | cons b t ih => intro h PB hb; exact ih (Bal.freeBuf hb)

/-- the destroy hook ends: `free(obj)` -/
theorem Bal.freeObj {h : Heap} {U : Nat → Nat} {x : Nat} {P PB Z : List Nat}
    (hb : Bal h U P PB (x :: Z)) : Bal (Sqfs.Obj.freeObj h x) U P PB Z := by
  rw [show Sqfs.Obj.freeObj h x = { h with objs := upd h.objs x none } by simp [Sqfs.Obj.freeObj, hb.ok]]
  -- nothing visible changes: `x` was hidden and is gone
  exact hb.objStep x none (Nat.le_refl _) nofun (fun y hy => by simp [hy]) none none (hb.dead x (Or.inr List.mem_cons_self))
    (vis_none.mpr (Or.inr List.mem_cons_self)) (ite_self _) (fun _ _ => rfl) (fun _ => rfl)

theorem drop_succ_eq (n : Nat) (h : Heap) (x : Nat) (ox : Obj) (hc : h.crash = none) (hx : h.objs x = some ox) :
    Sqfs.Obj.drop (n + 1) h x =
      if ox.rc ≤ 1 then
        (if ox.destroy then
          Sqfs.Obj.freeObj ((ox.bufs.filterMap id).foldl Sqfs.Obj.freeBuf ((ox.refs.filterMap id).foldl (Sqfs.Obj.drop n) h)) x
        else h.fail .nullHook)
      else { h with objs := upd h.objs x (some { ox with rc := ox.rc - 1 }) } := by
  rw [Sqfs.Obj.drop]
  simp only [hc, hx, foldl_opt (Sqfs.Obj.drop n), foldl_freeSlot]

theorem Bal.foldl_pending {U : Nat → Nat} {f : Heap → Nat → Heap} {ok : Nat → Prop}
    (hf : ∀ {h : Heap} {x : Nat} {P PB Z : List Nat}, Bal h U (x :: P) PB Z → ok x → Bal (f h x) U P PB Z) :
    ∀ (L : List Nat) {h : Heap} {P PB Z : List Nat}, (∀ l ∈ L, ok l) → Bal h U (L ++ P) PB Z → Bal (L.foldl f h) U P PB Z := by
  intro L
  induction L with
  | nil => intro h P PB Z _ hb; exact hb
  | cons l t iht =>
    intro h P PB Z hl hb
    exact iht (fun l' hl' => hl l' (List.mem_cons_of_mem _ hl')) (hf hb (hl l List.mem_cons_self))

/-- **`sqfs_drop` is sound on balanced heaps**: dropping a held reference never calls a NULL hook, never touches a
freed object, never frees twice, and leaves a balanced heap in which that reference is gone. -/
theorem Bal.drop : ∀ (n : Nat) {h : Heap} {U : Nat → Nat} {x : Nat} {P PB Z : List Nat},
    Bal h U (x :: P) PB Z → x < n → Bal (Sqfs.Obj.drop n h x) U P PB Z := by
  intro n
  induction n with
  | zero => intro h U x P PB Z _ hx; exact absurd hx (Nat.not_lt_zero _)
  | succ n ih =>
    intro h U x P PB Z hb hxn
    obtain ⟨ox, hx, hz⟩ := hb.mem_live (List.mem_cons_self)
    rw [drop_succ_eq n h x ox hb.ok hx]
    by_cases hrc : ox.rc ≤ 1
    · have h5 := hb.refs_lt hx hz
      rw [if_pos hrc, if_pos (hb.hooks hx hz).1]
      -- the hook: the slots become pending (`toZ`), are dropped and freed, then the object goes
      refine Bal.freeObj (Bal.freeBufs _ (Bal.foldl_pending (ok := (· < n)) ih _ ?_ (hb.toZ hx hrc)))
      intro l hl
      obtain ⟨a, ha, hal⟩ := List.mem_filterMap.mp hl
      cases hal
      exact Nat.lt_of_lt_of_le (h5 l ha) (Nat.le_of_lt_succ hxn)
    · rw [if_neg hrc]
      exact hb.dec hx hrc

/-- `Bal` sees the user's references and the pending ones only through their sum, and the pending buffers only through
multiplicities -/
theorem Bal.reweigh {h : Heap} {U U' : Nat → Nat} {P P' PB PB' Z : List Nat} (hb : Bal h U P PB Z)
    (hUP : ∀ x, U' x + P'.count x = U x + P.count x) (hPB : ∀ b, PB'.count b = PB.count b) : Bal h U' P' PB' Z := by
  refine ⟨hb.ok, ?_, hb.bound, ?_, ?_, ?_, hb.bufBound⟩
  · intro x ox hx hz; rw [hUP x]; exact hb.live x ox hx hz
  · intro x hx
    obtain ⟨h1, h2, h3⟩ := hb.dead x hx
    have := Nat.add_eq_zero_iff.mp ((hUP x).trans (by rw [h1, h2]))
    exact ⟨this.1, this.2, h3⟩
  · intro b hv; rw [hPB b]; exact hb.bufLive b hv
  · intro b hv; rw [hPB b]; exact hb.bufDead b hv

theorem Bal.perm {h : Heap} {U : Nat → Nat} {P P' PB PB' Z : List Nat} (hb : Bal h U P PB Z)
    (hP : ∀ x, P'.count x = P.count x) (hPB : ∀ b, PB'.count b = PB.count b) : Bal h U P' PB' Z :=
  hb.reweigh (fun x => by rw [hP x]) hPB

theorem Bal.swap {h : Heap} {U : Nat → Nat} {a b : Nat} {P PB Z : List Nat} (hb : Bal h U (a :: b :: P) PB Z) :
    Bal h U (b :: a :: P) PB Z :=
  hb.perm (fun _ => (List.Perm.swap a b P).count_eq _) (fun _ => rfl)

theorem Bal.swapB {h : Heap} {U : Nat → Nat} {a b : Nat} {P PB Z : List Nat} (hb : Bal h U P (a :: b :: PB) Z) :
    Bal h U P (b :: a :: PB) Z :=
  hb.perm (fun _ => rfl) (fun _ => (List.Perm.swap a b PB).count_eq _)

theorem Bal.userToPending {h : Heap} {U : Nat → Nat} {x : Nat} {P PB Z : List Nat} (hb : Bal h U P PB Z) (hu : 1 ≤ U x) :
    Bal h (fun y => if y = x then U x - 1 else U y) (x :: P) PB Z := by
  refine hb.reweigh (fun y => ?_) (fun _ => rfl)
  by_cases hyx : y = x
  · subst hyx; rw [if_pos rfl, List.count_cons_self]; omega
  · rw [if_neg hyx, List.count_cons_of_ne (Ne.symm hyx)]

theorem Bal.pendingToUser {h : Heap} {U : Nat → Nat} {x : Nat} {P PB Z : List Nat} (hb : Bal h U (x :: P) PB Z) :
    Bal h (fun y => if y = x then U x + 1 else U y) P PB Z := by
  refine hb.reweigh (fun y => ?_) (fun _ => rfl)
  by_cases hyx : y = x
  · subst hyx; rw [if_pos rfl, List.count_cons_self]; omega
  · rw [if_neg hyx, List.count_cons_of_ne (Ne.symm hyx)]

theorem not_mem_of_slotCount_zero (sel : Obj → List (Option Nat)) {h : Heap} {Z : List Nat} {x y : Nat} {oy : Obj}
    (h0 : slotCount sel h Z x = 0) (hy : h.objs y = some oy) (hz : y ∉ Z) (hlt : y < h.nobj) : some x ∉ sel oy :=
  fun hm => Nat.lt_irrefl 0 (h0 ▸ slotCount_pos.mpr ⟨y, oy, hlt, hy, hz, hm⟩)

theorem Bal.ref_live {h : Heap} {U : Nat → Nat} {P PB Z : List Nat} (hb : Bal h U P PB Z) {x r : Nat} {ox : Obj}
    (hx : h.objs x = some ox) (hz : x ∉ Z) (hr : some r ∈ ox.refs) : (h.objs r).isSome := by
  cases hv : h.objs r with
  | some _ => rfl
  | none => exact absurd hr (not_mem_of_slotCount_zero _ (hb.dead r (Or.inl hv)).2.2 hx hz (hb.lt_nobj hx))

theorem Bal.buf_live {h : Heap} {U : Nat → Nat} {P PB Z : List Nat} (hb : Bal h U P PB Z) {x b : Nat} {ox : Obj}
    (hx : h.objs x = some ox) (hz : x ∉ Z) (hr : some b ∈ ox.bufs) : (h.bufs b).isSome := by
  cases hv : h.bufs b with
  | some _ => rfl
  | none => exact absurd hr (not_mem_of_slotCount_zero _ (hb.bufDead b hv).2 hx hz (hb.lt_nobj hx))

theorem Bal.buf_lt {h : Heap} {U : Nat → Nat} {P PB Z : List Nat} (hb : Bal h U P PB Z) {x b : Nat} {ox : Obj}
    (hx : h.objs x = some ox) (hz : x ∉ Z) (hr : some b ∈ ox.bufs) : b < h.nbuf :=
  hb.bufBound b (hb.buf_live hx hz hr)

theorem Bal.buf_live_iff {h : Heap} {U : Nat → Nat} {P PB Z : List Nat} (hb : Bal h U P PB Z) {b : Nat} :
    (h.bufs b).isSome ↔ PB.count b + bufCount h Z b = 1 :=
  ⟨hb.bufLive b, fun h1 => by
    cases hv : h.bufs b with
    | some _ => rfl
    | none => rw [(hb.bufDead b hv).1, (hb.bufDead b hv).2] at h1; cases h1⟩

theorem Bal.slot_once {h : Heap} {U : Nat → Nat} {P PB Z : List Nat} (hb : Bal h U P PB Z) {x : Nat} {ox : Obj}
    (hx : h.objs x = some ox) (hz : x ∉ Z) {b : Nat} (hm : some b ∈ ox.bufs) :
    ox.bufs.count (some b) = 1 ∧ PB.count b = 0 ∧ bufCount h (x :: Z) b = 0 := by
  have h1 : PB.count b + bufCount h Z b = 1 := hb.bufLive b (hb.buf_live hx hz hm)
  have e2 : bufCount h (x :: Z) b + ox.bufs.count (some b) = bufCount h Z b := by
    have := slotCount_step (·.bufs) (h' := h) (Z' := x :: Z) (x := x) (fun y hy => vis_congr rfl (List.mem_cons.trans (or_iff_right hy))) hb.bound hb.bound b
    rw [vis_some.mpr ⟨hx, hz⟩, vis_none.mpr (Or.inr List.mem_cons_self)] at this
    exact this
  have hp := List.count_pos_iff.mpr hm
  omega

theorem Bal.holder {h : Heap} {U : Nat → Nat} (hb : Bal h U [] [] []) {x : Nat} {ox : Obj} (hx : h.objs x = some ox) (hU : U x = 0) :
    ∃ y oy, h.objs y = some oy ∧ some x ∈ oy.refs ∧ x < y := by
  obtain ⟨_, _, h3, h4, _, _⟩ := hb.live x ox hx (by simp)
  rw [hU] at h3
  simp only [List.count_nil, Nat.zero_add] at h3
  obtain ⟨y, oy, _, hoy, _, hmem⟩ := slotCount_pos.mp (h3 ▸ h4 : 0 < refCount h [] x)
  exact ⟨y, oy, hoy, hmem, hb.refs_lt hoy (by simp) x hmem⟩

/-- every object hangs on the user by a chain of references through objects with growing ids: what holds of the objects the
user holds, and passes from an object to what it refers to, holds of every object -/
theorem Bal.held_induction {h : Heap} {U : Nat → Nat} (hb : Bal h U [] [] []) {Q : Nat → Prop} (user : ∀ x, 1 ≤ U x → Q x)
    (ref : ∀ y oy x, h.objs y = some oy → some x ∈ oy.refs → Q y → Q x) {x : Nat} {ox : Obj} (hx : h.objs x = some ox) : Q x := by
  -- the ids of the successive holders grow, and end below `nobj`
  have key : ∀ k x ox, h.nobj ≤ x + k → h.objs x = some ox → Q x := by
    intro k
    induction k with
    | zero => intro x ox hk hx; exact absurd (hb.lt_nobj hx) (Nat.not_lt.mpr hk)
    | succ k ih =>
      intro x ox hk hx
      rcases Nat.eq_zero_or_pos (U x) with hU | hU
      · obtain ⟨y, oy, hoy, hm, hlt⟩ := hb.holder hx hU
        exact ref y oy x hoy hm (ih y oy (by omega) hoy)
      · exact user x hU
  exact key h.nobj x ox (Nat.le_add_left _ _) hx

/-- what the user holds lies below `lo`, and references go downward -/
theorem Bal.dead_above {h : Heap} {U : Nat → Nat} (hb : Bal h U [] [] []) {lo : Nat} (hU : ∀ z, lo ≤ z → U z = 0) :
    ∀ z, lo ≤ z → h.objs z = none := by
  intro z hz
  cases hv : h.objs z with
  | none => rfl
  | some oz =>
    have : z < lo := hb.held_induction (Q := (· < lo)) (fun x hu => Nat.lt_of_not_le fun hx => by rw [hU x hx] at hu; cases hu)
      (fun y oy x hy hm hq => Nat.lt_trans (hb.refs_lt hy List.not_mem_nil x hm) hq) hv
    exact absurd hz (Nat.not_le.mpr this)

/-- **no leak**: when nobody holds a reference any more, a balanced heap is empty -/
theorem Bal.empty_of_no_refs {h : Heap} {U : Nat → Nat} (hb : Bal h U [] [] []) (hU : ∀ x, U x = 0) :
    (∀ x, h.objs x = none) ∧ (∀ b, h.bufs b = none) := by
  have hobj : ∀ x, h.objs x = none := fun x => hb.dead_above (lo := 0) (fun z _ => hU z) x (Nat.zero_le _)
  refine ⟨hobj, ?_⟩
  intro b
  cases hv : h.bufs b with
  | none => rfl
  | some bf =>
    -- its one owner would be a slot of some object
    have := hb.bufLive b (by simp [hv])
    rw [List.count_nil, Nat.zero_add] at this
    obtain ⟨y, oy, _, hoy, _⟩ := slotCount_pos.mp (Nat.lt_of_lt_of_eq Nat.zero_lt_one this.symm)
    rw [hobj y] at hoy; cases hoy

/-- `sqfs_drop` as the user calls it: the budget `h.nobj` exceeds the id of whatever is held -/
theorem Bal.sqfsDrop {h : Heap} {U : Nat → Nat} {x : Nat} {P PB Z : List Nat} (hb : Bal h U (x :: P) PB Z) :
    Bal (Sqfs.Obj.sqfsDrop h x) U P PB Z :=
  hb.drop h.nobj (hb.pending_lt List.mem_cons_self)

/-- the references the user is going to release are pending ones from the start, so a sequence of releases is
`Bal.foldl_pending` -/
theorem Bal.releasing {h : Heap} {U : Nat → Nat} {P PB Z : List Nat} (ds : List Nat) (hb : Bal h U P PB Z) (hc : ∀ x, ds.count x ≤ U x) :
    Bal h (fun x => U x - ds.count x) (ds ++ P) PB Z :=
  hb.reweigh (fun x => by rw [List.count_append, ← Nat.add_assoc, Nat.sub_add_cancel (hc x)]) (fun _ => rfl)

/-- **every interleaving of releases is safe**: the user drops the references in `ds` (any order, any mix of
objects), never more of an object than held: no crash, and the heap stays balanced for what is still held -/
theorem Bal.dropAll (n : Nat) : ∀ (ds : List Nat) {h : Heap} {U : Nat → Nat}, Bal h U [] [] [] →
    (∀ x, ds.count x ≤ U x) → (∀ x ∈ ds, x < n) →
    Bal (ds.foldl (Sqfs.Obj.drop n) h) (fun x => U x - ds.count x) [] [] [] :=
  fun ds _ _ hb hc hn => Bal.foldl_pending (Bal.drop n) ds hn (hb.releasing ds hc)

theorem count_le_of_nodup {U : Nat → Nat} {ds : List Nat} (hn : ds.Nodup) (hu : ∀ x ∈ ds, 1 ≤ U x) (x : Nat) : ds.count x ≤ U x := by
  rw [hn.count]
  split
  · exact hu x ‹_›
  · exact Nat.zero_le _

theorem count_eq_of_nodup {U : Nat → Nat} {ds : List Nat} (hn : ds.Nodup) (h1 : ∀ x ∈ ds, U x = 1) (h0 : ∀ x, x ∉ ds → U x = 0)
    (x : Nat) : ds.count x = U x := by
  rw [hn.count]
  split
  · exact (h1 x ‹_›).symm
  · exact (h0 x ‹_›).symm

theorem Bal.dropAllTop (ds : List Nat) {h : Heap} {U : Nat → Nat} (hb : Bal h U [] [] []) (hc : ∀ x, ds.count x ≤ U x) :
    Bal (ds.foldl Sqfs.Obj.sqfsDrop h) (fun x => U x - ds.count x) [] [] [] :=
  Bal.foldl_pending (ok := fun _ => True) (fun hb _ => hb.sqfsDrop) ds (fun _ _ => trivial) (hb.releasing ds hc)

theorem slotCount_bufs_only (sel : Obj → List (Option Nat)) {h : Heap} {Z : List Nat} (x : Nat) (bufs' : Nat → Option Buf) (nb : Nat) :
    slotCount sel { h with bufs := bufs', nbuf := nb } Z x = slotCount sel h Z x := rfl

theorem Bal.allocBuf {h : Heap} {U : Nat → Nat} {P PB Z : List Nat} (hb : Bal h U P PB Z) (bf : Buf) :
    Bal { h with bufs := upd h.bufs h.nbuf (some bf), nbuf := h.nbuf + 1 } U P (h.nbuf :: PB) Z := by
  have hfree : h.bufs h.nbuf = none := by
    cases hv : h.bufs h.nbuf with
    | none => rfl
    | some _ => exact absurd (hb.bufBound h.nbuf (by simp [hv])) (Nat.lt_irrefl _)
  refine hb.bufStep h.nbuf (some bf) (Nat.le_succ _) (fun _ => Nat.lt_succ_self _) (fun b' hne => List.count_cons_of_ne (Ne.symm hne)) ?_
  rw [List.count_cons_self, (hb.bufDead _ hfree).1, (hb.bufDead _ hfree).2]; rfl

/-- publishing a new object whose slots are exactly what the allocating code holds -/
theorem Bal.allocObj {h : Heap} {U : Nat → Nat} {P PB : List Nat} {c : Obj}
    (hb : Bal h U (c.refs.filterMap id ++ P) (c.bufs.filterMap id ++ PB) [])
    (hd : c.destroy = true) (hc : c.copy = true) (hrc : c.rc = 1) (hv : ∀ v, some v ∈ c.views → some v ∈ c.bufs) :
    Bal { h with objs := upd h.objs h.nobj (some c), nobj := h.nobj + 1 } U (h.nobj :: P) PB [] := by
  -- what the new object refers to is pending, hence live, hence older
  have hr : ∀ r, some r ∈ c.refs → r < h.nobj := fun r hm =>
    hb.pending_lt (List.mem_append_left _ (List.mem_filterMap.mpr ⟨some r, hm, rfl⟩))
  have v : vis h [] h.nobj = none := vis_none.mpr (Or.inl (hb.none_of_ge (Nat.le_refl _)))
  obtain ⟨hU, hPc, hRc⟩ := hb.dead _ (vis_none.mp v)
  rw [count_filterMap_append] at hPc
  refine hb.objStep h.nobj (some c) (Nat.le_succ _) (fun _ => Nat.lt_succ_self _) (fun _ _ => Iff.rfl) none (some c) ?_ v (if_neg List.not_mem_nil) ?_ ?_
  · rw [List.count_cons_self, hU, (Nat.add_eq_zero_iff.mp hPc).2, hRc]
    exact ⟨hd, hc, hrc, Nat.le_of_eq hrc.symm, hr, hv⟩
  · intro y hy
    rw [count_filterMap_append, List.count_cons_of_ne (Ne.symm hy)]; exact Nat.add_comm _ _
  · intro b
    rw [count_filterMap_append]; exact Nat.add_comm _ _

end Sqfs.Obj
