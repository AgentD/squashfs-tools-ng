/-
Helper lemmas for C12 (`Sqfs/Props/C12.lean`): the retry loops of file.c / ostream.c / unix.c.

`call_cases` lists the four answers of the oracle to one call.  Every loop then has one lemma `…_any`, for every script, by
induction on `os.sc.length` plus the bytes still to transfer: it ends within its fuel; when it reports success it has left the
closed form (`writeAtFile`, `wrRes`, `spRes`, `realizeRes`, `stepRes`; `…_step`: a partial transfer followed by the rest is the
whole); under a script without hard events it succeeds.  For the functions of ostream.c, which call one another, these facts (and
that such a script leaves such a script) are the predicate `Ran`, with a rule for each way such a function ends.  `logical` is what
the client has appended so far; the `…_facts` say what the closed forms do to it.
-/
import Sqfs.Proofs.Slice
import Sqfs.Model.IoLoops
import Sqfs.Proofs.FuelInd
namespace Sqfs.IoLoops

theorem noHard_cons {e : Ev} {sc : List Ev} (h : noHard (e :: sc) = true) :
    e.hard = false ∧ noHard sc = true := by
  simpa [noHard] using h

theorem noHard_full : noHard OS.full.sc = true := rfl

/-- One call by the four answers it can give.  An `EINTR` consumes an event of the script, every other answer ends a retry
loop or transfers a byte: `os.sc.length` plus the bytes still to transfer is the measure all of them end by. -/
theorem call_cases (os : OS) (c : Call) (cap : Nat) :
    ∃ r os', os.call c cap = (r, os') ∧ os'.sc.length ≤ os.sc.length ∧ (noHard os.sc = true → noHard os'.sc = true) ∧
      ((r = .eintr ∧ os'.sc.length < os.sc.length) ∨ (r = .err ∧ ¬ noHard os.sc = true) ∨
       (r = .n 0 ∧ (noHard os.sc = true → cap = 0)) ∨ ∃ k, r = .n (k + 1) ∧ k + 1 ≤ cap) := by
  obtain ⟨sc, log⟩ := os
  have full : ∀ m, m ≤ cap → (m = 0 → cap = 0) → (Ret.n m = .n 0 ∧ (noHard sc = true → cap = 0)) ∨
      ∃ k, Ret.n m = .n (k + 1) ∧ k + 1 ≤ cap := fun m hm h0 => by
    cases m with
    | zero => exact .inl ⟨rfl, fun _ => h0 rfl⟩
    | succ k => exact .inr ⟨k, rfl, hm⟩
  cases sc with
  | nil => exact ⟨.n cap, _, rfl, Nat.le_refl _, id, .inr (.inr (full cap (Nat.le_refl _) id))⟩
  | cons e sc =>
    refine ⟨_, _, rfl, Nat.le_succ _, fun h => (noHard_cons h).2, ?_⟩
    cases e with
    | part k => exact .inr (.inr (full _ (Nat.min_le_right _ _) (by omega)))
    | eintr => exact .inl ⟨rfl, Nat.lt_succ_self _⟩
    | err => exact .inr (.inl ⟨rfl, fun h => by simpa [Ev.hard] using (noHard_cons h).1⟩)
    | zero => exact .inr (.inr (.inl ⟨rfl, fun h => by simpa [Ev.hard] using (noHard_cons h).1⟩))

def readAtRc (file : Bytes) (off size : Nat) : Err :=
  if size = 0 ∨ off + size ≤ file.length then .ok else .oob

theorem readAtLoop_any (file : Bytes) :
    ∀ (fuel size : Nat) (os : OS), os.sc.length + size < fuel → ∀ (off : Nat) (acc : Bytes),
    ∃ e buf os', readAtLoop file fuel off size acc os = (e, buf, os') ∧ e ≠ .fuel ∧
      (e = .ok → buf = acc ++ (file.drop off).take size ∧ (size = 0 ∨ off + size ≤ file.length)) ∧
      (noHard os.sc = true → e = readAtRc file off size ∧ buf = acc ++ (file.drop off).take size) := by
  refine fuel_ind₂ (fun size (os : OS) => os.sc.length + size) fun fuel size os ih off acc => ?_
  unfold readAtLoop
  by_cases hs : size = 0
  · subst hs; exact ⟨_, _, _, rfl, nofun, by simp, by simp [readAtRc]⟩
  · rw [if_neg hs]
    obtain ⟨r, os', hc, hl, hh, ⟨rfl, hi⟩ | ⟨rfl, hx⟩ | ⟨rfl, h0⟩ | ⟨k, rfl, hm⟩⟩ :=
      call_cases os ⟨2, size, off⟩ (min size (file.length - off)) <;> rw [hc]
    · obtain ⟨e, buf, os'', hr, h1, h2, h3⟩ := ih size os' (by omega) off acc
      exact ⟨e, buf, os'', hr, h1, h2, fun hn => h3 (hh hn)⟩
    · exact ⟨_, _, _, rfl, nofun, nofun, fun hn => absurd hn hx⟩
    · refine ⟨_, _, _, rfl, nofun, nofun, fun hn => ?_⟩
      -- nothing was possible: the range starts at or behind the end of the file
      have hend : file.length ≤ off := by have := h0 hn; omega
      exact ⟨by rw [readAtRc, if_neg]; omega, by rw [List.drop_eq_nil_of_le hend, List.take_nil, List.append_nil]⟩
    · have hk : k + 1 ≤ size ∧ k + 1 ≤ file.length - off := Nat.le_min.1 hm
      obtain ⟨e, buf, os'', hr, h1, h2, h3⟩ :=
        ih (size - (k+1)) os' (by omega) (off + (k+1)) (acc ++ (file.drop off).take (k+1))
      have hrange : acc ++ (file.drop off).take (k+1) ++ (file.drop (off + (k+1))).take (size - (k+1)) =
          acc ++ (file.drop off).take size := by rw [List.append_assoc, List.take_drop_add _ _ hk.1]
      refine ⟨e, buf, os'', hr, h1, fun hok => ⟨(h2 hok).1.trans hrange, by have := (h2 hok).2; omega⟩, fun hn => ?_⟩
      refine ⟨(h3 (hh hn)).1.trans ?_, (h3 (hh hn)).2.trans hrange⟩
      have : (size - (k + 1) = 0 ∨ off + (k + 1) + (size - (k + 1)) ≤ file.length) ↔
          (size = 0 ∨ off + size ≤ file.length) := by omega
      simp only [readAtRc, this]

theorem pwrite_prefix_length (f : Bytes) (off : Nat) :
    ((f ++ List.replicate (off - f.length) 0).take off).length = off := by
  simp; omega

theorem pwriteBytes_append (f : Bytes) (off : Nat) (a b : Bytes) :
    pwriteBytes (pwriteBytes f off a) (off + a.length) b = pwriteBytes f off (a ++ b) := by
  unfold pwriteBytes
  generalize hP : (f ++ List.replicate (off - f.length) 0).take off = P
  have hPl : (P ++ a).length = off + a.length := by rw [List.length_append, ← hP, pwrite_prefix_length]
  rw [List.append_assoc (P ++ a), List.take_left' hPl, ← hPl, List.drop_length_add_append, List.drop_drop, hPl, List.length_append]
  simp only [List.append_assoc, Nat.add_assoc]

theorem pwriteBytes_length_ge (f : Bytes) (off : Nat) (d : Bytes) :
    off + d.length ≤ (pwriteBytes f off d).length := by
  unfold pwriteBytes
  have := pwrite_prefix_length f off
  simp only [List.length_append, this]
  omega

/-- the file after `stdio_write_at(off, data)`: unchanged by an empty write (no `pwrite` is issued) -/
def writeAtFile (file : Bytes) (off : Nat) (data : Bytes) : Bytes :=
  if data.length = 0 then file else pwriteBytes file off data

theorem writeAtFile_step (f : Bytes) (off k : Nat) (d : Bytes) (hk : k + 1 ≤ d.length) :
    writeAtFile (pwriteBytes f off (d.take (k + 1))) (off + (k + 1)) (d.drop (k + 1)) = writeAtFile f off d := by
  unfold writeAtFile
  have hd : ¬ d.length = 0 := by omega
  simp only [hd, if_false]
  by_cases h : (d.drop (k + 1)).length = 0
  · simp only [h, if_true]
    have : d.take (k + 1) = d := by
      apply List.take_of_length_le
      simp at h; omega
    rw [this]
  · simp only [h, if_false]
    have := pwriteBytes_append f off (d.take (k + 1)) (d.drop (k + 1))
    rwa [List.take_append_drop, List.length_take, Nat.min_eq_left hk] at this

theorem writeAtLoop_any :
    ∀ (fuel : Nat) (data : Bytes) (os : OS), os.sc.length + data.length < fuel → ∀ (file : Bytes) (off : Nat),
    ∃ e file' off' os', writeAtLoop fuel file off data os = (e, file', off', os') ∧ e ≠ .fuel ∧
      (e = .ok → file' = writeAtFile file off data ∧ off' = off + data.length) ∧ (noHard os.sc = true → e = .ok) := by
  refine fuel_ind₂ (fun (data : Bytes) (os : OS) => os.sc.length + data.length) fun fuel data os ih file off => ?_
  unfold writeAtLoop
  by_cases hs : data.length = 0
  · exact ⟨_, _, _, _, if_pos hs, nofun, fun _ => by simp [hs, writeAtFile], fun _ => rfl⟩
  · rw [if_neg hs]
    obtain ⟨r, os', hc, hl, hh, ⟨rfl, hi⟩ | ⟨rfl, hx⟩ | ⟨rfl, h0⟩ | ⟨k, rfl, hm⟩⟩ :=
      call_cases os ⟨3, data.length, off⟩ data.length <;> rw [hc]
    · obtain ⟨e, f', o', os'', hr, h1, h2, h3⟩ := ih data os' (by omega) file off
      exact ⟨e, f', o', os'', hr, h1, h2, fun hn => h3 (hh hn)⟩
    · exact ⟨_, _, _, _, rfl, nofun, nofun, fun hn => absurd hn hx⟩
    · exact ⟨_, _, _, _, rfl, nofun, nofun, fun hn => absurd (h0 hn) hs⟩
    · obtain ⟨e, f', o', os'', hr, h1, h2, h3⟩ :=
        ih (data.drop (k+1)) os' (by rw [List.length_drop]; omega) (pwriteBytes file off (data.take (k+1))) (off + (k+1))
      refine ⟨e, f', o', os'', hr, h1, fun hok => ?_, fun hn => h3 (hh hn)⟩
      exact ⟨by rw [(h2 hok).1, writeAtFile_step _ _ _ _ hm], by rw [(h2 hok).2, List.length_drop]; omega⟩

theorem writeAtLoop_spec (fuel : Nat) (file : Bytes) (off : Nat) (data : Bytes) (os : OS)
    (hn : noHard os.sc = true) (hf : os.sc.length + data.length < fuel) :
    ∃ os', writeAtLoop fuel file off data os = (.ok, writeAtFile file off data, off + data.length, os') := by
  obtain ⟨e, f', o', os', hr, _, h2, h3⟩ := writeAtLoop_any fuel data os hf file off
  obtain rfl := h3 hn
  obtain ⟨rfl, rfl⟩ := h2 rfl
  exact ⟨os', hr⟩

/-- what the client has appended so far: the bytes in the file, then zeros up to the descriptor's position
(`skew`, 0 unless an `ftruncate` failed), then the pending hole -/
def logical (st : OStream) : Bytes := st.out ++ List.replicate (st.skew + st.sparse) 0

theorem logical_append_hole (st : OStream) (n k : Nat) :
    logical { st with sparse := st.sparse + n, size := k } = logical st ++ List.replicate n 0 := by
  simp [logical, ← List.replicate_append_replicate]

/-- the state a complete `write_all(data)` leaves: the bytes land at the descriptor's position (a gap left by an
earlier seek whose `ftruncate` failed reads as zeros) -/
def wrRes (st : OStream) (data : Bytes) : OStream :=
  if data.length = 0 then st
  else { st with out := st.out ++ List.replicate st.skew 0 ++ data, size := st.size + data.length, skew := 0 }

theorem wrRes_step (st : OStream) (data : Bytes) (k : Nat) (hk : k + 1 ≤ data.length) :
    wrRes { st with out := st.out ++ List.replicate st.skew 0 ++ data.take (k + 1), skew := 0, size := st.size + (k + 1) }
      (data.drop (k + 1)) = wrRes st data := by
  obtain ⟨o, sz, sp, ns, sk⟩ := st
  unfold wrRes
  have hd : ¬ data.length = 0 := by omega
  simp only [hd, if_false]
  by_cases h : (data.drop (k + 1)).length = 0
  · simp only [h, if_true]
    have hl : data.length = k + 1 := by simp at h; omega
    have : data.take (k + 1) = data := List.take_of_length_le (by omega)
    rw [this, hl]
  · have hl : (data.drop (k + 1)).length = data.length - (k + 1) := by simp
    have hsz : sz + (k + 1) + (data.length - (k + 1)) = sz + data.length := by omega
    have hne : ¬ (data.length - (k + 1) = 0) := by omega
    simp only [List.replicate_zero, List.append_nil, List.append_assoc, List.take_append_drop, hl, hsz, hne, if_false]

theorem wrRes_sparse (st : OStream) (data : Bytes) : (wrRes st data).sparse = st.sparse := by
  unfold wrRes; split <;> rfl

theorem wrRes_skew0 (st : OStream) (data : Bytes) (h : st.skew = 0) :
    wrRes st data = { st with out := st.out ++ data, size := st.size + data.length } := by
  obtain ⟨o, sz, sp, ns, sk⟩ := st
  simp only at h
  subst h
  unfold wrRes
  by_cases hd : data.length = 0
  · have : data = [] := List.eq_nil_of_length_eq_zero hd
    subst this
    simp
  · simp [hd]

theorem wrRes_facts (st : OStream) (d : Bytes) (hs : st.sparse = 0) :
    logical (wrRes st d) = logical st ++ d ∧ (wrRes st d).noSparse = st.noSparse ∧
    (d.length ≠ 0 → (wrRes st d).skew = 0) := by
  obtain ⟨out, sz, sp, ns, sk⟩ := st
  simp only at hs
  subst hs
  unfold wrRes logical
  by_cases hd : d.length = 0
  · have : d = [] := List.eq_nil_of_length_eq_zero hd
    subst this
    simp
  · simp [hd]

/-- What every function of ostream.c is shown to do, whatever the script: the run `r` (status, stream, oracle) does not end for
lack of fuel; when it reports success the stream is `res`; and a script without hard events makes it succeed and leaves such
a script. -/
def Ran (os : OS) (res : OStream) (r : Err × OStream × OS) : Prop :=
  r.1 ≠ .fuel ∧ (r.1 = .ok → r.2.1 = res) ∧ (noHard os.sc = true → r.1 = .ok ∧ noHard r.2.2.sc = true)

theorem Ran.ok (st : OStream) (os : OS) : Ran os st (.ok, st, os) :=
  ⟨nofun, fun _ => rfl, fun h => ⟨rfl, h⟩⟩

theorem Ran.io {os os' : OS} {st res : OStream} (hx : ¬ noHard os.sc = true) : Ran os res (.io, st, os') :=
  ⟨nofun, nofun, fun h => absurd h hx⟩

theorem Ran.mono {os os' : OS} {res res' : OStream} {r : Err × OStream × OS} (h : Ran os' res' r)
    (hh : noHard os.sc = true → noHard os'.sc = true) (hr : res' = res) : Ran os res r :=
  hr ▸ ⟨h.1, h.2.1, fun hn => h.2.2 (hh hn)⟩

/-- a status other than success is passed on as it is -/
theorem Ran.fail {os os' : OS} {a b st : OStream} {e : Err} (h : Ran os a (e, st, os')) (he : e ≠ .ok) :
    Ran os b (e, st, os') :=
  ⟨h.1, fun hok => absurd hok he, fun hn => absurd (h.2.2 hn).1 he⟩

/-- `if (ret) return ret;` between two calls -/
theorem Ran.bind {os : OS} {a b : OStream} {r : Err × OStream × OS} (h : Ran os a r)
    {g : OStream → OS → Err × OStream × OS} (hg : ∀ os', Ran os' b (g a os')) :
    Ran os b (match (generalizing := false) r with | (.ok, st', os') => g st' os' | (e, st', os') => (e, st', os')) := by
  obtain ⟨e, st', os'⟩ := r
  cases e with
  | ok => obtain rfl := h.2.1 rfl; exact (hg os').mono (fun hn => (h.2.2 hn).2) rfl
  | _ => exact h.fail nofun

theorem Ran.det {os : OS} {res : OStream} {r : Err × OStream × OS} (h : Ran os res r) (hn : noHard os.sc = true) :
    ∃ os', r = (.ok, res, os') ∧ noHard os'.sc = true := by
  obtain ⟨e, st', os'⟩ := r
  obtain ⟨rfl, hn'⟩ := h.2.2 hn
  exact ⟨os', by rw [← h.2.1 rfl], hn'⟩

theorem writeAllLoop_any : ∀ (fuel : Nat) (data : Bytes) (os : OS), os.sc.length + data.length < fuel → ∀ st : OStream,
    Ran os (wrRes st data) (writeAllLoop fuel st data os) := by
  refine fuel_ind₂ (fun (data : Bytes) (os : OS) => os.sc.length + data.length) fun fuel data os ih st => ?_
  unfold writeAllLoop
  by_cases hs : data.length = 0
  · rw [if_pos hs, wrRes, if_pos hs]; exact .ok st os
  · rw [if_neg hs]
    obtain ⟨r, os', hc, hl, hh, ⟨rfl, hi⟩ | ⟨rfl, hx⟩ | ⟨rfl, h0⟩ | ⟨k, rfl, hm⟩⟩ :=
      call_cases os ⟨1, data.length, st.out.length⟩ data.length <;> rw [hc]
    · exact (ih data os' (by omega) st).mono hh rfl
    · exact .io hx
    · exact .io fun hn => hs (h0 hn)
    · exact (ih (data.drop (k+1)) os' (by rw [List.length_drop]; omega) _).mono hh (wrRes_step st data k hm)

/-- the state the `NO_SPARSE` loop of `realize_sparse` leaves when nothing fails -/
def spRes (st : OStream) : OStream :=
  if st.sparse = 0 then st
  else { st with out := st.out ++ List.replicate st.skew 0 ++ List.replicate st.sparse 0,
                 size := st.size + st.sparse, sparse := 0, skew := 0 }

theorem spRes_step (st : OStream) (diff : Nat) (h0 : 0 < diff) (hd : diff ≤ st.sparse) :
    spRes { wrRes st (List.replicate diff 0) with sparse := (wrRes st (List.replicate diff 0)).sparse - diff } =
      spRes st := by
  obtain ⟨o, sz, sp, ns, sk⟩ := st
  simp only at hd
  have h1 : ¬ diff = 0 := by omega
  have h2 : ¬ sp = 0 := by omega
  simp only [wrRes, spRes, List.length_replicate, h1, h2, if_false]
  by_cases h3 : sp - diff = 0
  · have : diff = sp := by omega
    subst this
    simp
  · simp only [h3, if_false, List.replicate_zero, List.append_nil, List.append_assoc, List.replicate_append_replicate,
      Nat.add_assoc, Nat.add_sub_cancel' hd]

theorem sparseLoop_any (bufsz : Nat) (hb : 0 < bufsz) : ∀ (fuel : Nat) (st : OStream), st.sparse < fuel → ∀ (os : OS),
    Ran os (spRes st) (sparseLoop bufsz fuel st os) := by
  refine fuel_ind OStream.sparse fun fuel st ih os => ?_
  unfold sparseLoop writeAll
  by_cases hs : st.sparse = 0
  · rw [if_pos hs, spRes, if_pos hs]; exact .ok st os
  · simp only [hs, if_false]
    generalize hd : (if st.sparse > bufsz then bufsz else st.sparse) = diff
    have hd1 : 0 < diff ∧ diff ≤ st.sparse := by
      rw [← hd]; split <;> omega
    exact (writeAllLoop_any _ (List.replicate diff 0) os (Nat.lt_succ_self _) st).bind
      (g := fun st' os' => sparseLoop bufsz fuel { st' with sparse := st'.sparse - diff } os') fun os' =>
      (ih _ (by simp only [wrRes_sparse]; omega) os').mono id (spRes_step st diff hd1.1 hd1.2)

theorem ftruncLoop_any : ∀ (fuel : Nat) (os : OS), os.sc.length < fuel → ∀ len : Nat,
    ∃ e os', ftruncLoop fuel len os = (e, os') ∧ e ≠ .fuel ∧
      (noHard os.sc = true → e = .ok ∧ noHard os'.sc = true) := by
  refine fuel_ind (fun os : OS => os.sc.length) fun fuel os ih len => ?_
  unfold ftruncLoop
  obtain ⟨r, os', hc, hl, hh, ⟨rfl, hi⟩ | ⟨rfl, hx⟩ | ⟨rfl, _⟩ | ⟨k, rfl, _⟩⟩ := call_cases os ⟨4, len, len⟩ 1 <;> rw [hc]
  · obtain ⟨e, os'', hr, h1, h2⟩ := ih os' (by omega) len
    exact ⟨e, os'', hr, h1, fun hn => h2 (hh hn)⟩
  · exact ⟨_, _, rfl, nofun, fun hn => absurd hn hx⟩
  · exact ⟨_, _, rfl, nofun, fun hn => ⟨rfl, hh hn⟩⟩
  · exact ⟨_, _, rfl, nofun, fun hn => ⟨rfl, hh hn⟩⟩

/-- the state `realize_sparse` leaves when nothing fails -/
def realizeRes (o : OStream) : OStream :=
  if o.sparse = 0 then o
  else if o.noSparse then spRes o
  else { o with out := o.out ++ List.replicate (o.skew + o.sparse) 0, sparse := 0, skew := 0 }

theorem realizeRes_facts (o : OStream) :
    logical (realizeRes o) = logical o ∧ (realizeRes o).sparse = 0 ∧
    (realizeRes o).noSparse = o.noSparse ∧ (o.skew = 0 → (realizeRes o).skew = 0 ∧ (realizeRes o).out = logical o) := by
  obtain ⟨out, sz, sp, ns, sk⟩ := o
  unfold realizeRes spRes logical
  by_cases hs : sp = 0
  · subst hs; simp
  · cases ns <;> simp [hs, ← List.replicate_append_replicate]

theorem realizeSparse_any (st : OStream) (os : OS) : Ran os (realizeRes st) (realizeSparse st os) := by
  unfold realizeSparse realizeRes
  by_cases hs : st.sparse = 0
  · rw [if_pos hs, if_pos hs]; exact .ok st os
  · simp only [hs, if_false]
    by_cases hf : st.noSparse = true
    · simp only [hf, if_true]
      exact sparseLoop_any (if st.sparse > 1024 then 1024 else st.sparse) (by split <;> omega) (st.sparse + 1) st
        (by omega) os
    · simp only [hf]
      obtain ⟨e, os', hr, h1, h2⟩ := ftruncLoop_any (os.sc.length + 1) os (by omega) (st.out.length + st.skew + st.sparse)
      rw [hr]
      cases e with
      | ok => exact ⟨nofun, fun _ => rfl, fun hn => ⟨rfl, (h2 hn).2⟩⟩
      | _ => exact ⟨h1, nofun, fun hn => absurd (h2 hn).1 nofun⟩

/-- the bytes an operation appends -/
def oopBytes : OOp → Bytes
  | .data d => d
  | .hole n => List.replicate n 0
  | .flush => []

/-- the state one client call leaves when nothing fails -/
def stepRes (st : OStream) : OOp → OStream
  | .hole n => { st with sparse := st.sparse + n, size := st.size + n }
  | .flush => realizeRes st
  | .data d => if d.length = 0 then { st with sparse := st.sparse + d.length, size := st.size + d.length }
               else wrRes (realizeRes st) d

theorem stepRes_facts (st : OStream) (op : OOp) :
    logical (stepRes st op) = logical st ++ oopBytes op ∧ (stepRes st op).noSparse = st.noSparse ∧
    (st.skew = 0 → (stepRes st op).skew = 0) ∧
    (op = .flush → (stepRes st op).sparse = 0 ∧ (st.skew = 0 → (stepRes st op).out = logical st)) := by
  obtain ⟨h1, h2, h3, h4⟩ := realizeRes_facts st
  cases op with
  | hole n => exact ⟨by simp [stepRes, logical_append_hole, oopBytes], rfl, fun h => h, by simp⟩
  | flush =>
    exact ⟨by rw [stepRes, oopBytes, List.append_nil, h1], h3, fun h => (h4 h).1, fun _ => ⟨h2, fun h => (h4 h).2⟩⟩
  | data d =>
    simp only [stepRes, oopBytes]
    by_cases hd : d.length = 0
    · have : d = [] := List.eq_nil_of_length_eq_zero hd
      subst this
      simp [logical]
    · simp only [hd, if_false]
      obtain ⟨w1, w3, w5⟩ := wrRes_facts (realizeRes st) d h2
      exact ⟨by rw [w1, h1], by rw [w3, h3], fun _ => w5 hd, by simp⟩

theorem stepRes_data_sparse (o : OStream) (d : Bytes) (ho : o.sparse = 0) : (stepRes o (.data d)).sparse = 0 := by
  simp only [stepRes]
  split
  · simp only [ho, ‹d.length = 0›]
  · rw [wrRes, if_neg ‹_›]; exact (realizeRes_facts o).2.1

theorem ostreamStep_any (st : OStream) (op : OOp) (os : OS) : Ran os (stepRes st op) (ostreamStep st op os) := by
  cases op with
  | hole n => exact .ok _ os
  | flush => exact realizeSparse_any st os
  | data d =>
    simp only [ostreamStep, fileAppend, stepRes, writeAll]
    by_cases hd : d.length = 0
    · rw [if_pos hd, if_pos hd]; exact .ok _ os
    · simp only [hd, if_false]
      exact (realizeSparse_any st os).bind (g := fun st' os' => writeAllLoop (os'.sc.length + d.length + 1) st' d os')
        fun os' => writeAllLoop_any _ d os' (Nat.lt_succ_self _) _

theorem ostreamStep_det (st : OStream) (op : OOp) (os : OS) (hn : noHard os.sc = true) :
    ∃ os', ostreamStep st op os = (.ok, stepRes st op, os') ∧ noHard os'.sc = true :=
  (ostreamStep_any st op os).det hn

theorem realizeSparse_det (st : OStream) (os : OS) (hn : noHard os.sc = true) :
    ∃ os', realizeSparse st os = (.ok, realizeRes st, os') ∧ noHard os'.sc = true :=
  ostreamStep_det st .flush os hn

theorem fileAppend_det (st : OStream) (d : Bytes) (size : Nat) (hsz : size = d.length) (os : OS)
    (hn : noHard os.sc = true) :
    ∃ os', fileAppend st (some d) size os = (.ok, stepRes st (.data d), os') ∧ noHard os'.sc = true := by
  subst hsz
  exact ostreamStep_det st (.data d) os hn

theorem ostreamStep_spec (st : OStream) (op : OOp) (os : OS) (hn : noHard os.sc = true) :
    ∃ st' os', ostreamStep st op os = (.ok, st', os') ∧ noHard os'.sc = true ∧
      logical st' = logical st ++ oopBytes op ∧ st'.noSparse = st.noSparse ∧ (st.skew = 0 → st'.skew = 0) ∧
      (op = .flush → st'.sparse = 0 ∧ (st.skew = 0 → st'.out = logical st)) := by
  obtain ⟨os', h, hn'⟩ := ostreamStep_det st op os hn
  obtain ⟨f1, f2, f3, f4⟩ := stepRes_facts st op
  exact ⟨_, os', h, hn', f1, f2, f3, f4⟩

theorem foldl_stepRes_facts (ops : List OOp) : ∀ st : OStream,
    logical (ops.foldl stepRes st) = logical st ++ (ops.map oopBytes).flatten ∧
    (ops.foldl stepRes st).noSparse = st.noSparse ∧ (st.skew = 0 → (ops.foldl stepRes st).skew = 0) := by
  induction ops with
  | nil => exact fun st => ⟨by simp, rfl, id⟩
  | cons op ops ih =>
    intro st
    obtain ⟨f1, f2, f3, _⟩ := stepRes_facts st op
    obtain ⟨i1, i2, i3⟩ := ih (stepRes st op)
    exact ⟨by rw [List.foldl_cons, i1, f1]; simp, by rw [List.foldl_cons, i2, f2], fun h => i3 (f3 h)⟩

/-- a `flush` as the last call leaves everything appended in the file itself -/
theorem foldl_stepRes_flush (ops : List OOp) (st : OStream) (hk : st.skew = 0) (hlast : ops.getLast? = some .flush) :
    (ops.foldl stepRes st).out = logical st ++ (ops.map oopBytes).flatten := by
  obtain ⟨ys, rfl⟩ := List.getLast?_eq_some_iff.1 hlast
  obtain ⟨y1, _, y3⟩ := foldl_stepRes_facts ys st
  rw [List.foldl_append, List.foldl_cons, List.foldl_nil, ((stepRes_facts _ .flush).2.2.2 rfl).2 (y3 hk), y1]
  simp [oopBytes]

/-- A sequence of client calls that stops at the first failure has the contract of a single one, and a run that succeeds
has made every call. -/
theorem runOOps_any (ops : List OOp) : ∀ (st : OStream) (idx : Nat) (os : OS),
    Ran os (ops.foldl stepRes st) ((runOOps idx st ops os).1.1, (runOOps idx st ops os).2) ∧
    ((runOOps idx st ops os).1.1 = .ok → (runOOps idx st ops os).1.2 = idx + ops.length) := by
  induction ops with
  | nil => exact fun st idx os => ⟨.ok st os, fun _ => rfl⟩
  | cons op ops ih =>
    intro st idx os
    have h := ostreamStep_any st op os
    rw [runOOps, List.foldl_cons, List.length_cons]
    generalize ostreamStep st op os = r at h ⊢
    obtain ⟨e, st1, os1⟩ := r
    cases e with
    | ok =>
      obtain rfl := h.2.1 rfl
      obtain ⟨h1, h2⟩ := ih (stepRes st op) (idx + 1) os1
      exact ⟨h1.mono (fun hn => (h.2.2 hn).2) rfl, fun hok => by rw [h2 hok, Nat.add_right_comm, Nat.add_assoc]⟩
    | _ => exact ⟨h.fail nofun, nofun⟩

theorem runOOps_det (ops : List OOp) (st : OStream) (idx : Nat) (os : OS) (hn : noHard os.sc = true) :
    ∃ os', runOOps idx st ops os = ((.ok, idx + ops.length), ops.foldl stepRes st, os') ∧ noHard os'.sc = true := by
  obtain ⟨h, hi⟩ := runOOps_any ops st idx os
  obtain ⟨hok, hn'⟩ := h.2.2 hn
  exact ⟨_, Prod.ext (Prod.ext hok (hi hok)) (Prod.ext (h.2.1 hok) rfl), hn'⟩

end Sqfs.IoLoops
