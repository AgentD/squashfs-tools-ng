import Sqfs.Proofs.ObjRestore
import Sqfs.Proofs.ObjView
/-! C19: operations that reshape an object's own buffers (`reallocSlot`, `releaseSlot`) keep the heap balanced and are
invisible to every other object; histories mixing operations, grabs and releases.

On a balanced heap a buffer stands in exactly one slot of its owner, so the pointer fix-up `map (rep old nw)` is an assignment to
that slot (`map_rep_eq_set`), and both operations are one heap step, `putSlot`: slot `s` is pointed to `nw` (the buffer just
allocated, or NULL), the internal pointers follow, the buffer the slot held is freed (`Bal.reallocSlot_eq`, `Bal.releaseSlot_eq`).
What the operations keep is proved of that step: `Bal.putSlot`, `putSlot_keeps`, and `Iso.putSlot` in `Sqfs.Proofs.C19Proj`. -/
namespace Sqfs.Obj

theorem listGet_eq_getElem {l : List (Option Nat)} {s : Nat} (hs : s < l.length) : listGet l s = l[s] := by
  rw [listGet, List.getElem?_eq_getElem hs, Option.join_some]

theorem listGet_lt {l : List (Option Nat)} {s : Nat} (h : (listGet l s).isSome) : s < l.length :=
  Decidable.by_contra fun hn => by rw [listGet, List.getElem?_eq_none (Nat.le_of_not_lt hn)] at h; cases h

theorem map_rep_eq_set {old : Nat} (nw : Option Nat) : ∀ (l : List (Option Nat)) (s : Nat), listGet l s = some old →
    l.count (some old) = 1 → l.map (rep old nw) = l.set s nw
  | [], _, h, _ => nomatch h
  | a :: l, 0, h, hc => by
    have ha : a = some old := h
    subst ha
    rw [List.count_cons_self] at hc
    have hn : some old ∉ l := List.count_eq_zero.mp (Nat.succ.inj hc)
    rw [List.map_cons, List.set_cons_zero, rep, if_pos rfl]
    congr 1
    exact (List.map_congr_left fun x hx => if_neg fun (e : x = some old) => hn (e ▸ hx)).trans (List.map_id' l)
  | a :: l, s + 1, h, hc => by
    have h' : listGet l s = some old := h
    have ha : a ≠ some old := fun e => by
      subst e
      rw [List.count_cons_self] at hc
      exact List.count_eq_zero.mp (Nat.succ.inj hc) (listGet_mem h')
    rw [List.count_cons_of_ne ha] at hc
    rw [List.map_cons, List.set_cons_succ, rep, if_neg ha, map_rep_eq_set nw l s h' hc]

theorem map_rep_subset {bs vs : List (Option Nat)} (hv : ∀ v, some v ∈ vs → some v ∈ bs) (old : Nat) (nw : Option Nat) :
    ∀ v, some v ∈ vs.map (rep old nw) → some v ∈ bs.map (rep old nw) := by
  intro v hvm
  obtain ⟨s, hs, he⟩ := List.mem_map.mp hvm
  cases s with
  | none => simp [rep] at he
  | some w => exact List.mem_map.mpr ⟨some w, hv w hs, he⟩

theorem mem_set_of_ne {l : List (Option Nat)} {v : Nat} (hv : some v ∈ l) {s : Nat} (hne : listGet l s ≠ some v) (nw : Option Nat) :
    some v ∈ l.set s nw := by
  obtain ⟨i, hi⟩ := List.mem_iff_getElem?.mp hv
  have his : ¬ s = i := fun e => hne (by rw [listGet, e, hi]; rfl)
  exact List.mem_iff_getElem?.mpr ⟨i, by rw [List.getElem?_set, if_neg his, hi]⟩

theorem count_set_add {l : List (Option Nat)} {s : Nat} (hs : s < l.length) (a b : Option Nat) :
    (l.set s a).count b + (if l[s] = b then 1 else 0) = l.count b + (if a = b then 1 else 0) := by
  rw [List.count_set hs]
  simp only [beq_iff_eq]
  by_cases e : l[s] = b
  · rw [if_pos e, Nat.add_right_comm, Nat.sub_add_cancel (List.count_pos_iff.mpr (e ▸ List.getElem_mem hs))]
  · rw [if_neg e]; rfl

theorem Bal.mem_set_slot {h : Heap} {U : Nat → Nat} {P PB : List Nat} (hb : Bal h U P PB []) {x : Nat} {ox : Obj}
    (hx : h.objs x = some ox) {s a : Nat} {nw : Option Nat} (hm : some a ∈ ox.bufs.set s nw) :
    nw = some a ∨ (some a ∈ ox.bufs ∧ listGet ox.bufs s ≠ some a) := by
  by_cases e : nw = some a
  · exact Or.inl e
  · have hm' := (List.mem_or_eq_of_mem_set hm).resolve_right fun e' => e e'.symm
    refine Or.inr ⟨hm', fun hg => ?_⟩
    -- `a` stood in slot `s` and nowhere else
    have hs := listGet_lt (by rw [hg]; rfl)
    have hc := count_set_add hs nw (some a)
    rw [← listGet_eq_getElem hs, hg, if_pos rfl, if_neg e, (hb.slot_once hx List.not_mem_nil hm').1] at hc
    exact List.count_eq_zero.mp (Nat.succ.inj hc) hm

theorem Bal.setSlots {h : Heap} {U : Nat → Nat} {P PB PB' Z : List Nat} (hb : Bal h U P PB Z) {x : Nat} {ox : Obj}
    (hx : h.objs x = some ox) (hz : x ∉ Z) (nb nv : List (Option Nat))
    (hvisCount : ∀ b, PB'.count b + nb.count (some b) = PB.count b + ox.bufs.count (some b))
    (hv : ∀ v, some v ∈ nv → some v ∈ nb) :
    Bal { h with objs := upd h.objs x (some { ox with bufs := nb, views := nv }) } U P PB' Z := by
  obtain ⟨h1, h2, h3, h4, h5, _⟩ := hb.live x ox hx hz
  exact hb.objStep x _ (Nat.le_refl _) (fun _ => hb.lt_nobj hx) (fun _ _ => Iff.rfl) _ (some { ox with bufs := nb, views := nv }) ⟨h1, h2, h3, h4, h5, hv⟩
    (vis_some.mpr ⟨hx, hz⟩) (if_neg hz) (fun _ _ => rfl) hvisCount

theorem freeBuf_objs (h : Heap) (b : Nat) : (freeBuf h b).objs = h.objs := by
  unfold freeBuf Heap.fail
  repeat' split
  all_goals rfl

theorem freeBuf_bufs_ne (h : Heap) {b b' : Nat} (hne : b' ≠ b) : (freeBuf h b).bufs b' = h.bufs b' := by
  unfold freeBuf Heap.fail
  repeat' split
  all_goals first | rfl | simp [upd, hne]

/-- slot `s` points to `nw` from now on, and so do the internal pointers into the buffer the slot held -/
def Obj.repoint (o : Obj) (s : Nat) (nw : Option Nat) : Obj :=
  { o with bufs := o.bufs.set s nw,
           views := match listGet o.bufs s with
             | none => o.views
             | some old => o.views.map (rep old nw) }

/-- The heap step that `reallocSlot` (after its allocation, `nw` the fresh buffer) and `releaseSlot` (`nw = none`) both are
on a balanced heap: slot `s` of `y` (record `o`) is repointed to `nw`, the buffer the slot held is freed. -/
def putSlot (h : Heap) (y : Nat) (o : Obj) (s : Nat) (nw : Option Nat) : Heap :=
  freeSlot { h with objs := upd h.objs y (some (o.repoint s nw)) } (listGet o.bufs s)

theorem putSlot_objs (h : Heap) (y : Nat) (o : Obj) (s : Nat) (nw : Option Nat) :
    (putSlot h y o s nw).objs = upd h.objs y (some (o.repoint s nw)) := by
  unfold putSlot
  cases listGet o.bufs s with
  | none => rfl
  | some old => exact freeBuf_objs _ _

theorem putSlot_bufs (h : Heap) (y : Nat) (o : Obj) (s : Nat) (nw : Option Nat) {b : Nat} (hb : listGet o.bufs s ≠ some b) :
    (putSlot h y o s nw).bufs b = h.bufs b := by
  unfold putSlot
  cases hg : listGet o.bufs s with
  | none => rfl
  | some old => exact freeBuf_bufs_ne _ fun e => hb (hg.trans (congrArg some e.symm))

theorem Bal.releaseSlot_eq {h : Heap} {U : Nat → Nat} {P PB : List Nat} (hb : Bal h U P PB []) {x : Nat} {ox : Obj}
    (hx : h.objs x = some ox) (s : Nat) :
    Sqfs.Obj.releaseSlot h x s = if (listGet ox.bufs s).isSome then putSlot h x ox s none else h := by
  unfold Sqfs.Obj.releaseSlot putSlot Obj.repoint
  simp only [hb.ok, hx]
  cases hg : listGet ox.bufs s with
  | none => rfl
  | some old => simp only [Option.isSome_some, if_true, freeSlot, map_rep_eq_set none _ s hg (hb.slot_once hx List.not_mem_nil (listGet_mem hg)).1]

theorem Bal.reallocSlot_eq {h : Heap} {U : Nat → Nat} {P PB : List Nat} (hb : Bal h U P PB []) {x : Nat} {ox : Obj}
    (hx : h.objs x = some ox) (s : Nat) (bf : Buf) :
    Sqfs.Obj.reallocSlot h x s bf = if s < ox.bufs.length then
      putSlot { h with bufs := upd h.bufs h.nbuf (some bf), nbuf := h.nbuf + 1 } x ox s (some h.nbuf) else h := by
  unfold Sqfs.Obj.reallocSlot putSlot Obj.repoint
  simp only [hb.ok, hx]
  split
  · cases hg : listGet ox.bufs s with
    | none => rfl
    | some old => simp only [freeSlot, map_rep_eq_set (some h.nbuf) _ s hg (hb.slot_once hx List.not_mem_nil (listGet_mem hg)).1]
  · rfl

theorem Bal.putSlot {h : Heap} {U : Nat → Nat} {P PB : List Nat} {nw : Option Nat} (hb : Bal h U P (nw.toList ++ PB) []) {x : Nat} {ox : Obj}
    (hx : h.objs x = some ox) {s : Nat} (hs : s < ox.bufs.length) : Bal (Sqfs.Obj.putSlot h x ox s nw) U P PB [] := by
  have hv := hb.views_owned hx List.not_mem_nil
  have bs : Bal { h with objs := upd h.objs x (some (ox.repoint s nw)) } U P ((listGet ox.bufs s).toList ++ PB) [] := by
    refine hb.setSlots hx List.not_mem_nil _ _ (fun b => ?_) ?_
    · -- the slot's old pointer becomes pending where the new one was
      have ct : ∀ o : Option Nat, o.toList.count b = if o = some b then 1 else 0 := fun o => by
        cases o with
        | none => rfl
        | some v => simp only [Option.toList_some, List.count_singleton, beq_iff_eq, Option.some.injEq]
      show ((listGet ox.bufs s).toList ++ PB).count b + (ox.bufs.set s nw).count (some b) = (nw.toList ++ PB).count b + ox.bufs.count (some b)
      rw [List.count_append, List.count_append, ct, ct, listGet_eq_getElem hs]
      have := count_set_add hs nw (some b)
      omega
    · show ∀ v, some v ∈ (ox.repoint s nw).views → some v ∈ ox.bufs.set s nw
      unfold Obj.repoint
      intro v hm
      cases hg : listGet ox.bufs s with
      | none => rw [hg] at hm; exact mem_set_of_ne (hv v hm) (by rw [hg]; nofun) nw
      | some old =>
        -- both lists got the same fix-up
        rw [hg] at hm
        rw [← map_rep_eq_set nw _ s hg (hb.slot_once hx List.not_mem_nil (listGet_mem hg)).1]
        exact map_rep_subset hv old nw v hm
  unfold Sqfs.Obj.putSlot
  cases hg : listGet ox.bufs s with
  | none => rw [hg] at bs; exact bs
  | some old => rw [hg] at bs; exact bs.freeBuf

theorem Bal.reallocSlot {h : Heap} {U : Nat → Nat} {P PB : List Nat} (hb : Bal h U P PB []) {x : Nat} {ox : Obj}
    (hx : h.objs x = some ox) (s : Nat) (bf : Buf) : Bal (Sqfs.Obj.reallocSlot h x s bf) U P PB [] := by
  rw [hb.reallocSlot_eq hx]
  split
  · rename_i hs; exact Bal.putSlot (nw := some h.nbuf) (hb.allocBuf bf) hx hs
  · exact hb

theorem Bal.releaseSlot {h : Heap} {U : Nat → Nat} {P PB : List Nat} (hb : Bal h U P PB []) {x : Nat} {ox : Obj}
    (hx : h.objs x = some ox) (s : Nat) : Bal (Sqfs.Obj.releaseSlot h x s) U P PB [] := by
  rw [hb.releaseSlot_eq hx]
  split
  · rename_i hg; exact Bal.putSlot (nw := none) hb hx (listGet_lt hg)
  · exact hb

theorem Bal.applyOp {h : Heap} {U : Nat → Nat} (hb : Balanced h U) {x : Nat} {ox : Obj} (hx : h.objs x = some ox) (w : SlotOp) :
    Balanced (Sqfs.Obj.applyOp h x w) U := by
  cases w with
  | store s v => exact hb.writeSlot hx (by simp) s v
  | realloc s bf => exact hb.reallocSlot hx s bf
  | release s => exact hb.releaseSlot hx s

/-- object `y` (record `oy` in `h`) is still there in `h'`, with the same slots (only its reference count may differ), and
every buffer it owns is what it was -/
def KeepsObj (h h' : Heap) (y : Nat) (oy : Obj) : Prop :=
  ∃ oy', h'.objs y = some oy' ∧ oy'.erase = oy.erase ∧ ∀ b, some b ∈ oy.bufs → h'.bufs b = h.bufs b

theorem KeepsObj.refl {h : Heap} {y : Nat} {oy : Obj} (hy : h.objs y = some oy) : KeepsObj h h y oy :=
  ⟨oy, hy, rfl, fun _ _ => rfl⟩

theorem KeepsObj.trans {h h1 h2 : Heap} {y : Nat} {oy oy1 : Obj} (a : KeepsObj h h1 y oy) (h1y : h1.objs y = some oy1)
    (b : KeepsObj h1 h2 y oy1) : KeepsObj h h2 y oy := by
  obtain ⟨oa, ha1, ha2, ha3⟩ := a
  obtain ⟨ob, hb1, hb2, hb3⟩ := b
  rw [h1y] at ha1; cases ha1
  have hbufs : oy1.bufs = oy.bufs := Obj.erase_bufs ha2
  exact ⟨ob, hb1, hb2.trans ha2, fun bb hbb => by rw [hb3 bb (hbufs ▸ hbb), ha3 bb hbb]⟩

theorem KeepsObj.slots {h h' : Heap} {y : Nat} {oy : Obj} (hk : KeepsObj h h' y oy) :
    ∃ oy', h'.objs y = some oy' ∧ oy'.bufs = oy.bufs ∧ oy'.views = oy.views ∧ oy'.refs = oy.refs := by
  obtain ⟨oy', h1, h2, _⟩ := hk
  exact ⟨oy', h1, Obj.erase_bufs h2, Obj.erase_views h2,
    Obj.erase_refs h2⟩

theorem view_of_keeps {h h' : Heap} {U : Nat → Nat} {y : Nat} {oy : Obj} (hb : Balanced h U) (hy : h.objs y = some oy)
    (hk : KeepsObj h h' y oy) : view h' y = view h y := by
  obtain ⟨oy', h1, h2, h3⟩ := hk
  exact view_congr hy h1 h2 (fun b hm => h3 b (mem_bufs_of_mem_slots (hb.views_owned hy (by simp)) hm))

theorem allocBuf_keeps {h : Heap} {U : Nat → Nat} {P PB : List Nat} (hb : Bal h U P PB []) {y : Nat} {oy : Obj}
    (hy : h.objs y = some oy) (bf : Buf) :
    KeepsObj h { h with bufs := upd h.bufs h.nbuf (some bf), nbuf := h.nbuf + 1 } y oy :=
  ⟨oy, hy, rfl, fun b hbm => upd_ne _ _ (Nat.ne_of_lt (hb.buf_lt hy List.not_mem_nil hbm))⟩

theorem putSlot_keeps {h : Heap} {U : Nat → Nat} {P PB : List Nat} (hb : Bal h U P PB []) {x y : Nat} {ox oy : Obj}
    (hx : h.objs x = some ox) (hy : h.objs y = some oy) (hne : x ≠ y) (s : Nat) (nw : Option Nat) :
    KeepsObj h (putSlot h x ox s nw) y oy :=
  ⟨oy, by rw [putSlot_objs, upd_ne _ _ (Ne.symm hne), hy], rfl, fun b hbm => putSlot_bufs h x ox s nw
    fun hg => hb.bufs_disjoint hx hy List.not_mem_nil List.not_mem_nil hne (listGet_mem hg) hbm⟩

theorem applyOp_keeps {h : Heap} {U : Nat → Nat} (hb : Balanced h U) {x y : Nat} {ox oy : Obj}
    (hx : h.objs x = some ox) (hy : h.objs y = some oy) (hne : x ≠ y) (w : SlotOp) : KeepsObj h (applyOp h x w) y oy := by
  cases w with
  | store s v =>
    show KeepsObj h (writeSlot h x s v) y oy
    rcases hb.writeSlot_eq hx (by simp) s v with e | ⟨b, bf, hown, _, e⟩ <;> rw [e]
    · exact KeepsObj.refl hy
    · exact ⟨oy, hy, rfl, fun b' hb' => upd_ne _ _ (fun e' => hb.bufs_disjoint hx hy (by simp) (by simp) hne hown (e' ▸ hb'))⟩
  | realloc s bf =>
    show KeepsObj h (reallocSlot h x s bf) y oy
    rw [hb.reallocSlot_eq hx]
    split
    · exact (allocBuf_keeps hb hy bf).trans hy (putSlot_keeps (hb.allocBuf bf) hx hy hne s _)
    · exact KeepsObj.refl hy
  | release s =>
    show KeepsObj h (releaseSlot h x s) y oy
    rw [hb.releaseSlot_eq hx]
    split
    · exact putSlot_keeps hb hx hy hne s none
    · exact KeepsObj.refl hy

theorem Ev.apply_bal {h : Heap} {U : Nat → Nat} (hb : Balanced h U) (e : Ev) (hu : 1 ≤ U e.target) :
    Balanced (e.apply h) (e.user U) := by
  obtain ⟨ox, hox⟩ := hb.user_live hu
  cases e with
  | op x w => exact hb.applyOp hox w
  | grab x => exact (hb.grabbed hox (by simp)).pendingToUser
  | drop x => exact (hb.userToPending hu).sqfsDrop

theorem Ev.user_other (U : Nat → Nat) (e : Ev) {y : Nat} (hy : e.target ≠ y) : e.user U y = U y := by
  have : y ≠ e.target := fun h => hy h.symm
  cases e <;> simp_all [Ev.user, Ev.target]

theorem Ev.apply_keeps {h : Heap} {U : Nat → Nat} (hb : Balanced h U) (e : Ev) (hu : 1 ≤ U e.target) {y : Nat} {oy : Obj}
    (hy : h.objs y = some oy) (hne : e.target ≠ y) (huy : 1 ≤ U y) : KeepsObj h (e.apply h) y oy := by
  have hb' := Ev.apply_bal hb e hu
  obtain ⟨ox, hox⟩ := hb.user_live hu
  cases e with
  | op x w => exact applyOp_keeps hb hox hy hne w
  | grab x =>
    have hyx : y ≠ x := fun e => hne e.symm
    show KeepsObj h (Sqfs.Obj.grab h x) y oy
    have hox' : h.objs x = some ox := hox
    rw [grab_eq hb.ok hox']
    exact ⟨oy, by simp [upd, hyx, hy], rfl, fun _ _ => rfl⟩
  | drop x =>
    have hs : Frame h (sqfsDrop h x) := Frame.drop _ _ _
    have huy' : 1 ≤ Ev.user U (.drop x) y := by rw [Ev.user_other U _ hne]; exact huy
    obtain ⟨oy', hoy', he⟩ := hs.obj_kept hy (hb.lt_nobj hy) (Option.isSome_iff_exists.mpr (hb'.user_live huy'))
    exact ⟨oy', hoy', he, fun b hbm =>
      hs.buf_kept (hb.buf_lt hy (by simp) hbm) (hb'.buf_live hoy' (by simp) (Obj.erase_bufs he ▸ hbm))⟩

theorem Admissible.split : ∀ (l : List Ev) {U : Nat → Nat} {r : List Ev}, Admissible U (l ++ r) →
    Admissible U l ∧ Admissible (userAfter U l) r := by
  intro l
  induction l with
  | nil => intro U r h; exact ⟨trivial, h⟩
  | cons a l ih =>
    intro U r h
    obtain ⟨h3, h4⟩ := ih h.2
    exact ⟨⟨h.1, h3⟩, h4⟩

theorem runEvs_bal : ∀ (es : List Ev) {h : Heap} {U : Nat → Nat}, Balanced h U → Admissible U es →
    Balanced (runEvs h es) (userAfter U es) := by
  intro es
  induction es with
  | nil => intro h U hb _; exact hb
  | cons e es ih =>
    intro h U hb ha
    exact ih (Ev.apply_bal hb e ha.1) ha.2

theorem runEvs_keeps : ∀ (es : List Ev) {h : Heap} {U : Nat → Nat} {y : Nat} {oy : Obj}, Balanced h U → Admissible U es →
    (∀ e ∈ es, e.target ≠ y) → 1 ≤ U y → h.objs y = some oy → KeepsObj h (runEvs h es) y oy ∧ 1 ≤ userAfter U es y := by
  intro es
  induction es with
  | nil => intro h U y oy _ _ _ hu hy; exact ⟨KeepsObj.refl hy, hu⟩
  | cons e es ih =>
    intro h U y oy hb ha hne hu hy
    have hney := hne e List.mem_cons_self
    have k1 := Ev.apply_keeps hb e ha.1 hy hney hu
    obtain ⟨oy1, h1y, _⟩ := k1.slots
    have hu1 : 1 ≤ e.user U y := by rw [Ev.user_other U e hney]; exact hu
    obtain ⟨k2, hu2⟩ := ih (Ev.apply_bal hb e ha.1) ha.2 (fun e' he' => hne e' (List.mem_cons_of_mem _ he')) hu1 h1y
    exact ⟨k1.trans h1y k2, hu2⟩

end Sqfs.Obj
