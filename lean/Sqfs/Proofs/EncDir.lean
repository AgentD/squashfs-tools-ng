/-
C01 — a directory listing written by `sqfs_dir_writer_end` is read back entry by entry by the `readdir` state machine.
The reader's `size` falls with every entry (`readdir_size`), so `readListing` obeys the recursion of its loop whatever the
fuel (`readListing_step`); the listing is then read run by run, entry by entry.
-/
import Sqfs.Model.EncDir
import Sqfs.Proofs.EncBytes
import Sqfs.Proofs.DirWriter
namespace Sqfs.Enc
open Sqfs.Consts
open Sqfs.Writer (le)
open Sqfs.DirWriter (DEnt Run dirEnd dirEndGo encodeRun encodeEnt runBytes entSize dirSizeOf RunOk sdiff32)

theorem dw_le16 (v : Nat) : Sqfs.DirWriter.le16 v = le 2 v := rfl

theorem dw_le32 (v : Nat) : Sqfs.DirWriter.le32 v = le 4 v := by
  unfold Sqfs.DirWriter.le32
  rw [show (65536 : Nat) = 256 ^ 2 by decide, dw_le16, dw_le16, le_mod, le_mod]
  exact (le_add 2 2 v).symm

theorem encodeEnt_eq_encFields (first : Nat) (e : DEnt) :
    encodeEnt first e = encFields [(2, e.inodeRef), (2, e.inodeNum + 4294967296 - first % 4294967296), (2, e.typ),
      (2, e.name.length - 1)] ++ e.name := by
  have h16 : ∀ v, Sqfs.DirWriter.le16 (v % 65536) = le 2 v := fun v => le_mod 2 v
  simp only [encodeEnt, encFields, h16, List.append_nil, List.append_assoc]

theorem encodeRun_eq_encFields (r : Run) :
    encodeRun r = encFields [(4, r.ents.length - 1), (4, r.startBlock), (4, r.inodeNumber)]
      ++ (r.ents.map (encodeEnt r.inodeNumber)).flatten := by
  have h32 : Sqfs.DirWriter.le32 ((r.ents.length - 1) % 4294967296) = le 4 (r.ents.length - 1) := by
    rw [dw_le32]; exact le_mod 4 _
  simp only [encodeRun, encFields, h32, dw_le32, List.append_nil, List.append_assoc]

theorem encListing_length (c blk off : Nat) (des : List DEnt) : (encListing c blk off des).length = listingSize c blk off des := by
  unfold encListing listingSize dirSizeOf
  generalize dirEnd c blk off des = runs
  induction runs with
  | nil => rfl
  | cons r rs ih => simp only [List.map_cons, List.flatten_cons, List.length_append, List.sum_cons, ih, Sqfs.DirWriter.encodeRun_length]

/-- the reader's `inum_base + (s16)diff` undoes the writer's 16-bit truncation inside a run: `Sqfs.DirWriter.delta_roundtrip`
(on `Int`) in the reader's unsigned 32-bit arithmetic, where `- 65536` is `+ 2³² - 65536` -/
theorem addDiff_roundtrip (num first : Nat) (hn : num < 4294967296) (hf : first < 4294967296)
    (h1 : -32767 ≤ sdiff32 num first) (h2 : sdiff32 num first ≤ 32767) :
    addDiff first ((num + 4294967296 - first % 4294967296) % 65536) = num := by
  have h := Sqfs.DirWriter.delta_roundtrip num first hn hf h1 h2
  simp only at h
  unfold addDiff
  generalize (num + 4294967296 - first % 4294967296) % 65536 = d at h ⊢
  split at h <;> rename_i hd
  · rw [if_pos hd]; omega
  · rw [if_neg hd]; omega

/-- `(inode_block << 16) | offset` puts a reference together again from the two parts a listing stores -/
theorem ref_roundtrip (x : Nat) : ((x >>> 16) <<< 16) ||| (x % 65536) = x := by
  rw [← Nat.shiftLeft_add_eq_or_of_lt (by omega), Nat.shiftRight_eq_div_pow, Nat.shiftLeft_eq]
  have := Nat.div_add_mod x 65536
  omega

/-- an entry handed out costs `size` the eight bytes of its header at least -/
theorem readdirEnt_size {s s' : RdState} {e : DirEntry} (h : readdirEnt s = .ent e s') : s'.size < s.size := by
  revert h
  fun_cases readdirEnt s <;> intro h <;> cases h
  have h1 : s.size - sizeofDirNode < s.size :=
    Nat.sub_lt (Nat.lt_of_le_of_lt (Nat.zero_le _) (Nat.not_le.mp ‹¬ s.size ≤ sizeofDirNode›)) (by decide)
  show (if _ ≥ s.size - sizeofDirNode then 0 else s.size - sizeofDirNode - _) < s.size
  split
  · exact Nat.lt_of_le_of_lt (Nat.zero_le _) h1
  · exact Nat.lt_of_le_of_lt (Nat.sub_le _ _) h1

theorem readdir_size {s s' : RdState} {e : DirEntry} (h : readdir s = .ent e s') : s'.size < s.size := by
  revert h
  fun_cases readdir s <;> intro h
  -- an entry comes from `readdirEnt` alone: behind a header (twelve bytes of `size` gone already) or inside a run
  · cases h
  · cases h
  · exact Nat.lt_of_lt_of_le (readdirEnt_size h) (Nat.sub_le _ _)
  · cases h
  · cases h
  · exact readdirEnt_size h

/-- `size` falls with every entry, on any input: any fuel above it is never used up -/
theorem readAllGo_fuel : ∀ (f f' : Nat) (s : RdState), s.size < f → s.size < f' → readAllGo f s = readAllGo f' s
  | 0, _, _, h, _ => absurd h (Nat.not_lt_zero _)
  | _, 0, _, _, h => absurd h (Nat.not_lt_zero _)
  | f + 1, f' + 1, s, h, h' => by
    unfold readAllGo
    cases hr : readdir s with
    | eof => rfl
    | err e => rfl
    | ent e s' =>
      have hs := readdir_size hr
      simp only
      rw [readAllGo_fuel f f' s' (Nat.lt_of_lt_of_le hs (Nat.le_of_lt_succ h)) (Nat.lt_of_lt_of_le hs (Nat.le_of_lt_succ h'))]

/-- the loop of `sqfs_dir_reader_read` without its fuel -/
theorem readListing_step (s : RdState) :
    readListing s = match readdir s with
      | .eof => .ok []
      | .err e => .error e
      | .ent e s' => (readListing s').map (e :: ·) := by
  unfold readListing
  rw [readAllGo]
  cases hr : readdir s with
  | eof => rfl
  | err e => rfl
  | ent e s' =>
    simp only
    rw [readAllGo_fuel s.size (s'.size + 1) s' (readdir_size hr) (Nat.lt_succ_self _)]
    cases readAllGo (s'.size + 1) s' <;> rfl

/-- what `sqfs_dir_writer_end` guarantees for an entry relative to the header of its run -/
def InRun (hblk hnum : Nat) (e : DEnt) : Prop :=
  WfDEnt e ∧ (e.inodeRef >>> 16) % 4294967296 = hblk ∧ -32767 ≤ sdiff32 e.inodeNum hnum ∧ sdiff32 e.inodeNum hnum ≤ 32767

theorem readdirEnt_spec (hblk hnum : Nat) (hh : hnum < 4294967296) (e : DEnt) (he : InRun hblk hnum e) (tail : Bytes)
    (k m : Nat) (hk : 1 ≤ k) :
    readdirEnt ⟨encodeEnt hnum e ++ tail, entSize e + k, m + 1, hnum, hblk⟩
      = .ent (DEnt.toEntry e) ⟨tail, k, m, hnum, hblk⟩ := by
  obtain ⟨⟨hl1, hl2, hn, ht, hr⟩, hb, hd1, hd2⟩ := he
  have hsz : entSize e + k - sizeofDirNode = e.name.length + k := by
    rw [entSize, Nat.add_assoc, Nat.add_sub_cancel_left]
  have hgt : ¬ entSize e + k ≤ sizeofDirNode := by
    rw [entSize, Nat.add_assoc]; exact Nat.not_le.mpr (Nat.lt_add_of_pos_right (Nat.add_pos_right _ hk))
  have e2 : (256 : Nat) ^ 2 = 65536 := by decide
  have hlen : (e.name.length - 1) % 65536 + 1 = e.name.length := by
    rw [Nat.mod_eq_of_lt (Nat.sub_one_lt_of_le hl1 hl2), Nat.sub_add_cancel hl1]
  have hty : e.typ % 65536 = e.typ := Nat.mod_eq_of_lt ht
  have href : (hblk <<< 16) ||| (e.inodeRef % 65536) = e.inodeRef := by
    rw [← hb, Nat.mod_eq_of_lt (by rw [Nat.shiftRight_eq_div_pow]; exact Nat.div_lt_of_lt_mul hr)]
    exact ref_roundtrip e.inodeRef
  have hf := readFields_encFields [(2, e.inodeRef), (2, e.inodeNum + 4294967296 - hnum % 4294967296), (2, e.typ),
      (2, e.name.length - 1)] (e.name ++ tail)
  simp only [List.map_cons, List.map_nil, wrapFields, e2] at hf
  unfold readdirEnt
  rw [encodeEnt_eq_encFields, List.append_assoc]
  simp only [hf, hlen, take?_append, hsz, hty, href, addDiff_roundtrip e.inodeNum hnum hn hh hd1 hd2, Nat.add_sub_cancel]
  rw [if_neg hgt, if_neg (Nat.not_le.mpr (Nat.lt_add_of_pos_right hk)), Nat.add_sub_cancel_left]
  rfl

theorem reads_entries (hblk hnum : Nat) (hh : hnum < 4294967296) {tail : Bytes} {k : Nat} {l : List DirEntry} (hk : 1 ≤ k)
    (hl : readListing ⟨tail, k, 0, hnum, hblk⟩ = .ok l) :
    ∀ (es : List DEnt), (∀ e ∈ es, InRun hblk hnum e) →
      readListing ⟨(es.map (encodeEnt hnum)).flatten ++ tail, (es.map entSize).sum + k, es.length, hnum, hblk⟩
        = .ok (es.map DEnt.toEntry ++ l) := by
  intro es
  induction es with
  | nil => intro _; simpa using hl
  | cons e es ih =>
    intro hall
    simp only [List.map_cons, List.flatten_cons, List.sum_cons, List.length_cons, List.append_assoc, List.cons_append, Nat.add_assoc]
    rw [readListing_step]
    simp only [readdir, Nat.succ_ne_zero, if_false,
      readdirEnt_spec hblk hnum hh e (hall e (List.mem_cons_self ..)) _ _ es.length (Nat.le_trans hk (Nat.le_add_left _ _)),
      ih (fun x hx => hall x (List.mem_cons_of_mem _ hx))]
    rfl

theorem runBytes_eq (es : List DEnt) : runBytes es = sizeofDirHeader + (es.map entSize).sum := rfl

theorem reads_run (r : Run) (hok : RunOk r) (hwf : ∀ e ∈ r.ents, WfDEnt e) {tail : Bytes} {k : Nat} {l : List DirEntry} (hk : 1 ≤ k)
    (b0 n0 : Nat) (hl : readListing ⟨tail, k, 0, r.inodeNumber, r.startBlock⟩ = .ok l) :
    readListing ⟨encodeRun r ++ tail, runBytes r.ents + k, 0, n0, b0⟩ = .ok (r.ents.map DEnt.toEntry ++ l) := by
  obtain ⟨first, tl, hents, hlen, hsb, hin, hall⟩ := hok
  have hfirst := hwf first (by rw [hents]; exact List.mem_cons_self ..)
  have hnum : r.inodeNumber < 4294967296 := by rw [hin]; exact hfirst.2.2.1
  have hsbl : r.startBlock < 4294967296 := by rw [hsb]; exact Nat.mod_lt _ (by decide)
  have hpos : r.ents.length = tl.length + 1 := by rw [hents]; rfl
  have hcnt := Nat.lt_of_succ_le (hpos ▸ hlen)
  have hf := readFields_encFields_fit [(4, tl.length), (4, r.startBlock), (4, r.inodeNumber)]
    ((r.ents.map (encodeEnt r.inodeNumber)).flatten ++ tail)
    (.cons (Nat.lt_of_lt_of_le hcnt (by decide)) (.cons hsbl (.cons hnum .nil)))
  -- reading the header leaves the reader where it stands between two entries of the run
  have hhead : readdir ⟨encodeRun r ++ tail, runBytes r.ents + k, 0, n0, b0⟩
      = readdir ⟨(r.ents.map (encodeEnt r.inodeNumber)).flatten ++ tail, (r.ents.map entSize).sum + k, r.ents.length,
          r.inodeNumber, r.startBlock⟩ := by
    have h1 : ¬ runBytes r.ents + k ≤ sizeofDirHeader := by
      rw [runBytes_eq, Nat.add_assoc]; exact Nat.not_le.mpr (Nat.lt_add_of_pos_right (Nat.add_pos_right _ hk))
    have h2 : runBytes r.ents + k - sizeofDirHeader = (r.ents.map entSize).sum + k := by
      rw [runBytes_eq, Nat.add_assoc, Nat.add_sub_cancel_left]
    simp only [readdir, if_true, h1, if_false, encodeRun_eq_encFields, List.append_assoc, hpos, Nat.add_sub_cancel, hf, h2,
      Nat.succ_ne_zero, Nat.not_lt.mpr (Nat.le_sub_one_of_lt hcnt)]
  rw [readListing_step, hhead, ← readListing_step]
  exact reads_entries r.startBlock r.inodeNumber hnum hk hl r.ents
    (fun e he => ⟨hwf e he, by rw [(hall e he).1, hsb], (hall e he).2⟩)

/-- all runs, then the three bytes of slack the inode's size field carries end the loop -/
theorem reads_runs (rest : Bytes) : ∀ (runs : List Run), (∀ r ∈ runs, RunOk r) → (∀ r ∈ runs, ∀ e ∈ r.ents, WfDEnt e) →
    ∀ (b0 n0 : Nat), readListing ⟨(runs.map encodeRun).flatten ++ rest, dirSizeOf runs + 3, 0, n0, b0⟩
      = .ok (((runs.map (·.ents)).flatten).map DEnt.toEntry) := by
  intro runs
  induction runs with
  | nil => intro _ _ b0 n0; rw [readListing_step]; simp [readdir, dirSizeOf, sizeofDirHeader]
  | cons r rs ih =>
    intro hok hwf b0 n0
    have h2 := ih (fun x hx => hok x (List.mem_cons_of_mem _ hx)) (fun x hx => hwf x (List.mem_cons_of_mem _ hx))
      r.startBlock r.inodeNumber
    have h1 := reads_run r (hok r (List.mem_cons_self ..)) (hwf r (List.mem_cons_self ..)) (Nat.le_add_left 1 _) b0 n0 h2
    simp only [List.map_cons, List.flatten_cons, List.append_assoc, List.map_append]
    have hsz : dirSizeOf (r :: rs) + 3 = runBytes r.ents + (dirSizeOf rs + 3) := Nat.add_assoc _ _ _
    rw [hsz]
    exact h1

theorem readListing_encListing (c blk off : Nat) (ents : List DEnt) (rest : Bytes) (hwf : ∀ e ∈ ents, WfDEnt e) :
    readListing ⟨encListing c blk off ents ++ rest, listingSize c blk off ents + 3, 0, 0, 0⟩
      = .ok (ents.map DEnt.toEntry) := by
  unfold encListing listingSize dirEnd
  have hflat := Sqfs.DirWriter.dirEndGo_flatten c (ents.length + 1) ents (Nat.lt_succ_self _) blk off 0
  have hok := Sqfs.DirWriter.dirEndGo_runs_ok c (ents.length + 1) blk off 0 ents
  generalize dirEndGo c (ents.length + 1) blk off 0 ents = runs at hflat hok
  have hwf' : ∀ r ∈ runs, ∀ e ∈ r.ents, WfDEnt e := by
    intro r hr e he
    apply hwf
    rw [← hflat]
    exact List.mem_flatten.mpr ⟨r.ents, List.mem_map.mpr ⟨r, hr, rfl⟩, he⟩
  have h := reads_runs rest runs hok hwf' 0 0
  rwa [hflat] at h

end Sqfs.Enc
