/-
C02, `packRef = specPack`: a fragment that was not found is placed (new open block / appended) and recorded in the
table — `FSt.place` + `insertRef` against the second half of `Pack.addFragment`; with the lookup in front, `fStep` on a
fragment against `Pack.placeTail` without its hole test.
-/
import Sqfs.Proofs.BPSPFrag
namespace Sqfs.BlockProc
open Sqfs.Consts
open Sqfs.BlockWriter (hasFlag)

variable {P : Params} {F : FSt} {W : WSt} {s : ASt}

/-- `FSt.store` after `makeRoom` -/
def storeAt (P : Params) (F1 : FSt) (x : Blk) : FSt :=
  let r := F1.place x
  let kf := x.flags &&& blkDontCompress
  { r.1 with ht := insertRef (chunkEqRef P.byteCompare r.1 x.data x.chk kf) ⟨r.2.1, r.2.2, x.data.length, x.chk, kf⟩ r.1.ht,
             effs := r.1.effs ++ mkEff x.inode (.fragLoc r.2.1 r.2.2) }

theorem store_eq (P : Params) (F : FSt) (x : Blk) : F.store P x = storeAt P (F.makeRoom P x.data.length) x := rfl

theorem flag_new_dc (x : Nat) :
    hasFlag ((x &&& blkDontCompress) ||| blkFragmentBlock) blkDontCompress = hasFlag x blkDontCompress := by
  rw [hasFlag_or, hasFlag_and, show hasFlag blkFragmentBlock blkDontCompress = false from rfl, Bool.or_false]; rfl

theorem flag_add_dc (f x : Nat) :
    hasFlag (f ||| (x &&& blkDontCompress)) blkDontCompress = (hasFlag f blkDontCompress || hasFlag x blkDontCompress) := by
  rw [hasFlag_or, hasFlag_and]; rfl

theorem mem_closed_of_fragData {i : Nat} {blk : Bytes} (hopn : F.opn = none) (h : F.fragData i = some blk) :
    ∃ e ∈ F.closed, e.1 = i := by
  unfold FSt.fragData at h
  rw [hopn] at h
  simp only [openBytes] at h
  cases hf : F.closed.find? (fun e => e.1 == i) with
  | none => rw [hf] at h; cases h
  | some e => exact ⟨e, (mem_of_find?_fst hf).1, (mem_of_find?_fst hf).2⟩

theorem look_insert {F2 : FSt} {l : List Chunk} (hg : ∀ c ∈ l, ChunkGood F2 c) (new : Chunk)
    (dc0 : Bool) (hfl : new.flags = if dc0 then blkDontCompress else 0) (t : Bytes) (ht : chunkData F2 new = t)
    (chunks : List Sqfs.Pack.Chunk)
    (hlook : ∀ dc ck d, Sqfs.Pack.lookupChunk (l.map (absChunk F2)) dc ck d = Sqfs.Pack.lookupChunk chunks dc ck d) :
    ∀ dc ck d, Sqfs.Pack.lookupChunk ((insertRef (chunkEqRef true F2 t new.hash new.flags) new l).map (absChunk F2)) dc ck d =
      Sqfs.Pack.lookupChunk (⟨new.index, new.offset, dc0, new.hash, t⟩ :: chunks) dc ck d := by
  intro dc ck d
  have habs : absChunk F2 new = ⟨new.index, new.offset, dc0, new.hash, t⟩ := by
    unfold absChunk
    rw [ht, hfl]
    cases dc0 <;> rfl
  have hlk := hlook dc ck d
  rw [lookupChunk_eq, lookupChunk_eq] at hlk ⊢
  -- the table's test is "same key as `new`"
  rw [hfl, lookup_insertRef (absChunk F2) ckey _ new (dc, ck, d) l
      (fun c hc => (congrArg ckey habs : ckey (absChunk F2 new) = (dc0, new.hash, t)) ▸ chunkEq_abs F2 c (hg c hc) t new.hash dc0),
    habs, List.find?_cons, List.find?_cons, hlk]

theorem fragData_open {b : Blk} (hb : F.opn = some b) (i : Nat) :
    F.fragData i = if b.index = i then some b.data else (F.closed.find? (fun e => e.1 == i)).map (·.2) := by
  unfold FSt.fragData; rw [hb]
  show (match (if b.index = i then some b.data else none) with | some d => some d | none => _) = _
  by_cases hi : b.index = i
  · rw [if_pos hi, if_pos hi]
  · rw [if_neg hi, if_neg hi]

/-- bytes and `DONT_COMPRESS` of the open fragment block; none open counts as an empty one -/
def openOr (o : Option (Bytes × Bool)) : Bytes × Bool := o.getD ([], false)

/-- `FSt.place` in one form: the open block afterwards holds the former bytes, then `x.data` -/
theorem place_spec {σ : Sqfs.Pack.State} (h : FSim P F σ) (x : Blk) :
    ∃ nb : Blk, F.place x = ({ F with ntbl := σ.frags.length + 1, opn := some nb }, σ.frags.length, (openOr (openView F.opn)).1.length) ∧
      nb.index = σ.frags.length ∧ FBRawFlags nb.flags ∧ nb.data = (openOr (openView F.opn)).1 ++ x.data ∧
      hasFlag nb.flags blkDontCompress = ((openOr (openView F.opn)).2 || hasFlag x.flags blkDontCompress) := by
  have hnt := h.ntbl
  cases h1 : F.opn with
  | none =>
    rw [h1] at hnt
    refine ⟨{ x with index := F.ntbl, flags := (x.flags &&& blkDontCompress) ||| blkFragmentBlock }, ?_, hnt, fbRaw_new x.flags, rfl,
      flag_new_dc x.flags⟩
    unfold FSt.place
    rw [h1, show F.ntbl = σ.frags.length from hnt]; rfl
  | some fb =>
    rw [h1] at hnt
    obtain ⟨hidx, hraw, _⟩ := h.opnOK fb h1
    refine ⟨{ fb with data := fb.data ++ x.data, flags := fb.flags ||| (x.flags &&& blkDontCompress) }, ?_, hidx,
      fbRaw_add hraw x.flags, rfl, flag_add_dc fb.flags x.flags⟩
    unfold FSt.place
    rw [h1]
    show (({ F with ntbl := F.ntbl, opn := _ } : FSt), _, _) = _
    rw [show F.ntbl = σ.frags.length + 1 from hnt, hidx]; rfl

theorem specPlace_eq (σ : Sqfs.Pack.State) (Fl : Sqfs.Pack.Flags) (ck : UInt32) (t : Bytes) :
    specPlace σ Fl ck t =
      ({ σ with openFrag := some ⟨(openOr (openViewS σ.openFrag)).1 ++ t, (openOr (openViewS σ.openFrag)).2 || Fl.dontCompress⟩
                chunks := ⟨σ.frags.length, (openOr (openViewS σ.openFrag)).1.length, Fl.dontCompress, ck, t⟩ :: σ.chunks },
       (σ.frags.length, (openOr (openViewS σ.openFrag)).1.length)) := by
  unfold specPlace
  cases σ.openFrag <;> rfl

/-- the blocks of `F` are still there when the open block `nb` holds the former open bytes in front -/
theorem FExt.place {σ : Sqfs.Pack.State} (h : FSim P F σ) {nb : Blk} (hidx : nb.index = σ.frags.length) {t : Bytes}
    (hdata : nb.data = (openOr (openView F.opn)).1 ++ t) (n : Nat) : FExt F { F with ntbl := n, opn := some nb } := by
  intro i blk hb
  rw [fragData_open (F := { F with ntbl := n, opn := some nb }) rfl]
  cases h1 : F.opn with
  | none =>
    obtain ⟨e, he, hei⟩ := mem_closed_of_fragData h1 hb
    have := h.closedIdx e he
    refine ⟨blk, ?_, List.prefix_refl _⟩
    rw [if_neg (by omega), ← hb]
    unfold FSt.fragData; rw [h1]; rfl
  | some fb =>
    rw [fragData_open h1] at hb
    rw [h1] at hdata
    rw [hidx, ← (h.opnOK fb h1).1]
    by_cases hi : fb.index = i
    · rw [if_pos hi] at hb ⊢
      exact ⟨_, rfl, Option.some.inj hb ▸ hdata ▸ List.prefix_append _ _⟩
    · rw [if_neg hi] at hb ⊢
      exact ⟨blk, hb, List.prefix_refl _⟩

theorem place_sim (hbc : P.byteCompare = true) (h : Sim P F W s) (x : Blk) (Fl : Sqfs.Pack.Flags)
    (hdc : Fl.dontCompress = hasFlag x.flags blkDontCompress) (hne : x.data ≠ [])
    (hfit : (openOr (openView F.opn)).1.length + x.data.length ≤ P.B) :
    Sim P (storeAt P F x) W { s with σ := (specPlace s.σ Fl x.chk x.data).1, fe := s.fe ++ mkEff x.inode (.fragLoc
      (specPlace s.σ Fl x.chk x.data).2.1 (specPlace s.σ Fl x.chk x.data).2.2) } := by
  obtain ⟨nb, hpl, hidx, hraw, hdata, hdcnb⟩ := place_spec h.f x
  have hext := FExt.place h.f hidx hdata (s.σ.frags.length + 1)
  obtain ⟨F2, hF2⟩ : ∃ F2 : FSt, F2 = { F with ntbl := s.σ.frags.length + 1, opn := some nb } := ⟨_, rfl⟩
  obtain ⟨off, hoff⟩ : ∃ off, off = (openOr (openView F.opn)).1.length := ⟨_, rfl⟩
  rw [← hF2] at hpl hext
  rw [← hoff] at hpl hfit
  generalize hnew : (⟨s.σ.frags.length, off, x.data.length, x.chk, x.flags &&& blkDontCompress⟩ : Chunk) = new
  have e1 : storeAt P F x =
      { F2 with
        ht := insertRef (chunkEqRef true F2 x.data x.chk (x.flags &&& blkDontCompress)) new F2.ht
        effs := F2.effs ++ mkEff x.inode (.fragLoc s.σ.frags.length off) } := by
    unfold storeAt; rw [hpl, hbc, ← hnew]
  rw [e1, specPlace_eq, ← h.f.opn, ← hoff]
  have hopn : F2.opn = some nb := by rw [hF2]
  have hht : F2.ht = F.ht := by rw [hF2]
  have hblk : F2.fragData s.σ.frags.length = some nb.data := hidx ▸ (fragData_open hopn _).trans (if_pos rfl)
  have hlen : nb.data.length = off + x.data.length := by rw [hdata, List.length_append, hoff]
  have hgnew : ChunkGood F2 new := by
    rw [← hnew]; exact ⟨⟨nb.data, hblk, Nat.le_of_eq hlen.symm⟩, (FragDedup.dc_cases x.flags).imp id id⟩
  have hdata' : chunkData F2 new = x.data := by
    rw [← hnew]; unfold chunkData
    rw [hblk, hdata, hoff]
    exact List.take_drop_right _ _
  obtain ⟨hold, hlook⟩ := h.f.table hext hht
  have hg2 : ∀ c ∈ insertRef (chunkEqRef true F2 x.data x.chk (x.flags &&& blkDontCompress)) new F2.ht, ChunkGood F2 c := by
    intro c hc
    rcases mem_insertRef hc with hc | hc
    · rw [hc]; exact hgnew
    · exact hold c hc
  have he3 : FExt F2
      { F2 with
        ht := insertRef (chunkEqRef true F2 x.data x.chk (x.flags &&& blkDontCompress)) new F2.ht
        effs := F2.effs ++ mkEff x.inode (.fragLoc s.σ.frags.length off) } := FExt.of_eq (fun _ => rfl)
  refine ⟨(show F2.stream = F.stream by rw [hF2]) ▸ h.run, h.w, ⟨?_, ?_, ?_, ?_, ?_, ?_⟩, h.fs,
    by rw [hF2]; exact congrArg (· ++ _) h.fe, h.we⟩
  · show openView F2.opn = _
    rw [hopn]
    simp only [openView, openViewS, Option.map_some, hdata, hdcnb, hdc]
  · intro fb hfb
    have : nb = fb := Option.some.inj (hopn.symm.trans hfb)
    exact this ▸ ⟨hidx, hraw, hdata ▸ fun hh => hne (List.append_eq_nil_iff.mp hh).2, hlen ▸ hfit⟩
  · show F2.ntbl = s.σ.frags.length + if F2.opn.isSome then 1 else 0
    rw [hopn, hF2]; rfl
  · show ∀ e ∈ F2.closed, _
    rw [hF2]; exact h.f.closedIdx
  · intro c hc
    exact ((hg2 c hc).ext he3).1
  · show ∀ dc ck d, Sqfs.Pack.lookupChunk (List.map (absChunk _) (insertRef _ new F2.ht)) dc ck d = _
    rw [map_abs_ext he3 hg2]
    have hl := look_insert (F2 := F2) (l := F2.ht) hold new Fl.dontCompress
      (by rw [← hnew]; show x.flags &&& blkDontCompress = _; rw [keyFlags_eq, hdc]) x.data hdata' s.σ.chunks
      hlook
    rw [← hnew] at hl ⊢
    exact hl

theorem store_sim (hP : CodecFits P) (hbc : P.byteCompare = true)
    (h : Sim P F W s) (x : Blk) (Fl : Sqfs.Pack.Flags)
    (hdc : Fl.dontCompress = hasFlag x.flags blkDontCompress) (hne : x.data ≠ []) (hsz : x.data.length ≤ P.B) :
    ∃ W', Sim P (F.store P x) W'
      { s with
        σ := (Sqfs.Pack.addFragment (toPackParams P) s.σ Fl x.chk x.data).1
        fe := s.fe ++ mkEff x.inode (.fragLoc (Sqfs.Pack.addFragment (toPackParams P) s.σ Fl x.chk x.data).2.1
          (Sqfs.Pack.addFragment (toPackParams P) s.σ Fl x.chk x.data).2.2) } := by
  obtain ⟨W', hs, hfit⟩ := makeRoom_sim hP h x.data.length
  rw [store_eq, addFragment_eq]
  refine ⟨W', place_sim hbc hs x Fl hdc hne ?_⟩
  cases h1 : (F.makeRoom P x.data.length).opn with
  | none => exact (Nat.zero_add _).symm ▸ hsz
  | some fb => exact hfit fb h1

/-- `Pack.placeFrag` with the key checksum left free: look the tail up, else add it -/
def specFrag (P' : Sqfs.Pack.Params) (σ : Sqfs.Pack.State) (Fl : Sqfs.Pack.Flags) (ck : UInt32) (t : Bytes) :
    Sqfs.Pack.State × (Nat × Nat) :=
  match (if Fl.dontDedup then none else Sqfs.Pack.lookupChunk σ.chunks Fl.dontCompress ck t) with
  | some c => (σ, (c.index, c.offset))
  | none => Sqfs.Pack.addFragment P' σ Fl ck t

theorem frag_sim (hP : CodecFits P) (hbc : P.byteCompare = true)
    (h : Sim P F W s) (x : Blk) (Fl : Sqfs.Pack.Flags)
    (hfrag : hasFlag x.flags blkIsFragment = true) (hnsp : hasFlag x.flags blkIsSparse = false)
    (hdc : Fl.dontCompress = hasFlag x.flags blkDontCompress) (hdd : Fl.dontDedup = hasFlag x.flags blkDontDeduplicate)
    (hne : x.data ≠ []) (hsz : x.data.length ≤ P.B) :
    ∃ W', Sim P (fStep P F x) W'
      { s with
        σ := (specFrag (toPackParams P) s.σ Fl x.chk x.data).1
        fe := s.fe ++ mkEff x.inode (.fragLoc (specFrag (toPackParams P) s.σ Fl x.chk x.data).2.1
          (specFrag (toPackParams P) s.σ Fl x.chk x.data).2.2) } := by
  rw [fStep_frag P F x hfrag, hnsp, if_neg Bool.false_ne_true]
  have hstore := store_sim hP hbc h x Fl hdc hne hsz
  unfold FSt.lookup specFrag
  rw [hdd]
  by_cases hddc : hasFlag x.flags blkDontDeduplicate = true
  · simp only [hddc, Bool.not_true, Bool.false_eq_true, if_false, if_true]
    exact hstore
  · have hddc' : hasFlag x.flags blkDontDeduplicate = false := by simpa using hddc
    simp only [hddc', Bool.not_false, if_true, Bool.false_eq_true, if_false]
    have hfind := find_abs F F.ht h.f.good x.data x.chk (hasFlag x.flags blkDontCompress)
    rw [← keyFlags_eq, h.f.look] at hfind
    rw [hbc, hdc, ← hfind]
    cases hf : F.ht.find? (chunkEqRef true F x.data x.chk (x.flags &&& blkDontCompress)) with
    | none =>
      simp only [Option.map_none]
      exact hstore
    | some c =>
      simp only [Option.map_some]
      exact ⟨W, h.run, h.w, h.f.congr rfl rfl rfl rfl, h.fs, congrArg (· ++ _) h.fe, h.we⟩

end Sqfs.BlockProc
