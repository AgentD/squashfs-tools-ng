/-
Helper lemmas for C12: the member stream of the tar iterator (model `Sqfs/Model/C12TarStream.lean`) inherits
script independence from the archive stream it wraps, and so do the head of `it_next` and a whole member run.
-/
import Sqfs.Proofs.IoXfrm
import Sqfs.Model.C12TarStream
namespace Sqfs.IoLoops

/-- iterators over related archive streams that agree on every other field -/
def TItRel {σ τ : Type} (R : σ → τ → Prop) (a : TarIt σ) (b : TarIt τ) : Prop :=
  R a.stream b.stream ∧ a.state = b.state ∧ a.locked = b.locked ∧ a.recordSize = b.recordSize ∧
  a.fileSize = b.fileSize ∧ a.offset = b.offset ∧ a.padding = b.padding ∧ a.sparse = b.sparse ∧
  a.lastSparse = b.lastSparse ∧ a.compressed = b.compressed

/-- member streams over related iterators -/
def TRel {σ τ : Type} (R : σ → τ → Prop) (x : TarStrm σ) (y : TarStrm τ) : Prop :=
  TItRel R x.it y.it ∧ x.alive = y.alive ∧ x.state = y.state ∧ x.crashed = y.crashed

/-- `a` reading from another archive stream, every other field as it is: related iterators have this form
(`TItRel.elim`), so a proof about two related iterators is a proof about one.  Reducible, so that a guard on a field
of `a.withStream t` is the same guard as on `a`, decidability instance included. -/
abbrev TarIt.withStream {σ τ : Type} (a : TarIt σ) (t : τ) : TarIt τ :=
  ⟨t, a.state, a.locked, a.recordSize, a.fileSize, a.offset, a.padding, a.sparse, a.lastSparse, a.compressed⟩

abbrev TarStrm.withStream {σ τ : Type} (x : TarStrm σ) (t : τ) : TarStrm τ :=
  ⟨x.it.withStream t, x.alive, x.state, x.crashed⟩

theorem TItRel.intro {σ τ : Type} {R : σ → τ → Prop} {a : TarIt σ} {t : τ} (h : R a.stream t) :
    TItRel R a (a.withStream t) :=
  ⟨h, rfl, rfl, rfl, rfl, rfl, rfl, rfl, rfl, rfl⟩

theorem TItRel.elim {σ τ : Type} {R : σ → τ → Prop} {a : TarIt σ} {b : TarIt τ} (h : TItRel R a b) :
    ∃ t, R a.stream t ∧ b = a.withStream t := by
  obtain ⟨t, _, _, _, _, _, _, _, _, _⟩ := b
  obtain ⟨h, rfl, rfl, rfl, rfl, rfl, rfl, rfl, rfl, rfl⟩ := h
  exact ⟨t, h, rfl⟩

theorem TItRel.state_eq {σ τ : Type} {R : σ → τ → Prop} {a : TarIt σ} {b : TarIt τ} (h : TItRel R a b) :
    a.state = b.state := h.2.1

theorem TItRel.recordSize_eq {σ τ : Type} {R : σ → τ → Prop} {a : TarIt σ} {b : TarIt τ} (h : TItRel R a b) :
    a.recordSize = b.recordSize := h.2.2.2.1

theorem TItRel.compressed_eq {σ τ : Type} {R : σ → τ → Prop} {a : TarIt σ} {b : TarIt τ} (h : TItRel R a b) :
    a.compressed = b.compressed := h.2.2.2.2.2.2.2.2.2

theorem TRel.intro {σ τ : Type} {R : σ → τ → Prop} {x : TarStrm σ} {t : τ} (h : R x.it.stream t) :
    TRel R x (x.withStream t) :=
  ⟨.intro h, rfl, rfl, rfl⟩

theorem TRel.elim {σ τ : Type} {R : σ → τ → Prop} {x : TarStrm σ} {y : TarStrm τ} (h : TRel R x y) :
    ∃ t, R x.it.stream t ∧ y = x.withStream t := by
  obtain ⟨b, _, _, _⟩ := y
  obtain ⟨hit, rfl, rfl, rfl⟩ := h
  obtain ⟨t, hrs, rfl⟩ := hit.elim
  exact ⟨t, hrs, rfl⟩

theorem TRel.dropParent {σ τ : Type} {R : σ → τ → Prop} {x : TarStrm σ} {y : TarStrm τ} (h : TRel R x y)
    (st : GRet) : TRel R (dropParent x st) (dropParent y st) := by
  obtain ⟨t, hrs, rfl⟩ := h.elim
  simp only [Sqfs.IoLoops.dropParent]
  exact ite_both (fun _ => .intro hrs) fun _ => .intro hrs

theorem TRel.tarEof {σ τ : Type} {R : σ → τ → Prop} {x : TarStrm σ} {y : TarStrm τ} (h : TRel R x y) :
    TRel R (tarEof x) (tarEof y) := by
  obtain ⟨hit, ha, -, hc⟩ := h.dropParent .ok
  exact ⟨hit, ha, rfl, hc⟩

theorem TRel.tarClose {σ τ : Type} {R : σ → τ → Prop} {x : TarStrm σ} {y : TarStrm τ} (h : TRel R x y) :
    TItRel R (tarClose x) (tarClose y) :=
  (h.dropParent .ok).1

theorem TItRel.tarOpen {σ τ : Type} {R : σ → τ → Prop} {a : TarIt σ} {b : TarIt τ} (h : TItRel R a b) (g : MemberGeom) :
    TRel R (tarOpen (a.setMember g)) (tarOpen (b.setMember g)) := by
  obtain ⟨t, hrs, rfl⟩ := h.elim
  exact .intro hrs

section
variable {σ τ : Type} {I : StreamI σ} {J : StreamI τ} {R : σ → τ → Prop} (hs : Sim I J R)
include hs

theorem tar_sim :
    Sim (tarStream I) (tarStream J) (TRel R) where
  get := by
    intro x y os osj want ⟨hr, hn, hj⟩
    obtain ⟨t, hrs, rfl⟩ := hr.elim
    let P (a : GRet × Bytes × TarStrm σ × OS) (b : GRet × Bytes × TarStrm τ × OS) : Prop :=
      ∃ r w s' t' os', a = (r, w, s', os') ∧ b = (r, w, t', osj) ∧ Conf (TRel R) s' t' os' osj
    show P (tarGet I x want os) (tarGet J (x.withStream t) want osj)
    simp only [tarGet]
    refine ite_both (fun _ => ⟨_, _, _, _, os, rfl, rfl, hr, hn, hj⟩) fun _ =>
      ite_both (fun _ => ⟨_, _, _, _, os, rfl, rfl, hr, hn, hj⟩) fun _ =>
      ite_both (fun _ => ⟨_, _, _, _, os, rfl, rfl, hr.tarEof, hn, hj⟩) fun _ => ?_
    generalize isSparseRegion x.it.offset x.it.fileSize x.it.sparse = r
    refine ite_both (fun _ => ⟨_, _, _, _, os, rfl, rfl, TRel.tarEof (.intro hrs), hn, hj⟩) fun _ => ?_
    generalize (if r.2 > want then want else r.2) = diff
    refine ite_both (fun _ => ⟨_, _, _, _, os, rfl, rfl, .intro hrs, hn, hj⟩) fun _ => ?_
    obtain ⟨g, w, s1, t1, os1, hI, hJ, hr1, hn1, hj1⟩ := hs.get diff ⟨hrs, hn, hj⟩
    simp only [hI, hJ]
    cases g with
    | ok => exact ⟨_, _, _, _, os1, rfl, rfl, .intro hr1, hn1, hj1⟩
    | eof => exact ⟨_, _, _, _, os1, rfl, rfl, TRel.dropParent (.intro hr1) _, hn1, hj1⟩
    | fail e => exact ⟨_, _, _, _, os1, rfl, rfl, TRel.dropParent (.intro hr1) _, hn1, hj1⟩
  adv := by
    intro x y n hr
    obtain ⟨t, hrs, rfl⟩ := hr.elim
    simp only [tarStream, tarAdv]
    exact ite_both (fun _ => hr) fun _ => ite_both (fun _ => .intro hrs) fun _ =>
      ite_both (fun _ => .intro (hs.adv _ hrs)) fun _ => .intro hrs
  bound := by
    intro x y hr
    obtain ⟨t, hrs, rfl⟩ := hr.elim
    rfl

theorem readHeaderHead_sim :
    ∀ (fuel : Nat) {s : σ} {t : τ} {os osj : OS} (pz : Bool), Conf R s t os osj →
    Agree R (readHeaderHead I fuel s pz os) (readHeaderHead J fuel t pz osj) := by
  intro fuel
  induction fuel with
  | zero => intro s t os osj pz h; exact .mk h
  | succ fuel ih =>
    intro s t os osj pz h
    unfold readHeaderHead
    obtain ⟨r, s1, t1, os1, oj1, hI, hJ, h1⟩ := istreamRead_sim hs 512 h
    rw [hI, hJ]
    cases r with
    | fail e => exact .mk h1
    | n d =>
      simp only []
      refine ite_both (fun _ => .mk h1) fun _ => ite_both (fun _ => ?_) fun _ => .mk h1
      cases pz with
      | true => exact .mk h1
      | false => exact ih true h1

theorem drainLoop_sim :
    ∀ (fuel : Nat) {s : σ} {t : τ} {os osj : OS}, Conf R s t os osj →
    Agree R (drainLoop I fuel s os) (drainLoop J fuel t osj) := by
  intro fuel
  induction fuel with
  | zero => intro s t os osj h; exact .mk h
  | succ fuel ih =>
    intro s t os osj h
    unfold drainLoop
    obtain ⟨r, w, s1, t1, os1, hI, hJ, h1⟩ := hs.get 1 h
    rw [hI, hJ]
    cases r with
    | eof => exact .mk h1
    | fail e => exact .mk h1
    | ok => exact ih (h1.adv hs _)

/-- the optional skips at the head of `it_next` (what is left of the record, the padding) -/
theorem skipIf_sim {s : σ} {t : τ} {os osj : OS} (n : Nat) (h : Conf R s t os osj) :
    Agree R (if n > 0 then istreamSkip I s n os else (Err.ok, s, os))
      (if n > 0 then istreamSkip J t n osj else (Err.ok, t, osj)) :=
  ite_both (fun _ => istreamSkip_sim hs n h) (fun _ => .mk h)

theorem tarNext_sim {a : TarIt σ} {b : TarIt τ} {os osj : OS} (h : Conf (TItRel R) a b os osj) :
    Agree (TItRel R) (tarNext I a os) (tarNext J b osj) := by
  obtain ⟨hr, hn, hj⟩ := h
  obtain ⟨t, hrs, rfl⟩ := hr.elim
  simp only [tarNext]
  refine ite_both (fun _ => .mk ⟨hr, hn, hj⟩) fun _ => ite_both (fun _ => .mk ⟨hr, hn, hj⟩) fun _ => ?_
  obtain ⟨e1, s1, t1, os1, oj1, hI1, hJ1, h1⟩ := skipIf_sim hs a.recordSize ⟨hrs, hn, hj⟩
  rw [hI1, hJ1]
  cases e1 with
  | ok =>
    obtain ⟨e2, s2, t2, os2, oj2, hI2, hJ2, h2⟩ := skipIf_sim hs a.padding h1
    simp only [hI2, hJ2]
    cases e2 with
    | ok =>
      obtain ⟨r3, s3, t3, os3, oj3, hI3, hJ3, h3⟩ := readHeaderHead_sim hs 3 false h2
      simp only [hI3, hJ3]
      cases r3 with
      | header d => exact .mk (h3.with_rel (.intro h3.rel))
      | fail => exact .mk (h3.with_rel (.intro h3.rel))
      | eof =>
        -- `tar->compressed`: the rest of the stream is drained, with the same fuel on both sides
        refine ite_both (fun _ => ?_) (fun _ => .mk (h3.with_rel (.intro h3.rel)))
        obtain ⟨e4, s4, t4, os4, oj4, hI4, hJ4, h4⟩ := drainLoop_sim hs (I.bound s3 + 2) h3
        simp only [← hs.bound h3.rel, hI4, hJ4]
        cases e4 <;> exact .mk (h4.with_rel (.intro h4.rel))
    | _ => exact .mk (h2.with_rel (.intro h2.rel))
  | _ => exact .mk (h1.with_rel (.intro h1.rel))

theorem tarRunFrom_sim {a0 : TarIt σ} {b0 : TarIt τ} {os0 osj : OS} (g : MemberGeom) (o : OStream) (ops : List Op)
    (h0 : Conf (TItRel R) a0 b0 os0 osj) :
    ∃ r1 obs r2 a b o' os' osj', tarRunFrom I a0 g o ops os0 = (r1, obs, r2, a, o', os') ∧
      tarRunFrom J b0 g o ops osj = (r1, obs, r2, b, o', osj') ∧ TItRel R a b := by
  unfold tarRunFrom
  obtain ⟨r1, a1, b1, os1, oj1, hI1, hJ1, hr1, hn1, hj1⟩ := tarNext_sim hs h0
  rw [hI1, hJ1]
  cases r1 with
  | header d =>
    have hopen : RC (TRel R) (⟨tarOpen (a1.setMember g), o, 0⟩ : Client (TarStrm σ)) ⟨tarOpen (b1.setMember g), o, 0⟩ :=
      ⟨hr1.tarOpen g, rfl, rfl⟩
    obtain ⟨obs, c, c', os2, oj2, hI2, hJ2, ⟨hrs, hro, _⟩, hn2, hj2⟩ := runOps_sim (tar_sim hs) ops ⟨hopen, hn1, hj1⟩
    obtain ⟨r2, a2, b2, os3, oj3, hI3, hJ3, hr3, _, _⟩ := tarNext_sim hs ⟨hrs.tarClose, hn2, hj2⟩
    -- without `etaStruct := .none`, `simp` turns the inner matches (on `runOps …`, `tarNext …`) into projections
    -- before it rewrites their scrutinees, and the kernel takes very long to check that step
    simp (config := { etaStruct := .none }) only [hI2, hJ2, hI3, hJ3, hro]
    exact ⟨_, _, _, a2, b2, _, os3, oj3, rfl, rfl, hr3⟩
  | _ => exact ⟨_, _, _, a1, b1, o, os1, oj1, rfl, rfl, hr1⟩

theorem tarMemberRun_sim {s : σ} {t : τ} {os osj : OS} (g : MemberGeom) (o : OStream) (ops : List Op)
    (h : Conf R s t os osj) :
    ∃ r1 obs r2 a b o' os' osj', tarMemberRun I s g o ops os = (r1, obs, r2, a, o', os') ∧
      tarMemberRun J t g o ops osj = (r1, obs, r2, b, o', osj') ∧ TItRel R a b := by
  unfold tarMemberRun
  obtain ⟨g0, w0, s0, t0, os0, hI, hJ, h0⟩ := hs.get 512 h
  rw [hI, hJ]
  exact tarRunFrom_sim hs g o ops (h0.with_rel (.intro h0.rel))

end

theorem tarMemberRunZ_sim {σ τ κ : Type} {I : StreamI σ} {J : StreamI τ} {R : σ → τ → Prop} (hs : Sim I J R)
    (C : Codec κ) (k0 : κ) (BX limit : Nat) {s : σ} {t : τ} {os osj : OS} (g : MemberGeom) (o : OStream) (ops : List Op)
    (h : Conf R s t os osj) :
    ∃ r1 obs r2 a b o' os' osj', tarMemberRunZ I C k0 BX limit s g o ops os = (r1, obs, r2, a, o', os') ∧
      tarMemberRunZ J C k0 BX limit t g o ops osj = (r1, obs, r2, b, o', osj') ∧ TItRel (XRel R) a b := by
  unfold tarMemberRunZ
  obtain ⟨g0, w0, s0, t0, os0, hI, hJ, h0⟩ := hs.get 512 h
  rw [hI, hJ]
  exact tarRunFrom_sim (xfrm_sim hs C BX limit) g o ops (h0.with_rel (.intro ⟨h0.rel, rfl, rfl, rfl⟩))

end Sqfs.IoLoops
