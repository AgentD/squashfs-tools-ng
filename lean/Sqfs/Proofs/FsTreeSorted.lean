/-
C11: whatever the order in which entries arrive, the tree the scan builds has every directory strictly sorted by strcmp
(`TNode.AllSorted`) — the invariant behind "numbers and file list are functions of the sorted tree".
-/
import Sqfs.Proofs.FsTreeLemmas
import Sqfs.Proofs.FsTree

namespace Sqfs.FsTree

theorem allSorted_mk (n : Name) (a : Attr) (cs : List TNode) :
    (TNode.mk n a cs).AllSorted ↔ SortedNames (cs.map TNode.name) ∧ AllSortedList cs := by
  simp [TNode.AllSorted]

theorem allSortedList_iff (cs : List TNode) : AllSortedList cs ↔ ∀ c ∈ cs, c.AllSorted := by
  induction cs with
  | nil => simp [AllSortedList]
  | cons c cs ih => simp [AllSortedList, ih]

theorem TNode.allSorted_iff (t : TNode) :
    t.AllSorted ↔ SortedNames (t.children.map TNode.name) ∧ ∀ c ∈ t.children, c.AllSorted := by
  cases t; simp [allSorted_mk, allSortedList_iff]

theorem allSorted_replace {t c' : TNode} (ht : t.AllSorted) (hc : c'.AllSorted) :
    (TNode.mk t.name t.attr (replaceChild c' t.children)).AllSorted := by
  rw [TNode.allSorted_iff] at ht ⊢
  simp only [TNode.children_mk, replaceChild_names]
  refine ⟨ht.1, ?_⟩
  intro z hz
  rcases replaceChild_mem hz with rfl | hz
  · exact hc
  · exact ht.2 z hz

theorem allSorted_link {t c' t' : TNode} (ht : t.AllSorted) (hc : c'.AllSorted)
    (hnew : childByName t.children c'.name = none) (h : linkChild t c' = some t') : t'.AllSorted := by
  rw [linkChild_some h, TNode.allSorted_iff]
  rw [TNode.allSorted_iff] at ht
  refine ⟨insertBy_sorted TNode.name c' _ ht.1 (childByName_none hnew), fun z hz => ?_⟩
  rcases (insertBy_mem TNode.name c' _ z).mp hz with rfl | hz
  · exact hc
  · exact ht.2 z hz

theorem overwrite_allSorted {c c' : TNode} {e : Ent} (hc : c.AllSorted) (h : overwrite c e = some c') : c'.AllSorted := by
  revert h; fun_cases overwrite c e <;> intro h <;> cases h
  rw [allSorted_mk] at hc ⊢
  exact hc

theorem leaf_allSorted (n : Name) (a : Attr) : (TNode.mk n a []).AllSorted := by
  simp [allSorted_mk, SortedNames, AllSortedList]

theorem child_allSorted {t c : TNode} {n : Name} (ht : t.AllSorted) (hc : childByName t.children n = some c) :
    c.AllSorted :=
  ((TNode.allSorted_iff t).mp ht).2 c (childByName_mem hc)

theorem addPathAt_allSorted (d : Defaults) (e : Ent) (x : Extra) :
    ∀ (p : Path) (depth : Nat) (t t' : TNode), t.AllSorted → addPathAt d e x depth p t = some t' →
      t'.AllSorted ∧ t'.name = t.name
  | [], depth, t, t', ht, h => ⟨overwrite_allSorted ht h, overwrite_name h⟩
  | n :: rest, depth, t, t', ht, h => by
    rcases (addPathAt_cons_some h).2 with ⟨c, c', hc, hrec, rfl⟩ | ⟨c', hc, hlink, hnew⟩
    · exact ⟨allSorted_replace ht (addPathAt_allSorted d e x rest _ c c' (child_allSorted ht hc) hrec).1, rfl⟩
    · have hc' : c'.AllSorted ∧ c'.name = n := by
        rcases hnew with ⟨-, rfl⟩ | ⟨-, hrec⟩
        · exact ⟨leaf_allSorted _ _, rfl⟩
        · exact addPathAt_allSorted d e x rest _ _ c' (leaf_allSorted _ _) hrec
      exact ⟨allSorted_link ht hc'.1 (hc'.2 ▸ hc) hlink, (linkChild_some hlink) ▸ rfl⟩

theorem mkdirImplicitAt_allSorted (d : Defaults) (p : Path) (depth : Nat) (t t' : TNode) (ht : t.AllSorted)
    (h : mkdirImplicitAt d depth p t = some t') : t'.AllSorted ∧ t'.name = t.name := by
  fun_induction mkdirImplicitAt d depth p t generalizing t' <;> first | cases h | skip
  · exact ⟨ht, rfl⟩
  · rename_i c hc c' hrec ih
    exact ⟨allSorted_replace ht (ih c' (child_allSorted ht hc) hrec).1, rfl⟩
  · rename_i hc _ fresh c' hrec ih
    have hc' := ih c' (leaf_allSorted _ _) hrec
    exact ⟨allSorted_link ht hc'.1 (hc'.2 ▸ hc) h, linkChild_some h ▸ rfl⟩

theorem mkdirImplicit_allSorted (d : Defaults) (p : Path) (t t' : TNode) (ht : t.AllSorted)
    (h : mkdirImplicit d p t = some t') : t'.AllSorted ∧ t'.name = t.name :=
  mkdirImplicitAt_allSorted d p 0 t t' ht h

theorem scanStep_allSorted {d : Defaults} {cfg : Cfg} {e : Ent} {hl : Option Path} {tg : List UInt8} {t t' : TNode}
    {links links' : List Path} {ig : Bool} (ht : t.AllSorted) (h : scanStep d cfg e hl tg t links = some (t', links', ig)) :
    t'.AllSorted := by
  rcases scanStep_some h with ⟨-, rfl, -⟩ | ⟨-, hadd, -⟩
  · exact ht
  · exact (addPathAt_allSorted d e _ _ 0 t t' ht hadd).1

mutual
theorem walkNode_allSorted (d : Defaults) (cfg : Cfg) (fnm : Fnm) :
    ∀ (h : HNode) (rel : Path) (dirDev : Nat) (st st' : St), st.tree.AllSorted →
      walkNode d cfg fnm rel dirDev h st = some st' → st'.tree.AllSorted
  | .mk name s target children, rel, dirDev, st, st', ht, h => by
    rcases walkNode_some h with rfl | ⟨tree', links', ig, hr, hw⟩
    · exact ht
    · have ht' : tree'.AllSorted := by
        rcases hr with ⟨-, rfl, -⟩ | ⟨e2, -, hr⟩
        · exact ht
        · exact scanStep_allSorted ht hr
      rcases hw with hw | rfl
      · exact walkList_allSorted d cfg fnm children _ _ _ st' ht' hw
      · exact ht'
theorem walkList_allSorted (d : Defaults) (cfg : Cfg) (fnm : Fnm) :
    ∀ (l : List HNode) (rel : Path) (dirDev : Nat) (st st' : St), st.tree.AllSorted →
      walkList d cfg fnm rel dirDev l st = some st' → st'.tree.AllSorted
  | [], _, _, st, st', ht, h => by
    rw [walkList] at h; cases h; exact ht
  | x :: xs, rel, dirDev, st, st', ht, h => by
    rw [walkList_cons] at h
    obtain ⟨st1, h1, h2⟩ := Option.bind_eq_some_iff.mp h
    exact walkList_allSorted d cfg fnm xs rel dirDev st1 st' (walkNode_allSorted d cfg fnm x rel dirDev st st1 ht h1) h2
end

theorem scanInto_allSorted {sorted : Bool} {d : Defaults} {cfg : Cfg} {fnm : Fnm} {dev : Nat} {e : List HNode}
    {t t' : TNode} {l l' : List Path} (ht : t.AllSorted) (h : scanInto sorted d cfg fnm dev e t l = some (t', l')) :
    t'.AllSorted := by
  rw [scanInto] at h
  cases hst : walkList d cfg fnm [] dev (nativeOrder sorted e) { seen := [], tree := t, links := l } with
  | none => rw [hst] at h; cases h
  | some st => rw [hst] at h; cases h; exact walkList_allSorted d cfg fnm _ _ _ _ st ht hst

/-! post-processing only touches attributes -/

theorem modifyAt_allSorted {f : TNode → TNode} (hf : ∀ x, x.AllSorted → (f x).AllSorted) (p : Path) (t : TNode)
    (ht : t.AllSorted) : (modifyAt f p t).AllSorted := by
  fun_induction modifyAt f p t
  · exact hf _ ht
  · rename_i c hc ih
    exact allSorted_replace ht (ih (child_allSorted ht hc))
  · exact ht

theorem bump_allSorted (x : TNode) (h : x.AllSorted) : (bumpLinkCount x).AllSorted := by
  cases x; simpa [bumpLinkCount, allSorted_mk] using h

theorem setResolved_allSorted (tp : Path) (x : TNode) (h : x.AllSorted) : (setResolved tp x).AllSorted := by
  obtain ⟨n, a, cs⟩ := x
  simp only [setResolved]
  split
  · simpa [allSorted_mk] using h
  · exact h

theorem resolveHardLinks_allSorted (fuel : Nat) :
    ∀ (l : List Path) (t t' : TNode), t.AllSorted → resolveHardLinks fuel l t = some t' → t'.AllSorted := by
  intro l t t' ht h
  fun_induction resolveHardLinks fuel l t <;> first | cases h | skip
  · exact ht
  · rename_i t1 h1 ih
    obtain ⟨tp, rfl⟩ := resolveLink_some h1
    exact ih (modifyAt_allSorted bump_allSorted _ _ (modifyAt_allSorted (setResolved_allSorted _) _ _ ht)) h

theorem initRoot_allSorted (d : Defaults) : (initRoot d).AllSorted := leaf_allSorted _ _

end Sqfs.FsTree
