/-
Helper lemmas for C08 (block writer).  The central device is the *abstract view* `Abs`: the history is a
list of entries each paired with the payload it stands for, and the output file is
`pre ++ payload₀ ++ payload₁ ++ …` — "every retained history entry lies inside the file and holds its
payload".  `write_data_block` appends to that list, `deduplicate_blocks` cuts it to a prefix that keeps at
least `file_start` entries.  The bodies of the model's `deduplicateBlocks` and `writeDataBlock` are cut into named stages
(`searchAndCut`, `cutAt`; `afterFirst`, `afterStore`) that `deduplicateBlocks_eq`, `writeDataBlock_eq` (`rfl`) put together.

The property theorems are read off the second half: `Inv` adds to `Abs` the locations handed out so far, each holding its
run of entries (`HoldsIn`) below the bound `sb`, under which nothing is cut any more; `write_spec` carries it over one call,
`run_spec` over a call sequence, where it yields the spec's oracles (`shareCompleteOk`, `holdsAll`).
-/
import Sqfs.Spec.BlockWriter
import Sqfs.Proofs.Slice
import Sqfs.Proofs.Bits
namespace Sqfs.BlockWriter
open Sqfs.Consts

theorem slice_append_mid (x y z : Bytes) : slice (x ++ y ++ z) x.length y.length = y := by
  rw [List.append_assoc]; exact List.take_drop_mid x y z

theorem writeAt_end (f d : Bytes) : writeAt f f.length d = f ++ d := by
  unfold writeAt
  cases d with
  | nil => simp
  | cons a t => simp

theorem truncate_prefix (x y : Bytes) : truncate (x ++ y) x.length = x := by
  simp [truncate]

theorem readAt_ok (f : Bytes) (off n : Nat) (h : off + n ≤ f.length) : readAt f off n = some (slice f off n) := by
  unfold readAt
  by_cases hn : n = 0
  · simp [hn, slice]
  · simp [hn, h]

theorem readAt_of_slice (f : Bytes) (off : Nat) (d : Bytes) (h : slice f off d.length = d) :
    readAt f off d.length = some d := by
  cases d with
  | nil => rfl
  | cons a t =>
    have hl := congrArg List.length h
    simp only [slice, List.length_take, List.length_drop, List.length_cons] at hl
    rw [readAt_ok f off _ (by rw [List.length_cons]; omega), h]

theorem slice_length (f : Bytes) (off n : Nat) (h : off + n ≤ f.length) : (slice f off n).length = n :=
  List.length_take_drop f h

theorem slice_split (f : Bytes) (off d n : Nat) (hd : d ≤ n) :
    slice f off n = slice f off d ++ slice f (off + d) (n - d) :=
  (List.take_drop_add f off hd).symm

theorem rangeEqGo_spec (f : Bytes) : ∀ (fuel a b n : Nat), n ≤ fuel → a + n ≤ f.length → b + n ≤ f.length →
    rangeEqGo f fuel a b n = .ok (decide (slice f a n = slice f b n)) := by
  intro fuel
  induction fuel with
  | zero =>
    intro a b n hn _ _
    obtain rfl : n = 0 := by omega
    simp [rangeEqGo, slice]
  | succ fuel ih =>
    intro a b n hn ha hb
    unfold rangeEqGo
    by_cases h0 : n = 0
    · subst h0; simp [slice]
    · simp only [h0, if_false]
      have hd : min (scratchSize / 2) n ≤ n := Nat.min_le_right _ _
      have hpos : 0 < min (scratchSize / 2) n := Nat.lt_min.2 ⟨by decide, Nat.pos_of_ne_zero h0⟩
      generalize min (scratchSize / 2) n = d at hd hpos
      have hda : a + d ≤ f.length := Nat.le_trans (Nat.add_le_add_left hd a) ha
      have hdb : b + d ≤ f.length := Nat.le_trans (Nat.add_le_add_left hd b) hb
      rw [readAt_ok f a d hda, readAt_ok f b d hdb, slice_split f a d n hd, slice_split f b d n hd,
        ih (a + d) (b + d) (n - d) (by omega) (by rw [Nat.add_assoc, Nat.add_sub_of_le hd]; exact ha)
          (by rw [Nat.add_assoc, Nat.add_sub_of_le hd]; exact hb)]
      -- the two chunks have the same length, so the concatenations agree iff chunks and rests do
      have hl : (slice f a d).length = (slice f b d).length := by
        rw [slice_length f a d hda, slice_length f b d hdb]
      by_cases heq : slice f a d = slice f b d
      · simp [heq]
      · have : ¬ slice f a d ++ slice f (a + d) (n - d) = slice f b d ++ slice f (b + d) (n - d) :=
          fun h => heq (List.append_inj_left h hl)
        simp [heq, this]

theorem checkFileRangeEqual_spec (f : Bytes) (a b n : Nat) (ha : a + n ≤ f.length) (hb : b + n ≤ f.length) :
    checkFileRangeEqual f a b n = .ok (decide (slice f a n = slice f b n)) :=
  rangeEqGo_spec f n a b n (Nat.le_refl _) ha hb

theorem mkWord_size (n flags : Nat) (h : n < 2 ^ 24) : mkWord n flags % 2 ^ 24 = n := by
  unfold mkWord
  split
  · exact Nat.mod_eq_of_lt h
  · exact Nat.or_two_pow_mod h

theorem sameHash_iff (a b : Entry) : a.sameHash b = true ↔ a.word = b.word ∧ a.chk = b.chk := by
  simp [Entry.sameHash]

/-- a history entry together with the payload it stands for -/
abbrev PE := Entry × Bytes

def bytesOf : List PE → Bytes
  | [] => []
  | p :: r => p.2 ++ bytesOf r

@[simp] theorem bytesOf_nil : bytesOf [] = [] := rfl
@[simp] theorem bytesOf_cons (p : PE) (r : List PE) : bytesOf (p :: r) = p.2 ++ bytesOf r := rfl
@[simp] theorem bytesOf_append (a b : List PE) : bytesOf (a ++ b) = bytesOf a ++ bytesOf b := by
  induction a with
  | nil => simp
  | cons p r ih => simp [ih, List.append_assoc]

theorem bytesOf_length (ps : List PE) : (bytesOf ps).length = (ps.map (·.2.length)).sum := by
  induction ps with
  | nil => rfl
  | cons p r ih => simp [ih]

def toBlk (p : PE) : Blk := ⟨p.1.word, p.1.chk, p.2⟩

theorem blkBytes_map (ps : List PE) : blkBytes (ps.map toBlk) = bytesOf ps := by
  induction ps with
  | nil => rfl
  | cons p r ih => simp [blkBytes, toBlk, ih]

/-- entry `k` starts where the payloads before it end, and its size field is its payload's length -/
def Offs (b : Nat) : List PE → Prop
  | [] => True
  | p :: r => p.1.offset = b ∧ p.1.size = p.2.length ∧ Offs (b + p.2.length) r

theorem Offs_append (b : Nat) (xs ys : List PE) :
    Offs b (xs ++ ys) ↔ Offs b xs ∧ Offs (b + (bytesOf xs).length) ys := by
  induction xs generalizing b with
  | nil => simp [Offs]
  | cons p r ih =>
    simp only [List.cons_append, Offs, ih, bytesOf_cons, List.length_append]
    constructor
    · rintro ⟨h1, h2, h3, h4⟩; exact ⟨⟨h1, h2, h3⟩, by rwa [Nat.add_assoc] at h4⟩
    · rintro ⟨⟨h1, h2, h3⟩, h4⟩; exact ⟨h1, h2, h3, by rwa [Nat.add_assoc]⟩

theorem Offs_take (b : Nat) (ps : List PE) (n : Nat) (h : Offs b ps) : Offs b (ps.take n) :=
  ((Offs_append b (ps.take n) (ps.drop n)).1 (by rwa [List.take_append_drop])).1

theorem Offs_drop (b : Nat) (ps : List PE) (n : Nat) (h : Offs b ps) :
    Offs (b + (bytesOf (ps.take n)).length) (ps.drop n) :=
  ((Offs_append b (ps.take n) (ps.drop n)).1 (by rwa [List.take_append_drop])).2

theorem Offs_getElem (b : Nat) (ps : List PE) (h : Offs b ps) (k : Nat) (hk : k < ps.length) :
    (ps[k]).1.offset = b + (bytesOf (ps.take k)).length ∧ (ps[k]).1.size = (ps[k]).2.length := by
  have h2 := Offs_drop b ps k h
  rw [List.drop_eq_getElem_cons hk] at h2
  exact ⟨h2.1, h2.2.1⟩

theorem Offs_sizes (b : Nat) (ps : List PE) (h : Offs b ps) :
    ((ps.map (·.1)).map Entry.size).sum = (bytesOf ps).length := by
  induction ps generalizing b with
  | nil => rfl
  | cons p r ih =>
    simp only [List.map_cons, List.sum_cons, bytesOf_cons, List.length_append]
    rw [h.2.1, ih _ h.2.2]

theorem Offs_words_lengths (b1 b2 : Nat) (xs ys : List PE) (h1 : Offs b1 xs) (h2 : Offs b2 ys)
    (hw : xs.map (·.1.word) = ys.map (·.1.word)) : xs.map (·.2.length) = ys.map (·.2.length) := by
  induction xs generalizing ys b1 b2 with
  | nil => cases ys <;> simp_all
  | cons p r ih =>
    cases ys with
    | nil => simp at hw
    | cons q t =>
      simp only [List.map_cons, List.cons.injEq] at hw ⊢
      refine ⟨?_, ih _ _ t h1.2.2 h2.2.2 hw.2⟩
      rw [← h1.2.1, ← h2.2.1, Entry.size, Entry.size, hw.1]

/-- byte offset of history entry `i` -/
def off (pre : Bytes) (ps : List PE) (i : Nat) : Nat := pre.length + (bytesOf (ps.take i)).length

theorem off_succ (pre : Bytes) (ps : List PE) {k : Nat} (hk : k < ps.length) :
    off pre ps (k + 1) = off pre ps k + (ps[k]).2.length := by
  unfold off
  rw [List.take_succ_eq_append_getElem hk, bytesOf_append]
  simp [Nat.add_assoc]

theorem off_mono (pre : Bytes) (ps : List PE) {r k : Nat} (h : r ≤ k) : off pre ps r ≤ off pre ps k := by
  have : ps.take k = ps.take r ++ (ps.take k).drop r := by
    have := List.take_append_drop r (ps.take k)
    rw [List.take_take, Nat.min_eq_left h] at this
    exact this.symm
  unfold off
  rw [this, bytesOf_append, List.length_append]
  omega

theorem file_run (pre : Bytes) (ps : List PE) (r n : Nat) :
    pre ++ bytesOf ps
      = (pre ++ bytesOf (ps.take r)) ++ bytesOf ((ps.drop r).take n) ++ bytesOf ((ps.drop r).drop n) := by
  rw [List.append_assoc, List.append_assoc, ← bytesOf_append, ← bytesOf_append, List.take_append_drop,
    List.take_append_drop]

theorem slice_run (pre : Bytes) (ps : List PE) (r n : Nat) :
    slice (pre ++ bytesOf ps) (off pre ps r) (bytesOf ((ps.drop r).take n)).length
      = bytesOf ((ps.drop r).take n) := by
  rw [file_run pre ps r n, off, ← List.length_append]
  exact slice_append_mid _ _ _

theorem run_le (pre : Bytes) (ps : List PE) (r n : Nat) :
    off pre ps r + (bytesOf ((ps.drop r).take n)).length ≤ (pre ++ bytesOf ps).length := by
  rw [file_run pre ps r n, off, ← List.length_append, ← List.length_append, List.length_append (bs := bytesOf (List.drop n _))]
  exact Nat.le_add_right _ _

/-- The abstract view of a writer state: `ps` pairs every history entry with its payload, and the file is
`pre` followed by exactly those payloads. -/
structure Abs (pre : Bytes) (s : State) (ps : List PE) : Prop where
  blocks : s.blocks = ps.map (·.1)
  file   : s.file = pre ++ bytesOf ps
  offs   : Offs pre.length ps
  fs     : s.fileStart ≤ ps.length
  ho     : s.hashOnly = false

theorem Abs.len {pre s ps} (h : Abs pre s ps) : s.blocks.length = ps.length := by
  rw [h.blocks, List.length_map]

theorem Abs.fileLen {pre s ps} (h : Abs pre s ps) : s.file.length = pre.length + (bytesOf ps).length := by
  rw [h.file, List.length_append]

theorem Abs_init (pre : Bytes) : Abs pre (init pre) [] := by
  refine ⟨rfl, by simp [init], trivial, Nat.le_refl _, ?_⟩
  simp [init, hasFlag]

theorem Abs.get {pre s ps} (h : Abs pre s ps) {k : Nat} (hk : k < ps.length) :
    s.blocks[k]? = some (ps[k]).1 ∧ (ps[k]).1.offset = off pre ps k ∧ (ps[k]).1.size = (ps[k]).2.length := by
  refine ⟨?_, Offs_getElem _ ps h.offs k hk⟩
  rw [h.blocks, List.getElem?_map, List.getElem?_eq_getElem hk]; rfl

theorem Abs.compare {pre s ps} (h : Abs pre s ps) (i j n m : Nat)
    (hl : (bytesOf ((ps.drop i).take n)).length = (bytesOf ((ps.drop j).take m)).length) :
    checkFileRangeEqual s.file (off pre ps i) (off pre ps j) (bytesOf ((ps.drop i).take n)).length =
      .ok (decide (bytesOf ((ps.drop i).take n) = bytesOf ((ps.drop j).take m))) := by
  rw [h.file, checkFileRangeEqual_spec _ _ _ _ (run_le pre ps i n) (hl ▸ run_le pre ps j m), slice_run, hl, slice_run]

theorem Abs.cut {pre s ps} (h : Abs pre s ps) {m : Nat} (h0 : 0 < m) (h1 : s.fileStart ≤ m) (h2 : m ≤ ps.length) :
    ∃ bl, s.blocks[m - 1]? = some bl ∧
      Abs pre { s with blocks := s.blocks.take m, file := truncate s.file (bl.offset + bl.size) } (ps.take m) := by
  obtain ⟨u, rfl⟩ : ∃ u, m = u + 1 := ⟨m - 1, by omega⟩
  obtain ⟨hb, ho, hs⟩ := h.get (k := u) h2
  refine ⟨_, hb, ?_, ?_, Offs_take _ _ _ h.offs, ?_, h.ho⟩
  · show s.blocks.take (u + 1) = (ps.take (u + 1)).map (·.1)
    rw [h.blocks, List.map_take]
  · show truncate s.file _ = pre ++ bytesOf (ps.take (u + 1))
    have e : pre ++ bytesOf ps = (pre ++ bytesOf (ps.take (u + 1))) ++ bytesOf (ps.drop (u + 1)) := by
      rw [List.append_assoc, ← bytesOf_append, List.take_append_drop]
    rw [ho, hs, ← off_succ pre ps h2, h.file, e, off, ← List.length_append]
    exact truncate_prefix _ _
  · show s.fileStart ≤ (ps.take (u + 1)).length
    rw [List.length_take, Nat.min_eq_left h2]; exact h1

/-- size word and checksum, what `deduplicate_blocks` compares before the bytes; `pkey`, `ckey`, `blkKeys` are the same of a `PE`,
a `Call`, the spec's `Blk`s -/
def key (e : Entry) : Nat × UInt32 := (e.word, e.chk)
def pkey (p : PE) : Nat × UInt32 := (p.1.word, p.1.chk)

theorem sameHash_key (a b : Entry) : a.sameHash b = true ↔ key a = key b :=
  (sameHash_iff a b).trans (Prod.ext_iff (x := key a) (y := key b)).symm

theorem hashRun_spec (blocks : List Entry) (i fs : Nat) : ∀ rem j, i + j + rem ≤ blocks.length →
    fs + j + rem ≤ blocks.length →
    hashRun blocks i fs rem j =
      some (decide (((blocks.drop (i + j)).take rem).map key = ((blocks.drop (fs + j)).take rem).map key)) := by
  intro rem
  induction rem with
  | zero => intro j _ _; simp [hashRun]
  | succ rem ih =>
    intro j h1 h2
    have hi : i + j < blocks.length := by omega
    have hf : fs + j < blocks.length := by omega
    unfold hashRun
    rw [List.getElem?_eq_getElem hi, List.getElem?_eq_getElem hf, List.drop_eq_getElem_cons hi,
      List.drop_eq_getElem_cons hf, ih (j + 1) (by omega) (by omega)]
    simp only [List.take_succ_cons, List.map_cons, List.cons.injEq, sameHash_key, ← Nat.add_assoc]
    by_cases hk : key blocks[i + j] = key blocks[fs + j] <;> simp [hk]

/-- a run of `count` entries at index `r` that carries the same words and checksums *and* the same bytes as
the entries from `fs` on -/
def MatchAt (ps : List PE) (fs count r : Nat) : Prop :=
  ((ps.drop r).take count).map pkey = (ps.drop fs).map pkey ∧
  bytesOf ((ps.drop r).take count) = bytesOf (ps.drop fs)

theorem words_of_pkeys {xs ys : List PE} (hk : xs.map pkey = ys.map pkey) :
    xs.map (·.1.word) = ys.map (·.1.word) := by
  have := congrArg (List.map Prod.fst) hk
  simpa [List.map_map, pkey, Function.comp_def] using this

theorem keys_lengths (b : Nat) (ps : List PE) (h : Offs b ps) (r fs count : Nat)
    (hk : ((ps.drop r).take count).map pkey = (ps.drop fs).map pkey) :
    (bytesOf ((ps.drop r).take count)).length = (bytesOf (ps.drop fs)).length := by
  rw [bytesOf_length, bytesOf_length]
  rw [Offs_words_lengths _ _ _ _ (Offs_take _ _ count (Offs_drop b ps r h)) (Offs_drop b ps fs h) (words_of_pkeys hk)]

theorem drop_take_all {α} (l : List α) (fs count : Nat) (hc : count = l.length - fs) :
    (l.drop fs).take count = l.drop fs := by
  apply List.take_of_length_le
  simp [hc]

theorem findMatch_step {pre s ps} (h : Abs pre s ps) {count locA sz : Nat} (hc : count = ps.length - s.fileStart)
    (hA : locA = off pre ps s.fileStart) (hsz : sz = (bytesOf (ps.drop s.fileStart)).length)
    {i : Nat} (hi : i < s.fileStart) (fuel : Nat) :
    (MatchAt ps s.fileStart count i ∧ findMatch s count locA sz (fuel + 1) i = .ok i) ∨
    (¬ MatchAt ps s.fileStart count i ∧
      findMatch s count locA sz (fuel + 1) i = findMatch s count locA sz fuel (i + 1)) := by
  have hfs := h.fs
  have hlen := h.len
  have hall := drop_take_all ps s.fileStart count hc
  have hrun : hashRun s.blocks i s.fileStart count 0 =
      some (decide (((ps.drop i).take count).map pkey = (ps.drop s.fileStart).map pkey)) := by
    rw [hashRun_spec s.blocks i s.fileStart count 0 (by omega) (by omega), ← hall, h.blocks]
    simp only [Nat.add_zero, ← List.map_drop, ← List.map_take, List.map_map]
    rfl
  rw [findMatch, hrun]
  by_cases KE : ((ps.drop i).take count).map pkey = (ps.drop s.fileStart).map pkey
  · have hi' : i < ps.length := Nat.lt_of_lt_of_le hi hfs
    obtain ⟨hbi, hoff, _⟩ := h.get hi'
    have hcmp := h.compare s.fileStart i count count
      (by rw [hall]; exact (keys_lengths _ ps h.offs i s.fileStart count KE).symm)
    rw [hall, ← hsz, ← hA, ← hoff] at hcmp
    by_cases BE : bytesOf (ps.drop s.fileStart) = bytesOf ((ps.drop i).take count)
    · refine Or.inl ⟨⟨KE, BE.symm⟩, ?_⟩
      simp only [KE, decide_true, h.ho, Bool.false_eq_true, if_false, hbi, hcmp, BE]
    · refine Or.inr ⟨fun hm => BE hm.2.symm, ?_⟩
      simp only [KE, decide_true, h.ho, Bool.false_eq_true, if_false, hbi, hcmp, BE, decide_false]
  · refine Or.inr ⟨fun hm => KE hm.1, ?_⟩
    simp only [KE, decide_false]

theorem findMatch_spec {pre s ps} (h : Abs pre s ps) {count locA sz : Nat} (hc : count = ps.length - s.fileStart)
    (hA : locA = off pre ps s.fileStart) (hsz : sz = (bytesOf (ps.drop s.fileStart)).length) :
    ∀ fuel i, i + fuel = s.fileStart →
      ∃ r, findMatch s count locA sz fuel i = .ok r ∧ i ≤ r ∧ r ≤ s.fileStart ∧
        (r < s.fileStart → MatchAt ps s.fileStart count r) ∧
        (∀ k, i ≤ k → k < r → ¬ MatchAt ps s.fileStart count k) := by
  intro fuel
  induction fuel with
  | zero =>
    intro i hi
    exact ⟨i, rfl, Nat.le_refl _, Nat.le_of_eq hi, fun hlt => absurd hi (Nat.ne_of_lt hlt),
      fun k h1 h2 => absurd h1 (Nat.not_le.2 h2)⟩
  | succ fuel ih =>
    intro i hi
    rcases findMatch_step h hc hA hsz (i := i) (by omega) fuel with ⟨hm, he⟩ | ⟨hno, he⟩
    · exact ⟨i, he, Nat.le_refl _, by omega, fun _ => hm, fun k h1 h2 => absurd h1 (Nat.not_le.2 h2)⟩
    · obtain ⟨r, h1, h2, h3, h4, h5⟩ := ih (i + 1) (by omega)
      refine ⟨r, he.trans h1, Nat.le_of_succ_le h2, h3, h4, fun k hk1 hk2 => ?_⟩
      rcases Nat.eq_or_lt_of_le hk1 with rfl | hlt
      · exact hno
      · exact h5 k hlt hk2

/-- after a match at `i < file_start`: the history is cut behind the matched run, or at `file_start` when the run
ends before it, and the file is truncated to the end of the last entry kept -/
def cutAt (s : State) (i loc : Nat) : Except Err (State × Nat) :=
  let count := s.blocks.length - s.fileStart
  let used := if count ≥ s.fileStart - i then i + count else s.fileStart
  match s.blocks[used - 1]? with
  | none => .error .internal
  | some bl => .ok ({ s with blocks := s.blocks.take used, file := truncate s.file (bl.offset + bl.size) }, loc)

/-- from the search on; `b0` is the file's first entry -/
def searchAndCut (s : State) (b0 : Entry) : Except Err (State × Nat) :=
  match findMatch s (s.blocks.length - s.fileStart) b0.offset ((s.blocks.drop s.fileStart).map Entry.size).sum
      s.fileStart 0 with
  | .error e => .error e
  | .ok i =>
    match s.blocks[i]? with
    | none => .error .internal
    | some bi => if i ≥ s.fileStart then .ok (s, bi.offset) else cutAt s i bi.offset

theorem deduplicateBlocks_eq (s : State) (flags : Nat) : deduplicateBlocks s flags =
    if s.fileStart > s.blocks.length then .error .internal
    else if s.blocks.length - s.fileStart = 0 then .ok (s, 0)
    else match s.blocks[s.fileStart]? with
      | none => .error .internal
      | some b0 => if hasFlag flags blkDontDeduplicate then .ok (s, b0.offset) else searchAndCut s b0 := rfl

theorem cut_le {r fs n : Nat} (h1 : r < fs) (h2 : fs ≤ n) : max (r + (n - fs)) fs ≤ n :=
  Nat.max_le.2 ⟨Nat.le_trans (Nat.add_le_add_right (Nat.le_of_lt h1) _) (Nat.le_of_eq (Nat.add_sub_of_le h2)), h2⟩

theorem cutAt_spec {pre s ps} (h : Abs pre s ps) {i : Nat} (hi : i < s.fileStart) (loc : Nat) :
    ∃ s', cutAt s i loc = .ok (s', loc) ∧ s'.fileStart = s.fileStart ∧
      Abs pre s' (ps.take (max (i + (ps.length - s.fileStart)) s.fileStart)) := by
  have hused : (if ps.length - s.fileStart ≥ s.fileStart - i then i + (ps.length - s.fileStart) else s.fileStart)
      = max (i + (ps.length - s.fileStart)) s.fileStart := by
    split
    · next hc => exact (Nat.max_eq_left (Nat.sub_le_iff_le_add'.1 hc)).symm
    · next hc => exact (Nat.max_eq_right (Nat.le_of_lt (Nat.lt_sub_iff_add_lt'.1 (Nat.lt_of_not_le hc)))).symm
  obtain ⟨bl, hbl, habs⟩ := h.cut (m := max (i + (ps.length - s.fileStart)) s.fileStart)
    (Nat.lt_of_lt_of_le (Nat.zero_lt_of_lt hi) (Nat.le_max_right _ _)) (Nat.le_max_right _ _)
    (cut_le hi h.fs)
  unfold cutAt
  simp only [h.len, hused, hbl]
  exact ⟨_, rfl, rfl, habs⟩

/-- the exact outcome of `deduplicate_blocks` in terms of the abstract view -/
def DedupOut (pre : Bytes) (s : State) (ps : List PE) (flags : Nat) (ps' : List PE) (loc : Nat) : Prop :=
  (ps.length - s.fileStart = 0 ∧ ps' = ps ∧ loc = 0) ∨
  (0 < ps.length - s.fileStart ∧ hasFlag flags blkDontDeduplicate = true ∧ ps' = ps ∧ loc = off pre ps s.fileStart) ∨
  (0 < ps.length - s.fileStart ∧ hasFlag flags blkDontDeduplicate = false ∧
    ∃ r, r ≤ s.fileStart ∧ (r < s.fileStart → MatchAt ps s.fileStart (ps.length - s.fileStart) r) ∧
      (∀ k, k < r → ¬ MatchAt ps s.fileStart (ps.length - s.fileStart) k) ∧ loc = off pre ps r ∧
      ps' = if r < s.fileStart then ps.take (max (r + (ps.length - s.fileStart)) s.fileStart) else ps)

theorem dedup_explicit (pre : Bytes) (s : State) (ps : List PE) (h : Abs pre s ps) (flags : Nat) :
    ∃ s' loc ps', deduplicateBlocks s flags = .ok (s', loc) ∧ Abs pre s' ps' ∧ s'.fileStart = s.fileStart ∧
      DedupOut pre s ps flags ps' loc := by
  have hfs := h.fs
  have hlen := h.len
  rw [deduplicateBlocks_eq, if_neg (Nat.not_lt.2 (hlen ▸ hfs)), hlen]
  by_cases hc0 : ps.length - s.fileStart = 0
  · rw [if_pos hc0]
    exact ⟨s, 0, ps, rfl, h, rfl, Or.inl ⟨hc0, rfl, rfl⟩⟩
  · rw [if_neg hc0]
    have hcpos : 0 < ps.length - s.fileStart := Nat.pos_of_ne_zero hc0
    have hfs' : s.fileStart < ps.length := Nat.lt_of_sub_ne_zero hc0
    obtain ⟨hb0, hoff0, _⟩ := h.get hfs'
    simp only [hb0]
    by_cases hdd : hasFlag flags blkDontDeduplicate = true
    · rw [if_pos hdd]
      exact ⟨s, _, ps, rfl, h, rfl, Or.inr (Or.inl ⟨hcpos, hdd, rfl, hoff0⟩)⟩
    · rw [if_neg hdd]
      have hsz : ((s.blocks.drop s.fileStart).map Entry.size).sum = (bytesOf (ps.drop s.fileStart)).length := by
        rw [h.blocks, ← List.map_drop]
        exact Offs_sizes _ _ (Offs_drop _ ps s.fileStart h.offs)
      obtain ⟨r, hfind, _, hrle, hmatch, hmin⟩ :=
        findMatch_spec h (count := s.blocks.length - s.fileStart) (by rw [hlen]) hoff0 hsz s.fileStart 0 (Nat.zero_add _)
      rw [hlen] at hfind hmatch hmin
      have hr' : r < ps.length := Nat.lt_of_le_of_lt hrle hfs'
      obtain ⟨hbr, hoffr, _⟩ := h.get hr'
      unfold searchAndCut
      simp only [hlen, hfind, hbr]
      have hout : ∀ ps', (ps' = if r < s.fileStart then ps.take (max (r + (ps.length - s.fileStart)) s.fileStart) else ps) →
          DedupOut pre s ps flags ps' (ps[r]).1.offset := fun ps' hp =>
        Or.inr (Or.inr ⟨hcpos, by simpa using hdd, r, hrle, hmatch, fun k hk => hmin k (Nat.zero_le _) hk, hoffr, hp⟩)
      by_cases hge : r ≥ s.fileStart
      · rw [if_pos hge]
        exact ⟨s, _, ps, rfl, h, rfl, hout ps (by rw [if_neg (Nat.not_lt.2 hge)])⟩
      · rw [if_neg hge]
        obtain ⟨s', hcut, hfs', habs'⟩ := cutAt_spec h (i := r) (Nat.lt_of_not_le hge) (ps[r]).1.offset
        exact ⟨s', _, _, hcut, habs', hfs', hout _ (by rw [if_pos (Nat.lt_of_not_le hge)])⟩

/-- location `loc` holds, inside the first `m` history entries, a run with words/checksums `K` and bytes `P` -/
def HoldsIn (m : Nat) (pre : Bytes) (ps : List PE) (loc : Nat) (K : List (Nat × UInt32)) (P : Bytes) : Prop :=
  ∃ a b c, ps.take m = a ++ b ++ c ∧ loc = pre.length + (bytesOf a).length ∧ b.map pkey = K ∧ bytesOf b = P

theorem HoldsIn_stable {m m' pre ps ps' loc K P} (h : HoldsIn m pre ps loc K P)
    (hp : ps'.take m = ps.take m) (hm : m ≤ m') : HoldsIn m' pre ps' loc K P := by
  obtain ⟨a, b, c, h1, h2, h3, h4⟩ := h
  refine ⟨a, b, c ++ (ps'.take m').drop m, ?_, h2, h3, h4⟩
  rw [← List.append_assoc, ← h1, ← hp]
  have : ps'.take m = (ps'.take m').take m := by rw [List.take_take, Nat.min_eq_left hm]
  rw [this, List.take_append_drop]

theorem HoldsIn_slice {m pre s ps loc K P} (ha : Abs pre s ps) (h : HoldsIn m pre ps loc K P) :
    slice s.file loc P.length = P := by
  obtain ⟨a, b, c, h1, h2, h3, h4⟩ := h
  have e : pre ++ bytesOf ps = (pre ++ bytesOf a) ++ bytesOf b ++ (bytesOf c ++ bytesOf (ps.drop m)) := by
    conv => lhs; rw [← List.take_append_drop m ps, h1]
    simp [List.append_assoc]
  rw [ha.file, e, h2, ← h4, ← List.length_append]
  exact slice_append_mid _ _ _

theorem HoldsIn_of_run (pre : Bytes) (ps : List PE) {r n m : Nat} (h1 : r + n ≤ m) :
    HoldsIn m pre ps (off pre ps r) (((ps.drop r).take n).map pkey) (bytesOf ((ps.drop r).take n)) := by
  refine ⟨ps.take r, (ps.drop r).take n, (ps.take m).drop (r + n), ?_, rfl, rfl, rfl⟩
  have := List.take_append_drop (r + n) (ps.take m)
  rw [List.take_take, Nat.min_eq_left h1] at this
  rw [← List.take_add]; exact this.symm

theorem HoldsIn_run {m pre ps loc K P} (h : HoldsIn m pre ps loc K P) :
    ∃ r, loc = off pre ps r ∧
      ((ps.drop r).take K.length).map pkey = K ∧ bytesOf ((ps.drop r).take K.length) = P := by
  obtain ⟨a, b, c, h1, h2, h3, h4⟩ := h
  have e : ps = a ++ (b ++ (c ++ ps.drop m)) := by
    rw [← List.append_assoc, ← List.append_assoc, ← h1, List.take_append_drop]
  have hKl : K.length = b.length := by rw [← h3]; simp
  have hta : ps.take a.length = a := by
    conv => lhs; rw [e]
    exact List.take_left' rfl
  have hrun : (ps.drop a.length).take b.length = b := by
    conv => lhs; rw [e]
    rw [List.drop_left' rfl]
    exact List.take_left' rfl
  refine ⟨a.length, by rw [off, hta]; exact h2, ?_, ?_⟩
  · rw [hKl, hrun]; exact h3
  · rw [hKl, hrun]; exact h4

theorem dedup_spec (pre : Bytes) (s : State) (ps : List PE) (h : Abs pre s ps) (flags : Nat) :
    ∃ s' loc ps', deduplicateBlocks s flags = .ok (s', loc) ∧ Abs pre s' ps' ∧ s'.fileStart = s.fileStart ∧
      ps'.take s.fileStart = ps.take s.fileStart ∧
      (ps.drop s.fileStart ≠ [] →
        HoldsIn ps'.length pre ps' loc ((ps.drop s.fileStart).map pkey) (bytesOf (ps.drop s.fileStart)) ∧
        (hasFlag flags blkDontDeduplicate = false →
          ∀ loc', HoldsIn s.fileStart pre ps loc' ((ps.drop s.fileStart).map pkey) (bytesOf (ps.drop s.fileStart)) →
            loc ≤ loc')) := by
  obtain ⟨s', loc, ps', hd, habs', hfs', hout⟩ := dedup_explicit pre s ps h flags
  refine ⟨s', loc, ps', hd, habs', hfs', ?_⟩
  have hfs := h.fs
  have hall := drop_take_all ps s.fileStart (ps.length - s.fileStart) rfl
  -- the file's own location always holds its run
  have hown : HoldsIn ps.length pre ps (off pre ps s.fileStart) ((ps.drop s.fileStart).map pkey)
      (bytesOf (ps.drop s.fileStart)) := by
    have := HoldsIn_of_run pre ps (r := s.fileStart) (n := ps.length - s.fileStart) (m := ps.length)
      (Nat.le_of_eq (Nat.add_sub_of_le hfs))
    rwa [hall] at this
  rcases hout with ⟨hc, rfl, _⟩ | ⟨_, hdd, rfl, rfl⟩ | ⟨_, _, r, hr, hm, hmin, rfl, hp⟩
  · exact ⟨rfl, fun hne => absurd (List.drop_eq_nil_of_le (Nat.le_of_sub_eq_zero hc)) hne⟩
  · exact ⟨rfl, fun _ => ⟨hown, fun hno => by rw [hdd] at hno; cases hno⟩⟩
  · -- any equal run inside the first `file_start` entries starts at an index `≥ r`
    have hcomplete : ∀ loc', HoldsIn s.fileStart pre ps loc' ((ps.drop s.fileStart).map pkey)
        (bytesOf (ps.drop s.fileStart)) → off pre ps r ≤ loc' := by
      intro loc' hh
      obtain ⟨k, rfl, hk4, hk5⟩ := HoldsIn_run hh
      rw [List.length_map, List.length_drop] at hk4 hk5
      exact off_mono pre ps (Nat.le_of_not_lt fun hlt => hmin k hlt ⟨hk4, hk5⟩)
    by_cases hlt : r < s.fileStart
    · rw [if_pos hlt] at hp
      subst hp
      have hmle := cut_le hlt hfs
      refine ⟨by rw [List.take_take, Nat.min_eq_left (Nat.le_max_right _ _)], fun _ => ⟨?_, fun _ => hcomplete⟩⟩
      have := HoldsIn_of_run pre ps (r := r) (n := ps.length - s.fileStart) (Nat.le_max_left _ s.fileStart)
      rw [(hm hlt).1, (hm hlt).2] at this
      exact HoldsIn_stable this (by rw [List.take_take, Nat.min_self])
        (by rw [List.length_take, Nat.min_eq_left hmle]; exact Nat.le_refl _)
    · rw [if_neg hlt] at hp
      subst hp
      obtain rfl : r = s.fileStart := Nat.le_antisymm hr (Nat.le_of_not_lt hlt)
      exact ⟨rfl, fun _ => ⟨hown, fun _ => hcomplete⟩⟩

def blkKeys (bs : List Blk) : List (Nat × UInt32) := bs.map (fun b => (b.word, b.chk))

theorem blkKeys_map (ps : List PE) : blkKeys (ps.map toBlk) = ps.map pkey := by
  simp [blkKeys, List.map_map, toBlk, pkey, Function.comp_def]

/-- entries below this index are never cut again -/
def sb (s : State) (opened : Bool) : Nat := if opened then s.fileStart else s.blocks.length

/-- the history key of the block a call stores -/
def ckey (c : Call) : Nat × UInt32 := (mkWord c.data.length c.flags, c.chk)

/-- `opened`, `acc` as in the spec's `wf`, `files` (a file is open; its stored blocks so far); `recs` = the non-empty files closed
so far, with the location returned.  `loose` = the stored calls made outside every file (fragment blocks), with the location
returned: they lie below the bound `sb` like the files' runs, so no later truncation reaches them. -/
structure Inv (pre : Bytes) (s : State) (ps : List PE) (opened : Bool) (acc : List Blk) (recs : List Rec)
    (loose : List (Nat × Call)) : Prop where
  abs  : Abs pre s ps
  cur  : opened = true → (ps.drop s.fileStart).map toBlk = acc
  recs : ∀ rc ∈ recs, HoldsIn (sb s opened) pre ps rc.loc (blkKeys rc.blks) (blkBytes rc.blks)
  loose : ∀ r ∈ loose, HoldsIn (sb s opened) pre ps r.1 [ckey r.2] r.2.data

/-- state after the `FIRST` test of `write_data_block` -/
def afterFirst (s : State) (c : Call) : State :=
  if hasFlag c.flags blkFirstBlock then { s with fileStart := s.blocks.length } else s

/-- state after the store step -/
def afterStore (s1 : State) (c : Call) : State :=
  if c.data.length != 0 && !hasFlag c.flags blkIsSparse then
    { s1 with blocks := s1.blocks ++ [⟨s1.file.length, mkWord c.data.length c.flags, c.chk⟩],
              file := writeAt s1.file s1.file.length c.data }
  else s1

theorem writeDataBlock_eq (s : State) (c : Call) :
    writeDataBlock s c.chk c.flags c.data =
      if hasFlag c.flags blkLastBlock then deduplicateBlocks (afterStore (afterFirst s c) c) c.flags
      else .ok (afterStore (afterFirst s c) c, (afterFirst s c).file.length) := rfl

theorem Abs.first {pre s ps} (h : Abs pre s ps) (c : Call) : Abs pre (afterFirst s c) ps := by
  unfold afterFirst
  split
  · exact ⟨h.blocks, h.file, h.offs, Nat.le_of_eq h.len, h.ho⟩
  · exact h

theorem Abs.store {pre s ps} (h : Abs pre s ps) (c : Call) (hst : c.stored = true) (hsz : c.data.length < 2 ^ 24) :
    Abs pre (afterStore s c) (ps ++ [((⟨s.file.length, mkWord c.data.length c.flags, c.chk⟩ : Entry), c.data)]) := by
  unfold afterStore
  rw [if_pos (show (c.data.length != 0 && !hasFlag c.flags blkIsSparse) = true from hst)]
  refine ⟨?_, ?_, (Offs_append _ _ _).2 ⟨h.offs, h.fileLen, mkWord_size _ _ hsz, trivial⟩, ?_, h.ho⟩
  · show s.blocks ++ [_] = _
    rw [List.map_append, h.blocks]; rfl
  · show writeAt s.file s.file.length c.data = _
    rw [writeAt_end, h.file, bytesOf_append]; simp [List.append_assoc]
  · rw [List.length_append]; exact Nat.le_add_right_of_le h.fs

theorem afterStore_of_not_stored {s : State} {c : Call} (hst : c.stored = false) : afterStore s c = s :=
  if_neg (by rw [show (c.data.length != 0 && !hasFlag c.flags blkIsSparse) = c.stored from rfl, hst]; simp)

theorem write_abs {pre s ps} (h : Abs pre s ps) (c : Call) (hsz : c.data.length < 2 ^ 24) :
    ∃ s' loc ps', writeDataBlock s c.chk c.flags c.data = .ok (s', loc) ∧ Abs pre s' ps' := by
  have h1 := h.first c
  obtain ⟨ps2, h2⟩ : ∃ ps2, Abs pre (afterStore (afterFirst s c) c) ps2 := by
    by_cases hst : c.stored = true
    · exact ⟨_, h1.store c hst hsz⟩
    · rw [afterStore_of_not_stored (by simpa using hst)]; exact ⟨ps, h1⟩
  rw [writeDataBlock_eq]
  split
  · obtain ⟨s', loc, ps', hd, ha, _⟩ := dedup_explicit pre _ ps2 h2 c.flags
    exact ⟨s', loc, ps', hd, ha⟩
  · exact ⟨_, _, ps2, rfl, h2⟩

theorem run_abs {pre : Bytes} : ∀ (cs : List Call) {s : State} {ps : List PE}, Abs pre s ps → sizesOk cs →
    ∃ s' locs ps', run s cs = .ok (s', locs) ∧ Abs pre s' ps' := by
  intro cs
  induction cs with
  | nil => intro s ps h _; exact ⟨s, [], ps, rfl, h⟩
  | cons c cs ih =>
    intro s ps h hsz
    obtain ⟨s1, loc, ps1, hw, h1⟩ := write_abs h c (hsz c (List.mem_cons_self ..))
    obtain ⟨s', locs, ps', hr, h'⟩ := ih h1 (fun x hx => hsz x (List.mem_cons_of_mem _ hx))
    exact ⟨s', loc :: locs, ps', by simp only [run, hw, hr], h'⟩

theorem sb_le {pre s ps} (h : Abs pre s ps) (opened : Bool) : sb s opened ≤ s.blocks.length := by
  unfold sb; split
  · rw [h.len]; exact h.fs
  · exact Nat.le_refl _

/-- what is recorded survives every step that keeps the entries below the bound `sb` and does not lower the bound -/
theorem Inv.frame {pre s ps opened acc recs loose s' ps' opened' acc'} (h : Inv pre s ps opened acc recs loose)
    (habs : Abs pre s' ps') (hcur : opened' = true → (ps'.drop s'.fileStart).map toBlk = acc')
    (hp : ps'.take (sb s opened) = ps.take (sb s opened)) (hm : sb s opened ≤ sb s' opened') :
    Inv pre s' ps' opened' acc' recs loose :=
  ⟨habs, hcur, fun rc hrc => HoldsIn_stable (h.recs rc hrc) hp hm, fun r hr => HoldsIn_stable (h.loose r hr) hp hm⟩

theorem inv_first {pre s ps opened acc recs loose} (c : Call) (h : Inv pre s ps opened acc recs loose) :
    Inv pre (afterFirst s c) ps (opened || c.first) (if c.first then [] else acc) recs loose := by
  have habs := h.abs.first c
  by_cases hf : c.first = true
  · have e : afterFirst s c = { s with fileStart := s.blocks.length } := if_pos hf
    rw [e] at habs ⊢
    simp only [hf, Bool.or_true, if_true]
    refine h.frame habs (fun _ => ?_) rfl (sb_le h.abs opened)
    show (ps.drop s.blocks.length).map toBlk = []
    rw [List.drop_eq_nil_of_le (Nat.le_of_eq h.abs.len.symm)]; rfl
  · have e : afterFirst s c = s := if_neg hf
    rw [e]
    simp only [Bool.not_eq_true] at hf
    simp only [hf, Bool.or_false, Bool.false_eq_true, if_false]
    exact h

theorem inv_store {pre s ps opened acc recs loose} (c : Call) (h : Inv pre s ps opened acc recs loose)
    (hsz : c.data.length < 2 ^ 24) :
    ∃ ps', Inv pre (afterStore s c) ps' opened (acc ++ (if c.stored then [c.blk] else [])) recs loose ∧
      (c.stored = true → ps' = ps ++ [((⟨s.file.length, mkWord c.data.length c.flags, c.chk⟩ : Entry), c.data)]) := by
  by_cases hst : c.stored = true
  · have habs := h.abs.store c hst hsz
    have hfs : (afterStore s c).fileStart = s.fileStart := by unfold afterStore; split <;> rfl
    have hlen : (afterStore s c).blocks.length = s.blocks.length + 1 := by rw [habs.len, List.length_append, h.abs.len]; rfl
    refine ⟨_, h.frame habs (fun ho => ?_)
      (List.take_append_of_le_length (by rw [← h.abs.len]; exact sb_le h.abs opened))
      (by unfold sb; rw [hfs, hlen]; split <;> omega), fun _ => rfl⟩
    rw [hfs, List.drop_append_of_le_length h.abs.fs, List.map_append, h.cur ho, if_pos hst]; rfl
  · simp only [Bool.not_eq_true] at hst
    rw [afterStore_of_not_stored hst]
    simp only [hst, Bool.false_eq_true, if_false, List.append_nil]
    exact ⟨ps, h, fun hc => by cases hc⟩

/-- `nextOpened`, `nextRecs`, `nextLoose`: `opened`, `recs`, `loose` of `Inv` after a call `c` that returned `loc` (`acc'` =
`fileStep acc c`); one step of the spec's `wf`, `recsOf`, `looseOf` (`recsOf_cons`, `looseOf_cons`) -/
def nextOpened (opened : Bool) (c : Call) : Bool := if c.last then false else opened || c.first

def nextRecs (recs : List Rec) (c : Call) (acc' : List Blk) (loc : Nat) : List Rec :=
  if c.last && !acc'.isEmpty then recs ++ [⟨loc, acc'⟩] else recs

def nextLoose (loose : List (Nat × Call)) (opened : Bool) (c : Call) (loc : Nat) : List (Nat × Call) :=
  if c.outside opened && c.stored then loose ++ [(loc, c)] else loose

theorem mem_nextRecs {recs : List Rec} {c : Call} {acc : List Blk} {loc : Nat} {rc : Rec} (h : rc ∈ recs) :
    rc ∈ nextRecs recs c acc loc := by
  unfold nextRecs; split
  · exact List.mem_append_left _ h
  · exact h

theorem mem_nextLoose {loose : List (Nat × Call)} {opened : Bool} {c : Call} (loc : Nat)
    (ho : c.outside opened = true) (hst : c.stored = true) : (loc, c) ∈ nextLoose loose opened c loc := by
  unfold nextLoose
  rw [ho, hst, if_pos (Bool.and_self true)]
  exact List.mem_append_right _ List.mem_cons_self

theorem recsOf_cons (recs : List Rec) (acc : List Blk) (c : Call) (cs : List Call) (loc : Nat) (locs : List Nat) :
    recs ++ recsOf acc (c :: cs) (loc :: locs)
      = nextRecs recs c (fileStep acc c) loc ++ recsOf (fileStep acc c) cs locs := by
  simp only [recsOf, nextRecs]
  split <;> simp

theorem looseOf_cons (loose : List (Nat × Call)) (opened : Bool) (c : Call) (cs : List Call) (loc : Nat)
    (locs : List Nat) :
    loose ++ looseOf opened (c :: cs) (loc :: locs)
      = nextLoose loose opened c loc ++ looseOf (nextOpened opened c) cs locs := by
  simp only [looseOf, nextLoose, nextOpened]
  split <;> simp

/-- The `LAST` stage: everything recorded lies below `file_start`, which `deduplicate_blocks` does not touch. -/
theorem inv_dedup {pre s ps acc recs loose} (flags : Nat) (h : Inv pre s ps true acc recs loose) :
    ∃ s' loc ps', deduplicateBlocks s flags = .ok (s', loc) ∧
      Inv pre s' ps' false acc (if !acc.isEmpty then recs ++ [⟨loc, acc⟩] else recs) loose ∧
      (acc ≠ [] → hasFlag flags blkDontDeduplicate = false → ∀ rc ∈ recs, rc.blks = acc → loc ≤ rc.loc) := by
  obtain ⟨s', loc, ps', heq, habs', hfs', hpre, hpost⟩ := dedup_spec pre s ps h.abs flags
  have hcur : (ps.drop s.fileStart).map toBlk = acc := h.cur rfl
  have hK : blkKeys acc = (ps.drop s.fileStart).map pkey := by rw [← hcur, blkKeys_map]
  have hB : blkBytes acc = bytesOf (ps.drop s.fileStart) := by rw [← hcur, blkBytes_map]
  have hownne : acc ≠ [] → ps.drop s.fileStart ≠ [] := by
    intro hne he; rw [he] at hcur; exact hne hcur.symm
  have hsb : sb s' false = ps'.length := habs'.len
  have h' : Inv pre s' ps' false acc recs loose :=
    h.frame habs' (fun hf => Bool.noConfusion hf) hpre (hsb ▸ (show s.fileStart ≤ ps'.length from hfs' ▸ habs'.fs))
  refine ⟨s', loc, ps', heq, ⟨habs', h'.cur, fun rc hrc => ?_, h'.loose⟩, fun hne hdd rc hrc hblk => ?_⟩
  · by_cases hne : acc = []
    · rw [hne] at hrc
      exact h'.recs rc hrc
    · rw [if_pos (by simpa using hne), List.mem_append, List.mem_singleton] at hrc
      rcases hrc with hrc | rfl
      · exact h'.recs rc hrc
      · show HoldsIn (sb s' false) pre ps' loc (blkKeys acc) (blkBytes acc)
        rw [hsb, hK, hB]
        exact (hpost (hownne hne)).1
  · have := h.recs rc hrc
    rw [hblk, hK, hB] at this
    exact (hpost (hownne hne)).2 hdd rc.loc this

theorem inv_loose {pre s ps acc recs loose} (h : Inv pre s ps false acc recs loose) (c : Call) (ps0 : List PE)
    (off : Nat) (hps : ps = ps0 ++ [((⟨off, mkWord c.data.length c.flags, c.chk⟩ : Entry), c.data)]) :
    Inv pre s ps false acc recs (loose ++ [(pre.length + (bytesOf ps0).length, c)]) := by
  refine ⟨h.abs, h.cur, h.recs, fun r hr => ?_⟩
  rw [List.mem_append, List.mem_singleton] at hr
  rcases hr with hr | rfl
  · exact h.loose r hr
  · show HoldsIn (sb s false) pre ps _ [ckey c] c.data
    rw [show sb s false = ps.length from h.abs.len]
    refine ⟨ps0, [((⟨off, mkWord c.data.length c.flags, c.chk⟩ : Entry), c.data)], [], ?_, rfl, rfl, by simp⟩
    rw [hps, List.append_nil]; exact List.take_of_length_le (Nat.le_refl _)

/-- a stored call outside every file is a file of one block: its location holds that block like a record's -/
theorem Inv.looseRec {pre s ps opened acc recs loose} (h : Inv pre s ps opened acc recs loose) {r : Nat × Call}
    (hr : r ∈ loose) : Inv pre s ps opened acc (recs ++ [⟨r.1, [r.2.blk]⟩]) loose :=
  ⟨h.abs, h.cur, List.forall_mem_append.mpr ⟨h.recs, List.forall_mem_singleton.mpr (by
    show HoldsIn _ pre ps r.1 [ckey r.2] (r.2.data ++ [])
    rw [List.append_nil]; exact h.loose r hr)⟩, h.loose⟩

theorem write_spec {pre s ps opened acc recs loose} (c : Call) (h : Inv pre s ps opened acc recs loose)
    (hsz : c.data.length < 2 ^ 24) (hwf : c.last = true → (opened || c.first) = true) :
    ∃ s' loc ps', writeDataBlock s c.chk c.flags c.data = .ok (s', loc) ∧
      Inv pre s' ps' (nextOpened opened c) (fileStep acc c) (nextRecs recs c (fileStep acc c) loc)
        (nextLoose loose opened c loc) ∧
      (c.last = true → fileStep acc c ≠ [] → c.dontDedup = false →
         ∀ rc ∈ recs, rc.blks = fileStep acc c → loc ≤ rc.loc) := by
  obtain ⟨ps2, h2, hps2⟩ := inv_store c (inv_first c h) hsz
  change Inv pre _ ps2 (opened || c.first) (fileStep acc c) recs loose at h2
  rw [writeDataBlock_eq]
  unfold nextOpened nextRecs nextLoose Call.outside
  by_cases hl : c.last = true
  · rw [if_pos (show hasFlag c.flags blkLastBlock = true from hl)]
    rw [hwf hl] at h2
    obtain ⟨s', loc, ps', heq, hinv', hcomp⟩ := inv_dedup c.flags h2
    simp only [hl, if_true, Bool.true_and, Bool.not_true, Bool.and_false, Bool.false_and, Bool.false_eq_true, if_false]
    exact ⟨s', loc, ps', heq, hinv', fun _ => hcomp⟩
  · rw [if_neg (show ¬ hasFlag c.flags blkLastBlock = true from hl)]
    rw [Bool.not_eq_true] at hl
    refine ⟨_, _, ps2, rfl, ?_, fun hc => by rw [hl] at hc; cases hc⟩
    simp only [hl, Bool.false_eq_true, if_false, Bool.false_and, Bool.not_false, Bool.and_true]
    by_cases hout : (!(opened || c.first) && c.stored) = true
    · rw [if_pos hout]
      rw [Bool.and_eq_true, Bool.not_eq_true'] at hout
      rw [hout.1] at h2 ⊢
      have hflen : (afterFirst s c).file.length = pre.length + (bytesOf ps).length := by
        rw [← h.abs.fileLen]; unfold afterFirst; split <;> rfl
      rw [hflen]
      exact inv_loose h2 c ps _ (hps2 hout.2)
    · rw [if_neg hout]
      exact h2

theorem wf_cons (opened : Bool) (c : Call) (cs : List Call) :
    wf opened (c :: cs) = true ↔
      (c.last = true → (opened || c.first) = true) ∧ wf (nextOpened opened c) cs = true := by
  by_cases hl : c.last = true
  · simp only [wf, nextOpened, hl, if_true, Bool.and_eq_true, true_imp_iff]
  · rw [Bool.not_eq_true] at hl
    simp only [wf, nextOpened, hl, Bool.false_eq_true, if_false, false_imp_iff, true_and]

theorem wfS_cons (opened : Bool) (c : Call) (cs : List Call) :
    wfS opened (c :: cs) = true ↔
      (c.fragBlk = true → (!opened && !c.first && !c.last) = true) ∧
      (c.last = true → (opened || c.first) = true) ∧ wfS (nextOpened opened c) cs = true := by
  have hfb : (if c.fragBlk then !opened && !c.first && !c.last else true) = true ↔
      (c.fragBlk = true → (!opened && !c.first && !c.last) = true) := by
    cases c.fragBlk <;> simp
  rw [wfS, Bool.and_eq_true, hfb]
  by_cases hl : c.last = true
  · simp only [nextOpened, hl, if_true, Bool.and_eq_true, true_imp_iff]
  · rw [Bool.not_eq_true] at hl
    simp only [nextOpened, hl, Bool.false_eq_true, if_false, false_imp_iff, true_and]

theorem wfS_append : ∀ (xs ys : List Call) (o : Bool),
    wfS o (xs ++ ys) = (wfS o xs && wfS (xs.foldl nextOpened o) ys) := by
  intro xs
  induction xs with
  | nil => intro ys o; simp [wfS]
  | cons c cs ih =>
    intro ys o
    simp only [List.cons_append, wfS, List.foldl_cons, nextOpened]
    cases c.last <;> simp [ih, Bool.and_assoc]

theorem wfS_prefix {xs ys : List Call} {o : Bool} (h : wfS o (xs ++ ys) = true) : wfS o xs = true := by
  rw [wfS_append, Bool.and_eq_true] at h; exact h.1

theorem wfS_wf : ∀ (cs : List Call) (opened : Bool), wfS opened cs = true → wf opened cs = true := by
  intro cs
  induction cs with
  | nil => intro _ _; rfl
  | cons c cs ih =>
    intro opened h
    obtain ⟨_, h1, h2⟩ := (wfS_cons opened c cs).1 h
    exact (wf_cons opened c cs).2 ⟨h1, ih _ h2⟩

theorem run_append (s : State) (cs ds : List Call) :
    run s (cs ++ ds) =
      match run s cs with
      | .error e => .error e
      | .ok (s1, l1) =>
        match run s1 ds with
        | .error e => .error e
        | .ok (s2, l2) => .ok (s2, l1 ++ l2) := by
  induction cs generalizing s with
  | nil =>
    simp only [List.nil_append, run]
    cases run s ds with
    | error e => rfl
    | ok r => rfl
  | cons c cs ih =>
    simp only [List.cons_append, run]
    cases writeDataBlock s c.chk c.flags c.data with
    | error e => rfl
    | ok r =>
      simp only [ih]
      cases run r.1 cs with
      | error e => rfl
      | ok r1 =>
        simp only []
        cases run r1.1 ds with
        | error e => rfl
        | ok r2 => rfl

theorem holdsAll_cons_nil (file : Bytes) (p : Option Bytes) (ps : List (Option Bytes)) :
    holdsAll file (p :: ps) [] = false := by
  cases p <;> rfl

theorem holdsAll_cons (file : Bytes) (p : Option Bytes) (ps : List (Option Bytes)) (loc : Nat) (ls : List Nat) :
    holdsAll file (p :: ps) (loc :: ls) =
      ((match p with | none => true | some b => slice file loc b.length == b) && holdsAll file ps ls) := by
  cases p <;> rfl

theorem run_spec {pre : Bytes} : ∀ (cs : List Call) {s : State} {ps : List PE} {opened : Bool} {acc : List Blk}
    {recs : List Rec} {loose : List (Nat × Call)}, Inv pre s ps opened acc recs loose → sizesOk cs → wf opened cs = true →
    ∃ s' locs ps' opened' acc', run s cs = .ok (s', locs) ∧
      Inv pre s' ps' opened' acc' (recs ++ recsOf acc cs locs) (loose ++ looseOf opened cs locs) ∧
      locs.length = cs.length ∧
      shareCompleteOk recs acc cs locs = true ∧
      holdsAll s'.file (claimsOf opened acc cs) locs = true := by
  intro cs
  induction cs with
  | nil =>
    intro s ps opened acc recs loose h _ _
    exact ⟨s, [], ps, opened, acc, rfl, by simpa [recsOf, looseOf] using h, rfl, rfl, rfl⟩
  | cons c cs ih =>
    intro s ps opened acc recs loose h hsz hwf
    obtain ⟨hwf1, hwf2⟩ := (wf_cons opened c cs).1 hwf
    obtain ⟨s1, loc, ps1, hw, hinv1, hcomp⟩ := write_spec c h (hsz c (List.mem_cons_self ..)) hwf1
    obtain ⟨s', locs, ps', opened', acc', hr, hinv', hlen, hsc, hall⟩ :=
      ih hinv1 (fun x hx => hsz x (List.mem_cons_of_mem _ hx)) hwf2
    refine ⟨s', loc :: locs, ps', opened', acc', ?_, ?_, by simp [hlen], ?_, ?_⟩
    · simp only [run, hw, hr]
    · rw [recsOf_cons, looseOf_cons]; exact hinv'
    · rw [shareCompleteOk, Bool.and_eq_true]
      refine ⟨?_, ?_⟩
      · split
        · rename_i hcond
          simp only [Bool.and_eq_true, Bool.not_eq_true', List.isEmpty_eq_false_iff] at hcond
          rw [List.all_eq_true]
          intro rc hrc
          rw [decide_eq_true_iff]
          intro hb
          exact hcomp hcond.1.1 hcond.1.2 hcond.2 rc hrc hb
        · rfl
      · unfold nextRecs at hsc; exact hsc
    · -- the head's claim is among the records the final invariant keeps
      rw [claimsOf, holdsAll_cons, Bool.and_eq_true]
      refine ⟨?_, hall⟩
      by_cases hl : c.last = true
      · simp only [hl, if_true, beq_iff_eq]
        by_cases hne : fileStep acc c = []
        · rw [hne]; rfl
        · refine HoldsIn_slice hinv'.abs (hinv'.recs ⟨loc, fileStep acc c⟩ (List.mem_append_left _ ?_))
          simp [nextRecs, hl, hne]
      · rw [Bool.not_eq_true] at hl
        by_cases hout : (c.outside opened && c.stored) = true
        · simp only [hl, hout, if_true, if_false, Bool.false_eq_true, beq_iff_eq]
          refine HoldsIn_slice hinv'.abs (hinv'.loose (loc, c) (List.mem_append_left _ ?_))
          simp [nextLoose, hout]
        · simp only [hl, hout, if_false, Bool.false_eq_true]

theorem Inv_init (pre : Bytes) : Inv pre (init pre) [] false [] [] [] :=
  ⟨Abs_init pre, fun h => Bool.noConfusion h, fun _ h => (by cases h), fun _ h => (by cases h)⟩

theorem run_spec_init {pre : Bytes} {cs : List Call} (hsz : sizesOk cs) (hwf : wf false cs = true) {s : State}
    {locs : List Nat} (hrun : run (init pre) cs = .ok (s, locs)) :
    (∃ ps opened acc, Inv pre s ps opened acc (recsOf [] cs locs) (looseOf false cs locs)) ∧
      shareCompleteOk [] [] cs locs = true ∧ holdsAll s.file (claimsOf false [] cs) locs = true := by
  obtain ⟨s', locs', ps, opened, acc, hr, hinv, _, hsc, hall⟩ := run_spec cs (Inv_init pre) hsz hwf
  rw [hrun] at hr
  cases hr
  exact ⟨⟨ps, opened, acc, by simpa using hinv⟩, hsc, hall⟩

theorem readbackOk_of_holdsAll (file : Bytes) : ∀ (cs : List Call) (opened : Bool) (acc : List Blk) (locs : List Nat),
    holdsAll file (claimsOf opened acc cs) locs = true → readbackOk file (files acc cs) locs = true := by
  intro cs
  induction cs with
  | nil => intro _ _ locs h; cases locs with
    | nil => rfl
    | cons _ _ => cases h
  | cons c cs ih =>
    intro opened acc locs h
    cases locs with
    | nil => rw [claimsOf, holdsAll_cons_nil] at h; cases h
    | cons loc locs =>
      rw [claimsOf, holdsAll_cons, Bool.and_eq_true] at h
      simp only [files]
      cases hl : c.last
      · exact ih _ _ locs h.2
      · rw [hl] at h
        simp only [if_true, readbackOk, Bool.and_eq_true]
        exact ⟨h.1, ih _ _ locs h.2⟩

/-- under the strengthened protocol every stored fragment block is a call outside every file, so its location is kept -/
theorem fragBlocksOk_of_holdsAll (file : Bytes) : ∀ (cs : List Call) (opened : Bool) (acc : List Blk) (locs : List Nat),
    wfS opened cs = true → holdsAll file (claimsOf opened acc cs) locs = true → fragBlocksOk file cs locs = true := by
  intro cs
  induction cs with
  | nil => intro _ _ locs _ h; cases locs with
    | nil => rfl
    | cons _ _ => cases h
  | cons c cs ih =>
    intro opened acc locs hwf h
    cases locs with
    | nil => rw [claimsOf, holdsAll_cons_nil] at h; cases h
    | cons loc locs =>
      rw [claimsOf, holdsAll_cons, Bool.and_eq_true] at h
      obtain ⟨hout, _, hrest⟩ := (wfS_cons opened c cs).1 hwf
      rw [fragBlocksOk, Bool.and_eq_true]
      refine ⟨?_, ih _ _ locs hrest h.2⟩
      split
      · rename_i hfb
        rw [Bool.and_eq_true] at hfb
        have h1 := hout hfb.1
        simp only [Bool.and_eq_true, Bool.not_eq_true'] at h1
        have := h.1
        simp only [h1.2, Bool.false_eq_true, if_false, Call.outside, h1.1.1, h1.1.2, hfb.2, Bool.or_self, Bool.not_false,
          Bool.and_self, if_true] at this
        exact this
      · rfl

end Sqfs.BlockWriter
