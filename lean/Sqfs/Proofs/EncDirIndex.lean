/-
C01 — position bookkeeping of `sqfs_dir_writer_end` for `dir_index_points_at_headers`: where each header stands in the
listing and in which metadata block.
-/
import Sqfs.Proofs.DirWriter
namespace Sqfs.Enc
open Sqfs.Consts
open Sqfs.DirWriter (DEnt Run dirEndGo dirSizeOf advance conseqCount)

theorem advance_advance (c blk off n m : Nat) :
    advance c (advance c blk off n).1 (advance c blk off n).2 m = advance c blk off (n + m) := by
  have hx : off + (n + m) = ((off + n) % 8192 + m) + 8192 * ((off + n) / 8192) := by
    rw [Nat.add_right_comm, Nat.mod_add_div, Nat.add_assoc]
  simp only [advance, metaBlockSize]
  rw [hx, Nat.add_mul_div_left _ _ (by decide), Nat.add_mul_mod_self_left, Nat.add_mul, Nat.add_assoc,
    Nat.add_comm (_ * c)]

theorem dirEndGo_index (c : Nat) : ∀ (fuel blk off ds : Nat) (ents : List DEnt) (k : Nat) (r : Run), off < metaBlockSize →
    (dirEndGo c fuel blk off ds ents)[k]? = some r →
      r.index = ds + dirSizeOf ((dirEndGo c fuel blk off ds ents).take k)
      ∧ r.block = (advance c blk off (dirSizeOf ((dirEndGo c fuel blk off ds ents).take k))).1
      ∧ ∃ first rest, r.ents = first :: rest := by
  intro fuel
  induction fuel with
  | zero => intro blk off ds ents k r _ h; simp [dirEndGo] at h
  | succ f ih =>
    intro blk off ds ents k r hoff h
    cases ents with
    | nil => simp [dirEndGo] at h
    | cons first rest =>
      simp only [dirEndGo] at h ⊢
      cases k with
      | zero =>
        simp only [List.getElem?_cons_zero, Option.some.injEq] at h
        subst h
        obtain ⟨h1, _⟩ := Sqfs.DirWriter.conseqCount_spec off first rest
        obtain ⟨n, hn⟩ : ∃ n, conseqCount off (first :: rest) = n + 1 := ⟨conseqCount off (first :: rest) - 1, by omega⟩
        refine ⟨by simp [dirSizeOf], ?_, first, rest.take n, by simp [hn]⟩
        simp only [List.take_zero, dirSizeOf, List.map_nil, List.sum_nil, advance, Nat.add_zero]
        rw [Nat.div_eq_of_lt hoff]; simp
      | succ k =>
        simp only [List.getElem?_cons_succ] at h
        obtain ⟨a, b, cc⟩ := ih _ _ _ _ k r (by simp only [advance]; exact Nat.mod_lt _ (by decide)) h
        refine ⟨?_, ?_, cc⟩
        · rw [a]; simp [dirSizeOf, List.take_succ_cons]; omega
        · rw [b, advance_advance]
          simp [dirSizeOf, List.take_succ_cons]

end Sqfs.Enc
