/-
C08, block writer: refinement to the checksum-free specification `specWrite` / `specRun`
(`Sqfs/Spec/BlockWriter.lean`, the data-block clause of `specPack`).  For every checksum *function* `h` — the
checksum of a stored block is `h` of its bytes, which is how `process_block` computes it — one
`write_data_block` call is exactly one `specWrite` step (`write_refines`): same location, same file, same
history up to the checksum field.  The specification never mentions a checksum, so neither the locations nor a
single byte of the output depend on `h`.
-/
import Sqfs.Proofs.BlockWriter
namespace Sqfs.BlockWriter
open Sqfs.Consts

def strip (p : PE) : SBlk := ⟨p.1.word, p.2⟩

theorem sBytes_strip (ps : List PE) : sBytes (ps.map strip) = bytesOf ps := by
  induction ps with
  | nil => rfl
  | cons p r ih => simp [sBytes, strip, ih]

theorem bytesOf_eq_flatten (ps : List PE) : bytesOf ps = (ps.map (·.2)).flatten := by
  induction ps with
  | nil => rfl
  | cons p r ih => simp [ih]

theorem payloads_eq : ∀ (xs ys : List PE), xs.map (·.2.length) = ys.map (·.2.length) → bytesOf xs = bytesOf ys →
    xs.map (·.2) = ys.map (·.2) := by
  intro xs ys hl hb
  rw [bytesOf_eq_flatten, bytesOf_eq_flatten] at hb
  exact List.eq_iff_flatten_eq.2 ⟨hb, by rw [List.map_map, List.map_map]; exact hl⟩

/-- under honest checksums the keys are a function of the words and the payloads -/
theorem pkeys_of_honest (h : Bytes → UInt32) (xs : List PE) (hx : ∀ p ∈ xs, p.1.chk = h p.2) :
    xs.map pkey = (xs.map (·.1.word)).zip ((xs.map (·.2)).map h) := by
  rw [List.map_map, List.zip_map']
  exact List.map_congr_left fun p hp => by rw [pkey, hx p hp]; rfl

theorem MatchAt_iff_sMatchAt (h : Bytes → UInt32) (b : Nat) (ps : List PE) (hoffs : Offs b ps)
    (hh : ∀ p ∈ ps, p.1.chk = h p.2) (fs r : Nat) :
    MatchAt ps fs (ps.length - fs) r ↔ sMatchAt (ps.map strip) fs r = true := by
  have key : sMatchAt (ps.map strip) fs r = true ↔
      (((ps.drop r).take (ps.length - fs)).map (·.1.word) = (ps.drop fs).map (·.1.word) ∧
       bytesOf ((ps.drop r).take (ps.length - fs)) = bytesOf (ps.drop fs)) := by
    unfold sMatchAt
    simp only [← List.map_drop, ← List.map_take, List.length_map, List.length_drop, sBytes_strip, List.map_map,
      Bool.and_eq_true, beq_iff_eq]
    exact Iff.rfl
  rw [key]
  constructor
  · exact fun ⟨hk, hb⟩ => ⟨words_of_pkeys hk, hb⟩
  · rintro ⟨hw, hb⟩
    refine ⟨?_, hb⟩
    have hlen := Offs_words_lengths _ _ _ _ (Offs_take _ _ (ps.length - fs) (Offs_drop b ps r hoffs))
      (Offs_drop b ps fs hoffs) hw
    have hpl := payloads_eq _ _ hlen hb
    rw [pkeys_of_honest h _ fun p hp => hh p (List.mem_of_mem_drop (List.mem_of_mem_take hp)),
      pkeys_of_honest h _ fun p hp => hh p (List.mem_of_mem_drop hp), hw, hpl]

theorem find?_range_eq (p : Nat → Bool) (n r : Nat) (hm : r < n → p r = true) (hmin : ∀ k, k < r → p k = false) :
    (List.range n).find? p = if r < n then some r else none := by
  split
  · rename_i hlt
    exact List.find?_range_eq_some.mpr ⟨hm hlt, List.mem_range.mpr hlt, fun j hj => by rw [hmin j hj]; rfl⟩
  · rename_i hge
    exact List.find?_range_eq_none.mpr fun i hi => by rw [hmin i (Nat.lt_of_lt_of_le hi (Nat.le_of_not_lt hge))]; rfl

/-- the writer state `s` (abstract view `ps`) implements the specification state `ss`; `h` is the checksum function -/
structure Ref (h : Bytes → UInt32) (s : State) (ss : SState) (ps : List PE) : Prop where
  abs    : Abs ss.pre s ps
  hist   : ps.map strip = ss.hist
  fs     : s.fileStart = ss.fileStart
  honest : ∀ p ∈ ps, p.1.chk = h p.2

theorem Ref.file {h s ss ps} (r : Ref h s ss ps) : s.file = ss.file := by
  rw [r.abs.file, SState.file, ← r.hist, sBytes_strip]

theorem Ref.len {h s ss ps} (r : Ref h s ss ps) : ss.hist.length = ps.length := by
  rw [← r.hist, List.length_map]

theorem Ref.offset {h s ss ps} (r : Ref h s ss ps) (i : Nat) : sOffset ss i = off ss.pre ps i := by
  unfold sOffset off
  rw [← r.hist, ← List.map_take, sBytes_strip]

theorem Ref_init (h : Bytes → UInt32) (pre : Bytes) : Ref h (init pre) ⟨pre, [], 0⟩ [] :=
  ⟨Abs_init pre, rfl, rfl, fun p hp => by cases hp⟩

/-! `specWrite` in the three stages of `write_data_block` (`afterFirst`, `afterStore`, `deduplicateBlocks`) -/

def sAfterFirst (ss : SState) (flags : Nat) : SState :=
  if hasFlag flags blkFirstBlock then { ss with fileStart := ss.hist.length } else ss

def sAfterStore (ss : SState) (flags : Nat) (data : Bytes) : SState :=
  if data.length != 0 && !hasFlag flags blkIsSparse then
    { ss with hist := ss.hist ++ [⟨mkWord data.length flags, data⟩] }
  else ss

def sDedup (ss : SState) (flags : Nat) : SState × Nat :=
  let count := ss.hist.length - ss.fileStart
  if count = 0 then (ss, 0)
  else if hasFlag flags blkDontDeduplicate then (ss, sOffset ss ss.fileStart)
  else
    let r := sFind ss.hist ss.fileStart
    if r < ss.fileStart then
      ({ ss with hist := ss.hist.take (max (r + count) ss.fileStart) }, sOffset ss r)
    else (ss, sOffset ss ss.fileStart)

theorem specWrite_eq (ss : SState) (flags : Nat) (data : Bytes) : specWrite ss flags data =
    if hasFlag flags blkLastBlock then sDedup (sAfterStore (sAfterFirst ss flags) flags data) flags
    else (sAfterStore (sAfterFirst ss flags) flags data, (sAfterFirst ss flags).file.length) := rfl

theorem Ref.first {h s ss ps} (r : Ref h s ss ps) (c : Call) : Ref h (afterFirst s c) (sAfterFirst ss c.flags) ps := by
  have habs := r.abs.first c
  by_cases hf : hasFlag c.flags blkFirstBlock = true
  · rw [sAfterFirst, if_pos hf]
    rw [show afterFirst s c = { s with fileStart := s.blocks.length } from if_pos hf] at habs ⊢
    exact ⟨habs, r.hist, by rw [r.abs.len, r.len], r.honest⟩
  · rw [afterFirst, sAfterFirst, if_neg hf, if_neg hf]
    exact r

theorem Ref.store {h s ss ps} (r : Ref h s ss ps) (c : Call) (hc : c.chk = h c.data) (hsz : c.data.length < 2 ^ 24) :
    ∃ ps', Ref h (afterStore s c) (sAfterStore ss c.flags c.data) ps' := by
  by_cases hst : c.stored = true
  · have habs := r.abs.store c hst hsz
    unfold sAfterStore
    rw [if_pos (show (c.data.length != 0 && !hasFlag c.flags blkIsSparse) = true from hst)]
    refine ⟨_, habs, ?_, ?_, ?_⟩
    · rw [List.map_append, r.hist]; rfl
    · rw [← r.fs]; unfold afterStore; split <;> rfl
    · intro p hp
      rcases List.mem_append.1 hp with hp | hp
      · exact r.honest p hp
      · rw [List.mem_singleton] at hp; subst hp; exact hc
  · simp only [Bool.not_eq_true] at hst
    rw [afterStore_of_not_stored hst, sAfterStore,
      if_neg (by rw [show (c.data.length != 0 && !hasFlag c.flags blkIsSparse) = c.stored from rfl, hst]; simp)]
    exact ⟨ps, r⟩

theorem Ref.dedup {h s ss ps} (r : Ref h s ss ps) (flags : Nat) :
    ∃ s' ps', deduplicateBlocks s flags = .ok (s', (sDedup ss flags).2) ∧ Ref h s' (sDedup ss flags).1 ps' := by
  obtain ⟨s', loc, ps', hd, habs', hfs', hout⟩ := dedup_explicit ss.pre s ps r.abs flags
  have hlen := r.len
  have hfs := r.fs
  rw [hd]
  unfold sDedup
  simp only [hlen, ← hfs]
  rcases hout with ⟨hc, hp, rfl⟩ | ⟨hc, hdd, hp, hloc⟩ | ⟨hc, hdd, k, hk, hm, hmin, hloc, hp⟩
  · subst ps'
    rw [if_pos hc]
    exact ⟨s', ps, rfl, habs', r.hist, hfs'.trans hfs, r.honest⟩
  · subst ps'
    rw [if_neg (Nat.ne_of_gt hc), if_pos hdd, r.offset, ← hloc]
    exact ⟨s', ps, rfl, habs', r.hist, hfs'.trans hfs, r.honest⟩
  · have hiff : ∀ j, MatchAt ps s.fileStart (ps.length - s.fileStart) j ↔ sMatchAt ss.hist s.fileStart j = true := fun j => by
      rw [← r.hist]; exact MatchAt_iff_sMatchAt h _ ps r.abs.offs r.honest s.fileStart j
    have hfind : sFind ss.hist s.fileStart = k := by
      unfold sFind
      rw [find?_range_eq _ _ k (fun hlt => (hiff k).1 (hm hlt))
        (fun j hj => Bool.eq_false_iff.2 fun hj' => hmin j hj ((hiff j).2 hj'))]
      split
      · rfl
      · exact Nat.le_antisymm (Nat.le_of_not_lt ‹_›) hk
    rw [if_neg (Nat.ne_of_gt hc), if_neg (by rw [hdd]; simp), hfind, r.offset, ← hloc]
    by_cases hlt : k < s.fileStart
    · rw [if_pos hlt] at hp ⊢
      subst hp
      refine ⟨s', _, rfl, habs', ?_, hfs', fun p hp => r.honest p (List.mem_of_mem_take hp)⟩
      show (ps.take _).map strip = ss.hist.take _
      rw [List.map_take, r.hist]
    · rw [if_neg hlt] at hp ⊢
      subst ps'
      obtain rfl : k = s.fileStart := by omega
      rw [r.offset, ← hloc]
      exact ⟨s', ps, rfl, habs', r.hist, hfs'.trans hfs, r.honest⟩

theorem write_refines (h : Bytes → UInt32) (s : State) (ss : SState) (ps : List PE) (href : Ref h s ss ps)
    (flags : Nat) (data : Bytes) (hsz : data.length < 2 ^ 24) :
    ∃ s' ps', writeDataBlock s (h data) flags data = .ok (s', (specWrite ss flags data).2) ∧
      Ref h s' (specWrite ss flags data).1 ps' := by
  have href1 := href.first ⟨h data, flags, data⟩
  obtain ⟨ps2, href2⟩ := href1.store ⟨h data, flags, data⟩ rfl hsz
  rw [writeDataBlock_eq s ⟨h data, flags, data⟩, specWrite_eq]
  by_cases hl : hasFlag flags blkLastBlock = true
  · rw [if_pos hl, if_pos hl]
    exact href2.dedup flags
  · rw [if_neg hl, if_neg hl]
    exact ⟨_, ps2, by rw [href1.file], href2⟩

/-- the call stream of a writer whose checksums are computed by `h` from the stored bytes -/
def withChk (h : Bytes → UInt32) (cs : List (Nat × Bytes)) : List Call := cs.map (fun c => ⟨h c.2, c.1, c.2⟩)

theorem run_refines (h : Bytes → UInt32) : ∀ (cs : List (Nat × Bytes)) (s : State) (ss : SState) (ps : List PE),
    Ref h s ss ps → (∀ c ∈ cs, c.2.length < 2 ^ 24) →
    ∃ s' ps', run s (withChk h cs) = .ok (s', (specRun ss cs).2) ∧ Ref h s' (specRun ss cs).1 ps' := by
  intro cs
  induction cs with
  | nil => intro s ss ps href _; exact ⟨s, ps, rfl, href⟩
  | cons c cs ih =>
    intro s ss ps href hsz
    obtain ⟨fl, d⟩ := c
    obtain ⟨s1, ps1, hw, href1⟩ := write_refines h s ss ps href fl d (hsz (fl, d) (List.mem_cons_self ..))
    obtain ⟨s', ps', hr, href'⟩ := ih s1 _ ps1 href1 (fun x hx => hsz x (List.mem_cons_of_mem _ hx))
    refine ⟨s', ps', ?_, href'⟩
    show run s (⟨h d, fl, d⟩ :: withChk h cs) = _
    simp only [run, specRun, hw, hr]

end Sqfs.BlockWriter
