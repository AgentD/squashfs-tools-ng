/-
C03 helper lemmas: the meta writer with its flag word and both sinks (`FSt`: `flush` branches on
`SQFS_META_WRITER_KEEP_IN_MEMORY`, meta_writer.c:134-144) runs in step with the flag-less machine `St` that every other
theorem about the meta writer is stated for: every operation commutes with `FSt.ofSt fl`, which puts the blocks of a
flag-less state into the sink the flag word selects.
-/
import Sqfs.Proofs.MetaWriter
namespace Sqfs.MetaWriter
open Sqfs.Consts

/-- the flagged writer `w` and the flag-less machine `st` are in step: same open chunk, same `block_offset`, and the
blocks flushed so far sit — all of them, in order — in the sink the flag selects, the other sink being empty -/
def FSim (w : FSt) (st : St) : Prop :=
  w.cur = st.cur ∧ w.blockOffset = st.blockOffset ∧
  (if hasFlag w.flags metaWriterKeepInMemory then w.list = st.out ∧ w.file = [] else w.file = st.out ∧ w.list = [])

theorem FSim.ofSt (fl : Nat) (st : St) : FSim (FSt.ofSt fl st) st := by
  unfold FSt.ofSt
  by_cases h : hasFlag fl metaWriterKeepInMemory = true
  · rw [if_pos h]; exact ⟨rfl, rfl, by rw [if_pos h]; exact ⟨rfl, rfl⟩⟩
  · rw [if_neg h]; exact ⟨rfl, rfl, by rw [if_neg h]; exact ⟨rfl, rfl⟩⟩

theorem FSim.eq_ofSt {w : FSt} {st : St} (h : FSim w st) : w = FSt.ofSt w.flags st := by
  obtain ⟨fl, cur, bo, list, file⟩ := w
  obtain ⟨h1, h2, h3⟩ := h
  simp only at h1 h2 h3
  subst h1 h2
  unfold FSt.ofSt
  by_cases hk : hasFlag fl metaWriterKeepInMemory = true
  · rw [if_pos hk] at h3 ⊢; rw [h3.1, h3.2]
  · rw [if_neg hk] at h3 ⊢; rw [h3.1, h3.2]

theorem FSt.ofSt_init (fl : Nat) : FSt.ofSt fl {} = { flags := fl } := by
  unfold FSt.ofSt; split <;> rfl

theorem FSt.ofSt_cur (fl : Nat) (st : St) : (FSt.ofSt fl st).cur = st.cur := by
  unfold FSt.ofSt; split <;> rfl

theorem FSt.ofSt_setCur (fl : Nat) (st : St) (c : Bytes) :
    { FSt.ofSt fl st with cur := c } = FSt.ofSt fl { st with cur := c } := by
  unfold FSt.ofSt; split <;> rfl

theorem FSt.ofSt_flush (cmp : Codec) (fl : Nat) (st : St) : (FSt.ofSt fl st).flush cmp = FSt.ofSt fl (MetaWriter.flush cmp st) := by
  by_cases hc : st.cur = []
  · rw [FSt.flush, if_pos (by rw [FSt.ofSt_cur]; exact hc), MetaWriter.flush, if_pos hc]
  · rw [FSt.flush, if_neg (by rw [FSt.ofSt_cur]; exact hc), flush_eq cmp st hc]
    unfold FSt.ofSt
    by_cases hk : hasFlag fl metaWriterKeepInMemory = true
    · simp only [hk, if_true]; rfl
    · simp only [hk, Bool.false_eq_true, if_false]; rfl

theorem FSt.ofSt_appendGo (cmp : Codec) (fl : Nat) : ∀ (f : Nat) (st : St) (data : Bytes),
    FSt.appendGo cmp f (FSt.ofSt fl st) data = FSt.ofSt fl (MetaWriter.appendGo cmp f st data)
  | 0, _, _ => rfl
  | f + 1, st, data => by
    rw [FSt.appendGo, MetaWriter.appendGo]
    by_cases hd : data = []
    · rw [if_pos hd, if_pos hd]
    · rw [if_neg hd, if_neg hd]
      simp only [FSt.ofSt_cur, FSt.ofSt_flush, ← apply_ite (FSt.ofSt fl), FSt.ofSt_setCur]
      exact FSt.ofSt_appendGo cmp fl f _ _

theorem FSt.ofSt_append (cmp : Codec) (fl : Nat) (st : St) (d : Bytes) :
    (FSt.ofSt fl st).append cmp d = FSt.ofSt fl (MetaWriter.append cmp st d) := by
  rw [FSt.append, MetaWriter.append]
  simp only [FSt.ofSt_appendGo, FSt.ofSt_cur, FSt.ofSt_flush, ← apply_ite (FSt.ofSt fl)]

theorem FSt.ofSt_foldl (cmp : Codec) (fl : Nat) : ∀ (chunks : List Bytes) (st : St),
    chunks.foldl (FSt.append cmp) (FSt.ofSt fl st) = FSt.ofSt fl (chunks.foldl (MetaWriter.append cmp) st)
  | [], _ => rfl
  | c :: cs, st => by rw [List.foldl_cons, List.foldl_cons, FSt.ofSt_append, FSt.ofSt_foldl cmp fl cs]

theorem FSim.append {cmp : Codec} {w : FSt} {st : St} (h : FSim w st) (d : Bytes) :
    FSim (w.append cmp d) (MetaWriter.append cmp st d) := by
  rw [h.eq_ofSt, FSt.ofSt_append]
  exact FSim.ofSt _ _

end Sqfs.MetaWriter
