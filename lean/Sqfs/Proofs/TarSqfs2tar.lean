/-
C04 — the hard-link filter of sqfs2tar (`lib/sqfs/src/io/dir_hl.c`, model `hlFilter`): which entries come out as hard links and
to which name they point; what `keep_entry` selects for one `--subdir` argument (`keepFor_iff`).
-/
import Sqfs.Model.TarSqfs2tar
namespace Sqfs.Tar

/-- the (inode, emitted name) pairs of the entries that can be link targets: everything but directories -/
def linkable (es : List RawEnt) : List (Nat × Bytes) :=
  es.filterMap fun x => if fmt x.mode = S_IFDIR then none else some (x.inode, x.name)

/-- what the filter does with one entry, given the name recorded for its inode (if any) -/
def hlMark (e : RawEnt) : Option (Nat × Bytes) → RawEnt
  | some (_, tgt) => { e with mode := S_IFLNK + 0o777, hardLink := true, target := some tgt, xattr := [], content := [] }
  | none => e

theorem find_skip (seen R : List (Nat × Bytes)) (p : Nat × Bytes) (x : Nat)
    (h : (seen.find? (·.1 = p.1)).isSome = true) :
    (seen ++ p :: R).find? (·.1 = x) = (seen ++ R).find? (·.1 = x) := by
  simp only [List.find?_append]
  cases hs : seen.find? (·.1 = x) with
  | some v => rfl
  | none =>
    simp only [Option.none_or, List.find?_cons]
    by_cases hx : p.1 = x
    · subst hx; rw [hs] at h; cases h
    · simp [hx]

theorem hlFilter_length (seen : List (Nat × Bytes)) (es : List RawEnt) : (hlFilter seen es).length = es.length := by
  induction es generalizing seen with
  | nil => rfl
  | cons e rest ih =>
    unfold hlFilter
    split
    · simp [ih]
    · split <;> simp [ih]

theorem hlFilter_cons_dir (seen : List (Nat × Bytes)) (e : RawEnt) (rest : List RawEnt) (hd : fmt e.mode = S_IFDIR) :
    hlFilter seen (e :: rest) = e :: hlFilter seen rest := by
  rw [hlFilter, if_pos hd]

theorem hlFilter_cons_found (seen : List (Nat × Bytes)) (e : RawEnt) (rest : List RawEnt) (hd : ¬ fmt e.mode = S_IFDIR)
    (p : Nat × Bytes) (hf : seen.find? (·.1 = e.inode) = some p) :
    hlFilter seen (e :: rest) = hlMark e (some p) :: hlFilter seen rest := by
  rw [hlFilter, if_neg hd, hf]
  rfl

theorem hlFilter_cons_new (seen : List (Nat × Bytes)) (e : RawEnt) (rest : List RawEnt) (hd : ¬ fmt e.mode = S_IFDIR)
    (hf : seen.find? (·.1 = e.inode) = none) :
    hlFilter seen (e :: rest) = e :: hlFilter (seen ++ [(e.inode, e.name)]) rest := by
  rw [hlFilter, if_neg hd, hf]

theorem linkable_cons (e : RawEnt) (l : List RawEnt) (hd : ¬ fmt e.mode = S_IFDIR) :
    linkable (e :: l) = (e.inode, e.name) :: linkable l := by
  simp [linkable, hd]

theorem linkable_cons_dir (e : RawEnt) (l : List RawEnt) (hd : fmt e.mode = S_IFDIR) : linkable (e :: l) = linkable l := by
  simp [linkable, hd]

theorem hlFilter_getElem (es : List RawEnt) : ∀ (seen : List (Nat × Bytes)) (i : Nat) (hi : i < es.length),
    (hlFilter seen es)[i]'(by rw [hlFilter_length]; exact hi) =
      if fmt es[i].mode = S_IFDIR then es[i]
      else hlMark es[i] ((seen ++ linkable (es.take i)).find? (·.1 = es[i].inode)) := by
  induction es with
  | nil => intro seen i hi; cases hi
  | cons e rest ih =>
    intro seen i hi
    by_cases hd : fmt e.mode = S_IFDIR
    · cases i with
      | zero => simp only [hlFilter_cons_dir seen e rest hd, List.getElem_cons_zero, hd, if_true]
      | succ k =>
        have hk : k < rest.length := by simpa using hi
        simp only [hlFilter_cons_dir seen e rest hd, List.getElem_cons_succ, List.take_succ_cons, linkable_cons_dir e _ hd]
        exact ih seen k hk
    · cases hf : seen.find? (·.1 = e.inode) with
      | some p =>
        cases i with
        | zero =>
          simp only [hlFilter_cons_found seen e rest hd p hf, List.getElem_cons_zero, hd, if_false, List.take_zero, linkable,
            List.filterMap_nil, List.append_nil, hf]
        | succ k =>
          have hk : k < rest.length := by simpa using hi
          simp only [hlFilter_cons_found seen e rest hd p hf, List.getElem_cons_succ, List.take_succ_cons, linkable_cons e _ hd]
          rw [ih seen k hk, find_skip seen _ (e.inode, e.name) _ (by simp [hf])]
      | none =>
        cases i with
        | zero =>
          simp only [hlFilter_cons_new seen e rest hd hf, List.getElem_cons_zero, hd, if_false, List.take_zero, linkable,
            List.filterMap_nil, List.append_nil, hf, hlMark]
        | succ k =>
          have hk : k < rest.length := by simpa using hi
          simp only [hlFilter_cons_new seen e rest hd hf, List.getElem_cons_succ, List.take_succ_cons, linkable_cons e _ hd]
          rw [ih _ k hk, List.append_assoc]
          rfl

theorem keepFor_iff (p name : Bytes) :
    keepFor p name = true ↔ name = p ∨ isBelow name p = true ∨ isBelow p name = true := by
  unfold keepFor isBelow
  by_cases h : name.length ≤ p.length
  · rw [if_pos h]
    by_cases he : name.length = p.length
    · have h1 : ¬ name.length < p.length := by omega
      have h2 : ¬ p.length < name.length := by omega
      simp only [he, true_or, true_and, List.take_length, Nat.lt_irrefl, false_and, decide_false, Bool.false_eq_true, or_false,
        decide_eq_true_eq]
      exact eq_comm
    · have h1 : name.length < p.length := by omega
      have h2 : ¬ p.length < name.length := by omega
      have hne : name ≠ p := by intro h; subst h; exact he rfl
      simp only [he, false_or, h1, h2, true_and, false_and, decide_false, hne, decide_eq_true_eq, Bool.false_eq_true, or_false]
  · rw [if_neg h]
    have h1 : ¬ name.length < p.length := by omega
    have h2 : p.length < name.length := by omega
    have hne : name ≠ p := by intro h'; subst h'; omega
    simp only [h1, h2, true_and, false_and, decide_false, false_or, hne, decide_eq_true_eq, Bool.false_eq_true]

end Sqfs.Tar
