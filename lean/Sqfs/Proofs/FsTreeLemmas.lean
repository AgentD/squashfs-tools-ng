/-
C11: general lemmas about the tree model — child lists (`childByName`, `replaceChild`, `insertBy`), `lookup`, grafting a
subtree, and what a successful `fstree_add_generic` / `scan_directory` step / walk step / `resolve_link` did.
-/
import Sqfs.Model.FsTree

namespace Sqfs.FsTree

theorem childByName_some_name {cs : List TNode} {n : Name} {c : TNode} (h : childByName cs n = some c) : c.name = n := by
  fun_induction childByName cs n <;> simp_all

theorem childByName_mem {cs : List TNode} {n : Name} {c : TNode} (h : childByName cs n = some c) : c ∈ cs := by
  fun_induction childByName cs n <;> simp_all

theorem childByName_none {cs : List TNode} {n : Name} (h : childByName cs n = none) : ∀ c ∈ cs, c.name ≠ n :=
  fun c hc hn => by fun_induction childByName cs n <;> simp_all

theorem replaceChild_names (c' : TNode) (cs : List TNode) :
    (replaceChild c' cs).map TNode.name = cs.map TNode.name := by
  fun_induction replaceChild c' cs <;> simp_all

theorem replaceChild_mem {c' : TNode} {cs : List TNode} {z : TNode} (h : z ∈ replaceChild c' cs) : z = c' ∨ z ∈ cs := by
  fun_induction replaceChild c' cs <;> grind

theorem childByName_replaceChild_ne (c' : TNode) (cs : List TNode) (m : Name) (h : m ≠ c'.name) :
    childByName (replaceChild c' cs) m = childByName cs m := by
  have h' : ¬ c'.name = m := fun e => h e.symm
  fun_induction replaceChild c' cs <;> simp_all [childByName]

theorem childByName_insertBy_ne (x : TNode) (cs : List TNode) (m : Name) (h : m ≠ x.name) :
    childByName (insertBy TNode.name x cs) m = childByName cs m := by
  have h' : ¬ x.name = m := fun e => h e.symm
  fun_induction insertBy TNode.name x cs <;> simp_all [childByName]

theorem childByName_replaceChild_self {cs : List TNode} {n : Name} {c : TNode} (X : TNode)
    (h : childByName cs n = some c) (hX : X.name = n) : childByName (replaceChild X cs) n = some X := by
  subst hX
  fun_induction replaceChild X cs <;> simp_all [childByName]

theorem childByName_insertBy_self {cs : List TNode} {n : Name} (x : TNode) (h : childByName cs n = none)
    (hx : x.name = n) : childByName (insertBy TNode.name x cs) n = some x := by
  subst hx
  induction cs with
  | nil => simp [insertBy, childByName]
  | cons y ys ih => grind [insertBy, childByName]

theorem replaceChild_self {cs : List TNode} {n : Name} {c : TNode} (h : childByName cs n = some c) :
    replaceChild c cs = cs := by
  cases childByName_some_name h
  fun_induction replaceChild c cs <;> simp_all [childByName]

theorem replaceChild_comm (a b : TNode) (cs : List TNode) (h : a.name ≠ b.name) :
    replaceChild a (replaceChild b cs) = replaceChild b (replaceChild a cs) := by
  induction cs with
  | nil => rfl
  | cons x xs ih => grind [replaceChild]

theorem replaceChild_replaceChild_same (a b : TNode) (cs : List TNode) (h : a.name = b.name) :
    replaceChild a (replaceChild b cs) = replaceChild a cs := by
  fun_induction replaceChild b cs <;> simp_all [replaceChild]

theorem replaceChild_insertBy_comm (a b : TNode) (cs : List TNode) (h : a.name ≠ b.name) :
    replaceChild a (insertBy TNode.name b cs) = insertBy TNode.name b (replaceChild a cs) := by
  induction cs with
  | nil => grind [replaceChild, insertBy]
  | cons x xs ih => grind [replaceChild, insertBy]

theorem replaceChild_insertBy_self (x y : TNode) (cs : List TNode) (hn : y.name = x.name)
    (h : childByName cs x.name = none) :
    replaceChild y (insertBy TNode.name x cs) = insertBy TNode.name y cs := by
  induction cs with
  | nil => grind [replaceChild, insertBy]
  | cons z zs ih => grind [replaceChild, insertBy, childByName]

@[simp] theorem TNode.name_mk (n : Name) (a : Attr) (c : List TNode) : (TNode.mk n a c).name = n := rfl
@[simp] theorem TNode.attr_mk (n : Name) (a : Attr) (c : List TNode) : (TNode.mk n a c).attr = a := rfl
@[simp] theorem TNode.children_mk (n : Name) (a : Attr) (c : List TNode) : (TNode.mk n a c).children = c := rfl

theorem TNode.eta (t : TNode) : TNode.mk t.name t.attr t.children = t := by cases t; rfl

/-- replace the node at path `q` by `X` -/
def graft (t : TNode) (q : Path) (X : TNode) : TNode := modifyAt (fun _ => X) q t

@[simp] theorem graft_nil (t X : TNode) : graft t [] X = X := rfl

theorem graft_cons (t : TNode) (n : Name) (q : Path) (X : TNode) :
    graft t (n :: q) X = match childByName t.children n with
      | some c => .mk t.name t.attr (replaceChild (graft c q X) t.children)
      | none => t := rfl

theorem lookup_cons (t : TNode) (n : Name) (q : Path) :
    lookup t (n :: q) = if !t.isDir then none else match childByName t.children n with
      | some c => lookup c q
      | none => none := rfl

theorem lookup_cons_some {t D : TNode} {n : Name} {q : Path} (h : lookup t (n :: q) = some D) :
    t.isDir = true ∧ ∃ c, childByName t.children n = some c ∧ lookup c q = some D := by
  rw [lookup_cons] at h
  cases hd : t.isDir with
  | false => rw [hd] at h; cases h
  | true =>
    rw [hd] at h
    cases hc : childByName t.children n with
    | none => rw [hc] at h; cases h
    | some c => rw [hc] at h; exact ⟨rfl, c, rfl, h⟩

theorem lookup_mk_cons {t c : TNode} {cs : List TNode} {n : Name} (q : Path) (hd : t.isDir = true)
    (hc : childByName cs n = some c) : lookup (.mk t.name t.attr cs) (n :: q) = lookup c q := by
  rw [lookup_cons, TNode.children_mk, hc, show (TNode.mk t.name t.attr cs).isDir = t.isDir from rfl, hd]; rfl

theorem lookup_append (t : TNode) (q r : Path) : lookup t (q ++ r) = (lookup t q).bind (fun D => lookup D r) := by
  induction q generalizing t with
  | nil => rfl
  | cons n q ih =>
    rw [List.cons_append, lookup_cons, lookup_cons]
    cases t.isDir with
    | false => rfl
    | true => cases childByName t.children n with
      | none => rfl
      | some c => exact ih c

theorem lookup_single (D : TNode) (n : Name) :
    lookup D [n] = if !D.isDir then none else childByName D.children n := by
  rw [lookup_cons]
  cases D.isDir with
  | false => rfl
  | true => cases childByName D.children n <;> rfl

theorem lookup_leaf_cons (n : Name) (a : Attr) (c : Name) (r : Path) : lookup (.mk n a []) (c :: r) = none := by
  rw [lookup_cons]; split <;> rfl

theorem lookup_child {t D : TNode} {q : Path} (n : Name) (hq : lookup t q = some D) (hD : D.isDir = true) :
    lookup t (q ++ [n]) = childByName D.children n := by
  rw [lookup_append, hq, Option.bind_some, lookup_single, hD]; rfl

theorem lookup_prefix {t x : TNode} {a r : Path} (h : lookup t (a ++ r) = some x) :
    ∃ y, lookup t a = some y ∧ lookup y r = some x ∧ (r ≠ [] → y.isDir = true) := by
  rw [lookup_append] at h
  cases hy : lookup t a with
  | none => rw [hy] at h; cases h
  | some y =>
    rw [hy] at h
    refine ⟨y, rfl, h, fun hr => ?_⟩
    cases r with
    | nil => exact absurd rfl hr
    | cons c r' => exact (lookup_cons_some h).1

theorem lookup_prefix_isDir {t D : TNode} {pq m : Path} (hD : lookup t pq = some D) (hdir : D.isDir = true) (hm : m <+: pq) :
    ∃ y, lookup t m = some y ∧ y.isDir = true := by
  obtain ⟨r, rfl⟩ := hm
  obtain ⟨y, hy, hyD, hyd⟩ := lookup_prefix hD
  refine ⟨y, hy, ?_⟩
  cases r with
  | nil => cases hyD; exact hdir
  | cons c r' => exact hyd (by simp)

theorem graft_name (t : TNode) (n : Name) (q : Path) (X : TNode) : (graft t (n :: q) X).name = t.name := by
  rw [graft_cons]; split <;> rfl

theorem graft_attr (t : TNode) (n : Name) (q : Path) (X : TNode) : (graft t (n :: q) X).attr = t.attr := by
  rw [graft_cons]; split <;> rfl

theorem graft_self {t D : TNode} {q : Path} (h : lookup t q = some D) : graft t q D = t := by
  induction q generalizing t with
  | nil => cases h; rfl
  | cons n q ih =>
    obtain ⟨-, c, hc, hq⟩ := lookup_cons_some h
    simp only [graft_cons, hc, ih hq, replaceChild_self hc, TNode.eta]

theorem graft_name' {t D X : TNode} {q : Path} (h : lookup t q = some D) (hX : X.name = D.name) :
    (graft t q X).name = t.name := by
  cases q with
  | nil => cases h; exact hX
  | cons n q => exact graft_name t n q X

theorem lookup_graft {t D X : TNode} {q : Path} (h : lookup t q = some D) (hX : X.name = D.name) :
    lookup (graft t q X) q = some X := by
  induction q generalizing t with
  | nil => rfl
  | cons n q ih =>
    obtain ⟨hd, c, hc, hq⟩ := lookup_cons_some h
    have hg : (graft c q X).name = n := (graft_name' hq hX).trans (childByName_some_name hc)
    simp only [graft_cons, hc]
    rw [lookup_mk_cons q hd (childByName_replaceChild_self _ hc hg), ih hq]

theorem graft_graft {t D X : TNode} {q : Path} (r : Path) (Y : TNode) (h : lookup t q = some D) (hX : X.name = D.name)
    (hY : r = [] → Y.name = X.name) :
    graft (graft t q X) (q ++ r) Y = graft t q (graft X r Y) := by
  induction q generalizing t with
  | nil => rfl
  | cons n q ih =>
    obtain ⟨-, c, hc, hq⟩ := lookup_cons_some h
    have hg : (graft c q X).name = n := (graft_name' hq hX).trans (childByName_some_name hc)
    have hgg : (graft (graft c q X) (q ++ r) Y).name = (graft c q X).name := by
      cases q with
      | nil =>
        cases hq
        cases r with
        | nil => exact hY rfl
        | cons m r => exact graft_name ..
      | cons m q => rw [List.cons_append, graft_name]
    simp only [List.cons_append, graft_cons, hc, TNode.children_mk, TNode.name_mk, TNode.attr_mk,
      childByName_replaceChild_self _ hc hg, ih hq]
    rw [replaceChild_replaceChild_same _ _ _ (ih hq ▸ hgg)]

theorem parentOf_snoc (t : TNode) (q : Path) (n : Name) :
    parentOf t (q ++ [n]) = (lookup t q).bind (fun D => if D.isDir then some D else none) := by
  cases hqn : q ++ [n] with
  | nil => simp at hqn
  | cons a b =>
    rw [parentOf, ← hqn, List.dropLast_concat]
    · cases lookup t q <;> rfl
    · intro h; cases h

theorem parentOf_snoc_isSome {t : TNode} {q : Path} {n : Name} (h : (parentOf t (q ++ [n])).isSome = true) :
    ∃ D, lookup t q = some D ∧ D.isDir = true := by
  rw [parentOf_snoc] at h
  cases hD : lookup t q with
  | none => rw [hD] at h; cases h
  | some D =>
    cases hd : D.isDir with
    | false => simp [hD, hd] at h
    | true => exact ⟨D, rfl, hd⟩

theorem overwrite_name {c c' : TNode} {e : Ent} (h : overwrite c e = some c') : c'.name = c.name := by
  revert h; fun_cases overwrite c e <;> intro h <;> cases h; rfl

theorem linkChild_some {D c t' : TNode} (h : linkChild D c = some t') :
    t' = .mk D.name { D.attr with linkCount := D.attr.linkCount + 1 } (insertSorted c D.children) := by
  revert h; fun_cases linkChild D c <;> intro h <;> cases h; rfl

/-- `fstree_add_generic` below `dir`: the child called `n` was handed the rest of the path (empty rest: the overwrite
branch), or a new child — the leaf, or an implicit directory that was handed the rest — was linked in -/
theorem addPathAt_cons_some {d : Defaults} {e : Ent} {x : Extra} {depth : Nat} {n : Name} {rest : Path} {dir t' : TNode}
    (h : addPathAt d e x depth (n :: rest) dir = some t') :
    dir.isDir = true ∧
    ((∃ c c', childByName dir.children n = some c ∧ addPathAt d e x (depth + 1) rest c = some c' ∧
        t' = .mk dir.name dir.attr (replaceChild c' dir.children)) ∨
     (∃ c', childByName dir.children n = none ∧ linkChild dir c' = some t' ∧
        (rest = [] ∧ c' = .mk n (mknodeAttr e x) [] ∨
         rest ≠ [] ∧ addPathAt d e x (depth + 1) rest
           (.mk n { mknodeAttr (implicitEnt d) .none with implicit := true } []) = some c'))) := by
  generalize hp : n :: rest = p at h
  revert h
  fun_cases addPathAt d e x depth p dir <;> intro h <;> cases hp <;> first | cases h | skip
  case case4 c c' ho hd hc => exact ⟨by simpa using hd, .inl ⟨c, c', hc, ho, rfl⟩⟩
  case case5 hd hc =>
    rw [mknode] at h
    split at h
    · cases h
    · exact ⟨by simpa using hd, .inr ⟨_, hc, h, .inl ⟨rfl, rfl⟩⟩⟩
  case case8 c c' hd hc hne hrec => exact ⟨by simpa using hd, .inl ⟨c, c', hc, hrec, rfl⟩⟩
  case case11 c' _ hd _ hc hne hrec => exact ⟨by simpa using hd, .inr ⟨c', hc, h, .inr ⟨hne, hrec⟩⟩⟩

theorem addGeneric_some {d : Defaults} {e : Ent} {x : Extra} {t t' : TNode} (h : addGeneric d e x t = some t') :
    addPath d e x e.path t = some t' := by
  revert h; fun_cases addGeneric d e x t <;> intro h <;> first | cases h | exact h

theorem scanStep_some {d : Defaults} {cfg : Cfg} {e : Ent} {hl : Option Path} {tg : List UInt8} {t t' : TNode}
    {links links' : List Path} {ig : Bool} (h : scanStep d cfg e hl tg t links = some (t', links', ig)) :
    (parentOf t e.path = none ∧ t' = t ∧ links' = links) ∨
    ((parentOf t e.path).isSome ∧ addPath d e (scanExtra cfg e hl tg) e.path t = some t' ∧
      links' = if e.hard then e.path :: links else links) := by
  revert h; fun_cases scanStep d cfg e hl tg t links <;> intro h <;> cases h
  · exact Or.inl ⟨‹_›, rfl, rfl⟩
  · exact Or.inr ⟨by simp [*], addGeneric_some ‹_›, rfl⟩

theorem resolveLink_some {root t' : TNode} {c : Nat} {p : Path} (h : resolveLink root c p = some t') :
    ∃ tp, t' = modifyAt bumpLinkCount tp (modifyAt (setResolved tp) p root) := by
  revert h; fun_cases resolveLink root c p <;> intro h <;> cases h; exact ⟨_, rfl⟩

/-- `walkNode` did nothing ("." / ".."), or one `scan_directory` step (none if the entry was filtered out) and then,
for a directory neither filtered nor ignored, the walk of its children -/
theorem walkNode_some {d : Defaults} {cfg : Cfg} {fnm : Fnm} {rel : Path} {dirDev : Nat} {name : Name} {s : Stat}
    {target : List UInt8} {children : List HNode} {st st' : St}
    (h : walkNode d cfg fnm rel dirDev (.mk name s target children) st = some st') :
    st' = st ∨ ∃ tree' links' ignored,
      ((iterStep cfg fnm rel dirDev st.seen name s).out = none ∧ tree' = st.tree ∧ links' = st.links ∨
        ∃ e2, (iterStep cfg fnm rel dirDev st.seen name s).out = some e2 ∧
          scanStep d cfg e2 (iterStep cfg fnm rel dirDev st.seen name s).hlTarget target st.tree st.links
            = some (tree', links', ignored)) ∧
      (walkList d cfg fnm (rel ++ [name]) s.dev children
          { seen := (iterStep cfg fnm rel dirDev st.seen name s).seen, tree := tree', links := links' } = some st' ∨
        st' = { seen := (iterStep cfg fnm rel dirDev st.seen name s).seen, tree := tree', links := links' }) := by
  simp only [walkNode] at h
  by_cases hdot : (name = dotName || name = dotDotName) = true
  · rw [if_pos hdot] at h; exact Or.inl (Option.some.inj h).symm
  · rw [if_neg hdot] at h
    by_cases hdeep : (isDirMode s.mode && decide (rel.length + 1 > Consts.maxDirNesting)) = true
    · rw [if_pos hdeep] at h; cases h
    · rw [if_neg hdeep] at h
      split at h
      · cases h
      · rename_i tree' links' ignored hr
        refine Or.inr ⟨tree', links', ignored, ?_, ?_⟩
        · split at hr
          · cases hr; exact Or.inl ⟨‹_›, rfl, rfl⟩
          · exact Or.inr ⟨_, ‹_›, hr⟩
        · split at h
          · exact Or.inl h
          · exact Or.inr (Option.some.inj h).symm

theorem walkList_cons (d : Defaults) (cfg : Cfg) (fnm : Fnm) (rel : Path) (dirDev : Nat) (h : HNode) (hs : List HNode)
    (st : St) : walkList d cfg fnm rel dirDev (h :: hs) st =
      (walkNode d cfg fnm rel dirDev h st).bind (walkList d cfg fnm rel dirDev hs) := by
  rw [walkList]; cases walkNode d cfg fnm rel dirDev h st <;> rfl

end Sqfs.FsTree
