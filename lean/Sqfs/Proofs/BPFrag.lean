/-
C02: the fragment pass of the reference (`fStep`, `FSt.close`) keeps `FInv`.
-/
import Sqfs.Proofs.BPInv
import Sqfs.Proofs.FragFlags
namespace Sqfs.BlockProc
open Sqfs.Consts
open Sqfs.BlockWriter (hasFlag)

/-- `FBRawFlags` (Proofs/BPInv) and `FragDedup.FlagOk` (Proofs/FragFlags) have the same body; C02 states its invariants with the
first, and these two lemmas are FragFlags' under that name -/
theorem fbRaw_new (x : Nat) : FBRawFlags ((x &&& blkDontCompress) ||| blkFragmentBlock) := by
  rw [Nat.or_comm]; exact FragDedup.FlagOk_new x

theorem fbRaw_add {f : Nat} (h : FBRawFlags f) (x : Nat) : FBRawFlags (f ||| (x &&& blkDontCompress)) :=
  FragDedup.FlagOk_or f x h

structure FBFlagFacts (f : Nat) : Prop where
  fb : hasFlag f blkFragmentBlock = true
  notFrag : hasFlag f blkIsFragment = false
  notLast : hasFlag f blkLastBlock = false
  notFirst : hasFlag f blkFirstBlock = false
  notSparse : hasFlag f blkIsSparse = false
  notManual : hasFlag f blkFlagManualSubmission = false
  notHash : hasFlag f blkDontHash = false

theorem fbRaw_facts {f : Nat} (h : FBRawFlags f) : FBFlagFacts f := by
  rcases h with h | h <;> rw [h] <;> constructor <;> decide

theorem fbRaw_comp_facts {f : Nat} (h : FBRawFlags f) : FBFlagFacts (f ||| blkIsCompressed) := by
  rcases h with h | h <;> rw [h] <;> constructor <;> decide

/-- what the pool does to a closed fragment block: hashed, never sparse, compressed unless `DONT_COMPRESS` -/
theorem processBlock_fb (P : Params) (fb : Blk) (hf : FBRawFlags fb.flags) (hne : fb.data ≠ []) :
    (processBlock P fb = { fb with chk := P.h fb.data }) ∨
    (∃ z, P.codec.cmp fb.data = some z ∧ z ≠ [] ∧
      processBlock P fb = { fb with chk := P.h fb.data, data := z, flags := fb.flags ||| blkIsCompressed }) := by
  have hsp : hasFlag fb.flags (blkIgnoreSparse ||| blkFragmentBlock) = true := by
    rcases hf with h | h <;> rw [h] <;> decide
  have hdh : hasFlag fb.flags blkDontHash = false := (fbRaw_facts hf).notHash
  rcases processBlock_cases P fb with ⟨h0, _⟩ | ⟨_, ⟨h1, _⟩ | h | ⟨z, hz, hzne, h⟩⟩
  · exact absurd h0 hne
  · rw [hsp] at h1; cases h1
  · rw [hdh] at h; exact .inl h
  · rw [hdh] at h; exact .inr ⟨z, hz, hzne, h⟩

theorem FBWorked.facts {P : Params} {b : Blk} {d : Bytes} (h : FBWorked P b d) (hd : d ≠ []) : FBFlagFacts b.flags := by
  obtain ⟨fb, hf, hdd, rfl⟩ := h
  rcases processBlock_fb P fb hf (hdd ▸ hd) with h | ⟨z, _, _, h⟩ <;> rw [h]
  · exact fbRaw_facts hf
  · exact fbRaw_comp_facts hf

theorem FBWorked.index {P : Params} {fb : Blk} : (processBlock P fb).index = fb.index := processBlock_index P fb

theorem FBWorked.payload {P : Params} {b : Blk} {d : Bytes} (hc : CodecOk P.codec) (h : FBWorked P b d) (hd : d ≠ []) :
    (hasFlag b.flags blkIsCompressed = false ∧ b.data = d) ∨
    (hasFlag b.flags blkIsCompressed = true ∧ P.codec.unc b.data = some d ∧ b.data.length < d.length ∧ b.data ≠ []) := by
  obtain ⟨fb, hf, hdd, rfl⟩ := h
  rcases processBlock_fb P fb hf (hdd ▸ hd) with h | ⟨z, hz, hzne, h⟩ <;> rw [h]
  · left
    refine ⟨?_, hdd⟩
    rcases hf with hf | hf <;> simp only [hf] <;> decide
  · right
    refine ⟨?_, ?_, ?_, hzne⟩
    · rcases hf with hf | hf <;> simp only [hf] <;> decide
    · rw [← hdd]; exact hc.roundTrip _ _ hz
    · rw [← hdd]; exact hc.smaller _ _ hz

theorem FBWorked.length_le {P : Params} {b : Blk} {d : Bytes} (hc : CodecOk P.codec) (h : FBWorked P b d) (hd : d ≠ []) :
    b.data.length ≤ d.length := by
  rcases h.payload hc hd with ⟨_, h2⟩ | ⟨_, _, h3, _⟩
  · rw [h2]; exact Nat.le_refl _
  · exact Nat.le_of_lt h3

theorem find?_fst_of_mem {l : List (Nat × Bytes)} (hn : (l.map (·.1)).Nodup) {e : Nat × Bytes} (he : e ∈ l) :
    l.find? (fun x => x.1 == e.1) = some e := by
  induction l with
  | nil => cases he
  | cons a l ih =>
    rw [List.map_cons, List.nodup_cons] at hn
    rcases List.mem_cons.mp he with h | h
    · subst h; simp
    · have : a.1 ≠ e.1 := by
        intro heq
        exact hn.1 (heq ▸ List.mem_map_of_mem h)
      rw [List.find?_cons_of_neg (by simpa using this)]
      exact ih hn.2 h

theorem mem_of_find?_fst {l : List (Nat × Bytes)} {i : Nat} {e : Nat × Bytes} (h : l.find? (fun x => x.1 == i) = some e) :
    e ∈ l ∧ e.1 = i := by
  have := List.find?_some h
  exact ⟨List.mem_of_find?_eq_some h, by simpa using this⟩

theorem find?_fst_none {l : List (Nat × Bytes)} {i : Nat} (h : ∀ e ∈ l, e.1 ≠ i) : l.find? (fun x => x.1 == i) = none := by
  rw [List.find?_eq_none]
  intro e he
  simpa using h e he

theorem close_opn (P : Params) (F : FSt) : (F.close P).opn = none := by
  unfold FSt.close; split <;> simp_all

theorem close_of_opn_none (P : Params) (F : FSt) (h : F.opn = none) : F.close P = F := by
  unfold FSt.close; rw [h]

theorem fragData_close (P : Params) (F : FSt) (i : Nat) :
    (F.close P).fragData i = F.fragData i := by
  unfold FSt.close
  cases hfb : F.opn with
  | none => rfl
  | some fb =>
    simp only [FSt.fragData, openBytes, hfb]
    by_cases hi : fb.index = i
    · simp [hi]
    · simp [hi]

theorem mem_insertRef {eq : Chunk → Bool} {new c : Chunk} {l : List Chunk} (h : c ∈ insertRef eq new l) : c = new ∨ c ∈ l := by
  fun_induction insertRef eq new l with
  | case1 => exact .inl (List.mem_singleton.mp h)
  | case2 a l _ => exact (List.mem_cons.mp h).imp_right (List.mem_cons_of_mem _)
  | case3 a l _ ih =>
    rcases List.mem_cons.mp h with h | h
    · exact .inr (h ▸ List.mem_cons_self)
    · exact (ih h).imp_right (List.mem_cons_of_mem _)

theorem FInv.init (P : Params) (n : Nat) : FInv P n [] ({} : FSt) := by
  refine ⟨fun i h => (by simp at h), fun fb h => (by cases h), (by simp), fun e h => (by cases h), fun c h => (by cases h), rfl,
    fun b h => (by cases h), fun b h => (by cases h), fun e h => (by cases h), fun e h => (by cases h), rfl, rfl⟩

theorem FInv.mono {P : Params} {n m : Nat} {done : List Blk} {F : FSt} (h : FInv P n done F) (hm : n ≤ m) : FInv P m done F :=
  { h with effIds := fun e he => Nat.lt_of_lt_of_le (h.effIds e he) hm }

theorem bOpen_fb {b : Blk} (h : FBFlagFacts b.flags) (o : Bool) : bOpen o b = o := by
  simp [bOpen, isLast, isFirst, h.notLast, h.notFirst]

theorem seqs_snoc {l : List Blk} (h : ∀ i (hi : i < l.length), (l[i]).seq = i) (y : Blk) (hy : y.seq = l.length) :
    ∀ i (hi : i < (l ++ [y]).length), ((l ++ [y])[i]).seq = i := by
  intro i hi
  simp only [List.length_append, List.length_singleton] at hi
  by_cases hlt : i < l.length
  · rw [List.getElem_append_left hlt]; exact h i hlt
  · have : i = l.length := by omega
    subst this
    simpa using hy

theorem FInv.history {P : Params} {n : Nat} {done : List Blk} {F : FSt} (h : FInv P n done F) (x : Blk) :
    (∀ b ∈ F.stream, isFB b = false → ∃ x' ∈ done ++ [x], isFrag x' = false ∧ b = x'.withSeq b.seq) ∧
    (∀ e ∈ F.effs, (∃ i o, e.e = .fragLoc i o) ∨
      (∃ k m x', e.e = .sparse k m ∧ x' ∈ done ++ [x] ∧ isFrag x' = true ∧ x'.inode = some e.id ∧ x'.index = k)) := by
  refine ⟨fun b hb hbfb => ?_, fun e he => ?_⟩
  · obtain ⟨x', hx', h1, h2⟩ := h.datas b hb hbfb
    exact ⟨x', List.mem_append_left _ hx', h1, h2⟩
  · rcases h.effProv e he with h1 | ⟨k, m, x', h1, h2, h3⟩
    · exact Or.inl h1
    · exact Or.inr ⟨k, m, x', h1, List.mem_append_left _ h2, h3⟩

theorem fStep_data (P : Params) (F : FSt) (x : Blk) (h : isFrag x = false) :
    fStep P F x = { F with stream := F.stream ++ [x.withSeq F.stream.length] } := by
  have h' : hasFlag x.flags blkIsFragment = false := h
  unfold fStep; simp [h']

theorem fStep_frag (P : Params) (F : FSt) (x : Blk) (h : isFrag x = true) :
    fStep P F x =
      (if hasFlag x.flags blkIsSparse then { F with effs := F.effs ++ mkEff x.inode (.sparse x.index x.data.length) }
       else match F.lookup P x with
         | some c => { F with effs := F.effs ++ mkEff x.inode (.fragLoc c.index c.offset) }
         | none => F.store P x) := by
  have h' : hasFlag x.flags blkIsFragment = true := h
  unfold fStep; rw [if_pos h']
  split
  · rfl
  · cases F.lookup P x <;> rfl

/-- closing the open fragment block (at overflow time, or in `finish`) -/
theorem FInv.close {P : Params} {n : Nat} {done : List Blk} {F : FSt} (h : FInv P n done F)
    (ho : done.foldl fOpen false = false) : FInv P n done (F.close P) := by
  unfold FSt.close
  cases hfb : F.opn with
  | none => exact h
  | some fb =>
    obtain ⟨hraw, hidx, hpos, hle, hfresh⟩ := h.opn fb hfb
    have hne : fb.data ≠ [] := List.ne_nil_of_length_pos hpos
    have hw : FBWorked P (processBlock P (fb.withSeq F.stream.length)) fb.data := ⟨fb.withSeq F.stream.length, hraw, rfl, rfl⟩
    have hfacts := hw.facts hne
    have hisfb : isFB (processBlock P (fb.withSeq F.stream.length)) = true := hfacts.fb
    refine ⟨?_, fun fb' h' => (by cases h'), ?_, ?_, ?_, ?_, ?_, ?_, h.effIds, h.effProv, ?_, ?_⟩
    · exact seqs_snoc h.seqs _ (by rw [processBlock_seq]; rfl)
    · simp only [List.map_cons, List.nodup_cons]
      exact ⟨fun hm => by
        obtain ⟨e, he, hee⟩ := List.mem_map.mp hm
        exact hfresh e he hee, h.closedNodup⟩
    · intro e he
      rcases List.mem_cons.mp he with he | he
      · subst he; exact ⟨hidx, hpos, hle⟩
      · exact h.closedOK e he
    · intro c hc
      obtain ⟨blk, h1, h2, h3⟩ := h.chunks c hc
      refine ⟨blk, ?_, h2, h3⟩
      have := fragData_close P F c.index
      simp only [FSt.close, hfb] at this
      rw [this]; exact h1
    · simp only [List.filter_append, List.filter_cons, hisfb, if_true, List.filter_nil, List.map_append, List.map_cons, List.map_nil,
        List.reverse_cons, h.fbIdx, processBlock_index, Blk.withSeq_index]
    · refine List.forall_mem_snoc (fun b hb hbfb => ?_) (fun _ => ⟨fb.data, by rw [processBlock_index]; exact List.mem_cons_self, hw⟩)
      obtain ⟨d, hd1, hd2⟩ := h.fbs b hb hbfb
      exact ⟨d, List.mem_cons_of_mem _ hd1, hd2⟩
    · exact List.forall_mem_snoc h.datas (fun hbfb => by rw [hisfb] at hbfb; cases hbfb)
    · rw [sproto_append, h.proto, h.opened, ho]
      simp [sproto, hisfb]
    · rw [foldl_snoc, bOpen_fb hfacts, h.opened]

/-- a data block is taken back from the pool -/
theorem FInv.data {P : Params} {n : Nat} {done : List Blk} {F : FSt} (h : FInv P n done F) (x : Blk) (hx : hasFlag x.flags blkFragmentBlock = false)
    (hfr : isFrag x = false) (hp : (!isLast x || done.foldl fOpen false || isFirst x) = true) :
    FInv P n (done ++ [x]) (fStep P F x) := by
  rw [fStep_data P F x hfr]
  have hyfb : isFB (x.withSeq F.stream.length) = false := hx
  refine ⟨?_, h.opn, h.closedNodup, h.closedOK, h.chunks, ?_, ?_, ?_, h.effIds, ?_, ?_, ?_⟩
  · exact seqs_snoc h.seqs _ rfl
  · simp only [List.filter_append, List.filter_cons, hyfb, Bool.false_eq_true, if_false, List.filter_nil, List.append_nil, h.fbIdx]
  · exact List.forall_mem_snoc h.fbs (fun hbfb => by rw [hyfb] at hbfb; cases hbfb)
  · exact List.forall_mem_snoc (h.history x).1 (fun _ => ⟨x, List.mem_append_right _ List.mem_cons_self, hfr, rfl⟩)
  · exact (h.history x).2
  · rw [sproto_append, h.proto, h.opened]
    have e1 : isLast (x.withSeq F.stream.length) = isLast x := rfl
    have e2 : isFirst (x.withSeq F.stream.length) = isFirst x := rfl
    simp only [sproto, hyfb, Bool.false_eq_true, if_false, e1, e2, hp, Bool.and_self]
  · rw [foldl_snoc, foldl_snoc, h.opened]
    simp only [fOpen, hfr, Bool.false_eq_true, if_false]
    rfl

theorem FInv.moreDone {P : Params} {n : Nat} {done : List Blk} {F : FSt} (h : FInv P n done F) (x : Blk) (hfr : isFrag x = true) :
    FInv P n (done ++ [x]) F := by
  refine { h with datas := (h.history x).1, effProv := (h.history x).2, opened := ?_ }
  rw [foldl_snoc, h.opened]; simp [fOpen, hfr]

theorem mem_mkEff {i : Option Nat} {e : InoEff} {x : Eff} (h : x ∈ mkEff i e) : i = some x.id ∧ x.e = e := by
  cases i with
  | none => simp [mkEff] at h
  | some id => simp only [mkEff, List.mem_singleton] at h; subst h; exact ⟨rfl, rfl⟩

theorem mkEff_id_lt {i : Option Nat} {id n : Nat} (hid : i = some id) (hidn : id < n) (ie : InoEff) :
    ∀ e ∈ mkEff i ie, e.id < n := by
  intro e he
  obtain ⟨h1, _⟩ := mem_mkEff he
  rw [hid] at h1; cases h1; exact hidn

theorem FInv.addEffs {P : Params} {n : Nat} {done : List Blk} {F : FSt} (h : FInv P n done F) (new : List Eff)
    (h1 : ∀ e ∈ new, e.id < n)
    (h2 : ∀ e ∈ new, (∃ i o, e.e = .fragLoc i o) ∨
              (∃ k m x, e.e = .sparse k m ∧ x ∈ done ∧ isFrag x = true ∧ x.inode = some e.id ∧ x.index = k)) :
    FInv P n done { F with effs := F.effs ++ new } := by
  exact { h with effIds := List.forall_mem_append.mpr ⟨h.effIds, h1⟩, effProv := List.forall_mem_append.mpr ⟨h.effProv, h2⟩ }

theorem FInv.placeNew {P : Params} {n : Nat} {done : List Blk} {F : FSt} (h : FInv P n done F) (hop : F.opn = none)
    (x : Blk) (hne : x.data ≠ []) (hle : x.data.length ≤ P.B) :
    FInv P n done { F with ntbl := F.ntbl + 1,
                           opn := some { x with index := F.ntbl, flags := (x.flags &&& blkDontCompress) ||| blkFragmentBlock } } := by
  refine { h with opn := ?_, closedOK := ?_, chunks := ?_ }
  · intro fb hfb
    simp only [Option.some.injEq] at hfb
    subst hfb
    refine ⟨fbRaw_new x.flags, Nat.lt_succ_self _, List.length_pos_iff.mpr hne, hle, ?_⟩
    intro e he
    exact Nat.ne_of_lt (h.closedOK e he).1
  · intro e he
    obtain ⟨a, b, c⟩ := h.closedOK e he
    exact ⟨Nat.lt_succ_of_lt a, b, c⟩
  · intro c hc
    obtain ⟨blk, h1, h2, h3⟩ := h.chunks c hc
    refine ⟨blk, ?_, h2, h3⟩
    simp only [FSt.fragData, openBytes, hop] at h1 ⊢
    have hci : c.index < F.ntbl := by
      cases hf : F.closed.find? (fun e => e.1 == c.index) with
      | none => rw [hf] at h1; cases h1
      | some e =>
        obtain ⟨he1, he2⟩ := mem_of_find?_fst hf
        rw [← he2]; exact (h.closedOK e he1).1
    have : ¬ F.ntbl = c.index := by omega
    simp only [this, if_false]
    exact h1

theorem FInv.placeAppend {P : Params} {n : Nat} {done : List Blk} {F : FSt} (h : FInv P n done F) (fb : Blk) (hop : F.opn = some fb)
    (x : Blk) (hfit : fb.data.length + x.data.length ≤ P.B) :
    FInv P n done { F with opn := some { fb with data := fb.data ++ x.data, flags := fb.flags ||| (x.flags &&& blkDontCompress) } } := by
  obtain ⟨hraw, hidx, hpos, hle, hfresh⟩ := h.opn fb hop
  refine { h with opn := ?_, chunks := ?_ }
  · intro fb' hfb'
    simp only [Option.some.injEq] at hfb'
    subst hfb'
    exact ⟨fbRaw_add hraw x.flags, hidx, by simp; omega, by simpa using hfit, hfresh⟩
  · intro c hc
    obtain ⟨blk, h1, h2, h3⟩ := h.chunks c hc
    simp only [FSt.fragData, openBytes, hop] at h1 ⊢
    by_cases hi : fb.index = c.index
    · simp only [hi, if_true, Option.some.injEq] at h1 ⊢
      subst h1
      exact ⟨_, rfl, by simp; omega, h3⟩
    · simp only [hi, if_false] at h1 ⊢
      exact ⟨blk, h1, h2, h3⟩

/-- a table entry that lies inside its block (the body of `FInv.chunks`) -/
def ChunkOK (F : FSt) (c : Chunk) : Prop := ∃ blk, F.fragData c.index = some blk ∧ c.offset + c.size ≤ blk.length ∧ 0 < c.size

theorem FInv.insertChunk {P : Params} {n : Nat} {done : List Blk} {F : FSt} (h : FInv P n done F) (eq : Chunk → Bool) (new : Chunk)
    (hnew : ChunkOK F new) :
    FInv P n done { F with ht := insertRef eq new F.ht } := by
  refine { h with chunks := ?_ }
  intro c hc
  rcases mem_insertRef hc with hc | hc
  · subst hc; exact hnew
  · exact h.chunks c hc

theorem FInv.makeRoom {P : Params} {n : Nat} {done : List Blk} {F : FSt} (h : FInv P n done F)
    (ho : done.foldl fOpen false = false) (len : Nat) :
    FInv P n done (F.makeRoom P len) ∧ ∀ fb, (F.makeRoom P len).opn = some fb → fb.data.length + len ≤ P.B := by
  unfold FSt.makeRoom
  cases hop : F.opn with
  | none => exact ⟨h, fun fb hfb => by rw [hop] at hfb; cases hfb⟩
  | some fb =>
    simp only
    split
    · exact ⟨h.close ho, fun fb' hfb' => by simp [FSt.close, hop] at hfb'⟩
    · exact ⟨h, fun fb' hfb' => by rw [hop] at hfb'; cases hfb'; omega⟩

theorem FInv.place {P : Params} {n : Nat} {done : List Blk} {F : FSt} (h : FInv P n done F) (x : Blk) (hne : x.data ≠ [])
    (hle : x.data.length ≤ P.B) (hfit : ∀ fb, F.opn = some fb → fb.data.length + x.data.length ≤ P.B) :
    FInv P n done (F.place x).1 := by
  unfold FSt.place
  cases hop : F.opn with
  | none => exact h.placeNew hop x hne hle
  | some fb => exact h.placeAppend fb hop x (hfit fb hop)

theorem place_chunkOK (F : FSt) (x : Blk) (hne : x.data ≠ []) (hash : UInt32) (flags : Nat) :
    ChunkOK (F.place x).1 ⟨(F.place x).2.1, (F.place x).2.2, x.data.length, hash, flags⟩ := by
  unfold FSt.place
  cases hop : F.opn with
  | none => exact ⟨x.data, by simp [FSt.fragData, openBytes], by simp, List.length_pos_iff.mpr hne⟩
  | some fb => exact ⟨fb.data ++ x.data, by simp [FSt.fragData, openBytes], by simp, List.length_pos_iff.mpr hne⟩

theorem FInv.store {P : Params} {n : Nat} {done : List Blk} {F : FSt} (h : FInv P n done F) (x : Blk) (hx : ItemOK P.B n x)
    (hne : x.data ≠ []) (ho : done.foldl fOpen false = false) : FInv P n done (F.store P x) := by
  obtain ⟨id, hid, hidn⟩ := hx.ino
  obtain ⟨hcl, hfit⟩ := h.makeRoom ho x.data.length
  exact ((hcl.place x hne hx.size hfit).insertChunk _ _ (place_chunkOK _ x hne _ _)).addEffs _
    (mkEff_id_lt hid hidn _) (fun e he => Or.inl ⟨_, _, (mem_mkEff he).2⟩)

/-- a fragment is taken back from the pool -/
theorem FInv.frag {P : Params} {n : Nat} {done : List Blk} {F : FSt} (h : FInv P n done F) (x : Blk) (hx : ItemOK P.B n x)
    (hfr : isFrag x = true) (ho : done.foldl fOpen false = false) :
    FInv P n (done ++ [x]) (fStep P F x) := by
  have hfr' : hasFlag x.flags blkIsFragment = true := hfr
  have hne : x.data ≠ [] := hx.frag hfr'
  obtain ⟨id, hid, hidn⟩ := hx.ino
  have hmem : x ∈ done ++ [x] := List.mem_append_right _ List.mem_cons_self
  have hd := h.moreDone x hfr
  have ho' : (done ++ [x]).foldl fOpen false = false := by rw [foldl_snoc, ho]; simp [fOpen, hfr]
  rw [fStep_frag P F x hfr]
  split
  · -- hole
    exact hd.addEffs (mkEff x.inode (.sparse x.index x.data.length)) (mkEff_id_lt hid hidn _)
      (fun e he => by
        obtain ⟨h1, h2⟩ := mem_mkEff he
        exact Or.inr ⟨_, _, x, h2, hmem, hfr, h1, rfl⟩)
  · split
    · -- found in the table
      rename_i c _
      exact hd.addEffs (mkEff x.inode (.fragLoc c.index c.offset)) (mkEff_id_lt hid hidn _)
        (fun e he => Or.inl ⟨_, _, (mem_mkEff he).2⟩)
    · exact hd.store x hx hne ho'

end Sqfs.BlockProc
