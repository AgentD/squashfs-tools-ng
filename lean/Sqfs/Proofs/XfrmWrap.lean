/-
C15 — the backends' `process_data` loop (gzip.c / xz.c / bzip2.c): what one round does by answer of the library
(`wrapBody_idle/_bad/_good`, for both directions), and the compressing side: the loop turns a library stream with the
documented calling convention (`LibEncContract`) into a codec that meets `EncContract`.
-/
import Sqfs.Proofs.XfrmOStream
namespace Sqfs.Xfrm

/-- before the first library call (`ai = 0`, `ao = []`) the loop condition is that of the whole call: with room and work the loop runs -/
theorem loop_runs_at_start {inp inp' ao : Bytes} {ai room room' : Nat} {W : Prop} (hinp : inp' = inp.drop ai)
    (hao : ao.length + room' = room) (hai : ai = 0) (hao0 : ao = []) (hr : 0 < room) (hw : inp ≠ [] ∨ W) :
    (inp' ≠ [] ∨ W) ∧ 0 < room' := by
  subst hai hao0 hinp hao
  exact ⟨by simpa using hw, by simpa using hr⟩

/-- `p0`, `p`, `p'`: the measure when the `process_data` call began, before and after its present library call -/
theorem call_progress {ai c p0 p p' : Nat} (hloc : ai = 0 → 0 < c ∨ p' < p) (hold : (ai = 0 ∧ p = p0) ∨ 0 < ai ∨ p < p0) :
    0 < ai + c ∨ p' < p0 := by
  omega

def GoodRet (b : Backend) (r : LibRet) : Prop :=
  r = LibRet.ok ∨ r = LibRet.streamEnd ∨ (r = LibRet.bufError ∧ b ≠ Backend.bzip2)

theorem GoodRet.of_not_end {b : Backend} {r : LibRet} (h : r = LibRet.ok ∨ (r = LibRet.bufError ∧ b ≠ Backend.bzip2)) : GoodRet b r :=
  h.imp_right Or.inr

theorem GoodRet.ok {b : Backend} {r : LibRet} (h : GoodRet b r) (hE : r ≠ LibRet.streamEnd) (hB : r ≠ LibRet.bufError) :
    r = LibRet.ok :=
  h.resolve_right fun h => h.elim hE fun h => hB h.1

section Body
variable {τ : Type} (L : Lib τ) (b : Backend) (compress : Bool) (fl : Flush) (st : τ) (inp : Bytes) (room ai : Nat) (ao : Bytes)

theorem wrapBody_idle (h : ¬ ((inp ≠ [] ∨ fl = Flush.full) ∧ 0 < room)) :
    wrapBody L b compress fl (st, inp, room, ai, ao) = LoopStep.done ⟨st, ai, ao, Res.ok⟩ := by
  have : ((decide (0 < inp.length) || decide (fl = Flush.full)) && decide (0 < room)) = false := by
    simpa [List.length_pos_iff, ← Bool.not_eq_true] using h
  simp only [wrapBody, this, Bool.false_eq_true, if_false]

theorem wrapBody_cond {inp : Bytes} {fl : Flush} {room : Nat} (hw : inp ≠ [] ∨ fl = Flush.full) (hr : 0 < room) :
    ((decide (0 < inp.length) || decide (fl = Flush.full)) && decide (0 < room)) = true := by
  simpa [List.length_pos_iff] using ⟨hw, hr⟩

theorem wrapBody_bad (hw : inp ≠ [] ∨ fl = Flush.full) (hr : 0 < room) : ∀ r, r = L.call st inp room fl →
    r.ret = LibRet.dataError ∨ r.ret = LibRet.streamError →
    wrapBody L b compress fl (st, inp, room, ai, ao) = LoopStep.done ⟨r.st, ai, ao, Res.error⟩ := by
  rintro r rfl he
  have hnobz : ¬ (b = Backend.bzip2 ∧ (L.call st inp room fl).ret = LibRet.bufError) := by
    rintro ⟨_, h2⟩
    rcases he with h | h <;> rw [h] at h2 <;> cases h2
  have herr : isLibError b (L.call st inp room fl).ret = true := by
    rcases he with h | h <;> rw [h] <;> cases b <;> rfl
  simp only [wrapBody, wrapBody_cond hw hr, if_true, hnobz, if_false, herr]

theorem wrapBody_good (hw : inp ≠ [] ∨ fl = Flush.full) (hr : 0 < room) : ∀ r, r = L.call st inp room fl → GoodRet b r.ret →
    wrapBody L b compress fl (st, inp, room, ai, ao) =
      if r.ret = LibRet.streamEnd then LoopStep.done ⟨L.reset r.st, ai + r.consumed, ao ++ r.out, Res.streamEnd⟩
      else if !compress && decide ((inp.drop r.consumed).length = 0) && decide (r.out.length = 0) && decide (fl = Flush.full) then
        if 0 < L.totalIn r.st then LoopStep.done ⟨r.st, ai + r.consumed, ao ++ r.out, Res.error⟩
        else LoopStep.done ⟨r.st, ai + r.consumed, ao ++ r.out, Res.streamEnd⟩
      else if r.ret = LibRet.bufError then LoopStep.done ⟨r.st, ai + r.consumed, ao ++ r.out, Res.bufferFull⟩
      else LoopStep.next (r.st, inp.drop r.consumed, room - r.out.length, ai + r.consumed, ao ++ r.out) := by
  rintro r rfl hret
  have hnoerr : isLibError b (L.call st inp room fl).ret = false := by
    rcases hret with h | h | ⟨h, _⟩ <;> rw [h] <;> cases b <;> rfl
  have hnobz : ¬ (b = Backend.bzip2 ∧ (L.call st inp room fl).ret = LibRet.bufError) := by
    rintro ⟨h1, h2⟩
    rcases hret with h | h | ⟨_, h⟩
    · rw [h] at h2; cases h2
    · rw [h] at h2; cases h2
    · exact h h1
  simp only [wrapBody, wrapBody_cond hw hr, if_true, hnobz, if_false, hnoerr, Bool.false_eq_true]

end Body

section EncWrap
variable {τ : Type} {L : Lib τ} {b : Backend} {Dec : Bytes → Option Bytes}

/-- the `FINISH` flag across the rounds of one call: the caller's is `fin`; after `ai` bytes of `inp` have gone to the library
under mode `fl` the library's is `f` -/
def FlagInv (fin : Bool) (fl : Flush) (inp : Bytes) (ai : Nat) (f : Bool) : Prop :=
  (f = true → fin = true ∨ (fl = Flush.full ∧ ai = inp.length)) ∧ (fin = true → f = true)

theorem FlagInv.proto {fin f : Bool} {fl : Flush} {inp inp' : Bytes} {ai : Nat} (h : FlagInv fin fl inp ai f)
    (hP : Proto fin fl inp) (hai : ai + inp'.length = inp.length) : Proto f fl inp' := by
  refine ⟨hP.1, fun hf => ?_⟩
  rcases h.1 hf with h' | ⟨h1, h2⟩
  · obtain ⟨h1, h2⟩ := hP.2 h'
    exact ⟨h1, List.eq_nil_of_length_eq_zero (by rw [h2, List.length_nil] at hai; omega)⟩
  · exact ⟨h1, List.eq_nil_of_length_eq_zero (by omega)⟩

theorem FlagInv.step {fin f : Bool} {fl : Flush} {inp inp' : Bytes} {ai : Nat} (h : FlagInv fin fl inp ai f)
    (hai : ai + inp'.length = inp.length) {c : Nat} (hc : c ≤ inp'.length) :
    FlagInv fin fl inp (ai + c) (f || (decide (fl = Flush.full) && decide (c = inp'.length))) := by
  refine ⟨fun h' => ?_, fun h' => by simp [h.2 h']⟩
  simp only [Bool.or_eq_true, Bool.and_eq_true, decide_eq_true_eq] at h'
  rcases h' with h' | ⟨h1, h2⟩
  · rcases h.1 h' with h'' | ⟨h1, h2⟩
    · exact Or.inl h''
    · exact Or.inr ⟨h1, by omega⟩
  · exact Or.inr ⟨h1, by omega⟩

/-- a state good under the library's flag is good under the flag the wrapper owes its caller -/
theorem FlagInv.fix {R : Bool → Prop} (mono : R false → R true) {fin f : Bool} {fl : Flush} {inp : Bytes} {ai : Nat}
    (h : FlagInv fin fl inp ai f) (hR : R f) : R (fin || (decide (fl = Flush.full) && decide (ai = inp.length))) := by
  cases f with
  | false =>
    cases hF : (fin || (decide (fl = Flush.full) && decide (ai = inp.length))) with
    | false => exact hR
    | true => exact mono hR
  | true =>
    have : (fin || (decide (fl = Flush.full) && decide (ai = inp.length))) = true := by
      rcases h.1 rfl with h' | ⟨h1, h2⟩ <;> simp [*]
    rw [this]; exact hR

theorem wrapProcess_enc_spec (hL : LibEncContract L b Dec) {s : τ} {x y : Bytes} {fin : Bool} (inp : Bytes) (room : Nat)
    (fl : Flush) (hR : hL.R s x y fin) (hP : Proto fin fl inp) :
    ∃ r, wrapProcess L b true s inp room fl = some r ∧ EncPost hL.R hL.pend Dec s x y fin inp room fl r := by
  let hyp : Prop := inp ≠ [] ∨ (fl = Flush.full ∧ x ≠ [])
  refine iter_buf (wrapBody L b true fl) inp room
    (fun st ai ao => ∃ f, hL.R st (x ++ inp.take ai) (y ++ ao) f ∧ FlagInv fin fl inp ai f ∧
      (hyp → (ai = 0 ∧ ao = [] ∧ hL.pend st = hL.pend s) ∨ 0 < ai ∨ hL.pend st < hL.pend s))
    (EncPost hL.R hL.pend Dec s x y fin inp room fl) ?_ ⟨fin, by simpa using hR, ⟨Or.inl, id⟩, fun _ => Or.inl ⟨rfl, rfl, rfl⟩⟩
  rintro st inp' room' ai ao hinp hai hao ⟨f, hRf, hf, hprog⟩
  have hPf := hf.proto hP hai
  by_cases hcond : (inp' ≠ [] ∨ fl = Flush.full) ∧ 0 < room'
  · obtain ⟨hwork, hr0⟩ := hcond
    have hret := hL.ret_ok inp' room' fl hRf hPf hr0
    have hcl := hL.consumed_le inp' room' fl hRf hPf hr0
    have hol := hL.out_le inp' room' fl hRf hPf hr0
    have hfinish := hL.finish inp' room' fl hRf hPf hr0
    have hkeeps := hL.keep inp' room' fl hRf hPf hr0
    have hprogs := hL.progress inp' room' fl hRf hPf hr0
    have hbytes := hL.bytes inp' room' fl hRf hPf hr0 hwork
    rw [wrapBody_good L b true fl st inp' room' ai ao hwork hr0 _ rfl hret]
    generalize L.call st inp' room' fl = r at *
    have htake : x ++ inp.take ai ++ inp'.take r.consumed = x ++ inp.take (ai + r.consumed) := by
      rw [List.append_assoc, hinp, ← List.take_add]
    have hci : ai + r.consumed ≤ inp.length := by omega
    have hor : (ao ++ r.out).length ≤ room := by rw [List.length_append]; omega
    -- progress of the whole call, once this library call is not the end of the member
    have hprog' : r.ret ≠ LibRet.streamEnd → hyp → 0 < ai + r.consumed ∨ hL.pend r.st < hL.pend s := fun hne hh =>
      call_progress (fun hai0 => hprogs (by rw [hinp, hai0]; simpa using hh) hne)
        ((hprog hh).imp_left fun h => ⟨h.1, h.2.2⟩)
    simp only [Bool.not_true, Bool.false_and, Bool.false_eq_true, if_false]
    by_cases hend : r.ret = LibRet.streamEnd
    · -- the library ends the member
      rw [if_pos hend]
      obtain ⟨h1, h2, h3, h4⟩ := hfinish hend
      refine ⟨by simp, hci, hor, fun h => absurd rfl h,
        fun _ => ⟨h1, by simp only; omega, h3, fun hne => ?_⟩, fun _ _ h => absurd rfl h⟩
      have e : x ++ inp.take ai ++ inp' = x ++ inp := by rw [List.append_assoc, hinp, List.take_append_drop]
      rw [e] at h4
      simpa [List.append_assoc] using h4 hne
    · rw [if_neg hend]
      have hkeep := hkeeps hend
      rw [htake, List.append_assoc] at hkeep
      have hf' := hf.step hai hcl
      by_cases hbuf : r.ret = LibRet.bufError
      · -- no progress possible: `BUFFER_FULL`
        rw [if_pos hbuf]
        exact ⟨by simp, hci, hor, fun _ => hf'.fix (R := hL.R _ _ _) hL.mono hkeep, fun h => (by cases h),
          fun _ hh _ => hprog' hend hh⟩
      · rw [if_neg hbuf]
        refine ⟨_, _, _, rfl, hcl, hol, hbytes (GoodRet.ok hret hend hbuf), _, hkeep, hf', fun hh => ?_⟩
        rcases hprog' hend hh with h | h
        · exact Or.inr (Or.inl h)
        · exact Or.inr (Or.inr h)
  · -- the loop condition is false: leave with XFRM_STREAM_OK
    rw [wrapBody_idle L b true fl st inp' room' ai ao hcond]
    refine ⟨by simp, by simp only; omega, by simp only; omega, fun _ => hf.fix (R := hL.R _ _ _) hL.mono hRf, fun h => (by cases h),
      fun hr0 hh _ => ?_⟩
    rcases hprog hh with ⟨h2, h3, _⟩ | h | h
    · exact (hcond (loop_runs_at_start hinp hao h2 h3 hr0 (hh.imp_right And.left))).elim
    · exact Or.inl h
    · exact Or.inr h

theorem wrapCodec_step {compress : Bool} {s : τ} {inp : Bytes} {room : Nat} {fl : Flush} {r : StepOut τ}
    (h : wrapProcess L b compress s inp room fl = some r) : (wrapCodec L b compress).step s inp room fl = r := by
  simp only [wrapCodec, h]

def wrapEncContract (hL : LibEncContract L b Dec) : EncContract (wrapCodec L b true) Dec :=
  .ofPost hL.R hL.pend hL.init fun inp room fl hR hP => by
    obtain ⟨r, hr, hq⟩ := wrapProcess_enc_spec hL inp room fl hR hP
    rwa [wrapCodec_step hr]

end EncWrap

end Sqfs.Xfrm
