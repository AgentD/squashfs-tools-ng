/-
C15 — prefixes of a byte stream (`IsPre`, `Sqfs/Spec/XfrmContract.lean`): what the stream proofs and the toy engines both use.
-/
import Sqfs.Spec.XfrmContract
namespace Sqfs.Xfrm

theorem IsPre.refl (a : Bytes) : IsPre a a := ⟨[], by simp⟩
theorem IsPre.nil (a : Bytes) : IsPre [] a := ⟨a, rfl⟩
theorem IsPre.take (a : Bytes) (n : Nat) : IsPre (a.take n) a := ⟨a.drop n, (List.take_append_drop n a).symm⟩
theorem IsPre.append_right {a b : Bytes} (c : Bytes) (h : IsPre a b) : IsPre a (b ++ c) := by
  obtain ⟨t, rfl⟩ := h; exact ⟨t ++ c, by simp⟩
theorem IsPre.length_le {a b : Bytes} (h : IsPre a b) : a.length ≤ b.length := by
  obtain ⟨t, rfl⟩ := h; simp
theorem IsPre.trans {a b c : Bytes} (h1 : IsPre a b) (h2 : IsPre b c) : IsPre a c := by
  obtain ⟨t, rfl⟩ := h1; obtain ⟨t', rfl⟩ := h2; exact ⟨t ++ t', by simp⟩
theorem IsPre.append_take {v q x : Bytes} (m : Nat) (h : IsPre (v ++ q) x) : IsPre (v ++ q.take m) x :=
  IsPre.trans ⟨q.drop m, by rw [List.append_assoc, List.take_append_drop]⟩ h

theorem IsPre.append_cases {c w t : Bytes} (h : IsPre c (w ++ t)) : (∃ w2, w2 ≠ [] ∧ w = c ++ w2) ∨ ∃ r, c = w ++ r := by
  obtain ⟨z, hz⟩ := h
  rcases List.append_eq_append_iff.1 hz with ⟨r, hr, _⟩ | ⟨w2, hw, _⟩
  · exact Or.inr ⟨r, hr⟩
  · by_cases h0 : w2 = []
    · exact Or.inr ⟨[], by simp [hw, h0]⟩
    · exact Or.inl ⟨w2, h0, hw⟩

theorem IsPre.drop {a b : Bytes} (n : Nat) (h : IsPre a b) : IsPre (a.drop n) (b.drop n) := by
  obtain ⟨t, rfl⟩ := h
  by_cases hn : n ≤ a.length
  · exact ⟨t, by rw [List.drop_append_of_le_length hn]⟩
  · have h1 : a.drop n = [] := List.drop_of_length_le (by omega)
    rw [h1]; exact IsPre.nil _

theorem IsPre.append_left (a b : Bytes) : IsPre a (a ++ b) := ⟨b, rfl⟩

theorem IsPre.take_eq {a b t : Bytes} {n : Nat} (h : IsPre a (b ++ t)) (ha : n ≤ a.length) (hb : n ≤ b.length) :
    a.take n = b.take n := by
  obtain ⟨z, hz⟩ := h
  have := congrArg (List.take n) hz
  rw [List.take_append_of_le_length hb, List.take_append_of_le_length ha] at this
  exact this.symm

theorem take_ne_nil {q : Bytes} {m : Nat} (hm : 0 < m) (hq : q ≠ []) : q.take m ≠ [] := by
  intro h
  rcases List.take_eq_nil_iff.1 h with h | h
  · omega
  · exact hq h

theorem IsPre.drop_eq {v o x : Bytes} (h : IsPre (v ++ o) x) :
    x.drop v.length = o ++ x.drop (v ++ o).length := by
  obtain ⟨z, rfl⟩ := h
  simp [List.append_assoc]

end Sqfs.Xfrm
