/-
C01 — the contract `RefOk` between the kv writer's `get_position` and the kv reader's `seek` is met by the real
reference arithmetic: by `rawRef`/`rawPos` (metadata never compressed) and by `refOfPos` for the blocks of any finished
meta writer run (any codec).
-/
import Sqfs.Proofs.EncXattr
import Sqfs.Proofs.EncRaw
import Sqfs.Proofs.EncMeta
namespace Sqfs.Enc
open Sqfs.MetaWriter (Block Codec)

theorem refOk_raw (bound : Nat) (hb : bound < 2 ^ 47) : RefOk rawRef rawPos bound := by
  refine ⟨fun p _ => rawPos_rawRef p, fun p _ => ?_, fun p hp => ?_⟩
  · rw [rawRef_eq, packed_mod (mod_8192_lt_65536 p)]; exact Nat.mod_lt p (by decide)
  · rw [rawRef_eq]
    -- below 2⁴⁷ the block start `p / 8192 * 8194` stays below 2⁴⁸
    exact packed_lt (n := 48) (by omega) (mod_8192_lt_65536 p)

/-- the packed reference the writer reports at stream position `p` -/
def refOfBlocks (blocks : List Block) (p : Nat) : Nat := packRef (refOfPos blocks p)

/-- where a seek to `ref` lands: the stream position whose reference it is (`meta_ref_roundtrip`: seeking to
`refOfPos blocks p` and reading delivers the stream from `p` on) -/
def posOfBlocks (blocks : List Block) (total : Nat) (ref : Nat) : Option Nat :=
  (List.range (total + 1)).find? (fun p => refOfBlocks blocks p == ref)

theorem packRef_eq (b o : Nat) (ho : o < 65536) : packRef (b, o) = b * 65536 + o := by
  unfold packRef
  simp only
  rw [← Nat.shiftLeft_add_eq_or_of_lt (by simpa using ho), Nat.shiftLeft_eq]

/-- block starts increase strictly, so the packed reference is the reference of no other position up to the stream's
length, and the search `posOfBlocks` finds `p` -/
theorem refOk_blocks (cmp : Codec) (blocks : List Block) (hok : BlocksOk cmp blocks)
    (hsz : startOf blocks blocks.length < 2 ^ 48) :
    RefOk (refOfBlocks blocks) (posOfBlocks blocks (rawOf blocks).length) (rawOf blocks).length := by
  have hform : ∀ p, refOfBlocks blocks p = startOf blocks (p / 8192) * 65536 + p % 8192 := fun p =>
    packRef_eq _ _ (mod_8192_lt_65536 p)
  have hkle : ∀ p, p ≤ (rawOf blocks).length → p / 8192 ≤ blocks.length := fun p hp =>
    Nat.div_le_of_le_mul (Nat.le_trans hp (Nat.mul_comm _ _ ▸ rawOf_length_le cmp blocks hok))
  have hinj : ∀ p q, p ≤ (rawOf blocks).length → q ≤ (rawOf blocks).length → refOfBlocks blocks p = refOfBlocks blocks q → p = q := by
    intro p q hp hq he
    rw [hform, hform] at he
    obtain ⟨h1, h2⟩ := packed_inj (mod_8192_lt_65536 p) (mod_8192_lt_65536 q) he
    have h3 : p / 8192 = q / 8192 := by
      rcases Nat.lt_trichotomy (p / 8192) (q / 8192) with h | h | h
      · exact absurd h1 (Nat.ne_of_lt (startOf_strictMono blocks _ _ h (hkle q hq)))
      · exact h
      · exact absurd h1.symm (Nat.ne_of_lt (startOf_strictMono blocks _ _ h (hkle p hp)))
    rw [← Nat.div_add_mod p 8192, ← Nat.div_add_mod q 8192, h2, h3]
  refine ⟨?_, fun p _ => ?_, fun p hp => ?_⟩
  · intro p hp
    refine List.find?_range_eq_some.2 ⟨by simp, List.mem_range.2 (Nat.lt_succ_of_le hp), fun q hq => ?_⟩
    simp only [Bool.not_eq_true', beq_eq_false_iff_ne, ne_eq]
    exact fun he => Nat.ne_of_lt hq (hinj q p (Nat.le_trans (Nat.le_of_lt hq) hp) hp he)
  · rw [hform, packed_mod (mod_8192_lt_65536 p)]; exact Nat.mod_lt p (by decide)
  · rw [hform]
    refine packed_lt (n := 48) (Nat.lt_of_le_of_lt ?_ hsz) (mod_8192_lt_65536 p)
    rcases Nat.lt_or_ge (p / 8192) blocks.length with h | h
    · exact Nat.le_of_lt (startOf_strictMono blocks _ _ h (Nat.le_refl _))
    · rw [Nat.le_antisymm (hkle p hp) h]; exact Nat.le_refl _

end Sqfs.Enc
