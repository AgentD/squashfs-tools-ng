/-
C02, environment clause: the order of a directory's children is fixed by the bytes of the names.  `insert_sorted` (fstree.c)
compares with `strcmp` — `Sqfs.FsTree.nameLt`, lexicographic on unsigned bytes, a strict total order
(`nameLt_irrefl/trans/total`, Proofs/FsTree.lean) — so the list it builds is *the* strictly sorted arrangement: there is no
second one a collation order could prefer.
-/
import Sqfs.Props.C11
namespace Sqfs.FsTree

theorem foldl_insertSorted_spec (nodes : List TNode) :
    ∀ acc : List TNode, SortedNames (acc.map TNode.name) → ((nodes ++ acc).map TNode.name).Nodup →
      SortedNames ((nodes.foldl (fun acc n => insertSorted n acc) acc).map TNode.name) ∧
      (nodes.foldl (fun acc n => insertSorted n acc) acc).Perm (nodes ++ acc) := by
  induction nodes with
  | nil => intro acc hs _; exact ⟨hs, List.Perm.refl _⟩
  | cons n ns ih =>
    intro acc hs hnd
    simp only [List.foldl_cons]
    have hnd' : (n.name :: ((ns ++ acc).map TNode.name)).Nodup := by simpa using hnd
    have hnew : ∀ c ∈ acc, c.name ≠ n.name := by
      intro c hc he
      have := (List.nodup_cons.mp hnd').1
      apply this
      rw [← he]
      exact List.mem_map_of_mem (List.mem_append_right _ hc)
    obtain ⟨hs1, hp1⟩ := Sqfs.C11.insertSorted_sorted n acc hs hnew
    have hperm : (ns ++ insertSorted n acc).Perm (n :: (ns ++ acc)) :=
      (List.Perm.append_left ns hp1).trans (List.perm_middle)
    have hnd1 : ((ns ++ insertSorted n acc).map TNode.name).Nodup :=
      ((hperm.map TNode.name).nodup_iff).mpr (by simpa using hnd')
    obtain ⟨h1, h2⟩ := ih (insertSorted n acc) hs1 hnd1
    exact ⟨h1, h2.trans (hperm.trans (by simp))⟩

end Sqfs.FsTree
