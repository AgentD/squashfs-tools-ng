/-
The flags of a fragment block: `SQFS_BLK_FRAGMENT_BLOCK`, with `SQFS_BLK_DONT_COMPRESS` or without, nothing else; a new block starts
with them and a tail that joins it keeps them.  The fragment model (C08) and the block processor (C02) both need this.
-/
import Sqfs.Generated.Consts
namespace Sqfs.FragDedup
open Sqfs.Consts

def FlagOk (f : Nat) : Prop := f = blkFragmentBlock ∨ f = blkFragmentBlock ||| blkDontCompress

theorem dc_cases (flags : Nat) : flags &&& blkDontCompress = 0 ∨ flags &&& blkDontCompress = 1 := by
  -- the generated constant `blkDontCompress` (`SQFS_BLK_DONT_COMPRESS`) is 1; this is the step that depends on it
  have : flags &&& blkDontCompress = flags % 2 := Nat.and_one_is_mod flags
  rw [this]
  exact Nat.mod_two_eq_zero_or_one flags

theorem FlagOk_or (f flags : Nat) (h : FlagOk f) : FlagOk (f ||| (flags &&& blkDontCompress)) := by
  rcases dc_cases flags with h2 | h2 <;> rw [h2] <;> rcases h with h | h <;> rw [h]
  · left; decide
  · right; decide
  · right; decide
  · right; decide

theorem FlagOk_new (flags : Nat) : FlagOk (blkFragmentBlock ||| (flags &&& blkDontCompress)) :=
  FlagOk_or _ flags (Or.inl rfl)

end Sqfs.FragDedup
