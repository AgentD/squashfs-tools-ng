/-
Helper lemmas for the fragment half of C08.

Invariant (`Inv`): every fragment block holds its (ghost) uncompressed `data` in whichever place it currently
lives — for a written block, un-compressing what is on disk gives `data` back (codec round trip); only the last
block can be open; the one-entry cache holds the data of a block that is on disk; every table entry points
inside its block.  Consequently the bytes `chunk_info_equals` compares are the same whether they come from the
in-flight copy, the open block, the cache or the disk (`it_spec`).

The fragment table is read through `key`: what a lookup finds through an entry (the bytes it points at, its checksum,
its `DONT_COMPRESS` flag); `chunk_info_equals` answers yes exactly for the entry whose key is the one asked for
(`Match_iff_key`), and a key does not change when blocks grow (`key_ext`).  On the list `keys` of a state,
`hash_table_insert` adds a key if it is absent and changes nothing otherwise (`insert_spec`); so the keys stay without
repetition (`Uniq`) and every fragment stored stays among them (`SeenInv`).

What a step and a run achieve (`processFragment_spec`, `run_spec`) is stated with `Valid` (a location holds given bytes), `Ext`
(blocks are only added and only grow at the end, so what is valid stays valid) and `ResAll` (every answer of a run is right).
-/
import Sqfs.Spec.FragDedup
import Sqfs.Proofs.Slice
import Sqfs.Proofs.ListFacts
namespace Sqfs.FragDedup
open Sqfs.Consts

instance : (e : Ev) → Decidable e.ok
  | .frag d _ => inferInstanceAs (Decidable (d ≠ []))
  | .written _ => inferInstanceAs (Decidable True)
  | .finish => inferInstanceAs (Decidable True)

instance (evs : List Ev) : Decidable (evsOk evs) := inferInstanceAs (Decidable (∀ e ∈ evs, e.ok))

theorem allZero_append (a b : Bytes) : allZero (a ++ b) = (allZero a && allZero b) := by
  simp [allZero, List.all_append]

/-- `b` as block `i` of the `n` blocks of a state -/
def BlockOk (codec : Codec) (n i : Nat) (b : FragBlock) : Prop :=
  b.data ≠ [] ∧ (b.place = .opened → i + 1 = n) ∧
  (∀ s, b.place = .written s true → codec.unc s = some b.data) ∧
  (∀ s, b.place = .written s false → s = b.data)

section BlockOk
variable {codec : Codec} {n i : Nat} {b : FragBlock}

theorem BlockOk.ne_nil (h : BlockOk codec n i b) : b.data ≠ [] := h.1
theorem BlockOk.last (h : BlockOk codec n i b) (hp : b.place = .opened) : i + 1 = n := h.2.1 hp
theorem BlockOk.unc (h : BlockOk codec n i b) {s : Bytes} (hp : b.place = .written s true) : codec.unc s = some b.data :=
  h.2.2.1 s hp
theorem BlockOk.raw (h : BlockOk codec n i b) {s : Bytes} (hp : b.place = .written s false) : s = b.data := h.2.2.2 s hp

end BlockOk

def CacheOk (blocks : List FragBlock) (cache : Option (Nat × Bytes)) : Prop :=
  ∀ k d, cache = some (k, d) → ∃ b, blocks[k]? = some b ∧ d = b.data ∧ b.place ≠ .opened ∧ b.place ≠ .inFlight

def ChunkOk (blocks : List FragBlock) (c : Chunk) : Prop :=
  ∃ b, blocks[c.index]? = some b ∧ 0 < c.size ∧ c.offset + c.size ≤ b.data.length

structure Inv (codec : Codec) (st : State) : Prop where
  blocks : ∀ i b, st.blocks[i]? = some b → BlockOk codec st.blocks.length i b
  cache  : CacheOk st.blocks st.cache
  chunks : ∀ c ∈ st.table, ChunkOk st.blocks c

theorem Inv_init (codec : Codec) : Inv codec {} :=
  ⟨fun i b h => by simp at h, fun k d h => by simp at h, fun c h => by simp at h⟩

/-- table entry `c` holds the bytes `d` under the key (`|d|`, checksum `hd`, `DONT_COMPRESS` flag `kf`) -/
def Match (st : State) (c : Chunk) (d : Bytes) (hd : UInt32) (kf : Nat) : Prop :=
  c.size = d.length ∧ c.hash = hd ∧ c.flags = kf ∧ ∃ b, st.blocks[c.index]? = some b ∧ slice b.data c.offset c.size = d

theorem it_spec (codec : Codec) (st : State) (hinv : Inv codec st) (idx : Nat) (b : FragBlock)
    (hb : st.blocks[idx]? = some b) :
    ∃ cache', fragBytesFor codec st idx = .ok (b.data, cache') ∧ CacheOk st.blocks cache' := by
  have hok := hinv.blocks idx b hb
  unfold fragBytesFor
  rw [hb]
  obtain ⟨data, place, flags⟩ := b
  have hload : ∀ s cmp, place = .written s cmp →
      loadFragBlock.load codec st idx = .ok (data, some (idx, data)) := by
    intro s cmp hp
    subst hp
    unfold loadFragBlock.load
    rw [hb]
    cases cmp with
    | true =>
      simp only []
      rw [hok.unc rfl]
      have : data ≠ [] := hok.ne_nil
      simp [this]
    | false =>
      simp only []
      rw [hok.raw rfl]
  have hnew : ∀ s cmp, place = .written s cmp → CacheOk st.blocks (some (idx, data)) := by
    intro s cmp hp k d hkd
    simp only [Option.some.injEq, Prod.mk.injEq] at hkd
    obtain ⟨rfl, rfl⟩ := hkd
    exact ⟨_, hb, rfl, by simp [hp], by simp [hp]⟩
  cases place with
  | opened => exact ⟨st.cache, rfl, hinv.cache⟩
  | inFlight => exact ⟨st.cache, rfl, hinv.cache⟩
  | written s cmp =>
    simp only []
    unfold loadFragBlock
    cases hc : st.cache with
    | none =>
      simp only []
      exact ⟨_, hload s cmp rfl, hnew s cmp rfl⟩
    | some p =>
      obtain ⟨ci, cd⟩ := p
      simp only []
      by_cases hci : ci = idx
      · rw [if_pos hci]
        obtain ⟨b', hb', hd', _, _⟩ := hinv.cache ci cd hc
        rw [hci, hb] at hb'
        cases hb'
        refine ⟨some (ci, cd), by rw [hd'], ?_⟩
        rw [← hc]; exact hinv.cache
      · rw [if_neg hci]
        exact ⟨_, hload s cmp rfl, hnew s cmp rfl⟩

theorem chunkEquals_spec (codec : Codec) (st : State) (hinv : Inv codec st) (d : Bytes) (hd : UInt32) (kf : Nat)
    (c : Chunk) (hc : ChunkOk st.blocks c) :
    ∃ r cache', chunkEquals codec true st d hd kf c = .ok (r, cache') ∧ (r = true ↔ Match st c d hd kf) ∧
      CacheOk st.blocks cache' := by
  obtain ⟨b, hb, hpos, hle⟩ := hc
  unfold chunkEquals
  -- the three fields of the key, as the code tests them
  cases hg : (c.size != d.length || c.hash != hd || c.flags != kf) with
  | false =>
    simp only [Bool.or_eq_false_iff, bne_eq_false_iff_eq] at hg
    obtain ⟨⟨hs, hh⟩, hf⟩ := hg
    simp only [Bool.false_eq_true, if_false, Bool.not_true]
    obtain ⟨cache', hit, hco⟩ := it_spec codec st hinv c.index b hb
    rw [hit]
    simp only []
    have h2 : (decide (c.offset ≥ b.data.length) || decide (b.data.length - c.offset < c.size)) = false := by
      simp; omega
    rw [h2]
    simp only [Bool.false_eq_true, if_false]
    refine ⟨_, cache', rfl, ?_, hco⟩
    rw [beq_iff_eq]
    constructor
    · intro h; exact ⟨hs, hh, hf, b, hb, h⟩
    · rintro ⟨_, _, _, b', hb', h⟩
      rw [hb] at hb'; cases hb'; exact h
  | true =>
    simp only [if_true]
    refine ⟨false, st.cache, rfl, ⟨fun h => (by cases h), ?_⟩, hinv.cache⟩
    rintro ⟨hs, hh, hf, _⟩
    simp [hs, hh, hf] at hg

theorem Inv_setCache {codec st} (hinv : Inv codec st) (cache' : Option (Nat × Bytes))
    (hc : CacheOk st.blocks cache') : Inv codec { st with cache := cache' } :=
  ⟨hinv.blocks, hc, hinv.chunks⟩

theorem Match_congr {st st' : State} (h : st'.blocks = st.blocks) {c : Chunk} {d : Bytes} {hd : UInt32} {kf : Nat} :
    Match st' c d hd kf ↔ Match st c d hd kf := by
  unfold Match; rw [h]

theorem Match_setCache (st : State) (cache' : Option (Nat × Bytes)) (c d hd kf) :
    Match { st with cache := cache' } c d hd kf ↔ Match st c d hd kf := Iff.rfl

theorem search_spec (codec : Codec) (d : Bytes) (hd : UInt32) (kf : Nat) : ∀ (l : List Chunk) (st : State), Inv codec st →
    (∀ c ∈ l, ChunkOk st.blocks c) →
    ∃ r cache', search codec true st d hd kf l = .ok (r, { st with cache := cache' }) ∧ CacheOk st.blocks cache' ∧
      (∀ c, r = some c → c ∈ l ∧ Match st c d hd kf) ∧ (r = none → ∀ c ∈ l, ¬ Match st c d hd kf) := by
  intro l
  induction l with
  | nil =>
    intro st hinv _
    exact ⟨none, st.cache, rfl, hinv.cache, fun c h => (by cases h), fun _ c h => (by cases h)⟩
  | cons c rest ih =>
    intro st hinv hl
    obtain ⟨r, cache', heq, hiff, hco⟩ := chunkEquals_spec codec st hinv d hd kf c (hl c (List.mem_cons_self ..))
    unfold search
    rw [heq]
    cases r with
    | true =>
      refine ⟨some c, cache', rfl, hco, ?_, fun h => (by cases h)⟩
      intro c' hc'
      cases hc'
      exact ⟨List.mem_cons_self .., hiff.1 rfl⟩
    | false =>
      obtain ⟨r, cache'', h1, h2, h5, h6⟩ := ih { st with cache := cache' } (Inv_setCache hinv cache' hco)
        (fun x hx => hl x (List.mem_cons_of_mem _ hx))
      refine ⟨r, cache'', h1, h2, ?_, ?_⟩
      · intro c' hc'
        obtain ⟨hm, hmt⟩ := h5 c' hc'
        exact ⟨List.mem_cons_of_mem _ hm, hmt⟩
      · intro hr c' hc'
        rcases List.mem_cons.1 hc' with rfl | hm
        · intro hmt; have := hiff.2 hmt; cases this
        · exact h6 hr c' hm

/-- blocks are only ever added, and a block's data only ever grows at its end -/
@[reducible] def Ext (st st' : State) : Prop :=
  ∀ (i : Nat) (b : FragBlock), st.blocks[i]? = some b → ∃ b', st'.blocks[i]? = some b' ∧ b.data <+: b'.data

theorem Ext.refl (st : State) : Ext st st := fun _ b h => ⟨b, h, List.prefix_refl _⟩

theorem Ext.trans {a b c : State} (h1 : Ext a b) (h2 : Ext b c) : Ext a c := by
  intro i x hx
  obtain ⟨y, hy, p1⟩ := h1 i x hx
  obtain ⟨z, hz, p2⟩ := h2 i y hy
  exact ⟨z, hz, List.IsPrefix.trans p1 p2⟩

theorem Ext_of_blocks_eq {a b : State} (h : b.blocks = a.blocks) : Ext a b := by
  intro i x hx; exact ⟨x, by rw [h]; exact hx, List.prefix_refl _⟩

/-- the location `(i, o)` holds the bytes `d` -/
def Valid (st : State) (i o : Nat) (d : Bytes) : Prop :=
  ∃ b, st.blocks[i]? = some b ∧ o + d.length ≤ b.data.length ∧ slice b.data o d.length = d

theorem slice_length_le (f : Bytes) (o n : Nat) : (slice f o n).length ≤ n := by
  simp [slice]; omega

theorem Ext.slice {st st' : State} (he : Ext st st') {i : Nat} {b : FragBlock} (hb : st.blocks[i]? = some b) {o n : Nat}
    (hle : o + n ≤ b.data.length) :
    ∃ b', st'.blocks[i]? = some b' ∧ o + n ≤ b'.data.length ∧ slice b'.data o n = slice b.data o n := by
  obtain ⟨b', hb', t, ht⟩ := he i b hb
  exact ⟨b', hb', by rw [← ht, List.length_append]; exact Nat.le_trans hle (Nat.le_add_right _ _),
    by rw [← ht]; exact List.take_drop_append_left _ _ hle⟩

theorem Valid_ext {st st' : State} {i o : Nat} {d : Bytes} (hv : Valid st i o d) (he : Ext st st') :
    Valid st' i o d := by
  obtain ⟨b, hb, hle, hs⟩ := hv
  obtain ⟨b', hb', hle', hs'⟩ := he.slice hb hle
  exact ⟨b', hb', hle', hs'.trans hs⟩

theorem ChunkOk_ext {st st' : State} {c : Chunk} (h : ChunkOk st.blocks c) (he : Ext st st') :
    ChunkOk st'.blocks c := by
  obtain ⟨b, hb, hpos, hle⟩ := h
  obtain ⟨b', hb', hle', _⟩ := he.slice hb hle
  exact ⟨b', hb', hpos, hle'⟩

theorem getElem?_modify_self {α} (l : List α) (i : Nat) (f : α → α) (a : α) (h : l[i]? = some a) :
    (l.modify i f)[i]? = some (f a) := by
  rw [List.getElem?_modify, h]; simp

theorem forall_modify {α} {l : List α} {i : Nat} {f : α → α} {a : α} (h : l[i]? = some a) {P : Nat → α → Prop}
    (hold : ∀ j b, j ≠ i → l[j]? = some b → P j b) (hnew : P i (f a)) :
    ∀ j b, (l.modify i f)[j]? = some b → P j b := by
  intro j b hb
  by_cases hij : i = j
  · subst hij
    rw [getElem?_modify_self _ _ _ _ h] at hb
    cases hb; exact hnew
  · rw [List.getElem?_modify_ne _ _ hij] at hb
    exact hold j b (Ne.symm hij) hb

theorem getElem?_concat_cases {α} {l : List α} {x b : α} {j : Nat} (h : (l ++ [x])[j]? = some b) :
    l[j]? = some b ∨ (j = l.length ∧ b = x) := by
  rcases Nat.lt_trichotomy j l.length with hj | hj | hj
  · rw [List.getElem?_append_left hj] at h; exact Or.inl h
  · subst hj; rw [List.getElem?_concat_length] at h; exact Or.inr ⟨rfl, (Option.some.inj h).symm⟩
  · rw [List.getElem?_eq_none (by rw [List.length_append, List.length_singleton]; exact hj)] at h; cases h

theorem Inv_modify (codec : Codec) (st : State) (i : Nat) (b : FragBlock) (f : FragBlock → FragBlock) (hinv : Inv codec st)
    (hb : st.blocks[i]? = some b) (hold : b.place = .opened ∨ b.place = .inFlight) (hdata : b.data <+: (f b).data)
    (hnew : BlockOk codec st.blocks.length i (f b)) :
    Inv codec { st with blocks := st.blocks.modify i f } ∧ Ext st { st with blocks := st.blocks.modify i f } := by
  have hext : Ext st { st with blocks := st.blocks.modify i f } := by
    intro j x hx
    by_cases hij : i = j
    · subst hij
      rw [hb] at hx; cases hx
      exact ⟨_, getElem?_modify_self _ _ _ _ hb, hdata⟩
    · exact ⟨x, (List.getElem?_modify_ne _ _ hij).trans hx, List.prefix_refl _⟩
  refine ⟨⟨?_, ?_, fun c hc => ChunkOk_ext (hinv.chunks c hc) hext⟩, hext⟩
  · simp only [List.length_modify]
    exact forall_modify hb (fun j x _ hx => hinv.blocks j x hx) hnew
  · intro k d hkd
    obtain ⟨b', hb', hd', h1, h2⟩ := hinv.cache k d hkd
    have hik : i ≠ k := by
      rintro rfl
      rw [hb] at hb'; cases hb'
      exact hold.elim h1 h2
    exact ⟨b', (List.getElem?_modify_ne _ _ hik).trans hb', hd', h1, h2⟩

theorem openIndex_eq_some_iff {st : State} {i : Nat} :
    openIndex st = some i ↔ ∃ b, st.blocks[i]? = some b ∧ b.place = .opened ∧ i + 1 = st.blocks.length := by
  unfold openIndex
  rw [List.getLast?_eq_getElem?]
  constructor
  · intro h
    cases hb : st.blocks[st.blocks.length - 1]? with
    | none => rw [hb] at h; cases h
    | some b =>
      rw [hb] at h
      simp only [] at h
      split at h
      · rename_i hp
        cases h
        have := (List.getElem?_eq_some_iff.1 hb).1
        exact ⟨b, hb, hp, Nat.sub_add_cancel (Nat.lt_of_le_of_lt (Nat.zero_le _) this)⟩
      · cases h
  · rintro ⟨b, hb, hp, hlen⟩
    rw [← hlen, Nat.add_sub_cancel, hb]
    simp [hp]

theorem openIndex_none {codec : Codec} {st : State} (hinv : Inv codec st) (h : openIndex st = none) :
    ∀ (i : Nat) (b : FragBlock), st.blocks[i]? = some b → b.place ≠ .opened := by
  intro i b hb hp
  rw [openIndex_eq_some_iff.2 ⟨b, hb, hp, (hinv.blocks i b hb).last hp⟩] at h
  cases h

theorem closeOpen_length (st : State) : (closeOpen st).blocks.length = st.blocks.length := by
  unfold closeOpen; split <;> simp

theorem closeOpen_openIndex (st : State) : openIndex (closeOpen st) = none := by
  unfold closeOpen
  cases ho : openIndex st with
  | none => exact ho
  | some i =>
    obtain ⟨b, hb, _, hlen⟩ := openIndex_eq_some_iff.1 ho
    simp only []
    unfold openIndex
    rw [List.getLast?_eq_getElem?]
    simp only [List.length_modify]
    rw [← hlen, Nat.add_sub_cancel, getElem?_modify_self _ _ _ _ hb]
    simp

theorem closeOpen_spec (codec : Codec) (st : State) (hinv : Inv codec st) :
    Inv codec (closeOpen st) ∧ Ext st (closeOpen st) ∧ (closeOpen st).table = st.table := by
  unfold closeOpen
  cases ho : openIndex st with
  | none => exact ⟨hinv, Ext.refl st, rfl⟩
  | some i =>
    simp only []
    obtain ⟨b, hb, hp, _⟩ := openIndex_eq_some_iff.1 ho
    have hok := hinv.blocks i b hb
    obtain ⟨h1, h2⟩ := Inv_modify codec st i b (fun b => { b with place := .inFlight }) hinv hb (Or.inl hp)
      (List.prefix_refl _) ⟨hok.ne_nil, fun h => (by cases h), fun s h => (by cases h), fun s h => (by cases h)⟩
    exact ⟨h1, h2, trivial⟩

theorem overflow_cases (maxBlock : Nat) (st : State) (d : Bytes) :
    (overflow maxBlock st d = closeOpen st ∧
      ∃ i b, openIndex st = some i ∧ st.blocks[i]? = some b ∧ maxBlock < b.data.length + d.length)
    ∨ (overflow maxBlock st d = st ∧
      ∀ i b, openIndex st = some i → st.blocks[i]? = some b → b.data.length + d.length ≤ maxBlock) := by
  unfold overflow
  cases ho : openIndex st with
  | none => exact Or.inr ⟨rfl, fun i b h => by cases h⟩
  | some i =>
    obtain ⟨b, hb, _⟩ := openIndex_eq_some_iff.1 ho
    simp only [hb]
    by_cases hfull : b.data.length + d.length > maxBlock
    · exact Or.inl ⟨if_pos hfull, i, b, rfl, hb, hfull⟩
    · refine Or.inr ⟨if_neg hfull, fun j b' hj hb' => ?_⟩
      cases hj
      cases hb.symm.trans hb'
      exact Nat.not_lt.1 hfull

theorem overflow_spec (codec : Codec) (maxBlock : Nat) (st : State) (d : Bytes) (hinv : Inv codec st) :
    Inv codec (overflow maxBlock st d) ∧ Ext st (overflow maxBlock st d) ∧
      (overflow maxBlock st d).table = st.table := by
  rcases overflow_cases maxBlock st d with ⟨h, _⟩ | ⟨h, _⟩ <;> rw [h]
  · exact closeOpen_spec codec st hinv
  · exact ⟨hinv, Ext.refl st, rfl⟩

theorem place_spec (codec : Codec) (st : State) (d : Bytes) (flags : Nat) (hinv : Inv codec st)
    (hz : d ≠ []) :
    Inv codec (place st d flags).2.2 ∧ Ext st (place st d flags).2.2 ∧ (place st d flags).2.2.table = st.table ∧
      Valid (place st d flags).2.2 (place st d flags).1 (place st d flags).2.1 d := by
  unfold place
  cases ho : openIndex st with
  | none =>
    simp only []
    have hno := openIndex_none hinv ho
    have hext : ∀ nb, Ext st { st with blocks := st.blocks ++ [nb] } :=
      fun nb i b hb => ⟨b, List.getElem?_append_some hb, List.prefix_refl _⟩
    refine ⟨⟨?_, ?_, fun c hc => ChunkOk_ext (hinv.chunks c hc) (hext _)⟩, hext _, trivial, ?_⟩
    · intro i b hb
      simp only [List.length_append, List.length_singleton]
      rcases getElem?_concat_cases hb with hb | ⟨rfl, rfl⟩
      · have hok := hinv.blocks i b hb
        exact ⟨hok.ne_nil, fun hp => absurd hp (hno i b hb), fun _ => hok.unc, fun _ => hok.raw⟩
      · exact ⟨hz, fun _ => rfl, fun s h => (by cases h), fun s h => (by cases h)⟩
    · intro k dd hkd
      obtain ⟨b, hb, h⟩ := hinv.cache k dd hkd
      exact ⟨b, List.getElem?_append_some hb, h⟩
    · exact ⟨_, List.getElem?_concat_length, by simp, by simp [slice]⟩
  | some i =>
    simp only []
    obtain ⟨b, hb, hp, hlen⟩ := openIndex_eq_some_iff.1 ho
    have hne : b.data ++ d ≠ [] := fun he => (hinv.blocks i b hb).ne_nil (List.append_eq_nil_iff.1 he).1
    obtain ⟨h1, h2⟩ := Inv_modify codec st i b
      (fun b => { b with data := b.data ++ d, flags := b.flags ||| (flags &&& blkDontCompress) }) hinv hb (Or.inl hp)
      (List.prefix_append _ _) ⟨hne, fun _ => hlen, fun s h => (by rw [hp] at h; cases h), fun s h => (by rw [hp] at h; cases h)⟩
    refine ⟨h1, h2, trivial, _, getElem?_modify_self _ _ _ _ hb, ?_, ?_⟩
    · simp [hb]
    · simp only [hb, Option.map_some, Option.getD_some]
      exact List.take_drop_right b.data d

/-- what a lookup finds through table entry `c`: the bytes it points at, with its checksum and `DONT_COMPRESS` flag -/
def key (blocks : List FragBlock) (c : Chunk) : Bytes × UInt32 × Nat :=
  (slice ((blocks[c.index]?).elim [] (·.data)) c.offset c.size, c.hash, c.flags)

theorem key_of_getElem? {blocks : List FragBlock} {c : Chunk} {b : FragBlock} (hb : blocks[c.index]? = some b) :
    key blocks c = (slice b.data c.offset c.size, c.hash, c.flags) := by
  unfold key; rw [hb]; rfl

theorem Match_iff_key {st : State} {c : Chunk} {d : Bytes} {hd : UInt32} {kf : Nat} (hc : ChunkOk st.blocks c) :
    Match st c d hd kf ↔ key st.blocks c = (d, hd, kf) := by
  obtain ⟨b, hb, _, hle⟩ := hc
  rw [key_of_getElem? hb, Prod.mk.injEq, Prod.mk.injEq]
  constructor
  · rintro ⟨_, h2, h3, b', hb', hs⟩
    cases hb.symm.trans hb'
    exact ⟨hs, h2, h3⟩
  · rintro ⟨hs, h2, h3⟩
    exact ⟨by rw [← hs]; exact (List.length_take_drop _ hle).symm, h2, h3, b, hb, hs⟩

theorem key_ext {st st' : State} {c : Chunk} (hc : ChunkOk st.blocks c) (he : Ext st st') :
    key st'.blocks c = key st.blocks c := by
  obtain ⟨b, hb, _, hle⟩ := hc
  obtain ⟨b', hb', _, hs⟩ := he.slice hb hle
  rw [key_of_getElem? hb, key_of_getElem? hb', hs]

theorem Match_ext {st st' : State} {c : Chunk} {d : Bytes} {hd : UInt32} {kf : Nat} (hc : ChunkOk st.blocks c)
    (hm : Match st c d hd kf) (he : Ext st st') : Match st' c d hd kf :=
  (Match_iff_key (ChunkOk_ext hc he)).2 ((key_ext hc he).trans ((Match_iff_key hc).1 hm))

/-- the fragment table as a lookup sees it -/
def keys (st : State) : List (Bytes × UInt32 × Nat) := st.table.map (key st.blocks)

theorem keys_ext {codec : Codec} {st st' : State} (hinv : Inv codec st) (he : Ext st st') (ht : st'.table = st.table) :
    keys st' = keys st := by
  unfold keys; rw [ht]
  exact List.map_congr_left fun c hc => key_ext (hinv.chunks c hc) he

/-- no two entries of the fragment table hold the same bytes under the same key -/
def Uniq (st : State) : Prop := (keys st).Nodup

theorem Uniq_init : Uniq {} := List.nodup_nil

theorem Uniq_ext {codec : Codec} {st st' : State} (hinv : Inv codec st) (hu : Uniq st) (he : Ext st st')
    (ht : st'.table = st.table) : Uniq st' := by
  unfold Uniq; rw [keys_ext hinv he ht]; exact hu

theorem match_unique {codec : Codec} {st : State} (hinv : Inv codec st) (hu : Uniq st) {a b : Chunk} (ha : a ∈ st.table)
    (hb : b ∈ st.table) {d : Bytes} {hd : UInt32} {kf : Nat} (hma : Match st a d hd kf) (hmb : Match st b d hd kf) :
    a = b := by
  have hk : key st.blocks a = key st.blocks b :=
    ((Match_iff_key (hinv.chunks a ha)).1 hma).trans ((Match_iff_key (hinv.chunks b hb)).1 hmb).symm
  -- "equal or of different keys" holds of every two entries, in both orders
  have hp : st.table.Pairwise (fun x y => x = y ∨ key st.blocks x ≠ key st.blocks y) :=
    (List.pairwise_map.1 hu).imp Or.inr
  exact (List.Pairwise.forall_of_forall_of_flip (R := fun x y => x = y ∨ key st.blocks x ≠ key st.blocks y)
    (fun _ _ => Or.inl rfl) hp (hp.imp fun h => h.imp Eq.symm Ne.symm) ha hb).resolve_right fun hn => hn hk

/-- `hash_table_insert` with the equality callback, on the keys: an entry of the same key is replaced where it stands, and only a
key that is absent is added -/
theorem insert_spec (codec : Codec) (d : Bytes) (hd : UInt32) (new : Chunk) : ∀ (l done : List Chunk) (st : State),
    Inv codec st → (∀ c ∈ l, ChunkOk st.blocks c) → ChunkOk st.blocks new → key st.blocks new = (d, hd, new.flags) →
    ∃ tbl cache', insert codec true st d hd new done l = .ok { st with table := done ++ tbl, cache := cache' } ∧
      CacheOk st.blocks cache' ∧ (∀ c ∈ tbl, ChunkOk st.blocks c) ∧
      (tbl.map (key st.blocks) = l.map (key st.blocks) ∧ (d, hd, new.flags) ∈ l.map (key st.blocks) ∨
        tbl.map (key st.blocks) = l.map (key st.blocks) ++ [(d, hd, new.flags)] ∧
          (d, hd, new.flags) ∉ l.map (key st.blocks)) := by
  intro l
  induction l with
  | nil =>
    intro done st hinv _ hnc hnk
    exact ⟨[new], st.cache, rfl, hinv.cache, List.forall_mem_singleton.2 hnc, Or.inr ⟨by rw [List.map_singleton, hnk]; rfl, nofun⟩⟩
  | cons c rest ih =>
    intro done st hinv hall hnc hnk
    obtain ⟨hc, hrest⟩ := List.forall_mem_cons.1 hall
    obtain ⟨r, cache', heq, hiff, hco⟩ := chunkEquals_spec codec st hinv d hd new.flags c hc
    rw [Match_iff_key hc] at hiff
    unfold insert
    rw [heq]
    cases r with
    | true =>
      exact ⟨new :: rest, cache', rfl, hco, List.forall_mem_cons.2 ⟨hnc, hrest⟩,
        Or.inl ⟨congrArg (· :: _) (hnk.trans (hiff.1 rfl).symm), List.mem_cons.2 (Or.inl (hiff.1 rfl).symm)⟩⟩
    | false =>
      have hne : (d, hd, new.flags) ≠ key st.blocks c := fun hm => by have := hiff.2 hm.symm; cases this
      obtain ⟨tbl, cache'', h1, h3, h4, h5⟩ := ih (done ++ [c]) { st with cache := cache' } (Inv_setCache hinv cache' hco)
        hrest hnc hnk
      exact ⟨c :: tbl, cache'', h1.trans (by rw [List.append_assoc]; rfl), h3, List.forall_mem_cons.2 ⟨hc, h4⟩,
        h5.imp (fun ⟨e, m⟩ => ⟨congrArg (_ :: ·) e, List.mem_cons_of_mem _ m⟩)
          (fun ⟨e, m⟩ => ⟨congrArg (_ :: ·) e, fun hm => (List.mem_cons.1 hm).elim hne m⟩)⟩

theorem storeFragment_spec (codec : Codec) (maxBlock : Nat) (st : State) (d : Bytes) (hd : UInt32) (flags : Nat)
    (hinv : Inv codec st) (hz : d ≠ []) :
    ∃ i o st', storeFragment codec true maxBlock st d hd flags = .ok (.loc i o, st') ∧ Inv codec st' ∧ Ext st st' ∧
      Valid st' i o d ∧
      (keys st' = keys st ∧ (d, hd, flags &&& blkDontCompress) ∈ keys st ∨
        keys st' = keys st ++ [(d, hd, flags &&& blkDontCompress)] ∧ (d, hd, flags &&& blkDontCompress) ∉ keys st) := by
  obtain ⟨hi1, he1, ht1⟩ := overflow_spec codec maxBlock st d hinv
  obtain ⟨hi2, he2, ht2, hv⟩ := place_spec codec (overflow maxBlock st d) d flags hi1 hz
  unfold storeFragment
  simp only []
  generalize place (overflow maxBlock st d) d flags = r at *
  obtain ⟨i, o, st3⟩ := r
  simp only [] at hi2 he2 ht2 hv ⊢
  have he := Ext.trans he1 he2
  obtain ⟨b, hb, hle, hsl⟩ := hv
  obtain ⟨tbl, cache', h1, h3, h4, h5⟩ := insert_spec codec d hd ⟨i, o, d.length, hd, flags &&& blkDontCompress⟩
    st3.table [] st3 hi2 hi2.chunks ⟨b, hb, List.length_pos_iff.2 hz, hle⟩ (by rw [key_of_getElem? hb, hsl])
  rw [h1, List.nil_append]
  refine ⟨i, o, _, rfl, ⟨hi2.blocks, h3, h4⟩, he, ⟨b, hb, hle, hsl⟩, ?_⟩
  rw [← keys_ext hinv he (ht2.trans ht1)]
  exact h5

theorem findShared_spec (codec : Codec) (st : State) (d : Bytes) (hd : UInt32) (flags : Nat) (hinv : Inv codec st) :
    ∃ r cache', findShared codec true st d hd flags = .ok (r, { st with cache := cache' }) ∧ CacheOk st.blocks cache' ∧
      (∀ c, r = some c → c ∈ st.table ∧ Match st c d hd (flags &&& blkDontCompress)) ∧
      (hasFlag flags blkDontDeduplicate = false → r = none →
        ∀ c ∈ st.table, ¬ Match st c d hd (flags &&& blkDontCompress)) := by
  unfold findShared
  by_cases hdd : hasFlag flags blkDontDeduplicate = true
  · rw [if_pos hdd]
    exact ⟨none, st.cache, rfl, hinv.cache, fun c hc => (by cases hc), fun hf => (by rw [hdd] at hf; cases hf)⟩
  · rw [if_neg hdd]
    obtain ⟨r, cache', a1, a2, a5, a6⟩ := search_spec codec d hd _ st.table st hinv hinv.chunks
    exact ⟨r, cache', a1, a2, a5, fun _ => a6⟩

/-- every fragment stored so far can still be found: some table entry holds its bytes under its key -/
def SeenInv (st : State) (seen : List (Bytes × UInt32 × Nat)) : Prop := ∀ p ∈ seen, p ∈ keys st

theorem SeenInv_ext {codec : Codec} {st st' : State} {seen : List (Bytes × UInt32 × Nat)} (hinv : Inv codec st)
    (hs : SeenInv st seen) (he : Ext st st') (ht : st'.table = st.table) : SeenInv st' seen := by
  unfold SeenInv; rw [keys_ext hinv he ht]; exact hs

theorem processFragment_spec (codec : Codec) (h : Bytes → UInt32) (maxBlock : Nat) (st : State) (d : Bytes)
    (flags : Nat) (seen : List (Bytes × UInt32 × Nat)) (hinv : Inv codec st) (hok : fragOk d flags)
    (hseen : SeenInv st seen) :
    ∃ r st', processFragment codec h true maxBlock st d flags = .ok (r, st') ∧ Inv codec st' ∧ Ext st st' ∧
      (∀ i o, r = .loc i o → Valid st' i o d) ∧
      (r = .sparse ↔ isSparse d flags = true) ∧
      SeenInv st' (if isSparse d flags then seen else (d, fragHash h d flags, flags &&& blkDontCompress) :: seen) ∧
      (isSparse d flags = false → hasFlag flags blkDontDeduplicate = false →
        (d, fragHash h d flags, flags &&& blkDontCompress) ∈ seen → st'.blocks = st.blocks) ∧
      (Uniq st → Uniq st') := by
  unfold processFragment
  by_cases hsp : isSparse d flags = true
  · have hsp' : (!hasFlag flags blkIgnoreSparse && allZero d) = true := hsp
    rw [if_pos hsp']
    refine ⟨.sparse, st, rfl, hinv, Ext.refl st, fun i o hh => (by cases hh), (by simp [hsp]),
      (by simp only [hsp, if_true]; exact hseen), fun hh => (by rw [hsp] at hh; cases hh), id⟩
  · have hsp' : ¬ (!hasFlag flags blkIgnoreSparse && allZero d) = true := hsp
    rw [if_neg hsp']
    have hspf : isSparse d flags = false := by simpa using hsp
    have hz : d ≠ [] := hok
    generalize fragHash h d flags = hd at *
    obtain ⟨r, cache', hf, hco, hfound, hnone⟩ := findShared_spec codec st d hd flags hinv
    generalize hkf : flags &&& blkDontCompress = kf at *
    rw [hf]
    -- the lookup changed only the cache: blocks and table, hence `Match`, `keys`, `SeenInv`, `Uniq`, are those of `st`
    have hinv1 := Inv_setCache hinv cache' hco
    cases r with
    | some c =>
      simp only []
      obtain ⟨hcm, hm⟩ := hfound c rfl
      refine ⟨.loc c.index c.offset, _, rfl, hinv1, Ext.refl st, ?_, (by simp [hspf]), ?_, fun _ _ _ => rfl, id⟩
      · intro i o hio
        cases hio
        obtain ⟨b0, hb0, _, hle⟩ := hinv.chunks c hcm
        obtain ⟨a1, a2, a4, b, hb, a3⟩ := hm
        cases hb.symm.trans hb0
        exact ⟨_, hb, (by rw [← a1]; exact hle), (by rw [← a1]; exact a3)⟩
      · simp only [hspf, Bool.false_eq_true, if_false]
        exact List.forall_mem_cons.2 ⟨List.mem_map.2 ⟨c, hcm, (Match_iff_key (hinv.chunks c hcm)).1 hm⟩, hseen⟩
    | none =>
      simp only []
      obtain ⟨i, o, st', hs, hinv', hext, hval, hk⟩ :=
        storeFragment_spec codec maxBlock { st with cache := cache' } d hd flags hinv1 hz
      rw [hkf] at hk
      rw [hs]
      refine ⟨.loc i o, st', rfl, hinv', hext, ?_, (by simp [hspf]), ?_, ?_, ?_⟩
      · intro i' o' hio; cases hio; exact hval
      · simp only [hspf, Bool.false_eq_true, if_false]
        intro p hp
        show p ∈ keys st'
        rcases hk with ⟨e, hin⟩ | ⟨e, _⟩ <;> rw [e]
        · exact (List.mem_cons.1 hp).elim (fun e => e ▸ hin) (hseen p)
        · rw [List.mem_append, List.mem_singleton, or_comm]
          exact (List.mem_cons.1 hp).imp_right (hseen p)
      · intro _ hdd hmem
        exfalso
        obtain ⟨c, hc, hm⟩ := List.mem_map.1 (hseen (d, hd, kf) hmem)
        exact hnone hdd rfl c hc ((Match_iff_key (hinv.chunks c hc)).2 hm)
      · intro hu
        show (keys st').Nodup
        rcases hk with ⟨e, _⟩ | ⟨e, hnin⟩ <;> rw [e]
        · exact hu
        · exact List.nodup_append.2 ⟨hu, List.pairwise_singleton _ _, fun x hx y hy hxy =>
            hnin (by rw [← List.mem_singleton.1 hy, ← hxy]; exact hx)⟩

theorem blockWritten_spec (codec : Codec) (hrt : codec.RoundTrip) (st : State) (idx : Nat) (hinv : Inv codec st) :
    (∃ st', blockWritten codec st idx = .ok st' ∧ Inv codec st' ∧ Ext st st' ∧ st'.table = st.table) ∨
    blockWritten codec st idx = .error .badEvent := by
  unfold blockWritten
  cases hb : st.blocks[idx]? with
  | none => exact Or.inr rfl
  | some b =>
    obtain ⟨data, place, fl⟩ := b
    cases place with
    | opened => exact Or.inr rfl
    | written s c => exact Or.inr rfl
    | inFlight =>
      left
      simp only []
      have hok := hinv.blocks idx _ hb
      generalize hpdef : (if hasFlag fl blkDontCompress = true then Place.written data false
        else match codec.cmp data with
          | some c => Place.written c true
          | none => Place.written data false) = p
      suffices hnew : BlockOk codec st.blocks.length idx ⟨data, p, fl⟩ by
        obtain ⟨h1, h2⟩ := Inv_modify codec st idx _ (fun b => { b with place := p }) hinv hb (Or.inr rfl)
          (List.prefix_refl _) hnew
        exact ⟨_, rfl, h1, h2, rfl⟩
      -- the block goes to disk as it is, or compressed to `c` with `unc c = data`
      have hp : p = .written data false ∨ ∃ c, codec.cmp data = some c ∧ p = .written c true := by
        subst hpdef
        split
        · exact Or.inl rfl
        · split
          · rename_i c hc; exact Or.inr ⟨c, hc, rfl⟩
          · exact Or.inl rfl
      rcases hp with rfl | ⟨c, hc, rfl⟩
      · exact ⟨hok.ne_nil, nofun, nofun, fun s h => by cases h; rfl⟩
      · exact ⟨hok.ne_nil, nofun, fun s h => by cases h; exact hrt data c hc, nofun⟩

/-- every answer of the run is right with respect to state `st` -/
def ResAll (st : State) : List Ev → List (Option Res) → Prop
  | [], [] => True
  | .frag d _ :: es, some (.loc i o) :: rs => Valid st i o d ∧ ResAll st es rs
  | .frag d fl :: es, some .sparse :: rs => isSparse d fl = true ∧ ResAll st es rs
  | .written _ :: es, none :: rs => ResAll st es rs
  | .finish :: es, none :: rs => ResAll st es rs
  | _, _ => False

theorem ResAll_ext {st st' : State} (he : Ext st st') : ∀ (evs : List Ev) (rs : List (Option Res)),
    ResAll st evs rs → ResAll st' evs rs := by
  intro evs rs
  fun_induction ResAll st evs rs with
  | case1 => exact id
  | case2 d fl es i o rs ih => exact fun h => ⟨Valid_ext h.1 he, ih h.2⟩
  | case3 d fl es rs ih => exact fun h => ⟨h.1, ih h.2⟩
  | case4 _ es rs ih => exact ih
  | case5 es rs ih => exact ih
  | case6 => exact False.elim

theorem run_spec (codec : Codec) (hrt : codec.RoundTrip) (h : Bytes → UInt32) (maxBlock : Nat) :
    ∀ (evs : List Ev) (st : State) (seen : List (Bytes × UInt32 × Nat)), Inv codec st → SeenInv st seen → evsOk evs →
    (∃ rs st', run codec h true maxBlock st evs = .ok (rs, st') ∧ Inv codec st' ∧ Ext st st' ∧
        SeenInv st' (seenOf h evs ++ seen) ∧ ResAll st' evs rs ∧ (Uniq st → Uniq st')) ∨
    run codec h true maxBlock st evs = .error .badEvent := by
  intro evs
  induction evs with
  | nil =>
    intro st seen hinv hseen _
    exact Or.inl ⟨[], st, rfl, hinv, Ext.refl st, by simpa [seenOf] using hseen, trivial, id⟩
  | cons e es ih =>
    intro st seen hinv hseen hok
    have hoke : e.ok := hok e (List.mem_cons_self ..)
    have hokes : evsOk es := fun x hx => hok x (List.mem_cons_of_mem _ hx)
    unfold run
    cases e with
    | frag d fl =>
      obtain ⟨r, st1, hpf, hinv1, hext1, hval, hsp, hseen1, _, hu1⟩ :=
        processFragment_spec codec h maxBlock st d fl seen hinv hoke hseen
      simp only [step, hpf]
      rcases ih st1 _ hinv1 hseen1 hokes with ⟨rs, st', hr, hinv', hext', hseen', hres, hu'⟩ | herr
      · left
        rw [hr]
        refine ⟨some r :: rs, st', rfl, hinv', Ext.trans hext1 hext', ?_, ?_, fun hu => hu' (hu1 hu)⟩
        · have : seenOf h (Ev.frag d fl :: es) ++ seen
              = seenOf h es ++ (if isSparse d fl = true then seen
                  else (d, fragHash h d fl, fl &&& blkDontCompress) :: seen) := by
            simp only [seenOf]
            split <;> simp
          rw [this]; exact hseen'
        · cases r with
          | sparse => exact ⟨hsp.1 rfl, hres⟩
          | loc i o => exact ⟨Valid_ext (hval i o rfl) hext', hres⟩
      · right; rw [herr]
    | written idx =>
      rcases blockWritten_spec codec hrt st idx hinv with ⟨st1, hbw, hinv1, hext1, ht1⟩ | herr
      · simp only [step, hbw]
        rcases ih st1 seen hinv1 (SeenInv_ext hinv hseen hext1 ht1) hokes with
          ⟨rs, st', hr, hinv', hext', hseen', hres, hu'⟩ | herr
        · left
          rw [hr]
          exact ⟨none :: rs, st', rfl, hinv', Ext.trans hext1 hext', by simpa [seenOf] using hseen', hres,
            fun hu => hu' (Uniq_ext hinv hu hext1 ht1)⟩
        · right; rw [herr]
      · right; simp only [step, herr]
    | finish =>
      obtain ⟨hinv1, hext1, ht1⟩ := closeOpen_spec codec st hinv
      simp only [step]
      rcases ih (closeOpen st) seen hinv1 (SeenInv_ext hinv hseen hext1 ht1) hokes with
        ⟨rs, st', hr, hinv', hext', hseen', hres, hu'⟩ | herr
      · left
        rw [hr]
        exact ⟨none :: rs, st', rfl, hinv', Ext.trans hext1 hext', by simpa [seenOf] using hseen', hres,
          fun hu => hu' (Uniq_ext hinv hu hext1 ht1)⟩
      · right; rw [herr]

theorem run_snoc {codec : Codec} {h : Bytes → UInt32} {bc : Bool} {B : Nat} : ∀ {evs : List Ev} {st st' st'' : State}
    {rs : List (Option Res)} {e : Ev} {r : Option Res},
    run codec h bc B st evs = .ok (rs, st') → step codec h bc B st' e = .ok (r, st'') →
    run codec h bc B st (evs ++ [e]) = .ok (rs ++ [r], st'') := by
  intro evs
  induction evs with
  | nil =>
    intro st st' st'' rs e r hr hs
    simp only [run] at hr
    cases hr
    simp [run, hs]
  | cons x xs ih =>
    intro st st' st'' rs e r hr hs
    simp only [List.cons_append, run] at hr ⊢
    split at hr
    · cases hr
    · rename_i r1 s1 h1
      split at hr
      · cases hr
      · rename_i rs2 s2 h2
        cases hr
        rw [ih h2 hs]
        rfl

theorem run_spec_init (codec : Codec) (hrt : codec.RoundTrip) (h : Bytes → UInt32) (maxBlock : Nat) {evs : List Ev}
    (hok : evsOk evs) {rs : List (Option Res)} {st : State} (hrun : run codec h true maxBlock {} evs = .ok (rs, st)) :
    Inv codec st ∧ SeenInv st (seenOf h evs) ∧ ResAll st evs rs ∧ Uniq st := by
  rcases run_spec codec hrt h maxBlock evs {} [] (Inv_init codec) (fun p hp => by cases hp) hok with
    ⟨rs', st', hr, hinv, _, hsi, hres, hu⟩ | herr
  · rw [hr] at hrun; cases hrun
    exact ⟨hinv, by simpa using hsi, hres, hu Uniq_init⟩
  · rw [herr] at hrun; cases hrun

theorem readBlock_spec (codec : Codec) (st : State) (hinv : Inv codec st) (i : Nat) (b : FragBlock)
    (hb : st.blocks[i]? = some b) : readBlock codec st i = some b.data := by
  have hok := hinv.blocks i b hb
  unfold readBlock
  rw [hb]
  obtain ⟨data, place, fl⟩ := b
  cases place with
  | opened => rfl
  | inFlight => rfl
  | written s c =>
    cases c with
    | true => exact hok.unc rfl
    | false => simp only []; rw [hok.raw rfl]

theorem fragSound_of_ResAll (codec : Codec) (st : State) (hinv : Inv codec st) :
    ∀ (evs : List Ev) (rs : List (Option Res)), ResAll st evs rs → fragSoundOk codec st evs rs = true := by
  intro evs rs
  fun_induction ResAll st evs rs with
  | case1 => exact fun _ => rfl
  | case2 d fl es i o rs ih =>
    rintro ⟨⟨b, hb, _, hs⟩, h2⟩
    simp only [fragSoundOk, Bool.and_eq_true]
    rw [readBlock_spec codec st hinv i b hb]
    exact ⟨by simp [hs], ih h2⟩
  | case3 d fl es rs ih =>
    intro h
    simp only [fragSoundOk, Bool.and_eq_true]
    exact ⟨h.1, ih h.2⟩
  | case4 _ es rs ih => exact ih
  | case5 es rs ih => exact ih
  | case6 => exact False.elim

theorem search_perm (codec : Codec) (st : State) (hinv : Inv codec st) (hu : Uniq st) (d : Bytes) (hd : UInt32)
    (kf : Nat) (l : List Chunk) (hp : l.Perm st.table) :
    ∃ r s1 s2, search codec true st d hd kf st.table = .ok (r, s1) ∧ search codec true st d hd kf l = .ok (r, s2) := by
  obtain ⟨r1, c1, a1, _, a5, a6⟩ := search_spec codec d hd kf st.table st hinv hinv.chunks
  obtain ⟨r2, c2, b1, _, b5, b6⟩ := search_spec codec d hd kf l st hinv
    (fun c hc => hinv.chunks c (hp.mem_iff.1 hc))
  have : r1 = r2 := by
    cases r1 with
    | none =>
      cases r2 with
      | none => rfl
      | some b =>
        obtain ⟨hb, hm⟩ := b5 b rfl
        exact absurd hm (a6 rfl b (hp.mem_iff.1 hb))
    | some a =>
      obtain ⟨ha, hma⟩ := a5 a rfl
      cases r2 with
      | none => exact absurd hma (b6 rfl a (hp.mem_iff.2 ha))
      | some b =>
        obtain ⟨hb, hmb⟩ := b5 b rfl
        rw [match_unique hinv hu ha (hp.mem_iff.1 hb) hma hmb]
  subst this
  exact ⟨r1, _, _, a1, b1⟩

end Sqfs.FragDedup
