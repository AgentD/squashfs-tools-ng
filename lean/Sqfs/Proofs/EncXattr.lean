/-
C01 — the xattr key/value stream: a pair as `write_key`/`write_value` emit it is the pair `read_key`/`read_value`
return, in line or out of line; over the pairs of a set and the sets of `write_kv_pairs`, every descriptor names the
start of its set and the set reads back from there.
-/
import Sqfs.Model.EncXattr
import Sqfs.Proofs.EncBytes
namespace Sqfs.Enc
open Sqfs.Consts

def keyOf (w : XWriter) (ki : Nat) : Bytes := w.keys.getD ki []
def valOf (w : XWriter) (vi : Nat) : Bytes := (w.values.getD vi ([], 0)).1

theorem prefixId_spec {key : Bytes} {t : Nat} (h : prefixId key = some t) :
    ∃ pfx rem, prefixOf t = some pfx ∧ key = pfx ++ rem ∧ afterDot key = rem ∧ t < 3 := by
  obtain ⟨e, he, rfl⟩ := Option.map_eq_some_iff.mp h
  have hp := List.find?_some he
  simp only [Bool.and_eq_true] at hp
  obtain ⟨rem, rfl⟩ := List.isPrefixOf_iff_prefix.mp hp.1
  have hm : e ∈ xattrTypes := List.mem_of_find?_eq_some he
  -- the three rows of `xattr_types[]`: each is found again by its id, and its prefix ends in its only dot
  simp only [xattrTypes, List.mem_cons, List.not_mem_nil, or_false] at hm
  rcases hm with rfl | rfl | rfl <;> exact ⟨_, rem, by decide, rfl, rfl, by decide⟩

/-- what the pair `(key index, value index)` must satisfy to be representable: a known prefix, a key remainder that
fits the 16-bit size field, a value that fits the 32-bit size field -/
structure PairOk (w : XWriter) (p : Nat × Nat) : Prop where
  key : ∃ t, prefixId (keyOf w p.1) = some t
  klen : (afterDot (keyOf w p.1)).length < 65536
  vlen : (valOf w p.2).length < 2 ^ 32

/-- the contract between the writer's `get_position` and the reader's `seek` on the key/value stream, for the
positions the writer can stand at: `p ≤ bound` (the length of the finished stream).  Satisfied by the real reference
arithmetic: `refOk_raw` (uncompressed metadata, `rawRef`/`rawPos`) and `refOk_blocks` (`refOfPos` of any block list a
meta writer produced) in `Proofs/EncXattrRef.lean`. -/
structure RefOk (refOf : Nat → Nat) (posOf : Nat → Option Nat) (bound : Nat) : Prop where
  inv : ∀ p, p ≤ bound → posOf (refOf p) = some p
  off : ∀ p, p ≤ bound → refOf p % 65536 < metaBlockSize
  lt : ∀ p, p ≤ bound → refOf p < 2 ^ 64

theorem RefOk.mono {refOf : Nat → Nat} {posOf : Nat → Option Nat} {m n : Nat} (h : RefOk refOf posOf n) (hmn : m ≤ n) :
    RefOk refOf posOf m :=
  ⟨fun p hp => h.inv p (Nat.le_trans hp hmn), fun p hp => h.off p (Nat.le_trans hp hmn), fun p hp => h.lt p (Nat.le_trans hp hmn)⟩

/-- the type word of a key: a 16-bit value from which the reader's mask and flag test recover the prefix id and
whether the value is out of line -/
theorem typeWord_spec : ∀ t, t < 3 → ∀ ool : Bool,
    (if ool then t ||| xattrFlagOol else t) < 65536
    ∧ (if ool then t ||| xattrFlagOol else t) % (xattrPrefixMask + 1) = t
    ∧ (((if ool then t ||| xattrFlagOol else t) / xattrFlagOol) % 2 = 1 ↔ ool = true) := by
  decide

theorem readKey_encKey {key : Bytes} {t : Nat} (hk : prefixId key = some t) (hkl : (afterDot key).length < 65536)
    (ool : Bool) (rest : Bytes) :
    ∃ typ pfx, readFields [2, 2] (encKey key ool ++ rest) = .ok ([typ, (afterDot key).length], afterDot key ++ rest)
      ∧ prefixOf (typ % (xattrPrefixMask + 1)) = some pfx ∧ pfx ++ afterDot key = key
      ∧ ((typ / xattrFlagOol) % 2 = 1 ↔ ool = true) := by
  obtain ⟨pfx, rem, hp, hkey, hrem, ht⟩ := prefixId_spec hk
  obtain ⟨w1, w2, w3⟩ := typeWord_spec t ht ool
  refine ⟨_, pfx, ?_, by rw [w2]; exact hp, by rw [hrem]; exact hkey.symm, w3⟩
  simp only [encKey, hk, Option.getD_some, List.append_assoc]
  exact readFields_encFields_fit [(2, _), (2, _)] _ (.cons w1 (.cons hkl .nil))

theorem readValue_encValue {val : Bytes} (hvl : val.length < 2 ^ 32) (rest : Bytes) :
    readFields [4] (encValue val ++ rest) = .ok ([val.length], val ++ rest) := by
  rw [encValue, List.append_assoc]
  exact readFields_encFields_fit [(4, val.length)] _ (.cons hvl .nil)

theorem readPair_inline (r : XReader) (key val suffix : Bytes) {t : Nat} (hk : prefixId key = some t)
    (hkl : (afterDot key).length < 65536) (hvl : val.length < 2 ^ 32) :
    readPair r (encKey key false ++ encValue val ++ suffix) = .ok ((key, val), suffix) := by
  obtain ⟨typ, pfx, h1, hp, hkey, hf⟩ := readKey_encKey hk hkl false (encValue val ++ suffix)
  unfold readPair
  rw [List.append_assoc, h1]
  simp only [hp, take?_append, readValue_encValue hvl, hf, Bool.false_eq_true, if_false, hkey]

theorem readPair_ool (r : XReader) (key val suffix a b : Bytes) (ref p : Nat) {t : Nat} (hk : prefixId key = some t)
    (hkl : (afterDot key).length < 65536) (hvl : val.length < 2 ^ 32)
    (hpos : r.posOf ref = some p) (hkv : r.kv = a ++ encValue val ++ b) (ha : a.length = p)
    (hoff : ref % 65536 < metaBlockSize) (hlt : ref < 2 ^ 64) :
    readPair r (encKey key true ++ encValueOol ref ++ suffix) = .ok ((key, val), suffix) := by
  obtain ⟨typ, pfx, h1, hp, hkey, hf⟩ := readKey_encKey hk hkl true (encValueOol ref ++ suffix)
  have h2 : readFields [4] (encFields [(4, 8)] ++ (encFields [(8, ref)] ++ suffix)) = .ok ([8], encFields [(8, ref)] ++ suffix) :=
    readFields_encFields_fit [(4, 8)] _ (.cons (by decide) .nil)
  have h3 : readFields [8] (encFields [(8, ref)] ++ suffix) = .ok ([ref], suffix) :=
    readFields_encFields_fit [(8, ref)] suffix (.cons hlt .nil)
  simp only [encFields, List.append_nil] at h2 h3
  have hd : r.kv.drop p = encValue val ++ b := by rw [hkv, List.append_assoc, ← ha, List.drop_left]
  unfold readPair
  rw [List.append_assoc, h1]
  simp only [hp, take?_append, hf, if_true, encValueOol, encFields, List.append_assoc, List.append_nil, h2, h3, ge_iff_le,
    Nat.not_le.mpr hoff, if_false, hpos, hd, readValue_encValue hvl, hkey]

/-- every location in `ool_locations[]` names a place where the value really is -/
def OolInv (refOf : Nat → Nat) (w : XWriter) (st : KvSt) : Prop :=
  ∀ vi, st.ool.getD vi NONE64 ≠ NONE64 →
    ∃ a b, st.out = a ++ encValue (valOf w vi) ++ b ∧ st.ool.getD vi NONE64 = refOf a.length

theorem oolInv_init (refOf : Nat → Nat) (w : XWriter) (n : Nat) : OolInv refOf w { out := [], ool := List.replicate n NONE64 } := by
  intro vi hvi
  exfalso
  apply hvi
  simp only [List.getD_eq_getElem?_getD, List.getElem?_replicate]
  split <;> rfl

theorem OolInv.append {refOf : Nat → Nat} {w : XWriter} {st : KvSt} (h : OolInv refOf w st) (d : Bytes) :
    OolInv refOf w { st with out := st.out ++ d } := by
  intro vi hvi
  obtain ⟨a, b, h1, h2⟩ := h vi hvi
  exact ⟨a, b ++ d, by simp only [h1, List.append_assoc], h2⟩

theorem getD_set (l : List Nat) (i j v d : Nat) :
    (l.set i v).getD j d = if i = j ∧ i < l.length then v else l.getD j d := by
  simp only [List.getD_eq_getElem?_getD, List.getElem?_set]
  by_cases h : i = j
  · subst h
    by_cases hl : i < l.length <;> simp [hl]
  · simp [h]

theorem OolInv.set {refOf : Nat → Nat} {w : XWriter} {st : KvSt} (h : OolInv refOf w st) (vi : Nat) (a b : Bytes)
    (hout : st.out = a ++ encValue (valOf w vi) ++ b) : OolInv refOf w { st with ool := st.ool.set vi (refOf a.length) } := by
  intro vj hvj
  simp only [getD_set] at hvj ⊢
  by_cases hc : vi = vj ∧ vi < st.ool.length
  · rw [if_pos hc]; exact ⟨a, b, hc.1 ▸ hout, rfl⟩
  · rw [if_neg hc] at hvj ⊢; exact h vj hvj

/-- one pair: the stream grows, the invariant survives, and a reader whose stream extends what had been written
before the pair reads the pair back from the bytes just appended -/
theorem writePair_spec {refOf : Nat → Nat} (r : XReader) (hr : RefOk refOf r.posOf r.kv.length) (w : XWriter) (st : KvSt)
    (p : Nat × Nat) (hinv : OolInv refOf w st) (hp : PairOk w p) :
    ∃ d, (writePair refOf w st p).out = st.out ++ d ∧ OolInv refOf w (writePair refOf w st p) ∧
      (st.out <+: r.kv → ∀ suffix, readPair r (d ++ suffix) = .ok ((keyOf w p.1, valOf w p.2), suffix)) := by
  obtain ⟨⟨t, hk⟩, hkl, hvl⟩ := hp
  unfold writePair
  simp only
  by_cases hnone : st.ool.getD p.2 NONE64 = NONE64
  · -- stored in line; the place is remembered if the value is worth sharing
    rw [if_pos hnone]
    refine ⟨encKey (keyOf w p.1) false ++ encValue (valOf w p.2), (List.append_assoc ..), ?_,
      fun _ suffix => readPair_inline r _ _ suffix hk hkl hvl⟩
    have h1 := (hinv.append (encKey (keyOf w p.1) false)).append (encValue (valOf w p.2))
    by_cases hs : shouldStoreOol (w.values.getD p.2 ([], 0)).1 (w.values.getD p.2 ([], 0)).2 = true
    · rw [if_pos hs, ← List.length_append]
      exact h1.set p.2 (st.out ++ encKey (keyOf w p.1) false) [] (List.append_nil _).symm
    · rw [if_neg hs]; exact h1
  · -- stored as a reference to the copy the invariant knows of
    rw [if_neg hnone]
    obtain ⟨a, b, h1, h2⟩ := hinv p.2 hnone
    refine ⟨encKey (keyOf w p.1) true ++ encValueOol (st.ool.getD p.2 NONE64), (List.append_assoc ..),
      (hinv.append _).append _, ?_⟩
    intro ⟨tail, hkv⟩ suffix
    rw [h1, List.append_assoc, List.append_assoc] at hkv
    have hal : a.length ≤ r.kv.length := by rw [← hkv, List.length_append]; exact Nat.le_add_right _ _
    rw [h2]
    exact readPair_ool r _ _ suffix a (b ++ tail) _ a.length hk hkl hvl (hr.inv _ hal)
      (by rw [← hkv, List.append_assoc]) rfl (hr.off _ hal) (hr.lt _ hal)

theorem writePairs_spec {refOf : Nat → Nat} (r : XReader) (hr : RefOk refOf r.posOf r.kv.length) (w : XWriter) :
    ∀ (ps : List (Nat × Nat)) (st : KvSt), OolInv refOf w st → (∀ p ∈ ps, PairOk w p) →
      ∃ d, (ps.foldl (writePair refOf w) st).out = st.out ++ d ∧ OolInv refOf w (ps.foldl (writePair refOf w) st) ∧
        (st.out ++ d <+: r.kv → ∀ suffix,
          readPairs r ps.length (d ++ suffix) = .ok (ps.map (fun p => (keyOf w p.1, valOf w p.2)))) := by
  intro ps
  induction ps with
  | nil => intro st hinv _; exact ⟨[], (List.append_nil _).symm, hinv, fun _ _ => rfl⟩
  | cons p ps ih =>
    intro st hinv hall
    obtain ⟨d1, e1, i1, r1⟩ := writePair_spec r hr w st p hinv (hall p (List.mem_cons_self ..))
    obtain ⟨d2, e2, i2, r2⟩ := ih (writePair refOf w st p) i1 (fun x hx => hall x (List.mem_cons_of_mem _ hx))
    rw [e1, List.append_assoc] at e2
    refine ⟨d1 ++ d2, e2, i2, fun hpre suffix => ?_⟩
    simp only [List.length_cons, readPairs, List.map_cons, List.append_assoc]
    rw [r1 ((List.prefix_append ..).trans hpre) (d2 ++ suffix)]
    simp only
    rw [r2 (by rw [e1, List.append_assoc]; exact hpre) suffix]

theorem writeBlocks_spec {refOf : Nat → Nat} (r : XReader) (hr : RefOk refOf r.posOf r.kv.length) (w : XWriter) :
    ∀ (bs : List (Nat × Nat)) (st : KvSt), OolInv refOf w st → (∀ b ∈ bs, ∀ p ∈ blockPairs w.pairs b, PairOk w p) →
      ∃ d, (writeBlocks refOf w st bs).1.out = st.out ++ d ∧ (writeBlocks refOf w st bs).2.length = bs.length ∧
        ∀ tail, r.kv = st.out ++ d ++ tail →
          ∀ (j : Nat) (b : Nat × Nat) (ds : XDesc), bs[j]? = some b → (writeBlocks refOf w st bs).2[j]? = some ds →
            ds.count = b.2 ∧ ds.size ≤ d.length ∧ ∃ pos, pos ≤ r.kv.length ∧ ds.ref = refOf pos ∧
              readPairs r (blockPairs w.pairs b).length (r.kv.drop pos)
                = .ok ((blockPairs w.pairs b).map (fun p => (keyOf w p.1, valOf w p.2))) := by
  intro bs
  induction bs with
  | nil => intro st _ _; exact ⟨[], (List.append_nil _).symm, rfl, by intro _ _ j b ds hb; simp at hb⟩
  | cons b bs ih =>
    intro st hinv hall
    obtain ⟨d1, e1, i1, r1⟩ := writePairs_spec r hr w (blockPairs w.pairs b) st hinv (hall b (List.mem_cons_self ..))
    obtain ⟨d2, e2, l2, r2⟩ := ih ((blockPairs w.pairs b).foldl (writePair refOf w) st) i1
      (fun x hx => hall x (List.mem_cons_of_mem _ hx))
    rw [e1] at e2 r2
    refine ⟨d1 ++ d2, by rw [← List.append_assoc]; exact e2, congrArg (· + 1) l2, ?_⟩
    intro tail hkv j b' ds hb hds
    rw [← List.append_assoc] at hkv
    cases j with
    | zero =>
      cases hb
      cases hds
      refine ⟨rfl, ?_, st.out.length, ?_, rfl, ?_⟩
      · simp only [e1, List.length_append, Nat.add_sub_cancel_left]; exact Nat.le_add_right _ _
      · simp only [hkv, List.length_append, Nat.add_assoc]; exact Nat.le_add_right _ _
      · rw [hkv, List.append_assoc, List.append_assoc, List.drop_left]
        exact r1 ⟨d2 ++ tail, by simp only [hkv, List.append_assoc]⟩ (d2 ++ tail)
    | succ j =>
      obtain ⟨c1, c2, c3⟩ := r2 tail hkv j b' ds hb hds
      exact ⟨c1, Nat.le_trans c2 (by rw [List.length_append]; exact Nat.le_add_left _ _), c3⟩

end Sqfs.Enc
