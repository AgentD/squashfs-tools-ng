/-
C02, `packRef = specPack`: the block writer's history against `specPack`'s.  `Hist ps H`: the abstract view `ps`
of the writer state (Proofs/BlockWriter.lean: entries with their payloads) carries, entry by entry, the size word,
checksum and payload of the `Stored` values of `H`.  Under it `deduplicate_blocks` is `Pack.placeBlocks`.
-/
import Sqfs.Proofs.BlockWriterSpec
import Sqfs.Proofs.PackStep
import Sqfs.Model.BlockProc
namespace Sqfs.BlockProc
open Sqfs.Consts
open Sqfs.BlockWriter (hasFlag PE Abs MatchAt)

/-- the C value of the size word of a stored block -/
def wordOf (s : Sqfs.Pack.Stored) : Nat := if s.raw then s.data.length ||| (1 <<< 24) else s.data.length

theorem rawBit_eq : Sqfs.Pack.rawBit = 1 <<< 24 := by decide

theorem stored_toNat (n : Nat) (raw : Bool) :
    (Sqfs.Pack.Word.stored n raw).toNat = if raw then n ||| (1 <<< 24) else n := by
  unfold Sqfs.Pack.Word.toNat
  cases raw <;> simp [rawBit_eq]

theorem wordOf_toNat (s : Sqfs.Pack.Stored) : s.word.toNat = wordOf s := stored_toNat s.data.length s.raw

def sview (s : Sqfs.Pack.Stored) : Nat × UInt32 × Bytes := (wordOf s, s.cksum, s.data)
def pview (p : PE) : Nat × UInt32 × Bytes := (p.1.word, p.1.chk, p.2)

/-- every payload fits the 24-bit size field -/
def HOK (H : List Sqfs.Pack.Stored) : Prop := ∀ s ∈ H, s.data.length < 2 ^ 24

/-- a stored block is read back off its view: the raw bit is bit 24 of the size word -/
def unview (v : Nat × UInt32 × Bytes) : Sqfs.Pack.Stored := ⟨decide (2 ^ 24 ≤ v.1), v.2.1, v.2.2⟩

theorem unview_sview {s : Sqfs.Pack.Stored} (hs : s.data.length < 2 ^ 24) : unview (sview s) = s := by
  obtain ⟨r, c, d⟩ := s
  cases r
  · exact congrArg (Sqfs.Pack.Stored.mk · c d) (decide_eq_false (Nat.not_le.mpr hs))
  · exact congrArg (Sqfs.Pack.Stored.mk · c d) (decide_eq_true Nat.right_le_or)

theorem map_sview_inj {a b : List Sqfs.Pack.Stored} (ha : HOK a) (hb : HOK b) (h : a.map sview = b.map sview) : a = b := by
  have hback : ∀ l, HOK l → (l.map sview).map unview = l := fun l hl => by
    rw [List.map_map]; exact (List.map_congr_left fun s hs => unview_sview (hl s hs)).trans (List.map_id _)
  rw [← hback a ha, h, hback b hb]

theorem HOK.append {a b : List Sqfs.Pack.Stored} (ha : HOK a) (hb : HOK b) : HOK (a ++ b) := by
  intro s hs
  rcases List.mem_append.mp hs with h | h
  · exact ha s h
  · exact hb s h

theorem HOK.take {a : List Sqfs.Pack.Stored} (ha : HOK a) (n : Nat) : HOK (a.take n) :=
  fun s hs => ha s (List.mem_of_mem_take hs)

theorem HOK.drop {a : List Sqfs.Pack.Stored} (ha : HOK a) (n : Nat) : HOK (a.drop n) :=
  fun s hs => ha s (List.mem_of_mem_drop hs)

def Hist (ps : List PE) (H : List Sqfs.Pack.Stored) : Prop := ps.map pview = H.map sview

theorem Hist.length {ps H} (h : Hist ps H) : ps.length = H.length := by
  have := congrArg List.length h
  simpa using this

theorem Hist.take {ps H} (h : Hist ps H) (n : Nat) : Hist (ps.take n) (H.take n) := by
  unfold Hist at *; rw [List.map_take, List.map_take, h]

theorem Hist.drop {ps H} (h : Hist ps H) (n : Nat) : Hist (ps.drop n) (H.drop n) := by
  unfold Hist at *; rw [List.map_drop, List.map_drop, h]

theorem Hist.append {ps H qs K} (h : Hist ps H) (k : Hist qs K) : Hist (ps ++ qs) (H ++ K) := by
  unfold Hist at *; rw [List.map_append, List.map_append, h, k]

theorem Hist.payloads {ps H} (h : Hist ps H) : ps.map (·.2) = H.map (·.data) := by
  have := congrArg (List.map (fun v : Nat × UInt32 × Bytes => v.2.2)) h
  simpa [List.map_map, Function.comp_def, pview, sview] using this

theorem Hist.bytes {ps H} (h : Hist ps H) : BlockWriter.bytesOf ps = Sqfs.Pack.areaOf H := by
  rw [BlockWriter.bytesOf_eq_flatten, h.payloads, Sqfs.Pack.areaOf, List.flatMap_def]

theorem Hist.bytesLen {ps H} (h : Hist ps H) : (BlockWriter.bytesOf ps).length = Sqfs.Pack.bytesOf H := by
  rw [h.bytes, Sqfs.Pack.areaOf_length]

/-- a `pview` is the writer's key and the payload side by side -/
theorem map_pview (xs : List PE) :
    xs.map pview = List.zipWith (fun k d => (k.1, k.2, d)) (xs.map BlockWriter.pkey) (xs.map (·.2)) := by
  rw [List.zipWith_map, List.zipWith_self]; rfl

/-- the writer's match test (`MatchAt`: words, checksums and bytes of the run at `r` equal the file's) is `findMatch`'s -/
theorem matchAt_iff {pre : Bytes} {s : BlockWriter.State} {ps : List PE} (habs : Abs pre s ps) {hs mine : List Sqfs.Pack.Stored}
    (hh : Hist ps (hs ++ mine)) (hok : HOK (hs ++ mine)) (r : Nat) :
    MatchAt ps hs.length mine.length r ↔ ((hs ++ mine).drop r).take mine.length = mine := by
  have e1 : Hist ((ps.drop r).take mine.length) (((hs ++ mine).drop r).take mine.length) := (hh.drop r).take _
  have e2 : Hist (ps.drop hs.length) mine := by
    have := hh.drop hs.length; rwa [List.drop_left] at this
  constructor
  · -- the words give the lengths, lengths and concatenation the payloads; keys and payloads are the `pview`s
    rintro ⟨hk, hb⟩
    have hlen := BlockWriter.Offs_words_lengths _ _ _ _
      (BlockWriter.Offs_take _ _ mine.length (BlockWriter.Offs_drop pre.length ps r habs.offs))
      (BlockWriter.Offs_drop pre.length ps hs.length habs.offs) (BlockWriter.words_of_pkeys hk)
    refine map_sview_inj ((hok.drop r).take _) (fun x hx => hok x (List.mem_append_right _ hx)) ?_
    rw [← e1, ← e2, map_pview, map_pview, hk, BlockWriter.payloads_eq _ _ hlen hb]
  · intro h
    have hk : ((ps.drop r).take mine.length).map pview = (ps.drop hs.length).map pview := by rw [e1, e2, h]
    replace hk := congrArg (List.map fun v : Nat × UInt32 × Bytes => (v.1, v.2.1)) hk
    rw [List.map_map, List.map_map] at hk
    exact ⟨hk, by rw [e1.bytes, e2.bytes, h]⟩

theorem Hist.off {ps : List PE} {H : List Sqfs.Pack.Stored} (hh : Hist ps H) (pre : Bytes) (i : Nat) :
    BlockWriter.off pre ps i = pre.length + Sqfs.Pack.bytesOf (H.take i) := by
  unfold BlockWriter.off
  rw [(hh.take i).bytesLen]

/-- **`deduplicate_blocks` is `placeBlocks`** (file start at entry `|hs|`, the file's own entries `mine` behind it) -/
theorem dedup_place {pre : Bytes} {s : BlockWriter.State} {ps : List PE} (habs : Abs pre s ps) {hs mine : List Sqfs.Pack.Stored}
    (hh : Hist ps (hs ++ mine)) (hok : HOK (hs ++ mine)) (hfs : s.fileStart = hs.length) (flags : Nat) :
    ∃ s' ps', BlockWriter.deduplicateBlocks s flags =
        .ok (s', (Sqfs.Pack.placeBlocks pre.length (hasFlag flags blkDontDeduplicate) hs mine).2.1) ∧
      Abs pre s' ps' ∧ Hist ps' (Sqfs.Pack.placeBlocks pre.length (hasFlag flags blkDontDeduplicate) hs mine).1 ∧
      s'.fileStart = s.fileStart := by
  obtain ⟨s', loc, ps', hd, habs', hkeep, hout⟩ := BlockWriter.dedup_explicit pre s ps habs flags
  have hcount : ps.length - hs.length = mine.length := by rw [hh.length, List.length_append, Nat.add_sub_cancel_left]
  have htk : (hs ++ mine).take hs.length = hs := List.take_left
  rw [hd]
  unfold BlockWriter.DedupOut at hout
  rw [hfs, hcount] at hout
  unfold Sqfs.Pack.placeBlocks
  rcases hout with ⟨hc, hp, hloc⟩ | ⟨hc, hdd, hp, hloc⟩ | ⟨hc, hdd, r, hr, hm, hmin, hloc, hp⟩
  · subst hp
    rw [List.eq_nil_of_length_eq_zero hc, List.append_nil] at hh
    rw [if_pos (List.eq_nil_of_length_eq_zero hc), hloc]
    exact ⟨s', _, rfl, habs', hh, hkeep⟩
  · subst hp
    rw [if_neg (List.ne_nil_of_length_pos hc), hdd, if_pos rfl, hloc, hh.off, htk]
    exact ⟨s', _, rfl, habs', hh, hkeep⟩
  · rw [if_neg (List.ne_nil_of_length_pos hc), hdd, if_neg Bool.false_ne_true]
    have hfind : Sqfs.Pack.findMatch hs mine = if r < hs.length then some r else none := by
      apply BlockWriter.find?_range_eq _ _ r
      · intro hlt; exact beq_iff_eq.mpr ((matchAt_iff habs hh hok r).1 (hm hlt))
      · intro k hk
        exact Bool.eq_false_iff.mpr (fun h => hmin k hk ((matchAt_iff habs hh hok k).2 (beq_iff_eq.mp h)))
    rw [hfind, hloc, hh.off]
    by_cases hlt : r < hs.length
    · rw [if_pos hlt] at hp ⊢
      subst hp
      rw [List.take_append_of_le_length (Nat.le_of_lt hlt)]
      exact ⟨s', _, rfl, habs', hh.take _, hkeep⟩
    · rw [if_neg hlt] at hp ⊢
      subst hp
      rw [Nat.le_antisymm hr (Nat.le_of_not_lt hlt), htk]
      exact ⟨s', _, rfl, habs', hh, hkeep⟩

end Sqfs.BlockProc
