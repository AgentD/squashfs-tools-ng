/-
C02 (failing compressor): the front end, `sync`, `finish` and the run over two pool
behaviours that agree where `G` holds (see BPFailStep.lean).
-/
import Sqfs.Proofs.BPFailStep
import Sqfs.Proofs.BPEndSubmit
import Sqfs.Proofs.BPFailPool
namespace Sqfs.BlockProc

section
variable {P : Params} {a : PoolSt → Pool.Op → Pool.Ret} {G : PoolSt → Prop}

theorem getNewBlockGo_tr (H : Agrees P a G) (fuel : Nat) (s : Proc) :
    Tr G s.pool (getNewBlockGo (withAns P a) fuel s) (getNewBlockGo P fuel s) := by
  induction fuel generalizing s with
  | zero => exact Tr.error
  | succ n ih =>
    simp only [getNewBlockGo]
    exact Tr.ite (fun _ => Tr.bind (dequeueBlock_tr H s) fun s1 _ => ih s1) fun _ => Tr.ok rfl

theorem getNewBlock_tr (H : Agrees P a G) (s : Proc) : Tr G s.pool (getNewBlock (withAns P a) s) (getNewBlock P s) :=
  getNewBlockGo_tr H _ _

theorem addSentinelBlock_tr (H : Agrees P a G) (s : Proc) :
    Tr G s.pool (addSentinelBlock (withAns P a) s) (addSentinelBlock P s) := by
  unfold addSentinelBlock
  exact Tr.bind (getNewBlock_tr H s) fun s1 _ => enqueueBlock_tr H _ _

theorem appendGo_tr (H : Agrees P a G) (fuel : Nat) (s : Proc) (data : Bytes) :
    Tr G s.pool (appendGo (withAns P a) fuel s data) (appendGo P fuel s data) := by
  induction fuel generalizing s data with
  | zero => exact Tr.error
  | succ n ih =>
    simp only [appendGo]
    cases s.blkCurrent with
    | none =>
      exact Tr.ite (fun _ => Tr.error) fun _ => Tr.bind (getNewBlock_tr H s) fun s1 _ => ih _ _
    | some cur =>
      refine Tr.ite (fun _ => Tr.ite (fun _ => enqueueBlock_tr H _ _) fun _ => Tr.ok rfl) fun _ => ?_
      exact Tr.ite (fun _ => Tr.bind (enqueueBlock_tr H _ _) fun s1 _ => ih _ _) fun _ => ih _ _

theorem append_tr (H : Agrees P a G) (s : Proc) (data : Bytes) :
    Tr G s.pool (append (withAns P a) s data) (append P s data) := by
  unfold append
  exact Tr.ite (fun _ => Tr.error) fun _ => appendGo_tr H _ _ _

theorem endSubmit_tr (H : Agrees P a G) (s : Proc) : Tr G s.pool (endSubmit (withAns P a) s) (endSubmit P s) := by
  unfold endSubmit
  refine Tr.bind (Tr.ite (fun _ => addSentinelBlock_tr H s) fun _ => Tr.ok rfl) fun s1 _ => ?_
  cases feEndCur s.fe with
  | none => exact Tr.ok rfl
  | some y => exact enqueueBlock_tr H _ _

theorem endFile_tr (H : Agrees P a G) (s : Proc) : Tr G s.pool (endFile (withAns P a) s) (endFile P s) := by
  rw [endFile_eq, endFile_eq]
  exact Tr.ite (fun _ => Tr.error) fun _ => Tr.bind (endSubmit_tr H s) fun s2 _ => Tr.ok rfl

theorem syncGo_tr (H : Agrees P a G) (fuel : Nat) (s : Proc) :
    Tr G s.pool (syncGo (withAns P a) fuel s) (syncGo P fuel s) := by
  induction fuel generalizing s with
  | zero => exact Tr.error
  | succ n ih =>
    simp only [syncGo]
    exact Tr.ite (fun _ => Tr.ok rfl) fun _ => Tr.ite (fun _ => Tr.ok rfl) fun _ =>
      Tr.bind (dequeueBlock_tr H s) fun s1 _ => ih s1

theorem syncDrain_tr (H : Agrees P a G) (s : Proc) : Tr G s.pool (syncDrain (withAns P a) s) (syncDrain P s) :=
  syncGo_tr H _ _

theorem beginFile_pool (s : Proc) (flags : Nat) (s1 : Proc) (h : beginFile s flags = .ok s1) : s1.pool = s.pool := by
  revert h
  fun_cases beginFile s flags <;> intro h <;> cases h
  rfl

theorem packFile_tr (H : Agrees P a G) (s : Proc) (f : InFile) :
    Tr G s.pool (packFile (withAns P a) s f) (packFile P s f) := by
  unfold packFile
  refine Tr.bind (Tr.same fun _ => beginFile_pool _ _ _) fun s1 _ => ?_
  simp only [Bool.false_eq_true, if_false]
  exact Tr.bind (Tr.ite (fun _ => Tr.ok rfl) fun _ => append_tr H _ _) fun s2 _ => endFile_tr H s2

theorem packFiles_tr (H : Agrees P a G) (files : List InFile) (s : Proc) :
    Tr G s.pool (packFiles (withAns P a) s files) (packFiles P s files) := by
  induction files generalizing s with
  | nil => exact Tr.ok rfl
  | cons f fs ih =>
    simp only [packFiles]
    exact Tr.bind (packFile_tr H s f) fun s1 _ => ih s1

/-! ### `sync` / `finish`: the status check is the third place where the pool is consulted; a successful one gives `G` -/

theorem sync_tr (H : Agrees P a G) (s : Proc) : Tr G s.pool (sync (withAns P a) s) (sync P s) := by
  unfold sync
  refine Tr.bind (syncDrain_tr H s) fun s1 _ => ?_
  intro s' h hg
  by_cases h0 : (poolStatus (withAns P a) s1.pool).2 = 0
  · rw [if_neg (not_not_intro h0)] at h
    cases h
    -- `G` after the call gives `G` before it, where both pools answer the same
    have g1 : G s1.pool := H.ofSame _ _ hg
    rw [poolStatus_snd H _ g1] at h0
    exact ⟨g1, by rw [if_neg (not_not_intro h0)]; rfl⟩
  · rw [if_pos h0] at h; cases h

theorem finish_tr (H : Agrees P a G) (s : Proc) : Tr G s.pool (finish (withAns P a) s) (finish P s) := by
  unfold finish
  refine Tr.bind (sync_tr H s) fun s1 _ => ?_
  cases s1.fragBlock with
  | none => exact Tr.ok rfl
  | some fb => exact Tr.bind (enqueueBlock_tr H _ _) fun s2 _ => sync_tr H s2

theorem sync_checked (H : Agrees P a G) {s s' : Proc} (h : sync (withAns P a) s = .ok s') : G s'.pool := by
  unfold sync at h
  split at h
  · cases h
  · split at h
    · cases h
    · rename_i h0
      cases h
      exact H.ofStatus _ (Decidable.not_not.1 h0)

/-- a successful `finish` ends with a `sync` -/
theorem finish_checked (H : Agrees P a G) {s s' : Proc} (h : finish (withAns P a) s = .ok s') : G s'.pool := by
  unfold finish at h
  split at h
  · cases h
  · rename_i s1 h1
    split at h
    · cases h; exact sync_checked H h1
    · split at h
      · cases h
      · exact sync_checked H h

theorem runProc_tr (H : Agrees P a G)
    (mb : Nat) (files : List InFile) (s' : Proc) (h : runProc (withAns P a) mb files = .ok s') :
    G s'.pool ∧ runProc P mb files = .ok s' := by
  have hg : G s'.pool := by
    unfold runProc at h
    split at h
    · cases h
    · exact finish_checked H h
  exact ⟨hg, ((Tr.bind (packFiles_tr H files _) fun s1 _ => finish_tr H s1) s' h hg).2⟩

/-- if the run over `P.ans` ends in a pool state where `G` fails, the run over `a` is an error -/
theorem run_error_of_not (H : Agrees P a G) (mb : Nat) (files : List InFile) (s₀ : Proc)
    (h₀ : runProc P mb files = .ok s₀) (hn : ¬ G s₀.pool) : ∃ e, run (withAns P a) mb files = .error e := by
  unfold run
  cases hp : runProc (withAns P a) mb files with
  | error e => exact ⟨e, rfl⟩
  | ok s =>
    obtain ⟨hg, he⟩ := runProc_tr H mb files s hp
    rw [h₀] at he
    cases he
    exact absurd hg hn

end

/-- the failing serial pool against the healthy one, `G` = no callback has failed so far -/
theorem healthy_agrees (P : Params) (hP : P.ans = serialAns) (fails : Bytes → Bool) (rc : Int) :
    Agrees P (failSerialAns fails rc) (Healthy fails rc) where
  agree p op hg := by rw [hP]; exact hg.agree op
  ofSubmit p b hg := hg.of_submit b
  ofSame p op hg := hg.of_same op
  ofStatus p hp := by
    simp only [poolStatus, failSerialAns_status] at hp
    exact Healthy.record_status hp

end Sqfs.BlockProc
