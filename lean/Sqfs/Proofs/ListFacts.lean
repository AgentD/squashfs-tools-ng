/-
Small facts about lists and `Except` that more than one tower needs.  Core Lean only.
-/
namespace List

theorem forall_mem_snoc {α} {p : α → Prop} {l : List α} {a : α} (hl : ∀ x ∈ l, p x) (ha : p a) : ∀ x ∈ l ++ [a], p x :=
  forall_mem_append.2 ⟨hl, forall_mem_singleton.2 ha⟩

theorem getElem?_append_some {α} {l r : List α} {k : Nat} {a : α} (h : l[k]? = some a) : (l ++ r)[k]? = some a := by
  rw [getElem?_append_left (getElem?_eq_some_iff.1 h).1]; exact h

theorem nodup_snoc {α} {l : List α} {a : α} (h : l.Nodup) (ha : a ∉ l) : (l ++ [a]).Nodup :=
  nodup_append.mpr ⟨h, pairwise_singleton _ a, fun _ hx _ hy e => ha (mem_singleton.mp hy ▸ e ▸ hx)⟩

theorem inj_of_nodup_map {α β} {f : α → β} {l : List α} (h : (l.map f).Nodup) {x y : α}
    (hx : x ∈ l) (hy : y ∈ l) (hf : f x = f y) : x = y := by
  induction l with
  | nil => cases hx
  | cons a as ih =>
    rw [map_cons, nodup_cons] at h
    rcases mem_cons.1 hx with rfl | hx' <;> rcases mem_cons.1 hy with rfl | hy'
    · rfl
    · exact absurd (hf ▸ mem_map_of_mem hy') h.1
    · exact absurd (hf ▸ mem_map_of_mem hx') h.1
    · exact ih h.2 hx' hy'

end List

theorem Except.ite_error_eq_ok {ε α : Type} {c : Prop} [Decidable c] {e : ε} {x : Except ε α} {t : α} :
    (if c then .error e else x) = .ok t ↔ ¬ c ∧ x = .ok t := by
  by_cases h : c <;> simp [h]
