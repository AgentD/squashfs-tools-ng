/-
A value below `2 ^ i` with a flag at bit `i` (bit 24 of a data block's size word, bit 15 of a metadata block's header,
the type bits above the permission bits of a mode): setting the flag adds it, and the two parts are read back by
`&&& 2 ^ i` and `% 2 ^ i`; and the test of a mask in a flag word.  For `st_mode`: the permission bits (mask 07777) do not
reach the type bits (`S_IFMT`, mask 0170000), whichever `isType` a tree model has.  Core `Nat` only.
-/
namespace Nat

theorem or_two_pow_of_lt {x i : Nat} (h : x < 2 ^ i) : x ||| 2 ^ i = 2 ^ i + x := by
  rw [Nat.or_comm, ← Nat.mul_one (2 ^ i)]
  exact (Nat.two_pow_add_eq_or_of_lt h 1).symm

theorem or_mul_two_pow_of_lt {x i : Nat} (h : x < 2 ^ i) (k : Nat) : x ||| k * 2 ^ i = k * 2 ^ i + x := by
  rw [Nat.or_comm, Nat.mul_comm]
  exact (Nat.two_pow_add_eq_or_of_lt h k).symm

theorem and_two_pow_of_lt {x i : Nat} (h : x < 2 ^ i) : x &&& 2 ^ i = 0 := by
  apply Nat.eq_of_testBit_eq
  intro j
  rw [Nat.testBit_and, Nat.testBit_two_pow, Nat.zero_testBit]
  by_cases hj : i = j
  · subst hj; rw [Nat.testBit_lt_two_pow h]; rfl
  · rw [decide_eq_false hj, Bool.and_false]

theorem or_two_pow_and_two_pow (x i : Nat) : (x ||| 2 ^ i) &&& 2 ^ i = 2 ^ i := by
  apply Nat.eq_of_testBit_eq
  intro j
  rw [Nat.testBit_and, Nat.testBit_or]
  cases (2 ^ i).testBit j
  · rw [Bool.and_false]
  · rw [Bool.or_true, Bool.and_true]

theorem or_two_pow_mod {x i : Nat} (h : x < 2 ^ i) : (x ||| 2 ^ i) % 2 ^ i = x := by
  rw [Nat.or_mod_two_pow, Nat.mod_self, Nat.or_zero, Nat.mod_eq_of_lt h]

/-- testing a mask in an OR of two flag words (every model's `hasFlag`/`testBit` is `w &&& c != 0`) -/
theorem or_and_bne_zero (a b c : Nat) : ((a ||| b) &&& c != 0) = ((a &&& c != 0) || (b &&& c != 0)) := by
  rw [Nat.and_or_distrib_right, Bool.eq_iff_iff]
  simp only [bne_iff_ne, ne_eq, Nat.or_eq_zero_iff, Bool.or_eq_true, Classical.not_and_iff_not_or_not]

end Nat

namespace Sqfs

theorem mask_perm (p K : Nat) (hp : p < 4096) : (p ||| K) &&& 61440 = K &&& 61440 := by
  apply Nat.eq_of_testBit_eq
  intro i
  have e : (61440 : Nat) = 15 <<< 12 := by decide
  simp only [Nat.testBit_and, Nat.testBit_or, e, Nat.testBit_shiftLeft]
  by_cases hi : 12 ≤ i
  · have : p.testBit i = false :=
      Nat.testBit_lt_two_pow (Nat.lt_of_lt_of_le hp (by
        have : (4096 : Nat) = 2 ^ 12 := by decide
        rw [this]
        exact Nat.pow_le_pow_right (by omega) hi))
    simp [this]
  · simp [hi]

end Sqfs
