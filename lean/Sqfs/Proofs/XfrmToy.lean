/-
C15 — non-vacuity of every contract of `Sqfs/Spec/XfrmContract.lean`: the toy codec of `Sqfs/Model/Xfrm.lean` (an encoding and a
decoding engine with an internal queue and limited intake and output) meets them behind all three interfaces — as a codec, as a
zlib / liblzma / libbz2 style library under each backend's return codes (`lzmaLikeEnc/Dec` answer `FLUSH_SYNC` like liblzma) and as a
libzstd style library — and each decoder also meets its convention for input that has gone wrong (`dec…ErrContract`).  What the
engines compute is in `XfrmToyEngine`.
-/
import Sqfs.Proofs.XfrmToyEngine
import Sqfs.Proofs.XfrmOStream
import Sqfs.Proofs.XfrmIStream
import Sqfs.Proofs.XfrmSync
namespace Sqfs.Xfrm
namespace Toy

def encContract (P : Params) : EncContract (encoder P) decode :=
  .ofPost EncR encPend EncR_init fun {s x y fin} inp room fl hR hP => by
    obtain ⟨h1, h2, h3, h4, h5, h6⟩ := encStep_spec P inp room fl hR hP _ rfl
    refine ⟨h1, h2, h3, h4, fun he => ?_, h6⟩
    obtain ⟨a, b, c, d⟩ := h5 he
    exact ⟨a, b, by show EncR (encStep P s inp room fl).st [] [] false; rw [c]; exact EncR_init, fun _ => d⟩

theorem decStep_post (P : Params) {s : Dec} {u v : Bytes} (w x tail inp : Bytes) (room : Nat) (fl : Flush) (hR : DecR s u v)
    (hd : decode (u ++ w) = some x) (hin : IsPre inp (w ++ tail)) :
    DecPost DecR decPend s u v w x inp room fl ((decoder P).step s inp room fl) := by
  by_cases hr : 0 < room
  · have hS := decCore_spec P hR hd inp tail hin room _ rfl
    have hcm := hS.m_eq
    obtain ⟨htl, hpre, hend, hkeep⟩ := hS.after
    have hprog := hS.progress hr
    have hdrain := hS.drain hr
    rw [decStep_eq P inp fl hr hR.1 _ rfl hS.good]
    generalize decCore P s inp room = c at *
    cases he : decEnd c with
    | true =>
      rw [if_pos rfl]
      refine Or.inr ⟨⟨by simp, hS.n_le_inp, hS.n_le, htl, hpre, fun _ => ⟨(hend.1 he).1, (hend.1 he).2, DecR_fresh⟩, fun h => absurd rfl h,
        fun h => (by cases h)⟩, fun _ hne => ?_, fun _ _ _ => Or.inr rfl⟩
      have := hprog hne
      rwa [decAfter_end he] at this
    | false =>
      rw [if_neg (by simp)]
      by_cases h2 : fl = Flush.full ∧ c.n = inp.length ∧ c.m = 0
      · -- the end-of-input rule: the member is cut off, since a call that completes it hands something out or ends it
        obtain ⟨hfull, hn, hm⟩ := h2
        rw [if_pos (by simp [hfull, hn, hm])]
        have hshort : inp.length < w.length := by
          by_cases hlt : inp.length < w.length
          · exact hlt
          · rcases hdrain (by have := hS.n_le; omega) with h | h
            · rw [hm, List.take_zero] at h; exact absurd rfl h
            · rw [he] at h; cases h
        cases hf : c.fresh with
        | true => exact Or.inl ⟨hfull, hshort, hn, Or.inr ⟨by simp, hS.fresh_nil hf⟩, fun hu => absurd (hS.fresh_nil hf).1 hu⟩
        | false => exact Or.inl ⟨hfull, hshort, hn, Or.inl (by simp), fun _ => by simp⟩
      · rw [if_neg (by simpa [and_assoc] using h2)]
        have hout : 0 < c.m → c.q.take c.m ≠ [] := fun h => take_ne_nil h (List.length_pos_iff.1 (by omega))
        refine Or.inr ⟨⟨by split <;> simp, hS.n_le_inp, hS.n_le, htl, hpre, fun h => ?_, fun _ => hkeep he, fun h => ?_⟩,
          fun _ hne => hprog hne, fun _ hfull hnil => Or.inl (hout ?_)⟩
        · split at h <;> cases h
        · split at h
          · rename_i h3
            simp only [Bool.and_eq_true, decide_eq_true_eq] at h3
            exact hout (by omega)
          · cases h
        · have := hS.n_le_inp
          rw [hnil] at this h2
          exact Nat.pos_of_ne_zero fun hm => h2 ⟨hfull, by simpa using this, hm⟩
  · have : room = 0 := by omega
    subst this
    rw [decStep_room0]
    refine Or.inr ⟨⟨by simp, Nat.zero_le _, Nat.zero_le _, by simp, ?_, fun h => (by cases h), fun _ => by simpa using hR,
      fun h => (by cases h)⟩, fun h => absurd h (Nat.lt_irrefl 0), fun h => absurd h (Nat.lt_irrefl 0)⟩
    obtain ⟨z, hz⟩ := (DecR_facts hR hd).1
    exact ⟨s.q ++ z, by simp [hz, List.append_assoc]⟩

def decContract (P : Params) : DecContract (decoder P) decode where
  R := DecR
  pend := decPend
  init := DecR_fresh
  dec_nil := by simp [decode]
  valid := fun w x tail inp room fl _ hR hd hin hfl => ((decStep_post P w x tail inp room fl hR hd hin).ok hfl).1
  progress := fun w x tail inp room fl _ hR hd hin hfl hr hne => ((decStep_post P w x tail inp room fl hR hd hin).ok hfl).2.1 hr hne
  drain := fun x room hR hd hr =>
    ((decStep_post P [] x [] [] room Flush.full hR (by simpa using hd) (IsPre.nil _)).ok fun _ => Nat.le_refl _).2.2 hr rfl rfl
  idle_eof := by
    intro s room hR hr
    obtain ⟨hb, hc⟩ := decCore_idle P hR room
    rw [decStep_eq P [] Flush.full hr hb _ rfl (by rw [hc]), hc]
    simp [decEnd, DecR_fresh]
  truncated := fun w x room hR hu hw hd hr => (decStep_post P w x [] [] room Flush.full hR hd (IsPre.nil _)).truncated hu hw hr

def encLibContract (P : Params) (b : Backend) : LibEncContract (encLib P b) b decode where
  R s x y fin := EncR s.eng x y fin
  pend s := encPend s.eng
  init := EncR_init
  mono := fun h => ⟨h.1, fun _ => rfl⟩
  ret_ok := by
    intro s x y fin inp room fl _ _ _
    rw [encLib_ret]
    split
    · exact Or.inr (Or.inl rfl)
    · exact (libRet_cases b _).imp_right Or.inr
  consumed_le := fun inp room fl hR hP _ => (encStep_spec P inp room fl hR hP _ rfl).2.1
  out_le := fun inp room fl hR hP _ => (encStep_spec P inp room fl hR hP _ rfl).2.2.1
  keep := fun inp room fl hR hP _ hne =>
    (encStep_spec P inp room fl hR hP _ rfl).2.2.2.1 (fun he => hne ((encLib_end_iff P b _ inp room fl).2 he))
  finish := by
    intro s x y fin inp room fl hR hP _ he
    obtain ⟨f1, f2, _, f4⟩ := (encStep_spec P inp room fl hR hP _ rfl).2.2.2.2.1 ((encLib_end_iff P b s inp room fl).1 he)
    exact ⟨f1, f2, EncR_init, fun _ => f4⟩
  progress := fun inp room fl hR hP hr hin hne =>
    (encStep_spec P inp room fl hR hP _ rfl).2.2.2.2.2 hr hin (fun he => hne ((encLib_end_iff P b _ inp room fl).2 he))
  bytes := fun {s} _ _ _ inp room fl _ _ hr hwork hok =>
    enc_not_stuck P inp fl hr hwork (Or.inl fun he => by rw [(encLib_end_iff P b s inp room fl).2 he] at hok; cases hok)

def decLibContract (P : Params) (b : Backend) : LibDecContract (decLib P b) b decode where
  R := DecLibR
  pend s := decPend s.eng
  init := ⟨DecR_fresh, rfl⟩
  dec_nil := by simp [decode]
  total := by
    intro s u v hR
    show s.total = 0 ↔ u = []
    rw [hR.2, List.length_eq_zero_iff]
  valid := by
    intro s u v w x tail inp room fl hns hR hd hin hr
    have hS := decCore_spec P hR.1 hd inp tail hin room _ rfl
    obtain ⟨htl, hpre, hend, hkeep⟩ := hS.after
    rw [decLib_call_eq P b s inp room fl hR.1.1 _ rfl hS.good]
    generalize decCore P s.eng inp room = c at *
    cases he : decEnd c with
    | true =>
      exact ⟨Or.inr (Or.inl rfl), hS.n_le_inp, hS.n_le, htl, hpre,
        fun _ => ⟨(hend.1 he).1, (hend.1 he).2, by rw [decAfter_end he]; exact ⟨DecR_fresh, rfl⟩⟩, fun h => absurd rfl h⟩
    | false =>
      refine ⟨(libRet_cases b _).imp_right Or.inr, hS.n_le_inp, hS.n_le, htl, hpre, fun h => absurd h (libRet_ne_end b (c.n = 0 ∧ c.m = 0)),
        fun _ => ⟨hkeep he, ?_⟩⟩
      show s.total + c.n = (u ++ inp.take c.n).length
      rw [hR.2, List.length_append, List.length_take, Nat.min_eq_left hS.n_le_inp]
  bytes := by
    intro s u v w x tail inp room fl hns hR hd hin hr hne hok
    have hS := decCore_spec P hR.1 hd inp tail hin room _ rfl
    rw [decLib_call_eq P b s inp room fl hR.1.1 _ rfl hS.good] at hok ⊢
    cases he : decEnd (decCore P s.eng inp room) with
    | true => rw [he] at hok; cases hok
    | false => exact hS.not_stuck hr hne (Or.inl he)
  progress := by
    intro s u v w x tail inp room fl hns hR hd hin hr hne
    have hS := decCore_spec P hR.1 hd inp tail hin room _ rfl
    have hprog := hS.progress hr hne
    rw [decLib_call_eq P b s inp room fl hR.1.1 _ rfl hS.good]
    generalize decCore P s.eng inp room = c at *
    cases he : decEnd c with
    | true => rw [decAfter_end he] at hprog; simpa [decLib] using hprog
    | false => simpa [libRet_ne_end] using hprog
  buf_quiet := by
    intro s u v w x tail inp room fl hns hR hd hin hr hbuf hout
    have hS := decCore_spec P hR.1 hd inp tail hin room _ rfl
    rw [decLib_call_eq P b s inp room fl hR.1.1 _ rfl hS.good] at hbuf ⊢
    cases he : decEnd (decCore P s.eng inp room) with
    | true => rw [he] at hbuf; cases hbuf
    | false =>
      rw [he] at hbuf
      have hstuck := libRet_buf hbuf
      have hinp : inp = [] := Classical.byContradiction fun hne => by
        have := hS.not_stuck hr hne (Or.inl he)
        rw [hstuck.1, hstuck.2] at this
        exact absurd this (by simp)
      exact ⟨by show (decCore P s.eng inp room).n = inp.length; rw [hstuck.1, hinp]; rfl, Or.inr hinp⟩
  drain := by
    intro s u v w x tail inp room fl hns hR hd hin hr hcw
    have hS := decCore_spec P hR.1 hd inp tail hin room _ rfl
    rw [decLib_call_eq P b s inp room fl hR.1.1 _ rfl hS.good] at hcw ⊢
    rcases hS.drain hr hcw with h | h
    · exact Or.inl h
    · exact Or.inr (by simp [h])
  idle := by
    intro s room fl hns hR hr
    obtain ⟨hb, hc⟩ := decCore_idle P hR.1 room
    rw [decLib_call_eq P b s [] room fl hb _ rfl (by rw [hc]), hc]
    exact ⟨libRet_cases b ((0 : Nat) = 0 ∧ (0 : Nat) = 0), rfl, rfl, ⟨DecR_fresh, by simpa using hR.2⟩⟩

def encZLibContract (P : Params) : ZEncContract (encZLib P) decode where
  R := EncRz
  pend := encPend
  init := ⟨EncR_init, fun h => by cases h⟩
  mono := fun h => ⟨⟨h.1.1, fun _ => rfl⟩, h.2⟩
  ok := fun inp room fl hR hP _ =>
    ⟨rfl, (encStep_spec P inp room fl hR.1 hP _ rfl).2.1, (encStep_spec P inp room fl hR.1 hP _ rfl).2.2.1⟩
  done := by
    intro s x y fin inp room fl hR hP _ hfl hh
    subst hfl
    obtain ⟨_, f2, f3, f4⟩ := (encStep_spec P inp room Flush.full hR.1 hP _ rfl).2.2.2.2.1 ((encZ_done_iff P s inp room).1 hh)
    have f3' : ((encZLib P).call s inp room Flush.full).st = ⟨[], false⟩ := f3
    exact ⟨f2, by rw [f3']; exact ⟨EncR_init, fun h => by cases h⟩, fun _ => f4⟩
  keep := fun inp room fl hR hP _ hnd =>
    ⟨(encStep_spec P inp room fl hR.1 hP _ rfl).2.2.2.1 (encZ_open hR.1 hP hnd), encStep_keeps_queue hR.2 (encZ_open hR.1 hP hnd)⟩
  progress := fun inp room fl hR hP hr hin hnd =>
    (encStep_spec P inp room fl hR.1 hP _ rfl).2.2.2.2.2 hr hin (encZ_open hR.1 hP hnd)
  bytes := fun inp room fl hR _ hr hwork => enc_not_stuck P inp fl hr hwork (Or.inr hR.2)

def decZLibContract (P : Params) : ZDecContract (decZLib P) decode where
  R := DecRz
  init := ⟨DecR_fresh, fun h => by simp [decZLib, decFresh] at h⟩
  dec_nil := by simp [decode]
  valid := by
    intro s u v w x tail inp room fl hR hd hin hr hnz
    have hS := decCore_spec P hR.1 hd inp tail hin room _ rfl
    obtain ⟨htl, hpre, hend, hkeep⟩ := hS.after
    rw [decZLib_call_eq P s inp room fl hR.1.1 _ rfl hS.good]
    generalize decCore P s inp room = c at *
    cases he : decEnd c with
    | true =>
      exact ⟨rfl, hS.n_le_inp, hS.n_le, htl, hpre, ⟨fun _ => hend.1 he, fun _ => rfl⟩,
        fun _ => by rw [decAfter_end he]; exact ⟨DecR_fresh, fun h => by simp [decFresh] at h⟩, fun h => absurd rfl h⟩
    | false =>
      -- the hint is not 0 here: the frame has been begun
      have hfr : c.fresh = false := Bool.eq_false_iff.2 fun hf => hnz.elim (· (hS.fresh_nil hf).1) (· (hS.fresh_nil hf).2)
      have hhint : (if c.fresh && decide ((c.q.drop c.m).length = 0) then 0 else (c.q.drop c.m).length + 1) ≠ 0 := by simp [hfr]
      have hopen := decAfter_open he
      refine ⟨rfl, hS.n_le_inp, hS.n_le, htl, hpre, ⟨fun h => absurd h hhint, fun h => by rw [hend.2 h] at he; cases he⟩,
        fun h => absurd h hhint, fun _ => ⟨hkeep he, ?_⟩⟩
      intro hdone hq
      rw [hopen] at hdone hq
      simp [decEnd, show c.done = true from hdone, show c.q.drop c.m = [] from hq] at he
  bytes := by
    intro s u v w x tail inp room fl hR hd hin hr hne
    have hS := decCore_spec P hR.1 hd inp tail hin room _ rfl
    rw [decZLib_call_eq P s inp room fl hR.1.1 _ rfl hS.good]
    exact hS.not_stuck hr hne (Or.inr hR.2)
  drain := by
    intro s u v w x tail inp room fl hR hd hin hr _ hcw
    have hS := decCore_spec P hR.1 hd inp tail hin room _ rfl
    rw [decZLib_call_eq P s inp room fl hR.1.1 _ rfl hS.good] at hcw ⊢
    rcases hS.drain hr hcw with h | h
    · exact Or.inl h
    · exact Or.inr (by simp [h])

def decErrContract (P : Params) : DecErrContract (decContract P) where
  B := ToyB
  budget := fun n => n
  enter := fun hR hd => ToyB_enter hR hd
  step_none := by
    intro s rest j hB n room hn hnr hroom r hr
    have hne : rest.take n ≠ [] := take_ne_nil hn (List.length_pos_iff.1 (by omega))
    have hlen : (rest.take n).length = n := List.length_take_of_le hnr
    have hr' : r = decStep P s (rest.take n) room Flush.none := hr
    have hroom0 : ¬ room = 0 := by omega
    cases hb : s.bad with
    | true => left; rw [hr']; simp [decStep, hroom0, hb]
    | false =>
      rcases toy_doom_core P hB hb (rest.take n) (IsPre.take _ _) hroom _ rfl with hcb | ⟨hcb, he, hcn, hol, hfull, hB', hprog⟩
      · left; rw [hr']; simp [decStep, hroom0, hb, hcb]
      · right
        rw [decStep_eq P (rest.take n) Flush.none hroom hb _ rfl hcb, if_neg (by simp [he]), if_neg (by simp)] at hr
        subst hr
        refine ⟨hol, Nat.le_trans hcn (Nat.le_of_eq hlen), hB', fun hf => ?_, ?_⟩
        · split at hf
          · rename_i h
            simp only [Bool.and_eq_true, decide_eq_true_eq] at h
            exact hfull h.1 h.2
          · cases hf
        · rcases (hprog hne).2 with h | ⟨_, h⟩
          · exact Or.inl h
          · exact Or.inr (Or.inl h)
  step_full := by
    intro s j hB room hroom r hr
    left
    have hr' : r = decStep P s [] room Flush.full := hr
    have : ¬ room = 0 := by omega
    rw [hr']
    simp [decStep, this, ToyB_nil hB]

def decLibErrContract (P : Params) (b : Backend) : LibDecErrContract (decLibContract P b) where
  B := fun s rest j => ToyB s.eng rest j ∧ (s.total = 0 → rest ≠ [])
  budget := fun n => n
  total := fun hB h0 => hB.2 h0
  enter := fun hR hd => ⟨ToyB_enter hR.1 hd, fun _ => hd.1⟩
  call := by
    intro s rest j hB inp room fl hin hroom r hr
    cases hb : s.eng.bad with
    | true => left; left; rw [hr]; simp [decLib, hb]
    | false =>
      rcases toy_doom_core P hB.1 hb inp hin hroom _ rfl with hcb | ⟨hcb, he, hcn, hol, _, ⟨j', hB', hj'⟩, hprog⟩
      · left; left; rw [hr]; simp [decLib, hb, hcb]
      · right
        rw [decLib_call_eq P b s inp room fl hb _ rfl hcb, he] at hr
        subst hr
        generalize decCore P s.eng inp room = c at *
        have hpos : inp ≠ [] → 0 < c.n ∨ c.q.take c.m ≠ [] := fun hne => (hprog hne).2.imp_right And.left
        refine ⟨libRet_cases b _, hcn, hol, ⟨j', ⟨hB', fun h0 => ?_⟩, hj'⟩, fun _ hne => ?_, fun hbuf hnil => ?_, fun hne => ?_⟩
        · have h0' : s.total + c.n = 0 := h0
          rw [show c.n = 0 by omega, List.drop_zero]
          exact hB.2 (by omega)
        · rcases hpos hne with h | h
          · exact Nat.add_pos_left h _
          · exact Nat.add_pos_right _ (List.length_pos_iff.2 h)
        · -- stuck without output: there was no input
          have hinp : inp = [] := Classical.byContradiction fun hne =>
            (hpos hne).elim (fun h => by have := (libRet_buf hbuf).1; omega) (fun h => h hnil)
          exact ⟨by rw [(libRet_buf hbuf).1, hinp]; rfl, Or.inr hinp⟩
        · exact (hprog hne).2.imp_right And.right

def decZLibErrContract (P : Params) : ZDecErrContract (decZLibContract P) where
  B := ToyB
  budget := fun n => n
  enter := fun hR hd => ToyB_enter hR.1 hd
  call := by
    intro s rest j hB inp room fl hin hroom hcall r hr
    cases hb : s.bad with
    | true => left; rw [hr]; simp [decZLib, hb]
    | false =>
      have hne : inp ≠ [] := hcall.resolve_right (fun h => by rw [h] at hB; rw [ToyB_nil hB] at hb; cases hb)
      rcases toy_doom_core P hB hb inp hin hroom _ rfl with hcb | ⟨hcb, he, hcn, hol, _, hB', hprog⟩
      · left; rw [hr]; simp [decZLib, hb, hcb]
      · right
        obtain ⟨hfr, hpr⟩ := hprog hne
        rw [decZLib_call_eq P s inp room fl hb _ rfl hcb, he, hfr] at hr
        subst hr
        refine ⟨hcn, hol, by simp, hB', fun _ => ?_⟩
        rcases hpr with h | ⟨h, _⟩
        · exact Nat.add_pos_left h _
        · exact Nat.add_pos_right _ (List.length_pos_iff.2 h)

/-- liblzma's encoder on `LZMA_FULL_FLUSH`, in the toy: everything offered is taken in and handed out (as far as there is room),
and the call answers `LZMA_STREAM_END` although the member goes on -/
def lzmaSyncEnc (s : LibSt Enc) (inp : Bytes) (room : Nat) : LibOut (LibSt Enc) :=
  let q := s.eng.q ++ encBytes inp
  { st := ⟨⟨q.drop room, s.eng.fin⟩, s.total + inp.length⟩, consumed := inp.length, out := q.take room, ret := LibRet.streamEnd }

/-- liblzma's decoder on `LZMA_FULL_FLUSH`: `LZMA_PROG_ERROR`, nothing done -/
def lzmaSyncDec (s : LibSt Dec) (_inp : Bytes) (_room : Nat) : LibOut (LibSt Dec) :=
  { st := s, consumed := 0, out := [], ret := LibRet.dataError }

def lzmaLikeEnc (P : Params) : Lib (LibSt Enc) := (encLib P Backend.xz).withSync lzmaSyncEnc
def lzmaLikeDec (P : Params) : Lib (LibSt Dec) := (decLib P Backend.xz).withSync lzmaSyncDec

def lzmaLikeEncContract (P : Params) : LibEncContract (lzmaLikeEnc P) Backend.xz decode := (encLibContract P Backend.xz).withSync _
def lzmaLikeDecContract (P : Params) : LibDecContract (lzmaLikeDec P) Backend.xz decode := (decLibContract P Backend.xz).withSync _

end Toy
end Sqfs.Xfrm
