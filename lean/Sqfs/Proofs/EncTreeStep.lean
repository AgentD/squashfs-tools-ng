/-
C01 — one step of `sqfs_serialize_fstree`, in full: which inode is written (its reader-visible content is the node's
attributes on top of the payload the directory writer / block processor / `tree_node_to_inode` produced), which id-table
indices it carries and what those slots hold, and what happens to the directory stream.
-/
import Sqfs.Proofs.EncTree
namespace Sqfs.Enc
open Sqfs.Consts

/-- the inode handed to the second half of `serialize_tree_node` -/
def preInode (st : TreeSt) (n : NodeIn) : Option Inode :=
  match n.kind with
  | .dir ents => match addAllEntries ents with
    | .ok des => some (dirInodeOf st.dirs.length n des)
    | .error _ => none
  | .reg inode => some inode
  | .other devno target => treeNodeToInode n.attr.mode n.attr.linkCount devno target

def withIds (u g : Nat) (v : View) : View := { v with base := { v.base with uidIdx := u, gidIdx := g } }

/-- the id table is in a state the serializer can have produced -/
def IdsOk (ids : List Nat) : Prop := ids.length ≤ Sqfs.IdTable.limit ∧ ids.Nodup

theorem serializeStep_ok {st st' : TreeSt} {n : NodeIn} {i0 : Inode} {dirs : Bytes} (h : serializeStep st n i0 dirs = .ok st') :
    ∃ ui ids1 gi ids2, Sqfs.IdTable.step Sqfs.IdTable.limit st.ids n.uid = some (ui, ids1)
      ∧ Sqfs.IdTable.step Sqfs.IdTable.limit ids1 n.gid = some (gi, ids2)
      ∧ st' = { inodes := st.inodes ++ encInode (setIds ui gi (serializeInode n.kind.isDir n.kind.isReg n.attr i0)),
                dirs := dirs, ids := ids2 } := by
  revert h
  fun_cases serializeStep st n i0 dirs <;> intro h <;> cases h
  exact ⟨_, _, _, _, ‹_›, ‹_›, rfl⟩

/-- the inode `i`, carrying the id-table indices `ui`, `gi`, has been appended to the inode stream of `st`, giving `st'` -/
structure InodeWritten (bs : Nat) (st st' : TreeSt) (n : NodeIn) (i : Inode) (ui gi : Nat) : Prop where
  wf : WfInode bs i
  inodes : st'.inodes = st.inodes ++ encInode i
  idsOk : IdsOk st'.ids
  idsExt : ∃ e, st'.ids = st.ids ++ e
  uid : st'.ids[ui]? = some n.uid
  gid : st'.ids[gi]? = some n.gid

theorem serializeStep_full (bs : Nat) (st st' : TreeSt) (n : NodeIn) (i0 : Inode) (dirs : Bytes)
    (hok : NodeInOk bs st n) (hbody : WfBody bs i0) (hmode : n.attr.mode / 4096 * 4096 = i0.typeBits)
    (h : serializeStep st n i0 dirs = .ok st') :
    ∃ ui gi, InodeWritten bs st st' n (setIds ui gi (serializeInode n.kind.isDir n.kind.isReg n.attr i0)) ui gi
      ∧ st'.dirs = dirs := by
  obtain ⟨ui, ids1, gi, ids2, h1, h2, rfl⟩ := serializeStep_ok h
  obtain ⟨a1, a2, ⟨e1, he1⟩, a4, a5⟩ := Sqfs.IdTable.step_spec _ _ _ _ _ hok.ids.1 hok.ids.2 h1
  obtain ⟨b1, b2, ⟨e2, he2⟩, b4, b5⟩ := Sqfs.IdTable.step_spec _ _ _ _ _ a1 a4 h2
  have hwf := wfInode_serializeInode bs n.kind.isDir n.kind.isReg n.attr ui gi i0 hbody ⟨hok.mode, hmode⟩ hok.mtime hok.inum hok.lc
    hok.xattr (Nat.lt_succ_of_le (Nat.le_trans (Nat.le_of_lt a2) a1)) (Nat.lt_succ_of_le (Nat.le_trans (Nat.le_of_lt b2) b1))
  have hext : ∃ e, ids2 = st.ids ++ e := ⟨e1 ++ e2, by simp only [he2, he1, List.append_assoc]⟩
  refine ⟨ui, gi, { wf := hwf, inodes := rfl, idsOk := ⟨b1, b4⟩, idsExt := hext, uid := ?_, gid := b5 }, rfl⟩
  simp only [he2]
  exact List.getElem?_append_some a5

/-- `serialize_tree_node` is its second half run on `preInode`, with the listing appended to the directory stream
first when the node is a directory -/
theorem serializeNode_step (st st' : TreeSt) (n : NodeIn) (h : serializeNode st n = .ok st') :
    ∃ i0 b, preInode st n = some i0 ∧ serializeStep st n i0 (st.dirs ++ b) = .ok st'
      ∧ (n.kind.isDir = false → b = [])
      ∧ (∀ ents, n.kind = .dir ents → ∃ des, addAllEntries ents = .ok des ∧ i0 = dirInodeOf st.dirs.length n des
          ∧ b = encListing rawCost (st.dirs.length / metaBlockSize * rawCost) (st.dirs.length % metaBlockSize) des) := by
  unfold serializeNode at h
  unfold preInode
  cases hkind : n.kind with
  | dir ents =>
    rw [hkind] at h
    simp only at h ⊢
    cases hae : addAllEntries ents with
    | error e => rw [hae] at h; cases h
    | ok des =>
      rw [hae] at h
      exact ⟨_, _, rfl, h, fun hd => (by cases hd), fun ents' he => (by cases he; exact ⟨des, hae, rfl, rfl⟩)⟩
  | reg inode =>
    rw [hkind, ← st.dirs.append_nil] at h
    exact ⟨_, _, rfl, h, fun _ => rfl, fun ents he => (by cases he)⟩
  | other devno target =>
    rw [hkind] at h
    simp only at h ⊢
    cases ht : treeNodeToInode n.attr.mode n.attr.linkCount devno target with
    | none => rw [ht] at h; cases h
    | some i0 =>
      rw [ht, ← st.dirs.append_nil] at h
      exact ⟨_, _, rfl, h, fun _ => rfl, fun ents he => (by cases he)⟩

/-- what `preInode` hands to the second half for a node within its C types; `listing`: a directory inode says where
its listing starts and how long it is -/
structure PreInodeOk (bs : Nat) (st : TreeSt) (n : NodeIn) (i0 : Inode) : Prop where
  body : WfBody bs i0
  mode : n.attr.mode / 4096 * 4096 = i0.typeBits
  view : (n.kind.isReg = true → 1 ≤ n.attr.linkCount) →
    (serializeInode n.kind.isDir n.kind.isReg n.attr i0).view = wanted n.attr i0.view
  notDir : n.kind.isDir = false → i0.view.typeBits ≠ sIFDIR
  listing : ∀ ents des, n.kind = .dir ents → addAllEntries ents = .ok des → (∀ e ∈ des, WfDEnt e)
    ∧ ∀ stream, openDir i0 stream
        = some ⟨stream, listingSize rawCost (st.dirs.length / metaBlockSize * rawCost) (st.dirs.length % metaBlockSize) des + 3, 0, 0, 0⟩

theorem preInode_spec (bs : Nat) (st : TreeSt) (n : NodeIn) (i0 : Inode) (hn : NodeInOk bs st n)
    (h : preInode st n = some i0) : PreInodeOk bs st n i0 := by
  have hk := hn.kind
  unfold preInode at h
  cases hkind : n.kind with
  | dir ents =>
    rw [hkind] at h hk
    simp only at h hk
    obtain ⟨hm, hpar, hents, hsz⟩ := hk
    cases hae : addAllEntries ents with
    | error e => rw [hae] at h; cases h
    | ok des =>
      rw [hae] at h
      cases h
      have hspec := (addAllEntries_spec ents des hae).2 hents
      obtain ⟨w1, _, w4⟩ := dirInodeOf_spec bs st.dirs.length n des hn.lc hn.xattr hpar
        (fun e he => ⟨(hspec e he).1.1, (hspec e he).2⟩) (hsz des hae)
      have w2 := dirInodeOf_typeBits st.dirs.length n des
      refine
        { body := w1
          mode := by rw [← view_typeBits, w2]; exact hm
          view := fun _ => ?_
          notDir := fun hd => by rw [hkind] at hd; cases hd
          listing := ?_ }
      · -- the directory inode arrives with the link count stored
        have hnl : (dirInodeOf st.dirs.length n des).view.nlink = n.attr.linkCount := by
          unfold dirInodeOf; rw [setDirNlink_view (toInode_typeBits _)]
        rw [hkind]
        show (serializeInode true false n.attr _).view = _
        rw [serializeInode_view _ _ _ (fun h => absurd (w2.symm.trans h) (by decide)), wanted, ← hnl]
      · intro ents' des' he hd
        cases hkind.symm.trans he
        rw [hae] at hd
        cases hd
        exact ⟨fun e he => (hspec e he).1, w4⟩
  | reg inode =>
    rw [hkind] at h hk
    cases h
    obtain ⟨hm, htb, hbody⟩ := hk
    exact
      { body := hbody
        mode := by rw [← view_typeBits, htb]; exact hm
        view := fun hl => by rw [hkind] at hl ⊢; exact serialize_file_view n.attr _ (hl rfl) htb
        notDir := fun _ => by rw [htb]; decide
        listing := fun ents des he => by cases hkind.symm.trans he }
  | other devno target =>
    rw [hkind] at h hk
    simp only at h hk
    obtain ⟨hd, htl, hcons⟩ := hk
    have hl := hn.lc
    refine
      { body := ?_
        mode := hcons i0 h
        view := fun _ => by rw [hkind]; exact (serialize_other n.attr devno target i0 h).1
        notDir := fun _ => ?_
        listing := fun ents des he => by cases hkind.symm.trans he }
    · rcases (treeNodeToInode_cases h).2 with ⟨s, rfl⟩ | rfl | ⟨c, rfl⟩
      exacts [hl, ⟨hl, htl, rfl⟩, ⟨hl, hd⟩]
    · intro hdir
      rcases view_dir_cases hdir with ⟨_, _, _, _, _, _, rfl⟩ | ⟨_, _, _, _, _, _, _, _, _, rfl⟩ <;>
        rcases (treeNodeToInode_cases h).2 with ⟨s, hh⟩ | hh | ⟨c, hh⟩ <;> cases hh

/-- the listing of the directory node `n` (accepted entries `des`) stands at the end of the directory stream of `st`, and
the inode `i` written for `n` leads to it -/
structure ListingWritten (st st' : TreeSt) (n : NodeIn) (i i0 : Inode) (ents : List (Bytes × Nat × Nat × Nat)) (des : List Sqfs.DirWriter.DEnt) :
    Prop where
  accepted : addAllEntries ents = .ok des
  dirs : st'.dirs = st.dirs ++ encListing rawCost (st.dirs.length / metaBlockSize * rawCost) (st.dirs.length % metaBlockSize) des
  wf : ∀ e ∈ des, WfDEnt e
  pre : i0 = dirInodeOf st.dirs.length n des
  openDir : ∀ stream, openDir i stream
    = some ⟨stream, listingSize rawCost (st.dirs.length / metaBlockSize * rawCost) (st.dirs.length % metaBlockSize) des + 3, 0, 0, 0⟩

/-- one successful `serialize_tree_node`: `i` is the inode written, `i0` what `preInode` handed over -/
structure NodeWritten (bs : Nat) (st st' : TreeSt) (n : NodeIn) (i i0 : Inode) (ui gi : Nat) : Prop
    extends InodeWritten bs st st' n i ui gi where
  pre : preInode st n = some i0
  base : i.base = ⟨n.attr.mode, ui, gi, n.attr.mtime, n.attr.inum⟩
  view : (n.kind.isReg = true → 1 ≤ n.attr.linkCount) → i.view = withIds ui gi (wanted n.attr i0.view)
  dir : ∀ ents, n.kind = .dir ents → ∃ des, ListingWritten st st' n i i0 ents des
  notDir : n.kind.isDir = false → st'.dirs = st.dirs ∧ i0.view.typeBits ≠ sIFDIR

theorem serializeNode_full (bs : Nat) (st st' : TreeSt) (n : NodeIn)
    (hn : NodeInOk bs st n) (h : serializeNode st n = .ok st') :
    ∃ i i0 ui gi, NodeWritten bs st st' n i i0 ui gi := by
  obtain ⟨i0, b, hpre, hstep, hnd, hdir⟩ := serializeNode_step st st' n h
  have p := preInode_spec bs st n i0 hn hpre
  obtain ⟨ui, gi, w, hdirs⟩ := serializeStep_full bs st st' n i0 _ hn p.body p.mode hstep
  have hview := fun hl => (setIds_view ui gi _).trans (congrArg (withIds ui gi) (p.view hl))
  refine ⟨_, i0, ui, gi,
    { toInodeWritten := w
      pre := hpre
      base := ?_
      view := hview
      dir := ?_
      notDir := fun hd => ⟨by rw [hdirs, hnd hd, List.append_nil], p.notDir hd⟩ }⟩
  · unfold setIds; rw [base_withBase, base_serializeInode]
  · intro ents hk
    obtain ⟨des, hae, hi0, hd⟩ := hdir ents hk
    obtain ⟨q1, q2⟩ := p.listing ents des hk hae
    refine ⟨des, hae, by rw [hdirs, hd], q1, hi0, fun stream => ?_⟩
    -- the size and position survive the second half: the view's payload is that of `preInode`
    have hv := hview (fun hr => by rw [hk] at hr; cases hr)
    have ht0 : i0.view.typeBits = sIFDIR := by rw [hi0]; exact dirInodeOf_typeBits _ _ _
    rw [openDir_of_dir _ _ (by rw [hv]; exact ht0), hv, ← q2 stream, openDir_of_dir _ _ ht0]
    rfl

end Sqfs.Enc
