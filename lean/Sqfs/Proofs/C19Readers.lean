import Sqfs.Model.C19Readers
/-! C19: a copied data reader / meta reader *is* the original, as far as any later operation can tell.
For the data reader this needs the invariant of `get_block` (a cached block is `block_size` bytes long and zero beyond
`*_blk_size`), which `data_reader_copy` relies on when it copies `*_blk_size` bytes into a zero-filled buffer. -/
namespace Sqfs.C19R
open Sqfs.MetaReader Sqfs.DataReader

theorem mrCopy_eq (m : MR) : mrCopy m = m := rfl

theorem zeros_length (n : Nat) : (zeros n).length = n := by simp [zeros]
theorem zeros_drop (n k : Nat) : (zeros n).drop k = zeros (n - k) := by simp [zeros]

theorem padded_iff {bs : Nat} {c : Bytes × Nat} :
    padded bs c = true ↔ c.1.length = bs ∧ c.2 ≤ bs ∧ c.1.drop c.2 = zeros (bs - c.2) := by
  simp [padded, and_assoc]

theorem copyBlock_eq {bs : Nat} {c : Bytes × Nat} (h : padded bs c = true) : copyBlock bs c = c := by
  obtain ⟨buf, n⟩ := c
  obtain ⟨h1, h2, h3⟩ := padded_iff.mp h
  simp only at h1 h2 h3
  simp only [copyBlock, overwrite]
  have : (buf.take n).length = n := by rw [List.length_take, Nat.min_eq_left (h1 ▸ h2)]
  rw [this, zeros_drop, ← h3, List.take_append_drop]

theorem drCopy_eq {d : DR} (h : cacheInv d = true) : drCopy d = d := by
  obtain ⟨bs, tbl, db, cb, cw, fb, cf⟩ := d
  simp only [cacheInv, Bool.and_eq_true] at h
  obtain ⟨h1, h2⟩ := h
  simp only [drCopy]
  congr 1
  · cases db with
    | none => rfl
    | some c => simp only [Option.map_some]; rw [copyBlock_eq h1]
  · cases fb with
    | none => rfl
    | some c => simp only [Option.map_some]; rw [copyBlock_eq h2]

theorem readAt_length {f : File} {off n : Nat} {raw : Bytes} (h : f.readAt off n = .ok raw) : raw.length = n := by
  revert h
  fun_cases File.readAt f off n <;> intro h <;> cases h
  simp

theorem padded_overwrite {m : Nat} {out : Bytes} (h : out.length ≤ m) : padded m (overwrite (zeros m) out, out.length) = true := by
  apply padded_iff.mpr
  simp only [overwrite, zeros_drop]
  refine ⟨by simp [zeros_length]; omega, h, by simp⟩

/-- what `get_block` returns is `max_size` bytes long and zero beyond the block -/
theorem getBlock_padded {f : File} {unc : Codec} (hc : CodecBounded unc) {off w m : Nat} {r : Bytes × Nat}
    (h : getBlock f unc off w m = .ok r) : padded m r = true := by
  revert h
  fun_cases getBlock f unc off w m <;> intro h <;> cases h
  · exact padded_iff.mpr (by simp [zeros])
  · rename_i hout _
    exact padded_overwrite (hc _ _ _ hout)
  · rename_i hle _ raw hraw
    exact readAt_length hraw ▸ padded_overwrite (Nat.le_of_not_gt (readAt_length hraw ▸ hle))

theorem precacheData_inv {kw : Bool} {f : File} {unc : Codec} (hc : CodecBounded unc) {d : DR} (loc w : Nat)
    (h : cacheInv d = true) : cacheInv (precacheData kw f unc d loc w).2 = true := by
  have h2 := h
  simp only [cacheInv, Bool.and_eq_true] at h2
  fun_cases precacheData kw f unc d loc w
  · exact h
  · simp [cacheInv, h2.2]
  · rename_i r hr
    simp [cacheInv, h2.2, getBlock_padded hc hr]

theorem precacheFrag_inv {f : File} {unc : Codec} (hc : CodecBounded unc) {d : DR} (idx : Nat)
    (h : cacheInv d = true) : cacheInv (precacheFrag f unc d idx).2 = true := by
  have h2 := h
  simp only [cacheInv, Bool.and_eq_true] at h2
  fun_cases precacheFrag f unc d idx
  · exact h
  · exact h
  · simp [cacheInv, h2.1]
  · rename_i r hr
    simp [cacheInv, h2.1, getBlock_padded hc hr]

/-- the reader object a run of the block loop leaves behind -/
def crDR : CopyR → DR
  | .fail _ d => d
  | .cont d _ _ _ => d

theorem copyBlocks_inv {kw : Bool} {f : File} {unc : Codec} (hc : CodecBounded unc)
    (bl : List Nat) (d : DR) (off offset size : Nat) (acc : Bytes) (h : cacheInv d = true) :
    cacheInv (crDR (copyBlocks kw f unc d bl off offset size acc)) = true := by
  fun_induction copyBlocks kw f unc d bl off offset size acc with
  | case1 | case2 => exact h
  | case3 => rename_i ih; exact ih h
  | case4 => exact precacheData_inv hc _ _ h
  | case5 => rename_i ih; exact ih (precacheData_inv hc _ _ h)

theorem cacheInv_ite {α : Type} {c : Prop} [Decidable c] {x y : α × DR} (hx : cacheInv x.2 = true) (hy : cacheInv y.2 = true) :
    cacheInv (if c then x else y).2 = true := by
  by_cases hc : c
  · rw [if_pos hc]; exact hx
  · rw [if_neg hc]; exact hy

theorem read_inv {kw : Bool} {f : File} {unc : Codec} (hc : CodecBounded unc) {d : DR} (ino : Inode) (o n : Nat)
    (h : cacheInv d = true) : cacheInv (DataReader.read kw f unc d ino o n).2 = true := by
  unfold DataReader.read
  refine cacheInv_ite h (cacheInv_ite h ?_)
  dsimp only
  -- the reader the block loop leaves, then (if a tail is wanted) the one `precache_fragment_block` leaves
  generalize hr : copyBlocks kw f unc d _ _ _ _ [] = r
  have hcb : cacheInv (crDR r) = true := hr ▸ copyBlocks_inv hc _ d _ _ _ [] h
  cases r with
  | fail e d' => exact hcb
  | cont d' offset size acc =>
    have hcb : cacheInv d' = true := hcb
    refine cacheInv_ite hcb ?_
    have hf := precacheFrag_inv (f := f) hc ino.fragIdx hcb
    revert hf
    generalize precacheFrag f unc d' ino.fragIdx = r
    intro hf
    refine cacheInv_ite hf ?_
    cases r.2.fragBlock with
    | none => exact hf
    | some fb => exact cacheInv_ite hf (cacheInv_ite hf hf)

theorem cacheInv_fresh (bs : Nat) (tbl : List (Nat × Nat)) : cacheInv (DataReader.fresh bs tbl) = true := rfl

/-- every reader state the library can reach — created, fragment table loaded, any history of reads (failed ones
included), over any image and any bounded decompressor — satisfies the cache invariant -/
theorem cacheInv_run {kw : Bool} {f : File} {unc : Codec} (hc : CodecBounded unc) :
    ∀ (hist : List DataReader.Op) (d : DR), cacheInv d = true → cacheInv (DataReader.run kw f unc d hist) = true := by
  intro hist
  induction hist with
  | nil => intro d h; exact h
  | cons op rest ih =>
    intro d h
    cases op with
    | read ino o n => exact ih _ (read_inv hc ino o n h)

theorem getFragment_dr (f : File) (unc : Codec) (d : DR) (ino : Inode) :
    (getFragment f unc d ino).2 = d ∨ (getFragment f unc d ino).2 = (precacheFrag f unc d ino.fragIdx).2 := by
  fun_cases getFragment f unc d ino
  all_goals first | exact Or.inl rfl | exact Or.inr rfl

theorem streamFill_dr (f : File) (unc : Codec) (d : DR) (s : Stream) (used : Nat) :
    (streamFill f unc d s used).2 = d ∨ (streamFill f unc d s used).2 = (precacheFrag f unc d s.fragIdx).2 := by
  fun_cases streamFill f unc d s used
  all_goals first | exact Or.inl rfl | exact Or.inr rfl

theorem streamGet_dr (sfix : Bool) (f : File) (unc : Codec) (d : DR) (s : Stream) :
    (streamGet sfix f unc d s).2.2 = d ∨ (streamGet sfix f unc d s).2.2 = (precacheFrag f unc d s.fragIdx).2 := by
  fun_cases streamGet sfix f unc d s
  · exact Or.inl rfl
  · exact Or.inl rfl
  all_goals
    rename_i heq
    have h := streamFill_dr f unc d { s with bufOff := 0, bufUsed := if s.filesz < d.blockSize then s.filesz else d.blockSize }
      (if s.filesz < d.blockSize then s.filesz else d.blockSize)
    rw [heq] at h
    exact h

theorem stepX_inv {kw sfix : Bool} {f : File} {unc : Codec} (hc : CodecBounded unc) {d : DR} (op : OpX) (h : cacheInv d = true) :
    cacheInv (stepX kw sfix f unc d op) = true := by
  cases op with
  | read ino o n => exact read_inv hc ino o n h
  | frag ino =>
    show cacheInv (getFragment f unc d ino).2 = true
    rcases getFragment_dr f unc d ino with e | e <;> rw [e]
    · exact h
    · exact precacheFrag_inv hc ino.fragIdx h
  | sget s c =>
    show cacheInv (streamGet sfix f unc d s).2.2 = true
    rcases streamGet_dr sfix f unc d s with e | e <;> rw [e]
    · exact h
    · exact precacheFrag_inv hc s.fragIdx h
  | reload t =>
    simp only [cacheInv, Bool.and_eq_true] at h
    cases t <;> simp [stepX, reload, cacheInv, h.1]

/-- every reader state reachable through **any** of the entry points that touch the caches satisfies the cache invariant -/
theorem cacheInv_runX {kw sfix : Bool} {f : File} {unc : Codec} (hc : CodecBounded unc) :
    ∀ (hist : List DataReader.OpX) (d : DR), cacheInv d = true → cacheInv (DataReader.runX kw sfix f unc d hist) = true := by
  intro hist
  induction hist with
  | nil => intro d h; exact h
  | cons op rest ih => intro d h; exact ih _ (stepX_inv hc op h)

/-- the toy decompressor of the harnesses respects its output buffer -/
theorem toyUnc_bounded : CodecBounded toyUnc := by
  intro inp sz out h
  revert h
  fun_cases toyUnc inp sz <;> intro h <;> cases h
  all_goals first | assumption | simpa using ‹_›

end Sqfs.C19R
