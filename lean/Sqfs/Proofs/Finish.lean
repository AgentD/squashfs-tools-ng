/-
C03, the layout `sqfs_writer_finish` leaves (`Sqfs/Model/Finish.lean`): `finish_eq` gives every table start of the super block,
`bytes_used` and the padded file size in closed form, as sums of the sizes of what is written before.
-/
import Sqfs.Model.Finish
namespace Sqfs.Finish

def tblBytes : Option Tbl → Nat
  | none => 0
  | some t => t.blockBytes + 8 * t.blocks

def xBytes : Option XTbl → Nat
  | none => 0
  | some x => x.kvBytes + x.idBytes + 16 + 8 * x.idBlocks

/-- start of an optional table written when the file is `s` bytes long -/
def tblStart (s : Nat) : Option Tbl → Nat
  | none => NOTBL
  | some t => s + t.blockBytes

theorem finish_eq (i : Input) :
    let s0 := i.dataEnd + i.inodeBytes + i.dirBytes
    let s1 := s0 + tblBytes i.frag
    let s2 := s1 + tblBytes i.exportTbl
    let s3 := s2 + tblBytes (some i.id)
    finish i = { inodeTable := i.dataEnd, dirTable := i.dataEnd + i.inodeBytes, fragTable := tblStart s0 i.frag,
                 exportTable := tblStart s1 i.exportTbl, idTable := s2 + i.id.blockBytes,
                 xattrTable := match i.xattr with | none => NOTBL | some x => s3 + x.kvBytes + x.idBytes,
                 bytesUsed := s3 + xBytes i.xattr,
                 fileSize := s3 + xBytes i.xattr + padSize (s3 + xBytes i.xattr) i.devblk } := by
  unfold finish; rcases i.frag <;> rcases i.exportTbl <;> rcases i.xattr <;>
    simp only [tblBytes, tblStart, xBytes, writeTbl, Nat.add_zero, Nat.add_assoc]

end Sqfs.Finish
