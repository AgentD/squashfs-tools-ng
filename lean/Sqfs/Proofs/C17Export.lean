/-
C17 — lemmas about the export table as dir_writer.c builds it (`Sqfs/Model/C17Export.lean`): the growing array never
stores out of bounds, never exposes an indeterminate cell, and its cells below `used` are exactly the ideal table
`Sqfs.Pack.addExport`/`exportTable` (`Inv`, kept by the `realloc`, the `memset` and the store of `add_export_table_entry`:
the three steps of `addEntry_inv`); `sqfs_write_table` keeps the bytes and produces `⌈n / 8192⌉` blocks; every inode
number of a numbered tree is the root's or is passed to `add_entry` for some directory.
-/
import Sqfs.Model.C17Export
import Sqfs.Proofs.Export
import Sqfs.Proofs.MetaWriter
namespace Sqfs.C17Export
open Sqfs.Pack

theorem exportTable_eq_map (ref : Nat → UInt64) (nums : List Nat) (root N : Nat)
    (hrange : ∀ m ∈ nums ++ [root], 1 ≤ m ∧ m ≤ N) (hall : ∀ m, 1 ≤ m → m ≤ N → m ∈ nums ++ [root]) :
    exportTable (nums.map (fun m => (m, ref m))) (root, ref root) = (List.range' 1 N).map ref := by
  have he : nums.map (fun m => (m, ref m)) ++ [(root, ref root)] = (nums ++ [root]).map (fun m => (m, ref m)) := by simp
  have h1 : ((nums ++ [root]).map (fun m => (m, ref m))).map (·.1) = nums ++ [root] := by
    rw [List.map_map]; exact List.map_id _
  have h := (ExportTable.Ok.nil noRef ref).fold noRef ((nums ++ [root]).map (fun m => (m, ref m))) [] [] (fun a ha => by
    obtain ⟨m, hm, rfl⟩ := List.mem_map.1 ha
    exact ⟨(hrange m hm).1, rfl⟩)
  rw [exportTable, addExport_eq, he]
  exact h.eq_map noRef N (h1.symm ▸ fun m hm => (hrange m hm).2) (h1.symm ▸ hall)

theorem growCount_ge (f n cap : Nat) (hn : 1 ≤ n) (h : cap ≤ f + n) : cap ≤ growCount f n cap := by
  fun_induction growCount f n cap with
  | case1 n cap => exact Nat.zero_add n ▸ h
  | case2 f n cap hlt ih => exact ih (Nat.le_trans hn (Nat.le_mul_of_pos_right n (by decide))) (by omega)
  | case3 f n cap hlt => exact Nat.not_lt.1 hlt

/-- `array_set_capacity` only appends cells, enough of them; what they hold plays no role below -/
theorem setCapacity_eq (a : Arr) (c : Nat) :
    ∃ l, setCapacity a c = { a with cells := a.cells ++ l } ∧ c ≤ (a.cells ++ l).length := by
  unfold setCapacity
  split
  · exact ⟨[], by rw [List.append_nil], by rw [List.append_nil]; assumption⟩
  · rename_i hlt
    have h0 : 1 ≤ (if a.cells.length = 0 then 128 else a.cells.length * 2) := by
      split
      · decide
      · exact Nat.mul_pos (Nat.pos_of_ne_zero ‹_›) (by decide)
    have hg := growCount_ge c _ c h0 (Nat.le_add_right c _)
    refine ⟨_, rfl, ?_⟩
    rw [List.length_append, List.length_replicate, Nat.add_sub_cancel' (Nat.le_trans (Nat.le_of_lt (Nat.not_le.1 hlt)) hg)]
    exact hg

theorem fillFF_ok (cells : List (Option UInt64)) (frm to : Nat) (h1 : frm ≤ to) (h2 : to ≤ cells.length) :
    ∃ cs, fillFF cells frm to = .ok cs ∧ cs.length = cells.length
      ∧ cs.take to = cells.take frm ++ List.replicate (to - frm) (some noRef) := by
  have hl : (cells.take frm ++ List.replicate (to - frm) (some noRef)).length = to := by
    rw [List.length_append, List.length_take_of_le (Nat.le_trans h1 h2), List.length_replicate, Nat.add_sub_cancel' h1]
  refine ⟨_, if_pos h2, ?_, List.take_left' hl⟩
  rw [List.length_append, hl, List.length_drop, Nat.add_sub_cancel' h2]

/-- the cells below `used` hold exactly the ideal table -/
structure Inv (a : Arr) (t : List UInt64) : Prop where
  le : a.used ≤ a.cells.length
  cells : a.cells.take a.used = t.map some

theorem Inv.used {a : Arr} {t : List UInt64} (h : Inv a t) : a.used = t.length := by
  rw [← List.length_take_of_le h.le, h.cells, List.length_map]

theorem init_inv : Inv init [] := ⟨Nat.zero_le _, rfl⟩

/-- the store; an index beyond `used` changes neither side -/
theorem Inv.set {a : Arr} {t : List UInt64} (h : Inv a t) (i : Nat) (v : UInt64) :
    Inv { a with cells := a.cells.set i (some v) } (t.set i v) :=
  ⟨by rw [List.length_set]; exact h.le, by rw [List.take_set, h.cells, List.map_set]⟩

theorem addEntry_inv (a : Arr) (t : List UInt64) (inum : Nat) (iref : UInt64) (h : Inv a t) (hn : 1 ≤ inum) :
    ∃ a', addEntry a inum iref = .ok a' ∧ Inv a' (addExport t inum iref) := by
  obtain ⟨l, hk, hcap⟩ := setCapacity_eq a inum
  -- the cells appended behind the table do not show
  have h1 : Inv ⟨a.cells ++ l, a.used⟩ t :=
    ⟨Nat.le_trans h.le (List.length_append ▸ Nat.le_add_right _ _), (List.take_append_of_le_length h.le).trans h.cells⟩
  unfold addEntry
  rw [if_neg (Nat.not_lt.2 hn), addExport_eq, ExportTable.add, hk]
  generalize a.cells ++ l = c1 at hcap h1 ⊢
  dsimp only
  by_cases hge : inum - 1 ≥ a.used
  · obtain ⟨cs, hf, hl, htk⟩ := fillFF_ok c1 a.used inum (Nat.le_trans hge (Nat.sub_le _ _)) hcap
    -- the `memset` of the gap is the ideal table grown with `noRef`
    have h2 : Inv ⟨cs, inum⟩ (t ++ List.replicate (inum - t.length) noRef) :=
      ⟨hl ▸ hcap, by rw [htk, h1.cells, h.used, List.map_append, List.map_replicate]⟩
    rw [if_pos hge, hf]
    dsimp only
    rw [if_pos (Nat.lt_of_lt_of_le (Nat.sub_lt hn Nat.one_pos) h2.le)]
    exact ⟨_, rfl, h2.set (inum - 1) iref⟩
  · have hit : inum ≤ t.length := h.used ▸ Nat.le_of_pred_lt (Nat.not_le.1 hge)
    rw [if_neg hge]
    dsimp only
    rw [if_pos (Nat.lt_of_lt_of_le (Nat.sub_lt hn Nat.one_pos) hcap), Nat.sub_eq_zero_of_le hit, List.replicate_zero,
      List.append_nil]
    exact ⟨_, rfl, h1.set (inum - 1) iref⟩

theorem addAll_inv : ∀ (es : List (Nat × UInt64)) (a : Arr) (t : List UInt64), Inv a t → (∀ e ∈ es, 1 ≤ e.1) →
    ∃ a', addAll a es = .ok a' ∧ Inv a' (es.foldl (fun t e => addExport t e.1 e.2) t) := by
  intro es
  induction es with
  | nil => intro a t h _; exact ⟨a, rfl, h⟩
  | cons e es ih =>
    intro a t h he
    obtain ⟨n, r⟩ := e
    obtain ⟨a1, h1, i1⟩ := addEntry_inv a t n r h (he (n, r) (by simp))
    obtain ⟨a2, h2, i2⟩ := ih a1 _ i1 (fun e he' => he e (List.mem_cons_of_mem _ he'))
    exact ⟨a2, by simp only [addAll, h1, h2], by simpa using i2⟩

theorem collect_map_some (t : List UInt64) : collect (t.map some) = .ok (t.flatMap le64) := by
  induction t with
  | nil => rfl
  | cons v t ih => simp only [List.map_cons, collect, ih, List.flatMap_cons]

theorem tableBytes_inv (a : Arr) (t : List UInt64) (h : Inv a t) : tableBytes a = .ok (t.flatMap le64) := by
  unfold tableBytes
  rw [if_pos h.le, h.cells, collect_map_some]

theorem flatMap_le64_length (t : List UInt64) : (t.flatMap le64).length = 8 * t.length := by
  induction t with
  | nil => rfl
  | cons v t ih => rw [List.flatMap_cons, List.length_append, ih, List.length_cons, Nat.mul_succ, Nat.add_comm]; rfl

theorem writeTable_spec (cmp : MetaWriter.Codec) (data : MetaWriter.Bytes) :
    (((MetaWriter.writeTable cmp data).1.map (·.raw)).flatten = data)
    ∧ (MetaWriter.writeTable cmp data).1.length = (data.length + (Consts.metaBlockSize - 1)) / Consts.metaBlockSize
    ∧ (MetaWriter.writeTable cmp data).2.length = (MetaWriter.writeTable cmp data).1.length := by
  obtain ⟨h1, h2, h3, _⟩ := MetaWriter.writeTableM_spec cmp 0 data
  rw [MetaWriter.writeTable_eq_writeTableM]
  exact ⟨h3, h2, by rw [h1, List.length_map, List.length_range]⟩

open Sqfs.Numbering

mutual
theorem numsT_covered : ∀ (t : NTree) (m : Nat), m ∈ numsT t → m ∈ topNum t ∨ m ∈ entriesT t
  | .file n, m, hm => .inl (by simpa [numsT, topNum] using hm)
  | .hlink _, m, hm => by simp [numsT] at hm
  | .dir n cs, m, hm => by
    simp only [numsT, List.mem_append, List.mem_singleton] at hm
    rcases hm with hm | hm
    · exact .inr (by simpa [entriesT] using numsL_covered cs m hm)
    · exact .inl (by simp [topNum, hm])
theorem numsL_covered : ∀ (l : List NTree) (m : Nat), m ∈ numsL l → m ∈ entriesL l
  | [], m, hm => by simp [numsL] at hm
  | t :: r, m, hm => by
    simp only [numsL, List.mem_append] at hm
    simp only [entriesL, List.mem_append]
    rcases hm with hm | hm
    · exact .inl (numsT_covered t m hm)
    · exact .inr (numsL_covered r m hm)
end

end Sqfs.C17Export
