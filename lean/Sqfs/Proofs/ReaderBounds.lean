/-
For C05: C integer facts (what a guard compares is un-wrapped exactly, under the condition that makes it exact; what is only
written to or handed on is bounded from above by `toNat_add_le`, wrapped or not), lists of accesses, the postconditions of the
meta reader (`SeekPost`, `refill_post`, `readLoop_post`), and for each loop of the other routines one round in ℕ (`*_round`:
under the loop's invariant and the guards of the round the accesses fit and the invariant holds again, a statement about
variables) with the induction that threads the accesses.  A routine whose whole theorem is stated in `Sqfs/Props/C05.lean` is
proved there.  Core Lean only.
-/
import Sqfs.Model.ReaderBounds
import Sqfs.Proofs.FuelInd
namespace Sqfs.ReaderBounds
-- `split` as a single rewrite of the `if` it splits: the default re-simplifies the whole goal through the
-- congruence lemmas of `ite`, at a cost that doubles with every level of a nested `if`
set_option backward.split false

theorem toNat_ne_zero {x : UInt64} (h : ¬ (x == 0) = true) : x.toNat ≠ 0 := by
  simpa [← UInt64.toNat_inj] using h

theorem toNat_add_of_lt {a b : UInt64} (h : a.toNat + b.toNat < 2 ^ 64) : (a + b).toNat = a.toNat + b.toNat := by
  rw [UInt64.toNat_add]; exact Nat.mod_eq_of_lt h

theorem toNat_sub_of_le {a b : UInt64} (h : b.toNat ≤ a.toNat) : (a - b).toNat = a.toNat - b.toNat :=
  UInt64.toNat_sub_of_le _ _ (UInt64.le_iff_toNat_le.2 h)

/-- a wrapping sum is at most the sum of its parts: an offset, a length or a fill level that the C code adds up is bounded from
above without any argument about wrap-around.  Only what a guard compares, and a capacity, must be un-wrapped exactly. -/
theorem toNat_add_le {a b : UInt64} {x y : Nat} (ha : a.toNat ≤ x) (hb : b.toNat ≤ y) : (a + b).toNat ≤ x + y := by
  rw [UInt64.toNat_add]
  exact Nat.le_trans (Nat.mod_le _ _) (Nat.add_le_add ha hb)

theorem toNat_mul_le (a b : UInt64) : (a * b).toNat ≤ a.toNat * b.toNat := by
  rw [UInt64.toNat_mul]
  exact Nat.mod_le _ _

/-- `if (off > cap || cap - off < len) fail;`: the difference is taken of what an earlier test or the invariant has ordered, so
the test that lets the access through is the one in ℕ -/
theorem toNat_fits {off len cap : UInt64} (ho : off.toNat ≤ cap.toNat) (h : ¬ cap - off < len) :
    off.toNat + len.toNat ≤ cap.toNat := by
  rw [UInt64.not_lt, UInt64.le_iff_toNat_le, toNat_sub_of_le ho] at h
  exact Nat.add_le_of_le_sub' ho h

theorem toNat_add_le32 {a b : UInt32} {x y : Nat} (ha : a.toNat ≤ x) (hb : b.toNat ≤ y) : (a + b).toNat ≤ x + y := by
  rw [UInt32.toNat_add]
  exact Nat.le_trans (Nat.mod_le _ _) (Nat.add_le_add ha hb)

theorem toNat_widen_add (x : UInt32) (c : UInt64) (hc : c.toNat + 2 ^ 32 ≤ 2 ^ 64) :
    (x.toUInt64 + c).toNat = x.toNat + c.toNat := by
  have := UInt32.toNat_lt x
  rw [toNat_add_of_lt (by rw [UInt32.toNat_toUInt64]; omega), UInt32.toNat_toUInt64]

/-- `if (diff > size) diff = size; … size -= diff;` -/
theorem toNat_take {avail size diff : UInt64} (hd : diff = if avail > size then size else avail) :
    diff.toNat = min avail.toNat size.toNat ∧ (size - diff).toNat + diff.toNat = size.toNat := by
  have hmin : diff.toNat = min avail.toNat size.toNat := by
    rw [hd]; split
    · exact (Nat.min_eq_right (Nat.le_of_lt (UInt64.lt_iff_toNat_lt.1 ‹_›))).symm
    · exact (Nat.min_eq_left (UInt64.le_iff_toNat_le.1 (UInt64.not_lt.1 ‹_›))).symm
  have hle : diff.toNat ≤ size.toNat := hmin ▸ Nat.min_le_right _ _
  exact ⟨hmin, by rw [toNat_sub_of_le hle, Nat.sub_add_cancel hle]⟩

/-- `if (b < a) a = b;` -/
theorem toNat_umin32 (a b : UInt32) : (if b < a then b else a).toNat = min a.toNat b.toNat := by
  split
  · rename_i h; have := UInt32.lt_iff_toNat_lt.1 h; omega
  · rename_i h; have := UInt32.le_iff_toNat_le.1 (UInt32.not_lt.1 h); omega

theorem safe_one {b : Buf} {off len cap : Nat} (h : off + len ≤ cap) : ∀ a ∈ [Access.mk b off len cap], a.inBounds :=
  List.forall_mem_singleton.2 h

theorem safe_front {b : Buf} {len cap : Nat} (h : len ≤ cap) : ∀ a ∈ [Access.mk b 0 len cap], a.inBounds :=
  safe_one (Nat.le_trans (Nat.le_of_eq (Nat.zero_add _)) h)

/-- element `i` of an array of `n` elements of `sz` bytes -/
theorem safe_elem (b : Buf) (sz : Nat) {i n : Nat} (h : i < n) : ∀ a ∈ [Access.mk b (i * sz) sz (n * sz)], a.inBounds :=
  safe_one (Nat.le_trans (Nat.le_of_eq (Nat.succ_mul i sz).symm) (Nat.mul_le_mul_right sz h))

theorem safe_cons {b : Buf} {off len cap : Nat} {as : List Access} (h : off + len ≤ cap) (has : ∀ a ∈ as, a.inBounds) :
    ∀ a ∈ Access.mk b off len cap :: as, a.inBounds :=
  List.forall_mem_cons.2 ⟨h, has⟩

theorem safe_append {as bs : List Access} (ha : ∀ a ∈ as, a.inBounds) (hb : ∀ a ∈ bs, a.inBounds) :
    ∀ a ∈ as ++ bs, a.inBounds :=
  List.forall_mem_append.2 ⟨ha, hb⟩

/-- the codec contract as far as the meta reader needs it: never more than `outsize` bytes -/
def MetaCodecOk (c : MetaCfg) : Prop := ∀ b n, (c.src b).dec = some n → n.toNat ≤ metaCap

theorem metaCap_eq : metaCap = 8192 := by decide

theorem hdr_size_le (h : UInt16) : ((h &&& 0x7FFF).toUInt32).toNat ≤ 32767 := by
  have : (h &&& 0x7FFF).toNat ≤ 32767 := by
    rw [UInt16.toNat_and]; exact Nat.and_le_right
  simpa using this

theorem cleared_le : MetaSt.cleared.dataUsed.toNat ≤ metaCap := by decide

/-- what a seek to offset `o` from the state `m` promises of its result, also after a failure -/
structure SeekPost (c : MetaCfg) (m : MetaSt) (o : UInt64) (r : Res) : Prop where
  ne_fuel : r.r ≠ .error .fuel
  ok : r.r = .ok () → o.toNat < r.st.dataUsed.toNat ∧ r.st.offset = o
  safe : MetaCodecOk c → m.dataUsed.toNat ≤ metaCap → (∀ a ∈ r.acc, a.inBounds) ∧ r.st.dataUsed.toNat ≤ metaCap

theorem seekG_post (fixed : Bool) (c : MetaCfg) (m : MetaSt) (b o : UInt64) : SeekPost c m o (seekG fixed c m b o) := by
  have hm0 : m.dataUsed.toNat ≤ metaCap → (if fixed then MetaSt.cleared else m).dataUsed.toNat ≤ metaCap := by
    intro hm; split
    · exact cleared_le
    · exact hm
  have hsize : ∀ {size : UInt32}, ¬ size.toUInt64 > metaCap.toUInt64 → size.toNat ≤ metaCap := fun h => by
    simpa [metaCap_eq, UInt64.le_iff_toNat_le] using UInt64.not_lt.1 h
  -- the offset test that ends the load (`if (offset >= m->data_used)`, meta_reader.c:154), for the `data_used` and the accesses of either way of loading
  have after : ∀ (m0 : MetaSt) (size : UInt32) (du : UInt64) (acc : List Access),
      (m.dataUsed.toNat ≤ metaCap → m0.dataUsed.toNat ≤ metaCap) →
      (MetaCodecOk c → du.toNat ≤ metaCap ∧ ∀ a ∈ acc, a.inBounds) →
      SeekPost c m o (if o ≥ du then ⟨if fixed then m0 else { m with dataUsed := du }, .error .oob, acc⟩
        else ⟨⟨du, o, b, b + size.toUInt64 + 2⟩, .ok (), acc⟩) := by
    intro m0 size du acc hm0 hdu
    split
    · refine ⟨nofun, nofun, fun hc hm => ⟨(hdu hc).2, ?_⟩⟩
      split
      · exact hm0 hm
      · exact (hdu hc).1
    · rename_i hlt
      exact ⟨nofun, fun _ => ⟨UInt64.lt_iff_toNat_lt.1 (UInt64.not_le.1 hlt), rfl⟩, fun hc _ => ⟨(hdu hc).2, (hdu hc).1⟩⟩
  fun_cases seekG fixed c m b o
  case case1 | case2 => exact ⟨nofun, nofun, fun _ hm => ⟨List.forall_mem_nil _, hm⟩⟩
  case case3 hlt =>
    exact ⟨nofun, fun _ => ⟨UInt64.lt_iff_toNat_lt.1 (UInt64.not_le.1 hlt), rfl⟩, fun _ hm => ⟨List.forall_mem_nil _, hm⟩⟩
  case case4 | case5 | case6 => exact ⟨nofun, nofun, fun _ hm => ⟨List.forall_mem_nil _, hm0 hm⟩⟩
  case case7 | case8 => exact ⟨nofun, nofun, fun _ hm => ⟨safe_front (hsize ‹_›), hm0 hm⟩⟩
  case case9 hsz _ _ _ _ _ ret hdec =>
    exact after _ _ _ _ hm0 fun hc => ⟨hc b ret hdec, safe_append (safe_front (hsize hsz))
      (safe_cons (Nat.le_trans (Nat.le_of_eq (Nat.zero_add _)) (hc b ret hdec)) (safe_front (hc b ret hdec)))⟩
  case case10 hsz _ _ _ _ _ =>
    exact after _ _ _ _ hm0 fun _ => ⟨by simpa using hsize hsz, safe_front (hsize hsz)⟩

theorem seek_ok (c : MetaCfg) (m : MetaSt) (b o : UInt64) (h : (seek c m b o).r = .ok ()) :
    o.toNat < (seek c m b o).st.dataUsed.toNat ∧ (seek c m b o).st.offset = o :=
  (seekG_post true c m b o).ok h

theorem refill_post (fixed : Bool) (c : MetaCfg) (m : MetaSt) :
    (refill fixed c m).1.r ≠ .error .fuel ∧ ((refill fixed c m).1.r = .ok () → (refill fixed c m).2.toNat ≠ 0) ∧
    (MetaCodecOk c → m.dataUsed.toNat ≤ metaCap → m.offset.toNat ≤ m.dataUsed.toNat →
      (∀ a ∈ (refill fixed c m).1.acc, a.inBounds) ∧ (refill fixed c m).1.st.dataUsed.toNat ≤ metaCap ∧
      ((refill fixed c m).1.r = .ok () →
        (refill fixed c m).1.st.offset.toNat + (refill fixed c m).2.toNat ≤ (refill fixed c m).1.st.dataUsed.toNat)) := by
  unfold refill
  simp only []
  split
  · have hp := seekG_post fixed c m m.nextBlock 0
    refine ⟨hp.ne_fuel, fun hok => ?_, fun hc hm _ => ⟨(hp.safe hc hm).1, (hp.safe hc hm).2, fun hok => ?_⟩⟩
    · have := (hp.ok hok).1
      simp only [UInt64.toNat_zero] at this ⊢
      omega
    · simp only [(hp.ok hok).2, UInt64.toNat_zero]
      omega
  · rename_i hd
    refine ⟨nofun, fun _ => toNat_ne_zero hd, fun _ hm hoff => ⟨List.forall_mem_nil _, hm, fun _ => ?_⟩⟩
    simp only [toNat_sub_of_le hoff]
    omega

/-- one round of `sqfs_meta_reader_read` in ℕ: `avail ≠ 0` bytes are offered at the cursor `off` of a block of `du` bytes,
`diff = min(avail, size)` of them go to `done` of the caller's `total` -/
theorem readLoop_round {avail size diff : UInt64} {off du done total : Nat} (hd : diff = if avail > size then size else avail)
    (hsz : ¬ (size == 0) = true) (hne : avail.toNat ≠ 0) :
    (size - diff).toNat < size.toNat ∧ (off + avail.toNat ≤ du → done + size.toNat = total →
      off + diff.toNat ≤ du ∧ done + diff.toNat ≤ total ∧ done + diff.toNat + (size - diff).toNat = total) := by
  have hsz := toNat_ne_zero hsz
  obtain ⟨hmin, hsub⟩ := toNat_take hd
  omega

/-- the loop of `sqfs_meta_reader_read`: every round delivers at least one byte, so `size + 1` rounds are enough; with the
position guard every copy stays inside `data[]` and inside the caller's `total` bytes -/
theorem readLoop_post (fixed : Bool) (c : MetaCfg) (total : Nat) :
    ∀ (fuel : Nat) (size : UInt64), size.toNat < fuel → ∀ (m : MetaSt) (done : Nat) (acc : List Access),
      (readLoop fixed c total fuel m size done acc).r ≠ .error .fuel ∧
      (fixed = true → MetaCodecOk c → m.dataUsed.toNat ≤ metaCap → done + size.toNat = total → (∀ a ∈ acc, a.inBounds) →
        (∀ a ∈ (readLoop fixed c total fuel m size done acc).acc, a.inBounds) ∧
        (readLoop fixed c total fuel m size done acc).st.dataUsed.toNat ≤ metaCap) := by
  refine fuel_ind UInt64.toNat fun fuel size ih m done acc => ?_
  unfold readLoop
  split
  · exact ⟨nofun, fun _ _ hm _ hacc => ⟨hacc, hm⟩⟩
  split
  · exact ⟨nofun, fun _ _ hm _ hacc => ⟨hacc, hm⟩⟩
  rename_i hsz hguard
  have hoff : fixed = true → m.offset.toNat ≤ m.dataUsed.toNat := fun hf => by
    simpa [hf, UInt64.le_iff_toNat_le] using hguard
  obtain ⟨hnf, hne, hsafe⟩ := refill_post fixed c m
  simp only []
  split
  · rename_i e he
    refine ⟨fun h => hnf (by rw [he, Except.error.inj h]), fun hf hc hm _ hacc => ?_⟩
    obtain ⟨hacc', hdu, _⟩ := hsafe hc hm (hoff hf)
    exact ⟨safe_append hacc hacc', hdu⟩
  · rename_i hok
    obtain ⟨hlt, hround⟩ := readLoop_round (avail := (refill fixed c m).2) (size := size) rfl hsz (hne hok)
    refine And.imp_right (fun ih2 hf hc hm hds hacc => ?_) (ih _ hlt _ _ _)
    obtain ⟨hacc', hdu, hfit⟩ := hsafe hc hm (hoff hf)
    obtain ⟨hsrc, hdst, hds'⟩ := hround (hfit hok) hds
    exact ih2 hf hc hdu hds' (safe_append (safe_append hacc hacc') (safe_cons (Nat.le_trans hsrc hdu) (safe_one hdst)))

theorem mread_safe (c : MetaCfg) (hc : MetaCodecOk c) (m : MetaSt) (size : UInt64)
    (hm : m.dataUsed.toNat ≤ metaCap) :
    (∀ a ∈ (mread true c m size).acc, a.inBounds) ∧ (mread true c m size).st.dataUsed.toNat ≤ metaCap := by
  unfold mread
  exact (readLoop_post true c size.toNat _ size (by omega) m 0 []).2 rfl hc hm (by simp) (by simp)

/-- a history of `seek`/`read` calls from any reader that holds at most a block: each call is safe and leaves such a reader,
also when it fails, so the rest of the history starts as the whole did -/
theorem runOps_safe (c : MetaCfg) (hc : MetaCodecOk c) (ops : List MetaOp) (m : MetaSt) (hm : m.dataUsed.toNat ≤ metaCap) :
    ∀ a ∈ runOps true c m ops, a.inBounds := by
  induction ops generalizing m with
  | nil => exact List.forall_mem_nil _
  | cons op t ih =>
    cases op
    · exact safe_append ((seekG_post true c m _ _).safe hc hm).1 (ih _ ((seekG_post true c m _ _).safe hc hm).2)
    · exact safe_append (mread_safe c hc m _ hm).1 (ih _ (mread_safe c hc m _ hm).2)

theorem mread_ne_fuel (fixed : Bool) (c : MetaCfg) (m : MetaSt) (size : UInt64) : (mread fixed c m size).r ≠ .error .fuel := by
  unfold mread
  exact (readLoop_post fixed c size.toNat _ size (by omega) m 0 []).1

theorem onDiskSize_lt (w : UInt32) : (onDiskSize w).toNat < 16777216 := by
  unfold onDiskSize
  rw [UInt32.toNat_and]
  have : w.toNat &&& (0xFFFFFF : UInt32).toNat ≤ (0xFFFFFF : UInt32).toNat := Nat.and_le_right
  have h2 : (0xFFFFFF : UInt32).toNat = 16777215 := by decide
  omega

/-- the `outsize` the stream reader hands to the codec -/
def streamWant (bs : UInt32) (s : StreamSt) : UInt64 := if s.filesz < bs.toUInt64 then s.filesz else bs.toUInt64

theorem streamWant_le (bs : UInt32) (s : StreamSt) : (streamWant bs s).toNat ≤ bs.toNat := by
  unfold streamWant
  split
  · rename_i h; have := UInt64.lt_iff_toNat_lt.1 h; simp at this; omega
  · simp

/-- where the skip loop leaves the block loop: inside a block (`offset ≤ block_size`) or with no block left; `offset` is not raised -/
theorem dataReadSkip_spec (bs : UInt64) (rem i : Nat) (offset : UInt64) :
    (dataReadSkip bs rem i offset).1 ≤ i + rem ∧
    ((dataReadSkip bs rem i offset).2.toNat ≤ bs.toNat ∨ (dataReadSkip bs rem i offset).1 = i + rem) ∧
    (dataReadSkip bs rem i offset).2.toNat ≤ offset.toNat := by
  fun_induction dataReadSkip bs rem i offset
  case case1 => simp
  case case2 rem i o h ih =>
    have hlt := UInt64.lt_iff_toNat_lt.1 h
    rw [toNat_sub_of_le (by omega)] at ih
    omega
  case case3 h =>
    rw [UInt64.not_lt, UInt64.le_iff_toNat_le] at h
    simp; omega

/-- one round of the block loop of `sqfs_data_reader_read` in ℕ.  Only `block_size - offset` has to be exact (a difference wraps
upwards); the truncation to 32 bits and `total + diff` are bounded from above as they stand. -/
theorem dataReadBlocks_round {bs sz t diff : UInt32} {o : UInt64} {cap : Nat}
    (ho : o.toNat ≤ bs.toNat) (hts : t.toNat + sz.toNat ≤ cap)
    (hd : diff = if sz < (bs.toUInt64 - o).toUInt32 then sz else (bs.toUInt64 - o).toUInt32) :
    o.toNat + diff.toNat ≤ bs.toNat ∧ t.toNat + diff.toNat ≤ cap ∧ (t + diff).toNat + (sz - diff).toNat ≤ cap := by
  have hd0 : ((bs.toUInt64 - o).toUInt32).toNat ≤ bs.toNat - o.toNat := by
    rw [UInt64.toNat_toUInt32, toNat_sub_of_le (by rwa [UInt32.toNat_toUInt64]), UInt32.toNat_toUInt64]
    exact Nat.mod_le _ _
  have hmin := toNat_umin32 (bs.toUInt64 - o).toUInt32 sz
  rw [← hd] at hmin
  have hadd := toNat_add_le32 (Nat.le_refl t.toNat) (Nat.le_refl diff.toNat)
  rw [UInt32.toNat_sub_of_le _ _ (UInt32.le_iff_toNat_le.2 (hmin ▸ Nat.min_le_right _ _))]
  omega

/-- `bound`: the loop never raises `offset` -/
theorem dataReadBlocks_safe (bs : UInt32) (words : Nat → UInt32) (blkOk : Nat → Bool) (blockCount cap bound : Nat) :
    ∀ (rem i : Nat) (offset : UInt64) (size total : UInt32) (acc : List Access),
      i + rem ≤ blockCount → (rem = 0 ∨ offset.toNat ≤ bs.toNat) → offset.toNat ≤ bound → total.toNat + size.toNat ≤ cap →
      (∀ a ∈ acc, a.inBounds) →
      (∀ a ∈ (dataReadBlocks bs words blkOk blockCount cap rem i offset size total acc).2, a.inBounds) ∧
      (∀ o s t, (dataReadBlocks bs words blkOk blockCount cap rem i offset size total acc).1 = .ok (o, s, t) →
        t.toNat + s.toNat ≤ cap ∧ o.toNat ≤ bound) := by
  intro rem
  induction rem with
  | zero =>
    intro i o sz t acc _ _ hob hts hacc
    exact ⟨hacc, fun o' s' t' h => by cases h; exact ⟨hts, hob⟩⟩
  | succ rem ih =>
    intro i o sz t acc hi hoff hob hts hacc
    unfold dataReadBlocks
    split
    · exact ⟨hacc, fun o' s' t' h => by cases h; exact ⟨hts, hob⟩⟩
    · simp only []
      obtain ⟨hblk, hdst, hnext⟩ := dataReadBlocks_round (hoff.resolve_left (Nat.succ_ne_zero _)) hts rfl
      have hino := safe_append hacc (safe_elem .inoData 4 (show i < blockCount by omega))
      have next := fun acc' => ih (i + 1) 0 _ _ acc' (by omega) (Or.inr (Nat.zero_le _)) (Nat.zero_le _) hnext
      split
      · exact next _ (safe_append hino (safe_one hdst))
      · split
        · exact ⟨hino, nofun⟩
        · exact next _ (safe_append hino (safe_cons hblk (safe_one hdst)))

/-- one round of the copy loop of `sqfs_read_table` in ℕ, the invariant being that the bytes still wanted fit the blocks still listed -/
theorem readTableLoop_round {ts diff : UInt64} {blkIdx blockCount : Nat} (h : ¬ (ts == 0) = true)
    (hd : diff = if (8192 : UInt64) > ts then ts else 8192) (hb : ts.toNat + blkIdx * 8192 ≤ blockCount * 8192) :
    blkIdx < blockCount ∧ (ts - diff).toNat + diff.toNat = ts.toNat ∧
    (ts - diff).toNat + (blkIdx + 1) * 8192 ≤ blockCount * 8192 := by
  have h0 := toNat_ne_zero h
  obtain ⟨hmin, hsub⟩ := toNat_take hd
  rw [show (8192 : UInt64).toNat = 8192 from rfl] at hmin
  omega

theorem readTableLoop_post (total blockCount : Nat) (stepOk : Nat → Bool) :
    ∀ (fuel : Nat) (ts : UInt64) (blkIdx done : Nat) (acc : List Access),
      ts.toNat + blkIdx * 8192 ≤ blockCount * 8192 → blockCount < blkIdx + fuel →
      (readTableLoop total blockCount stepOk fuel ts blkIdx done acc).1 ≠ .error .fuel ∧
      (done + ts.toNat = total → (∀ a ∈ acc, a.inBounds) →
        ∀ a ∈ (readTableLoop total blockCount stepOk fuel ts blkIdx done acc).2, a.inBounds) := by
  intro fuel
  induction fuel with
  | zero => intro ts bi dn acc hb hf; omega
  | succ fuel ih =>
    intro ts bi dn acc hb hf
    unfold readTableLoop
    split
    · exact ⟨nofun, fun _ hacc => hacc⟩
    rename_i hts
    obtain ⟨hlt, hsum, hnext⟩ := readTableLoop_round hts rfl hb
    have hloc := fun hacc => safe_append (as := acc) hacc (safe_elem .locations 8 hlt)
    simp only []
    split
    · exact ⟨nofun, fun _ hacc => hloc hacc⟩
    · refine (ih _ _ _ _ hnext (by omega)).imp_right fun h hd hacc => h (by omega) (safe_append (hloc hacc) (safe_one (by omega)))

/-- `count = size / 8192; if (size % 8192) ++count;`: the number of metadata blocks that hold `size` bytes -/
theorem toNat_metaBlocks (n : UInt64) :
    (if n % 8192 != 0 then n / 8192 + 1 else n / 8192).toNat = (n.toNat + 8191) / 8192 := by
  have hd : (n / 8192).toNat = n.toNat / 8192 := by rw [UInt64.toNat_div]; rfl
  have hm : (n % 8192).toNat = n.toNat % 8192 := by rw [UInt64.toNat_mod]; rfl
  have hn := UInt64.toNat_lt n
  split
  · rename_i h
    have h0 := toNat_ne_zero (x := n % 8192) (by simpa using h)
    rw [toNat_add_of_lt (by rw [hd, UInt64.toNat_one]; omega), hd, UInt64.toNat_one]
    omega
  · rename_i h
    have h0 : (n % 8192).toNat = 0 := by rw [show n % 8192 = 0 by simpa using h]; rfl
    rw [hd]
    omega

theorem tableBlockCount_eq (ts : UInt64) : (tableBlockCount ts).toNat = (ts.toNat + 8191) / 8192 :=
  toNat_metaBlocks ts

/-- `sqfs_read_table`: the copy loop ends after `block_count` rounds and fills exactly `table_size` bytes, whatever the seeks and
reads return -/
theorem readTable_post (ts : UInt64) (stepOk : Nat → Bool) :
    (readTable ts stepOk).1 ≠ .error .fuel ∧ ∀ a ∈ (readTable ts stepOk).2, a.inBounds := by
  unfold readTable
  simp only []
  refine (readTableLoop_post _ _ _ _ _ _ _ _ ?_ (by omega)).imp_right fun h => h (by simp) (by simp)
  rw [tableBlockCount_eq]; omega

theorem addOv_some (a b s : UInt64) (h : addOv a b = some s) : s.toNat = a.toNat + b.toNat := by
  revert h
  fun_cases addOv a b <;> intro h <;> cases h
  exact toNat_add_of_lt ‹_›

theorem mulOv_some (a b s : UInt64) (h : mulOv a b = some s) : s.toNat = a.toNat * b.toNat := by
  revert h
  fun_cases mulOv a b <;> intro h <;> cases h
  rw [UInt64.toNat_mul]
  exact Nat.mod_eq_of_lt ‹_›

theorem allocFlex_some (base item n alloc : UInt64) (h : allocFlex base item n = some alloc) :
    alloc.toNat = base.toNat + n.toNat * item.toNat := by
  obtain ⟨s, hm, h⟩ := Option.bind_eq_some_iff.1 h
  rw [addOv_some _ _ _ h, mulOv_some _ _ _ hm]

theorem szInodeGeneric_eq : szInodeGeneric = 64 := by decide
theorem szDirIndex_eq : szDirIndex = 12 := by decide

theorem growLoop_spec (need used : UInt64) (fuel : Nat) (start n : UInt64)
    (hle : used.toNat ≤ start.toNat) (h : growLoop need used fuel start = some n) :
    start.toNat ≤ n.toNat ∧ used.toNat + need.toNat ≤ n.toNat := by
  fun_induction growLoop need used fuel start
  case case1 => cases h
  case case2 => cases h
  case case3 n' heq ih =>
    have hm := mulOv_some _ _ _ heq
    rw [show (2 : UInt64).toNat = 2 from rfl] at hm
    have := ih (by omega) h
    omega
  case case4 hn =>
    cases h
    exact ⟨Nat.le_refl _, toNat_fits hle hn⟩

/-- one record of the index loop of `read_inode_dir_ext` in ℕ: header and name fit below the `index_max` the doubling loop
arrived at, and so does `index_used` after them -/
theorem dirExtLoop_round {indexMax indexUsed newSz im : UInt64} {sz : UInt32} (hle : indexUsed.toNat ≤ indexMax.toNat)
    (hg : growLoop (szDirIndex.toUInt64 + sz.toUInt64 + 1) indexUsed 65 indexMax = some newSz)
    (him : im = if newSz > indexMax then newSz else indexMax) :
    indexUsed.toNat + szDirIndex ≤ im.toNat ∧
    (indexUsed + szDirIndex.toUInt64).toNat + (sz + 1).toNat ≤ im.toNat ∧
    (indexUsed + szDirIndex.toUInt64 + (sz + 1).toUInt64).toNat ≤ im.toNat := by
  have e12 : szDirIndex.toUInt64.toNat = 12 := rfl
  obtain ⟨h1, h2⟩ := growLoop_spec _ _ _ _ _ hle hg
  -- `sizeof(ent) + ent.size + 1` in `size_t` is exact
  rw [UInt64.add_comm szDirIndex.toUInt64, UInt64.add_assoc, toNat_widen_add sz _ (by decide),
    show (szDirIndex.toUInt64 + 1).toNat = 13 from rfl] at h2
  have hmax : im.toNat = newSz.toNat := by
    rw [him]; split
    · rfl
    · exact Nat.le_antisymm h1 (UInt64.le_iff_toNat_le.1 (UInt64.not_lt.1 ‹_›))
  -- what is written is bounded from above: `ent.size + 1` in 32 bits (0 for `0xFFFFFFFF`) is at most the 64-bit sum the
  -- growth test used, and `index_used` after the record at most the sum of its parts
  have a1 := toNat_add_le (Nat.le_refl indexUsed.toNat) (Nat.le_of_eq e12)
  have a2 := toNat_add_le32 (Nat.le_refl sz.toNat) (Nat.le_of_eq UInt32.toNat_one)
  have a3 := toNat_add_le a1 (Nat.le_of_eq (UInt32.toNat_toUInt64 (sz + 1)))
  have e := szDirIndex_eq
  omega

theorem dirExtLoop_safe : ∀ (szs : List UInt32) (indexMax indexUsed : UInt64) (acc : List Access)
    (im iu : UInt64) (as : List Access),
    indexUsed.toNat ≤ indexMax.toNat → (∀ a ∈ acc, a.inBounds) →
    dirExtLoop szs indexMax indexUsed acc = .ok (im, iu, as) →
    (∀ a ∈ as, a.inBounds) ∧ iu.toNat ≤ im.toNat := by
  intro szs
  induction szs with
  | nil =>
    intro indexMax indexUsed acc im iu as hle hacc h
    cases h
    exact ⟨hacc, hle⟩
  | cons sz rest ih =>
    intro indexMax indexUsed acc im iu as hle hacc h
    unfold dirExtLoop at h
    simp only [] at h
    split at h
    · cases h
    · rename_i newSz hg
      obtain ⟨hhdr, hname, hnext⟩ := dirExtLoop_round hle hg rfl
      exact ih _ _ _ _ _ _ hnext (safe_append hacc (safe_cons hhdr (safe_one hname))) h

/-- the two tests in front of the header copy of `sqfs_inode_unpack_dir_index_entry`, in ℕ -/
theorem unpackIdx_header {used : UInt32} {o : UInt64} (h1 : ¬ o ≥ used.toUInt64)
    (h2 : ¬ used.toUInt64 - o < szDirIndex.toUInt64) : o.toNat + szDirIndex ≤ used.toNat := by
  have h := toNat_fits (Nat.le_of_lt (UInt64.lt_iff_toNat_lt.1 (UInt64.not_le.1 h1))) h2
  rwa [UInt32.toNat_toUInt64] at h

/-- the test in front of the name copy (`size + 1` and `size + 2` in 64 bits) and the allocation, in ℕ -/
theorem unpackIdx_name {used s : UInt32} {o alloc : UInt64} (hh : o.toNat + szDirIndex ≤ used.toNat)
    (h3 : ¬ s.toUInt64 + 1 > used.toUInt64 - o - szDirIndex.toUInt64)
    (hal : allocFlex szDirIndex.toUInt64 1 (s.toUInt64 + 2) = some alloc) :
    0 + szDirIndex ≤ alloc.toNat ∧ szDirIndex + (s.toUInt64 + 1).toNat ≤ alloc.toNat ∧
    o.toNat + szDirIndex + (s.toUInt64 + 1).toNat ≤ used.toNat := by
  have e12 : szDirIndex.toUInt64.toNat = 12 := rfl
  rw [szDirIndex_eq] at hh ⊢
  have hn1 : (s.toUInt64 + 1).toNat = s.toNat + 1 := toNat_widen_add _ 1 (by decide)
  have hav := allocFlex_some _ _ _ _ hal
  rw [toNat_widen_add _ 2 (by decide), e12, UInt64.toNat_one, show (2 : UInt64).toNat = 2 from rfl] at hav
  have hrest : (used.toUInt64 - o).toNat = used.toNat - o.toNat := by
    rw [toNat_sub_of_le (by rw [UInt32.toNat_toUInt64]; omega), UInt32.toNat_toUInt64]
  have h3 := toNat_fits (off := szDirIndex.toUInt64) (by rw [hrest, e12]; omega) h3
  rw [hrest, e12, hn1] at h3
  rw [hn1]; omega

theorem unpackIdx_safe (used : UInt32) (szAt : UInt64 → UInt32) :
    ∀ (fuel : Nat) (offset index : UInt64) (acc : List Access), (∀ a ∈ acc, a.inBounds) →
      ∀ a ∈ (unpackIdx true used szAt fuel offset index acc).2, a.inBounds := by
  intro fuel
  induction fuel with
  | zero => intro o i acc hacc; exact hacc
  | succ fuel ih =>
    intro o i acc hacc
    unfold unpackIdx
    split
    · exact hacc
    rename_i hlt
    split
    · exact hacc
    rename_i h12
    simp only [Bool.true_and, decide_eq_true_eq] at h12
    have hh := unpackIdx_header hlt h12
    have hacc' := safe_append hacc (safe_one (b := .idxSrc) hh)
    simp only []
    split
    · split
      · exact hacc'
      · rename_i hname
        simp only [Bool.true_and, decide_eq_true_eq] at hname
        simp only [if_true]
        split
        · exact hacc'
        · rename_i alloc hal
          obtain ⟨h1, h2, h3⟩ := unpackIdx_name hh hname hal
          exact safe_append hacc' (safe_cons h1 (safe_cons h2 (safe_one h3)))
    · exact ih _ _ _ hacc'

theorem strncmpEq_examined (a b : List UInt8) (n : Nat) : (strncmpEq a b n).2 ≤ b.length + 1 := by
  fun_induction strncmpEq a b n
  case case4 b _ ca cb h1 h2 _ k heq ih =>
    -- the bytes agree and are not NUL: `b` is not at its end
    cases b with
    | nil => simp +zetaDelta at h1 h2; exact absurd h1 h2
    | cons c t => rw [heq] at ih; simpa using ih
  all_goals simp

theorem strncmpEq_len (a b : List UInt8) (n : Nat) (hn : n ≤ a.length) (ha : (0 : UInt8) ∉ a)
    (h : (strncmpEq a b n).1 = true) : n ≤ b.length := by
  fun_induction strncmpEq a b n
  case case1 => exact Nat.zero_le _
  case case2 => cases h
  case case3 a _ _ ca _ _ h0 =>
    cases a with
    | nil => cases hn
    | cons x xs => simp +zetaDelta at h0; exact absurd (h0 ▸ List.mem_cons_self) ha
  case case4 a b _ ca cb h1 h2 _ k heq ih =>
    cases a with
    | nil => cases hn
    | cons x xs =>
      cases b with
      | nil => simp +zetaDelta at h1 h2; exact absurd h1 h2
      | cons y ys =>
        rw [heq] at ih
        exact Nat.succ_le_succ (ih (Nat.le_of_succ_le_succ hn) (fun hm => ha (List.mem_cons_of_mem _ hm)) h)

theorem cstr_no_nul (s : List UInt8) : (0 : UInt8) ∉ cstr s := fun h => by
  simpa using List.all_eq_true.1 List.all_takeWhile 0 h

end Sqfs.ReaderBounds
