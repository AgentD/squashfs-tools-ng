/-
C02: the writer pass of the reference (`wStep`) never fails and keeps `WInv`: the block writer's
invariant of Proofs/BlockWriter.lean (C08), plus one record per written fragment block — the location entered in the
fragment table still holds the block's bytes, whatever is written (and de-duplicated) afterwards.  Every block is one
`write_spec` step of C08; a fragment block is a stored call outside every file, which that invariant keeps in `loose`
and which reads as the record of a one-block file (`Inv.looseRec`).
-/
import Sqfs.Proofs.BPFrag
namespace Sqfs.BlockProc
open Sqfs.Consts
open Sqfs.BlockWriter (hasFlag)

/-- the `write_data_block` call for block `b` -/
def callOf (b : Blk) : BlockWriter.Call := ⟨b.chk, clearFlag b.flags blkFlagInternal, b.data⟩

theorem callOf_first (b : Blk) : (callOf b).first = isFirst b := hasFlag_clearFlag b.flags _ _ rfl
theorem callOf_last (b : Blk) : (callOf b).last = isLast b := hasFlag_clearFlag b.flags _ _ rfl

theorem callOf_stored (b : Blk) : (callOf b).stored = (b.data.length != 0 && !hasFlag b.flags blkIsSparse) := by
  simp [BlockWriter.Call.stored, callOf, clearInternal_sparse]

theorem callOf_word (b : Blk) : BlockWriter.mkWord b.data.length (callOf b).flags = sizeWord b := by
  simp only [BlockWriter.mkWord, callOf, clearInternal_compressed, sizeWord]

theorem nextOpened_callOf (o : Bool) (b : Blk) : BlockWriter.nextOpened o (callOf b) = bOpen o b := by
  simp [BlockWriter.nextOpened, bOpen, callOf_first, callOf_last]

theorem WInv.init (P : Params) : WInv P [] { wr := BlockWriter.init P.pre } :=
  ⟨⟨[], [], [], [], BlockWriter.Inv_init P.pre, fun b hb => (by cases hb)⟩, rfl, fun e he => (by cases he), fun e he => (by cases he)⟩

theorem mem_blockEffs {b : Blk} {loc : Nat} {e : Eff} (h : e ∈ blockEffs b loc) :
    b.inode = some e.id ∧ ((e.e = .start loc) ∨ (hasFlag b.flags blkIsSparse = true ∧ e.e = .sparse b.index b.data.length) ∨
      (hasFlag b.flags blkIsSparse = false ∧ b.data ≠ [] ∧ isFB b = false ∧ e.e = .word b.index (sizeWord b))) := by
  unfold blockEffs at h
  rcases List.mem_append.mp h with h | h
  · split at h
    · rename_i hs
      obtain ⟨h1, h2⟩ := mem_mkEff h
      exact ⟨h1, Or.inr (Or.inl ⟨hs, h2⟩)⟩
    · rename_i hs
      split at h
      · rename_i hc
        obtain ⟨h1, h2⟩ := mem_mkEff h
        simp only [Bool.and_eq_true, bne_iff_ne, ne_eq, Bool.not_eq_true'] at hc
        refine ⟨h1, Or.inr (Or.inr ⟨by simpa using hs, fun he => hc.1 (by simp [he]), hc.2, h2⟩)⟩
      · cases h
  · split at h
    · obtain ⟨h1, h2⟩ := mem_mkEff h
      exact ⟨h1, Or.inl h2⟩
    · cases h

theorem WInv.step {P : Params} {written : List Blk} {W : WSt} (h : WInv P written W) (b : Blk)
    (hsz : b.data.length < 2 ^ 24)
    (hp : (if isFB b then !(written.foldl bOpen false) else (!isLast b || written.foldl bOpen false || isFirst b)) = true)
    (hfb : isFB b = true → FBFlagFacts b.flags ∧ b.data ≠ []) :
    ∃ W', wStep W b = .ok W' ∧ WInv P (written ++ [b]) W' := by
  obtain ⟨⟨ps, acc, recs, loose, hinv, hrecs⟩, hsets, hprov, hids⟩ := h
  have hrest : ∀ (loc : Nat),
      (∀ e ∈ W.effs ++ blockEffs b loc, (∃ loc, e.e = .start loc) ∨ (∃ k m, e.e = .sparse k m) ∨
              (∃ k v y, e.e = .word k v ∧ y ∈ written ++ [b] ∧ isFB y = false ∧ y.data ≠ [] ∧ y.inode = some e.id ∧ y.index = k)) ∧
      (isFB b = false → ∀ e ∈ W.effs ++ blockEffs b loc, ∃ y ∈ written ++ [b], isFB y = false ∧ y.inode = some e.id) := by
    intro loc
    refine ⟨List.forall_mem_append.mpr ⟨fun e he => (hprov e he).imp_right (Or.imp_right fun ⟨k, v, y, h1, h2, h3⟩ =>
        ⟨k, v, y, h1, List.mem_append_left _ h2, h3⟩), fun e he => ?_⟩,
      fun hnfb => List.forall_mem_append.mpr ⟨fun e he => (hids e he).imp fun y hy => ⟨List.mem_append_left _ hy.1, hy.2⟩,
        fun e he => ⟨b, List.mem_append_right _ List.mem_cons_self, hnfb, (mem_blockEffs he).1⟩⟩⟩
    obtain ⟨hi, h1 | ⟨_, h1⟩ | ⟨_, hne, hnfb, h1⟩⟩ := mem_blockEffs he
    · exact Or.inl ⟨_, h1⟩
    · exact Or.inr (Or.inl ⟨_, _, h1⟩)
    · exact Or.inr (Or.inr ⟨_, _, b, h1, List.mem_append_right _ List.mem_cons_self, hnfb, hne, hi, rfl⟩)
  have hwf : (callOf b).last = true → (written.foldl bOpen false || (callOf b).first) = true := by
    rw [callOf_last, callOf_first]
    intro hl
    by_cases hisfb : isFB b = true
    · rw [show isLast b = false from (hfb hisfb).1.notLast] at hl; cases hl
    · simpa [hisfb, hl] using hp
  obtain ⟨wr', loc, ps', hw, hinv', _⟩ := BlockWriter.write_spec (callOf b) hinv hsz hwf
  rw [nextOpened_callOf, ← foldl_snoc bOpen false written b] at hinv'
  have hw' : BlockWriter.writeDataBlock W.wr b.chk (clearFlag b.flags blkFlagInternal) b.data = .ok (wr', loc) := hw
  refine ⟨_, by unfold wStep; rw [hw'], ?_⟩
  obtain ⟨hr1, hr2'⟩ := hrest loc
  have hold : ∀ y ∈ written, isFB y = true → ∃ l, (y.index, l, sizeWord y) ∈ W.sets ∧
      (⟨l, [⟨sizeWord y, y.chk, y.data⟩]⟩ : BlockWriter.Rec) ∈
        BlockWriter.nextRecs recs (callOf b) (BlockWriter.fileStep acc (callOf b)) loc := fun y hy hyfb =>
    (hrecs y hy hyfb).imp fun l h => ⟨h.1, BlockWriter.mem_nextRecs h.2⟩
  by_cases hisfb : isFB b = true
  · -- a fragment block, between two files: a stored call outside every file
    obtain ⟨hfacts, hne⟩ := hfb hisfb
    have ho : written.foldl bOpen false = false := by simpa [hisfb] using hp
    have hlen : (b.data.length != 0) = true := by simpa using hne
    have hloose := BlockWriter.mem_nextLoose (loose := loose) loc
      (show (callOf b).outside (written.foldl bOpen false) = true by
        rw [BlockWriter.Call.outside, ho, callOf_first, callOf_last]
        rw [show isFirst b = false from hfacts.notFirst, show isLast b = false from hfacts.notLast]; rfl)
      (show (callOf b).stored = true by rw [callOf_stored, hfacts.notSparse, hlen]; rfl)
    simp only [hfacts.notSparse, hlen, show hasFlag b.flags blkFragmentBlock = true from hisfb, Bool.not_false, Bool.and_self,
      if_true]
    have hr2 : ∀ e ∈ W.effs ++ blockEffs b loc, ∃ y ∈ written ++ [b], isFB y = false ∧ y.inode = some e.id := by
      have hnoeff : blockEffs b loc = [] := by
        simp [blockEffs, hfacts.notSparse, hfacts.notLast, show hasFlag b.flags blkFragmentBlock = true from hisfb]
      rw [hnoeff, List.append_nil]
      exact fun e he => (hids e he).imp fun y hy => ⟨List.mem_append_left _ hy.1, hy.2⟩
    refine ⟨⟨ps', _, _, _, hinv'.looseRec hloose, List.forall_mem_append.mpr ⟨fun y hy hyfb => ?_,
      List.forall_mem_singleton.mpr fun _ => ⟨loc, List.mem_append_right _ List.mem_cons_self,
        List.mem_append_right _ (List.mem_singleton.mpr ?_)⟩⟩⟩, ?_, hr1, hr2⟩
    · obtain ⟨l, h1, h2⟩ := hold y hy hyfb
      exact ⟨l, List.mem_append_left _ h1, List.mem_append_left _ h2⟩
    · rw [← callOf_word]; rfl
    · simp only [List.map_append, List.map_cons, List.map_nil, List.filter_append, List.filter_cons, hisfb, if_true, List.filter_nil, hsets]
  · -- a data block
    have hnfb : isFB b = false := by simpa using hisfb
    simp only [show hasFlag b.flags blkFragmentBlock = false from hnfb, Bool.and_false, Bool.false_eq_true, if_false]
    refine ⟨⟨ps', _, _, _, hinv', List.forall_mem_append.mpr ⟨fun y hy hyfb => ?_,
      List.forall_mem_singleton.mpr fun hyfb => absurd (hnfb.symm.trans hyfb) Bool.false_ne_true⟩⟩, ?_, hr1, hr2' hnfb⟩
    · exact hold y hy hyfb
    · simp only [List.filter_append, List.filter_cons, hnfb, Bool.false_eq_true, if_false, List.filter_nil, List.append_nil, hsets]

theorem wRun_append (W : WSt) (a b : List Blk) :
    wRun W (a ++ b) = (match wRun W a with
                       | .error e => .error e
                       | .ok W' => wRun W' b) := by
  fun_induction wRun W a with
  | case1 => rfl
  | case2 W x a e h => simp only [List.cons_append, wRun, h]
  | case3 W x a W' h ih => simp only [List.cons_append, wRun, h]; exact ih

theorem wRun_snoc (l : List Blk) (W0 : WSt) (b : Blk) :
    wRun W0 (l ++ [b]) = match wRun W0 l with
      | .ok W => wStep W b
      | .error e => .error e := by
  rw [wRun_append]
  cases wRun W0 l with
  | error e => rfl
  | ok W => simp only [wRun]; cases wStep W b <;> rfl

theorem applySets_length (tbl : List (Nat × Nat)) (sets : List (Nat × Nat × Nat)) : (applySets tbl sets).length = tbl.length := by
  induction sets generalizing tbl with
  | nil => rfl
  | cons s r ih => simp only [applySets, List.foldl_cons] at ih ⊢; rw [ih]; simp

theorem applySets_append (tbl : List (Nat × Nat)) (a b : List (Nat × Nat × Nat)) :
    applySets tbl (a ++ b) = applySets (applySets tbl a) b := by
  simp [applySets, List.foldl_append]

theorem applySets_get_of_not_mem (tbl : List (Nat × Nat)) (sets : List (Nat × Nat × Nat)) (i : Nat)
    (h : i ∉ sets.map (·.1)) : (applySets tbl sets)[i]? = tbl[i]? := by
  induction sets generalizing tbl with
  | nil => rfl
  | cons s r ih =>
    simp only [List.map_cons, List.mem_cons, not_or] at h
    simp only [applySets, List.foldl_cons] at ih ⊢
    rw [ih _ h.2, List.getElem?_set_ne (Ne.symm h.1)]

theorem applySets_get (tbl : List (Nat × Nat)) (sets : List (Nat × Nat × Nat)) (hn : (sets.map (·.1)).Nodup)
    (i loc w : Nat) (hm : (i, loc, w) ∈ sets) (hi : i < tbl.length) : (applySets tbl sets)[i]? = some (loc, w) := by
  induction sets generalizing tbl with
  | nil => cases hm
  | cons s r ih =>
    rw [List.map_cons, List.nodup_cons] at hn
    simp only [applySets, List.foldl_cons] at ih ⊢
    rcases List.mem_cons.mp hm with hm | hm
    · subst hm
      have := applySets_get_of_not_mem (tbl.set i (loc, w)) r i hn.1
      simp only [applySets] at this
      rw [this, List.getElem?_set_self (by simpa using hi)]
    · exact ih _ hn.2 hm (by simpa using hi)

theorem applySets_snoc (tbl : List (Nat × Nat)) (sets : List (Nat × Nat × Nat)) (z : Nat × Nat)
    (h : ∀ s ∈ sets, s.1 < tbl.length) : applySets (tbl ++ [z]) sets = applySets tbl sets ++ [z] := by
  induction sets generalizing tbl with
  | nil => rfl
  | cons s r ih =>
    simp only [applySets, List.foldl_cons] at ih ⊢
    have hs := h s List.mem_cons_self
    rw [List.set_append_left _ _ hs]
    apply ih
    intro s' hs'
    simpa using h s' (List.mem_cons_of_mem _ hs')

end Sqfs.BlockProc
