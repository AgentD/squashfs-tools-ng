/-
C04 — `decode_header` meets its field-by-field specification for header blocks of every dialect.
-/
import Sqfs.Proofs.TarNumber
import Sqfs.Spec.TarHeader
import Mathlib.Tactic.SplitIfs
namespace Sqfs.Tar

attribute [ext] Decoded

/-- One `if (!(set_by_pax & FLAG)) …` step of `decode_header`: first the field's value (a PAX value wins), then the update;
    when the PAX value wins the update writes back what is there. -/
theorem field_step {α : Type} (get : Decoded → α) (set : Decoded → α → Decoded) (conv : Nat → α) (hs : ∀ o, set o (get o) = o)
    (mask flag : Nat) (f : Bytes) (o : Decoded) (k : Decoded → Option Decoded) :
    ((if hasFlag mask flag then some o else (readNumber f).map fun v => set o (conv v)) >>= k) =
      (specField mask flag (some (get o)) f conv >>= fun v => k (set o v)) := by
  unfold specField
  rw [readNumber_spec]
  cases hasFlag mask flag <;> cases specNumber f <;> simp [hs]

theorem name_step (h : Bytes) (mask : Nat) (o : Decoded) (v : Version) :
    (if hasFlag mask PAX_NAME then o
     else if (slice h 345 155).headD 0 ≠ 0 ∧ v = .posix then
       { o with name := some (strn (slice h 345 155) ++ [47] ++ strn (slice h 0 100)) }
     else { o with name := some (strn (slice h 0 100)) }) =
    { o with name := if hasFlag mask PAX_NAME then o.name else some (specName h v) } := by
  unfold specName
  split_ifs <;> rfl

theorem unknown_eq (tf : UInt8) :
    (if tf = 0 ∨ tf = 48 ∨ tf = 83 then false else if tf = 49 then false else if tf = 50 then false else if tf = 51 then false
     else if tf = 52 then false else if tf = 53 then false else if tf = 54 then false else true) =
    decide (¬ (tf = 0 ∨ tf = 48 ∨ tf = 83 ∨ tf = 49 ∨ tf = 50 ∨ tf = 51 ∨ tf = 52 ∨ tf = 53 ∨ tf = 54)) := by
  simp only [Bool.if_false_left, decide_not, Bool.decide_or, Bool.not_or, Bool.and_assoc, Bool.and_true]

theorem decodeHeader_eq_spec (h : Bytes) (mask : Nat) (out : Decoded) (v : Version) :
    decodeHeader h mask out v = specDecode h mask out v := by
  unfold decodeHeader specDecode
  simp only [name_step,
    field_step (·.recordSize) (fun o v => { o with recordSize := v }) (fun x => x) (fun _ => rfl),
    field_step (·.uid) (fun o v => { o with uid := v }) (fun x => x) (fun _ => rfl),
    field_step (·.gid) (fun o v => { o with gid := v }) (fun x => x) (fun _ => rfl),
    field_step (·.devMajor) (fun o v => { o with devMajor := v }) (· % 4294967296) (fun _ => rfl),
    field_step (·.devMinor) (fun o v => { o with devMinor := v }) (· % 4294967296) (fun _ => rfl),
    field_step (·.mtime) (fun o v => { o with mtime := v }) toSigned (fun _ => rfl)]
  refine Option.bind_congr fun size _ => Option.bind_congr fun uid _ => Option.bind_congr fun gid _ => Option.bind_congr fun maj _ =>
    Option.bind_congr fun min _ => Option.bind_congr fun mt _ => ?_
  rw [readNumber_spec]
  refine Option.bind_congr fun md _ => congrArg some (Decoded.ext_iff.2 ?_)
  -- both sides are now built from the same values; field by field, the chain over the type flag is pushed into the field
  simp only [apply_ite Decoded.name, apply_ite Decoded.link, apply_ite Decoded.sparse, apply_ite Decoded.actualSize,
    apply_ite Decoded.recordSize, apply_ite Decoded.unknown, apply_ite Decoded.hardLink, apply_ite Decoded.xattr,
    apply_ite Decoded.mode, apply_ite Decoded.uid, apply_ite Decoded.gid, apply_ite Decoded.devMajor,
    apply_ite Decoded.devMinor, apply_ite Decoded.mtime, ite_self, unknown_eq, and_self]

end Sqfs.Tar
