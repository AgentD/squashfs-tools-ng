/-
The induction behind every loop that is modelled with fuel: `μ x + 1` rounds are enough for a loop whose every round
stops or goes on from a state of smaller measure `μ`.
-/
namespace Sqfs

/-- State the loop lemma `∀ fuel x, μ x + 1 ≤ fuel → …` (equally `μ x < fuel`), with `x` ONE variable and everything else
quantified behind the inequality: `P` is then read off the goal. -/
theorem fuel_ind {σ : Type} (μ : σ → Nat) {P : Nat → σ → Prop}
    (step : ∀ f x, (∀ y, μ y < μ x → P f y) → P (f + 1) x) : ∀ fuel x, μ x + 1 ≤ fuel → P fuel x := by
  intro fuel
  induction fuel with
  | zero => intro x h; omega
  | succ f ih => exact fun x h => step f x fun y hy => ih y (by omega)

/-- the same for a measure of two variables -/
theorem fuel_ind₂ {σ τ : Type} (μ : σ → τ → Nat) {P : Nat → σ → τ → Prop}
    (step : ∀ f x y, (∀ x' y', μ x' y' < μ x y → P f x' y') → P (f + 1) x y) : ∀ fuel x y, μ x y + 1 ≤ fuel → P fuel x y :=
  fun fuel x y => fuel_ind (fun p : σ × τ => μ p.1 p.2) (P := fun f p => P f p.1 p.2)
    (fun f p ih => step f p.1 p.2 fun x' y' => ih (x', y')) fuel (x, y)

end Sqfs
