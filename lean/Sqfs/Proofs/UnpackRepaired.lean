/-
C06, the repaired unpacker (`Sqfs/Model/UnpackRepaired.lean`) is confined to R from **any** file system.  The invariant
`InvR` is not a statement about everything below R (that would need a hypothesis on what is there) but about the calls
made so far: the object at the path of every creating call that succeeded — or was a
`mkdir`/`EEXIST` accepted after `lstat` — is there, and is of that call's sort.  With the plan's order (a path's
prefixes are made earlier; the fill and attribute walks come after the create walk) this is all resolution needs.
-/
import Sqfs.Proofs.UnpackRun
import Sqfs.Proofs.UnpackComplete
import Sqfs.Model.UnpackRepaired
namespace Sqfs.Unpack
open Sqfs.Path

/-- invariant of a repaired run; `done` = the calls that succeeded or were tolerated so far -/
structure InvR (R : PathC) (fs₀ fs : Fs) (done : List Syscall) : Prop where
  /-- whatever differs from the initial file system is the place, strictly below R, of a call made so far -/
  chg : ∀ p, fs p ≠ fs₀ p → ∃ sc ∈ done, ∃ c k, CallFor sc c k ∧ c ≠ [] ∧ p = R ++ c
  est : ∀ sc ∈ done, sc.isCreate = true → ∀ c k, CallFor sc c k → c ≠ [] →
          ∃ n, fs (R ++ c) = some n ∧ kindMatch n.kind k = true

theorem InvR.out {R : PathC} {fs₀ fs : Fs} {done : List Syscall} (hi : InvR R fs₀ fs done) :
    ∀ p, underB R p = false → fs p = fs₀ p := by
  intro p hp
  by_cases h : fs p = fs₀ p
  · exact h
  · obtain ⟨_, _, c, _, _, hne, rfl⟩ := hi.chg p h
    rw [underB_append R hne] at hp; cases hp

theorem InvR.chg_cons {R : PathC} {fs₀ fs : Fs} {done : List Syscall} (hi : InvR R fs₀ fs done) (sc : Syscall) :
    ∀ p, fs p ≠ fs₀ p → ∃ sc' ∈ sc :: done, ∃ c k, CallFor sc' c k ∧ c ≠ [] ∧ p = R ++ c := by
  intro p hp
  obtain ⟨sc', hm, h⟩ := hi.chg p hp
  exact ⟨sc', List.mem_cons_of_mem _ hm, h⟩

/-- the order in which the calls joined `done` does not matter -/
theorem InvR.of_mem {R : PathC} {fs₀ fs : Fs} {d d' : List Syscall} (hi : InvR R fs₀ fs d) (h : ∀ x, x ∈ d ↔ x ∈ d') :
    InvR R fs₀ fs d' where
  chg p hp := let ⟨sc, hm, r⟩ := hi.chg p hp; ⟨sc, (h sc).1 hm, r⟩
  est sc hm := hi.est sc ((h sc).2 hm)

/-- what the plan's order says about a call made after the calls `done`: the `mkdir` of every proper prefix of its
    path is among them, and if it is not itself a creating call so is the creating call of its own node -/
def Placed (done : List Syscall) (sc : Syscall) : Prop :=
  ∃ c k, CallFor sc c k ∧
    (∀ pre, pre <+: c → pre ≠ [] → pre ≠ c → ∃ m, Syscall.mkdir (joinSlash pre) m ∈ done) ∧
    (sc.isCreate = false → ∃ sc', sc' ∈ done ∧ sc'.isCreate = true ∧ sc'.path = joinSlash c ∧ Compat sc' k)

theorem isCreate_follows {sc : Syscall} (h : sc.isCreate = true) : sc.follows = false := by
  cases sc <;> simp_all [Syscall.isCreate, Syscall.follows]

/-- `fl`: the last component not followed (what `lstat` does), or treated the way the call itself treats it -/
theorem InvR.resolves {R : PathC} {fs₀ fs : Fs} {done : List Syscall} (hi : InvR R fs₀ fs done) {sc : Syscall}
    {c : List Bytes} {k : Kind} (hc : CallFor sc c k)
    (h1 : ∀ pre, pre <+: c → pre ≠ [] → pre ≠ c → ∃ m, Syscall.mkdir (joinSlash pre) m ∈ done)
    (h2 : sc.isCreate = false → ∃ sc', sc' ∈ done ∧ sc'.isCreate = true ∧ sc'.path = joinSlash c ∧ Compat sc' k)
    (fl : Bool) (hfl : fl = false ∨ fl = sc.follows) :
    (∃ e, resolve fs R (joinSlash c) fl = .error e) ∨
      (c ≠ [] ∧ resolve fs R (joinSlash c) fl = .ok (R ++ c, fs (R ++ c))) := by
  obtain ⟨hg, hpath, hcompat⟩ := hc
  apply resolve_clean fs R c fl hg
  · intro pre hp hn1 hn2 t a hfs
    obtain ⟨m, hm⟩ := h1 pre hp hn1 hn2
    obtain ⟨n, hn, hk⟩ := hi.est _ hm rfl pre .dir ⟨hg.prefix hp, rfl, rfl⟩ hn1
    rw [hfs] at hn
    cases hn
    simp [kindMatch] at hk
  · intro hne
    rcases hfl with h | h
    · exact Or.inl h
    · rcases Syscall.follows_compat hcompat with hf | hk
      · exact Or.inl (h.trans hf)
      · by_cases hcr : sc.isCreate = true
        · exact Or.inl (h.trans (isCreate_follows hcr))
        · right
          intro t a hfs
          obtain ⟨sc', hm, hcr', hp', hc'⟩ := h2 (by simpa using hcr)
          obtain ⟨n, hn, hkm⟩ := hi.est sc' hm hcr' c k ⟨hg, hp', hc'⟩ hne
          rw [hfs] at hn
          cases hn
          exact hk (kindMatch_symlink hkm)

theorem InvR.set {R : PathC} {fs₀ fs : Fs} {done : List Syscall} {sc : Syscall} (hi : InvR R fs₀ fs done)
    {c : List Bytes} {k : Kind} (hcc : CallFor sc c k) (hne : c ≠ []) {n : Node}
    (hold : ∀ sc'' ∈ done, sc''.isCreate = true → ∀ k'', CallFor sc'' c k'' → kindMatch n.kind k'' = true)
    (hnew : sc.isCreate = true → ∀ k'', Compat sc k'' → kindMatch n.kind k'' = true) :
    InvR R fs₀ (fs.set (R ++ c) n) (sc :: done) := by
  constructor
  · intro q hq
    by_cases hqc : q = R ++ c
    · exact ⟨sc, by simp, c, k, hcc, hne, hqc⟩
    · rw [fs.set_of_ne n hqc] at hq
      exact hi.chg_cons sc q hq
  · intro sc'' hm hcr c'' k'' hcf hne''
    by_cases he : c'' = c
    · subst he
      refine ⟨n, fs.set_self _ n, ?_⟩
      rcases List.mem_cons.1 hm with rfl | hm
      · exact hnew hcr k'' hcf.compat
      · exact hold sc'' hm hcr k'' hcf
    · rw [fs.set_below_ne R n he]
      rcases List.mem_cons.1 hm with rfl | hm
      · exact absurd (hcf.same_node hcc) he
      · exact hi.est sc'' hm hcr c'' k'' hcf hne''

theorem InvR.step {R : PathC} {fs₀ fs fs' : Fs} {done : List Syscall} {sc : Syscall} (hi : InvR R fs₀ fs done)
    (hp : Placed done sc) (hs : step fs R sc = .ok fs') : InvR R fs₀ fs' (sc :: done) := by
  obtain ⟨c, k, hcc, h1, h2⟩ := hp
  obtain ⟨hne, hw⟩ := step_wrote_at hs (hcc.path ▸ hi.resolves hcc h1 h2 sc.follows (Or.inr rfl))
  cases hw with
  | new n absent eq fits _ =>
    -- nothing was there: no creating call has been made for this place
    refine eq ▸ hi.set hcc hne ?_ (fun _ => fits)
    intro sc'' hm hcr'' k'' hcf
    obtain ⟨n₁, hn₁, _⟩ := hi.est sc'' hm hcr'' c k'' hcf hne
    rw [hn₁] at absent; cases absent
  | kept _ _ notCreate eq =>
    refine eq ▸ ⟨hi.chg_cons sc, ?_⟩
    intro sc'' hm hcr'' c'' k'' hcf hne''
    rcases List.mem_cons.1 hm with rfl | hm
    · rw [notCreate] at hcr''; cases hcr''
    · exact hi.est sc'' hm hcr'' c'' k'' hcf hne''
  | replaced n₀ n found notCreate eq sameSort =>
    refine eq ▸ hi.set hcc hne ?_ (fun h => by rw [notCreate] at h; cases h)
    intro sc'' hm hcr'' k'' hcf
    obtain ⟨n₁, hn₁, hk₁⟩ := hi.est sc'' hm hcr'' c k'' hcf hne
    rw [found] at hn₁; cases hn₁
    exact kindMatch_sameSort sameSort hk₁

theorem InvR.tolerated {R : PathC} {fs₀ fs : Fs} {done : List Syscall} {sc : Syscall} {lf : Bool} {e : Errno}
    (hi : InvR R fs₀ fs done) (hp : Placed done sc) (ht : toleratedR lf fs R sc e = true) : InvR R fs₀ fs (sc :: done) := by
  obtain ⟨c, k, hc, h1, h2⟩ := hp
  refine ⟨hi.chg_cons sc, ?_⟩
  intro sc'' hm hcr c'' k'' hcf hne''
  rcases List.mem_cons.1 hm with rfl | hm
  · have e1 : c'' = c := hcf.same_node hc
    subst e1
    -- only a `mkdir` answering `EEXIST` is tolerated, and then `lstat` saw a directory at its place
    revert ht
    fun_cases toleratedR lf fs R sc'' e <;> intro ht
    case case2 => cases ht
    rename_i p m
    have hd : lstatIsDir fs R p = true := by simp at ht; exact ht.2
    obtain rfl : k'' = .dir := hcf.compat
    obtain rfl : p = joinSlash c'' := hcf.path
    revert hd
    fun_cases lstatIsDir fs R (joinSlash c'') <;> intro hd
    case case2 => cases hd
    rename_i hr
    rcases hi.resolves hc h1 h2 false (Or.inl rfl) with ⟨er, he⟩ | ⟨_, hok⟩
    · rw [he] at hr; cases hr
    · rw [hok] at hr
      injection hr with hr
      injection hr with _ hr
      exact ⟨_, hr, rfl⟩
  · exact hi.est sc'' hm hcr c'' k'' hcf hne''

/-- A repaired run of the rest `scs` of a plan whose calls are placed, whatever fails, keeps the invariant for the calls
    made: calls of the plan, all of them if no call failed. -/
theorem InvR.run {R : PathC} {fs₀ : Fs} (flt : Faults) (lflt : Nat → Bool) {plan : List Syscall}
    (hw : ∀ s₁ sc s₂, plan = s₁ ++ sc :: s₂ → Placed s₁ sc) (scs : List Syscall) (i : Nat) (fs : Fs)
    (pre : List Syscall) (e : plan = pre ++ scs) (hi : InvR R fs₀ fs pre) :
    ∃ done, (∀ x ∈ done, x ∈ plan) ∧ ((runR flt lflt R i fs scs).failed = false → ∀ x ∈ plan, x ∈ done) ∧
      InvR R fs₀ (runR flt lflt R i fs scs).fs done := by
  -- a call made (it succeeded, or was tolerated) joins the calls in front of the rest; the run goes on from there
  fun_induction runR flt lflt R i fs scs generalizing pre
  case case1 => exact ⟨pre, by simp [e], by simp [e], hi⟩
  case case2 _ _ sc _ _ hs _ ih =>
    exact ih (pre ++ [sc]) (by simp [e]) ((hi.step (hw _ _ _ e) (stepF_ok hs).2).of_mem fun x => by simp [or_comm])
  case case3 _ _ sc _ _ _ ht _ ih =>
    exact ih (pre ++ [sc]) (by simp [e]) ((hi.tolerated (hw _ _ _ e) ht).of_mem fun x => by simp [or_comm])
  case case4 => exact ⟨pre, fun x hx => e ▸ List.mem_append_left _ hx, fun hf => (by cases hf), hi⟩

theorem InvR.start (R : PathC) (fs₀ : Fs) : InvR R fs₀ fs₀ [] :=
  ⟨fun _ h => absurd rfl h, fun _ h => absurd h (by simp)⟩

/-! ### every call of `unpackTree`'s plan is placed -/

theorem filterMap_split {α β : Type} (f : α → Option β) (l : List α) (s₁ : List β) (x : β) (s₂ : List β)
    (h : l.filterMap f = s₁ ++ x :: s₂) : ∃ l₁ y l₂, l = l₁ ++ y :: l₂ ∧ f y = some x ∧ l₁.filterMap f = s₁ := by
  obtain ⟨a, b, rfl, ha, hb⟩ := List.filterMap_eq_append_iff.1 h
  obtain ⟨b₁, y, b₂, rfl, hn, hy, _⟩ := List.filterMap_eq_cons_iff.1 hb
  refine ⟨a ++ b₁, y, b₂, by simp, hy, ?_⟩
  rw [List.filterMap_append, ha, List.filterMap_eq_nil_iff.2 hn, List.append_nil]

theorem unpackTree_placed (ord : List FileEnt → List FileEnt) (hord : OrdOK ord) (fl : Flags) (t t' : TNode)
    (hs : treeSort t = .ok t') (s₁ : List Syscall) (sc : Syscall) (s₂ : List Syscall)
    (h : (unpackTree ord fl t).syscalls = s₁ ++ sc :: s₂) : Placed s₁ sc := by
  obtain ⟨l₁, y, l₂, e1, e2, e3⟩ := filterMap_split _ _ s₁ sc s₂ h
  have hy : y = Ev.sys sc := by
    cases y with
    | sys s => simp at e2; rw [e2]
    | skip n => simp at e2
  subst hy
  obtain ⟨c, k, _, hg, hpath, hcompat, hpre, hown⟩ := unpackTree_ordered ord hord fl t t' hs l₁ sc l₂ e1
  refine ⟨c, k, ⟨hg, hpath, hcompat⟩, ?_, ?_⟩
  · intro pre a b e
    obtain ⟨m, hm'⟩ := hpre pre a b e
    exact ⟨m, by rw [← e3]; exact (Out.mem_syscalls (o := ⟨l₁, none⟩)).2 hm'⟩
  · intro hnc
    obtain ⟨sc', h1, h2, h3, h4⟩ := hown hnc
    exact ⟨sc', by rw [← e3]; exact (Out.mem_syscalls (o := ⟨l₁, none⟩)).2 h1, h4, h2, h3⟩

theorem unpackTree_runR (ord : List FileEnt → List FileEnt) (hord : OrdOK ord) (fl : Flags) (t : TNode) (R : PathC)
    (fs₀ : Fs) (flt : Faults) (lflt : Nat → Bool) (i : Nat) :
    ∃ done, (∀ x ∈ done, x ∈ (unpackTree ord fl t).syscalls) ∧
      ((runR flt lflt R i fs₀ (unpackTree ord fl t).syscalls).failed = false →
        ∀ x ∈ (unpackTree ord fl t).syscalls, x ∈ done) ∧
      InvR R fs₀ (runR flt lflt R i fs₀ (unpackTree ord fl t).syscalls).fs done := by
  cases hs : treeSort t with
  | error e =>
    rw [unpackTree_dup ord fl hs]
    exact ⟨[], fun _ h => h, fun _ _ h => h, InvR.start R fs₀⟩
  | ok t' =>
    exact InvR.run flt lflt (unpackTree_placed ord hord fl t t' hs) _ i fs₀ [] rfl (InvR.start R fs₀)

end Sqfs.Unpack
