/-
Soundness of error propagation in the block-processor model (C13, second layer): every combinator and every
function of Sqfs/Model/FailStopBlockProc.lean is `Sound` — if a primitive draws a fault while it runs, it
returns an error — provided every primitive's result is checked.  The proof for a function is the term that follows
its text, one rule per combinator.  Where a `do` block goes on after an `if` or a `match`, the elaborated term shares the
rest as a local function: `extract_lets k` names it and it is dealt with once, beforehand.
-/
import Sqfs.Model.FailStopBlockProc
namespace Sqfs.FailStop.BP
open Sqfs.FailStop

def isErr {α : Type} : Except Err α → Bool
  | .ok _ => false
  | .error _ => true

/-- `m` reports every fault drawn while it runs. -/
structure Sound {α : Type} (m : M α) : Prop where
  prop : ∀ c : Ctx, c.faulted = false → (m c).2.faulted = true → isErr (m c).1 = true

/-- a step that leaves `faulted` alone -/
theorem Sound.of_faulted {α : Type} {m : M α} (h : ∀ c, (m c).2.faulted = c.faulted) : Sound m :=
  ⟨fun c h0 h1 => by rw [h, h0] at h1; cases h1⟩

theorem Sound.pure {α : Type} {a : α} : Sound (Pure.pure a : M α) := .of_faulted fun _ => rfl

theorem Sound.fail {α : Type} {e : Err} : Sound (fail e : M α) := .of_faulted fun _ => rfl

theorem Sound.getP : Sound getP := .of_faulted fun _ => rfl

theorem Sound.modP {f : Proc → Proc} : Sound (modP f) := .of_faulted fun _ => rfl

theorem Sound.bind {α β : Type} {m : M α} {f : α → M β} (hm : Sound m) (hf : ∀ a, Sound (f a)) :
    Sound (m >>= f) := ⟨by
  intro c h0 h1
  show isErr ((Bind.bind m f) c).1 = true
  have h1' : ((Bind.bind m f) c).2.faulted = true := h1
  simp only [Bind.bind] at *
  rcases hmc : m c with ⟨r, c'⟩
  rw [hmc] at h1'
  cases r with
  | error e => simp [isErr]
  | ok a =>
    simp only [] at h1' ⊢
    have hc' : c'.faulted = false := by
      cases hcf : c'.faulted
      · rfl
      · have := hm.prop c h0 (by rw [hmc]; exact hcf)
        rw [hmc] at this; simp [isErr] at this
    exact (hf a).prop c' hc' h1'⟩

/-- `always m fin c` has the result and the flags of `m c` -/
theorem Sound.always {α : Type} {m : M α} {fin : Proc → Proc} (hm : Sound m) : Sound (always m fin) := ⟨hm.prop⟩

theorem Sound.onError {α : Type} {m : M α} {fin : Proc → Proc} (hm : Sound m) : Sound (onError m fin) := ⟨by
  intro c h0 h1
  unfold BP.onError at *
  rcases hmc : m c with ⟨r, c'⟩
  rw [hmc] at h1
  cases r with
  | error e => simp [isErr]
  | ok a =>
    simp only [] at h1 ⊢
    have := hm.prop c h0 (by rw [hmc]; exact h1)
    rw [hmc] at this; exact this⟩

theorem Sound.ite {α : Type} {c : Prop} [Decidable c] {a b : M α} (ha : Sound a) (hb : Sound b) :
    Sound (if c then a else b) := by
  split <;> assumption

section
variable {v : Variant} (hv : ∀ p, checked v p = true)
include hv

theorem Sound.prim {p : Prim} : Sound (prim v p) := ⟨by
  intro c h0 h1
  unfold BP.prim at h1 ⊢
  by_cases hb : c.script.headD false = true
  · rw [if_pos hb, if_pos (hv p)]; rfl
  · rw [if_neg hb] at h1; simp [h0] at h1⟩

theorem sound_enqueueBlock (b : Blk) : Sound (enqueueBlock v b) := by
  unfold enqueueBlock
  extract_lets k
  have hk : ∀ r, Sound (k r) := fun _ => .bind (.onError (.prim hv)) fun _ => .modP
  exact .ite (.bind (.prim hv) hk) (hk ())

theorem sound_writeDataBlock (b : Blk) : Sound (writeDataBlock v b) := by
  unfold writeDataBlock
  extract_lets k
  have hk : ∀ r, Sound (k r) := fun _ => .ite (.ite (.bind (.prim hv) fun _ => .prim hv) .pure) .pure
  exact .ite (.bind (.prim hv) fun _ => .bind (.prim hv) hk) (hk ())

theorem sound_processCompletedBlock (b : Blk) : Sound (processCompletedBlock v b) := by
  unfold processCompletedBlock
  exact .always (.bind (sound_writeDataBlock hv b) fun _ => .bind .modP fun _ =>
    .ite (.ite (.prim hv) .pure) (.ite (.ite (.prim hv) (.ite (.prim hv) .pure)) .pure))

theorem sound_processCompletedFragment (b : Blk) : Sound (processCompletedFragment v b) := by
  unfold processCompletedFragment
  extract_lets k1 k2
  have h2 : ∀ r, Sound (k2 r) := fun _ => .bind .getP fun p => match p.fragBlk with
    | none => .bind (.onError (.prim hv)) fun _ => .bind .modP fun _ => .bind (.prim hv) fun _ => .prim hv
    | some _ => .bind .modP fun _ => .always (.bind (.prim hv) fun _ => .prim hv)
  exact .ite (.ite (.bind (.onError (.prim hv)) fun _ => .modP) .modP)
    (.bind (.ite .pure (.bind (.onError (.prim hv)) fun _ => .pure)) fun _ => .ite .modP (.bind .getP fun p =>
      match p.fragBlk with
      | some _ => .ite (.bind .modP fun _ => .bind (.onError (sound_enqueueBlock hv _)) h2) (h2 ())
      | none => h2 ()))

theorem sound_drainIo (fuel : Nat) : Sound (drainIo v fuel) := by
  induction fuel with
  | zero => exact .fail
  | succ n ih =>
    unfold drainIo
    exact .bind .getP fun p => match p.ioq with
      | [] => .pure
      | _ :: _ => .ite .pure (.bind .modP fun _ => .bind (sound_processCompletedBlock hv _) fun _ => ih)

theorem sound_dequeueLoop (old fuel : Nat) : Sound (dequeueLoop v old fuel) := by
  induction fuel with
  | zero => exact .fail
  | succ n ih =>
    unfold dequeueLoop
    extract_lets k
    have hk : ∀ r, Sound (k r) := fun _ => .bind .getP fun _ => .ite ih .pure
    exact .bind (sound_drainIo hv _) fun _ => .bind .getP fun p => .ite .pure (.ite .pure (.ite .pure (match p.pool with
      | [] => .fail
      | _ :: _ => .bind (.prim hv) fun _ => .bind .modP fun _ =>
        .ite (.bind (sound_processCompletedFragment hv _) hk) (.ite (.bind .modP hk) (.bind .modP hk)))))

theorem sound_dequeueBlock (fuel : Nat) : Sound (dequeueBlock v fuel) := by
  unfold dequeueBlock
  exact .bind .getP fun _ => sound_dequeueLoop hv _ _

theorem sound_getNewBlock (fuel : Nat) : Sound (getNewBlock v fuel) := by
  induction fuel with
  | zero => exact .fail
  | succ n ih =>
    unfold getNewBlock
    exact .bind .getP fun _ => .ite (.bind (sound_dequeueBlock hv _) fun _ => ih)
      (.ite (.bind .modP fun _ => .modP) (.bind (.prim hv) fun _ => .modP))

theorem sound_addSentinel (fuel : Nat) : Sound (addSentinel v fuel) := by
  unfold addSentinel
  exact .bind (sound_getNewBlock hv _) fun _ => .bind .getP fun _ => sound_enqueueBlock hv _

theorem sound_beginFile (i d n b : Bool) : Sound (beginFile v i d n b) := by
  unfold beginFile
  exact .bind .getP fun _ => .ite .fail (.ite (.bind (.prim hv) fun _ => .modP) .modP)

theorem sound_appendLoop (z d : Bool) (fuel size : Nat) : Sound (appendLoop v z d fuel size) := by
  induction fuel generalizing size with
  | zero => exact .fail
  | succ n ih =>
    unfold appendLoop
    extract_lets k
    have hk : ∀ r, Sound (k r) := fun _ => .bind .getP fun p => match p.cur with
      | none => .fail
      | some _ => .ite (.bind .modP fun _ => .bind (sound_enqueueBlock hv _) fun _ => ih _) (.bind .modP fun _ => ih _)
    exact .ite
      (.bind .getP fun p => match p.cur with
        | some _ => .ite (.bind .modP fun _ => sound_enqueueBlock hv _) .pure
        | none => .fail)
      (.bind .getP fun _ => .ite (.bind (sound_getNewBlock hv _) fun _ => .bind .modP hk) (hk ()))

theorem sound_append (size : Nat) (z d : Bool) (fuel : Nat) : Sound (append v size z d fuel) := by
  unfold append
  exact .bind .getP fun _ => .ite .fail (sound_appendLoop hv _ _ _ _)

theorem sound_endFile (fuel : Nat) : Sound (endFile v fuel) := by
  have hs := sound_addSentinel hv fuel
  unfold endFile
  exact .bind .getP fun p => .ite .fail (match p.cur with
    | none => .ite (.bind hs fun _ => .modP) .modP
    | some _ => .ite (.bind .modP fun _ => .bind (sound_enqueueBlock hv _) fun _ => .modP)
      (.ite (.bind hs fun _ => .bind .modP fun _ => .bind (sound_enqueueBlock hv _) fun _ => .modP)
        (.bind .modP fun _ => .bind (sound_enqueueBlock hv _) fun _ => .modP)))

theorem sound_sync (fuel : Nat) : Sound (sync v fuel) := by
  induction fuel with
  | zero => exact .fail
  | succ n ih =>
    unfold sync
    exact .bind .getP fun _ => .ite .pure (.ite .pure (.ite .pure (.bind (sound_dequeueBlock hv _) fun _ => ih)))

theorem sound_finish (fuel : Nat) : Sound (finish v fuel) := by
  unfold finish
  exact .bind (sound_sync hv _) fun _ => .bind .getP fun p => match p.fragBlk with
    | none => .pure
    | some _ => .bind .modP fun _ => .bind (sound_enqueueBlock hv _) fun _ => sound_sync hv _

theorem sound_call (fuel : Nat) (a : Api) : Sound (call v fuel a) := by
  cases a with
  | beginFile i d n b => exact sound_beginFile hv i d n b
  | append n z d => exact sound_append hv n z d fuel
  | endFile => exact sound_endFile hv fuel
  | sync => exact sound_sync hv fuel
  | finish => exact sound_finish hv fuel

end

theorem fixed_checked : ∀ p, checked Variant.fixed p = true := by
  intro p; cases p <;> rfl

/-- /repo as it is (fixes/C13-sparse-tail-result.patch is part of the source). -/
theorem current_checked : ∀ p, checked Variant.current p = true := by
  intro p; cases p <;> rfl

/-- Every result of a session is the result of one of its calls. -/
theorem mem_session {v : Variant} {fuel : Nat} {calls : List Api} {p : Proc} {fs : List Bool} {r : CallResult}
    (h : r ∈ session v fuel calls p fs) : ∃ a p' fs', r = (runCall v fuel a p' fs').1 := by
  fun_induction session v fuel calls p fs with
  | case1 => cases h
  | case2 a _ p fs _ _ _ hrc _ ih =>
    rcases List.mem_cons.1 h with rfl | h
    · exact ⟨a, p, fs, by rw [hrc]⟩
    · exact ih h
  | case3 a _ p fs _ _ _ hrc =>
    cases List.mem_singleton.1 h
    exact ⟨a, p, fs, by rw [hrc]⟩

end Sqfs.FailStop.BP
