/-
C04 fix-point — the tar iterator of tar2sqfs on the archive sqfs2tar wrote: member by member it reports exactly the
nodes of the image (`viewOf`), then end of archive.
-/
import Sqfs.Proofs.TarFixPath
import Sqfs.Proofs.TarSparse
import Sqfs.Proofs.TarHeaderFull
namespace Sqfs.Tar
open Sqfs.Path (joinSlash canonicalize)

/-- the xattr list sqfs2tar passes to `write_tar_header` -/
def xsOf (img : ImgData) (n : TNode) : List (Bytes × Bytes) := if n.hardLink then [] else (img.xattr n.path).reverse

theorem encodable_of_nodeOK (img : ImgData) (n : TNode) (h : NodeOK img n) :
    Encodable (wentryOf img n) n.target (xsOf img n) where
  nameNul := by
    intro x hx
    simp only [wentryOf, List.mem_append] at hx
    rcases hx with hx | hx
    · exact joinSlash_nul_free n.path h.comps x hx
    · split at hx
      · simp only [List.mem_singleton] at hx; rw [hx]; decide
      · cases hx
  tgtNul := by
    by_cases hl : fmt n.mode = S_IFLNK
    · obtain ⟨tg, htg, hnul, _⟩ := h.lnkTarget hl
      rw [htg]; exact hnul
    · rw [h.noTarget hl]; intro x hx; cases hx
  keyNul := by
    intro kv hkv
    unfold xsOf at hkv
    split at hkv
    · cases hkv
    · exact h.keyNul kv (List.mem_reverse.1 hkv)
  size := by
    simp only [wentryOf]
    split
    · rename_i hl
      obtain ⟨tg, htg, _, hlen⟩ := h.lnkTarget hl
      rw [htg]; simp only [Option.getD_some, U64]; omega
    · split
      · exact h.contentLen
      · simp only [U64]; omega
  mtime := by have := h.mtime; simp only [wentryOf]; omega
  uid := by have := h.uid; simp only [wentryOf]; omega
  gid := by have := h.gid; simp only [wentryOf]; omega
  dev := by
    simp only [wentryOf]
    by_cases hd : fmt n.mode = S_IFCHR ∨ fmt n.mode = S_IFBLK
    · have := h.dev hd; simp only [hd, if_true]; omega
    · simp only [hd, if_false]; omega
  nameLen := by
    have := h.nameLen
    simp only [wentryOf, List.length_append]
    split <;> simp <;> omega
  tgtLen := by
    by_cases hl : fmt n.mode = S_IFLNK
    · obtain ⟨tg, htg, _, hlen⟩ := h.lnkTarget hl
      rw [htg]; exact hlen
    · rw [h.noTarget hl]; simp
  paxLen := by
    intro hh
    simp only [wentryOf] at hh
    unfold xsOf
    simp only [hh, Bool.false_eq_true, if_false]
    exact h.paxLen
  slink := by
    intro _ hl
    simp only [wentryOf] at hl ⊢
    rw [if_pos hl]
  hlink := by
    intro hh
    simp only [wentryOf] at hh
    obtain ⟨tg, htg, _⟩ := h.hardTarget hh
    rw [htg]; rfl

theorem entryType_of_kind (img : ImgData) (n : TNode) (h : NodeOK img n) : ∃ t, entryType n.mode = some t := by
  unfold entryType
  rcases h.kind with hk | hk | hk | hk | hk | hk <;> simp [hk]

theorem written_length (e : WEntry) (tgt : Option Bytes) (xs : List (Bytes × Bytes)) (c : Nat) (w : Bytes)
    (hE : Encodable e tgt xs) (hw : writeTarHeader e tgt xs c = some w) : 512 ≤ w.length := by
  -- less than one block could not be read back as a header
  by_contra hlt
  have hrt := readHeader_writeTarHeader e tgt xs c [] w hE hw
  rw [List.append_nil, readHeader, readHeaderWith, loop_short _ _ _ _ _ _ (by omega)] at hrt
  split at hrt <;> cases hrt

theorem entryBytes_some (img : ImgData) (n : TNode) (c : Nat) (h : NodeOK img n) :
    ∃ hd, writeTarHeader (wentryOf img n) n.target (xsOf img n) c = some hd ∧ 512 ≤ hd.length ∧
      entryBytes img n c = some (hd ++ (if fmt n.mode = S_IFREG then
        img.content n.path ++ zeros (padding (img.content n.path).length) else [])) := by
  have hE := encodable_of_nodeOK img n h
  cases hw : writeTarHeader (wentryOf img n) n.target (xsOf img n) c with
  | none =>
    exfalso
    unfold writeTarHeader writeTarHeaderK at hw
    obtain ⟨t, ht⟩ := entryType_of_kind img n h
    have : (wentryOf img n).mode = n.mode := rfl
    cases hh : (wentryOf img n).hardLink <;> simp [hh, this, ht] at hw
  | some hd =>
    refine ⟨hd, rfl, written_length _ _ _ c hd hE hw, ?_⟩
    unfold entryBytes
    unfold xsOf at hw
    rw [hw]

theorem canon_wname (img : ImgData) (n : TNode) (h : NodeOK img n) :
    canonicalize (wentryOf img n).name = some (joinSlash n.path) := by
  simp only [wentryOf]
  split
  · exact canon_join_trailing n.path h.pathNe h.comps
  · rw [List.append_nil]; exact canon_join n.path h.pathNe h.comps

/-- the entry `it_next` reports for a decoded header whose name canonicalises to `nm`; `data`: what reading the file stream gave -/
def memberOf (d : Decoded) (nm : Bytes) (data : Option ExpandResult) : IterEntry :=
  let mode := if d.hardLink then S_IFLNK + 0o777 else d.mode
  ⟨nm, mode, d.hardLink, d.uid, d.gid, d.mtime, if fmt mode = S_IFREG then d.actualSize else 0,
   if fmt mode = S_IFLNK then d.link else none, data, d.devMajor, d.devMinor, d.xattr⟩

section rules
variable (cfg : ReadCfg) (want f : Nat) (s0 s1 s' : Bytes) (skip : Nat) (acc : List IterEntry) (d : Decoded) (nm : Bytes)

theorem iterLoop_cut (hs : istreamSkip s0 skip = none) : iterLoop cfg want (f + 1) s0 skip acc = (acc, .err) := by
  rw [iterLoop, hs]

theorem iterLoop_eof (hs : istreamSkip s0 skip = some s1) (hr : readHeaderWith cfg s1 = .eof) :
    iterLoop cfg want (f + 1) s0 skip acc = (acc, .eof) := by
  rw [iterLoop, hs]; simp only [hr]

theorem iterLoop_other (hs : istreamSkip s0 skip = some s1) (hr : readHeaderWith cfg s1 = .ok d s') (hu : d.unknown = false)
    (hc : canonicalize (d.name.getD []) = some nm) (hm : ¬ fmt (if d.hardLink then S_IFLNK + 0o777 else d.mode) = S_IFREG) :
    iterLoop cfg want (f + 1) s0 skip acc =
      iterLoop cfg want f s' (d.recordSize + padding d.recordSize) (acc ++ [memberOf d nm none]) := by
  rw [iterLoop, hs]
  simp only [hr, hu, hc, hm, Bool.false_eq_true, if_false, memberOf]

theorem iterLoop_file (hs : istreamSkip s0 skip = some s1) (hr : readHeaderWith cfg s1 = .ok d s') (hu : d.unknown = false)
    (hc : canonicalize (d.name.getD []) = some nm) (hm : fmt (if d.hardLink then S_IFLNK + 0o777 else d.mode) = S_IFREG)
    (r : ExpandResult) (hx : expandC want d.sparse d.actualSize d.recordSize s' = r) (he : r.ending = .eof) :
    iterLoop cfg want (f + 1) s0 skip acc =
      iterLoop cfg want f r.stream (r.recordSize + padding d.recordSize) (acc ++ [memberOf d nm (some r)]) := by
  rw [iterLoop, hs]
  simp only [hr, hu, hc, hm, Bool.false_eq_true, if_false, if_true, hx, he, memberOf]

end rules

/-- what `read_header` returns for the member sqfs2tar wrote for a node of an image, in the node's terms -/
def nodeDecoded (img : ImgData) (n : TNode) : Decoded :=
  { name := some (wentryOf img n).name, link := if fmt n.mode = S_IFLNK then n.target else none, hardLink := n.hardLink,
    mode := if n.hardLink then perm n.mode else n.mode, uid := n.uid, gid := n.gid, mtime := n.modTime,
    recordSize := if fmt n.mode = S_IFREG then (img.content n.path).length else 0,
    actualSize := if fmt n.mode = S_IFREG then (img.content n.path).length else 0,
    devMajor := (viewOf img n).devMajor, devMinor := (viewOf img n).devMinor,
    xattr := if n.hardLink then [] else img.xattr n.path }

theorem decodedOf_node (img : ImgData) (n : TNode) (h : NodeOK img n) :
    decodedOf (wentryOf img n) n.target (xsOf img n).reverse = nodeDecoded img n := by
  unfold nodeDecoded
  have hwm : (wentryOf img n).mode = n.mode := rfl
  cases hh : n.hardLink with
  | true =>
    have hl := h.hardMode hh
    obtain ⟨tg, htg, _⟩ := h.hardTarget hh
    simp only [decodedOf, hh, if_true, hl, htg, Option.getD_some, viewOf, wentryOf,
      show ¬ (S_IFLNK = S_IFREG) by decide, show ¬ (S_IFLNK = S_IFCHR ∨ S_IFLNK = S_IFBLK) by decide, if_false]
  | false =>
    have hwh : (wentryOf img n).hardLink = false := hh
    have hxs : (xsOf img n).reverse = img.xattr n.path := by simp [xsOf, hh]
    simp only [decodedOf, hwh, Bool.false_eq_true, if_false, hwm, hxs]
    by_cases hl : fmt n.mode = S_IFLNK
    · obtain ⟨tg, htg, _, _⟩ := h.lnkTarget hl
      simp only [hl, if_true, htg, Option.getD_some, ← h.lnkMode hl, viewOf, wentryOf, List.take_length,
        show ¬ (S_IFLNK = S_IFREG) by decide, show ¬ (S_IFLNK = S_IFCHR ∨ S_IFLNK = S_IFBLK) by decide, if_false]
    · by_cases hr : fmt n.mode = S_IFREG
      · simp only [hr, if_true, if_false, viewOf, wentryOf, show ¬ (S_IFREG = S_IFCHR ∨ S_IFREG = S_IFBLK) by decide,
          show ¬ (S_IFREG = S_IFLNK) by decide]
      · by_cases hd : fmt n.mode = S_IFCHR ∨ fmt n.mode = S_IFBLK <;> simp only [hl, hr, hd, if_true, if_false, viewOf, wentryOf]

/-- one member: sqfs2tar writes it, the iterator reports the node and stands in front of what follows -/
theorem iterLoop_node (img : ImgData) (n : TNode) (c want : Nat) (hw : 1 ≤ want) (h : NodeOK img n) :
    ∃ b, entryBytes img n c = some b ∧ 512 ≤ b.length ∧
      ∀ rest, ∃ x s1 skip1, IterEntry.view x = viewOf img n ∧ istreamSkip s1 skip1 = some rest ∧
        ∀ f s0 skip acc, istreamSkip s0 skip = some (b ++ rest) →
          iterLoop {} want (f + 1) s0 skip acc = iterLoop {} want f s1 skip1 (acc ++ [x]) := by
  obtain ⟨hd, hwr, hlen, hbytes⟩ := entryBytes_some img n c h
  have hrt : ∀ tail, readHeaderWith {} (hd ++ tail) = .ok (nodeDecoded img n) tail := fun tail =>
    (readHeader_writeTarHeader _ _ _ c tail hd (encodable_of_nodeOK img n h) hwr).trans (by rw [decodedOf_node img n h])
  have hcan := canon_wname img n h
  -- the mode the iterator reports is the node's: a hard link is a symbolic link with 0777 in the image already
  have hmode : (if (nodeDecoded img n).hardLink then S_IFLNK + 0o777 else (nodeDecoded img n).mode) = n.mode := by
    cases hh : n.hardLink
    · simp only [nodeDecoded, hh, Bool.false_eq_true, if_false]
    · simp only [nodeDecoded, hh, if_true]; exact (h.lnkMode (h.hardMode hh)).symm
  have hview : ∀ data, (memberOf (nodeDecoded img n) (joinSlash n.path) data).view =
      { viewOf img n with data := data.map fun r => (r.out, r.ending) } := by
    intro data
    have ii : ∀ {α : Type} (c : Prop) [Decidable c] (a b : α), (if c then (if c then a else b) else b) = if c then a else b := by
      intro α c _ a b; by_cases hc : c <;> simp only [hc, if_true, if_false]
    simp only [IterEntry.view, memberOf, hmode]
    simp only [viewOf, nodeDecoded, ii]
  refine ⟨_, hbytes, by rw [List.length_append]; omega, fun rest => ?_⟩
  by_cases hreg : fmt n.mode = S_IFREG
  · -- regular file: header, data, padding
    refine ⟨memberOf (nodeDecoded img n) (joinSlash n.path)
        (some ⟨img.content n.path, zeros (padding (img.content n.path).length) ++ rest, 0, .eof⟩),
      _, padding (img.content n.path).length, ?_, istreamSkip_exact _ _ _ (zeros_length _), ?_⟩
    · rw [hview]; simp only [viewOf, hreg, if_true, Option.map_some]
    · intro f s0 skip acc hs
      rw [if_pos hreg, List.append_assoc, List.append_assoc] at hs
      have hx : expandC want (nodeDecoded img n).sparse (nodeDecoded img n).actualSize (nodeDecoded img n).recordSize
          (img.content n.path ++ (zeros (padding (img.content n.path).length) ++ rest)) =
          ⟨img.content n.path, zeros (padding (img.content n.path).length) ++ rest, 0, .eof⟩ := by
        simp only [nodeDecoded, hreg, if_true]; exact expandC_plain want hw _ _ h.contentLen
      rw [iterLoop_file {} want f s0 _ _ skip acc _ _ hs (hrt _) rfl hcan (by rw [hmode]; exact hreg) _ hx rfl]
      simp only [nodeDecoded, hreg, if_true, Nat.zero_add]
  · refine ⟨memberOf (nodeDecoded img n) (joinSlash n.path) none, rest, 0, ?_, istreamSkip_zero _, ?_⟩
    · rw [hview]; simp only [viewOf, hreg, if_false, Option.map_none]
    · intro f s0 skip acc hs
      rw [if_neg hreg, List.append_nil] at hs
      rw [iterLoop_other {} want f s0 _ _ skip acc _ _ hs (hrt _) rfl hcan (by rw [hmode]; exact hreg)]
      simp only [nodeDecoded, hreg, if_false, show padding 0 = 0 by decide]

/-- `terminate_archive`: two zero records end the archive -/
theorem readHeader_terminator : readHeaderWith {} (zeros 1024) = .eof := by
  rw [readHeaderWith, zeros_length, show zeros 1024 = zeros 512 ++ (zeros 512 ++ []) by rw [List.append_nil, ← zeros_add]]
  rw [show 1024 / 512 + 2 = 3 + 1 from rfl, loop_zero, loop_zero]
  simp only [Bool.false_eq_true, if_false, if_true]

theorem iterLoop_archive (img : ImgData) (want : Nat) (hw : 1 ≤ want) :
    ∀ (t : List TNode) (c f : Nat) (s0 : Bytes) (skip : Nat) (acc : List IterEntry), (∀ n ∈ t, NodeOK img n) →
      istreamSkip s0 skip = some (sqfs2tarLoop img t c) → (sqfs2tarLoop img t c).length / 512 + 1 ≤ f →
      ∃ es, iterLoop {} want f s0 skip acc = (acc ++ es, .eof) ∧ es.map IterEntry.view = t.map (viewOf img) := by
  intro t
  induction t with
  | nil =>
    intro c f s0 skip acc _ hs hf
    obtain ⟨f', rfl⟩ : ∃ f', f = f' + 1 := ⟨f - 1, by omega⟩
    refine ⟨[], ?_, rfl⟩
    rw [iterLoop_eof {} want f' s0 _ skip acc hs readHeader_terminator, List.append_nil]
  | cons n t ih =>
    intro c f s0 skip acc hok hs hf
    obtain ⟨f', rfl⟩ : ∃ f', f = f' + 1 := ⟨f - 1, by omega⟩
    obtain ⟨b, hb, hlen, hread⟩ := iterLoop_node img n c want hw (hok n (by simp))
    obtain ⟨x, s1, skip1, hview, hdrop, hstep⟩ := hread (sqfs2tarLoop img t (c + 1))
    rw [sqfs2tarLoop, hb, Option.getD_some] at hs hf
    rw [hstep f' s0 skip acc hs]
    obtain ⟨es, hes, hviews⟩ := ih (c + 1) f' s1 skip1 (acc ++ [x]) (fun m hm => hok m (List.mem_cons_of_mem _ hm)) hdrop
      (by rw [List.length_append] at hf; omega)
    refine ⟨x :: es, ?_, ?_⟩
    · rw [hes, List.append_assoc]; rfl
    · simp only [List.map_cons, hview, hviews]

theorem iterate_sqfs2tar (img : ImgData) (t : List TNode) (hok : ∀ n ∈ t, NodeOK img n) :
    ∃ es, iterate (sqfs2tar img t) = (es, .eof) ∧ es.map IterEntry.view = t.map (viewOf img) := by
  unfold iterate iterateWith sqfs2tar
  obtain ⟨es, h1, h2⟩ := iterLoop_archive img 512 (by omega) t 0 ((sqfs2tarLoop img t 0).length / 512 + 2)
    (sqfs2tarLoop img t 0) 0 [] hok (istreamSkip_zero _) (by omega)
  exact ⟨es, by simpa using h1, h2⟩

end Sqfs.Tar
