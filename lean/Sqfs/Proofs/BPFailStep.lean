/-
C02 (failing compressor): the block processor over two pool behaviours that agree wherever a predicate `G` on the pool's
history holds, `G` being closed downwards along the three ways the pool state evolves and what a zero answer of `get_status`
tells (`Agrees`).  `Tr`: if a function of the model succeeds over the one behaviour and `G` holds of the pool *afterwards*,
then `G` held before and the function does exactly the same over the other behaviour.  (Used with `G = Healthy`: the failing
serial pool vs. the healthy one.)  This file: everything up to `dequeue_block`.
-/
import Sqfs.Model.BlockProc
namespace Sqfs.BlockProc

abbrev withAns (P : Params) (a : PoolSt → Pool.Op → Pool.Ret) : Params := { P with ans := a }

structure Agrees (P : Params) (a : PoolSt → Pool.Op → Pool.Ret) (G : PoolSt → Prop) : Prop where
  agree : ∀ p op, G p → a p op = P.ans p op
  ofSubmit : ∀ p b, G (p.record (.submit p.table.length) (p.table ++ [b])) → G p
  ofSame : ∀ p op, G (p.record op p.table) → G p
  /-- after a zero answer of `get_status`, `G` (for `G = Healthy`: the answer is the status) -/
  ofStatus : ∀ p, (poolStatus (withAns P a) p).2 = 0 → G (poolStatus (withAns P a) p).1

def Tr (G : PoolSt → Prop) (p0 : PoolSt) (x y : Except Err Proc) : Prop :=
  ∀ s', x = .ok s' → G s'.pool → G p0 ∧ y = .ok s'

/-- the shape of every sequencing step in the model -/
def andThen (x : Except Err Proc) (k : Proc → Except Err Proc) : Except Err Proc :=
  match x with
  | .error e => .error e
  | .ok r => k r

section
variable {P : Params} {a : PoolSt → Pool.Op → Pool.Ret} {G : PoolSt → Prop}

theorem Tr.ok {p0 : PoolSt} {t : Proc} (h : t.pool = p0) : Tr G p0 (.ok t) (.ok t) :=
  fun _ hs hg => by cases hs; exact ⟨h ▸ hg, rfl⟩

theorem Tr.error {p0 : PoolSt} {e : Err} {y : Except Err Proc} : Tr G p0 (.error e) y :=
  fun _ h => by cases h

theorem Tr.bind {p0 : PoolSt} {x y : Except Err Proc} {k k' : Proc → Except Err Proc} (hx : Tr G p0 x y)
    (hk : ∀ s1, x = .ok s1 → Tr G s1.pool (k s1) (k' s1)) : Tr G p0 (andThen x k) (andThen y k') := by
  intro s' h hg
  cases hx1 : x with
  | error e => rw [hx1] at h; cases h
  | ok s1 =>
    rw [hx1] at h
    obtain ⟨g1, e1⟩ := hk s1 hx1 s' h hg
    obtain ⟨g0, e0⟩ := hx s1 hx1 g1
    exact ⟨g0, by rw [e0]; exact e1⟩

/-- a step that does not consult the pool -/
theorem Tr.same {p0 : PoolSt} {x : Except Err Proc} (h : ∀ t, x = .ok t → t.pool = p0) : Tr G p0 x x :=
  fun t hx hg => ⟨h t hx ▸ hg, hx⟩

theorem Tr.ite {p0 : PoolSt} {c : Prop} [Decidable c] {x x' y y' : Except Err Proc} (h1 : c → Tr G p0 x y)
    (h2 : ¬ c → Tr G p0 x' y') : Tr G p0 (if c then x else x') (if c then y else y') := by
  by_cases hc : c
  · rw [if_pos hc, if_pos hc]; exact h1 hc
  · rw [if_neg hc, if_neg hc]; exact h2 hc

theorem search_ans (s : Proc) (d : Bytes) (hd : UInt32) (kf : Nat) (l : List Chunk) :
    search (withAns P a) s d hd kf l = search P s d hd kf l := by
  induction l generalizing s with
  | nil => rfl
  | cons c rest ih =>
    simp only [search]
    have : chunkEquals (withAns P a) s d hd kf c = chunkEquals P s d hd kf c := rfl
    rw [this]
    split <;> simp only [ih]

theorem insert_ans (s : Proc) (d : Bytes) (new : Chunk) (done l : List Chunk) :
    insert (withAns P a) s d new done l = insert P s d new done l := by
  induction l generalizing s done with
  | nil => rfl
  | cons c rest ih =>
    simp only [insert]
    have : chunkEquals (withAns P a) s d new.hash new.flags c = chunkEquals P s d new.hash new.flags c := rfl
    rw [this]
    split <;> simp only [ih]

theorem lookupFrag_ans (s : Proc) (frag : Blk) : lookupFrag (withAns P a) s frag = lookupFrag P s frag := by
  unfold lookupFrag
  rw [search_ans]

theorem search_pool (s : Proc) (d : Bytes) (hd : UInt32) (kf : Nat) (l : List Chunk) (r : Option Chunk) (s' : Proc)
    (h : search P s d hd kf l = .ok (r, s')) : s'.pool = s.pool := by
  revert h
  fun_induction search P s d hd kf l <;> intro h <;> try (cases h <;> rfl)
  rename_i ih; exact ih h

theorem insert_pool (s : Proc) (d : Bytes) (new : Chunk) (done l : List Chunk) (s' : Proc)
    (h : insert P s d new done l = .ok s') : s'.pool = s.pool := by
  revert h
  fun_induction insert P s d new done l <;> intro h <;> try (cases h <;> rfl)
  rename_i ih; exact ih h

theorem lookupFrag_pool (s : Proc) (frag : Blk) (r : Option Chunk) (s' : Proc) (h : lookupFrag P s frag = .ok (r, s')) :
    s'.pool = s.pool := by
  revert h
  fun_cases lookupFrag P s frag <;> intro h
  · exact search_pool _ _ _ _ _ _ _ h
  · cases h; rfl

theorem processCompletedBlock_pool (s : Proc) (b : Blk) (s' : Proc) (h : processCompletedBlock s b = .ok s') :
    s'.pool = s.pool := by
  revert h
  fun_cases processCompletedBlock s b <;> intro h <;> cases h
  rfl

theorem releaseGo_pool (fuel : Nat) (s s' : Proc) (h : releaseGo fuel s = .ok s') : s'.pool = s.pool := by
  revert h
  fun_induction releaseGo fuel s <;> intro h <;> try (cases h <;> rfl)
  rename_i hb ih; exact (ih h).trans ((processCompletedBlock_pool _ _ _ hb).trans rfl)

theorem poolSubmit_snd (H : Agrees P a G) (p : PoolSt) (b : Blk) (hg : G p) :
    (poolSubmit (withAns P a) p b).2 = (poolSubmit P p b).2 := by
  simp only [poolSubmit, H.agree p _ hg]

theorem poolDequeue_snd (H : Agrees P a G) (p : PoolSt) (hg : G p) :
    (poolDequeue (withAns P a) p).2 = (poolDequeue P p).2 := by
  simp only [poolDequeue, H.agree p _ hg]

theorem poolStatus_snd (H : Agrees P a G) (p : PoolSt) (hg : G p) :
    (poolStatus (withAns P a) p).2 = (poolStatus P p).2 := by
  simp only [poolStatus, H.agree p _ hg]

theorem enqueueBlock_tr (H : Agrees P a G) (s : Proc) (b : Blk) :
    Tr G s.pool (enqueueBlock (withAns P a) s b) (enqueueBlock P s b) := by
  intro s' h hg
  unfold enqueueBlock at h
  split at h
  · cases h
  · rename_i h0
    cases h
    have hg0 : G s.pool := H.ofSubmit _ _ hg
    rw [poolSubmit_snd H _ _ hg0] at h0
    exact ⟨hg0, by rw [enqueueBlock, if_neg h0]; rfl⟩

theorem makeRoom_tr (H : Agrees P a G) (s : Proc) (len : Nat) :
    Tr G s.pool (makeRoom (withAns P a) s len) (makeRoom P s len) := by
  unfold makeRoom
  cases s.fragBlock with
  | none => exact Tr.ok rfl
  | some fb => exact Tr.ite (fun _ => enqueueBlock_tr H _ _) fun _ => Tr.ok rfl

theorem placeFrag_pool (s : Proc) (frag : Blk) : (placeFrag s frag).1.pool = s.pool := by
  unfold placeFrag; split <;> rfl

theorem storeFrag_tr (H : Agrees P a G) (s : Proc) (frag : Blk) :
    Tr G s.pool (storeFrag (withAns P a) s frag) (storeFrag P s frag) := by
  unfold storeFrag
  refine Tr.bind (makeRoom_tr H s _) fun s2 _ => ?_
  dsimp only
  rw [insert_ans]
  refine Tr.bind (Tr.same fun _ h4 => (insert_pool _ _ _ _ _ _ h4).trans (placeFrag_pool s2 frag)) fun s4 _ => Tr.ok ?_
  split <;> rfl

theorem processCompletedFragment_tr (H : Agrees P a G) (s : Proc) (frag : Blk) :
    Tr G s.pool (processCompletedFragment (withAns P a) s frag) (processCompletedFragment P s frag) := by
  unfold processCompletedFragment
  refine Tr.ite (fun _ => Tr.ok rfl) fun _ => ?_
  rw [lookupFrag_ans]
  cases hl : lookupFrag P s frag with
  | error e => exact Tr.error
  | ok r =>
    obtain ⟨c, s1⟩ := r
    have hp := lookupFrag_pool _ _ _ _ hl
    cases c with
    | some c => exact Tr.ok hp
    | none => exact hp ▸ storeFrag_tr H s1 frag

theorem handleDequeued_tr (H : Agrees P a G) (s : Proc) (blk : Blk) :
    Tr G s.pool (handleDequeued (withAns P a) s blk) (handleDequeued P s blk) := by
  unfold handleDequeued
  exact Tr.ite (fun _ => processCompletedFragment_tr H _ _) fun _ => Tr.ite (fun _ => Tr.ok rfl) fun _ => Tr.ok rfl

theorem dequeueGo_tr (H : Agrees P a G) (backlogOld : Nat) (fuel : Nat) (s : Proc) :
    Tr G s.pool (dequeueGo (withAns P a) backlogOld fuel s) (dequeueGo P backlogOld fuel s) := by
  induction fuel generalizing s with
  | zero => exact Tr.error
  | succ n ih =>
    simp only [dequeueGo]
    refine Tr.bind (Tr.same fun _ => releaseGo_pool _ _ _) fun s1 _ => ?_
    refine Tr.ite (fun _ => Tr.ok rfl) fun _ => Tr.ite (fun _ => Tr.ok rfl) fun _ => ?_
    -- the pool hands back the same item over both behaviours, because `G` holds of the pool before the call
    intro s' h hg
    cases hb : (poolDequeue (withAns P a) s1.pool).2 with
    | none => rw [hb] at h; cases h
    | some blk =>
      rw [hb] at h
      have key := Tr.bind (handleDequeued_tr H { s1 with pool := (poolDequeue P s1.pool).1 } blk)
        (fun s2 _ => Tr.ite (fun _ => ih s2) fun _ => Tr.ok rfl) s' h hg
      have g1 : G s1.pool := H.ofSame _ _ key.1
      rw [← poolDequeue_snd H _ g1, hb]
      exact ⟨g1, key.2⟩

theorem dequeueBlock_tr (H : Agrees P a G) (s : Proc) :
    Tr G s.pool (dequeueBlock (withAns P a) s) (dequeueBlock P s) :=
  dequeueGo_tr H _ _ _

end
end Sqfs.BlockProc
