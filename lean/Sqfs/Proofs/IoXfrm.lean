/-
Helper lemmas for C12: the transforming streams of lib/xfrm (model `Sqfs/Model/XfrmStream.lean`) inherit
script independence from the file streams they wrap, for every codec.
-/
import Sqfs.Proofs.IoStream
import Sqfs.Model.XfrmStream
namespace Sqfs.IoLoops

/-- transforming streams over related wrapped streams, with the same codec state and buffer -/
def XRel {σ τ κ : Type} (R : σ → τ → Prop) (x : XStream σ κ) (y : XStream τ κ) : Prop :=
  R x.wrapped y.wrapped ∧ x.k = y.k ∧ x.off = y.off ∧ x.buf = y.buf

theorem xPrecacheLoop_sim {σ τ κ : Type} {I : StreamI σ} {J : StreamI τ} {R : σ → τ → Prop} (hs : Sim I J R)
    (C : Codec κ) (BX : Nat) :
    ∀ (fuel : Nat) {s : σ} {t : τ} {os osj : OS} (k : κ) (buf : Bytes), Conf R s t os osj →
    ∃ e s' t' k' buf' os', xPrecacheLoop I C BX fuel s k buf os = (e, s', k', buf', os') ∧
      xPrecacheLoop J C BX fuel t k buf osj = (e, t', k', buf', osj) ∧ Conf R s' t' os' osj := by
  intro fuel
  induction fuel with
  | zero => intro s t os osj k buf h; exact ⟨_, s, t, k, buf, os, rfl, rfl, h⟩
  | succ fuel ih =>
    intro s t os osj k buf h
    unfold xPrecacheLoop
    obtain ⟨r, w, s1, t1, os1, hI, hJ, h1⟩ := hs.get BX h
    rw [hI, hJ]
    let P (a : Err × σ × κ × Bytes × OS) (b : Err × τ × κ × Bytes × OS) : Prop :=
      ∃ e s' t' k' buf' os', a = (e, s', k', buf', os') ∧ b = (e, t', k', buf', osj) ∧ Conf R s' t' os' osj
    cases r with
    | fail e => exact ⟨_, s1, t1, k, buf, os1, rfl, rfl, h1⟩
    | eof | ok =>
      -- whatever the mode (`FLUSH_FULL` in the last round) and whatever the codec says, both runs make the same tests
      simp only []
      generalize C.proc k w (BX - buf.length) _ = pr
      obtain ⟨k', consumed, produced, res⟩ := pr
      cases res with
      | error => exact ⟨_, s1, t1, k', buf, os1, rfl, rfl, h1⟩
      | ok | end_ | bufferFull =>
        show P _ _
        exact ite_both (fun _ => ⟨_, _, _, k', _, os1, rfl, rfl, h1.adv hs _⟩) fun _ =>
          ite_both (fun _ => ⟨_, _, _, k', _, os1, rfl, rfl, h1.adv hs _⟩) fun _ => ih _ _ (h1.adv hs _)

theorem xfrm_sim {σ τ κ : Type} {I : StreamI σ} {J : StreamI τ} {R : σ → τ → Prop} (hs : Sim I J R)
    (C : Codec κ) (BX limit : Nat) :
    Sim (xfrmStream I C BX limit) (xfrmStream J C BX limit) (XRel R) where
  get := by
    intro x y os osj want h
    obtain ⟨hr1, hk, hoff, hbuf⟩ := h.rel
    simp only [xfrmStream, xGet]
    rw [← hk, ← hoff, ← hbuf]
    generalize (if want > BX then BX else want) = w
    by_cases hc : x.buf.length = 0 ∨ x.buf.length - x.off < w
    · obtain ⟨e, s', t', k', buf', os', hI, hJ, h'⟩ := xPrecacheLoop_sim hs C BX limit x.k (x.buf.drop x.off) (h.with_rel hr1)
      simp only [hc, if_true, hI, hJ]
      cases e <;> exact ⟨_, _, _, _, os', rfl, rfl, h'.with_rel ⟨h'.rel, rfl, rfl, rfl⟩⟩
    · simp only [hc, if_false]
      exact ⟨_, _, x, y, os, rfl, rfl, h⟩
  adv := by
    intro x y n hr
    obtain ⟨hr1, hk, hoff, hbuf⟩ := hr
    exact ⟨hr1, hk, by simp [xfrmStream, xAdv, hoff], hbuf⟩
  bound := fun _ => rfl

theorem xFlushLoop_indep {κ : Type} (C : Codec κ) (BX : Nat) (finish : Bool) :
    ∀ (fuel : Nat) (o : OStream) (k : κ) (rest : Bytes) (os osj : OS), noHard os.sc = true → noHard osj.sc = true →
    ∃ e o' k' rest' os' osj', xFlushLoop C BX finish fuel o k rest os = (e, o', k', rest', os') ∧
      xFlushLoop C BX finish fuel o k rest osj = (e, o', k', rest', osj') ∧
      noHard os'.sc = true ∧ noHard osj'.sc = true := by
  intro fuel
  induction fuel with
  | zero => intro o k rest os osj hn hj; exact ⟨_, o, k, rest, os, osj, rfl, rfl, hn, hj⟩
  | succ fuel ih =>
    intro o k rest os osj hn hj
    unfold xFlushLoop
    by_cases hc : finish = true ∨ rest.length > 0
    · simp only [hc, if_true]
      generalize C.proc k rest BX finish = pr
      obtain ⟨k', consumed, produced, res⟩ := pr
      obtain ⟨os1, ha, hn1⟩ := fileAppend_det o produced produced.length rfl os hn
      obtain ⟨oj1, hb, hj1⟩ := fileAppend_det o produced produced.length rfl osj hj
      cases res with
      | error => exact ⟨_, o, k', rest, os, osj, rfl, rfl, hn, hj⟩
      | end_ => simp only [ha, hb, if_true]; exact ⟨_, _, k', _, os1, oj1, rfl, rfl, hn1, hj1⟩
      | ok | bufferFull =>
        simp only [ha, hb, reduceCtorEq, if_false]
        exact ih _ _ _ os1 oj1 hn1 hj1
    · simp only [hc, if_false]; exact ⟨_, o, k, rest, os, osj, rfl, rfl, hn, hj⟩

theorem xFlushInbuf_indep {κ : Type} (C : Codec κ) (BX limit : Nat) (x : XOStream κ) (finish : Bool) (os osj : OS)
    (hn : noHard os.sc = true) (hj : noHard osj.sc = true) :
    Agree Eq (xFlushInbuf C BX limit x finish os) (xFlushInbuf C BX limit x finish osj) := by
  unfold xFlushInbuf
  obtain ⟨e, o', k', rest', os', osj', hI, hJ, hn', hj'⟩ := xFlushLoop_indep C BX finish limit x.o x.k x.inbuf os osj hn hj
  rw [hI, hJ]
  cases e <;> exact .mk ⟨rfl, hn', hj'⟩

theorem xAppendLoop_indep {κ : Type} (C : Codec κ) (BX limit : Nat) :
    ∀ (fuel : Nat) (x : XOStream κ) (data : Bytes) (os osj : OS), noHard os.sc = true → noHard osj.sc = true →
    Agree Eq (xAppendLoop C BX limit fuel x data os) (xAppendLoop C BX limit fuel x data osj) := by
  intro fuel
  induction fuel with
  | zero => intro x data os osj hn hj; exact .mk ⟨rfl, hn, hj⟩
  | succ fuel ih =>
    intro x data os osj hn hj
    unfold xAppendLoop
    refine ite_both (fun _ => .mk ⟨rfl, hn, hj⟩) fun _ => ite_both (fun _ => ?_) fun _ => ih _ _ os osj hn hj
    obtain ⟨e, x', _, os', osj', hI, hJ, rfl, hn', hj'⟩ := xFlushInbuf_indep C BX limit x false os osj hn hj
    rw [hI, hJ]
    cases e with
    | ok => exact ih _ _ os' osj' hn' hj'
    | _ => exact .mk ⟨rfl, hn', hj'⟩

theorem xFlush_indep {κ : Type} (C : Codec κ) (BX limit : Nat) (x : XOStream κ) (os osj : OS)
    (hn : noHard os.sc = true) (hj : noHard osj.sc = true) :
    Agree Eq (xFlush C BX limit x os) (xFlush C BX limit x osj) := by
  unfold xFlush fileFlush
  refine ite_both (fun _ => ?_) fun _ => ?_
  · obtain ⟨e, x', _, os', osj', hI, hJ, rfl, hn', hj'⟩ := xFlushInbuf_indep C BX limit x true os osj hn hj
    rw [hI, hJ]
    cases e with
    | ok =>
      obtain ⟨os2, ha, hn2⟩ := realizeSparse_det x'.o os' hn'
      obtain ⟨oj2, hb, hj2⟩ := realizeSparse_det x'.o osj' hj'
      simp only [ha, hb]
      exact .mk ⟨rfl, hn2, hj2⟩
    | _ => exact .mk ⟨rfl, hn', hj'⟩
  · obtain ⟨os2, ha, hn2⟩ := realizeSparse_det x.o os hn
    obtain ⟨oj2, hb, hj2⟩ := realizeSparse_det x.o osj hj
    simp only [ha, hb]
    exact .mk ⟨rfl, hn2, hj2⟩

theorem xStep_indep {κ : Type} (C : Codec κ) (BX limit : Nat) (x : XOStream κ) (op : OOp) (os osj : OS)
    (hn : noHard os.sc = true) (hj : noHard osj.sc = true) :
    Agree Eq (xStep C BX limit x op os) (xStep C BX limit x op osj) := by
  cases op with
  | data d => exact xAppendLoop_indep C BX limit _ x d os osj hn hj
  | hole n => exact xAppendLoop_indep C BX limit _ x _ os osj hn hj
  | flush => exact xFlush_indep C BX limit x os osj hn hj

theorem xRunOOps_indep {κ : Type} (C : Codec κ) (BX limit : Nat) :
    ∀ (ops : List OOp) (idx : Nat) (x : XOStream κ) (os osj : OS), noHard os.sc = true → noHard osj.sc = true →
    (xRunOOps C BX limit idx x ops os).1 = (xRunOOps C BX limit idx x ops osj).1 ∧
    (xRunOOps C BX limit idx x ops os).2.1 = (xRunOOps C BX limit idx x ops osj).2.1 := by
  intro ops
  induction ops with
  | nil => intro idx x os osj _ _; exact ⟨rfl, rfl⟩
  | cons op ops ih =>
    intro idx x os osj hn hj
    unfold xRunOOps
    obtain ⟨e, x', _, os', osj', hI, hJ, rfl, hn', hj'⟩ := xStep_indep C BX limit x op os osj hn hj
    rw [hI, hJ]
    cases e with
    | ok => exact ih _ _ os' osj' hn' hj'
    | _ => exact ⟨rfl, rfl⟩

end Sqfs.IoLoops
