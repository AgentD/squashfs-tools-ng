import Sqfs.Model.Obj
/-! The cell update `upd`, and the record a successful `sqfs_copy` publishes (`finishCopy_spec`, `sqfsCopy_some`). -/
namespace Sqfs.Obj

@[simp] theorem upd_same {α : Type} (f : Nat → α) (i : Nat) (v : α) : upd f i v i = v := by simp [upd]
theorem upd_ne {α : Type} (f : Nat → α) {i j : Nat} (v : α) (h : j ≠ i) : upd f i v j = f j := by simp [upd, h]

theorem upd_isSome {α : Type} {f : Nat → Option α} {i j : Nat} {v : α} (h : (f j).isSome) : (upd f i (some v) j).isSome := by
  by_cases hj : j = i
  · subst hj; rw [upd_same]; rfl
  · rwa [upd_ne _ _ hj]

theorem upd_self {h : Heap} {x : Nat} {v : Option Obj} (hx : h.objs x = v) : ({ h with objs := upd h.objs x v } : Heap) = h := by
  have : upd h.objs x v = h.objs := funext fun y => by by_cases hy : y = x <;> simp [upd, hy, hx]
  rw [this]

/-- the record `finishCopy` publishes; what it leaves of the rest of the heap is `SlotsOk.finishCopy` -/
theorem finishCopy_spec (d : CopyDesc) (h : Heap) (o : Obj) (nb nr : List (Option Nat)) (h' : Heap) (c : Nat)
    (hf : finishCopy d h o nb nr = (h', some c)) :
    ∃ co, h'.objs c = some co ∧ co.rc = 1 ∧ co.kind = o.kind ∧ co.bufs = nb ∧ co.refs = nr ∧
      (co.destroy, co.copy) = match d.header with
        | .init => (true, true)
        | .memcpy => (o.destroy, o.copy)
        | .zeroed => (false, false) := by
  unfold finishCopy at hf
  simp only [Prod.mk.injEq, Option.some.injEq] at hf
  obtain ⟨rfl, rfl⟩ := hf
  exact ⟨_, upd_same _ _ _, rfl, rfl, rfl, rfl, by cases d.header <;> rfl⟩

theorem sqfsCopy_some (D : Kind → CopyDesc) (n : Nat) (h h' : Heap) (id c : Nat)
    (hc : sqfsCopy D n h id = (h', some c)) :
    ∃ o hm nb nr, h.objs id = some o ∧ o.copy = true ∧ finishCopy (D o.kind) hm o nb nr = (h', some c) := by
  revert hc
  fun_cases sqfsCopy D n h id <;> intro hc
  all_goals first | (cases hc; done) | skip
  -- the two paths that are left end in `finishCopy`; the object and its copy hook are among the guards passed
  all_goals exact ⟨_, _, _, _, ‹h.objs id = some _›, by simpa using ‹¬(!Obj.copy _) = true›, hc⟩

end Sqfs.Obj
