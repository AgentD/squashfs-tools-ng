/-
Stored blocks are never empty (needs `0 < B` and the codec contract), so a file that owns stored blocks occupies a
non-empty range of the data area.
-/
import Sqfs.Proofs.PackContent
namespace Sqfs.Pack

theorem encode_data_pos (P : Params) (hc : P.codec.Ok) (dc : Bool) (ck : UInt32) (d : Bytes) (hd : 0 < d.length) :
    0 < (encode P dc ck d).data.length := by
  rcases encode_cases P dc ck d with ⟨_, he⟩ | ⟨_, he⟩
  · rw [he]; exact hd
  · exact (hc.smaller d _ he).1

theorem blocksOf_pos (B : Nat) (hB : 0 < B) (d : Bytes) (wt : Bool) (h : wt = true → 0 < d.length % B) :
    ∀ x ∈ blocksOf B d wt, 0 < x.length := by
  intro x hx
  rcases List.mem_append.1 hx with hx | hx
  · obtain ⟨i, hi, rfl⟩ := List.mem_map.1 hx
    have hi' : i < d.length / B := List.mem_range.1 hi
    rw [blockAt_length B d i (Nat.le_trans (Nat.mul_le_mul_right B hi') (Nat.div_mul_le_self _ _))]
    exact hB
  · cases wt
    · cases hx
    · cases List.mem_singleton.1 hx
      rw [tailOf_length]; exact h rfl

theorem dataBlocksOf_pos (B : Nat) (hB : 0 < B) (f : InFile) : ∀ d ∈ dataBlocksOf B f, 0 < d.length :=
  blocksOf_pos B hB f.data (f.data.length % B > 0 && f.flags.dontFragment)
    (fun h => by simp only [Bool.and_eq_true, decide_eq_true_eq] at h; exact h.1)

theorem words_pos (P : Params) (hB : 0 < P.B) (hc : P.codec.Ok) (σ : State) (f : InFile) :
    ∀ n raw, Word.stored n raw ∈ (packFile P σ f).2.words → 0 < n := by
  intro n raw hw
  rw [packFile_words, workedOf, List.map_map] at hw
  obtain ⟨d, hd, he⟩ := List.mem_map.1 hw
  have hpos := blocksOf_pos P.B hB f.data _
    tailAsBlock_pos d hd
  simp only [Function.comp, workData] at he
  split at he
  · cases he
  · simp only [Worked.word, Stored.word, Word.stored.injEq] at he
    rw [← he.1]
    exact encode_data_pos P hc _ _ d hpos

theorem specPack_diskBytes_pos (P : Params) (hB : 0 < P.B) (hc : P.codec.Ok) (files : List InFile) (i : Nat) (h : i < files.length)
    {r : FileResult} (hr : (specPack P files).files[i]? = some r) (hm : ∃ n raw, Word.stored n raw ∈ r.words) :
    0 < diskBytes r.words := by
  obtain ⟨σ, hσ⟩ := specPack_file P files i h
  cases hr.symm.trans hσ
  obtain ⟨n, raw, hm⟩ := hm
  exact List.sum_pos_iff_exists_pos_nat.2 ⟨n, List.mem_map.2 ⟨_, hm, rfl⟩, words_pos P hB hc σ _ n raw hm⟩

end Sqfs.Pack
