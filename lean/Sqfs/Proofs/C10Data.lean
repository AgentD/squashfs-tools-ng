/-
Helper lemmas for C10: on files the library wrote, positional read, per-block access and the stream deliver the
same bytes: each by induction over the block list (`BlocksAre.ind`), the stream with `StreamAt` saying where it stands.
-/
import Sqfs.Proofs.DataReaderCache
namespace Sqfs.DataReader
open Sqfs.MetaReader

/-- decidable equality of `Except` values (for the concrete instances in `Sqfs/Props/C10.lean`) -/
instance exceptDecEq {ε α : Type} [DecidableEq ε] [DecidableEq α] : DecidableEq (Except ε α)
  | .ok a, .ok b => if h : a = b then isTrue (by rw [h]) else isFalse (by intro e; cases e; exact h rfl)
  | .error a, .error b => if h : a = b then isTrue (by rw [h]) else isFalse (by intro e; cases e; exact h rfl)
  | .ok _, .error _ => isFalse (by intro e; cases e)
  | .error _, .ok _ => isFalse (by intro e; cases e)

theorem zeros_length (n : Nat) : (zeros n).length = n := by simp [zeros]

theorem BlockIs.length {f : File} {unc : Codec} {off w u : Nat} {d : Bytes} (h : BlockIs f unc off w u d) : d.length = u := by
  cases h with
  | inl h => rw [h.2]; exact zeros_length u
  | inr h =>
    obtain ⟨_, _, raw, hr, hc⟩ := h
    cases hc with
    | inl hc => exact hc.2.1
    | inr hc => rw [hc.2.2, readAt_length hr]; exact hc.2.1

/-- `BlocksAre` as the inductive predicate it is: no block, or a first block of `u` bytes (what is left of the file, capped
at the block size) in front of a list that holds the rest -/
theorem BlocksAre.ind {f : File} {unc : Codec} {bs : Nat} {C : List Nat → Nat → Nat → List Bytes → Prop}
    (nil : ∀ off rem, C [] off rem [])
    (cons : ∀ w ws off rem u d rest, (if rem < bs then rem else bs) = u → u ≤ rem → u ≤ bs → 0 < rem → d.length = u →
      BlockIs f unc off w u d → BlocksAre f unc bs ws (off + onDisk w) (rem - u) rest → C ws (off + onDisk w) (rem - u) rest →
      C (w :: ws) off rem (d :: rest)) :
    ∀ ws off rem ds, BlocksAre f unc bs ws off rem ds → C ws off rem ds := by
  intro ws
  induction ws with
  | nil =>
    intro off rem ds h
    unfold BlocksAre at h
    subst h
    exact nil off rem
  | cons w ws ih =>
    intro off rem ds h
    unfold BlocksAre at h
    obtain ⟨d, rest, rfl, hpos, hb, hrest⟩ := h
    exact cons w ws off rem _ d rest rfl (by split <;> omega) (by split <;> omega) hpos hb.length hb hrest (ih _ _ _ hrest)

theorem getBlock_of_blockIs {f : File} {unc : Codec} {off w u : Nat} {d : Bytes} (h : BlockIs f unc off w u d)
    (hs : isSparse w = false) (room : Nat) (hr : u ≤ room) :
    getBlock f unc off w room = .ok (overwrite (zeros room) d, u) := by
  cases h with
  | inl h => rw [h.1] at hs; cases hs
  | inr h =>
    obtain ⟨_, hn, raw, hraw, hc⟩ := h
    unfold getBlock
    have hgt : ¬ onDisk w > room := by omega
    simp only [hs, Bool.false_eq_true, if_false, hgt, hraw]
    cases hc with
    | inl hc =>
      obtain ⟨hcomp, hlen, hpos, hunc⟩ := hc
      have hne : ¬ u = 0 := by omega
      simp only [hcomp, if_true, hunc room hr, hlen, hne, if_false]
    | inr hc =>
      obtain ⟨hcomp, hnu, hd⟩ := hc
      simp only [hcomp, Bool.false_eq_true, if_false, hd, hnu]

theorem copyBlocksSpec_written {f : File} {unc : Codec} {bs : Nat} :
    ∀ (ws : List Nat) (off rem : Nat) (ds : List Bytes), BlocksAre f unc bs ws off rem ds → ∀ acc : Bytes,
      copyBlocksSpec f unc bs ws off 0 rem acc = .ok (0, rem - (ds.map List.length).sum, acc ++ ds.flatten) := by
  refine BlocksAre.ind (fun off rem acc => by simp [copyBlocksSpec])
    fun w ws off rem u d rest hu hule hubs hpos hlen hb hrest ih acc => ?_
  have ih := ih (acc ++ d)
  rw [copyBlocksSpec]
  have hne : ¬ rem = 0 := by omega
  have hdiff : (if rem < bs - 0 then rem else bs - 0) = u := by rw [← hu]; simp
  simp only [hne, if_false, hdiff]
  have hfin : rem - u - (rest.map List.length).sum = rem - ((d :: rest).map List.length).sum := by
    simp only [List.map_cons, List.sum_cons, hlen, Nat.sub_sub]
  have hflat : acc ++ d ++ rest.flatten = acc ++ (d :: rest).flatten := by simp
  by_cases hsp : isSparse w = true
  · simp only [hsp, if_true]
    cases hb with
    | inl hb =>
      rw [← hb.2]
      rw [sparse_onDisk hsp, Nat.add_zero] at ih
      rw [ih, hfin, hflat]
    | inr hb => rw [hb.1] at hsp; cases hsp
  · have hsp' : isSparse w = false := by simpa using hsp
    simp only [hsp', Bool.false_eq_true, if_false]
    rw [getBlock_of_blockIs hb hsp' bs hubs]
    simp only [List.drop_zero]
    have htk : (overwrite (zeros bs) d).take u = d := by rw [← hlen]; exact overwrite_take _ _
    rw [htk, ih, hfin, hflat]

theorem skipBlocks_zero (bs : Nat) (ws : List Nat) (off : Nat) : skipBlocks bs ws off 0 = (ws, off, 0) := by
  cases ws with
  | nil => rfl
  | cons w ws => simp [skipBlocks]

theorem readSpec_written {f : File} {unc : Codec} {bs : Nat} {tbl : List (Nat × Nat)} {ino : Inode} {datas : List Bytes}
    {tail : Bytes} (h : Written f unc bs tbl ino datas tail) :
    readSpec f unc bs tbl ino 0 ino.fileSize = (0, datas.flatten ++ tail) := by
  obtain ⟨hbs, hb32, hsmall, hblocks, hcov, htl, hts, hfrag⟩ := h
  have hcopy := copyBlocksSpec_written ino.blocks ino.blocksStart ino.fileSize datas hblocks []
  unfold readSpec
  have h1 : ¬ ino.fileSize ≥ 2147483647 := by omega
  simp only [h1, if_false]
  by_cases h0 : ino.fileSize = 0
  · -- empty file: no block, no tail
    have ht : tail = [] := by
      apply List.eq_nil_of_length_eq_zero; omega
    have hd : datas.flatten = [] := by
      have : (datas.map List.length).sum = 0 := by omega
      apply List.eq_nil_of_length_eq_zero
      rw [List.length_flatten]; exact this
    simp [h0, ht, hd]
  · have h2 : ¬ 0 ≥ ino.fileSize := by omega
    have h3 : (if ino.fileSize - 0 < ino.fileSize then ino.fileSize - 0 else ino.fileSize) = ino.fileSize := by simp
    simp only [h2, if_false, h3, h0, skipBlocks_zero, hcopy, List.nil_append]
    by_cases ht : tail = []
    · have : ino.fileSize - (datas.map List.length).sum = 0 := by rw [← htl, ht]; rfl
      simp [this, ht]
    · have hne : ¬ ino.fileSize - (datas.map List.length).sum = 0 := by
        rw [← htl]; intro h; exact ht (List.eq_nil_of_length_eq_zero h)
      obtain ⟨ent, fb, hent, hgb, hfo, hfb, htail⟩ := hfrag ht
      simp only [hne, if_false, hent, hgb, Nat.add_zero]
      have hw : wrap64 ino.fragOff = ino.fragOff := by
        unfold wrap64
        have : ino.fragOff < U64 := by simp only [U64]; omega
        simp [this]
      rw [hw, ← htl]
      have c1 : ¬ ino.fragOff ≥ fb.2 := by
        have : 0 < tail.length := List.length_pos_iff.2 ht
        omega
      have c2 : ¬ fb.2 - ino.fragOff < tail.length := by omega
      simp only [c1, if_false, c2, ← htail]

theorem blocksAre_facts {f : File} {unc : Codec} {bs : Nat} (hbs : 0 < bs) :
    ∀ (ws : List Nat) (off rem : Nat) (ds : List Bytes), BlocksAre f unc bs ws off rem ds →
      ds.length = ws.length ∧ (ds.map List.length).sum ≤ ws.length * bs ∧
      ((ds.map List.length).sum < rem → (ds.map List.length).sum = ws.length * bs) ∧ ws.length ≤ rem := by
  refine BlocksAre.ind (fun off rem => by simp) fun w ws off rem u d rest hu _ _ hpos hlen _ _ ih => ?_
  obtain ⟨i1, i2, i3, i4⟩ := ih
  subst hu
  simp only [List.length_cons, List.map_cons, List.sum_cons, hlen, Nat.add_mul, Nat.one_mul]
  by_cases hlt : rem < bs
  · simp only [hlt, if_true, Nat.sub_self] at i3 i4 ⊢
    have hz : ws.length = 0 := by omega
    have hz' : (rest.map List.length).sum = 0 := by rw [hz] at i2; omega
    rw [hz, hz']
    omega
  · simp only [hlt, if_false] at i3 i4 ⊢
    refine ⟨by omega, by omega, fun h => ?_, by omega⟩
    have := i3 (by omega)
    omega

theorem apiAt_written {f : File} {unc : Codec} {bs : Nat} :
    ∀ (ws : List Nat) (off rem : Nat) (ds : List Bytes), BlocksAre f unc bs ws off rem ds →
      ∀ (i : Nat) (d : Bytes), ds[i]? = some d →
        ∃ w buf, ws[i]? = some w ∧
          getBlock f unc (blockLoc bs ws i off rem).1 w
            (if (blockLoc bs ws i off rem).2 < bs then (blockLoc bs ws i off rem).2 else bs) = .ok (buf, d.length) ∧
          buf.take d.length = d := by
  refine BlocksAre.ind (fun off rem i d hd => by simp at hd)
    fun w ws off rem u d0 rest hu hule hubs hpos hlen hb hrest ih i d hd => ?_
  cases i with
  | zero =>
    simp only [List.getElem?_cons_zero, Option.some.injEq] at hd
    subst hd hlen
    show ∃ w_1 buf, _ ∧ getBlock f unc off w_1 (if rem < bs then rem else bs) = _ ∧ _
    rw [hu]
    by_cases hsp : isSparse w = true
    · refine ⟨w, zeros d0.length, rfl, by unfold getBlock; simp only [hsp, if_true], ?_⟩
      cases hb with
      | inl hb => rw [← hb.2]; exact List.take_length
      | inr hb => rw [hb.1] at hsp; cases hsp
    · have hsp' : isSparse w = false := by simpa using hsp
      exact ⟨w, _, rfl, getBlock_of_blockIs hb hsp' d0.length (Nat.le_refl _), overwrite_take _ _⟩
  | succ i =>
    simp only [List.getElem?_cons_succ] at hd ⊢
    -- a further block exists, so bytes are left after this one: it is full and `filesz -= block_size` does not wrap
    have hleft : 0 < rem - u := by
      cases ws with
      | nil => rw [show rest = [] from hrest] at hd; cases hd
      | cons w' ws' =>
        unfold BlocksAre at hrest
        obtain ⟨_, _, _, hpos', _⟩ := hrest
        exact hpos'
    obtain rfl : bs = u := by split at hu <;> omega
    simp only [blockLoc, subWrap_of_le (show bs ≤ rem by omega)]
    exact ih i d hd

theorem getBlockApi_written {f : File} {unc : Codec} {bs : Nat} {ino : Inode} {ds : List Bytes}
    (h : BlocksAre f unc bs ino.blocks ino.blocksStart ino.fileSize ds) (i : Nat) (d : Bytes) (hd : ds[i]? = some d) :
    getBlockApi f unc bs ino i = .ok d := by
  obtain ⟨w, buf, hw, hg, ht⟩ := apiAt_written _ _ _ _ h i d hd
  unfold getBlockApi
  simp only [hw, hg, ht]

theorem catBlocks_written {f : File} {unc : Codec} {bs : Nat} {ino : Inode} {ds : List Bytes}
    (h : BlocksAre f unc bs ino.blocks ino.blocksStart ino.fileSize ds) :
    ∀ n, n ≤ ds.length → catBlocks f unc bs ino n = .ok (ds.take n).flatten := by
  intro n
  induction n with
  | zero => intro _; simp [catBlocks]
  | succ n ih =>
    intro hn
    have hlt : n < ds.length := by omega
    have hd : ds[n]? = some ds[n] := List.getElem?_eq_getElem hlt
    rw [catBlocks, ih (by omega), getBlockApi_written h n _ hd]
    simp only
    rw [List.take_succ_eq_append_getElem hlt]
    simp only [List.flatten_append, List.flatten_cons, List.flatten_nil, List.append_nil]

theorem viaBlocks_written {f : File} {unc : Codec} {bs : Nat} {tbl : List (Nat × Nat)} {ino : Inode} {datas : List Bytes}
    {tail : Bytes} (h : Written f unc bs tbl ino datas tail) :
    viaBlocks f unc bs tbl ino = .ok (datas.flatten ++ tail) := by
  obtain ⟨hbs, hb32, hsmall, hblocks, hcov, htl, hts, hfrag⟩ := h
  obtain ⟨f1, f2, f3, f4⟩ := blocksAre_facts hbs _ _ _ _ hblocks
  unfold viaBlocks
  rw [← f1, catBlocks_written hblocks _ (Nat.le_refl _), List.take_length]
  simp only
  unfold getFragmentSpec
  have hov : ¬ ino.blocks.length > (U64 - 1) / bs := by
    have h1 : ino.blocks.length * bs ≤ (U64 - 1) := by
      have : ino.blocks.length * bs ≤ 2147483646 * 4294967296 := Nat.mul_le_mul (by omega) (by omega)
      simp only [U64]; omega
    have := (Nat.le_div_iff_mul_le hbs).2 h1
    omega
  simp only [hov, if_false]
  by_cases ht : tail = []
  · have hz : ino.fileSize - (datas.map List.length).sum = 0 := by rw [← htl, ht]; rfl
    have hge : ino.blocks.length * bs ≥ ino.fileSize := by omega
    simp [hge, ht]
  · have hpos : 0 < tail.length := List.length_pos_iff.2 ht
    have hfull := f3 (by omega)
    have hlt : ¬ ino.blocks.length * bs ≥ ino.fileSize := by omega
    obtain ⟨ent, fb, hent, hgb, hfo, hfb, htail⟩ := hfrag ht
    have hmod : ino.fileSize % bs = tail.length := by
      have : ino.fileSize = tail.length + ino.blocks.length * bs := by omega
      rw [this, Nat.add_mul_mod_self_right, Nat.mod_eq_of_lt hts]
    have hchk : ¬ ino.fragOff + tail.length > bs := by omega
    simp only [hlt, if_false, hent, hgb, hmod, hchk, ← htail]

theorem writeMem_take (mem : List (Option UInt8)) (new : Bytes) : (writeMem mem new).take new.length = new.map some := by
  unfold writeMem
  have : new.length = (new.map some).length := by simp
  rw [this, List.take_left']
  simp

theorem filterMap_id_map_some (l : Bytes) : (l.map some).filterMap id = l := by
  rw [List.filterMap_map]; exact List.filterMap_some

theorem streamFill_block {f : File} {unc : Codec} (dd : DR) (s : Stream) (w : Nat) (ws : List Nat) (u : Nat) (d : Bytes)
    (hblk : s.blocks = w :: ws) (hb : BlockIs f unc s.diskOffset w u d) (hu : u ≤ dd.blockSize) :
    streamFill f unc dd s u =
      (.ok (writeMem s.mem d) { s with blocks := ws, mem := writeMem s.mem d, diskOffset := s.diskOffset + onDisk w,
                                       filesz := s.filesz - u }, dd) := by
  unfold streamFill
  rw [hblk]
  cases hb with
  | inl hb =>
    have h0 : onDisk w = 0 := sparse_onDisk hb.1
    simp only [h0, if_true, hb.2]
  | inr hb =>
    obtain ⟨hsp, hn, raw, hraw, hc⟩ := hb
    have h0 : ¬ onDisk w = 0 := by
      intro h0
      have : isSparse w = true := by simp [isSparse, h0]
      rw [this] at hsp; cases hsp
    have hgt : ¬ onDisk w > dd.blockSize := by omega
    simp only [h0, if_false, hgt, hraw]
    cases hc with
    | inl hc =>
      obtain ⟨hcomp, hlen, hpos, hunc⟩ := hc
      have hne : ¬ d.length = 0 := by omega
      have hz : u - d.length = 0 := by omega
      simp only [hcomp, if_true, hunc u (Nat.le_refl _), hne, if_false, hz, zeros, List.replicate_zero, List.append_nil]
    | inr hc =>
      obtain ⟨hcomp, hnu, hd⟩ := hc
      have hz : u - onDisk w = 0 := by omega
      simp only [hcomp, Bool.false_eq_true, if_false, hz, zeros, List.replicate_zero, List.append_nil, hd]

/-- the stream stands in front of the blocks `ws` at `off`, with `rem` bytes of the file to come and nothing buffered -/
structure StreamAt (s : Stream) (ws : List Nat) (off rem fi fo : Nat) : Prop where
  blocks : s.blocks = ws
  filesz : s.filesz = rem
  disk : s.diskOffset = off
  buf : s.bufOff = s.bufUsed
  fragIdx : s.fragIdx = fi
  fragOff : s.fragOff = fo

/-- one `get_buffered_data` + `advance_buffer(everything)` on a stream that stands in front of a block holding `d` -/
theorem streamGet_block {f : File} {unc : Codec} {bs : Nat} (tbl : List (Nat × Nat)) {s : Stream} {w : Nat} {ws : List Nat}
    {off rem fi fo : Nat} (d : Bytes) (h : StreamAt s (w :: ws) off rem fi fo) (hpos : 0 < rem)
    (hb : BlockIs f unc off w (if rem < bs then rem else bs) d) :
    ∃ s', streamGetSpec true f unc bs tbl s = (.data (d.map some), s') ∧
      StreamAt (streamAdvance s' d.length) ws (off + onDisk w) (rem - d.length) fi fo := by
  obtain ⟨hblk, rfl, rfl, hbuf, rfl, rfl⟩ := h
  have hlen := hb.length
  unfold streamGetSpec streamGet
  have h1 : ¬ s.bufOff < s.bufUsed := by omega
  have h2 : ¬ s.filesz = 0 := by omega
  simp only [h1, if_false, h2]
  generalize hu : (if s.filesz < bs then s.filesz else bs) = u at hb hlen ⊢
  have hubs : u ≤ bs := by rw [← hu]; split <;> omega
  rw [streamFill_block _ { s with bufOff := 0, bufUsed := u } w ws u d hblk hb (by simp only; omega)]
  simp only
  rw [show List.take u (writeMem s.mem d) = d.map some from by rw [← hlen]; exact writeMem_take _ _]
  refine ⟨_, rfl, ?_⟩
  constructor <;> simp only [streamAdvance, hlen, Nat.sub_zero, Nat.lt_irrefl, if_false, Nat.zero_add]

/-- one `get_buffered_data` + `advance_buffer(everything)` on a stream that stands in front of the fragment tail -/
theorem streamGet_tail {f : File} {unc : Codec} {bs : Nat} (tbl : List (Nat × Nat)) {s : Stream} {off fi fo : Nat} (tail : Bytes)
    (h : StreamAt s [] off tail.length fi fo) (hpos : 0 < tail.length)
    (hshort : tail.length < bs) (ent : Nat × Nat) (fb : Bytes × Nat) (hent : tbl[fi]? = some ent)
    (hgb : getBlock f unc ent.1 ent.2 bs = .ok fb) (hfo : fo + tail.length ≤ fb.2)
    (htail : tail = (fb.1.drop fo).take tail.length) :
    ∃ s', streamGetSpec true f unc bs tbl s = (.data (tail.map some), s') ∧
      StreamAt (streamAdvance s' tail.length) [] off 0 fi fo := by
  obtain ⟨hblk, hsz, rfl, hbuf, rfl, rfl⟩ := h
  unfold streamGetSpec streamGet
  have h1 : ¬ s.bufOff < s.bufUsed := by omega
  have h2 : ¬ s.filesz = 0 := by omega
  have c : s.filesz < bs := by omega
  simp only [h1, if_false, h2, c, if_true]
  unfold streamFill
  simp only [hblk]
  unfold precacheFrag
  simp only [Option.isSome_none, Bool.false_eq_true, false_and, if_false, hent, hgb, ne_eq, not_true_eq_false]
  have c2 : ¬ (fb.2 < s.fragOff ∨ fb.2 - s.fragOff < tail.length) := by omega
  simp only [hsz]
  simp only [c2, if_false]
  rw [← htail]
  rw [show List.take tail.length (writeMem s.mem tail) = tail.map some from writeMem_take _ _]
  refine ⟨_, rfl, ?_⟩
  constructor <;> simp only [streamAdvance, Nat.sub_zero, Nat.lt_irrefl, if_false, Nat.zero_add, Nat.sub_self]

theorem streamAllGo_eof {f : File} {unc : Codec} {bs : Nat} (tbl : List (Nat × Nat)) {s : Stream} {ws : List Nat}
    {off fi fo : Nat} (acc : Bytes) (fuel : Nat) (h : StreamAt s ws off 0 fi fo) :
    streamAllGo f unc bs tbl (fuel + 1) s acc = .ok acc := by
  have h1 : ¬ s.bufOff < s.bufUsed := by have := h.buf; omega
  rw [streamAllGo]
  simp only [streamGetSpec, streamGet, h1, if_false, h.filesz, if_true]

theorem streamAllGo_written {f : File} {unc : Codec} {bs : Nat} (tbl : List (Nat × Nat)) (fi fo : Nat) (tail : Bytes)
    (hshort : tail.length < bs)
    (hfrag : tail ≠ [] → ∃ ent fb, tbl[fi]? = some ent ∧ getBlock f unc ent.1 ent.2 bs = .ok fb ∧
      fo + tail.length ≤ fb.2 ∧ fb.2 ≤ bs ∧ tail = (fb.1.drop fo).take tail.length) :
    ∀ (ws : List Nat) (off rem : Nat) (ds : List Bytes), BlocksAre f unc bs ws off rem ds →
      ∀ (s : Stream) (acc : Bytes) (fuel : Nat), StreamAt s ws off rem fi fo →
      tail.length = rem - (ds.map List.length).sum → ws.length + 2 ≤ fuel →
      streamAllGo f unc bs tbl fuel s acc = .ok (acc ++ ds.flatten ++ tail) := by
  refine BlocksAre.ind (fun off rem s acc fuel hs htl hfuel => ?_)
    fun w ws off rem u d rest hu hule hubs hpos hlen hb hrest ih s acc fuel hs htl hfuel => ?_
  · simp only [List.map_nil, List.sum_nil, Nat.sub_zero, List.flatten_nil, List.append_nil] at htl ⊢
    subst htl
    obtain ⟨fuel, rfl⟩ : ∃ k, fuel = k + 1 := ⟨fuel - 1, by omega⟩
    by_cases ht : tail = []
    · subst ht
      rw [streamAllGo_eof tbl acc fuel hs, List.append_nil]
    · have hpos : 0 < tail.length := List.length_pos_iff.2 ht
      obtain ⟨ent, fb, hent, hgb, hfo', _, htail⟩ := hfrag ht
      obtain ⟨s', hget, hs'⟩ := streamGet_tail tbl tail hs hpos hshort ent fb hent hgb hfo' htail
      rw [streamAllGo, hget]
      simp only [List.length_map, filterMap_id_map_some]
      obtain ⟨fuel, rfl⟩ : ∃ k, fuel = k + 1 := ⟨fuel - 1, by simp only [List.length_nil] at hfuel; omega⟩
      exact streamAllGo_eof tbl _ fuel hs'
  · subst hlen
    rw [← hu] at hb
    obtain ⟨s', hget, hs'⟩ := streamGet_block tbl d hs hpos hb
    obtain ⟨fuel, rfl⟩ : ∃ k, fuel = k + 1 := ⟨fuel - 1, by omega⟩
    rw [streamAllGo, hget]
    simp only [List.length_map, filterMap_id_map_some]
    have hsum : ((d :: rest).map List.length).sum = d.length + (rest.map List.length).sum := by simp
    rw [ih _ (acc ++ d) fuel hs' (by rw [htl, hsum]; omega) (by simp only [List.length_cons] at hfuel; omega)]
    simp

theorem viaStream_written {f : File} {unc : Codec} {bs : Nat} {tbl : List (Nat × Nat)} {ino : Inode} {datas : List Bytes}
    {tail : Bytes} (h : Written f unc bs tbl ino datas tail) :
    viaStream f unc bs tbl ino = .ok (datas.flatten ++ tail) := by
  unfold viaStream
  rw [streamAllGo_written tbl ino.fragIdx ino.fragOff tail h.tailShort h.frag ino.blocks ino.blocksStart ino.fileSize datas
    h.blocks (streamOpen bs ino) [] _ ⟨rfl, rfl, rfl, rfl, rfl, rfl⟩ h.tailLen (Nat.le_refl _), List.nil_append]

end Sqfs.DataReader
