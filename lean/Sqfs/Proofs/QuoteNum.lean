/-
Helper lemmas for C16: `printf("%o"/"%u")` vs. `parse_uint(_oct)`, and glibc `makedev` vs. `major`/`minor`.

No tactic of the Mathlib import is used; it is there because with Mathlib in scope `2 ^ 32` on `Nat` elaborates through
`Monoid.npow`, here and in every module that imports this file, and their statements are meant that way.
-/
import Sqfs.Model.Quote
import Mathlib.Tactic.IntervalCases
namespace Sqfs.Quote
open Sqfs.Path (Bytes)

theorem digit_ok : ∀ x, x < 10 →
    isDigit (UInt8.ofNat (48 + x)) = true ∧ (UInt8.ofNat (48 + x)).toNat - 48 = x := by decide

def AllDigit (s : Bytes) : Prop := ∀ c ∈ s, isDigit c = true

theorem allDigit_cons48 {s : Bytes} (h : AllDigit s) : AllDigit (48 :: s) :=
  List.forall_mem_cons.2 ⟨by decide, h⟩

theorem digitsAux_acc (base : Nat) (hb : 2 ≤ base ∧ base ≤ 10) (f n : Nat) (acc : Bytes) :
    0 < f ∨ acc ≠ [] → AllDigit acc → digitsAux base f n acc ≠ [] ∧ AllDigit (digitsAux base f n acc) := by
  have hd (n : Nat) : isDigit (UInt8.ofNat (48 + n % base)) = true :=
    (digit_ok _ (Nat.lt_of_lt_of_le (Nat.mod_lt n (Nat.lt_of_lt_of_le (by decide) hb.1)) hb.2)).1
  fun_induction digitsAux base f n acc <;> intro hne hacc
  case case1 => exact ⟨hne.resolve_left (Nat.lt_irrefl 0), hacc⟩
  case case2 f n acc _ _ => exact ⟨List.cons_ne_nil _ _, List.forall_mem_cons.2 ⟨hd n, hacc⟩⟩
  case case3 f n acc _ _ ih => exact ih (Or.inr (List.cons_ne_nil _ _)) (List.forall_mem_cons.2 ⟨hd n, hacc⟩)

theorem printNat_form (base : Nat) (hb : 2 ≤ base ∧ base ≤ 10) (n : Nat) :
    printNat base n ≠ [] ∧ AllDigit (printNat base n) :=
  digitsAux_acc base hb (n + 1) n [] (Or.inl (Nat.succ_pos n)) nofun

theorem printNat_ne (base : Nat) (hb : base = 8 ∨ base = 10) (n : Nat) : printNat base n ≠ [] :=
  (printNat_form base (by rcases hb with rfl | rfl <;> decide) n).1

theorem printNat_digits (base : Nat) (hb : base = 8 ∨ base = 10) (n : Nat) : AllDigit (printNat base n) :=
  (printNat_form base (by rcases hb with rfl | rfl <;> decide) n).2

/-- One digit through the loop of `parse`.  `out < u64Max / base` is its first overflow test; the second then passes too:
`out * base + x < (out + 1) * base ≤ u64Max`. -/
theorem parseDigits_step (base : Nat) (hb : base ≤ 10) (x out : Nat) (hx : x < base)
    (ho : out < u64Max / base) (rest : Bytes) :
    parseDigits base (UInt8.ofNat (48 + x) :: rest) out = parseDigits base rest (out * base + x) := by
  obtain ⟨h1, h2⟩ := digit_ok x (Nat.lt_of_lt_of_le hx hb)
  have a : ¬ x ≥ base := Nat.not_le.2 hx
  have b : ¬ out ≥ u64Max / base := Nat.not_le.2 ho
  have c : ¬ out * base > u64Max - x := by
    have : out * base + base ≤ u64Max := by
      rw [← Nat.succ_mul]; exact Nat.le_trans (Nat.mul_le_mul_right base ho) (Nat.div_mul_le_self _ _)
    exact Nat.not_lt.2 (Nat.le_sub_of_add_le (Nat.le_trans (Nat.add_le_add_left (Nat.le_of_lt hx) _) this))
  simp only [parseDigits, h1, if_true, h2, a, b, c, if_false]

theorem parseDigits_digitsAux (base : Nat) (hb : 2 ≤ base ∧ base ≤ 10) (fuel n : Nat) (acc : Bytes) :
    n < u64Max / base → n < fuel → parseDigits base (digitsAux base fuel n acc) 0 = parseDigits base acc n := by
  fun_induction digitsAux base fuel n acc <;> intro hn hf
  case case1 => cases hf
  case case2 f n acc _ h0 =>
    have hlt : n < base := Nat.lt_of_div_eq_zero (Nat.lt_of_lt_of_le (by decide) hb.1) h0
    show parseDigits base (UInt8.ofNat (48 + n % base) :: acc) 0 = _
    rw [Nat.mod_eq_of_lt hlt, parseDigits_step base hb.2 n 0 hlt (Nat.zero_lt_of_lt hn), Nat.zero_mul, Nat.zero_add]
  case case3 f n acc _ h0 ih =>
    have hdiv : n / base < n := Nat.div_lt_self (Nat.pos_of_ne_zero fun e => h0 (by rw [e, Nat.zero_div])) hb.1
    show parseDigits base (digitsAux base f (n / base) (UInt8.ofNat (48 + n % base) :: acc)) 0 = _
    rw [ih (Nat.lt_trans hdiv hn) (Nat.lt_of_lt_of_le hdiv (Nat.le_of_lt_succ hf)),
      parseDigits_step base hb.2 (n % base) (n / base) (Nat.mod_lt n (Nat.lt_of_lt_of_le (by decide) hb.1)) (Nat.lt_trans hdiv hn),
      Nat.mul_comm, Nat.div_add_mod]

theorem parseNum_digits {base vmax n : Nat} {s : Bytes} (hne : s ≠ []) (hd : AllDigit s)
    (hp : parseDigits base s 0 = .ok (n, [])) (hv : 0 < vmax) (hn : n ≤ vmax) : parseNum base 0 vmax s = .ok n := by
  cases s with
  | nil => exact absurd rfl hne
  | cons c r => simp [parseNum, hd c List.mem_cons_self, hp, hv, Nat.not_lt.2 hn]

theorem parseDigits_printNat (base : Nat) (hb : 2 ≤ base ∧ base ≤ 10) (n : Nat) (hn : n < u64Max / base) :
    parseDigits base (printNat base n) 0 = .ok (n, []) :=
  parseDigits_digitsAux base hb (n + 1) n [] hn (Nat.lt_succ_self n)

/-- `parse_uint`/`parse_uint_oct` read back what `%u`/`%o` printed, for values within the field's range and below the
first overflow test of the loop. -/
theorem parseNum_printNat (base : Nat) (hb : 2 ≤ base ∧ base ≤ 10) (vmax n : Nat) (hv : 0 < vmax) (hn : n ≤ vmax)
    (hsmall : n < u64Max / base) : parseNum base 0 vmax (printNat base n) = .ok n :=
  parseNum_digits (printNat_form base hb n).1 (printNat_form base hb n).2 (parseDigits_printNat base hb n hsmall) hv hn

/-- the 32-bit decimal fields: uid, gid, major, minor -/
theorem parseNum_printNat_u32 {n : Nat} (h : n < 2 ^ 32) : parseNum 10 0 0x0FFFFFFFF (printNat 10 n) = .ok n :=
  parseNum_printNat 10 (by decide) _ n (by decide) (Nat.le_of_lt_succ h) (Nat.lt_trans h (by decide))

/-- the mode field: a literal `0` in front of the octal digits (`" 0%o"`) -/
theorem parseNum_zero_printNat (n : Nat) (hn : n ≤ 0o7777) :
    parseNum 8 0 0o7777 (48 :: printNat 8 n) = .ok n :=
  parseNum_digits (List.cons_ne_nil _ _) (allDigit_cons48 (printNat_form 8 (by decide) n).2)
    ((parseDigits_step 8 (by decide) 0 0 (by decide) (by decide) (printNat 8 n)).trans
      (parseDigits_printNat 8 (by decide) n (Nat.lt_of_le_of_lt hn (by decide)))) (by decide) hn

/-! ### device numbers

`major`, `minor` and `makedev` move four bit fields around; each is brought into the form "field × position, summed",
after which the round trip is arithmetic on quotients and remainders. -/

theorem and_ones_shiftLeft (d k s : Nat) : d &&& ((2 ^ k - 1) <<< s) = d / 2 ^ s % 2 ^ k * 2 ^ s := by
  apply Nat.eq_of_testBit_eq
  intro i
  simp only [Nat.testBit_and, Nat.testBit_shiftLeft, Nat.testBit_two_pow_sub_one, Nat.testBit_mul_two_pow,
    Nat.testBit_mod_two_pow, Nat.testBit_div_two_pow]
  by_cases h : s ≤ i
  · simp [h, Nat.sub_add_cancel h, Bool.and_comm]
  · simp [h]

theorem or_mul_two_pow {a s : Nat} (h : a < 2 ^ s) (b : Nat) : a ||| b * 2 ^ s = a + b * 2 ^ s := by
  rw [Nat.or_comm, Nat.add_comm, Nat.mul_comm, Nat.two_pow_add_eq_or_of_lt h]

theorem add_mul_two_pow_lt {a b s k : Nat} (ha : a < 2 ^ s) (hb : b < 2 ^ k) : a + b * 2 ^ s < 2 ^ (s + k) :=
  calc a + b * 2 ^ s < 2 ^ s + b * 2 ^ s := Nat.add_lt_add_right ha _
    _ = (b + 1) * 2 ^ s := by rw [Nat.add_mul, Nat.one_mul, Nat.add_comm]
    _ ≤ 2 ^ k * 2 ^ s := Nat.mul_le_mul_right _ hb
    _ = 2 ^ (s + k) := by rw [Nat.pow_add, Nat.mul_comm]

theorem mod_two_pow_add (d s k : Nat) : d % 2 ^ (s + k) = d % 2 ^ s + d / 2 ^ s % 2 ^ k * 2 ^ s := by
  rw [Nat.pow_add, Nat.mod_mul, Nat.mul_comm]

theorem mul_two_pow_shiftRight (x t r : Nat) : (x * 2 ^ (t + r)) >>> r = x * 2 ^ t := by
  rw [Nat.shiftRight_eq_div_pow, Nat.pow_add, ← Nat.mul_assoc, Nat.mul_div_cancel _ (Nat.two_pow_pos r)]

theorem mul_two_pow_shiftLeft (x s l : Nat) : (x * 2 ^ s) <<< l = x * 2 ^ (s + l) := by
  rw [Nat.shiftLeft_eq, Nat.mul_assoc, ← Nat.pow_add]

/-- `major`: bits 8–19 of the device number, and above them bits 44–63 -/
theorem devMajor_eq (d : Nat) : devMajor d = d / 2 ^ 8 % 2 ^ 12 + d / 2 ^ 44 % 2 ^ 20 * 2 ^ 12 := by
  have lo : (d &&& 0x00000000000fff00) >>> 8 = d / 2 ^ 8 % 2 ^ 12 := by
    rw [show (0x00000000000fff00 : Nat) = (2 ^ 12 - 1) <<< 8 by decide, and_ones_shiftLeft,
      Nat.shiftRight_eq_div_pow, Nat.mul_div_cancel _ (Nat.two_pow_pos 8)]
  have hi : (d &&& 0xfffff00000000000) >>> 32 = d / 2 ^ 44 % 2 ^ 20 * 2 ^ 12 := by
    rw [show (0xfffff00000000000 : Nat) = (2 ^ 20 - 1) <<< (12 + 32) by decide, and_ones_shiftLeft,
      mul_two_pow_shiftRight]
  unfold devMajor
  rw [lo, hi, or_mul_two_pow (Nat.mod_lt _ (Nat.two_pow_pos _))]

/-- `minor`: bits 0–7, and above them bits 20–43 -/
theorem devMinor_eq (d : Nat) : devMinor d = d % 2 ^ 8 + d / 2 ^ 20 % 2 ^ 24 * 2 ^ 8 := by
  have hi : (d &&& 0x00000ffffff00000) >>> 12 = d / 2 ^ 20 % 2 ^ 24 * 2 ^ 8 := by
    rw [show (0x00000ffffff00000 : Nat) = (2 ^ 24 - 1) <<< (8 + 12) by decide, and_ones_shiftLeft,
      mul_two_pow_shiftRight]
  unfold devMinor
  rw [hi, show (0x00000000000000ff : Nat) = 2 ^ 8 - 1 by decide, Nat.and_two_pow_sub_one_eq_mod,
    or_mul_two_pow (Nat.mod_lt _ (Nat.two_pow_pos _))]

theorem makedev_eq (maj min : Nat) : makedev maj min =
    min % 2 ^ 8 + maj % 2 ^ 12 * 2 ^ 8 + min / 2 ^ 8 % 2 ^ 24 * 2 ^ 20 + maj / 2 ^ 12 % 2 ^ 20 * 2 ^ 44 := by
  have f1 : (maj &&& 0x00000fff) <<< 8 = maj % 2 ^ 12 * 2 ^ 8 := by
    rw [show (0x00000fff : Nat) = 2 ^ 12 - 1 by decide, Nat.and_two_pow_sub_one_eq_mod, Nat.shiftLeft_eq]
  have f3 : (maj &&& 0xfffff000) <<< 32 = maj / 2 ^ 12 % 2 ^ 20 * 2 ^ 44 := by
    rw [show (0xfffff000 : Nat) = (2 ^ 20 - 1) <<< 12 by decide, and_ones_shiftLeft, mul_two_pow_shiftLeft]
  have f0 : min &&& 0x000000ff = min % 2 ^ 8 := by
    rw [show (0x000000ff : Nat) = 2 ^ 8 - 1 by decide, Nat.and_two_pow_sub_one_eq_mod]
  have f2 : (min &&& 0xffffff00) <<< 12 = min / 2 ^ 8 % 2 ^ 24 * 2 ^ 20 := by
    rw [show (0xffffff00 : Nat) = (2 ^ 24 - 1) <<< 8 by decide, and_ones_shiftLeft, mul_two_pow_shiftLeft]
  have order (a b c e : Nat) : a ||| b ||| c ||| e = c ||| a ||| e ||| b := by ac_rfl
  have l0 : min % 2 ^ 8 < 2 ^ 8 := Nat.mod_lt _ (Nat.two_pow_pos _)
  have l1 := add_mul_two_pow_lt l0 (Nat.mod_lt maj (Nat.two_pow_pos 12))
  have l2 := add_mul_two_pow_lt l1 (Nat.mod_lt (min / 2 ^ 8) (Nat.two_pow_pos 24))
  unfold makedev
  rw [order, f0, f1, f2, f3, or_mul_two_pow l0, or_mul_two_pow l1, or_mul_two_pow l2]

theorem makedev_major_minor_mod (d : Nat) : makedev (devMajor d) (devMinor d) = d % 2 ^ 64 := by
  have p (k : Nat) : 0 < 2 ^ k := Nat.two_pow_pos k
  rw [makedev_eq, devMajor_eq, devMinor_eq,
    Nat.add_mul_mod_self_right, Nat.add_mul_mod_self_right, Nat.add_mul_div_right _ _ (p 8), Nat.add_mul_div_right _ _ (p 12),
    Nat.div_eq_of_lt (Nat.mod_lt d (p 8)), Nat.div_eq_of_lt (Nat.mod_lt _ (p 12)), Nat.zero_add, Nat.zero_add,
    Nat.mod_mod, Nat.mod_mod, Nat.mod_mod, Nat.mod_mod,
    ← mod_two_pow_add d 8 12, ← mod_two_pow_add d 20 24, ← mod_two_pow_add d 44 20]

theorem makedev_major_minor (d : Nat) (h : d < 2 ^ 32) : makedev (devMajor d) (devMinor d) = d := by
  rw [makedev_major_minor_mod, Nat.mod_eq_of_lt (Nat.lt_trans h (by decide))]

theorem devMajor_lt (d : Nat) : devMajor d < 2 ^ 32 := by
  rw [devMajor_eq]
  exact add_mul_two_pow_lt (Nat.mod_lt _ (Nat.two_pow_pos _)) (Nat.mod_lt _ (Nat.two_pow_pos _))

theorem devMinor_lt (d : Nat) : devMinor d < 2 ^ 32 := by
  rw [devMinor_eq]
  exact add_mul_two_pow_lt (Nat.mod_lt _ (Nat.two_pow_pos _)) (Nat.mod_lt _ (Nat.two_pow_pos _))

end Sqfs.Quote
