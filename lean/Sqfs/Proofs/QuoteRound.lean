/-
Helper lemmas for C16: the line `describe_tree` prints for one node, decoded by the pack-file parser.
-/
import Sqfs.Proofs.QuoteNode
namespace Sqfs.Quote
open Sqfs.Path (Bytes joinSlash)
open Sqfs.Consts

theorem Encs.append {t1 e1 t2 e2 : List Bytes} (h1 : Encs t1 e1) (h2 : Encs t2 e2) : Encs (t1 ++ t2) (e1 ++ e2) := by
  induction h1 with
  | nil => simpa using h2
  | cons h _ ih => exact Encs.cons h ih

/-- a keyword of the table: printed as it is, can start a line; its row -/
structure Keyword (w : Bytes) (h : Hook) : Prop where
  plain : printEscaped w = w
  safe : Safe w
  head : GoodHead w
  hook : findHook w hooks = some h

theorem kw_dir : Keyword KW_DIR ⟨KW_DIR, sIFDIR, 0, false, true, .generic⟩ :=
  ⟨by decide, by unfold Safe; decide, ⟨100, [105, 114], rfl, by decide, by decide⟩, by decide⟩
theorem kw_slink : Keyword KW_SLINK ⟨KW_SLINK, sIFLNK, 0, true, false, .generic⟩ :=
  ⟨by decide, by unfold Safe; decide, ⟨115, [108, 105, 110, 107], rfl, by decide, by decide⟩, by decide⟩
theorem kw_nod : Keyword KW_NOD ⟨KW_NOD, 0, 0, true, false, .device⟩ :=
  ⟨by decide, by unfold Safe; decide, ⟨110, [111, 100], rfl, by decide, by decide⟩, by decide⟩
theorem kw_pipe : Keyword KW_PIPE ⟨KW_PIPE, sIFIFO, 0, false, false, .generic⟩ :=
  ⟨by decide, by unfold Safe; decide, ⟨112, [105, 112, 101], rfl, by decide, by decide⟩, by decide⟩
theorem kw_sock : Keyword KW_SOCK ⟨KW_SOCK, sIFSOCK, 0, false, false, .generic⟩ :=
  ⟨by decide, by unfold Safe; decide, ⟨115, [111, 99, 107], rfl, by decide, by decide⟩, by decide⟩
theorem kw_file : Keyword KW_FILE ⟨KW_FILE, sIFREG, 0, false, false, .file⟩ :=
  ⟨by decide, by unfold Safe; decide, ⟨102, [105, 108, 101], rfl, by decide, by decide⟩, by decide⟩

theorem printName_eq (p : Bytes) : printName p = printEscaped (pathTok p) := by
  unfold printName pathTok
  by_cases h : p = []
  · rw [if_pos h, if_pos h]; decide
  · rw [if_neg h, if_neg h]

theorem safe_pathTok {p : Bytes} (hp : Safe p) : Safe (pathTok p) := by
  unfold pathTok
  split
  · unfold Safe; decide
  · exact hp

theorem enc_ne {t e : Bytes} (h : Enc t e) : e ≠ [] := h.ne_nil

/-- a describe line: keyword, path, permissions and owner, what follows them, LF -/
def curLine (P : Bytes) (n : Node) (kwd tail : Bytes) : Bytes :=
  kwd ++ [SP] ++ printName P ++ printPerm n ++ tail ++ [LF]

/-- the tokens in front of the extra fields -/
def headToks (P : Bytes) (n : Node) (kwd : Bytes) : List Bytes :=
  [kwd, pathTok P, 48 :: printNat 8 n.perm, printNat 10 n.uid, printNat 10 n.gid]

theorem curLine_toks {kwd : Bytes} {h : Hook} (hw : Keyword kwd h) (P : Bytes) (n : Node) (xt : List Bytes) (rest : Bytes) :
    curLine P n kwd (spTail (xt.map printEscaped)) ++ rest
      = joinSp ((headToks P n kwd ++ xt).map printEscaped) ++ LF :: rest := by
  have hm := printEscaped_digits (List.cons_ne_nil _ _) (allDigit_cons48 (printNat_digits 8 (Or.inl rfl) n.perm))
  have hu := printEscaped_digits (printNat_ne 10 (Or.inr rfl) n.uid) (printNat_digits 10 (Or.inr rfl) n.uid)
  have hg := printEscaped_digits (printNat_ne 10 (Or.inr rfl) n.gid) (printNat_digits 10 (Or.inr rfl) n.gid)
  simp only [headToks, List.map_cons, hw.plain, hm, hu, hg, ← printName_eq, List.cons_append,
    List.nil_append, joinSp_cons_tail, spTail, curLine, printPerm, List.append_assoc]

/--
**The common part of every describe line.**  `kwd path 0mode uid gid x₁ … xₖ` (the `xᵢ` through `print_escaped`) followed by LF,
for a node at a path of image names without LF, numeric fields in range and tokens `xᵢ` without NUL and LF, goes through
`istream_get_line`, `split_line` and the field decoding of `handle_line` and reaches the keyword's callback with the
decoded entry and `x₁ … xₖ`.
-/
theorem describe_line {kwd : Bytes} {h : Hook} (hw : Keyword kwd h)
    (comps : List Bytes) (hc : ∀ c ∈ comps, ImgName c) (hl : LF ∉ joinSlash comps) (n : Node) (hn : n.WfN)
    (xt : List Bytes) (hx : ∀ t ∈ xt, Safe t)
    (hroot : comps ≠ [] ∨ h.allowRoot = true) (hex : h.needExtra = true → xt ≠ []) (hfl : h.flags = 0) (rest : Bytes) :
    fstreeFromFile {} (curLine (joinSlash comps) n kwd (spTail (xt.map printEscaped)) ++ rest) =
      match (match h.cb with
        | .generic => addGeneric { name := joinSlash comps, mode := n.perm ||| h.mode, uid := n.uid, gid := n.gid, rdev := 0, extra := none } xt
        | .device => addDevice { name := joinSlash comps, mode := n.perm ||| h.mode, uid := n.uid, gid := n.gid, rdev := 0, extra := none } xt
        | .file => addFile { name := joinSlash comps, mode := n.perm ||| h.mode, uid := n.uid, gid := n.gid, rdev := 0, extra := none } xt) with
      | .ok e => (e :: (fstreeFromFile {} rest).1, (fstreeFromFile {} rest).2)
      | .error e => ([], some (.handle e)) := by
  obtain ⟨hperm, huid, hgid, _, _⟩ := hn
  have hP : Safe (joinSlash comps) := safe_of_lineSafe ⟨nul_joinSlash comps hc, hl⟩
  have hsafe : ∀ t ∈ headToks (joinSlash comps) n kwd ++ xt, Safe t := by
    intro t ht
    simp only [headToks, List.mem_append, List.mem_cons, List.mem_nil_iff, or_false] at ht
    rcases ht with (rfl | rfl | rfl | rfl | rfl) | ht
    · exact hw.safe
    · exact safe_pathTok hP
    · exact safe_digits (allDigit_cons48 (printNat_digits 8 (Or.inl rfl) n.perm))
    · exact safe_digits (printNat_digits 10 (Or.inr rfl) n.uid)
    · exact safe_digits (printNat_digits 10 (Or.inr rfl) n.gid)
    · exact hx t ht
  have hhead : GoodHead (joinSp ((headToks (joinSlash comps) n kwd ++ xt).map printEscaped)) := by
    obtain ⟨c, r, hcr, h1, h2⟩ := hw.head
    simp only [headToks, List.cons_append, List.map_cons, hw.plain, joinSp_cons_tail]
    rw [hcr]
    exact ⟨c, _, rfl, h1, h2⟩
  rw [curLine_toks hw, line_decodes {} _ rest hsafe hhead]
  have := handleLine_known {} h kwd (pathTok (joinSlash comps)) (joinSlash comps) (48 :: printNat 8 n.perm) (printNat 10 n.uid)
    (printNat 10 n.gid) xt n.perm n.uid n.gid hw.hook (canon_printed_path comps hc)
    (hroot.imp (fun h1 => joinSlash_img_ne_nil comps h1 hc) id) (parseNum_zero_printNat n.perm (Nat.le_of_lt_succ hperm))
    (parseNum_printNat_u32 huid) (parseNum_printNat_u32 hgid) hex rfl rfl
  simp only [headToks, List.cons_append, List.nil_append, hfl] at this ⊢
  rw [this]
  rfl

end Sqfs.Quote
