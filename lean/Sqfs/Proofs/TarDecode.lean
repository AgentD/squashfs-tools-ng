/-
C04 — a header block the writer produced (`HdrFields.block`) under the reader: it passes the tests of `read_header`'s loop
(`block_isHdr`), `decode_header` reads back the values that fit their fields (`Fits`, `decodedMain`), and the loop ends on it
(`Reads.main`).
-/
import Sqfs.Proofs.TarReadLoop
import Sqfs.Proofs.TarHeaderBlock
import Sqfs.Proofs.TarNumberRT
namespace Sqfs.Tar

/-- none of the numeric `set_by_pax` bits is set (the writer's extension records only ever set `PAX_NAME` and
    `PAX_SLINK_TARGET`) -/
structure OnlyNameLink (mask : Nat) : Prop where
  size : hasFlag mask PAX_SIZE = false
  uid : hasFlag mask PAX_UID = false
  gid : hasFlag mask PAX_GID = false
  maj : hasFlag mask PAX_DEV_MAJ = false
  min : hasFlag mask PAX_DEV_MIN = false
  mtime : hasFlag mask PAX_MTIME = false
  sparse : hasFlag mask PAX_SPARSE_GNU_1_X = false

/-- every numeric field holds its value: 8-byte fields below `0x7F·2^56`, the size below 2^64, the time stamp an `sqfs_s64` -/
structure HdrFields.Fits (a : HdrFields) : Prop where
  mode : a.mode < 127 * 2 ^ 56
  uid : a.uid < 127 * 2 ^ 56
  gid : a.gid < 127 * 2 ^ 56
  size : a.size < U64
  mtime : -9223372036854775808 ≤ a.mtime ∧ a.mtime < 9223372036854775808
  maj : a.maj < 127 * 2 ^ 56
  min : a.min < 127 * 2 ^ 56

/-- what `decode_header` makes of the writer's fields: `specDecode` with the values the block carries -/
def decodedMain (a : HdrFields) (mask : Nat) (out : Decoded) : Decoded :=
  let perm := a.mode % 4096
  let tf := a.tf
  { out with
    name := if hasFlag mask PAX_NAME then out.name else some (strn a.name)
    link := if (tf = 49 ∨ tf = 50) ∧ ¬ hasFlag mask PAX_SLINK_TARGET then some (strn a.linkname) else out.link
    recordSize := a.size, uid := a.uid, gid := a.gid, devMajor := a.maj % 4294967296, devMinor := a.min % 4294967296
    mtime := a.mtime
    mode := if tf = 0 ∨ tf = 48 ∨ tf = 83 then perm + S_IFREG else if tf = 49 then perm else if tf = 50 then S_IFLNK + 0o777
            else if tf = 51 then perm + S_IFCHR else if tf = 52 then perm + S_IFBLK else if tf = 53 then perm + S_IFDIR
            else if tf = 54 then perm + S_IFIFO else perm
    hardLink := if tf = 0 ∨ tf = 48 ∨ tf = 83 then out.hardLink else if tf = 49 then true else out.hardLink
    unknown := decide (¬ (tf = 0 ∨ tf = 48 ∨ tf = 83 ∨ tf = 49 ∨ tf = 50 ∨ tf = 51 ∨ tf = 52 ∨ tf = 53 ∨ tf = 54)) }

theorem HdrFields.block_isHdr {a : HdrFields} (hs : a.Sized) (hz : a.size < U64) : IsHdr a.block a.tf a.size where
  len := block_length hs
  nz := (block_fields hs).nonzero
  ver := by rw [(block_fields hs).prePosix]; rfl
  ck := block_checksum hs
  tfl := by rw [(block_fields hs).typeflag]; rfl
  size := by rw [(block_fields hs).size]; exact readNumber_writeNumber12 _ hz

theorem specDecode_of_fields {h : Bytes} {a : HdrFields} (f : HasFields h a) (hf : a.Fits) (mask : Nat) (out : Decoded)
    (hm : OnlyNameLink mask) : specDecode h mask out .prePosix = some (decodedMain a mask out) := by
  unfold specDecode specField specName decodedMain
  simp only [f.name, f.mode, f.uid, f.gid, f.size, f.mtime, f.typeflag, f.linkname, f.devmajor, f.devminor,
    hm.size, hm.uid, hm.gid, hm.maj, hm.min, hm.mtime, Bool.false_eq_true, if_false, ← readNumber_spec,
    readNumber_writeNumber8 _ hf.mode, readNumber_writeNumber8 _ hf.uid, readNumber_writeNumber8 _ hf.gid,
    readNumber_writeNumber8 _ hf.maj, readNumber_writeNumber8 _ hf.min, readNumber_writeNumber12 _ hf.size,
    readNumber_writeNumberSigned a.mtime 12 (by omega) hf.mtime,
    Option.map_some, Option.bind_eq_bind, Option.bind_some, Option.pure_def, List.headD_cons, reduceCtorEq, and_false, id]

theorem Reads.main (cfg : ReadCfg) (s' : Bytes) {a : HdrFields} (hs : a.Sized) (hf : a.Fits) (mask : Nat) (out : Decoded)
    (hm : OnlyNameLink mask) (htf : PlainFlag a.tf) (hsp : out.sparse = []) :
    Reads cfg (a.block ++ s') out mask (.ok { decodedMain a mask out with actualSize := a.size } s') := by
  have h := HdrFields.block_isHdr hs hf.size
  rw [← h.tfl] at htf
  have := Reads.plain cfg _ s' .prePosix mask out h.len h.nz (HdrFields.block_fields hs).prePosix h.ck htf hsp hm.sparse
  rwa [specDecode_of_fields (HdrFields.block_fields hs) hf mask out hm] at this

end Sqfs.Tar
