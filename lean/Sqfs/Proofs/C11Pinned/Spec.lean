/-
Specification side of C11, part of the frozen record `Sqfs.C11Pinned` (see `Model.lean`): what "the same directory contents,
enumerated in a different order" means, and the side conditions under which statements about the scan are made.  Reads in a minute.
-/
import Sqfs.Proofs.C11Pinned.Model

namespace Sqfs.C11Pinned

/-- Two enumerations of one directory forest: the same entries with the same attributes, and inside **every**
directory (at any depth) the order of the entries may differ by an arbitrary permutation. -/
inductive FPerm : List HNode → List HNode → Prop
  | nil : FPerm [] []
  /-- same entry in front; its own children may be permuted (recursively), and so may the rest -/
  | cons {n : Name} {s : Stat} {t : List UInt8} {c c' l l' : List HNode} :
      FPerm c c' → FPerm l l' → FPerm (.mk n s t c :: l) (.mk n s t c' :: l')
  | swap (a b : HNode) (l : List HNode) : FPerm (a :: b :: l) (b :: a :: l)
  | trans {l₁ l₂ l₃ : List HNode} : FPerm l₁ l₂ → FPerm l₂ l₃ → FPerm l₁ l₃

mutual
/-- the names inside each directory are pairwise different (true of every directory a kernel serves) -/
def WFNode : HNode → Prop
  | .mk _ _ _ c => WFList c
def WFList : List HNode → Prop
  | [] => True
  | x :: xs => (∀ y ∈ xs, y.name ≠ x.name) ∧ WFNode x ∧ WFList xs
end

mutual
/-- `(st_dev, st_ino)` of every non-directory entry, in DFS order -/
def keysNode : HNode → List (Nat × Nat)
  | .mk _ s _ c => if isDirMode s.mode then keysList c else [(s.dev, s.ino)]
def keysList : List HNode → List (Nat × Nat)
  | [] => []
  | x :: xs => keysNode x ++ keysList xs
end

/-- "no file has more than one link inside the scanned forest" -/
def NoMultiLink (e : List HNode) : Prop := (keysList e).Nodup

/-- strictly increasing in `strcmp` order (what `insert_sorted` maintains for the children of a directory) -/
def SortedNames (l : List Name) : Prop := l.Pairwise (fun a b => nameLt a b = true)

instance (l : List Name) : Decidable (SortedNames l) := by unfold SortedNames; infer_instance

mutual
/-- every directory at or below the node keeps its children strictly sorted by `strcmp` (hence with pairwise
different names): the form in which `fstree.c` hands the tree to the serialiser -/
def TNode.AllSorted : TNode → Prop
  | .mk _ _ cs => SortedNames (cs.map TNode.name) ∧ AllSortedList cs
def AllSortedList : List TNode → Prop
  | [] => True
  | c :: cs => c.AllSorted ∧ AllSortedList cs
end

end Sqfs.C11Pinned
