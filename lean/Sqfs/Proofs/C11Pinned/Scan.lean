/-
C11, the code before /repo 7ff9210 (`sorted = false`): the scan is independent of the enumeration order as long as the hard-link
filter never fires (hard-link detection off, or no file with more than one name).

Updating the child of one name in a directory node (`applyChild`; normal form `setChild`) obeys two laws for transformers that
keep to their slot (`NameOK`): updates of different names commute, and two updates of one name are the update by the composed
transformer.  So the local walk `walkLocalList`, which fills one directory node by such updates, is invariant under `FPerm`.
The walk without the hard-link filter (`walkListNH`), which re-resolves every path from the root of the tree
(`fstree_add_generic`), is the local walk applied to the directory node at the prefix (`atDir`, `walkListNH_atDir`); and when
the filter never fires, the walk with it computes the same tree (`walkList_quiet`).
-/
import Sqfs.Proofs.C11Pinned.Order

namespace Sqfs.C11Pinned

theorem childByName_nameok {cs : List TNode} {n : Name} : ∀ c, childByName cs n = some c → c.name = n := by
  intro c h
  fun_induction childByName cs n <;> simp_all

theorem childByName_replaceChild_ne (c' : TNode) (cs : List TNode) (m : Name) (h : m ≠ c'.name) :
    childByName (replaceChild c' cs) m = childByName cs m := by
  have h' : ¬ c'.name = m := fun e => h e.symm
  fun_induction replaceChild c' cs <;> simp_all [childByName]

theorem childByName_insertBy_ne (x : TNode) (cs : List TNode) (m : Name) (h : m ≠ x.name) :
    childByName (insertBy TNode.name x cs) m = childByName cs m := by
  have h' : ¬ x.name = m := fun e => h e.symm
  fun_induction insertBy TNode.name x cs <;> simp_all [childByName]

theorem childByName_replaceChild_self {cs : List TNode} {n : Name} {c : TNode} (X : TNode)
    (h : childByName cs n = some c) (hX : X.name = n) : childByName (replaceChild X cs) n = some X := by
  subst hX
  fun_induction replaceChild X cs <;> simp_all [childByName]

theorem childByName_insertBy_self {cs : List TNode} {n : Name} (x : TNode) (h : childByName cs n = none)
    (hx : x.name = n) : childByName (insertBy TNode.name x cs) n = some x := by
  subst hx
  induction cs with
  | nil => simp [insertBy, childByName]
  | cons y ys ih => grind [insertBy, childByName]

theorem replaceChild_self {cs : List TNode} {n : Name} {c : TNode} (h : childByName cs n = some c) :
    replaceChild c cs = cs := by
  cases childByName_nameok _ h
  fun_induction replaceChild c cs <;> simp_all [childByName]

theorem replaceChild_comm (a b : TNode) (cs : List TNode) (h : a.name ≠ b.name) :
    replaceChild a (replaceChild b cs) = replaceChild b (replaceChild a cs) := by
  induction cs with
  | nil => rfl
  | cons x xs ih => grind [replaceChild]

theorem replaceChild_replaceChild_same (a b : TNode) (cs : List TNode) (h : a.name = b.name) :
    replaceChild a (replaceChild b cs) = replaceChild a cs := by
  fun_induction replaceChild b cs <;> simp_all [replaceChild]

theorem replaceChild_insertBy_comm (a b : TNode) (cs : List TNode) (h : a.name ≠ b.name) :
    replaceChild a (insertBy TNode.name b cs) = insertBy TNode.name b (replaceChild a cs) := by
  induction cs with
  | nil => grind [replaceChild, insertBy]
  | cons x xs ih => grind [replaceChild, insertBy]

theorem replaceChild_insertBy_self (x y : TNode) (cs : List TNode) (hn : y.name = x.name)
    (h : childByName cs x.name = none) :
    replaceChild y (insertBy TNode.name x cs) = insertBy TNode.name y cs := by
  induction cs with
  | nil => grind [replaceChild, insertBy]
  | cons z zs ih => grind [replaceChild, insertBy, childByName]

@[simp] theorem TNode.name_mk (n : Name) (a : Attr) (c : List TNode) : (TNode.mk n a c).name = n := rfl
@[simp] theorem TNode.attr_mk (n : Name) (a : Attr) (c : List TNode) : (TNode.mk n a c).attr = a := rfl
@[simp] theorem TNode.children_mk (n : Name) (a : Attr) (c : List TNode) : (TNode.mk n a c).children = c := rfl

/-- Update the child named `n` of directory node `D` with the transformer `T`: `T` sees the existing child (or `none`)
and answers `none` (failure), `some none` (leave `D` alone) or `some (some Y)` (the new child: replaces the existing
one in place, or is linked in with `insert_sorted` + `link_count++` as `mknode` does). -/
def applyChild (n : Name) (T : Option TNode → Option (Option TNode)) (D : TNode) : Option TNode :=
  match T (childByName D.children n) with
  | none => none
  | some none => some D
  | some (some Y) =>
    match childByName D.children n with
    | some _ => some (.mk D.name D.attr (replaceChild Y D.children))
    | none => linkChild D Y

def Named (n : Name) (c? : Option TNode) : Prop := ∀ c, c? = some c → c.name = n

theorem named_some {n : Name} {c : TNode} (h : c.name = n) : Named n (some c) := fun _ hc => by cases hc; exact h

/-- the transformer keeps to the slot `n`: it answers a node called `n`, and nothing only where nothing was -/
def NameOK (n : Name) (T : Option TNode → Option (Option TNode)) : Prop :=
  ∀ c? c1 : Option TNode, Named n c? → T c? = some c1 → Named n c1 ∧ (c1 = none → c? = none)

theorem NameOK.bind {n : Name} {T₁ T₂ : Option TNode → Option (Option TNode)} (ok₁ : NameOK n T₁) (ok₂ : NameOK n T₂) :
    NameOK n fun c? => (T₁ c?).bind T₂ := by
  intro c? c2 hc h
  obtain ⟨c1, h₁, h₂⟩ := Option.bind_eq_some_iff.mp h
  obtain ⟨hc1, hn1⟩ := ok₁ c? c1 hc h₁
  obtain ⟨hc2, hn2⟩ := ok₂ c1 c2 hc1 h₂
  exact ⟨hc2, fun h0 => hn1 (hn2 h0)⟩

theorem NameOK.named {n : Name} {T : Option TNode → Option (Option TNode)} (ok : NameOK n T) {cs : List TNode}
    {c : Option TNode} (h : T (childByName cs n) = some c) : Named n c :=
  (ok _ c childByName_nameok h).1

/-- constant transformer: the state of `D` after the child named `n` has become `c1` (`none`: leave alone) -/
def setChild (n : Name) (c1 : Option TNode) (D : TNode) : Option TNode := applyChild n (fun _ => some c1) D

theorem applyChild_eq_bind (n : Name) (T : Option TNode → Option (Option TNode)) (D : TNode) :
    applyChild n T D = (T (childByName D.children n)).bind (fun c1 => setChild n c1 D) := by
  simp only [setChild, applyChild]
  cases T (childByName D.children n) <;> rfl

theorem setChild_none (n : Name) : setChild n none = some := rfl

theorem setChild_some_mk (n : Name) (Y : TNode) (dn : Name) (da : Attr) (dc : List TNode) :
    setChild n (some Y) (.mk dn da dc) =
      match childByName dc n with
      | some _ => some (.mk dn da (replaceChild Y dc))
      | none => if da.linkCount = 0xFFFFFFFF then none
                else some (.mk dn { da with linkCount := da.linkCount + 1 } (insertBy TNode.name Y dc)) := rfl

theorem setChild_present {n : Name} {c : TNode} (Y : TNode) (dn : Name) (da : Attr) {dc : List TNode}
    (ho : childByName dc n = some c) : setChild n (some Y) (.mk dn da dc) = some (.mk dn da (replaceChild Y dc)) := by
  rw [setChild_some_mk, ho]

theorem setChild_absent {n : Name} (Y : TNode) (dn : Name) (da : Attr) {dc : List TNode} (ho : childByName dc n = none) :
    setChild n (some Y) (.mk dn da dc) = if da.linkCount = 0xFFFFFFFF then none
      else some (.mk dn { da with linkCount := da.linkCount + 1 } (insertBy TNode.name Y dc)) := by
  rw [setChild_some_mk, ho]

/-- what `setChild n c1` has done to `D`; the facts about the slots need the new child to be called `n` -/
structure SetChild (n : Name) (c1 : Option TNode) (D D' : TNode) : Prop where
  name : D'.name = D.name
  isDir : D'.isDir = D.isDir
  other : Named n c1 → ∀ m, m ≠ n → childByName D'.children m = childByName D.children m
  slot : Named n c1 → (c1 = none → childByName D.children n = none) → childByName D'.children n = c1

theorem setChild_spec {n : Name} {c1 : Option TNode} {D D' : TNode} (h : setChild n c1 D = some D') : SetChild n c1 D D' := by
  obtain ⟨dn, da, dc⟩ := D
  cases c1 with
  | none => cases h; exact ⟨rfl, rfl, fun _ _ _ => rfl, fun _ h0 => h0 rfl⟩
  | some Y =>
    rw [setChild_some_mk] at h
    cases hc : childByName dc n with
    | some c =>
      -- the child is replaced in place
      rw [hc] at h; cases h
      exact ⟨rfl, rfl, fun hn m hm => childByName_replaceChild_ne Y dc m (hn Y rfl ▸ hm),
        fun hn _ => childByName_replaceChild_self Y hc (hn Y rfl)⟩
    | none =>
      -- the child is linked in
      rw [hc] at h
      by_cases hlc : da.linkCount = 0xFFFFFFFF
      · rw [if_pos hlc] at h; cases h
      · rw [if_neg hlc] at h; cases h
        exact ⟨rfl, rfl, fun hn m hm => childByName_insertBy_ne Y dc m (hn Y rfl ▸ hm),
          fun hn _ => childByName_insertBy_self Y hc (hn Y rfl)⟩

theorem applyChild_keeps {n : Name} {T : Option TNode → Option (Option TNode)} {D D' : TNode}
    (h : applyChild n T D = some D') : D'.name = D.name ∧ D'.isDir = D.isDir := by
  obtain ⟨c, -, hs⟩ := Option.bind_eq_some_iff.mp (applyChild_eq_bind n T D ▸ h)
  exact ⟨(setChild_spec hs).name, (setChild_spec hs).isDir⟩

theorem setChild_keep (n : Name) (D : TNode) : setChild n (childByName D.children n) D = some D := by
  obtain ⟨dn, da, dc⟩ := D
  rw [TNode.children_mk]
  cases hc : childByName dc n with
  | none => rfl
  | some c => rw [setChild_some_mk, hc, replaceChild_self hc]

/-- a second update of the slot absorbs the first: replaced twice, or linked in (one `link_count++`, failing or not
whatever the node) and then replaced -/
theorem setChild_absorb {n : Name} {c1 c2 : Option TNode} (h1 : Named n c1) (h2 : Named n c2) (h : c2 = none → c1 = none)
    (D : TNode) : (setChild n c1 D).bind (setChild n c2) = setChild n c2 D := by
  cases c1 with
  | none => rfl
  | some C =>
    cases c2 with
    | none => cases h rfl
    | some Y =>
      obtain ⟨dn, da, dc⟩ := D
      have hC := h1 C rfl
      have hYC : Y.name = C.name := (h2 Y rfl).trans hC.symm
      cases hc : childByName dc n with
      | some c =>
        rw [setChild_present C dn da hc, Option.bind_some, setChild_present Y dn da (childByName_replaceChild_self C hc hC),
          setChild_present Y dn da hc, replaceChild_replaceChild_same Y C dc hYC]
      | none =>
        rw [setChild_absent C dn da hc, setChild_absent Y dn da hc]
        by_cases hlc : da.linkCount = 0xFFFFFFFF
        · rw [if_pos hlc, if_pos hlc]; rfl
        · rw [if_neg hlc, if_neg hlc, Option.bind_some, setChild_present Y dn _ (childByName_insertBy_self C hc hC),
            replaceChild_insertBy_self C Y dc hYC (hC ▸ hc)]

theorem setChild_comm {n₁ n₂ : Name} (hne : n₁ ≠ n₂) {c₁ c₂ : Option TNode} (h₁ : Named n₁ c₁) (h₂ : Named n₂ c₂)
    (D : TNode) : (setChild n₁ c₁ D).bind (setChild n₂ c₂) = (setChild n₂ c₂ D).bind (setChild n₁ c₁) := by
  cases c₁ with
  | none => rw [setChild_none, Option.bind_some, Option.bind_fun_some]
  | some Y₁ =>
  cases c₂ with
  | none => rw [setChild_none, Option.bind_some, Option.bind_fun_some]
  | some Y₂ =>
    obtain ⟨dn, da, dc⟩ := D
    have hY₁ := h₁ Y₁ rfl
    have hY₂ := h₂ Y₂ rfl
    have hYne : Y₁.name ≠ Y₂.name := by rw [hY₁, hY₂]; exact hne
    have e₁ := childByName_replaceChild_ne Y₁ dc n₂ (hY₁ ▸ hne.symm)
    have e₁' := childByName_insertBy_ne Y₁ dc n₂ (hY₁ ▸ hne.symm)
    have e₂ := childByName_replaceChild_ne Y₂ dc n₁ (hY₂ ▸ hne)
    have e₂' := childByName_insertBy_ne Y₂ dc n₁ (hY₂ ▸ hne)
    -- each update leaves the other's slot as it is (`e₁ … e₂'`), so the second update takes the branch it takes on `dc`
    cases ho₁ : childByName dc n₁ <;> cases ho₂ : childByName dc n₂
    · -- both new: `link_count++` twice, and the insertions commute
      rw [setChild_absent _ _ _ ho₁, setChild_absent _ _ _ ho₂]
      by_cases hlc : da.linkCount = 0xFFFFFFFF
      · rw [if_pos hlc, if_pos hlc]; rfl
      · rw [if_neg hlc, if_neg hlc, Option.bind_some, Option.bind_some, setChild_absent _ _ _ (e₁'.trans ho₂),
          setChild_absent _ _ _ (e₂'.trans ho₁), insertBy_comm TNode.name Y₂ Y₁ hYne.symm dc]
    · rw [setChild_absent _ _ _ ho₁, setChild_present _ _ _ ho₂, Option.bind_some, setChild_absent _ _ _ (e₂.trans ho₁)]
      by_cases hlc : da.linkCount = 0xFFFFFFFF
      · rw [if_pos hlc, if_pos hlc]; rfl
      · rw [if_neg hlc, if_neg hlc, Option.bind_some, setChild_present _ _ _ (e₁'.trans ho₂),
          replaceChild_insertBy_comm Y₂ Y₁ dc hYne.symm]
    · rw [setChild_present _ _ _ ho₁, setChild_absent _ _ _ ho₂, Option.bind_some, setChild_absent _ _ _ (e₁.trans ho₂)]
      by_cases hlc : da.linkCount = 0xFFFFFFFF
      · rw [if_pos hlc, if_pos hlc]; rfl
      · rw [if_neg hlc, if_neg hlc, Option.bind_some, setChild_present _ _ _ (e₂'.trans ho₁),
          replaceChild_insertBy_comm Y₁ Y₂ dc hYne]
    · rw [setChild_present _ _ _ ho₁, setChild_present _ _ _ ho₂, Option.bind_some, Option.bind_some,
        setChild_present _ _ _ (e₁.trans ho₂), setChild_present _ _ _ (e₂.trans ho₁), replaceChild_comm Y₂ Y₁ dc hYne.symm]

theorem applyChild_bind_applyChild {n m : Name} {T T' : Option TNode → Option (Option TNode)} (hm : m ≠ n)
    (ok : NameOK n T) (D : TNode) :
    (applyChild n T D).bind (applyChild m T') =
      (T (childByName D.children n)).bind fun c => (setChild n c D).bind fun D' =>
        (T' (childByName D.children m)).bind fun c' => setChild m c' D' := by
  rw [applyChild_eq_bind n]
  cases h : T (childByName D.children n) with
  | none => rfl
  | some c =>
    refine Option.bind_congr fun D' hD' => ?_
    rw [applyChild_eq_bind, (setChild_spec hD').other (ok.named h) m hm]

theorem applyChild_comm {n₁ n₂ : Name} {T₁ T₂ : Option TNode → Option (Option TNode)} (hne : n₁ ≠ n₂)
    (ok₁ : NameOK n₁ T₁) (ok₂ : NameOK n₂ T₂) (D : TNode) :
    (applyChild n₁ T₁ D).bind (applyChild n₂ T₂) = (applyChild n₂ T₂ D).bind (applyChild n₁ T₁) := by
  rw [applyChild_bind_applyChild hne.symm ok₁, applyChild_bind_applyChild hne ok₂]
  cases h₁ : T₁ (childByName D.children n₁) <;> cases h₂ : T₂ (childByName D.children n₂)
  · rfl
  · simp
  · simp
  · exact setChild_comm hne (ok₁.named h₁) (ok₂.named h₂) D

theorem applyChild_seq {n : Name} {T₁ T₂ : Option TNode → Option (Option TNode)} (ok₁ : NameOK n T₁) (ok₂ : NameOK n T₂)
    (D : TNode) : (applyChild n T₁ D).bind (applyChild n T₂) = applyChild n (fun c? => (T₁ c?).bind T₂) D := by
  rw [applyChild_eq_bind n T₁, applyChild_eq_bind n fun c? => (T₁ c?).bind T₂]
  cases h₁ : T₁ (childByName D.children n) with
  | none => rfl
  | some c1 =>
    obtain ⟨hc1, hn1⟩ := ok₁ _ c1 childByName_nameok h₁
    -- after the first update the slot holds `c1`, and the second update absorbs the first
    rw [Option.bind_some, Option.bind_some,
      Option.bind_congr fun c2 h₂ => (setChild_absorb hc1 (ok₂ c1 c2 hc1 h₂).1 (ok₂ c1 c2 hc1 h₂).2 D).symm]
    cases hS : setChild n c1 D with
    | none => cases T₂ c1 <;> rfl
    | some D1 =>
      rw [Option.bind_some, applyChild_eq_bind, (setChild_spec hS).slot hc1 hn1]
      simp only [Option.bind_some]

/-- the entry-level computation of the iterator stack with the hard-link filter bypassed -/
def iterNH (cfg : Cfg) (fnm : Fnm) (rel : Path) (dirDev : Nat) (name : Name) (s : Stat) : Option Ent × Bool :=
  treeIterStep cfg fnm (nativeEntry rel dirDev name s)

/-- body of `scan_directory`'s loop on the tree alone (no hard-link target) -/
def scanStepNH (d : Defaults) (cfg : Cfg) (e : Ent) (symTarget : List UInt8) (t : TNode) : Option (TNode × Bool) :=
  match parentOf t e.path with
  | none => some (t, isDirMode e.mode)
  | some _ =>
    match addPath d e (scanExtra cfg e none symTarget) e.path t with
    | none => none
    | some t' => some (t', false)

mutual
def walkNodeNH (d : Defaults) (cfg : Cfg) (fnm : Fnm) (rel : Path) (dirDev : Nat) (h : HNode) (t : TNode) : Option TNode :=
  match h with
  | .mk name s target children =>
    if name = dotName || name = dotDotName then some t
    else
      let r : Option (TNode × Bool) :=
        match (iterNH cfg fnm rel dirDev name s).1 with
        | none => some (t, false)
        | some e2 => scanStepNH d cfg e2 target t
      match r with
      | none => none
      | some (t', ignored) =>
        if isDirMode s.mode && (iterNH cfg fnm rel dirDev name s).2 && !ignored then
          walkListNH d cfg fnm (rel ++ [name]) s.dev children t'
        else some t'
def walkListNH (d : Defaults) (cfg : Cfg) (fnm : Fnm) (rel : Path) (dirDev : Nat) (l : List HNode) (t : TNode) : Option TNode :=
  match l with
  | [] => some t
  | h :: hs =>
    match walkNodeNH d cfg fnm rel dirDev h t with
    | none => none
    | some t' => walkListNH d cfg fnm rel dirDev hs t'
end

/-- the part of `walkNodeNH` that handles the entry itself (`oe`: what the iterator stack delivers) -/
def entryStepNH (d : Defaults) (cfg : Cfg) (target : List UInt8) (oe : Option Ent) (t : TNode) : Option (TNode × Bool) :=
  match oe with
  | none => some (t, false)
  | some e2 => scanStepNH d cfg e2 target t

theorem walkNodeNH_mk (d : Defaults) (cfg : Cfg) (fnm : Fnm) (rel : Path) (dirDev : Nat) (name : Name) (s : Stat)
    (target : List UInt8) (children : List HNode) (t : TNode) :
    walkNodeNH d cfg fnm rel dirDev (.mk name s target children) t =
      if name = dotName || name = dotDotName then some t
      else match entryStepNH d cfg target (iterNH cfg fnm rel dirDev name s).1 t with
        | none => none
        | some (t', ignored) =>
          if isDirMode s.mode && (iterNH cfg fnm rel dirDev name s).2 && !ignored then
            walkListNH d cfg fnm (rel ++ [name]) s.dev children t'
          else some t' := by
  unfold walkNodeNH entryStepNH; rfl

theorem walkListNH_cons (d : Defaults) (cfg : Cfg) (fnm : Fnm) (rel : Path) (dirDev : Nat) (h : HNode) (hs : List HNode)
    (t : TNode) :
    walkListNH d cfg fnm rel dirDev (h :: hs) t =
      (walkNodeNH d cfg fnm rel dirDev h t).bind (walkListNH d cfg fnm rel dirDev hs) := by
  rw [walkListNH]
  cases walkNodeNH d cfg fnm rel dirDev h t <;> rfl

mutual
/-- what scanning the host entry `h` (and everything below it) does to the child of that name of the directory node
being filled: `c?` is the existing child -/
def childT (d : Defaults) (cfg : Cfg) (fnm : Fnm) (rel : Path) (dirDev : Nat) (h : HNode) (c? : Option TNode) :
    Option (Option TNode) :=
  match h with
  | .mk name s target children =>
    if name = dotName || name = dotDotName then some c?
    else
      let c1? : Option (Option TNode) :=
        match (iterNH cfg fnm rel dirDev name s).1 with
        | none => some c?
        | some e2 =>
          match c? with
          | some c => (overwrite c e2).map some
          | none => some (some (.mk name (mknodeAttr e2 (scanExtra cfg e2 none target)) []))
      match c1? with
      | none => none
      | some c1 =>
        if isDirMode s.mode && (iterNH cfg fnm rel dirDev name s).2 then
          match c1 with
          | some C =>
            if C.isDir then (walkLocalList d cfg fnm (rel ++ [name]) s.dev children C).map some else some (some C)
          | none => some none
        else some c1
/-- the scan of the entries `l` of one host directory, acting on the tree node `D` of that directory -/
def walkLocalList (d : Defaults) (cfg : Cfg) (fnm : Fnm) (rel : Path) (dirDev : Nat) (l : List HNode) (D : TNode) :
    Option TNode :=
  match l with
  | [] => some D
  | h :: hs =>
    match applyChild h.name (fun c? => childT d cfg fnm rel dirDev h c?) D with
    | none => none
    | some D' => walkLocalList d cfg fnm rel dirDev hs D'
end

/-- `fstree_add_generic` seen from the child slot: overwrite the existing child or make a new leaf -/
def putT (n : Name) (e : Ent) (x : Extra) (c? : Option TNode) : Option (Option TNode) :=
  match c? with
  | some c => (overwrite c e).map some
  | none => some (some (.mk n (mknodeAttr e x) []))

def entryT (cfg : Cfg) (name : Name) (target : List UInt8) (oe : Option Ent) (c? : Option TNode) :
    Option (Option TNode) :=
  match oe with
  | none => some c?
  | some e2 => putT name e2 (scanExtra cfg e2 none target) c?

/-- the second half of `childT`: if the iterator descends (`b`) and the child is a directory, `G` acts on it -/
def descendT (b : Bool) (G : TNode → Option TNode) (c1 : Option TNode) : Option (Option TNode) :=
  if b then
    match c1 with
    | some C => if C.isDir then (G C).map some else some (some C)
    | none => some none
  else some c1

theorem childT_mk (d : Defaults) (cfg : Cfg) (fnm : Fnm) (rel : Path) (dirDev : Nat) (name : Name) (s : Stat)
    (target : List UInt8) (children : List HNode) (c? : Option TNode) :
    childT d cfg fnm rel dirDev (.mk name s target children) c? =
      if name = dotName || name = dotDotName then some c?
      else (entryT cfg name target (iterNH cfg fnm rel dirDev name s).1 c?).bind
        (descendT (isDirMode s.mode && (iterNH cfg fnm rel dirDev name s).2)
          (walkLocalList d cfg fnm (rel ++ [name]) s.dev children)) := by
  rw [childT]
  refine ite_congr rfl (fun _ => rfl) fun _ => ?_
  show (match entryT cfg name target _ c? with | none => none | some c1 => descendT _ _ c1) = _
  cases entryT cfg name target (iterNH cfg fnm rel dirDev name s).1 c? <;> rfl

theorem walkLocalList_cons (d : Defaults) (cfg : Cfg) (fnm : Fnm) (rel : Path) (dirDev : Nat) (h : HNode)
    (hs : List HNode) (D : TNode) :
    walkLocalList d cfg fnm rel dirDev (h :: hs) D =
      (applyChild h.name (fun c? => childT d cfg fnm rel dirDev h c?) D).bind
        (walkLocalList d cfg fnm rel dirDev hs) := by
  rw [walkLocalList]
  cases applyChild h.name (fun c? => childT d cfg fnm rel dirDev h c?) D <;> rfl

theorem walkLocalList_cons_cons (d : Defaults) (cfg : Cfg) (fnm : Fnm) (rel : Path) (dirDev : Nat) (x y : HNode)
    (l : List HNode) (D : TNode) :
    walkLocalList d cfg fnm rel dirDev (x :: y :: l) D =
      ((applyChild x.name (fun c? => childT d cfg fnm rel dirDev x c?) D).bind
        (applyChild y.name fun c? => childT d cfg fnm rel dirDev y c?)).bind (walkLocalList d cfg fnm rel dirDev l) := by
  rw [walkLocalList_cons, Option.bind_assoc]
  exact Option.bind_congr fun D' _ => walkLocalList_cons ..

theorem overwrite_name {c c' : TNode} {e : Ent} (h : overwrite c e = some c') : c'.name = c.name := by
  revert h; fun_cases overwrite c e <;> intro h <;> cases h; rfl

theorem entryT_ok (cfg : Cfg) (name : Name) (target : List UInt8) (oe : Option Ent) : NameOK name (entryT cfg name target oe) := by
  intro c? c1 hc h
  cases oe with
  | none => cases h; exact ⟨hc, id⟩
  | some e2 =>
    cases c? with
    | none => cases h; exact ⟨named_some rfl, fun h0 => by cases h0⟩
    | some c =>
      obtain ⟨c', hov, rfl⟩ := Option.map_eq_some_iff.mp h
      exact ⟨named_some ((overwrite_name hov).trans (hc c rfl)), fun h0 => by cases h0⟩

theorem walkLocalList_name {d : Defaults} {cfg : Cfg} {fnm : Fnm} {rel : Path} {dirDev : Nat} :
    ∀ {l : List HNode} {D D' : TNode}, walkLocalList d cfg fnm rel dirDev l D = some D' → D'.name = D.name
  | [], D, D', h => by rw [walkLocalList] at h; cases h; rfl
  | x :: xs, D, D', h => by
    rw [walkLocalList_cons] at h
    obtain ⟨D1, h1, h2⟩ := Option.bind_eq_some_iff.mp h
    rw [walkLocalList_name h2, (applyChild_keeps h1).1]

theorem descendT_ok (b : Bool) {G : TNode → Option TNode} (hG : ∀ D D', G D = some D' → D'.name = D.name) (n : Name) :
    NameOK n (descendT b G) := by
  intro c1 c2 hc h
  cases b with
  | false => cases h; exact ⟨hc, id⟩
  | true =>
    cases c1 with
    | none => cases h; exact ⟨hc, fun _ => rfl⟩
    | some C =>
      simp only [descendT, if_true] at h
      by_cases hC : C.isDir = true
      · rw [if_pos hC] at h
        obtain ⟨C', hw, rfl⟩ := Option.map_eq_some_iff.mp h
        exact ⟨named_some ((hG C C' hw).trans (hc C rfl)), fun h0 => by cases h0⟩
      · rw [if_neg hC] at h; cases h; exact ⟨hc, fun h0 => by cases h0⟩

theorem childT_nameOK (d : Defaults) (cfg : Cfg) (fnm : Fnm) (rel : Path) (dirDev : Nat) (h : HNode) :
    NameOK h.name (fun c? => childT d cfg fnm rel dirDev h c?) := by
  obtain ⟨name, s, target, children⟩ := h
  intro c? c1 hc (hT : childT d cfg fnm rel dirDev (.mk name s target children) c? = some c1)
  rw [childT_mk] at hT
  split at hT
  · cases hT; exact ⟨hc, id⟩
  · exact (entryT_ok cfg name target _).bind (descendT_ok _ (fun _ _ => walkLocalList_name) name) c? c1 hc hT

theorem walkLocalList_fperm (d : Defaults) (cfg : Cfg) (fnm : Fnm) {l₁ l₂ : List HNode} (h : FPerm l₁ l₂) :
    WFList l₁ → ∀ (rel : Path) (dirDev : Nat) (D : TNode),
      walkLocalList d cfg fnm rel dirDev l₁ D = walkLocalList d cfg fnm rel dirDev l₂ D := by
  induction h with
  | nil => intros; rfl
  | @cons n s t c c' l l' hc hl ihc ihl =>
    rw [wfList_cons, wfNode_mk]
    rintro ⟨_, h2, h3⟩ rel dirDev D
    have hT : (fun c? => childT d cfg fnm rel dirDev (.mk n s t c) c?) =
        (fun c? => childT d cfg fnm rel dirDev (.mk n s t c') c?) := by
      funext c?
      rw [childT_mk, childT_mk, funext (ihc h2 (rel ++ [n]) s.dev)]
    rw [walkLocalList_cons, walkLocalList_cons, HNode.name, HNode.name, hT]
    exact Option.bind_congr fun D' _ => ihl h3 rel dirDev D'
  | swap a b l =>
    rw [wfList_cons]
    rintro ⟨h1, _, _⟩ rel dirDev D
    rw [walkLocalList_cons_cons, walkLocalList_cons_cons, applyChild_comm (Ne.symm (h1 b List.mem_cons_self)) (childT_nameOK d cfg fnm rel dirDev a)
      (childT_nameOK d cfg fnm rel dirDev b) D]
  | trans h₁ _ ih₁ ih₂ =>
    intro hwf rel dirDev D
    rw [ih₁ hwf, ih₂ (fperm_wf h₁ hwf)]

/-- replace the node at path `q` by `X` -/
def graft (t : TNode) (q : Path) (X : TNode) : TNode := modifyAt (fun _ => X) q t

theorem TNode.eta (t : TNode) : TNode.mk t.name t.attr t.children = t := by cases t; rfl

@[simp] theorem graft_nil (t X : TNode) : graft t [] X = X := rfl

theorem graft_cons (t : TNode) (n : Name) (q : Path) (X : TNode) :
    graft t (n :: q) X = match childByName t.children n with
      | some c => .mk t.name t.attr (replaceChild (graft c q X) t.children)
      | none => t := rfl

theorem lookup_cons (t : TNode) (n : Name) (q : Path) :
    lookup t (n :: q) = if !t.isDir then none else match childByName t.children n with
      | some c => lookup c q
      | none => none := rfl

theorem lookup_cons_some {t D : TNode} {n : Name} {q : Path} (h : lookup t (n :: q) = some D) :
    t.isDir = true ∧ ∃ c, childByName t.children n = some c ∧ lookup c q = some D := by
  rw [lookup_cons] at h
  cases hd : t.isDir with
  | false => rw [hd] at h; cases h
  | true =>
    rw [hd] at h
    cases hc : childByName t.children n with
    | none => rw [hc] at h; cases h
    | some c => rw [hc] at h; exact ⟨rfl, c, rfl, h⟩

theorem lookup_mk_cons {t c : TNode} {cs : List TNode} {n : Name} (q : Path) (hd : t.isDir = true)
    (hc : childByName cs n = some c) : lookup (.mk t.name t.attr cs) (n :: q) = lookup c q := by
  rw [lookup_cons, TNode.children_mk, hc, show (TNode.mk t.name t.attr cs).isDir = t.isDir from rfl, hd]; rfl

theorem lookup_append (t : TNode) (q r : Path) : lookup t (q ++ r) = (lookup t q).bind (fun D => lookup D r) := by
  induction q generalizing t with
  | nil => rfl
  | cons n q ih =>
    rw [List.cons_append, lookup_cons, lookup_cons]
    cases t.isDir with
    | false => rfl
    | true => cases childByName t.children n with
      | none => rfl
      | some c => exact ih c

theorem lookup_snoc (t : TNode) (q : Path) (n : Name) :
    lookup t (q ++ [n]) = (lookup t q).bind fun D => if D.isDir then childByName D.children n else none := by
  rw [lookup_append]
  refine Option.bind_congr fun D _ => ?_
  rw [lookup_cons]
  cases D.isDir with
  | false => rfl
  | true => cases childByName D.children n <;> rfl

theorem graft_name (t : TNode) (n : Name) (q : Path) (X : TNode) : (graft t (n :: q) X).name = t.name := by
  rw [graft_cons]; split <;> rfl

theorem graft_attr (t : TNode) (n : Name) (q : Path) (X : TNode) : (graft t (n :: q) X).attr = t.attr := by
  rw [graft_cons]; split <;> rfl

theorem graft_self {t D : TNode} {q : Path} (h : lookup t q = some D) : graft t q D = t := by
  induction q generalizing t with
  | nil => cases h; rfl
  | cons n q ih =>
    obtain ⟨-, c, hc, hq⟩ := lookup_cons_some h
    simp only [graft_cons, hc, ih hq, replaceChild_self hc, TNode.eta]

theorem graft_name' {t D X : TNode} {q : Path} (h : lookup t q = some D) (hX : X.name = D.name) :
    (graft t q X).name = t.name := by
  cases q with
  | nil => cases h; exact hX
  | cons n q => exact graft_name t n q X

theorem lookup_graft {t D X : TNode} {q : Path} (h : lookup t q = some D) (hX : X.name = D.name) :
    lookup (graft t q X) q = some X := by
  induction q generalizing t with
  | nil => rfl
  | cons n q ih =>
    obtain ⟨hd, c, hc, hq⟩ := lookup_cons_some h
    have hg : (graft c q X).name = n := (graft_name' hq hX).trans (childByName_nameok _ hc)
    simp only [graft_cons, hc]
    rw [lookup_mk_cons q hd (childByName_replaceChild_self _ hc hg), ih hq]

theorem graft_append {t D : TNode} {q : Path} (r : Path) (Y : TNode) (h : lookup t q = some D) :
    graft t (q ++ r) Y = graft t q (graft D r Y) := by
  induction q generalizing t with
  | nil => cases h; rfl
  | cons n q ih =>
    obtain ⟨-, c, hc, hq⟩ := lookup_cons_some h
    simp only [List.cons_append, graft_cons, hc, ih hq]

theorem graft_graft_same {t D X : TNode} {q : Path} (Y : TNode) (h : lookup t q = some D) (hX : X.name = D.name)
    (hY : Y.name = X.name) : graft (graft t q X) q Y = graft t q Y := by
  induction q generalizing t with
  | nil => rfl
  | cons n q ih =>
    obtain ⟨-, c, hc, hq⟩ := lookup_cons_some h
    have hg : (graft c q X).name = n := (graft_name' hq hX).trans (childByName_nameok _ hc)
    have hgg : (graft c q Y).name = (graft c q X).name := (graft_name' hq (hY.trans hX)).trans (graft_name' hq hX).symm
    simp only [graft_cons, hc, TNode.children_mk, TNode.name_mk, TNode.attr_mk, childByName_replaceChild_self _ hc hg, ih hq]
    rw [replaceChild_replaceChild_same _ _ _ hgg]

theorem parentOf_snoc (t : TNode) (q : Path) (n : Name) :
    parentOf t (q ++ [n]) = (lookup t q).bind (fun D => if D.isDir then some D else none) := by
  cases hqn : q ++ [n] with
  | nil => simp at hqn
  | cons a b =>
    rw [parentOf, ← hqn, List.dropLast_concat]
    · cases lookup t q <;> rfl
    · intro h; cases h

theorem addPath_local (d : Defaults) (e : Ent) (x : Extra) {t D : TNode} {q : Path} (r : Path) (hr : r ≠ [])
    (h : lookup t q = some D) :
    addPath d e x (q ++ r) t = (addPath d e x r D).map (graft t q) := by
  induction q generalizing t with
  | nil =>
    cases h
    cases h' : addPath d e x r D <;> simp [h']
  | cons n q ih =>
    obtain ⟨hdir, c, hc, hq⟩ := lookup_cons_some h
    cases hqr : q ++ r with
    | nil => simp [hr] at hqr
    | cons m rest =>
      simp only [List.cons_append, hqr, addPath, hdir, hc]
      rw [← hqr, ih hq]
      cases addPath d e x r D with
      | none => rfl
      | some D' => simp [graft_cons, hc]

theorem treeIterStep_out {cfg : Cfg} {fnm : Fnm} {e e2 : Ent} (h : (treeIterStep cfg fnm e).1 = some e2) :
    e2 = applyChanges cfg e := by
  revert h; fun_cases treeIterStep cfg fnm e <;> intro h <;> first | cases h | exact (Option.some.inj h).symm

theorem iterNH_path {cfg : Cfg} {fnm : Fnm} {rel : Path} {dirDev : Nat} {name : Name} {s : Stat} {e2 : Ent}
    (h : (iterNH cfg fnm rel dirDev name s).1 = some e2) : e2.path = cfg.pfx ++ rel ++ [name] := by
  rw [treeIterStep_out h]
  simp [applyChanges, nativeEntry, List.append_assoc]

theorem addPath_single (d : Defaults) (e : Ent) (x : Extra) (n : Name) (D : TNode) (hD : D.isDir = true) :
    addPath d e x [n] D = applyChild n (putT n e x) D := by
  obtain ⟨dn, da, dc⟩ := D
  rw [applyChild_eq_bind, addPath, hD]
  cases hc : childByName dc n with
  | some c =>
    simp only [TNode.children_mk, hc, putT]
    cases overwrite c e with
    | none => rfl
    | some c' => rw [Option.map_some, Option.bind_some, setChild_some_mk, hc]; rfl
  | none => simp only [TNode.children_mk, hc, putT, Option.bind_some, setChild_some_mk]; rfl

theorem setChild_replace {n : Name} {D C : TNode} (C' : TNode) (ho : childByName D.children n = some C) :
    setChild n (some C') D = some (graft D [n] C') := by
  obtain ⟨dn, da, dc⟩ := D
  rw [TNode.children_mk] at ho
  rw [setChild_some_mk, graft_cons, TNode.children_mk, ho]; rfl

/-- `F` applied to the directory node at `q`; a tree with no directory there is left as it is.  This is how
`scan_directory` treats the entries of a host directory whose path is `q` in the tree: `fstree_add_generic` resolves
every entry from the root, and drops it if the parent is missing. -/
def atDir (q : Path) (F : TNode → Option TNode) (t : TNode) : Option TNode :=
  match lookup t q with
  | some D => if D.isDir then (F D).map (graft t q) else some t
  | none => some t

theorem dir_or_not (t : TNode) (q : Path) :
    (∃ D, lookup t q = some D ∧ D.isDir = true) ∨ ∀ D, lookup t q = some D → D.isDir = false :=
  (Classical.em _).imp_right fun h D hq => Bool.eq_false_iff.mpr fun hD => h ⟨D, hq, hD⟩

theorem atDir_dir {q : Path} {t D : TNode} (F : TNode → Option TNode) (hq : lookup t q = some D) (hD : D.isDir = true) :
    atDir q F t = (F D).map (graft t q) := by
  rw [atDir, hq]; exact if_pos hD

theorem atDir_nodir {q : Path} {t : TNode} (F : TNode → Option TNode) (h : ∀ D, lookup t q = some D → D.isDir = false) :
    atDir q F t = some t := by
  rw [atDir]
  cases hq : lookup t q with
  | none => rfl
  | some D => exact if_neg (by simp [h D hq])

theorem atDir_congr {q : Path} {F G : TNode → Option TNode} (h : ∀ D, F D = G D) (t : TNode) : atDir q F t = atDir q G t := by
  rw [funext h]

theorem atDir_id (q : Path) (t : TNode) : atDir q some t = some t := by
  rcases dir_or_not t q with ⟨D, hq, hD⟩ | hnd
  · rw [atDir_dir _ hq hD, Option.map_some, graft_self hq]
  · exact atDir_nodir _ hnd

theorem atDir_keep (q : Path) (n : Name) (t : TNode) : atDir q (applyChild n fun c? => some c?) t = some t :=
  (atDir_congr (fun D => (applyChild_eq_bind n (fun c? => some c?) D).trans (setChild_keep n D)) t).trans (atDir_id q t)

theorem atDir_bind {q : Path} {F G : TNode → Option TNode}
    (hF : ∀ D D', F D = some D' → D'.name = D.name ∧ D'.isDir = D.isDir) (hG : ∀ D D', G D = some D' → D'.name = D.name)
    (t : TNode) : (atDir q F t).bind (atDir q G) = atDir q (fun D => (F D).bind G) t := by
  rcases dir_or_not t q with ⟨D, hq, hD⟩ | hnd
  · rw [atDir_dir F hq hD, atDir_dir _ hq hD]
    cases hF1 : F D with
    | none => rfl
    | some D1 =>
      obtain ⟨hn, hd⟩ := hF D D1 hF1
      rw [Option.map_some, Option.bind_some, Option.bind_some, atDir_dir G (lookup_graft hq hn) (hd.trans hD)]
      exact Option.map_congr fun D2 hD2 => graft_graft_same D2 hq hn (hG D1 D2 hD2)
  · rw [atDir_nodir F hnd, atDir_nodir _ hnd, Option.bind_some, atDir_nodir G hnd]

/-- an operation on the directory node at `q ++ [n]` (if the walk goes there at all: `b`) is an update of the child `n`
of the node at `q` -/
theorem atDir_snoc (b : Bool) (q : Path) (n : Name) (G : TNode → Option TNode) (t : TNode) :
    (if b then atDir (q ++ [n]) G t else some t) = atDir q (applyChild n (descendT b G)) t := by
  cases b with
  | false => exact (atDir_keep q n t).symm
  | true =>
    rw [if_pos rfl, atDir, atDir, lookup_snoc]
    cases hq : lookup t q with
    | none => rfl
    | some D =>
      by_cases hD : D.isDir = true
      · simp only [Option.bind_some, if_pos hD, applyChild_eq_bind]
        cases ho : childByName D.children n with
        | none => simp only [descendT, if_true, Option.bind_some, setChild_none, Option.map_some, graft_self hq]
        | some C =>
          by_cases hC : C.isDir = true
          · simp only [descendT, if_true, if_pos hC]
            cases G C with
            | none => rfl
            | some C' =>
              simp only [Option.map_some, Option.bind_some, setChild_replace C' ho]
              rw [graft_append [n] C' hq]
          · simp only [descendT, if_true, if_neg hC, Option.bind_some, ← ho, setChild_keep, Option.map_some, graft_self hq]
      · simp only [Option.bind_some, if_neg hD]

/-- the entry itself: linked into (or overwriting a child of) the directory node at `q`; with no directory at `q`,
`scan_directory` drops it (its parent is missing) and may ask the iterator to skip what is below -/
theorem entryStepNH_atDir (d : Defaults) (cfg : Cfg) {name : Name} (target : List UInt8) {oe : Option Ent} (t : TNode)
    {q : Path} (hpath : ∀ e2, oe = some e2 → e2.path = q ++ [name]) :
    ∃ ign, entryStepNH d cfg target oe t =
        (atDir q (applyChild name (entryT cfg name target oe)) t).map (fun t' => (t', ign)) ∧
      (ign = true → ∀ D, lookup t q = some D → D.isDir = false) := by
  cases oe with
  | none =>
    refine ⟨false, ?_, fun h => by cases h⟩
    show _ = (atDir q (applyChild name fun c? => some c?) t).map _
    rw [atDir_keep]; rfl
  | some e2 =>
    rw [entryStepNH, scanStepNH, hpath e2 rfl, parentOf_snoc]
    rcases dir_or_not t q with ⟨D, hq, hD⟩ | hnd
    · refine ⟨false, ?_, fun h => by cases h⟩
      rw [hq, Option.bind_some, if_pos hD, atDir_dir _ hq hD, addPath_local d e2 _ [name] (by simp) hq,
        addPath_single d e2 _ name D hD]
      show _ = ((applyChild name (putT name e2 (scanExtra cfg e2 none target)) D).map _).map _
      cases applyChild name (putT name e2 (scanExtra cfg e2 none target)) D <;> rfl
    · refine ⟨isDirMode e2.mode, ?_, fun _ => hnd⟩
      rw [atDir_nodir _ hnd]
      cases hq : lookup t q with
      | none => rfl
      | some D => simp [hnd D hq]

mutual
theorem walkNodeNH_atDir (d : Defaults) (cfg : Cfg) (fnm : Fnm) : ∀ (h : HNode) (rel : Path) (dirDev : Nat) (t : TNode),
    walkNodeNH d cfg fnm rel dirDev h t =
      atDir (cfg.pfx ++ rel) (applyChild h.name fun c? => childT d cfg fnm rel dirDev h c?) t
  | .mk name s target children, rel, dirDev, t => by
    have IH := walkListNH_atDir d cfg fnm children (rel ++ [name]) s.dev
    rw [← List.append_assoc] at IH
    generalize hqdef : cfg.pfx ++ rel = q at IH ⊢
    obtain ⟨ign, hE, hign⟩ := entryStepNH_atDir d cfg target t (q := q) (name := name)
      (oe := (iterNH cfg fnm rel dirDev name s).1) fun e2 hout => by rw [iterNH_path hout, hqdef]
    rw [walkNodeNH_mk, HNode.name, hE]
    simp only [childT_mk]
    by_cases hdot : (name = dotName || name = dotDotName) = true
    · simp only [if_pos hdot]
      rw [atDir_keep]
    · -- the entry, then the sub-directory: two updates of the child `name` of the node at `q`
      simp only [if_neg hdot]
      rw [← atDir_congr (applyChild_seq (entryT_ok cfg name target _) (descendT_ok _ (fun _ _ => walkLocalList_name) name)),
        ← atDir_bind (fun _ _ => applyChild_keeps) (fun _ _ h => (applyChild_keeps h).1)]
      cases ign with
      | true =>
        rw [atDir_nodir _ (hign rfl), Option.bind_some, atDir_nodir _ (hign rfl)]
        simp
      | false =>
        refine Eq.trans ?_ (Option.bind_congr fun t' _ =>
          show (if _ then walkListNH d cfg fnm (rel ++ [name]) s.dev children t' else some t') = _ by rw [IH t', atDir_snoc])
        cases atDir q (applyChild name (entryT cfg name target (iterNH cfg fnm rel dirDev name s).1)) t <;> simp

theorem walkListNH_atDir (d : Defaults) (cfg : Cfg) (fnm : Fnm) : ∀ (l : List HNode) (rel : Path) (dirDev : Nat) (t : TNode),
    walkListNH d cfg fnm rel dirDev l t = atDir (cfg.pfx ++ rel) (walkLocalList d cfg fnm rel dirDev l) t
  | [], rel, dirDev, t => by
    rw [walkListNH, atDir_congr (G := some) fun D => by rw [walkLocalList], atDir_id]
  | h :: hs, rel, dirDev, t => by
    rw [walkListNH_cons, walkNodeNH_atDir d cfg fnm h rel dirDev t,
      Option.bind_congr fun t' _ => walkListNH_atDir d cfg fnm hs rel dirDev t',
      atDir_bind (fun _ _ => applyChild_keeps) (fun _ _ => walkLocalList_name)]
    exact atDir_congr (fun D => (walkLocalList_cons ..).symm) t
end

theorem walkNodeNH_local (d : Defaults) (cfg : Cfg) (fnm : Fnm) : ∀ (h : HNode) (rel : Path) (dirDev : Nat) (t : TNode),
    (∀ D, lookup t (cfg.pfx ++ rel) = some D → D.isDir = true →
      walkNodeNH d cfg fnm rel dirDev h t =
        (applyChild h.name (fun c? => childT d cfg fnm rel dirDev h c?) D).map (graft t (cfg.pfx ++ rel))) ∧
    ((∀ D, lookup t (cfg.pfx ++ rel) = some D → D.isDir = false) → walkNodeNH d cfg fnm rel dirDev h t = some t)
  | h, rel, dirDev, t =>
    ⟨fun _ hq hD => (walkNodeNH_atDir d cfg fnm h rel dirDev t).trans (atDir_dir _ hq hD),
      fun hnd => (walkNodeNH_atDir d cfg fnm h rel dirDev t).trans (atDir_nodir _ hnd)⟩

def SeenFresh (seen : List ((Nat × Nat) × Path)) (ks : List (Nat × Nat)) : Prop := ∀ k ∈ ks, seenLookup seen k = none

def SeenGrow (seen seen' : List ((Nat × Nat) × Path)) (ks : List (Nat × Nat)) : Prop :=
  ∀ k, seenLookup seen' k ≠ none → seenLookup seen k ≠ none ∨ k ∈ ks

/-- hard-link detection is off, or the entries to come have pairwise different (dev, ino) none of which was seen -/
def HlQuiet (cfg : Cfg) (seen : List ((Nat × Nat) × Path)) (ks : List (Nat × Nat)) : Prop :=
  hasFlag cfg.flags Consts.dirScanNoHardlinks = true ∨ (ks.Nodup ∧ SeenFresh seen ks)

theorem keysNode_mk (n : Name) (s : Stat) (t : List UInt8) (c : List HNode) :
    keysNode (.mk n s t c) = if isDirMode s.mode then keysList c else [(s.dev, s.ino)] := by
  simp [keysNode]

theorem keysList_cons (x : HNode) (xs : List HNode) : keysList (x :: xs) = keysNode x ++ keysList xs := by
  simp [keysList]

theorem SeenGrow.trans {s₁ s₂ s₃ : List ((Nat × Nat) × Path)} {A B : List (Nat × Nat)}
    (h₁ : SeenGrow s₁ s₂ A) (h₂ : SeenGrow s₂ s₃ B) : SeenGrow s₁ s₃ (A ++ B) :=
  fun k hk => (h₂ k hk).elim (fun h => (h₁ k h).imp id (List.mem_append_left _))
    fun h => Or.inr (List.mem_append_right _ h)

theorem SeenGrow.refl (s : List ((Nat × Nat) × Path)) (A : List (Nat × Nat)) : SeenGrow s s A := fun _ hk => Or.inl hk

theorem SeenGrow.mono {s s' : List ((Nat × Nat) × Path)} {A B : List (Nat × Nat)} (h : SeenGrow s s' A)
    (hAB : ∀ k ∈ A, k ∈ B) : SeenGrow s s' B :=
  fun k hk => (h k hk).imp id (hAB k)

theorem hlNext_quiet (nohl : Bool) {seen : List ((Nat × Nat) × Path)} {e : Ent}
    (hq : nohl = true ∨ (isDirMode e.mode = false → seenLookup seen (e.dev, e.ino) = none)) :
    ∃ seen', (if nohl then (e, none, seen) else hlNext seen e) = (e, none, seen') ∧
      SeenGrow seen seen' (if isDirMode e.mode then [] else [(e.dev, e.ino)]) ∧ (isDirMode e.mode = true → seen' = seen) := by
  by_cases hflag : nohl = true
  · exact ⟨seen, if_pos hflag, SeenGrow.refl _ _, fun _ => rfl⟩
  · rw [if_neg hflag]
    by_cases hdir : isDirMode e.mode = true
    · exact ⟨seen, by simp [hlNext, hdir], SeenGrow.refl _ _, fun _ => rfl⟩
    · have hlk := hq.resolve_left hflag (by simpa using hdir)
      refine ⟨((e.dev, e.ino), e.rel) :: seen, by simp [hlNext, hdir, hlk], fun k hk => ?_, fun h => absurd h hdir⟩
      rw [if_neg hdir, List.mem_singleton]
      rw [seenLookup] at hk
      by_cases hk' : (e.dev, e.ino) = k
      · exact Or.inr hk'.symm
      · rw [if_neg hk'] at hk; exact Or.inl hk

theorem iterStep_quiet {cfg : Cfg} {fnm : Fnm} {rel : Path} {dirDev : Nat} {seen : List ((Nat × Nat) × Path)}
    {name : Name} {s : Stat}
    (hq : HlQuiet cfg seen (if isDirMode s.mode then [] else [(s.dev, s.ino)])) :
    ∃ seen', iterStep cfg fnm rel dirDev seen name s =
        { out := (iterNH cfg fnm rel dirDev name s).1, recurse := (iterNH cfg fnm rel dirDev name s).2, hlTarget := none,
          seen := seen' } ∧
      SeenGrow seen seen' (if isDirMode s.mode then [] else [(s.dev, s.ino)]) ∧ (isDirMode s.mode = true → seen' = seen) := by
  obtain ⟨seen', h, hg, hd⟩ := hlNext_quiet (hasFlag cfg.flags Consts.dirScanNoHardlinks) (seen := seen)
    (e := nativeEntry rel dirDev name s) (hq.imp_right fun h (hdir : isDirMode s.mode = false) => h.2 (s.dev, s.ino) (by simp [hdir]))
  exact ⟨seen', by simp only [iterStep, h, iterNH], hg, hd⟩

theorem iterNH_hard {cfg : Cfg} {fnm : Fnm} {rel : Path} {dirDev : Nat} {name : Name} {s : Stat} {e2 : Ent}
    (h : (iterNH cfg fnm rel dirDev name s).1 = some e2) : e2.hard = false := by
  rw [treeIterStep_out h]
  simp [applyChanges, nativeEntry]

theorem scanStep_nh (d : Defaults) (cfg : Cfg) (e : Ent) (target : List UInt8) (t : TNode) (links : List Path)
    (hh : e.hard = false) :
    scanStep d cfg e none target t links
      = (scanStepNH d cfg e target t).map (fun r : TNode × Bool => (r.1, links, r.2)) := by
  simp only [scanStep, scanStepNH]
  cases hp : parentOf t e.path with
  | none => rfl
  | some P =>
    cases addPath d e (scanExtra cfg e none target) e.path t with
    | none => rfl
    | some t' => simp [hh]

/-- the walk with the filter (`r`) and the walk without it (`rNH`) both fail, or end with the same tree, no link queued
and keys from `ks` only remembered -/
def QuietResult (st : St) (r : Option St) (rNH : Option TNode) (ks : List (Nat × Nat)) : Prop :=
  match r with
  | none => rNH = none
  | some st' => rNH = some st'.tree ∧ st'.links = st.links ∧ SeenGrow st.seen st'.seen ks

theorem HlQuiet.mono {cfg : Cfg} {seen : List ((Nat × Nat) × Path)} {ks ks' : List (Nat × Nat)}
    (h : HlQuiet cfg seen ks) (hs : ks'.Sublist ks) : HlQuiet cfg seen ks' :=
  h.imp id fun ⟨hnd, hfr⟩ => ⟨hnd.sublist hs, fun k hk => hfr k (hs.subset hk)⟩

theorem HlQuiet.after {cfg : Cfg} {seen seen' : List ((Nat × Nat) × Path)} {A B : List (Nat × Nat)}
    (h : HlQuiet cfg seen (A ++ B)) (hg : SeenGrow seen seen' A) : HlQuiet cfg seen' B := by
  refine h.imp id fun ⟨hnd, hfr⟩ => ⟨(List.nodup_append.mp hnd).2.1, fun k hk => ?_⟩
  cases hlk : seenLookup seen' k with
  | none => rfl
  | some v =>
    rcases hg k (by rw [hlk]; simp) with h' | h'
    · exact absurd (hfr k (List.mem_append_right _ hk)) h'
    · exact absurd rfl ((List.nodup_append.mp hnd).2.2 k h' k hk)

mutual
theorem walkNode_quiet (d : Defaults) (cfg : Cfg) (fnm : Fnm) :
    ∀ (h : HNode) (rel : Path) (dirDev : Nat) (st : St), HlQuiet cfg st.seen (keysNode h) →
      QuietResult st (walkNode d cfg fnm rel dirDev h st) (walkNodeNH d cfg fnm rel dirDev h st.tree) (keysNode h)
  | .mk name s target children, rel, dirDev, st, hq => by
    have IH := walkList_quiet d cfg fnm children (rel ++ [name]) s.dev
    rw [keysNode_mk] at hq ⊢
    by_cases hdot : (name = dotName || name = dotDotName) = true
    · simp only [walkNode, walkNodeNH, hdot, if_true]
      exact ⟨rfl, rfl, SeenGrow.refl _ _⟩
    · simp only [walkNode, walkNodeNH, hdot, if_false, Bool.false_eq_true]
      -- the iterator layers behave as without the filter
      obtain ⟨seen', hit, hg, hsd⟩ := iterStep_quiet (fnm := fnm) (rel := rel) (dirDev := dirDev) (name := name) (s := s)
        (hq.mono (by by_cases hdir : isDirMode s.mode = true <;> simp [hdir]))
      simp only [hit]
      have hh : ∀ e2, (iterNH cfg fnm rel dirDev name s).1 = some e2 → e2.hard = false := fun _ => iterNH_hard
      generalize iterNH cfg fnm rel dirDev name s = nh at hh ⊢
      -- what follows the scan step
      have tail : ∀ (t' : TNode) (ignored : Bool),
          QuietResult st
            (if (isDirMode s.mode && nh.2 && !ignored) = true then
              walkList d cfg fnm (rel ++ [name]) s.dev children { seen := seen', tree := t', links := st.links }
             else some { seen := seen', tree := t', links := st.links })
            (if (isDirMode s.mode && nh.2 && !ignored) = true then walkListNH d cfg fnm (rel ++ [name]) s.dev children t'
             else some t')
            (if isDirMode s.mode = true then keysList children else [(s.dev, s.ino)]) := by
        intro t' ignored
        by_cases hcond : (isDirMode s.mode && nh.2 && !ignored) = true
        · have hdir : isDirMode s.mode = true := by
            simp only [Bool.and_eq_true] at hcond; exact hcond.1.1
          rw [if_pos hcond, if_pos hcond, if_pos hdir, hsd hdir]
          rw [if_pos hdir] at hq
          exact IH { seen := st.seen, tree := t', links := st.links } hq
        · rw [if_neg hcond, if_neg hcond]
          refine ⟨rfl, rfl, ?_⟩
          by_cases hdir : isDirMode s.mode = true
          · rw [hsd hdir]; exact SeenGrow.refl _ _
          · rw [if_neg hdir] at hg ⊢; exact hg
      cases hout : nh.1 with
      | none => exact tail st.tree false
      | some e2 =>
        simp only [scanStep_nh d cfg e2 target st.tree st.links (hh e2 hout)]
        cases scanStepNH d cfg e2 target st.tree with
        | none => rfl
        | some r => exact tail r.1 r.2
theorem walkList_quiet (d : Defaults) (cfg : Cfg) (fnm : Fnm) :
    ∀ (l : List HNode) (rel : Path) (dirDev : Nat) (st : St), HlQuiet cfg st.seen (keysList l) →
      QuietResult st (walkList d cfg fnm rel dirDev l st) (walkListNH d cfg fnm rel dirDev l st.tree) (keysList l)
  | [], rel, dirDev, st, _ => by
    simp only [walkList, walkListNH]
    exact ⟨rfl, rfl, SeenGrow.refl _ _⟩
  | h :: hs, rel, dirDev, st, hq => by
    rw [keysList_cons] at hq ⊢
    have IHn := walkNode_quiet d cfg fnm h rel dirDev st (hq.mono (List.sublist_append_left _ _))
    simp only [walkList, walkListNH]
    revert IHn
    cases walkNode d cfg fnm rel dirDev h st with
    | none =>
      simp only [QuietResult]
      intro h1; rw [h1]
    | some st1 =>
      simp only [QuietResult]
      rintro ⟨h1, h2, h3⟩
      rw [h1]
      have IHl := walkList_quiet d cfg fnm hs rel dirDev st1 (hq.after h3)
      revert IHl
      cases walkList d cfg fnm rel dirDev hs st1 with
      | none => simp only [QuietResult]; exact id
      | some st2 =>
        simp only [QuietResult]
        exact fun ⟨g1, g2, g3⟩ => ⟨g1, g2.trans h2, h3.trans g3⟩
end

theorem fperm_keys {l₁ l₂ : List HNode} (h : FPerm l₁ l₂) : (keysList l₁).Perm (keysList l₂) := by
  induction h with
  | nil => exact List.Perm.refl _
  | @cons n s t c c' l l' _ _ ihc ihl =>
    rw [keysList_cons, keysList_cons, keysNode_mk, keysNode_mk]
    split
    · exact List.Perm.append ihc ihl
    · exact List.Perm.append (List.Perm.refl _) ihl
  | swap a b l =>
    simp only [keysList_cons, ← List.append_assoc]
    exact List.Perm.append_right _ List.perm_append_comm
  | trans _ _ ih₁ ih₂ => exact ih₁.trans ih₂

theorem scanInto_false_eq (d : Defaults) (cfg : Cfg) (fnm : Fnm) (rootDev : Nat) (e : List HNode) (tree : TNode)
    (links : List Path) (hq : hasFlag cfg.flags Consts.dirScanNoHardlinks = true ∨ NoMultiLink e) :
    scanInto false d cfg fnm rootDev e tree links
      = (walkListNH d cfg fnm [] rootDev e tree).map (fun t => (t, links)) := by
  have := walkList_quiet d cfg fnm e [] rootDev { seen := [], tree := tree, links := links }
    (hq.imp id fun hq => ⟨hq, fun _ _ => rfl⟩)
  simp only [scanInto, nativeOrder, Bool.false_eq_true, if_false]
  revert this
  cases walkList d cfg fnm [] rootDev e { seen := [], tree := tree, links := links } with
  | none => intro h; simp only [QuietResult] at h; rw [h]; rfl
  | some st' =>
    intro h
    simp only [QuietResult] at h
    rw [h.1]
    simp only [Option.map_some, h.2.1]

theorem scanInto_false_fperm (d : Defaults) (cfg : Cfg) (fnm : Fnm) (rootDev : Nat) {e₁ e₂ : List HNode}
    (h : FPerm e₁ e₂) (hwf : WFList e₁) (hq : hasFlag cfg.flags Consts.dirScanNoHardlinks = true ∨ NoMultiLink e₁)
    (tree : TNode) (links : List Path) :
    scanInto false d cfg fnm rootDev e₁ tree links = scanInto false d cfg fnm rootDev e₂ tree links := by
  rw [scanInto_false_eq d cfg fnm rootDev e₁ tree links hq,
    scanInto_false_eq d cfg fnm rootDev e₂ tree links (hq.imp id (fperm_keys h).nodup_iff.mp),
    walkListNH_atDir, walkListNH_atDir, atDir_congr (walkLocalList_fperm d cfg fnm h hwf [] rootDev)]

theorem fperm_of_perm {l₁ l₂ : List HNode} (h : l₁.Perm l₂) : FPerm l₁ l₂ := by
  induction h with
  | nil => exact FPerm.nil
  | cons x _ ih =>
    obtain ⟨n, s, t, c⟩ := x
    exact FPerm.cons (fperm_refl c) ih
  | swap x y l => exact FPerm.trans (FPerm.swap y x l) (fperm_refl _)
  | trans _ _ ih₁ ih₂ => exact FPerm.trans ih₁ ih₂

theorem fperm_sortByName {l l' : List HNode} (h : FPerm l l') : FPerm l (sortByName l') :=
  FPerm.trans h (fperm_of_perm (sortByName_perm_self l').symm)

mutual
theorem fperm_canonNode : ∀ x : HNode, FPerm x.children (sortByName (canonList x.children))
  | .mk _ _ _ c => fperm_sortByName (fperm_canonList c)
theorem fperm_canonList : ∀ l : List HNode, FPerm l (canonList l)
  | [] => FPerm.nil
  | .mk n s t c :: xs => by
    simp only [canonList, canonNode]
    exact FPerm.cons (fperm_canonNode (.mk n s t c)) (fperm_canonList xs)
end

theorem fperm_nativeOrder (l : List HNode) : FPerm l (nativeOrder true l) := by
  simp only [nativeOrder, if_true]
  exact fperm_sortByName (fperm_canonList l)

end Sqfs.C11Pinned
