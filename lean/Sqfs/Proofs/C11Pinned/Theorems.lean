/-
FROZEN HISTORICAL RECORD (C11) — theorems about the code as it was BEFORE /repo 7ff9210 (`sorted = false`: the native
iterator passes the readdir order through).  Not claimed for the property: that code is not in /repo, and the model the
theorems speak about (`Sqfs.C11Pinned`, a frozen copy) is not compared with any real code.  They are kept building and
are axiom-audited with the witness module (tools/checks/c11.py).
-/
import Sqfs.Proofs.C11Pinned.Scan

namespace Sqfs.C11Pinned

/-- **The code before /repo 7ff9210** (`sorted = false`).  Outside the case "some file has more than one name inside the
scanned forest and hard-link detection is on" tree, inode numbering and file list do not depend on the enumeration. -/
theorem scan_perm_invariant_partial {e₁ e₂ : List HNode} (h : FPerm e₁ e₂) (hwf : WFList e₁)
    (d : Defaults) (cfg : Cfg) (fnm : Fnm) (rootDev : Nat)
    (hno : hasFlag cfg.flags Consts.dirScanNoHardlinks = true ∨ NoMultiLink e₁) :
    packDir false d cfg fnm rootDev e₁ = packDir false d cfg fnm rootDev e₂ := by
  unfold packDir
  rw [scanInto_false_fperm d cfg fnm rootDev h hwf hno]

/-- … and the same for a `glob` line on top of any tree built so far. -/
theorem scan_perm_invariant_glob_partial {e₁ e₂ : List HNode} (h : FPerm e₁ e₂) (hwf : WFList e₁)
    (d : Defaults) (cfg : Cfg) (fnm : Fnm) (rootDev : Nat) (target : Path) (tree : TNode) (links : List Path)
    (hno : hasFlag cfg.flags Consts.dirScanNoHardlinks = true ∨ NoMultiLink e₁) :
    globInto false d cfg fnm rootDev e₁ target tree links = globInto false d cfg fnm rootDev e₂ target tree links := by
  simp only [globInto, scanInto_false_fperm d cfg fnm rootDev h hwf hno]

/-- The repair (sorting in the native iterator) did not change what the old code computed where that was well defined. -/
theorem repair_conservative (e : List HNode) (hwf : WFList e) (d : Defaults) (cfg : Cfg) (fnm : Fnm) (rootDev : Nat)
    (hno : hasFlag cfg.flags Consts.dirScanNoHardlinks = true ∨ NoMultiLink e) :
    packDir true d cfg fnm rootDev e = packDir false d cfg fnm rootDev e := by
  have h := scan_perm_invariant_partial (fperm_nativeOrder e) hwf d cfg fnm rootDev hno
  rw [h]
  rfl

private def st (mode ino : Nat) : Stat := { mode := mode, uid := 0, gid := 0, mtime := 0, dev := 1, ino := ino, rdev := 0 }
private def fa : HNode := .mk [0x61] (st 0o100644 10) [] []
private def fb : HNode := .mk [0x62] (st 0o100644 11) [] []
private def fc : HNode := .mk [0x63] (st 0o100644 10) [] []
private def fe : HNode := .mk [0x65] (st 0o100644 13) [] []
private def dd (c : List HNode) : HNode := .mk [0x64] (st 0o040755 12) [] c

example : NoMultiLink [fa, fb, dd [fe]] ∧ WFList [fa, fb, dd [fe]] := by
  refine ⟨?_, ?_⟩
  · simp [NoMultiLink, keysList, keysNode, fa, fb, fe, dd, st, isDirMode, isType, Consts.sIFMT, Consts.sIFDIR]
  · simp [WFList, WFNode, HNode.name, fa, fb, fe, dd]

example : ¬ NoMultiLink [fa, fb, fc] := by
  simp [NoMultiLink, keysList, keysNode, fa, fb, fc, st, isDirMode, isType, Consts.sIFMT, Consts.sIFDIR]

end Sqfs.C11Pinned
