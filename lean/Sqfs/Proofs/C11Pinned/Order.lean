/-
Helper lemmas for the record of C11 about the older code: sorted insertion commutes on different names, sorting is
invariant under permutations of lists with pairwise different names, the canonical (sorted) enumeration of a forest is
invariant under `FPerm`.
-/
import Sqfs.Proofs.C11Pinned.Spec
import Sqfs.Proofs.NameOrder

namespace Sqfs.C11Pinned

theorem nameLt_eq : nameLt = NameOrder.lt := by
  funext a b
  induction a generalizing b with
  | nil => cases b <;> rfl
  | cons x xs ih =>
    cases b with
    | nil => rfl
    | cons y ys => rw [nameLt, NameOrder.lt, ih]

theorem insertBy_eq {α : Type} (key : α → Name) : insertBy key = NameOrder.insertBy key := by
  funext x l
  induction l with
  | nil => rfl
  | cons y ys ih => rw [insertBy, NameOrder.insertBy, ih, nameLt_eq]

theorem insertBy_comm {α : Type} (key : α → Name) (a b : α) (h : key a ≠ key b) (l : List α) :
    insertBy key a (insertBy key b l) = insertBy key b (insertBy key a l) :=
  insertBy_eq key ▸ NameOrder.insertBy_comm key a b h l

theorem insertBy_perm {α : Type} (key : α → Name) (a : α) (l : List α) : (insertBy key a l).Perm (a :: l) :=
  insertBy_eq key ▸ NameOrder.insertBy_perm key a l

theorem insertBy_sorted {α : Type} (key : α → Name) (a : α) (l : List α)
    (hs : SortedNames (l.map key)) (hnew : ∀ y ∈ l, key y ≠ key a) : SortedNames ((insertBy key a l).map key) := by
  rw [SortedNames, nameLt_eq] at hs ⊢
  exact insertBy_eq key ▸ NameOrder.insertBy_sorted key a l hs hnew

theorem foldl_insertBy_perm {α : Type} (key : α → Name) {l₁ l₂ : List α} (hp : l₁.Perm l₂)
    (hnd : (l₁.map key).Nodup) (init : List α) :
    l₁.foldl (fun acc x => insertBy key x acc) init = l₂.foldl (fun acc x => insertBy key x acc) init :=
  insertBy_eq key ▸ NameOrder.foldl_insertBy_perm key hp hnd init

theorem foldr_insertBy_perm {α : Type} (key : α → Name) {l₁ l₂ : List α} (hp : l₁.Perm l₂)
    (hnd : (l₁.map key).Nodup) (init : List α) :
    l₁.foldr (insertBy key) init = l₂.foldr (insertBy key) init :=
  insertBy_eq key ▸ NameOrder.foldr_insertBy_perm key hp hnd init

theorem sortByName_perm {l₁ l₂ : List HNode} (hp : l₁.Perm l₂) (hnd : (l₁.map HNode.name).Nodup) :
    sortByName l₁ = sortByName l₂ := by
  unfold sortByName
  exact foldr_insertBy_perm HNode.name hp hnd []

theorem sortByName_perm_self (l : List HNode) : (sortByName l).Perm l := by
  induction l with
  | nil => exact List.Perm.refl _
  | cons x xs ih =>
    show (insertBy HNode.name x (sortByName xs)).Perm (x :: xs)
    exact (insertBy_perm _ _ _).trans (List.Perm.cons x ih)

theorem canonNode_name (x : HNode) : (canonNode x).name = x.name := by
  cases x; simp [canonNode, HNode.name]

theorem canonList_map_name (l : List HNode) : (canonList l).map HNode.name = l.map HNode.name := by
  induction l with
  | nil => simp [canonList]
  | cons x xs ih => simp [canonList, canonNode_name, ih]

theorem fperm_names {l₁ l₂ : List HNode} (h : FPerm l₁ l₂) : (l₁.map HNode.name).Perm (l₂.map HNode.name) := by
  induction h with
  | nil => exact List.Perm.refl _
  | cons _ _ _ ih => simp only [List.map_cons, HNode.name]; exact List.Perm.cons _ ih
  | swap a b l => simpa using List.Perm.swap _ _ _
  | trans _ _ ih₁ ih₂ => exact ih₁.trans ih₂

theorem wfList_cons (x : HNode) (xs : List HNode) :
    WFList (x :: xs) ↔ (∀ y ∈ xs, y.name ≠ x.name) ∧ WFNode x ∧ WFList xs := by
  simp [WFList]

theorem wfNode_mk (n : Name) (s : Stat) (t : List UInt8) (c : List HNode) : WFNode (.mk n s t c) ↔ WFList c := by
  simp [WFNode]

theorem fperm_wf {l₁ l₂ : List HNode} (h : FPerm l₁ l₂) : WFList l₁ → WFList l₂ := by
  induction h with
  | nil => exact id
  | @cons n s t c c' l l' hc hl ihc ihl =>
    rw [wfList_cons, wfList_cons, wfNode_mk, wfNode_mk]
    rintro ⟨h1, h2, h3⟩
    refine ⟨fun y hy => ?_, ihc h2, ihl h3⟩
    obtain ⟨y0, hy0, hname⟩ := List.mem_map.mp ((fperm_names hl).mem_iff.mpr (List.mem_map_of_mem hy))
    exact hname ▸ h1 y0 hy0
  | swap a b l =>
    rw [wfList_cons, wfList_cons, wfList_cons, wfList_cons]
    rintro ⟨h1, h2, h3, h4, h5⟩
    refine ⟨fun y hy => ?_, h4, fun y hy => h1 y (List.mem_cons_of_mem _ hy), h2, h5⟩
    rcases List.mem_cons.mp hy with rfl | hy'
    · exact Ne.symm (h1 b List.mem_cons_self)
    · exact h3 y hy'
  | trans _ _ ih₁ ih₂ => exact fun h => ih₂ (ih₁ h)

theorem wfList_nodup {l : List HNode} (h : WFList l) : (l.map HNode.name).Nodup := by
  induction l with
  | nil => simp
  | cons x xs ih =>
    rw [wfList_cons] at h
    rw [List.map_cons, List.nodup_cons]
    refine ⟨fun hmem => ?_, ih h.2.2⟩
    obtain ⟨y, hy, hname⟩ := List.mem_map.mp hmem
    exact h.1 y hy hname

theorem fperm_canon {l₁ l₂ : List HNode} (h : FPerm l₁ l₂) : WFList l₁ → (canonList l₁).Perm (canonList l₂) := by
  induction h with
  | nil => intro _; exact List.Perm.refl _
  | @cons n s t c c' l l' hc hl ihc ihl =>
    rw [wfList_cons, wfNode_mk]
    rintro ⟨_, h2, h3⟩
    have hs : sortByName (canonList c) = sortByName (canonList c') := by
      apply sortByName_perm (ihc h2)
      rw [canonList_map_name]
      exact wfList_nodup h2
    simp only [canonList, canonNode, hs]
    exact List.Perm.cons _ (ihl h3)
  | swap a b l =>
    intro _
    simp only [canonList]
    exact List.Perm.swap _ _ _
  | trans h₁ _ ih₁ ih₂ => exact fun h => (ih₁ h).trans (ih₂ (fperm_wf h₁ h))

/-- the repaired native iterator hands the same enumeration to the layers above, whatever order readdir used -/
theorem nativeOrder_sorted_fperm {l₁ l₂ : List HNode} (h : FPerm l₁ l₂) (hwf : WFList l₁) :
    nativeOrder true l₁ = nativeOrder true l₂ := by
  simp only [nativeOrder, if_true]
  apply sortByName_perm (fperm_canon h hwf)
  rw [canonList_map_name]
  exact wfList_nodup hwf

mutual
theorem fperm_refl_node : ∀ x : HNode, FPerm x.children x.children
  | .mk _ _ _ c => fperm_refl c
theorem fperm_refl : ∀ l : List HNode, FPerm l l
  | [] => FPerm.nil
  | .mk n s t c :: xs => FPerm.cons (fperm_refl_node (.mk n s t c)) (fperm_refl xs)
end

end Sqfs.C11Pinned
