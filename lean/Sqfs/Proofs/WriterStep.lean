/-
Helper lemmas for C14: the invariant `Good` ("bytes [0,96) are the provisional superblock, everything else
stays clear of them") and the relation `Step` ("reached by modelled code that only writes at offsets in
[96, size]"), one lemma per model function; the invariant `DataInv` of the data phase, where `deduplicate_blocks`
may truncate; the log of a whole run; the final superblock of a run with valid parameters is `SuperOk` (`WriterAccept`).
-/
import Sqfs.Proofs.Writer
import Sqfs.Proofs.WriterAccept
namespace Sqfs.Writer
open Sqfs.Consts

/-- invariant that holds from the provisional superblock write on -/
structure Good (P : Bytes) (s : WState) : Prop where
  file : s.file = image s.ops
  size : s.size = s.file.length
  ge : sizeofSuper ≤ s.size
  ops : ∃ rest, s.ops = .pwrite 0 P :: rest ∧ ∀ o ∈ rest, o.Safe
  /-- the output call at the fault position is never issued -/
  bound : ∀ j, s.fault.failAt = some j → s.ops.length ≤ j

/-- `s'` is reached from `s` by modelled code that only writes at offsets in `[96, size]` (the offsets enter in `fWrite_step`
alone) -/
structure Step (s s' : WState) : Prop where
  err : s'.err = none → s.err = none
  frozen : s.err ≠ none → s' = s
  size : s.size ≤ s'.size
  good : ∀ P, Good P s → Good P s'
  ops : ∃ ext, s'.ops = s.ops ++ ext
  cfg : s'.fault = s.fault

theorem Step.refl (s : WState) : Step s s :=
  ⟨id, fun _ => rfl, Nat.le_refl _, fun _ h => h, ⟨[], by simp⟩, rfl⟩

theorem Step.trans {a b c : WState} (h1 : Step a b) (h2 : Step b c) : Step a c := by
  refine ⟨fun h => h1.err (h2.err h), ?_, Nat.le_trans h1.size h2.size, fun P h => h2.good P (h1.good P h), ?_,
    h2.cfg.trans h1.cfg⟩
  · intro h
    have hb := h1.frozen h
    rw [hb] at h2
    exact h2.frozen h
  · obtain ⟨e1, h1'⟩ := h1.ops
    obtain ⟨e2, h2'⟩ := h2.ops
    exact ⟨e1 ++ e2, by rw [h2', h1', List.append_assoc]⟩

theorem fWrite_of_err (s : WState) (off : Nat) (d : Bytes) (h : s.err ≠ none) : fWrite s off d = s := by
  rw [fWrite, if_pos (Option.isSome_iff_ne_none.mpr h)]

theorem fTrunc_of_err (s : WState) (n : Nat) (h : s.err ≠ none) : fTrunc s n = s := by
  rw [fTrunc, if_pos (Option.isSome_iff_ne_none.mpr h)]

theorem fail_of_err (s : WState) (e : Nat) (h : s.err ≠ none) : s.fail e = s := by
  rw [WState.fail, if_pos (Option.isSome_iff_ne_none.mpr h)]

theorem fail_err (s : WState) (e : Nat) : (s.fail e).err ≠ none := by
  unfold WState.fail
  split
  · exact Option.isSome_iff_ne_none.mp ‹_›
  · exact Option.some_ne_none e

theorem setErr_step (s : WState) (e : Nat) (he : s.err = none) : Step s { s with err := some e } :=
  ⟨fun h => by simp at h, fun h => absurd he h, Nat.le_refl _,
   fun _ g => ⟨g.file, g.size, g.ge, g.ops, g.bound⟩, ⟨[], by simp⟩, rfl⟩

theorem faults_false_failAt (s : WState) (n j : Nat) (h : s.faults n = false) (hj : s.fault.failAt = some j) :
    j ≠ s.ops.length := by
  unfold WState.faults at h
  rw [hj] at h
  simp only [Bool.or_eq_false_iff, beq_eq_false_iff_ne, ne_eq, Option.some.injEq] at h
  exact h.1

theorem fWrite_cases (s : WState) (off : Nat) (d : Bytes) :
    (s.err ≠ none ∧ fWrite s off d = s) ∨
    (s.err = none ∧ d.length ≠ 0 ∧ s.faults (off + d.length) = true ∧ fWrite s off d = { s with err := some errIo }) ∨
    (s.err = none ∧ (d.length ≠ 0 → s.faults (off + d.length) = false) ∧ fWrite s off d = { s with
        ops := if d.length = 0 then s.ops else s.ops ++ [.pwrite off d]
        file := if d.length = 0 then s.file else filePwrite s.file off d
        size := if off + d.length ≥ s.size then off + d.length else s.size }) := by
  by_cases he : s.err = none
  · by_cases hf : d.length ≠ 0 ∧ s.faults (off + d.length) = true
    · exact Or.inr (Or.inl ⟨he, hf.1, hf.2, by simp [fWrite, he, hf.1, hf.2]⟩)
    · refine Or.inr (Or.inr ⟨he, fun hd => ?_, ?_⟩)
      · cases hx : s.faults (off + d.length) with
        | false => rfl
        | true => exact absurd ⟨hd, hx⟩ hf
      · unfold fWrite
        rw [if_neg (by simp [he]), if_neg hf]
  · exact Or.inl ⟨he, fWrite_of_err s off d he⟩

theorem fWrite_of_ok (s : WState) (off : Nat) (d : Bytes) (h : (fWrite s off d).err = none) :
    (fWrite s off d).size = (if off + d.length ≥ s.size then off + d.length else s.size) ∧ s.err = none ∧
    ((fWrite s off d).ops = if d.length = 0 then s.ops else s.ops ++ [.pwrite off d]) ∧
    (d.length ≠ 0 → s.faults (off + d.length) = false) := by
  rcases fWrite_cases s off d with ⟨he, hw⟩ | ⟨_, _, _, hw⟩ | ⟨he, hnf, hw⟩
  · rw [hw] at h; exact absurd h he
  · rw [hw] at h; cases h
  · rw [hw]; exact ⟨rfl, he, rfl, hnf⟩

theorem fWrite_ops_of_err (s : WState) (off : Nat) (d : Bytes) (h : (fWrite s off d).err ≠ none) :
    (fWrite s off d).ops = s.ops := by
  rcases fWrite_cases s off d with ⟨_, hw⟩ | ⟨_, _, _, hw⟩ | ⟨he, _, hw⟩
  · rw [hw]
  · rw [hw]
  · rw [hw] at h; exact absurd he h

theorem Good.snoc {P : Bytes} {s : WState} (g : Good P s) (o : Op) (ho : o.Safe) (n : Nat) (hf : s.faults n = false) :
    Good P { s with ops := s.ops ++ [o], file := o.apply s.file, size := (o.apply s.file).length } := by
  obtain ⟨rest, hr, hs⟩ := g.ops
  have hsz := (safe_apply o s.file ho (g.size ▸ g.ge)).2
  refine ⟨by simp only [image_snoc, ← g.file], rfl, hsz, ⟨rest ++ [o], by simp only [hr, List.cons_append], ?_⟩, ?_⟩
  · intro x hx
    rcases List.mem_append.mp hx with hx | hx
    · exact hs x hx
    · rw [List.mem_singleton.mp hx]; exact ho
  · intro j hj
    have := g.bound j hj
    -- any `n` will do: of `faults n = false` only `failAt ≠ some ops.length` is used
    have := faults_false_failAt s n j hf hj
    simp only [List.length_append, List.length_cons, List.length_nil]
    omega

theorem fWrite_step (s : WState) (off : Nat) (d : Bytes)
    (h : ∀ P, Good P s → s.err = none → sizeofSuper ≤ off ∧ off ≤ s.size) : Step s (fWrite s off d) := by
  rcases fWrite_cases s off d with ⟨_, hw⟩ | ⟨he, _, _, hw⟩ | ⟨he, hnf, hw⟩
  · rw [hw]; exact Step.refl s
  · rw [hw]; exact setErr_step s _ he
  rw [hw]
  by_cases hd : d.length = 0
  · simp only [hd, if_true]
    refine ⟨fun _ => he, fun h => absurd he h, by simp only; split <;> omega, fun P g => ?_, ⟨[], by simp⟩, rfl⟩
    have hs : (if off + 0 ≥ s.size then off + 0 else s.size) = s.size := by
      have := (h P g he).2; split <;> omega
    rw [hs]; exact g
  · simp only [hd, if_false]
    refine ⟨fun _ => he, fun h => absurd he h, by simp only; split <;> omega, fun P g => ?_, ⟨[_], rfl⟩, rfl⟩
    have hs : (if off + d.length ≥ s.size then off + d.length else s.size) = (filePwrite s.file off d).length := by
      rw [filePwrite_length, ← g.size]; split <;> omega
    rw [hs]; exact g.snoc (.pwrite off d) (h P g he).1 _ (hnf hd)

theorem fWrite_append_step (s : WState) (d : Bytes) : Step s (fWrite s s.size d) :=
  fWrite_step s s.size d (fun _ g _ => ⟨g.ge, Nat.le_refl _⟩)

theorem metaWriteBlock_step (s : WState) (b : Bytes) : Step s (metaWriteBlock s b) :=
  fWrite_append_step s _

theorem metaFlush_step (cmp : Cmp) (s : WState) (m : MetaW) : Step s (metaFlush cmp s m).1 := by
  fun_cases metaFlush cmp s m
  · exact Step.refl s
  · exact Step.refl s
  · exact metaWriteBlock_step s _

theorem metaAppendLoop_step (cmp : Cmp) (fuel : Nat) (s : WState) (m : MetaW) (d : Bytes) :
    Step s (metaAppendLoop cmp fuel s m d).1 := by
  induction fuel generalizing s m d with
  | zero => exact Step.refl s
  | succ n ih =>
    unfold metaAppendLoop
    split
    · exact Step.refl s
    · simp only
      split
      · exact (metaFlush_step cmp s m).trans (ih _ _ _)
      · exact ih _ _ _

theorem metaAppend_step (cmp : Cmp) (s : WState) (m : MetaW) (d : Bytes) : Step s (metaAppend cmp s m d).1 := by
  unfold metaAppend
  simp only
  split
  · exact (metaAppendLoop_step cmp _ s m d).trans (metaFlush_step cmp _ _)
  · exact metaAppendLoop_step cmp _ s m d

theorem metaAppendAll_step (cmp : Cmp) (s : WState) (m : MetaW) (l : List Bytes) :
    Step s (metaAppendAll cmp s m l).1 := by
  induction l generalizing s m with
  | nil => exact Step.refl s
  | cons d r ih =>
    unfold metaAppendAll
    exact (metaAppend_step cmp s m d).trans (ih _ _)

theorem metaWriteList_step (s : WState) (l : List Bytes) : Step s (metaWriteList s l) := by
  induction l generalizing s with
  | nil => exact Step.refl s
  | cons b r ih => unfold metaWriteList; exact (metaWriteBlock_step s b).trans (ih _)

theorem writeTableLoop_step (cmp : Cmp) (fuel : Nat) (s : WState) (m : MetaW) (locs : List Nat) (d : Bytes) :
    Step s (writeTableLoop cmp fuel s m locs d).1 := by
  induction fuel generalizing s m locs d with
  | zero => exact Step.refl s
  | succ n ih =>
    unfold writeTableLoop
    split
    · exact Step.refl s
    · exact (metaAppend_step cmp s m _).trans (ih _ _ _ _)

theorem writeTable_step (cmp : Cmp) (s : WState) (p : Bytes) : Step s (writeTable cmp s p).1 := by
  unfold writeTable
  exact ((writeTableLoop_step cmp _ s _ _ p).trans (metaFlush_step cmp _ _)).trans (fWrite_append_step _ _)

theorem leList_length (n : Nat) (l : List Nat) : (leList n l).length = n * l.length := by
  induction l with
  | nil => simp [leList]
  | cons v r ih => simp [leList, le_length, ih, Nat.mul_add]; omega

theorem tableBlocks_step (len : Nat) (h : len ≠ 0) :
    tableBlocks (len - min metaBlockSize len) + 1 = tableBlocks len := by
  rw [tableBlocks_eq, tableBlocks_eq]
  unfold metaBlockSize
  omega

theorem writeTableLoop_locs (cmp : Cmp) (fuel : Nat) (s : WState) (m : MetaW) (locs : List Nat) (d : Bytes)
    (hf : d.length ≤ fuel) :
    (writeTableLoop cmp fuel s m locs d).2.2.length = locs.length + tableBlocks d.length := by
  induction fuel generalizing s m locs d with
  | zero =>
    have : d.length = 0 := by omega
    simp [writeTableLoop, this, tableBlocks]
  | succ n ih =>
    unfold writeTableLoop
    split
    · rename_i h0; simp [h0, tableBlocks]
    · rename_i h0
      simp only
      rw [ih _ _ _ _ (by simp only [List.length_drop, metaBlockSize]; omega)]
      simp only [List.length_append, List.length_drop, List.length_cons, List.length_nil]
      have := tableBlocks_step d.length h0
      omega

theorem writeTable_size (cmp : Cmp) (s : WState) (p : Bytes) (hok : (writeTable cmp s p).1.err = none) :
    (writeTable cmp s p).1.size = (writeTable cmp s p).2 + 8 * tableBlocks p.length := by
  revert hok
  unfold writeTable
  extract_lets r sm s1
  intro hok
  have hl : r.2.2.length = _ := writeTableLoop_locs cmp p.length s {} [] p (Nat.le_refl _)
  rw [(fWrite_of_ok _ _ _ hok).1, leList_length, hl]
  simp

/-- the fields `SuperOk` tests that `sqfs_super_init` sets; every table writer is a `Step` of the file and leaves them alone -/
def Super.head (s : Super) : Nat × Nat × Nat × Nat × Nat × Nat :=
  (s.magic, s.vMajor, s.vMinor, s.blockSize, s.blockLog, s.compId)

theorem fragTableWrite_spec (cmp : Cmp) (s : WState) (sup : Super) (t : Bytes) (c : Bool) :
    Step s (fragTableWrite cmp s sup t c).1 ∧ (fragTableWrite cmp s sup t c).2.head = sup.head := by
  fun_cases fragTableWrite cmp s sup t c
  · exact ⟨Step.refl s, rfl⟩
  · exact ⟨writeTable_step cmp s t, rfl⟩

theorem exportTableWrite_spec (cmp : Cmp) (s : WState) (sup : Super) (t : Option Bytes) :
    Step s (exportTableWrite cmp s sup t).1 ∧ (exportTableWrite cmp s sup t).2.head = sup.head := by
  cases t with
  | none => exact ⟨Step.refl s, rfl⟩
  | some t => exact ⟨writeTable_step cmp s t, rfl⟩

/-- the id table ends with its location list, 8 bytes per metadata block -/
theorem idTableWrite_spec (cmp : Cmp) (s : WState) (sup : Super) (ids : List Nat) :
    Step s (idTableWrite cmp s sup ids).1 ∧ (idTableWrite cmp s sup ids).2.head = sup.head ∧
    (idTableWrite cmp s sup ids).2.idCount = ids.length % 2 ^ 16 ∧
    ((idTableWrite cmp s sup ids).1.err = none →
      (idTableWrite cmp s sup ids).2.idStart + 8 * tableBlocks (4 * ids.length) = (idTableWrite cmp s sup ids).1.size) :=
  ⟨writeTable_step cmp s _, rfl, rfl, fun hok => by rw [← leList_length]; exact (writeTable_size cmp s _ hok).symm⟩

theorem xattrIdLoop_step (cmp : Cmp) (s : WState) (m : MetaW) (locs : List Nat) (l : List Bytes) :
    Step s (xattrIdLoop cmp s m locs l).1 := by
  induction l generalizing s m locs with
  | nil => exact Step.refl s
  | cons e r ih => unfold xattrIdLoop; exact (metaAppend_step cmp s m e).trans (ih _ _ _)

theorem xattrKv_step (cmp : Cmp) (s : WState) (x : XattrIn) : Step s (xattrKv cmp s x).1 :=
  (metaAppendAll_step cmp s _ _).trans (metaFlush_step cmp _ _)

theorem xattrIds_step (cmp : Cmp) (s : WState) (m : MetaW) (x : XattrIn) : Step s (xattrIds cmp s m x).1 :=
  (xattrIdLoop_step cmp s _ _ _).trans (metaFlush_step cmp _ _)

theorem xattrLocTable_step (s : WState) (a b : Nat) (locs : List Nat) : Step s (xattrLocTable s a b locs) := by
  unfold xattrLocTable
  extract_lets start s1
  refine (fWrite_append_step s _).trans (fWrite_step _ _ _ ?_)
  intro P g he
  -- the 16-byte header has just been appended at `start`, so `start + 16` is the new size
  have h1 : s1.size = _ := (fWrite_of_ok _ _ _ he).1
  simp only [ge_iff_le, Nat.le_add_right, if_true, List.length_append, le_length] at h1
  have := g.ge
  rw [h1] at this ⊢
  simp only [sizeofXattrIdTable, sizeofSuper] at *
  omega

theorem xattrFlush_spec (cmp : Cmp) (s : WState) (sup : Super) (x : XattrIn) :
    Step s (xattrFlush cmp s sup x).1 ∧ (xattrFlush cmp s sup x).2.head = sup.head ∧
    (xattrFlush cmp s sup x).2.idCount = sup.idCount ∧ (xattrFlush cmp s sup x).2.idStart = sup.idStart := by
  fun_cases xattrFlush cmp s sup x
  · exact ⟨Step.refl s, rfl, rfl, rfl⟩
  · exact ⟨((xattrKv_step cmp s x).trans (xattrIds_step cmp _ _ x)).trans (xattrLocTable_step _ _ _ _), rfl, rfl, rfl⟩

theorem fail_step (s : WState) (e : Nat) : Step s (s.fail e) := by
  by_cases he : s.err = none
  · rw [WState.fail, if_neg (by simp [he])]; exact setErr_step s e he
  · rw [fail_of_err s e he]; exact Step.refl s

theorem writeOptions_step (s : WState) (o : Bytes) : Step s (writeOptions s o).1 := by
  fun_cases writeOptions s o
  · exact Step.refl s
  · exact fail_step s _
  · exact fWrite_step s _ _ (fun P g _ => ⟨Nat.le_refl _, g.ge⟩)

theorem serialize_step (r : Run) (s : WState) (sup : Super) : Step s (serialize r s sup).1 := by
  unfold serialize
  simp only
  exact ((((metaAppendAll_step r.cmp s _ _).trans (metaAppendAll_step r.cmp _ _ _)).trans
    (metaFlush_step r.cmp _ _)).trans (metaFlush_step r.cmp _ _)).trans (metaWriteList_step _ _)

/-- What the data phase keeps.  It is not a `Step`, since `deduplicate_blocks` may shorten the file: it truncates to the
end of a recorded block, and recorded blocks begin behind the superblock (`blocks`), so the truncation stays clear of it.
`cfg` does for this phase what `Step.cfg` does for the others: the fault script `φ` is that of the run (`preFinal_spec`). -/
structure DataInv (P : Bytes) (φ : Fault) (s : WState) (w : BlockW) : Prop where
  good : Good P s
  cfg : s.fault = φ
  blocks : ∀ b ∈ w.blocks, sizeofSuper ≤ b.offset

theorem DataInv.step {P : Bytes} {φ : Fault} {s s' : WState} {w : BlockW} (h : DataInv P φ s w) (hs : Step s s') :
    DataInv P φ s' w :=
  ⟨hs.good P h.good, hs.cfg.trans h.cfg, h.blocks⟩

theorem fTrunc_inv {P : Bytes} {φ : Fault} {s : WState} {w : BlockW} (h : DataInv P φ s w) (n : Nat) (hn : sizeofSuper ≤ n) :
    DataInv P φ (fTrunc s n) w := by
  cases he : s.err with
  | some e => rw [fTrunc_of_err s n (by simp [he])]; exact h
  | none =>
    by_cases hf : s.faults n = true
    · have hw : fTrunc s n = { s with err := some errIo } := by simp [fTrunc, he, hf]
      rw [hw]; exact h.step (setErr_step s _ he)
    have hw : fTrunc s n = { s with ops := s.ops ++ [.ftruncate n], file := fileTrunc s.file n, size := n } := by
      simp [fTrunc, he, hf]
    rw [hw]
    have := h.good.snoc (.ftruncate n) hn n (by simpa using hf)
    simp only [Op.apply, fileTrunc_length] at this
    exact ⟨this, h.cfg, h.blocks⟩

theorem dedup_inv {P : Bytes} {φ : Fault} {s : WState} {w : BlockW} (h : DataInv P φ s w) (fl : Nat) :
    DataInv P φ (dedup s w fl).1 (dedup s w fl).2.1 := by
  fun_cases dedup s w fl
  · exact h
  · exact h
  · exact h.step (fail_step s _)
  · exact h
  · exact h.step (fail_step s _)
  · rename_i b hb
    have hmem : b ∈ w.blocks := List.mem_of_mem_take (List.mem_of_getLast? hb)
    have h' := fTrunc_inv h (b.offset + sizeFromHash b.hash) (Nat.le_trans (h.blocks b hmem) (Nat.le_add_right _ _))
    exact ⟨h'.good, h'.cfg, fun x hx => h.blocks x (List.mem_of_mem_take hx)⟩

theorem writeDataBlock_inv {P : Bytes} {φ : Fault} {s : WState} {w : BlockW} (h : DataInv P φ s w) (c : BlkCall) :
    DataInv P φ (writeDataBlock s w c).1 (writeDataBlock s w c).2.1 := by
  unfold writeDataBlock
  extract_lets w' loc out sw
  have h0 : DataInv P φ s w' := ⟨h.good, h.cfg, by unfold w'; split <;> exact h.blocks⟩
  -- the payload goes to the end of the file, which lies behind the superblock, and its place is recorded
  have h1 : DataInv P φ sw.1 sw.2 := by
    unfold sw
    split
    · have h' := h0.step (fWrite_append_step s c.data)
      refine ⟨h'.good, h'.cfg, fun b hb => ?_⟩
      rcases List.mem_append.mp hb with hb | hb
      · exact h0.blocks b hb
      · rw [List.mem_singleton.mp hb]; exact h.good.ge
    · exact h0
  -- `deduplicate_blocks` after the last block of a file, unless the write failed
  split
  · split
    · exact h1
    · exact dedup_inv h1 c.flags
  · exact h1

theorem writeDataBlocks_inv {P : Bytes} {φ : Fault} {s : WState} {w : BlockW} (h : DataInv P φ s w) (l : List BlkCall) :
    DataInv P φ (writeDataBlocks s w l).1 (writeDataBlocks s w l).2 := by
  induction l generalizing s w with
  | nil => exact h
  | cons c r ih => exact ih (writeDataBlock_inv h c)

theorem writeDataBlock_frozen (s : WState) (w : BlockW) (c : BlkCall) (h : s.err ≠ none) : (writeDataBlock s w c).1 = s := by
  have hs : s.err.isSome = true := Option.isSome_iff_ne_none.mpr h
  simp only [writeDataBlock, apply_ite Prod.fst, fWrite_of_err s _ _ h, ite_self, hs, if_true]

theorem writeDataBlocks_frozen (s : WState) (w : BlockW) (l : List BlkCall) (h : s.err ≠ none) : (writeDataBlocks s w l).1 = s := by
  induction l generalizing w with
  | nil => rfl
  | cons c r ih =>
    unfold writeDataBlocks
    simp only
    have := writeDataBlock_frozen s w c h
    rw [this]; exact ih _

theorem tables_spec (r : Run) (s : WState) (sup : Super) :
    Step s (tables r s sup).1 ∧ (tables r s sup).2.head = sup.head ∧
    (tables r s sup).2.idCount = r.ids.length % 2 ^ 16 ∧
    ((tables r s sup).1.err = none →
      (tables r s sup).2.idStart + 8 * tableBlocks (4 * r.ids.length) ≤ (tables r s sup).1.size) := by
  unfold tables
  extract_lets x0 x1 x2 x3
  have h1 : Step s x1.1 ∧ x1.2.head = sup.head :=
    have hf := fragTableWrite_spec r.cmp x0.1 x0.2 r.fragTable r.fragAnyCompressed
    ⟨(serialize_step r s sup).trans hf.1, hf.2⟩
  have h2 : Step s x2.1 ∧ x2.2.head = sup.head := by
    unfold x2
    split
    · exact h1
    · have he := exportTableWrite_spec r.cmp x1.1 x1.2 ‹_›
      exact ⟨h1.1.trans he.1, he.2.trans h1.2⟩
  obtain ⟨s3, f3, c3, l3⟩ := idTableWrite_spec r.cmp x2.1 x2.2 r.ids
  split
  · exact ⟨h2.1.trans s3, f3.trans h2.2, c3, fun hok => Nat.le_of_eq (l3 hok)⟩
  · obtain ⟨sx, fx, cx, ix⟩ := xattrFlush_spec r.cmp x3.1 x3.2 ‹_›
    -- the xattr writer only appends, so the id table's location list stays below the end of the file
    exact ⟨(h2.1.trans s3).trans sx, fx.trans (f3.trans h2.2), cx.trans c3,
      fun hok => by rw [ix, l3 (sx.err hok)]; exact sx.size⟩

theorem tables_step (r : Run) (s : WState) (sup : Super) : Step s (tables r s sup).1 :=
  (tables_spec r s sup).1

theorem inputCheck_step (r : Run) (s : WState) : Step s (inputCheck r s) := by
  fun_cases inputCheck r s
  · exact Step.refl s
  · exact fail_step s _

theorem wInit_spec (r : Run) :
    (wInit r).1.fault = r.fault ∧
    (((wInit r).1.ops = [] ∧ (wInit r).1.err ≠ none) ∨
     (∃ sup, superInit r.blockSize r.mtime r.compId = .ok sup ∧ Good sup.encode (wInit r).1)) := by
  unfold wInit
  cases h : superInit r.blockSize r.mtime r.compId with
  | error e => exact ⟨rfl, Or.inl ⟨rfl, by simp⟩⟩
  | ok sup =>
    simp only
    have hl := encode_length sup
    have hne : ¬ sup.encode.length = 0 := by rw [hl]; simp [sizeofSuper]
    have hwo := writeOptions_step (fWrite { fault := r.fault } 0 sup.encode) r.opts
    rcases fWrite_cases { fault := r.fault } 0 sup.encode with ⟨h0, _⟩ | ⟨_, _, _, hw⟩ | ⟨_, hnf, hw⟩
    · exact absurd rfl h0
    · -- the provisional superblock write itself fails
      rw [hw] at hwo ⊢
      rw [hwo.frozen (by simp)]
      exact ⟨rfl, Or.inl ⟨rfl, by simp⟩⟩
    · rw [hw] at hwo ⊢
      refine ⟨hwo.cfg, Or.inr ⟨sup, rfl, hwo.good _ ?_⟩⟩
      simp only [hne, if_false]
      refine ⟨?_, ?_, ?_, ⟨[], by simp, by simp⟩, ?_⟩
      · simp [image, applyOps, Op.apply]
      · simp [filePwrite_length]
      · simp [hl]
      · intro j hj
        have := faults_false_failAt { fault := r.fault } _ j (hnf hne) hj
        simp only [List.length_nil, List.nil_append, List.length_cons] at this ⊢
        omega

theorem preFinal_spec (r : Run) :
    (preFinal r).1.fault = r.fault ∧
    (((preFinal r).1.ops = [] ∧ (preFinal r).1.err ≠ none) ∨
     (∃ sup, superInit r.blockSize r.mtime r.compId = .ok sup ∧ Good sup.encode (preFinal r).1)) := by
  unfold preFinal
  simp only
  obtain ⟨hf, hw⟩ := wInit_spec r
  rcases hw with ⟨h1, hne⟩ | ⟨sup, h1, g⟩
  · have hd := writeDataBlocks_frozen (wInit r).1 {} r.blocks hne
    rw [hd, (inputCheck_step r _).frozen hne, (tables_step r _ _).frozen hne]
    exact ⟨hf, Or.inl ⟨h1, hne⟩⟩
  · have hd := writeDataBlocks_inv (w := {}) ⟨g, hf, fun _ hb => nomatch hb⟩ r.blocks
    have ht := (hd.step (inputCheck_step r _)).step (tables_step r _ { (wInit r).2 with inodeCount := r.inodeCount % 2 ^ 32 })
    exact ⟨ht.cfg, Or.inr ⟨sup, h1, ht.good⟩⟩

theorem padd_spec (s : WState) (size blk : Nat) :
    padd s size blk = s ∨ ∃ n, padd s size blk = fWrite s s.size (zeros n) := by
  unfold padd
  split
  · exact Or.inl rfl
  · exact Or.inr ⟨_, rfl⟩

theorem padd_step (s : WState) (size blk : Nat) : Step s (padd s size blk) := by
  rcases padd_spec s size blk with h | ⟨n, h⟩
  · rw [h]; exact Step.refl s
  · rw [h]; exact fWrite_append_step s _

theorem run_of_commit_err (r : Run) (h : (commit r).err ≠ none) : run r = commit r :=
  (padd_step (commit r) _ _).frozen h

theorem failing_run_ops (r : Run) (hfail : (commit r).err ≠ none) : (run r).ops = (preFinal r).1.ops := by
  rw [run_of_commit_err r hfail]; exact fWrite_ops_of_err _ _ _ hfail

theorem run_ops_nil (r : Run) (h : (preFinal r).1.ops = []) (hne : (preFinal r).1.err ≠ none) : (run r).ops = [] := by
  rw [failing_run_ops r (by rw [commit, fWrite_of_err _ _ _ hne]; exact hne), h]

theorem run_ops (r : Run) (hc : (commit r).err = none) :
    (preFinal r).1.err = none ∧ ∃ pad, (run r).ops = (preFinal r).1.ops ++ .pwrite 0 (finalSuper r).encode :: pad ∧
      (pad = [] ∨ ∃ n, pad = [.pwrite (max (preFinal r).1.size sizeofSuper) (zeros n)]) := by
  have hne : ¬ (finalSuper r).encode.length = 0 := by rw [encode_length]; simp [sizeofSuper]
  obtain ⟨hsz, hpe, hops, _⟩ : (commit r).size = _ ∧ _ ∧ (commit r).ops = _ ∧ _ := fWrite_of_ok _ _ _ hc
  rw [if_neg hne] at hops
  refine ⟨hpe, ?_⟩
  unfold run
  rcases padd_spec (commit r) (finalSuper r).bytesUsed r.devblksize with h | ⟨n, h⟩
  · rw [h]; exact ⟨[], hops, Or.inl rfl⟩
  · rw [h]
    by_cases hp : (fWrite (commit r) (commit r).size (zeros n)).err = none
    · rw [(fWrite_of_ok _ _ _ hp).2.2.1, zeros_length, hops]
      by_cases hn : n = 0
      · rw [if_pos hn]; exact ⟨[], rfl, Or.inl rfl⟩
      · rw [if_neg hn, List.append_assoc]
        refine ⟨_, rfl, Or.inr ⟨n, ?_⟩⟩
        -- the final write is at offset 0, so `commit` leaves `size = max (old size) 96`
        rw [hsz, encode_length, Nat.zero_add]
        rfl
    · rw [fWrite_ops_of_err _ _ _ hp]; exact ⟨[], hops, Or.inl rfl⟩     -- the padding write fails: nothing more is issued

theorem run_prefix (r : Run) (sup : Super) (h1 : superInit r.blockSize r.mtime r.compId = .ok sup)
    (g : Good sup.encode (preFinal r).1) (k : Nat) (hk : k < kFinal r) :
    readerAccepts (image ((run r).ops.take k)) = false ∧
    (1 ≤ k → (image ((run r).ops.take k)).take sizeofSuper = sup.encode) := by
  obtain ⟨rest, hr, hs⟩ := g.ops
  obtain ⟨ext, hx⟩ : ∃ ext, (run r).ops = (preFinal r).1.ops ++ ext := by
    by_cases hc : (commit r).err = none
    · obtain ⟨_, pad, h, _⟩ := run_ops r hc
      exact ⟨_, h⟩
    · exact ⟨[], by rw [failing_run_ops r hc, List.append_nil]⟩
  have hid : (Super.decode sup.encode).idCount = 0 := by
    rw [decode_encode]; exact (superInit_idCount _ _ _ sup h1) ▸ Nat.zero_mod _
  rw [kFinal, hr, List.length_cons] at hk
  rw [hx, hr]
  exact prefix_rejected_of_safe sup.encode rest ext (encode_length sup) hid hs k (by omega)

theorem run_ok_ops (r : Run) (hok : (commit r).err = none) :
    ∃ sup rest pad, superInit r.blockSize r.mtime r.compId = .ok sup ∧ Good sup.encode (preFinal r).1 ∧
      (preFinal r).1.ops = .pwrite 0 sup.encode :: rest ∧ (∀ o ∈ rest, o.Safe) ∧
      (run r).ops = .pwrite 0 sup.encode :: (rest ++ .pwrite 0 (finalSuper r).encode :: pad) ∧
      (pad = [] ∨ ∃ n, pad = [.pwrite (image (.pwrite 0 sup.encode :: rest)).length (zeros n)]) ∧
      (image (.pwrite 0 sup.encode :: rest)).length = (preFinal r).1.size := by
  obtain ⟨h1, pad, h2, h3⟩ := run_ops r hok
  rcases (preFinal_spec r).2 with ⟨_, h⟩ | ⟨sup, hs, g⟩
  · exact absurd h1 h
  · obtain ⟨rest, hr, hsafe⟩ := g.ops
    have hB : (image (.pwrite 0 sup.encode :: rest)).length = (preFinal r).1.size := by rw [← hr, ← g.file, ← g.size]
    refine ⟨sup, rest, pad, hs, g, hr, hsafe, by rw [h2, hr]; simp, ?_, hB⟩
    rcases h3 with h3 | ⟨n, h3⟩
    · exact Or.inl h3
    · exact Or.inr ⟨n, by rw [h3, hB, Nat.max_eq_left g.ge]⟩

theorem run_suffix (r : Run) (hok : (commit r).err = none) (k : Nat) (hk : kFinal r ≤ k) :
    ∃ z pad' : Bytes,
      image ((run r).ops.take k) = (finalSuper r).encode ++ (preFinal r).1.file.drop sizeofSuper ++ z ∧
      image (run r).ops = image ((run r).ops.take k) ++ pad' ∧ (∀ b ∈ pad', b = 0) ∧
      sizeofSuper ≤ (preFinal r).1.size ∧ (preFinal r).1.file.length = (preFinal r).1.size := by
  obtain ⟨sup, rest, pad, _, g, hr, hsafe, hops, hpad, hB⟩ := run_ok_ops r hok
  rw [kFinal, hr, List.length_cons] at hk
  obtain ⟨z, pad', hz, h1, h2⟩ := suffix_complete_of_safe sup.encode (finalSuper r).encode rest pad (encode_length _)
    (encode_length _) hsafe (hpad.imp_right fun ⟨_, h⟩ => ⟨_, h, fun b hb => (List.mem_replicate.mp hb).2⟩) k hk
  rw [hops, g.file, hr]
  exact ⟨z, pad', hz, h1, h2, g.ge, hB⟩

/-- parameters the readers accept: a block size `2 ^ 12 … 2 ^ 20`, a known compressor id, 1 … 65535 ids -/
structure ValidCfg (r : Run) : Prop where
  block : ∃ log, 12 ≤ log ∧ log ≤ 20 ∧ r.blockSize = 2 ^ log
  comp : compMin ≤ r.compId ∧ r.compId ≤ compMax
  ids : 0 < r.ids.length ∧ r.ids.length < 2 ^ 16

theorem blockLogLoop_pow (n : Nat) : ∀ (fuel acc : Nat), n ≤ fuel → blockLogLoop fuel (2 ^ n) acc = acc + n := by
  induction n with
  | zero => intro fuel acc _; cases fuel <;> rfl
  | succ n ih =>
    intro fuel acc h
    obtain ⟨f, rfl⟩ : ∃ f, fuel = f + 1 := ⟨fuel - 1, (Nat.sub_add_cancel (Nat.le_trans (Nat.succ_pos n) h)).symm⟩
    have h1 : 2 ^ (n + 1) ≠ 1 := Nat.ne_of_gt (Nat.one_lt_two_pow (Nat.succ_ne_zero n))
    rw [blockLogLoop, if_neg h1, Nat.pow_succ, Nat.mul_div_cancel _ (by decide : 0 < 2),
      ih f (acc + 1) (Nat.le_of_succ_le_succ h), Nat.add_assoc, Nat.add_comm 1 n]

theorem blockLog_pow (log : Nat) (h : log ≤ 64) : blockLogLoop 64 (2 ^ log) 0 = log := by
  rw [blockLogLoop_pow log 64 0 h, Nat.zero_add]

theorem superInit_head (bs mt c : Nat) (sup : Super) (h : superInit bs mt c = .ok sup) :
    sup.head = (Consts.magic, versionMajor, versionMinor, bs, blockLogLoop 64 bs 0, c % 2 ^ 16) := by
  simp only [superInit, Except.ite_error_eq_ok, Except.ok.injEq] at h
  obtain ⟨_, _, _, rfl⟩ := h
  rfl

theorem wInit_head (r : Run) (sup : Super) (h : superInit r.blockSize r.mtime r.compId = .ok sup) :
    (wInit r).2.head = sup.head := by
  unfold wInit
  rw [h]
  simp only
  split <;> rfl

theorem finalSuper_ok (r : Run) (v : ValidCfg r) (hok : (commit r).err = none) (hsz : (preFinal r).1.size < 2 ^ 64) :
    SuperOk (finalSuper r) := by
  have hpe : (preFinal r).1.err = none := (fWrite_of_ok _ _ _ hok).2.1
  obtain ⟨sup, hsi, _⟩ := (preFinal_spec r).2.resolve_left fun h => h.2 hpe
  obtain ⟨log, hl1, hl2, hbs⟩ := v.block
  obtain ⟨_, hhd, hic, hlist⟩ := tables_spec r (inputCheck r (writeDataBlocks (wInit r).1 {} r.blocks).1)
    { (wInit r).2 with inodeCount := r.inodeCount % 2 ^ 32 }
  have hhead : (finalSuper r).head = _ :=
    hhd.trans ((wInit_head r sup hsi).trans (superInit_head _ _ _ sup hsi))
  simp only [Super.head, Prod.mk.injEq] at hhead
  obtain ⟨m1, m2, m3, m4, m5, m6⟩ := hhead
  have hidc : (finalSuper r).idCount = r.ids.length := hic.trans (Nat.mod_eq_of_lt v.ids.2)
  have hlist : (finalSuper r).idStart + 8 * tableBlocks ((finalSuper r).idCount * 4) ≤ (finalSuper r).bytesUsed := by
    rw [hidc, Nat.mul_comm r.ids.length]; exact hlist hpe
  exact ⟨m1, m2, m3, ⟨log, hl1, hl2, m4.trans hbs, by rw [m5, hbs, blockLog_pow log (Nat.le_trans hl2 (by decide))]⟩,
    by rw [m6, Nat.mod_eq_of_lt (Nat.lt_of_le_of_lt v.comp.2 (by decide))]; exact v.comp, hidc ▸ v.ids, hlist, hsz⟩

theorem inputError_fails (r : Run) (e : Nat) (h : r.inputError = some e) : (commit r).err ≠ none := by
  have h1 : ∀ s : WState, (inputCheck r s).err ≠ none := fun s => by rw [inputCheck, h]; exact fail_err s e
  have h2 : (preFinal r).1.err ≠ none := by
    unfold preFinal
    simp only
    rw [(tables_step r _ _).frozen (h1 _)]
    exact h1 _
  have : commit r = (preFinal r).1 := fWrite_of_err _ _ _ h2
  rw [this]; exact h2

end Sqfs.Writer
