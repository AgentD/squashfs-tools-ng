/-
The graph that the model of `fstree_add_generic` hands to `resolve_link` meets the hypotheses of
`resolve_links_exact`: it is well formed and `links` lists every hard link.
-/
import Sqfs.Proofs.HardLinkSpec
namespace Sqfs.HardLink.Tree

theorem childGo_lt (p : Nat) (nm : Bytes) (l : List TNode) (i r : Nat) (h : childGo p nm i l = some r) : r < i + l.length := by
  fun_induction childGo p nm i l
  case case1 => cases h
  case case2 => cases h; exact Nat.lt_add_of_pos_right (Nat.succ_pos _)
  case case3 ih => have := ih h; rw [List.length_cons]; omega

theorem walk_lt (t : T) (cs : List Bytes) (cur r : Nat) (hc : cur < t.length) (h : walk t cur cs = .found r) : r < t.length := by
  fun_induction walk t cur cs
  case case1 => cases h; exact hc
  case case4 n hn ih => exact ih (by have := childGo_lt _ _ t 0 n hn; omega) h
  all_goals cases h

theorem toGraph_hlink {t : T} {k : Nat} {tg : Lookup} (h : (toGraph t)[k]? = some (.hlink tg)) :
    ∃ n, t[k]? = some n ∧ n.kind = .hlink ∧ tg = lookup t n.target := by
  unfold toGraph at h
  rw [List.getElem?_map] at h
  cases hi : t[k]? with
  | none => rw [hi] at h; cases h
  | some n =>
    rw [hi] at h
    cases hk : n.kind <;> simp only [hk, Option.map_some, Option.some.injEq, Node.hlink.injEq, reduceCtorEq] at h
    exact ⟨n, rfl, hk, h.symm⟩

theorem toGraph_wf (t : T) (hne : t ≠ []) : WF (toGraph t) := by
  intro i j h
  obtain ⟨n, _, _, hj⟩ := toGraph_hlink h
  rw [toGraph, List.length_map]
  exact walk_lt t _ 0 j (List.length_pos_iff.2 hne) hj.symm

/-- `links_unresolved` in closed form: the indices of the hard-link nodes, last created first -/
theorem linksGo_eq (l : List TNode) (i : Nat) (acc : List Nat) :
    linksGo i l acc = (((l.zipIdx i).filter fun p => p.1.kind = .hlink).map (·.2)).reverse ++ acc := by
  fun_induction linksGo i l acc
  case case1 => rfl
  case case2 i n rest acc ih =>
    rw [ih, List.zipIdx_cons, List.filter_cons]
    by_cases h : n.kind = .hlink
    · simp only [h, if_true, decide_true, List.map_cons, List.reverse_cons, List.append_assoc, List.singleton_append]
    · simp only [h, if_false, decide_false, Bool.false_eq_true]

theorem mem_links {t : T} {k : Nat} : k ∈ links t ↔ ∃ n, t[k]? = some n ∧ n.kind = .hlink := by
  simp only [links, linksGo_eq, List.append_nil, List.mem_reverse, List.mem_map, List.mem_filter,
    List.mem_zipIdx_iff_getElem?, decide_eq_true_eq, Prod.exists, exists_eq_right]

theorem links_complete (t : T) (k : Nat) (tg : Lookup) (h : (toGraph t)[k]? = some (.hlink tg)) : k ∈ links t := by
  obtain ⟨n, hn, hk, _⟩ := toGraph_hlink h
  exact mem_links.2 ⟨n, hn, hk⟩

theorem links_lt (t : T) (n : Nat) (h : n ∈ links t) : n < (toGraph t).length := by
  obtain ⟨m, hm, _⟩ := mem_links.1 h
  rw [toGraph, List.length_map]
  exact (List.getElem?_eq_some_iff.1 hm).1

end Sqfs.HardLink.Tree
