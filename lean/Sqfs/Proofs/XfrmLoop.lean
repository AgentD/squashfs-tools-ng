/-
C15 — rules for the fuelled loops of `Sqfs/Model/Xfrm.lean` (`iter body fuel`): more fuel does not change a result, termination by a
lexicographic or a natural-number variant, the rule for the `process_data` loops of the backends.
-/
import Sqfs.Model.Xfrm
namespace Sqfs.Xfrm

theorem iter_mono {α β : Type} (body : α → LoopStep α β) :
    ∀ (f : Nat) (a : α) (r : β), iter body f a = some r → ∀ f', f ≤ f' → iter body f' a = some r := by
  intro f
  induction f with
  | zero => intro a r h; simp [iter] at h
  | succ n ih =>
    intro a r h f' hf
    obtain ⟨m, rfl⟩ : ∃ m, f' = m + 1 := ⟨f' - 1, by omega⟩
    simp only [iter] at h ⊢
    cases hb : body a with
    | done r' => simpa [hb] using h
    | next a' =>
      simp only [hb] at h ⊢
      exact ih _ _ h m (by omega)

/-- what one round of a loop promises: `Q` of the result it leaves with, `X` of the state it goes on with -/
def LoopStep.Post {α β : Type} (Q : β → Prop) (X : α → Prop) : LoopStep α β → Prop
  | .done r => Q r
  | .next a => X a

def LexLt (p q : Nat × Nat) : Prop := p.1 < q.1 ∨ (p.1 = q.1 ∧ p.2 < q.2)

/-- the variant of both wrappers' loops: the input that is left, then the codec's `pend` -/
theorem LexLt.of_consumed {n c p p' : Nat} (hc : c ≤ n) (h : 0 < c ∨ p' < p) : LexLt (n - c, p') (n, p) := by
  unfold LexLt
  simp only
  omega

theorem iter_total {α β : Type} (body : α → LoopStep α β) (I : α → Prop) (Q : β → Prop) (μ : α → Nat × Nat)
    (h : ∀ a, I a → (body a).Post Q fun a' => I a' ∧ LexLt (μ a') (μ a)) :
    ∀ a, I a → ∃ f r, iter body f a = some r ∧ Q r := by
  have key : ∀ n m a, (μ a).1 = n → (μ a).2 = m → I a → ∃ f r, iter body f a = some r ∧ Q r := by
    intro n
    induction n using Nat.strongRecOn with
    | _ n ihn =>
      intro m
      induction m using Nat.strongRecOn with
      | _ m ihm =>
        intro a h1 h2 hI
        have hpost := h a hI
        cases hb : body a with
        | done r => rw [hb] at hpost; exact ⟨1, r, by simp [iter, hb], hpost⟩
        | next a' =>
          rw [hb] at hpost
          obtain ⟨hI', hlt⟩ := hpost
          have : ∃ f r, iter body f a' = some r ∧ Q r := by
            rcases hlt with hlt | ⟨he, hlt⟩
            · exact ihn (μ a').1 (by omega) (μ a').2 a' rfl rfl hI'
            · exact ihm (μ a').2 (by omega) a' (by omega) rfl hI'
          obtain ⟨f, r, hf, hq⟩ := this
          exact ⟨f + 1, r, by simp [iter, hb, hf], hq⟩
  intro a hI
  exact key _ _ a rfl rfl hI

theorem iter_fuel {α β : Type} (body : α → LoopStep α β) (I : α → Prop) (Q : β → Prop) (μ : α → Nat)
    (h : ∀ a, I a → (body a).Post Q fun a' => I a' ∧ μ a' < μ a) :
    ∀ a, I a → ∃ r, iter body (μ a + 1) a = some r ∧ Q r := by
  have key : ∀ n a, μ a = n → I a → ∃ r, iter body (μ a + 1) a = some r ∧ Q r := by
    intro n
    induction n using Nat.strongRecOn with
    | _ n ih =>
      intro a hn hI
      have hpost := h a hI
      cases hb : body a with
      | done r => rw [hb] at hpost; exact ⟨r, by simp [iter, hb], hpost⟩
      | next a' =>
        rw [hb] at hpost
        obtain ⟨hI', hlt⟩ := hpost
        obtain ⟨r, hr, hq⟩ := ih (μ a') (by omega) a' rfl hI'
        refine ⟨r, ?_, hq⟩
        simp only [iter, hb]
        exact iter_mono body _ _ _ hr _ (by omega)
  intro a hI
  exact key _ a rfl hI

/-- The `process_data` loops of the backends, with loop state (stream object, input left, room left, `*in_read`, `*out_written`):
a further round consumes or produces something, so the loop leaves within `|inp| + room + 1` rounds.  The two counters
determine what is left of input and room, so the invariant `J` speaks of the object and the counters only. -/
theorem iter_buf {τ β : Type} (body : τ × Bytes × Nat × Nat × Bytes → LoopStep (τ × Bytes × Nat × Nat × Bytes) β)
    (inp : Bytes) (room : Nat) (J : τ → Nat → Bytes → Prop) (Q : β → Prop)
    (h : ∀ st inp' room' ai ao, inp' = inp.drop ai → ai + inp'.length = inp.length → ao.length + room' = room → J st ai ao →
      (body (st, inp', room', ai, ao)).Post Q fun a' =>
        ∃ st' c o, a' = (st', inp'.drop c, room' - o.length, ai + c, ao ++ o) ∧ c ≤ inp'.length ∧ o.length ≤ room' ∧
          0 < c + o.length ∧ J st' (ai + c) (ao ++ o))
    {s : τ} (h0 : J s 0 []) : ∃ r, iter body (inp.length + room + 2) (s, inp, room, 0, []) = some r ∧ Q r := by
  have main := iter_fuel body
    (fun a => a.2.1 = inp.drop a.2.2.2.1 ∧ a.2.2.2.1 + a.2.1.length = inp.length ∧ a.2.2.2.2.length + a.2.2.1 = room ∧
      J a.1 a.2.2.2.1 a.2.2.2.2)
    Q (fun a => a.2.1.length + a.2.2.1) ?_ (s, inp, room, 0, []) ⟨rfl, by simp, by simp, h0⟩
  · obtain ⟨r, hr, hq⟩ := main
    exact ⟨r, iter_mono _ _ _ _ hr _ (by simp), hq⟩
  · rintro ⟨st, inp', room', ai, ao⟩ ⟨hinp, hai, hao, hJ⟩
    have hpost := h st inp' room' ai ao hinp hai hao hJ
    cases hb : body (st, inp', room', ai, ao) with
    | done r => rw [hb] at hpost; exact hpost
    | next a' =>
    rw [hb] at hpost
    obtain ⟨st', c, o, rfl, hc, ho, hpos, hJ'⟩ := hpost
    simp only [LoopStep.Post] at hinp hai hao ⊢
    refine ⟨⟨by rw [hinp, List.drop_drop], by rw [List.length_drop]; omega, by rw [List.length_append]; omega, hJ'⟩, ?_⟩
    rw [List.length_drop]; omega

end Sqfs.Xfrm
