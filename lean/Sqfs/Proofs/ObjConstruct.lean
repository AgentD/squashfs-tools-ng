import Sqfs.Proofs.ObjBal
/-! The constructors of `Sqfs.Model.Obj` build balanced heaps. -/
namespace Sqfs.Obj

theorem Balanced.empty : Balanced Heap.empty (fun _ => 0) := by
  refine ⟨rfl, ?_, ?_, ?_, ?_, ?_, ?_⟩
  · intro x ox hx; simp [Heap.empty] at hx
  · intro x hx; simp [Heap.empty] at hx
  · intro x _; exact ⟨rfl, rfl, rfl⟩
  · intro b hb; simp [Heap.empty] at hb
  · intro b _; exact ⟨rfl, rfl⟩
  · intro b hb; simp [Heap.empty] at hb

theorem Bal.newObj {h : Heap} {U : Nat → Nat} {P PB : List Nat} (k : Kind) (bufs views refs : List (Option Nat))
    (hb : Bal h U (refs.filterMap id ++ P) (bufs.filterMap id ++ PB) []) (hv : ∀ v, some v ∈ views → some v ∈ bufs) :
    Bal (newObj h k bufs views refs).1 U ((newObj h k bufs views refs).2 :: P) PB [] :=
  Bal.allocObj (c := ⟨k, 1, true, true, bufs, views, refs⟩) hb rfl rfl rfl hv

theorem Bal.newBuf {h : Heap} {U : Nat → Nat} {P PB : List Nat} (hb : Bal h U P PB []) (bf : Buf) :
    Bal (newBuf h bf).1 U P ((newBuf h bf).2 :: PB) [] :=
  hb.allocBuf bf

theorem newObj_live {h : Heap} (k : Kind) (bufs views refs : List (Option Nat)) {x : Nat} (hx : (h.objs x).isSome) :
    ((newObj h k bufs views refs).1.objs x).isSome :=
  upd_isSome hx

theorem Bal.grabLive {h : Heap} {U : Nat → Nat} {P PB : List Nat} (hb : Bal h U P PB []) {y : Nat} (hy : (h.objs y).isSome) :
    Bal (grab h y) U (y :: P) PB [] ∧ ∀ x, (h.objs x).isSome → ((grab h y).objs x).isSome := by
  obtain ⟨oy, hoy⟩ := Option.isSome_iff_exists.mp hy
  refine ⟨hb.grabbed hoy (by simp), fun x hx => ?_⟩
  rw [grab_eq hb.ok hoy]
  exact upd_isSome hx

theorem newBuf_objs (h : Heap) (bf : Buf) : (newBuf h bf).1.objs = h.objs := rfl
theorem newBuf_nobj (h : Heap) (bf : Buf) : (newBuf h bf).1.nobj = h.nobj := rfl

theorem newMetaReader_eq (h : Heap) (file cmp : Nat) : newMetaReader h file cmp =
    newObj (newBuf (grab (grab h file) cmp) fieldsBuf).1 .metaReader [some (newBuf (grab (grab h file) cmp) fieldsBuf).2] []
      [some file, some cmp] := rfl

/-- `sqfs_meta_reader_create` -/
theorem Bal.newMetaReader {h : Heap} {U : Nat → Nat} {P PB : List Nat} (hb : Bal h U P PB []) {file cmp : Nat}
    (hf : (h.objs file).isSome) (hc : (h.objs cmp).isSome) :
    Bal (newMetaReader h file cmp).1 U ((newMetaReader h file cmp).2 :: P) PB [] ∧
    (∀ x, (h.objs x).isSome → ((newMetaReader h file cmp).1.objs x).isSome) := by
  obtain ⟨b1, l1⟩ := hb.grabLive hf
  obtain ⟨b2, l2⟩ := b1.grabLive (l1 _ hc)
  rw [newMetaReader_eq]
  exact ⟨Bal.newObj _ _ _ _ (b2.newBuf fieldsBuf).swap (by simp), fun x hx => newObj_live _ _ _ _ (l2 x (l1 x hx))⟩

/-- **every constructor keeps the heap balanced**; the caller holds the one reference to the new object -/
theorem construct_bal (k : Kind) {h : Heap} {U : Nat → Nat} {P PB : List Nat} (hb : Bal h U P PB []) {file cmp : Nat}
    (hf : (h.objs file).isSome) (hc : (h.objs cmp).isSome) :
    Bal (construct h k file cmp).1 U ((construct h k file cmp).2 :: P) PB [] := by
  have tbl : ∀ k', Bal (newObj h k' [none] [] []).1 U ((newObj h k' [none] [] []).2 :: P) PB [] := fun k' =>
    Bal.newObj k' [none] [] [] (by simpa using hb) (by simp)
  -- arm by arm as in `construct`: what the constructor has acquired is pending, in the order of the new object's slots
  cases k with
  | xz | lzma | lz4 => exact Bal.newObj _ _ _ _ (hb.newBuf _) (by simp)
  | gzip | zstd | file => exact Bal.newObj _ _ _ _ ((hb.newBuf _).newBuf _).swapB (by simp)
  | fragTable | idTable => exact tbl _
  | metaReader => exact (hb.newMetaReader hf hc).1
  | xattrReader =>
    have b1 := hb.newBuf fieldsBuf
    exact Bal.newObj _ _ _ _ b1 (by simp)
  | dirReader =>
    obtain ⟨b1, l1⟩ := hb.newMetaReader hf hc
    obtain ⟨b2, l2⟩ := b1.newMetaReader (l1 _ hf) (l1 _ hc)
    exact Bal.newObj _ _ _ _ (b2.newBuf fieldsBuf).swap (by simp)
  | dataReader =>
    obtain ⟨b1, l1⟩ := (tbl .fragTable).grabLive (newObj_live .fragTable [none] [] [] hf)
    obtain ⟨b2, _⟩ := b1.grabLive (l1 _ (newObj_live .fragTable [none] [] [] hc))
    refine Bal.newObj _ _ _ _ ?_ (by simp)
    exact (b2.newBuf fieldsBuf).perm (fun x => (((List.reverse_perm [(newObj h .fragTable [none] [] []).2, file, cmp]).append_right P).count_eq x).symm)
      (fun _ => rfl)
  | xattrWriter =>
    have b1 := hb.newBuf ⟨8, 0, 0⟩
    have b2 := b1.newBuf ⟨1, 1, 0⟩
    refine Bal.newObj _ _ _ _ ?_ ?_
    · exact b2.swapB
    · intro v hv
      simp only [List.mem_cons, reduceCtorEq, Option.some.injEq, List.not_mem_nil, or_false, false_or] at hv
      subst hv; simp

end Sqfs.Obj
