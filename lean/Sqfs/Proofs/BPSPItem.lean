/-
C02, `packRef = specPack`: the items of one file.  A data block the front end submits, worked by the pool, is what
`Pack.workData` says (`item_rel`); the tail end submitted as a fragment is a hole or carries `Pack.cksumOf` (`frag_item`).
`ItemFlags`, `BlockFacts`: the flag words of a file's blocks.
-/
import Sqfs.Proofs.BPSPFront
import Sqfs.Proofs.BPSPWriter
namespace Sqfs.BlockProc
open Sqfs.Consts
open Sqfs.BlockWriter (hasFlag)

/-- flag word `g` of a block of a file with user flags `fl` -/
structure ItemFlags (g fl : Nat) : Prop where
  nsp : hasFlag g blkIsSparse = false
  ncomp : hasFlag g blkIsCompressed = false
  nfb : hasFlag g blkFragmentBlock = false
  ofNat : Sqfs.Pack.Flags.ofNat g = Sqfs.Pack.Flags.ofNat fl

theorem ofNat_user (n : Nat) : Sqfs.Pack.Flags.ofNat (n &&& blkUserSettable) = Sqfs.Pack.Flags.ofNat n := by
  simp only [Sqfs.Pack.Flags.ofNat, Sqfs.Pack.testBit, Nat.and_assoc]; rfl

theorem itemFlags_or {fl : Nat} (hfl : fl &&& blkUserSettable = fl) (x : Nat) (hu : x &&& blkUserSettable = 0)
    (h1 : hasFlag x blkIsSparse = false) (h2 : hasFlag x blkIsCompressed = false) (h3 : hasFlag x blkFragmentBlock = false) :
    ItemFlags (fl ||| x) fl :=
  ⟨(hasFlag_lib hfl x rfl).trans h1, (hasFlag_lib hfl x rfl).trans h2, (hasFlag_lib hfl x rfl).trans h3, by
    rw [← ofNat_user, Nat.and_or_distrib_right, hu, Nat.or_zero, hfl]⟩

theorem itemFlags_last : ∀ fl, fl < 32 → ItemFlags (fl ||| blkLastBlock) fl :=
  fun _ h => itemFlags_or (userFlags_of_lt h) _ rfl rfl rfl rfl
theorem itemFlags_first_last : ∀ fl, fl < 32 → ItemFlags (fl ||| blkFirstBlock ||| blkLastBlock) fl :=
  fun fl h => Nat.or_assoc fl _ _ ▸ itemFlags_or (userFlags_of_lt h) (blkFirstBlock ||| blkLastBlock) rfl rfl rfl rfl
theorem itemFlags_frag : ∀ fl, fl < 32 → ItemFlags (fl ||| blkIsFragment) fl :=
  fun _ h => itemFlags_or (userFlags_of_lt h) _ rfl rfl rfl rfl
theorem itemFlags_first_frag : ∀ fl, fl < 32 → ItemFlags (fl ||| blkFirstBlock ||| blkIsFragment) fl :=
  fun fl h => Nat.or_assoc fl _ _ ▸ itemFlags_or (userFlags_of_lt h) (blkFirstBlock ||| blkIsFragment) rfl rfl rfl rfl

theorem ItemFlags.dd {g fl : Nat} (h : ItemFlags g fl) : hasFlag g blkDontDeduplicate = hasFlag fl blkDontDeduplicate :=
  congrArg Sqfs.Pack.Flags.dontDedup h.ofNat

theorem ItemFlags.dc {g fl : Nat} (h : ItemFlags g fl) : hasFlag g blkDontCompress = hasFlag fl blkDontCompress :=
  congrArg Sqfs.Pack.Flags.dontCompress h.ofNat

/-- `process_block` skips the hole test under `IGNORE_SPARSE` and on a fragment block; a block of a file is not one -/
theorem ItemFlags.ignoreSparse {g fl : Nat} (h : ItemFlags g fl) :
    hasFlag g (blkIgnoreSparse ||| blkFragmentBlock) = (Sqfs.Pack.Flags.ofNat fl).ignoreSparse := by
  rw [hasFlag_or_right, h.nfb, Bool.or_false, ← h.ofNat]; rfl

theorem item_rel (P : Params) (hP : CodecFits P) (fl : Nat) (item : Blk) (hg : ItemFlags item.flags fl)
    (hnf : hasFlag item.flags blkIsFragment = false)
    (hne : item.data ≠ []) (hsz : item.data.length ≤ P.B) :
    BlkRel (processBlock P item) (some (Sqfs.Pack.workData (toPackParams P) (Sqfs.Pack.Flags.ofNat fl) item.data)) := by
  have hign := hg.ignoreSparse
  unfold Sqfs.Pack.workData
  by_cases hsp : (!(Sqfs.Pack.Flags.ofNat fl).ignoreSparse && Sqfs.Pack.allZero item.data) = true
  · rw [if_pos hsp, processBlock_hole P item hne (by rw [hign, allZero_eq]; exact hsp)]
    exact ⟨hne, (hasFlag_or _ _ _).trans (Bool.or_true _), rfl⟩
  · rw [if_neg hsp]
    refine blkRel_stored P hP item hne hsz (by rw [hign, allZero_eq]; exact Bool.not_eq_true _ ▸ hsp) hnf hg.nsp hg.ncomp _ ?_
    rw [← hg.ofNat]; rfl

/-- the tail end submitted as a fragment: a hole, or hashed and left alone -/
theorem frag_item (P : Params) (fl : Nat) (item : Blk) (hg : ItemFlags item.flags fl)
    (hf : hasFlag item.flags blkIsFragment = true) (hne : item.data ≠ []) :
    processBlock P item =
      if !(Sqfs.Pack.Flags.ofNat fl).ignoreSparse && Sqfs.Pack.allZero item.data then { item with flags := item.flags ||| blkIsSparse }
      else { item with chk := Sqfs.Pack.cksumOf (toPackParams P) (Sqfs.Pack.Flags.ofNat fl) item.data } := by
  have h0 : ¬ item.data.length = 0 := fun h => hne (List.eq_nil_of_length_eq_zero h)
  have hfc : hasFlag item.flags (blkIsFragment ||| blkDontCompress) = true := by
    rw [hasFlag_or_right, hf, Bool.true_or]
  have hdh : hasFlag item.flags blkDontHash = (Sqfs.Pack.Flags.ofNat fl).dontHash := by rw [← hg.ofNat]; rfl
  unfold processBlock
  rw [if_neg h0, hg.ignoreSparse, allZero_eq]
  by_cases hsp : (!(Sqfs.Pack.Flags.ofNat fl).ignoreSparse && Sqfs.Pack.allZero item.data) = true
  · rw [if_pos hsp, if_pos hsp]
  · rw [if_neg hsp, if_neg hsp]
    simp only [hfc, if_true, hdh, Sqfs.Pack.cksumOf, toPackParams]

/-- flag word `g` of a block of a file that goes to the writer as a data block or as the sentinel -/
structure BlockFacts (fl : Nat) (first last : Bool) (g : Nat) : Prop where
  flags : ItemFlags g fl
  nfrag : hasFlag g blkIsFragment = false
  first : hasFlag g blkFirstBlock = first
  last : hasFlag g blkLastBlock = last

theorem blockFacts_or {fl : Nat} (hfl : fl &&& blkUserSettable = fl) (x : Nat) (hu : x &&& blkUserSettable = 0)
    (h1 : hasFlag x blkIsSparse = false) (h2 : hasFlag x blkIsCompressed = false) (h3 : hasFlag x blkFragmentBlock = false)
    (h4 : hasFlag x blkIsFragment = false) : BlockFacts fl (hasFlag x blkFirstBlock) (hasFlag x blkLastBlock) (fl ||| x) :=
  ⟨itemFlags_or hfl x hu h1 h2 h3, (hasFlag_lib hfl x rfl).trans h4, hasFlag_lib hfl x rfl, hasFlag_lib hfl x rfl⟩

theorem dataItem_facts (fl id j : Nat) (d : Bytes) (hfl : fl &&& blkUserSettable = fl) :
    BlockFacts fl (decide (j = 0)) false (dataItem fl id j d).flags := by
  unfold dataItem
  by_cases hj : j = 0
  · rw [if_pos hj, decide_eq_true hj]
    exact blockFacts_or hfl blkFirstBlock rfl rfl rfl rfl rfl
  · rw [if_neg hj, decide_eq_false hj]
    have h := blockFacts_or hfl 0 rfl rfl rfl rfl rfl
    rwa [Nat.or_zero] at h

theorem sentinel_facts (fl id : Nat) (hfl : fl &&& blkUserSettable = fl) : BlockFacts fl false true (sentinel fl id).flags :=
  blockFacts_or hfl blkLastBlock rfl rfl rfl rfl rfl

theorem lastItem_facts (fl id k : Nat) (t : Bytes) (hfl : fl &&& blkUserSettable = fl) :
    BlockFacts fl (decide (k = 0)) true (lastItem fl id k t).flags := by
  unfold lastItem dataItem
  by_cases hk : k = 0
  · rw [if_pos hk, decide_eq_true hk, Nat.or_assoc]
    exact blockFacts_or hfl (blkFirstBlock ||| blkLastBlock) rfl rfl rfl rfl rfl
  · rw [if_neg hk, decide_eq_false hk]
    exact blockFacts_or hfl blkLastBlock rfl rfl rfl rfl rfl

theorem fragItem_facts (fl id k : Nat) (t : Bytes) (hfl : fl &&& blkUserSettable = fl) :
    ItemFlags (fragItem fl id k t).flags fl ∧ hasFlag (fragItem fl id k t).flags blkIsFragment = true := by
  unfold fragItem dataItem
  by_cases hk : k = 0
  · rw [if_pos hk, Nat.or_assoc]
    exact ⟨itemFlags_or hfl _ rfl rfl rfl rfl, hasFlag_lib hfl _ rfl⟩
  · rw [if_neg hk]
    exact ⟨itemFlags_or hfl _ rfl rfl rfl rfl, hasFlag_lib hfl _ rfl⟩

theorem processBlock_sentinel (P : Params) (fl id : Nat) : processBlock P (sentinel fl id) = sentinel fl id := by
  unfold processBlock sentinel; simp

theorem sentinel_rel (P : Params) (fl id : Nat) (hfl : fl &&& blkUserSettable = fl) :
    BlkRel (processBlock P (sentinel fl id)) none := by
  rw [processBlock_sentinel]; exact ⟨rfl, (sentinel_facts fl id hfl).flags.nsp⟩

theorem fRun_cons (P : Params) (F : FSt) (x : Blk) (xs : List Blk) : fRun P F (x :: xs) = fRun P (fStep P F x) xs := rfl

theorem fRun_nil (P : Params) (F : FSt) : fRun P F [] = F := rfl

theorem fRun_append (P : Params) (F : FSt) (a b : List Blk) : fRun P F (a ++ b) = fRun P (fRun P F a) b := by
  simp [fRun, List.foldl_append]

theorem state_hist_self (σ : Sqfs.Pack.State) (H : List Sqfs.Pack.Stored) (h : σ.hist = H) : { σ with hist := H } = σ := by
  cases σ; simp_all

end Sqfs.BlockProc
