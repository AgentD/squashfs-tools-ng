/-
`add_export_table_entry` (dir_writer.c) on a list that grows on demand, for any cell type: the table is modelled twice
(`Sqfs.DirWriter.addExport` on `Nat`, `Sqfs.Pack.addExport` on `UInt64`); both are `add` for their filler, and what the
table holds after any sequence of calls (`Ok`) is proved here once.
-/
namespace Sqfs.ExportTable
variable {α : Type} (u : α)

/-- grow to `n` slots filled with `u` (no slot is added when there are enough), then store `r` in slot `n - 1` -/
def add (t : List α) (n : Nat) (r : α) : List α := (t ++ List.replicate (n - t.length) u).set (n - 1) r

/-- the model's text, with its test, is `add` -/
theorem set_ite_eq_add (t : List α) (n : Nat) (r : α) :
    (if n - 1 ≥ t.length then t ++ List.replicate (n - t.length) u else t).set (n - 1) r = add u t n r := by
  unfold add
  split
  · rfl
  · rename_i hg
    have h0 : n - t.length = 0 := Nat.sub_eq_zero_of_le (Nat.le_of_pred_lt (Nat.lt_of_not_le hg))
    rw [h0, List.replicate_zero, List.append_nil]

theorem add_length (t : List α) (n : Nat) (r : α) : (add u t n r).length = max t.length n := by
  rw [add, List.length_set, List.length_append, List.length_replicate]
  omega

def maxNum (adds : List (Nat × α)) : Nat := adds.foldl (fun m a => max m a.1) 0

/-- what a table holds after the adds `L` when inode `m` always comes with reference `ref m` -/
def Ok (ref : Nat → α) (L : List (Nat × α)) (t : List α) : Prop :=
  t.length = maxNum L ∧ ∀ i, i < t.length → t[i]? = some (if i + 1 ∈ L.map (·.1) then ref (i + 1) else u)

theorem maxNum_snoc (L : List (Nat × α)) (a : Nat × α) : maxNum (L ++ [a]) = max (maxNum L) a.1 := by
  simp [maxNum, List.foldl_append]

theorem foldl_max_spec (L : List (Nat × α)) : ∀ m0, m0 ≤ L.foldl (fun m a => max m a.1) m0 ∧
    (∀ x ∈ L.map (·.1), x ≤ L.foldl (fun m a => max m a.1) m0) ∧
    ∀ N, m0 ≤ N → (∀ x ∈ L.map (·.1), x ≤ N) → L.foldl (fun m a => max m a.1) m0 ≤ N := by
  induction L with
  | nil => intro m0; exact ⟨Nat.le_refl _, by simp, fun _ h _ => h⟩
  | cons b bs ih =>
    intro m0
    obtain ⟨h1, h2, h3⟩ := ih (max m0 b.1)
    refine ⟨Nat.le_trans (Nat.le_max_left ..) h1, fun x hx => ?_, fun N h0 hN => ?_⟩
    · rcases List.mem_cons.mp hx with rfl | hx
      · exact Nat.le_trans (Nat.le_max_right ..) h1
      · exact h2 x hx
    · exact h3 N (Nat.max_le.2 ⟨h0, hN _ List.mem_cons_self⟩) (fun x hx => hN x (List.mem_cons_of_mem _ hx))

theorem Ok.nil (ref : Nat → α) : Ok u ref [] [] := ⟨rfl, fun i hi => absurd hi (Nat.not_lt_zero i)⟩

theorem Ok.step {ref : Nat → α} {L : List (Nat × α)} {t : List α} (h : Ok u ref L t) (a : Nat × α)
    (ha : 1 ≤ a.1) (hr : a.2 = ref a.1) : Ok u ref (L ++ [a]) (add u t a.1 a.2) := by
  obtain ⟨h1, h2⟩ := h
  refine ⟨by rw [add_length, maxNum_snoc, h1], ?_⟩
  intro i hi
  rw [add_length] at hi
  simp only [List.map_append, List.map_cons, List.map_nil, List.mem_append, List.mem_singleton]
  rw [add]
  by_cases hia : i + 1 = a.1
  · -- the slot stored into
    have hi' : i = a.1 - 1 := by rw [← hia, Nat.add_sub_cancel]
    rw [hi', List.getElem?_set_self (by rw [List.length_append, List.length_replicate]; omega), Nat.sub_add_cancel ha,
      if_pos (.inr rfl), hr]
  · rw [List.getElem?_set_ne (fun h => hia (by rw [← h, Nat.sub_add_cancel ha]))]
    simp only [hia, or_false]
    by_cases hl : i < t.length
    · -- an old slot
      rw [List.getElem?_append_left hl, h2 i hl]
    · -- a new slot: its number is above every number added so far
      have hnm : ¬ (i + 1 ∈ L.map (·.1)) := by
        intro hm
        have := (foldl_max_spec L 0).2.1 (i + 1) hm
        unfold maxNum at h1
        omega
      rw [List.getElem?_append_right (Nat.le_of_not_lt hl), List.getElem?_replicate, if_pos (by omega), if_neg hnm]

theorem Ok.fold {ref : Nat → α} : ∀ (adds L : List (Nat × α)) (t : List α), Ok u ref L t →
    (∀ a ∈ adds, 1 ≤ a.1 ∧ a.2 = ref a.1) →
    Ok u ref (L ++ adds) (adds.foldl (fun t a => add u t a.1 a.2) t) := by
  intro adds
  induction adds with
  | nil => intro L t h _; simpa using h
  | cons a as ih =>
    intro L t h ha
    simp only [List.foldl_cons]
    have := ih (L ++ [a]) _ (h.step u a (ha a List.mem_cons_self).1 (ha a List.mem_cons_self).2)
      (fun b hb => ha b (List.mem_cons_of_mem _ hb))
    simpa [List.append_assoc] using this

theorem Ok.eq_map {ref : Nat → α} {L : List (Nat × α)} {t : List α} (h : Ok u ref L t) (N : Nat)
    (hrange : ∀ m ∈ L.map (·.1), m ≤ N) (hall : ∀ m, 1 ≤ m → m ≤ N → m ∈ L.map (·.1)) :
    t = (List.range' 1 N).map ref := by
  have hN : t.length = N := by
    rw [h.1]
    refine Nat.le_antisymm ((foldl_max_spec L 0).2.2 N (Nat.zero_le N) hrange) ?_
    cases N with
    | zero => exact Nat.zero_le _
    | succ n => exact (foldl_max_spec L 0).2.1 _ (hall _ (Nat.succ_pos n) (Nat.le_refl _))
  apply List.ext_getElem?
  intro i
  by_cases hi : i < N
  · rw [h.2 i (hN ▸ hi), if_pos (hall (i + 1) (Nat.succ_pos i) hi), List.getElem?_map, List.getElem?_range' hi, Nat.one_mul,
      Nat.add_comm]; rfl
  · rw [List.getElem?_eq_none (hN ▸ Nat.not_lt.1 hi),
      List.getElem?_eq_none (by rw [List.length_map, List.length_range']; exact Nat.not_lt.1 hi)]

end Sqfs.ExportTable
