/-
C18: the in-place model (`Sqfs/Model/C18InPlace.lean`, C statements over one byte
array with read and write cursors) computes the functional model
(`Sqfs/Model/Path.lean`, "read the original, emit the output").  Each loop's result is an
equation: started with unread part `u` and the write cursor not ahead of the read cursor, it
returns `wrote m dst out`: the array `place m dst out`, which has the functional model's output for `u`
written at the write cursor and every other byte as before, and the write cursor behind that output.
A single write is `emit`.  Each loop is followed the way the functional model reads `u`: `normLoop` with a
run of slashes as one step, the component copy inside `canonLoop` byte by byte (`copyThen_spec`, which
is `canonGo false`).  The property theorems are in `Sqfs/Props/C18.lean`.
-/
import Sqfs.Model.C18InPlace
import Sqfs.Proofs.Path
namespace Sqfs.PathIP
open Sqfs.Path

/-- the bytes of a C string: no NUL inside -/
def NulFree (u : Bytes) : Prop := (0 : UInt8) ∉ u

theorem NulFree.tail {c : UInt8} {t : Bytes} (h : NulFree (c :: t)) : NulFree t :=
  fun m => h (List.mem_cons_of_mem _ m)
theorem NulFree.head {c : UInt8} {t : Bytes} (h : NulFree (c :: t)) : c ≠ 0 :=
  fun e => h (by simp [e])

theorem rd_of_drop {m : Mem} {i : Nat} {c : UInt8} {r : Mem} (h : m.drop i = c :: r) : rd m i = some c := by
  unfold rd
  rw [← List.head?_drop, h]; rfl

theorem drop_add_of_drop {m : Mem} {i : Nat} {a b : Mem} (h : m.drop i = a ++ b) :
    m.drop (i + a.length) = b := by
  have := List.drop_drop (i := a.length) (j := i) (l := m)
  rw [h] at this
  simpa using this.symm

theorem drop_succ_of_drop {m : Mem} {i : Nat} {c : UInt8} {r : Mem} (h : m.drop i = c :: r) :
    m.drop (i + 1) = r := drop_add_of_drop (a := [c]) h

theorem lt_length_of_drop {m : Mem} {i : Nat} {c : UInt8} {r : Mem} (h : m.drop i = c :: r) : i < m.length := by
  apply Nat.lt_of_not_le
  intro hn
  rw [List.drop_eq_nil_of_le hn] at h
  cases h

theorem take_set_succ {m : Mem} {i : Nat} (c : UInt8) (h : i < m.length) :
    (m.set i c).take (i + 1) = m.take i ++ [c] := by
  rw [List.take_add_one, List.take_set_of_le (Nat.le_refl i)]
  simp [h]

theorem sl_ne_zero : (SL : UInt8) ≠ 0 := by decide
theorem zero_ne_sl : (0 : UInt8) ≠ SL := by decide
theorem dot_ne_zero : (DOT : UInt8) ≠ 0 := by decide

theorem skipSl_spec (k : Nat) : ∀ (m : Mem) (src fuel : Nat) (c : UInt8) (r : Mem),
    m.drop src = List.replicate k SL ++ c :: r → c ≠ SL → k < fuel →
    skipSl fuel m src = some (src + k) := by
  induction k with
  | zero =>
    intro m src fuel c r h hc hf
    cases fuel with
    | zero => omega
    | succ f =>
      simp only [List.replicate, List.nil_append] at h
      simp [skipSl, rd_of_drop h, hc]
  | succ k ih =>
    intro m src fuel c r h hc hf
    cases fuel with
    | zero => omega
    | succ f =>
      have h' : m.drop src = SL :: (List.replicate k SL ++ c :: r) := by
        simpa [List.replicate_succ] using h
      have := ih m (src + 1) f c r (drop_succ_of_drop h') hc (by omega)
      simp only [skipSl, rd_of_drop h', if_true, this]
      congr 1; omega

theorem slash_run (u : Bytes) :
    ∃ k rest, u = List.replicate k SL ++ rest ∧ (rest = [] ∨ ∃ c t, rest = c :: t ∧ c ≠ SL) := by
  induction u with
  | nil => exact ⟨0, [], rfl, Or.inl rfl⟩
  | cons x t ih =>
    by_cases hx : x = SL
    · obtain ⟨k, rest, h1, h2⟩ := ih
      exact ⟨k + 1, rest, by simp [List.replicate_succ, hx, h1], h2⟩
    · exact ⟨0, x :: t, rfl, Or.inr ⟨x, t, rfl, hx⟩⟩

theorem normGo_run (st p : Bool) (k : Nat) (rest : Bytes) :
    normGo st p (List.replicate (k + 1) SL ++ rest) = normGo st true rest := by
  induction k generalizing p with
  | zero => simp [normGo]
  | succ k ih =>
    have : List.replicate (k + 1 + 1) SL ++ rest = SL :: (List.replicate (k + 1) SL ++ rest) := by
      simp [List.replicate_succ]
    rw [this, normGo_slash, ih]

theorem normGo_tf_cons {c : UInt8} (hc : c ≠ SL) (t : Bytes) :
    normGo true false (c :: t) = c :: normGo true false t :=
  normGo_cons_ne hc true false t

theorem normGo_tt_cons {c : UInt8} (hc : c ≠ SL) (t : Bytes) :
    normGo true true (c :: t) = SL :: c :: normGo true false t :=
  normGo_cons_ne hc true true t

theorem normGo_ff_cons {c : UInt8} (hc : c ≠ SL) (p : Bool) (t : Bytes) :
    normGo false p (c :: t) = c :: normGo true false t :=
  normGo_cons_ne hc false p t

/-- `normalize_slashes` invents no byte other than '/' (so a NUL-free input gives a NUL-free output) -/
theorem normGo_nulFree {u : Bytes} (h : NulFree u) (st p : Bool) : NulFree (normGo st p u) := by
  intro m
  have := (normGo_sublist st p u).subset m
  split at this
  · rcases List.mem_cons.1 this with e | e
    · exact zero_ne_sl e
    · exact h e
  · exact h this

theorem canonGo_nulFree {u r : Bytes} (hu : NulFree u) (b : Bool) (h : canonGo b u = some r) : NulFree r :=
  fun m => hu ((canonGo_sublist b h).subset m)

theorem canonicalize_nulFree {s r : Bytes} (hs : NulFree s) (h : canonicalize s = some r) : NulFree r :=
  fun m => hs ((canonicalize_sublist h).subset m)

/-- the array after `out` was written at `dst`: everything else as before -/
def place (m : Mem) (dst : Nat) (out : Bytes) : Mem := m.take dst ++ out ++ m.drop (dst + out.length)

theorem place_nil (m : Mem) (dst : Nat) : place m dst [] = m := by
  simp [place]

theorem place_cons {m : Mem} {dst : Nat} (c : UInt8) (out : Bytes) (h : dst < m.length) :
    place (m.set dst c) (dst + 1) out = place m dst (c :: out) := by
  unfold place
  rw [take_set_succ c h, List.drop_set_of_lt (Nat.lt_of_lt_of_le (Nat.lt_succ_self dst) (Nat.le_add_right _ _)),
    List.length_cons, Nat.succ_add_eq_add_succ, List.append_assoc, List.append_assoc, List.append_assoc]
  rfl

/-- what a loop returns that has written `out` from `dst` on: the array and the write cursor -/
def wrote (m : Mem) (dst : Nat) (out : Bytes) : Mem × Nat := (place m dst out, dst + out.length)

theorem wrote_nil (m : Mem) (dst : Nat) : wrote m dst [] = (m, dst) := by
  rw [wrote, place_nil]; rfl

/-- `*(dst++) = x` with the write cursor not ahead of the read cursor: the write is inside the array, the bytes after
the one under the read cursor stay, and whatever is written from `dst + 1` on afterwards, `x` stands in front of it -/
theorem emit {m : Mem} {src dst : Nat} {c : UInt8} {r : Mem} (h : m.drop src = c :: r) (hds : dst ≤ src) (x : UInt8) :
    wr m dst x = some (m.set dst x) ∧ (∀ j, src < j → (m.set dst x).drop j = m.drop j) ∧
      ∀ out, wrote (m.set dst x) (dst + 1) out = wrote m dst (x :: out) :=
  have hd := Nat.lt_of_le_of_lt hds (lt_length_of_drop h)
  ⟨if_pos hd, fun _ hj => List.drop_set_of_lt (Nat.lt_of_le_of_lt hds hj), fun out => by
    rw [wrote, place_cons x out hd, wrote, List.length_cons, Nat.add_assoc, Nat.add_comm 1]⟩

/-- induction on the fuel, a run of slashes (`slash_run`) being consumed in one step -/
theorem normLoop_spec (fuel : Nat) : ∀ (u : Bytes), NulFree u → ∀ (m : Mem) (src dst : Nat) (tl : Mem),
    m.drop src = u ++ 0 :: tl → dst ≤ src → u.length < fuel →
    normLoop fuel m src dst = some (wrote m dst (normGo true false u)) := by
  induction fuel with
  | zero => intro u _ m src dst tl _ _ hf; exact absurd hf (Nat.not_lt_zero _)
  | succ f ih =>
    intro u hu m src dst tl h hds hf
    obtain ⟨k, rest, rfl, hrest⟩ := slash_run u
    have hrn : NulFree rest := fun e => hu (List.mem_append_right _ e)
    simp only [List.length_append, List.length_replicate] at hf
    cases k with
    | zero =>
      simp only [List.replicate_zero, List.nil_append, Nat.zero_add] at h hf ⊢
      rcases hrest with rfl | ⟨c, t, rfl, hcs⟩
      · simp [normLoop, rd_of_drop h, normGo, wrote_nil]
      · -- an ordinary byte: `*(dst++) = *(src++)`
        obtain ⟨hw, hk, hp⟩ := emit h hds c
        have hm1 : (m.set dst c).drop (src + 1) = t ++ 0 :: tl := (hk _ (Nat.lt_succ_self _)).trans (drop_succ_of_drop h)
        rw [normGo_tf_cons hcs, ← hp, ← ih t hrn.tail _ _ _ tl hm1 (Nat.succ_le_succ hds) (Nat.lt_of_succ_lt_succ hf)]
        simp [normLoop, rd_of_drop h, hrn.head, hcs, hw]
    | succ k =>
      -- a run of slashes
      have h0 : m.drop src = SL :: (List.replicate k SL ++ (rest ++ 0 :: tl)) := by
        rw [h, List.replicate_succ, List.cons_append, List.cons_append, List.append_assoc]
      have hrun : m.drop src = List.replicate (k + 1) SL ++ (rest ++ 0 :: tl) := by rw [h, List.append_assoc]
      have hdrop2 : m.drop (src + (k + 1)) = rest ++ 0 :: tl := by simpa using drop_add_of_drop hrun
      have hkf : k + 1 < f + 1 := Nat.lt_of_le_of_lt (Nat.le_add_right _ _) hf
      rw [normGo_run]
      rcases hrest with rfl | ⟨c', t', rfl, hc'⟩
      · -- only slashes up to the NUL: `break`
        have hskip := skipSl_spec (k + 1) m src (f + 1) 0 tl hrun zero_ne_sl hkf
        simp [normLoop, rd_of_drop h0, sl_ne_zero, hskip, rd_of_drop hdrop2, normGo, wrote_nil]
      · -- a slash run followed by a byte: emit one slash, continue at that byte
        have hskip := skipSl_spec (k + 1) m src (f + 1) c' _ hrun hc' hkf
        obtain ⟨hw, hk, hp⟩ := emit h0 hds SL
        have hm1 : (m.set dst SL).drop (src + (k + 1)) = (c' :: t') ++ 0 :: tl :=
          (hk _ (Nat.lt_add_of_pos_right (Nat.succ_pos k))).trans hdrop2
        rw [normGo_tt_cons hc', ← normGo_tf_cons hc', ← hp,
          ← ih (c' :: t') hrn _ _ _ tl hm1 (Nat.le_trans (Nat.succ_le_succ hds) (Nat.succ_le_succ (Nat.le_add_right _ _)))
            (by simp only [List.length_cons] at hf ⊢; omega)]
        simp [normLoop, rd_of_drop h0, sl_ne_zero, hskip, rd_of_drop hdrop2, hrn.head, hw]

/-- `normalize_slashes` = skip the leading run of slashes, then the main loop -/
theorem normalizeSlashes_lead (k : Nat) (rest : Bytes) (h : rest = [] ∨ ∃ c t, rest = c :: t ∧ c ≠ SL) :
    normalizeSlashes (List.replicate k SL ++ rest) = normGo true false rest := by
  -- before anything is emitted a pending slash counts for nothing
  have e (p : Bool) : normGo false p rest = normGo true false rest := by
    rcases h with rfl | ⟨c, t, rfl, hc⟩
    · rfl
    · rw [normGo_ff_cons hc, normGo_tf_cons hc]
  unfold normalizeSlashes
  cases k with
  | zero => exact e false
  | succ k => rw [normGo_run]; exact e true

/-- `*dst = '\0'` after a loop that wrote `out` from index 0 on, the old NUL standing at `n`: the array then is `out`, a
NUL, `junk` = what is left of the old contents up to and including the old NUL's place, and `tl` untouched -/
theorem terminate {m : Mem} {n : Nat} {tl : Mem} {out : Bytes} (h : m.drop n = 0 :: tl) (hlen : out.length ≤ n) :
    ∃ junk : Mem, wr (place m 0 out) out.length 0 = some (out ++ 0 :: (junk ++ tl)) ∧ out.length + junk.length = n := by
  have hn : n < m.length := lt_length_of_drop h
  have hol : out.length < m.length := Nat.lt_of_le_of_lt hlen hn
  obtain ⟨x, rest, hx⟩ : ∃ x rest, m.drop out.length = x :: rest := ⟨_, _, List.drop_eq_getElem_cons hol⟩
  have hr : rest.drop (n - out.length) = tl := by
    rw [← drop_succ_of_drop hx, List.drop_drop, show out.length + 1 + (n - out.length) = n + 1 by omega, drop_succ_of_drop h]
  have e1 : place m 0 out = out ++ x :: rest := by rw [place, List.take_zero, List.nil_append, Nat.zero_add, hx]
  refine ⟨rest.take (n - out.length), ?_, ?_⟩
  · rw [← hr, List.take_append_drop, e1]
    simp [wr]
  · have := congrArg List.length hx
    rw [List.length_drop, List.length_cons] at this
    rw [List.length_take]
    omega

/--
`normalize_slashes`, in place, on an array that holds the C string `s`, a NUL and `tl`: it terminates inside the
array and leaves `normalizeSlashes s`, a NUL, leftovers, and `tl` untouched.
-/
theorem normalizeIP_spec (s : Bytes) (hs : NulFree s) (tl : Mem) (fuel : Nat) (hf : s.length + 1 < fuel) :
    ∃ junk : Mem, normalizeIP fuel (s ++ 0 :: tl) = some (normalizeSlashes s ++ 0 :: (junk ++ tl)) ∧
      (normalizeSlashes s).length + junk.length = s.length := by
  obtain ⟨k, rest, rfl, hrest⟩ := slash_run s
  rw [List.length_append, List.length_replicate] at hf ⊢
  have hrun : (List.replicate k SL ++ rest ++ 0 :: tl).drop 0 = List.replicate k SL ++ (rest ++ 0 :: tl) := List.append_assoc _ _ _
  have hskip : skipSl fuel (List.replicate k SL ++ rest ++ 0 :: tl) 0 = some (0 + k) := by
    have hk : k < fuel := by omega
    rcases hrest with rfl | ⟨c, t, rfl, hc⟩
    · exact skipSl_spec k _ 0 fuel 0 tl hrun zero_ne_sl hk
    · exact skipSl_spec k _ 0 fuel c (t ++ 0 :: tl) hrun hc hk
  have hdk : (List.replicate k SL ++ rest ++ 0 :: tl).drop k = rest ++ 0 :: tl := by
    simp
  have hloop := normLoop_spec fuel rest (fun e => hs (List.mem_append_right _ e)) _ k 0 tl hdk (Nat.zero_le _) (by omega)
  obtain ⟨junk, hwr, hj⟩ := terminate (out := normGo true false rest) (drop_add_of_drop hdk)
    (Nat.le_trans (normGo_sublist true false rest).length_le (Nat.le_add_left _ _))
  rw [normalizeSlashes_lead k rest hrest]
  exact ⟨junk, by simp only [normalizeIP, hskip, Nat.zero_add, hloop, wrote, hwr], hj⟩

/-- Lines 50-54 and then the next iteration, read byte by byte as `canonGo false` reads the unread part: every byte up to
and including a slash is copied; after the slash, or at the NUL, the next iteration begins.  `next` is given by its
contract on the strings shorter than `n`. -/
theorem copyThen_spec (next : Mem → Nat → Nat → Option (Option (Mem × Nat))) (n : Nat) (hn : 0 < n)
    (hnext : ∀ u : Bytes, u.length < n → NulFree u → ∀ (m : Mem) (src dst : Nat) (tl : Mem),
      m.drop src = u ++ 0 :: tl → dst ≤ src → next m src dst = some ((canonGo true u).map (wrote m dst))) :
    ∀ u : Bytes, u.length ≤ n → NulFree u → ∀ (m : Mem) (src dst fuel : Nat) (tl : Mem),
      m.drop src = u ++ 0 :: tl → dst ≤ src → u.length < fuel →
      copyThen next fuel m src dst = some ((canonGo false u).map (wrote m dst)) := by
  intro u
  induction u with
  | nil =>
    intro _ hu m src dst fuel tl h hds hf
    obtain ⟨f, rfl⟩ := Nat.exists_eq_add_one.2 hf
    rw [show canonGo false [] = canonGo true [] from rfl, ← hnext [] hn hu m src dst tl h hds]
    simp [copyThen, copyComp, rd_of_drop h, zero_ne_sl]
  | cons c t ih =>
    intro hl hu m src dst fuel tl h hds hf
    obtain ⟨f, rfl⟩ := Nat.exists_eq_add_one.2 (Nat.zero_lt_of_lt hf)
    obtain ⟨hw, hk, hp⟩ := emit h hds c
    have hm1 : (m.set dst c).drop (src + 1) = t ++ 0 :: tl := (hk _ (Nat.lt_succ_self _)).trans (drop_succ_of_drop h)
    rw [canonGo_false_cons, Option.map_map,
      show wrote m dst ∘ (c :: ·) = wrote (m.set dst c) (dst + 1) from funext fun out => (hp out).symm]
    by_cases hc : c = SL
    · -- the slash is copied as well, and the next iteration begins
      subst hc
      rw [decide_eq_true rfl, ← hnext t hl hu.tail _ _ _ tl hm1 (Nat.succ_le_succ hds)]
      simp [copyThen, copyComp, rd_of_drop h, hw]
    · rw [decide_eq_false hc, ← ih (Nat.le_of_lt hl) hu.tail _ _ _ f tl hm1 (Nat.succ_le_succ hds) (Nat.lt_of_succ_lt_succ hf)]
      simp [copyThen, copyComp, rd_of_drop h, hu.head, hc, hw]

theorem canonLoop_spec (fuel : Nat) : ∀ u : Bytes, u.length < fuel → NulFree u → ∀ (m : Mem) (src dst : Nat) (tl : Mem),
    m.drop src = u ++ 0 :: tl → dst ≤ src →
    canonLoop fuel m src dst = some ((canonGo true u).map (wrote m dst)) := by
  induction fuel with
  | zero => intro u hf; exact absurd hf (Nat.not_lt_zero _)
  | succ f ih =>
    intro u hf hu m src dst tl h hds
    match u with
    | [] => simp [canonLoop, rd_of_drop h, canonGo, wrote_nil]
    | c0 :: t =>
      have hc00 : c0 ≠ 0 := hu.head
      have h0 : m.drop src = c0 :: (t ++ 0 :: tl) := h
      have hlt : t.length < f := Nat.lt_of_succ_lt_succ hf
      have hcopy := copyThen_spec (canonLoop f) f (Nat.zero_lt_of_lt hlt) ih (c0 :: t) hlt hu m src dst (f + 1) tl h hds hf
      by_cases hd0 : c0 = DOT
      · subst hd0
        match t with
        | [] =>
          -- "." then NUL: break
          simp [canonLoop, rd_of_drop h0, dot_ne_zero, rd_of_drop (drop_succ_of_drop h0), canonGo, wrote_nil]
        | c1 :: t2 =>
          have hc10 : c1 ≠ 0 := hu.tail.head
          have h1 : m.drop (src + 1) = c1 :: (t2 ++ 0 :: tl) := drop_succ_of_drop h0
          have h2 : m.drop (src + 2) = t2 ++ 0 :: tl := drop_succ_of_drop h1
          by_cases hs1 : c1 = SL
          · -- "./": skip two bytes
            subst hs1
            rw [canonGo_dotslash, show canonLoop (f + 1) m src dst = canonLoop f m (src + 2) dst by
              simp [canonLoop, rd_of_drop h0, dot_ne_zero, rd_of_drop h1, sl_ne_zero]]
            exact ih t2 (Nat.lt_of_succ_lt hlt) hu.tail.tail m (src + 2) dst tl h2 (Nat.le_add_right_of_le hds)
          · by_cases hd1 : c1 = DOT
            · subst hd1
              match t2 with
              | [] =>
                -- ".." then NUL: return -1
                rw [show canonGo true [DOT, DOT] = none by decide]
                simp [canonLoop, rd_of_drop h0, dot_ne_zero, rd_of_drop h1, dot_ne_sl, rd_of_drop h2]
              | c2 :: t3 =>
                have hc20 : c2 ≠ 0 := hu.tail.tail.head
                have h2' : m.drop (src + 2) = c2 :: (t3 ++ 0 :: tl) := h2
                by_cases hs2 : c2 = SL
                · -- "../": return -1
                  subst hs2
                  rw [canonGo_dotdotslash]
                  simp [canonLoop, rd_of_drop h0, dot_ne_zero, rd_of_drop h1, dot_ne_sl, rd_of_drop h2']
                · -- "..x": an ordinary component
                  rw [canonGo_true_plain3 hs2, show canonLoop (f + 1) m src dst = copyThen (canonLoop f) (f + 1) m src dst by
                    simp [canonLoop, rd_of_drop h0, dot_ne_zero, rd_of_drop h1, dot_ne_sl, rd_of_drop h2', hs2, hc20]]
                  exact hcopy
            · -- ".x": an ordinary component
              rw [canonGo_true_plain2 hs1 hd1, show canonLoop (f + 1) m src dst = copyThen (canonLoop f) (f + 1) m src dst by
                simp [canonLoop, rd_of_drop h0, dot_ne_zero, rd_of_drop h1, hs1, hd1, hc10]]
              exact hcopy
      · -- does not start with '.': an ordinary component
        rw [canonGo_true_plain1 hd0, show canonLoop (f + 1) m src dst = copyThen (canonLoop f) (f + 1) m src dst by
          simp [canonLoop, rd_of_drop h0, hc00, hd0]]
        exact hcopy

theorem cstr_append {r : Bytes} (hr : NulFree r) (x : Mem) : cstr (r ++ 0 :: x) = some r := by
  induction r with
  | nil => simp [cstr]
  | cons c t ih => simp [cstr, hr.head, ih hr.tail]

/--
`canonicalize_name`, in place, on an array that holds the C string `s`, a NUL and arbitrary bytes `tl`: the run
stays inside the array; it returns -1 exactly when the functional model fails; otherwise the array then is the
functional model's result, a NUL, leftovers of the three passes, and `tl` untouched.
-/
theorem canonicalizeIP_spec (s : Bytes) (hs : NulFree s) (tl : Mem) (fuel : Nat) (hf : s.length + 1 < fuel) :
    (canonicalize s = none → canonicalizeIP fuel (s ++ 0 :: tl) = some Result.fail) ∧
    (∀ r, canonicalize s = some r → ∃ junk : Mem,
      canonicalizeIP fuel (s ++ 0 :: tl) = some (Result.ok (r ++ 0 :: (junk ++ tl))) ∧
      r.length + junk.length = s.length) := by
  obtain ⟨j1, hrun1, hj1⟩ := normalizeIP_spec s hs tl fuel hf
  have hN1 : NulFree (normalizeSlashes s) := normGo_nulFree hs false false
  have hloop := canonLoop_spec fuel (normalizeSlashes s) (by omega) hN1 (normalizeSlashes s ++ 0 :: (j1 ++ tl)) 0 0 (j1 ++ tl)
    rfl (Nat.le_refl _)
  unfold canonicalize
  cases hg : canonGo true (normalizeSlashes s) with
  | none =>
    rw [hg] at hloop
    exact ⟨fun _ => by simp [canonicalizeIP, hrun1, hloop], nofun⟩
  | some r2 =>
    rw [hg, Option.map_some, wrote, Nat.zero_add] at hloop
    -- line 57: `*dst = '\0'`
    obtain ⟨j2, hwr, hj2⟩ := terminate (m := normalizeSlashes s ++ 0 :: (j1 ++ tl)) (n := (normalizeSlashes s).length) (tl := j1 ++ tl)
      (out := r2) (List.drop_left) (canonGo_sublist true hg).length_le
    obtain ⟨j3, hrun3, hj3⟩ := normalizeIP_spec r2 (canonGo_nulFree hN1 true hg) (j2 ++ (j1 ++ tl)) fuel (by omega)
    refine ⟨nofun, fun r hr => ?_⟩
    cases hr
    refine ⟨j3 ++ (j2 ++ j1), ?_, ?_⟩
    · simp [canonicalizeIP, hrun1, hloop, hwr, hrun3]
    · simp only [List.length_append]; omega

end Sqfs.PathIP
