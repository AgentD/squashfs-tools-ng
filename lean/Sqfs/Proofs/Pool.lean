/-
Helper lemmas for C09: the invariants `InvA` (ticket accounting), `InvB` (wake-ups), `InvC` (failure reporting)
and `InvR` (simulation of the serial pool) of the `Pool` model are preserved by every step (of the relation that
admits spurious wake-ups, hence also by the strict one), for any number of workers and any configuration; `mu`
bounds the strict steps inside one API call.  `WorkerStep` and `MainStep` list the paths through `stepWorker` and
`stepMain` as rules, and `Reachable.rules` is induction over the reachable states with one case per kind of rule: each
invariant is the initial state, three worker rules and twelve main-thread rules, with the invariants proved before it at hand
(`InvA`, which the others use, is also proved of a single step: `invA_step`).  `workerEnabled`, `mainContEnabled` and `isDeadlock`
are the strict steps that exist (`isDeadlock_eq_false_iff`).  First, in namespace `List`, what `set` does under `flatMap`, `sum`
and `count`, and the permutation lemmas of the ticket accounting.
-/
import Sqfs.Spec.Pool
import Sqfs.Proofs.ListFacts
namespace List

theorem set_split {α : Type} {l : List α} {i : Nat} {a : α} (b : α) (h : l[i]? = some a) :
    ∃ l₁ l₂, l = l₁ ++ a :: l₂ ∧ l.set i b = l₁ ++ b :: l₂ := by
  obtain ⟨hi, rfl⟩ := List.getElem?_eq_some_iff.1 h
  refine ⟨l.take i, l.drop (i + 1), ?_, ?_⟩
  · rw [getElem_cons_drop, take_append_drop]
  · rw [set_eq_take_append_cons_drop, if_pos hi]

theorem sum_map_set {α : Type} (g : α → Nat) (l : List α) (i : Nat) (a b : α) (h : l[i]? = some a) :
    ((l.set i b).map g).sum + g a = (l.map g).sum + g b := by
  obtain ⟨l₁, l₂, e, e'⟩ := set_split b h
  rw [e', e]
  simp only [map_append, map_cons, sum_append, sum_cons]
  omega

theorem count_flatMap_set {α : Type} (f : α → List Nat) (l : List α) (i : Nat) (a b : α) (t : Nat)
    (h : l[i]? = some a) :
    count t ((l.set i b).flatMap f) + count t (f a) = count t (l.flatMap f) + count t (f b) := by
  rw [count_flatMap, count_flatMap]
  exact sum_map_set (count t ∘ f) l i a b h

theorem flatMap_set_same {α β : Type} {f : α → List β} {l : List α} {i : Nat} {a b : α}
    (h : l[i]? = some a) (hf : f b = f a) : (l.set i b).flatMap f = l.flatMap f := by
  obtain ⟨l₁, l₂, e, e'⟩ := set_split b h
  rw [e', e, flatMap_append, flatMap_append, flatMap_cons, flatMap_cons, hf]

theorem mem_flatMap_set {α β : Type} {f : α → List β} {l : List α} {i : Nat} {b : α} {x : β}
    (h : x ∈ (l.set i b).flatMap f) : x ∈ l.flatMap f ∨ x ∈ f b := by
  obtain ⟨a, ha, hx⟩ := mem_flatMap.1 h
  rcases mem_or_eq_of_mem_set ha with h1 | rfl
  · exact .inl (mem_flatMap.2 ⟨a, h1, hx⟩)
  · exact .inr hx

theorem mem_set_flatMap {α β : Type} (f : α → List β) {l : List α} {i : Nat} {a : α} (b : α) {x : β}
    (hi : l[i]? = some a) (h : x ∈ l.flatMap f) : x ∈ (l.set i b).flatMap f ∨ x ∈ f a := by
  obtain ⟨l₁, l₂, e, e'⟩ := set_split b hi
  rw [e] at h
  rw [e']
  simp only [flatMap_append, flatMap_cons, mem_append] at h ⊢
  rcases h with h | h | h
  · exact .inl (.inl h)
  · exact .inr h
  · exact .inl (.inr (.inr h))

theorem mem_flatMap_of_getElem? {α β : Type} {f : α → List β} {l : List α} {i : Nat} {a : α} {x : β}
    (h : l[i]? = some a) (hx : x ∈ f a) : x ∈ l.flatMap f :=
  mem_flatMap.2 ⟨a, mem_of_getElem? h, hx⟩

theorem count_flatMap_append {α : Type} (f g : α → List Nat) (l : List α) (t : Nat) :
    count t (l.flatMap fun a => f a ++ g a) = count t (l.flatMap f) + count t (l.flatMap g) := by
  induction l with
  | nil => rfl
  | cons x xs ih => simp only [flatMap_cons, count_append, ih]; omega

theorem count_two_le_flatMap {α : Type} (f : α → List Nat) (l : List α) (i j : Nat) (a b : α) (t : Nat)
    (hi : l[i]? = some a) (hj : l[j]? = some b) (hij : i ≠ j) (c : α) (hc : f c = []) :
    count t (f a) + count t (f b) ≤ count t (l.flatMap f) := by
  have h1 := count_flatMap_set f l i a c t hi
  have hj' : (l.set i c)[j]? = some b := by rw [getElem?_set_ne hij]; exact hj
  obtain ⟨l₁, l₂, e, -⟩ := set_split b hj'
  rw [hc, count_nil, e, flatMap_append, flatMap_cons, count_append, count_append] at h1
  omega

theorem perm_shift {A B A' B' C a : List Nat} (hA : ∀ t, count t A' = count t A + count t a)
    (hB : ∀ t, count t B' + count t a = count t B) : (A' ++ (B' ++ C)).Perm (A ++ (B ++ C)) :=
  perm_iff_count.2 fun t => by
    have := hA t
    have := hB t
    simp only [count_append]; omega

theorem perm_of_count_add {A A' a : List Nat} (hA : ∀ t, count t A' = count t A + count t a) : A'.Perm (A ++ a) :=
  perm_iff_count.2 fun t => by rw [count_append]; exact hA t

theorem perm_shift' {A B A' B' a : List Nat} (hA : ∀ t, count t A' = count t A + count t a)
    (hB : ∀ t, count t B' + count t a = count t B) : (A' ++ B').Perm (A ++ B) := by
  simpa only [append_nil] using perm_shift (C := []) hA hB

theorem getElem?_set_cases {α : Type} {l : List α} {i j : Nat} {a b : α} (h : (l.set i a)[j]? = some b) :
    (i = j ∧ b = a) ∨ (i ≠ j ∧ l[j]? = some b) := by
  by_cases hij : i = j
  · subst hij
    have hi : i < l.length := by simpa using (List.getElem?_eq_some_iff.1 h).1
    rw [getElem?_set_self hi] at h
    exact .inl ⟨rfl, (Option.some.inj h).symm⟩
  · rw [getElem?_set_ne hij] at h
    exact .inr ⟨hij, h⟩

theorem getElem?_set_self_of_some {α : Type} {l : List α} {i : Nat} {a b : α} (h : l[i]? = some a) :
    (l.set i b)[i]? = some b :=
  getElem?_set_self (List.getElem?_eq_some_iff.1 h).1

theorem drop_eq_cons_of_getElem? {α : Type} {l : List α} {k : Nat} {a : α} (h : l[k]? = some a) :
    l.drop k = a :: l.drop (k + 1) := by
  obtain ⟨hk, rfl⟩ := List.getElem?_eq_some_iff.1 h
  exact drop_eq_getElem_cons hk

theorem ne_append_singleton {α : Type} (l : List α) (x : α) : l ≠ l ++ [x] :=
  fun h => nomatch self_eq_append_right.1 h

end List

namespace Sqfs.Pool
open List

def tks (l : List Item) : List Nat := l.map Item.ticket

def WPc.held : WPc → List Item
  | .working it => [it]
  | .finishing it _ => [it]
  | _ => []

/-- ticket held by a worker whose callback has not run yet -/
def WPc.tkW : WPc → List Nat
  | .working it => [it.ticket]
  | _ => []

/-- ticket held by a worker whose callback has run -/
def WPc.tkF : WPc → List Nat
  | .finishing it _ => [it.ticket]
  | _ => []

def heldItems (s : State) : List Item := s.workers.flatMap WPc.held
def tkW (s : State) : List Nat := s.workers.flatMap WPc.tkW
def tkF (s : State) : List Nat := s.workers.flatMap WPc.tkF

theorem held_eq_nil_iff {pc : WPc} : pc.held = [] ↔ pc.tkW = [] ∧ pc.tkF = [] := by
  cases pc with
  | working => exact ⟨nofun, fun h => nomatch h.1⟩
  | finishing => exact ⟨nofun, fun h => nomatch h.2⟩
  | _ => exact ⟨fun _ => ⟨rfl, rfl⟩, fun _ => rfl⟩

theorem count_tk_of_held {pc : WPc} {a : Item} (h : a ∈ pc.held) : 1 ≤ count a.ticket (pc.tkF ++ pc.tkW) := by
  cases pc with
  | working it => cases mem_singleton.1 h; simp [WPc.tkF, WPc.tkW]
  | finishing it rc => cases mem_singleton.1 h; simp [WPc.tkF, WPc.tkW]
  | _ => cases h

/-- the workers `ws` hold what the workers of `s` hold -/
structure SameHeld (ws : List WPc) (s : State) : Prop where
  items : ws.flatMap WPc.held = heldItems s
  working : ws.flatMap WPc.tkW = tkW s
  finishing : ws.flatMap WPc.tkF = tkF s

theorem sameHeld_wakeAll (s : State) : SameHeld (wakeAll s.workers) s := by
  have hk : ∀ {β : Type} (f : WPc → List β), (∀ pc, f (wakeW pc) = f pc) →
      (wakeAll s.workers).flatMap f = s.workers.flatMap f :=
    fun f hf => by rw [wakeAll, flatMap_map]; congr 1; funext pc; exact hf pc
  exact ⟨hk _ fun pc => by cases pc <;> rfl, hk _ fun pc => by cases pc <;> rfl, hk _ fun pc => by cases pc <;> rfl⟩

theorem sameHeld_set {s : State} {i : Nat} {pc : WPc} (pc' : WPc) (hi : s.workers[i]? = some pc) (hpc : pc.held = [])
    (hpc' : pc'.held = []) : SameHeld (s.workers.set i pc') s :=
  ⟨flatMap_set_same hi (hpc'.trans hpc.symm),
   flatMap_set_same hi ((held_eq_nil_iff.1 hpc').1.trans (held_eq_nil_iff.1 hpc).1.symm),
   flatMap_set_same hi ((held_eq_nil_iff.1 hpc').2.trans (held_eq_nil_iff.1 hpc).2.symm)⟩

theorem insertDone_perm (it : Item) (l : List Item) : (insertDone it l).Perm (it :: l) := by
  fun_induction insertDone it l
  · exact .refl _
  · exact .refl _
  · rename_i ih; exact (ih.cons _).trans (.swap _ _ _)

theorem mem_insertDone (it x : Item) (l : List Item) : x ∈ insertDone it l ↔ x = it ∨ x ∈ l :=
  (insertDone_perm it l).mem_iff.trans mem_cons

theorem count_tks_insertDone (it : Item) (l : List Item) (t : Nat) :
    count t (tks (insertDone it l)) = count t (tks l) + count t [it.ticket] := by
  rw [tks, ((insertDone_perm it l).map _).count_eq, map_cons, count_cons, count_singleton]; rfl

theorem mem_tks_insertDone (it : Item) (l : List Item) (t : Nat) :
    t ∈ tks (insertDone it l) ↔ t = it.ticket ∨ t ∈ tks l :=
  ((insertDone_perm it l).map _).mem_iff.trans mem_cons

theorem sorted_insertDone (it : Item) (l : List Item) (hs : (tks l).Pairwise (· < ·))
    (hn : it.ticket ∉ tks l) : (tks (insertDone it l)).Pairwise (· < ·) := by
  induction l with
  | nil => simp [insertDone, tks]
  | cons h r ih =>
    simp only [tks, map_cons, pairwise_cons, mem_cons, not_or] at hs hn
    unfold insertDone
    split
    · rename_i hge
      have hlt : it.ticket < h.ticket := by omega
      simp only [tks, map_cons, pairwise_cons, mem_cons]
      exact ⟨fun a ha => ha.elim (· ▸ hlt) fun ha => Nat.lt_trans hlt (hs.1 a ha), hs.1, hs.2⟩
    · refine pairwise_cons.2 ⟨fun a ha => ?_, ih hs.2 hn.2⟩
      rcases (mem_tks_insertDone it r a).1 ha with rfl | ha
      · omega
      · exact hs.1 a ha

theorem drain_spec (l : List Item) (nd : Nat) :
    l = (drain l nd).1 ++ (drain l nd).2.1 ∧
    tks (drain l nd).1 = range' nd (drain l nd).1.length ∧
    (drain l nd).2.2 = nd + (drain l nd).1.length := by
  induction l generalizing nd with
  | nil => simp [drain, tks]
  | cons it r ih =>
    unfold drain
    split
    · rename_i h
      obtain ⟨h1, h2, h3⟩ := ih (nd + 1)
      refine ⟨?_, ?_, ?_⟩
      · simp only [cons_append]; rw [← h1]
      · simp only [tks, map_cons, length_cons, range'_succ] at *
        rw [h2, h]
      · simp only [length_cons]; rw [h3]; omega
    · simp [tks]

theorem getNextWork_cases (s : State) (i : Nat) :
    (s.status ≠ 0 ∧ getNextWork s i = { s with workers := s.workers.set i .exited }) ∨
    (s.status = 0 ∧ s.queue = [] ∧ getNextWork s i = { s with workers := s.workers.set i (.waitQ false) }) ∨
    (∃ it q, s.status = 0 ∧ s.queue = it :: q ∧
      getNextWork s i = { s with queue := q, workers := s.workers.set i (.working it) }) := by
  fun_cases getNextWork s i
  · exact .inl ⟨‹_›, rfl⟩
  · exact .inr (.inl ⟨Decidable.not_not.1 ‹_›, ‹_›, rfl⟩)
  · exact .inr (.inr ⟨_, _, Decidable.not_not.1 ‹_›, ‹_›, rfl⟩)

theorem getNextWork_eq (s : State) (i : Nat) :
    ∃ q pc, getNextWork s i = { s with queue := q, workers := s.workers.set i pc } ∧ pc.tkF = [] := by
  rcases getNextWork_cases s i with ⟨_, e⟩ | ⟨_, _, e⟩ | ⟨_, _, _, _, e⟩ <;> exact ⟨_, _, e, rfl⟩

theorem getNextWork_started (s : State) (i : Nat) : (getNextWork s i).started = s.started := by
  obtain ⟨q, pc, e, _⟩ := getNextWork_eq s i; rw [e]

theorem getNextWork_rets (s : State) (i : Nat) : (getNextWork s i).rets = s.rets := by
  obtain ⟨q, pc, e, _⟩ := getNextWork_eq s i; rw [e]

theorem getNextWork_of_failed {s : State} (i : Nat) (h : s.status ≠ 0) :
    getNextWork s i = { s with workers := s.workers.set i .exited } :=
  if_pos h

theorem getNextWork_set_self (s : State) (ws : List WPc) (i : Nat) (x : WPc) :
    getNextWork { s with workers := ws.set i x } i = getNextWork { s with workers := ws } i := by
  unfold getNextWork
  dsimp only
  split
  · simp [List.set_set]
  · split <;> simp [List.set_set]

/-- the state after `store_completed` by worker `i`, before it looks for the next item -/
def stored (s : State) (i : Nat) (it : Item) (rc : Int) : State :=
  { s with done := insertDone it s.done, status := if rc ≠ 0 ∧ s.status = 0 then rc else s.status,
           main := wakeMain s.main, workers := s.workers.set i .start }

theorem stored_status (s : State) (i : Nat) (it : Item) (rc : Int) :
    (stored s i it rc).status = s.status ∨ s.status = 0 ∧ rc ≠ 0 ∧ (stored s i it rc).status = rc := by
  by_cases hc : rc ≠ 0 ∧ s.status = 0
  · exact .inr ⟨hc.2, hc.1, if_pos hc⟩
  · exact .inl (if_neg hc)

theorem stored_status_ne_zero {s : State} (i : Nat) (it : Item) {rc : Int} (h : s.status ≠ 0 ∨ rc ≠ 0) :
    (stored s i it rc).status ≠ 0 := by
  show (if rc ≠ 0 ∧ s.status = 0 then rc else s.status) ≠ 0
  split
  · rename_i hc; exact hc.1
  · rename_i hc; exact fun h0 => h.elim (· h0) fun hrc => hc ⟨hrc, h0⟩

inductive WorkerStep (cfg : Cfg) (s : State) (i : Nat) : Bool → State → Prop where
  /-- from the first lock, or woken in `pthread_cond_wait` -/
  | next (pc : WPc) (spur : Bool) : s.workers[i]? = some pc → (pc = .start ∧ spur = false ∨ pc = .waitQ (!spur)) →
      WorkerStep cfg s i spur (getNextWork s i)
  | run (it : Item) : s.workers[i]? = some (.working it) →
      WorkerStep cfg s i false
        { s with workers := s.workers.set i (.finishing it (cfg.rcOf it.data)), started := s.started ++ [(i, it)] }
  /-- `store_completed`, then `get_next_work_item` -/
  | store (it : Item) (rc : Int) : s.workers[i]? = some (.finishing it rc) →
      WorkerStep cfg s i false (getNextWork (stored s i it rc) i)

theorem stepWorker_iff {cfg : Cfg} {s s' : State} {i : Nat} {spur : Bool} :
    stepWorker cfg s i spur = some s' ↔ WorkerStep cfg s i spur s' := by
  constructor
  · intro hs
    revert hs
    fun_cases stepWorker cfg s i spur <;> intro hs <;> cases hs
    · cases spur <;> first | exact .next _ _ ‹_› (.inl ⟨rfl, rfl⟩) | contradiction
    · rename_i sig _ _
      cases sig <;> cases spur <;> first | exact .next _ _ ‹_› (.inr rfl) | contradiction
    · cases spur <;> first | exact .run _ ‹_› | contradiction
    · cases spur <;> first | exact .store _ _ ‹_› | contradiction
  · intro h
    cases h with
    | next pc spur hi hpc =>
      rcases hpc with ⟨rfl, rfl⟩ | rfl
      · simp [stepWorker, hi]
      · cases spur <;> simp [stepWorker, hi]
    | run it hi => simp [stepWorker, hi]
    | store it rc hi => simp [stepWorker, hi, stored]

theorem deqTry_cases (cfg : Cfg) (s : State) :
    (∃ it r, s.done = it :: r ∧ it.ticket = s.nextDeq ∧
      deqTry cfg s = deqReturn { s with done := r, nextDeq := s.nextDeq + 1 } it) ∨
    ((∀ it r, s.done = it :: r → it.ticket ≠ s.nextDeq) ∧
      ((cfg.repaired = true ∧ s.status ≠ 0) ∧ deqTry cfg s = { s with main := .idle, rets := s.rets ++ [.deq none] } ∨
       (cfg.repaired = true → s.status = 0) ∧ deqTry cfg s = { s with main := .deqWait false })) := by
  have hwait : (cfg.repaired = true ∧ s.status ≠ 0) ∧
        deqWaitOrNull cfg s = { s with main := .idle, rets := s.rets ++ [.deq none] } ∨
      (cfg.repaired = true → s.status = 0) ∧ deqWaitOrNull cfg s = { s with main := .deqWait false } := by
    fun_cases deqWaitOrNull cfg s
    · rename_i hc
      simp only [Bool.and_eq_true, decide_eq_true_eq] at hc
      exact .inl ⟨hc, rfl⟩
    · rename_i hc
      simp only [Bool.and_eq_true, decide_eq_true_eq, not_and, Decidable.not_not] at hc
      exact .inr ⟨hc, rfl⟩
  fun_cases deqTry cfg s
  · exact .inr ⟨fun it r hx => (nomatch (‹s.done = []›).symm.trans hx), hwait⟩
  · exact .inl ⟨_, _, ‹_›, ‹_›, rfl⟩
  · rename_i it r hd hne
    exact .inr ⟨fun it' r' hx => (by rw [hd] at hx; cases hx; exact hne), hwait⟩

theorem submitBody_frame (s : State) (d : Nat) :
    (submitBody s d).status = s.status ∧ (submitBody s d).workers = wakeAll s.workers ∧
    (submitBody s d).main = .idle ∧ (submitBody s d).started = s.started ∧
    (submitBody s d).rets = s.rets ++ [.submit s.status] := by
  unfold submitBody
  by_cases h0 : s.status = 0 <;> simp [h0]

inductive MainStep (cfg : Cfg) (s : State) : MChoice → State → Prop where
  | callSubmit (d : Nat) : s.main = .idle →
      MainStep cfg s (.call (.submit d))
        { s with recycle := s.recycle - 1, main := .submitLock d, calls := s.calls ++ [.submit d] }
  /-- `dequeue` on an empty pool -/
  | deqEmpty : s.main = .idle → s.itemCount = 0 →
      MainStep cfg s (.call .dequeue) { s with rets := s.rets ++ [.deq none], calls := s.calls ++ [.dequeue] }
  /-- `dequeue`, fast path: the head of `safe_done`, without the mutex -/
  | deqFast (it : Item) (r : List Item) : s.main = .idle → s.itemCount ≠ 0 → s.safeDone = it :: r →
      MainStep cfg s (.call .dequeue) (deqReturn { s with safeDone := r, calls := s.calls ++ [.dequeue] } it)
  | deqSlow : s.main = .idle → s.itemCount ≠ 0 → s.safeDone = [] →
      MainStep cfg s (.call .dequeue) { s with main := .deqLock, calls := s.calls ++ [.dequeue] }
  | callStatus : s.main = .idle →
      MainStep cfg s (.call .getStatus) { s with main := .statusLock, calls := s.calls ++ [.getStatus] }
  | callDestroy : s.main = .idle →
      MainStep cfg s (.call .destroy) { s with main := .destroyLock, calls := s.calls ++ [.destroy] }
  | submit (d : Nat) : s.main = .submitLock d → MainStep cfg s (.cont false) (submitBody s d)
  /-- from the lock of `dequeue`, or woken in `pthread_cond_wait` -/
  | deq (spur : Bool) : (s.main = .deqLock ∧ spur = false ∨ s.main = .deqWait (!spur)) →
      MainStep cfg s (.cont spur) (deqTry cfg s)
  | status : s.main = .statusLock →
      MainStep cfg s (.cont false) { s with main := .idle, rets := s.rets ++ [.status s.status] }
  | destroy : s.main = .destroyLock →
      MainStep cfg s (.cont false)
        { s with status := -1, workers := wakeAll s.workers,
                 main := if s.workers.length = 0 then .finished else .join 0,
                 rets := if s.workers.length = 0 then s.rets ++ [.destroyed] else s.rets }
  | joinNext (i : Nat) : s.main = .join i → s.workers[i]? = some .exited → i + 1 < s.workers.length →
      MainStep cfg s (.cont false) { s with main := .join (i + 1) }
  | joinLast (i : Nat) : s.main = .join i → s.workers[i]? = some .exited → ¬ i + 1 < s.workers.length →
      MainStep cfg s (.cont false) { s with main := .finished, rets := s.rets ++ [.destroyed] }

theorem stepMain_iff {cfg : Cfg} {s s' : State} {c : MChoice} :
    stepMain cfg s c = some s' ↔ MainStep cfg s c s' := by
  constructor
  · intro hs
    revert hs
    fun_cases stepMain cfg s c <;> intro hs <;> cases hs
    · exact .callSubmit _ ‹_›
    · exact .deqEmpty ‹_› ‹_›
    · exact .deqFast _ _ ‹_› ‹_› ‹_›
    · exact .deqSlow ‹_› ‹_› ‹_›
    · exact .callStatus ‹_›
    · exact .callDestroy ‹_›
    · exact .submit _ ‹_›
    · exact .deq _ (.inl ⟨‹_›, rfl⟩)
    · rename_i sig spur _ _
      cases sig <;> cases spur <;> first | exact .deq _ (.inr ‹_›) | contradiction
    · exact .status ‹_›
    · exact .destroy ‹_›
    · exact .joinNext _ ‹_› ‹_› ‹_›
    · exact .joinLast _ ‹_› ‹_› ‹_›
  · intro h
    cases h with
    | deq spur hm =>
      rcases hm with ⟨hm, rfl⟩ | hm
      · simp [stepMain, hm]
      · cases spur <;> simp [stepMain, hm]
    | _ => simp [stepMain, *]

theorem stepStrict_eq_some {cfg : Cfg} {s s' : State} {c : Choice} :
    stepStrict cfg s c = some s' ↔ c.strict = true ∧ step cfg s c = some s' := by
  unfold stepStrict
  split <;> simp [*]

/-- a function that runs a schedule and skips the choices that are not enabled (`run`, `xrun`, `frun`) stays inside
every set of states that the steps do not leave -/
theorem run_closed {σ κ : Type} {step : σ → κ → Option σ} {run : σ → List κ → σ} {R : σ → Prop}
    (hnil : ∀ s, run s [] = s) (hcons : ∀ s c cs, run s (c :: cs) = run ((step s c).getD s) cs)
    (hR : ∀ s c s', R s → step s c = some s' → R s') (cs : List κ) : ∀ s, R s → R (run s cs) := by
  induction cs with
  | nil => intro s hs; rw [hnil]; exact hs
  | cons c cs ih =>
    intro s hs
    rw [hcons]
    cases h : step s c with
    | none => exact ih s hs
    | some s' => exact ih s' (hR s c s' hs h)

theorem reachable_run {cfg : Cfg} {n : Nat} {s : State} (hs : Reachable cfg n s) (cs : List Choice) :
    Reachable cfg n (run cfg s cs) :=
  run_closed (fun _ => rfl) (fun s c cs => by rw [run]; cases step cfg s c <;> rfl) (fun _ c _ h hc => .step c h hc) cs s hs

/-- induction over the reachable states with the steps read as rules -/
theorem Reachable.rules {cfg : Cfg} {n : Nat} {P : State → Prop} {s : State} (hr : Reachable cfg n s) (init : P (Pool.init n))
    (worker : ∀ {spur : Bool} (s s' : State) (i : Nat), Reachable cfg n s → P s → WorkerStep cfg s i spur s' → P s')
    (main : ∀ {c : MChoice} (s s' : State), Reachable cfg n s → P s → MainStep cfg s c s' → P s') : P s := by
  induction hr with
  | init => exact init
  | step c hr hs ih =>
    cases c with
    | main c => exact main _ _ hr ih (stepMain_iff.1 hs)
    | worker i spur => exact worker _ _ i hr ih (stepWorker_iff.1 hs)

/-- the main thread is on the slow path of `dequeue` -/
def MPc.inDeq : MPc → Prop
  | .deqLock => True
  | .deqWait _ => True
  | _ => False

structure InvA (s : State) : Prop where
  /-- every item in the pool carries the data that was submitted under its ticket -/
  data : ∀ it, (it ∈ s.queue ∨ it ∈ s.done ∨ it ∈ s.safeDone ∨ it ∈ heldItems s) →
    s.submitted[it.ticket]? = some it.data
  ret : s.returned = s.submitted.take s.returned.length
  safe : tks s.safeDone = range' s.returned.length s.safeDone.length
  nd : s.nextDeq = s.returned.length + s.safeDone.length
  nt : s.nextTicket = s.submitted.length
  doneSorted : (tks s.done).Pairwise (· < ·)
  doneGe : ∀ t ∈ tks s.done, s.nextDeq ≤ t
  /-- every ticket issued so far is in exactly one place -/
  perm : (range s.returned.length ++ tks s.safeDone ++ tks s.done ++ tkF s ++ tkW s ++ tks s.queue).Perm
    (range s.nextTicket)
  ic : s.itemCount + s.returned.length = s.submitted.length
  mainDeq : s.main.inDeq → s.safeDone = [] ∧ s.itemCount ≠ 0
  /-- the callbacks run so far are exactly those of the tickets that are past `working` -/
  startedPerm : (s.started.map (·.2.ticket)).Perm
    (range s.returned.length ++ tks s.safeDone ++ tks s.done ++ tkF s)
  startedData : ∀ p ∈ s.started, s.submitted[p.2.ticket]? = some p.2.data

theorem invA_init (n : Nat) : InvA (init n) := by
  constructor <;> simp [init, tks, heldItems, tkW, tkF, WPc.held, WPc.tkW, WPc.tkF, MPc.inDeq]

theorem InvA.held_disjoint {s : State} (h : InvA s) {i j : Nat} {pi pj : WPc} (hi : s.workers[i]? = some pi)
    (hj : s.workers[j]? = some pj) (hij : i ≠ j) {a b : Item} (ha : a ∈ pi.held) (hb : b ∈ pj.held) :
    a.ticket ≠ b.ticket := by
  intro heq
  -- the ticket would occur twice among the tickets held by workers
  have h2 := count_two_le_flatMap (fun pc : WPc => pc.tkF ++ pc.tkW) s.workers i j pi pj a.ticket hi hj hij .start rfl
  rw [count_flatMap_append] at h2
  have hpi := count_tk_of_held ha
  have hpj := count_tk_of_held hb
  rw [← heq] at hpj
  have hp := h.perm.count_eq a.ticket
  simp only [count_append, tkF, tkW] at hp
  have hr : count a.ticket (range s.nextTicket) ≤ 1 := nodup_iff_count.1 nodup_range _
  omega

theorem InvA.setWorkers {s : State} {ws : List WPc} (h : InvA s) (hw : SameHeld ws s) :
    InvA { s with workers := ws } := by
  obtain ⟨hH, hW, hF⟩ := hw
  refine { h with data := ?_, perm := ?_, startedPerm := ?_ }
  · dsimp only [heldItems]; rw [hH]; exact h.data
  · dsimp only [tkF, tkW]; rw [hW, hF]; exact h.perm
  · dsimp only [tkF]; rw [hF]; exact h.startedPerm

theorem InvA.getNextWork {s : State} {i : Nat} {pc : WPc} (h : InvA s) (hi : s.workers[i]? = some pc)
    (hpc : pc.held = []) : InvA (getNextWork s i) := by
  rcases getNextWork_cases s i with ⟨_, e⟩ | ⟨_, _, e⟩ | ⟨it, q, _, hq, e⟩ <;> rw [e]
  · exact h.setWorkers (sameHeld_set _ hi hpc rfl)
  · exact h.setWorkers (sameHeld_set _ hi hpc rfl)
  · -- `it` goes from the queue into the worker's hands
    have hF : tkF { s with queue := q, workers := s.workers.set i (.working it) } = tkF s :=
      flatMap_set_same hi (held_eq_nil_iff.1 hpc).2.symm
    have hW := fun t => count_flatMap_set WPc.tkW s.workers i pc (.working it) t hi
    simp only [(held_eq_nil_iff.1 hpc).1, count_nil, Nat.add_zero] at hW
    simp only [WPc.tkW] at hW
    have hQ : ∀ t, count t (tks q) + count t [it.ticket] = count t (tks s.queue) := fun t => by
      rw [hq]; simp only [tks, map_cons, count_cons, count_nil, Nat.zero_add]
    refine { h with data := fun x hx => h.data x ?_, perm := ?_, startedPerm := hF ▸ h.startedPerm }
    · rcases hx with hx | hx | hx | hx
      · exact .inl (hq ▸ mem_cons_of_mem _ hx)
      · exact .inr (.inl hx)
      · exact .inr (.inr (.inl hx))
      · rcases mem_flatMap_set hx with h1 | h1
        · exact .inr (.inr (.inr h1))
        · exact .inl (hq ▸ mem_singleton.1 h1 ▸ mem_cons_self)
    · have hp := h.perm
      rw [hF]
      simp only [append_assoc] at hp ⊢
      exact ((perm_shift' hW hQ).append_left _ |>.append_left _ |>.append_left _ |>.append_left _).trans hp

theorem InvA.runCb {s : State} {i : Nat} {it : Item} (rc : Int) (h : InvA s)
    (hi : s.workers[i]? = some (.working it)) :
    InvA { s with workers := s.workers.set i (.finishing it rc), started := s.started ++ [(i, it)] } := by
  have hH : (s.workers.set i (.finishing it rc)).flatMap WPc.held = heldItems s :=
    flatMap_set_same hi rfl
  have hW := fun t => count_flatMap_set WPc.tkW s.workers i _ (.finishing it rc) t hi
  have hF := fun t => count_flatMap_set WPc.tkF s.workers i _ (.finishing it rc) t hi
  simp only [WPc.tkW, WPc.tkF, count_nil, Nat.add_zero] at hW hF
  have hdata := h.data it (.inr (.inr (.inr (mem_flatMap_of_getElem? hi mem_cons_self))))
  refine { h with data := ?_, perm := ?_, startedPerm := ?_, startedData := ?_ }
  · dsimp only [heldItems]; rw [hH]; exact h.data
  · have hp := h.perm
    simp only [append_assoc] at hp ⊢
    exact ((perm_shift hF hW).append_left _ |>.append_left _ |>.append_left _).trans hp
  · have hp := h.startedPerm
    simp only [append_assoc, map_append, map_cons, map_nil] at hp ⊢
    exact (hp.append_right _).trans (by
      simp only [append_assoc]
      exact (perm_of_count_add hF).symm.append_left _ |>.append_left _ |>.append_left _)
  · intro p hp
    rcases mem_append.1 hp with hp | hp
    · exact h.startedData p hp
    · cases mem_singleton.1 hp; exact hdata

theorem wakeMain_inDeq (m : MPc) : (wakeMain m).inDeq ↔ m.inDeq := by
  cases m <;> exact Iff.rfl

theorem InvA.finishing_fresh {s : State} {i : Nat} {it : Item} {rc : Int} (h : InvA s)
    (hi : s.workers[i]? = some (.finishing it rc)) : it.ticket ∉ tks s.done ∧ s.nextDeq ≤ it.ticket := by
  have hnd := h.perm.nodup_iff.2 nodup_range
  simp only [append_assoc] at hnd
  obtain ⟨-, h1, hR⟩ := nodup_append.1 hnd
  obtain ⟨-, h2, hS⟩ := nodup_append.1 h1
  obtain ⟨-, -, hD⟩ := nodup_append.1 h2
  have inF : it.ticket ∈ tkF s ++ (tkW s ++ tks s.queue) :=
    mem_append_left _ (mem_flatMap_of_getElem? hi mem_cons_self)
  have n1 : it.ticket ∉ range s.returned.length := fun hx =>
    hR _ hx _ (mem_append_right _ (mem_append_right _ inF)) rfl
  have n2 : it.ticket ∉ tks s.safeDone := fun hx => hS _ hx _ (mem_append_right _ inF) rfl
  rw [h.safe, mem_range'_1] at n2
  rw [mem_range] at n1
  have := h.nd
  exact ⟨fun hx => hD _ hx _ inF rfl, by omega⟩

theorem InvA.store {s : State} {i : Nat} {it : Item} {rc : Int} (h : InvA s)
    (hi : s.workers[i]? = some (.finishing it rc)) : InvA (stored s i it rc) := by
  unfold stored
  have hW : (s.workers.set i .start).flatMap WPc.tkW = s.workers.flatMap WPc.tkW :=
    flatMap_set_same hi rfl
  have hF := fun t => count_flatMap_set WPc.tkF s.workers i _ .start t hi
  simp only [WPc.tkF, count_nil, Nat.add_zero] at hF
  have hmem : it ∈ heldItems s := mem_flatMap_of_getElem? hi mem_cons_self
  obtain ⟨hnotin, hge⟩ := h.finishing_fresh hi
  have hD := count_tks_insertDone it s.done
  refine { h with data := fun x hx => h.data x ?_, doneSorted := sorted_insertDone it s.done h.doneSorted hnotin,
                  doneGe := ?_, perm := ?_, mainDeq := fun hm => h.mainDeq ((wakeMain_inDeq _).1 hm),
                  startedPerm := ?_ }
  · rcases hx with hx | hx | hx | hx
    · exact .inl hx
    · rcases (mem_insertDone it x s.done).1 hx with rfl | h1
      · exact .inr (.inr (.inr hmem))
      · exact .inr (.inl h1)
    · exact .inr (.inr (.inl hx))
    · rcases mem_flatMap_set hx with h1 | h1
      · exact .inr (.inr (.inr h1))
      · cases h1
  · intro t ht
    rcases (mem_tks_insertDone it s.done t).1 ht with rfl | h1
    · exact hge
    · exact h.doneGe t h1
  · have hp := h.perm
    simp only [append_assoc, tkW, hW] at hp ⊢
    exact ((perm_shift hD hF).append_left _ |>.append_left _).trans hp
  · have hp := h.startedPerm
    simp only [append_assoc] at hp ⊢
    exact hp.trans ((perm_shift' hD hF).symm.append_left _ |>.append_left _)

/-- the enqueue half of `submit` (`status == 0`) -/
theorem InvA.enqueue {s : State} (d : Nat) (h : InvA s) (hm : ¬ s.main.inDeq) :
    InvA { s with queue := s.queue ++ [⟨s.nextTicket, d⟩], nextTicket := s.nextTicket + 1,
                  itemCount := s.itemCount + 1, submitted := s.submitted ++ [d] } := by
  have hic := h.ic
  refine { h with data := ?_, ret := ?_, nt := ?_, perm := ?_, ic := ?_, mainDeq := fun hx => absurd hx hm,
                  startedData := fun p hp => List.getElem?_append_some (h.startedData p hp) }
  · intro x hx
    rcases hx with hx | hx | hx | hx
    · rcases mem_append.1 hx with h1 | h1
      · exact List.getElem?_append_some (h.data x (.inl h1))
      · cases mem_singleton.1 h1
        simp [h.nt]
    · exact List.getElem?_append_some (h.data x (.inr (.inl hx)))
    · exact List.getElem?_append_some (h.data x (.inr (.inr (.inl hx))))
    · exact List.getElem?_append_some (h.data x (.inr (.inr (.inr hx))))
  · show s.returned = (s.submitted ++ [d]).take s.returned.length
    rw [take_append_of_le_length (by omega)]; exact h.ret
  · show s.nextTicket + 1 = (s.submitted ++ [d]).length
    rw [length_append, h.nt]; rfl
  · have hp := h.perm
    simp only [tks, map_append, map_cons, map_nil, range_succ] at hp ⊢
    rw [← append_assoc]
    exact hp.append_right _
  · show s.itemCount + 1 + s.returned.length = (s.submitted ++ [d]).length
    rw [length_append, length_singleton]; omega

theorem InvA.moveDone {s : State} {mv rest : List Item} (m : MPc) (h : InvA s) (hm : ¬ m.inDeq)
    (hsplit : s.done = mv ++ rest) (hmv : tks mv = range' s.nextDeq mv.length) :
    InvA { s with done := rest, safeDone := s.safeDone ++ mv, nextDeq := s.nextDeq + mv.length, main := m } := by
  have htk : tks s.done = tks mv ++ tks rest := by rw [hsplit]; exact map_append
  have hsd : tks (s.safeDone ++ mv) = tks s.safeDone ++ tks mv := map_append
  have hS : ∀ t, count t (tks (s.safeDone ++ mv)) = count t (tks s.safeDone) + count t (tks mv) := fun t => by
    rw [hsd, count_append]
  have hD : ∀ t, count t (tks rest) + count t (tks mv) = count t (tks s.done) := fun t => by
    rw [htk, count_append, Nat.add_comm]
  have hsorted := h.doneSorted
  rw [htk, pairwise_append] at hsorted
  refine { h with data := fun x hx => h.data x ?_, safe := ?_, nd := ?_, doneSorted := hsorted.2.1, doneGe := ?_,
                  perm := ?_, mainDeq := fun hx => absurd hx hm, startedPerm := ?_ }
  · rcases hx with hx | hx | hx | hx
    · exact .inl hx
    · exact .inr (.inl (hsplit ▸ mem_append_right _ hx))
    · rcases mem_append.1 hx with h1 | h1
      · exact .inr (.inr (.inl h1))
      · exact .inr (.inl (hsplit ▸ mem_append_left _ h1))
    · exact .inr (.inr (.inr hx))
  · show tks (s.safeDone ++ mv) = range' s.returned.length (s.safeDone ++ mv).length
    rw [hsd, h.safe, hmv, h.nd, length_append, ← range'_append, Nat.one_mul]
  · show s.nextDeq + mv.length = s.returned.length + (s.safeDone ++ mv).length
    rw [h.nd, length_append]; omega
  · intro t ht
    have h1 : s.nextDeq ≤ t := h.doneGe t (by rw [htk]; exact mem_append_right _ ht)
    have h2 : t ∉ tks mv := fun hmem => Nat.lt_irrefl t (hsorted.2.2 t hmem t ht)
    rw [hmv, mem_range'_1] at h2
    show s.nextDeq + mv.length ≤ t
    omega
  · have hp := h.perm
    simp only [append_assoc] at hp ⊢
    exact ((perm_shift hS hD).append_left _).trans hp
  · have hp := h.startedPerm
    simp only [append_assoc] at hp ⊢
    exact hp.trans ((perm_shift hS hD).symm.append_left _)

theorem InvA.drain {s : State} (h : InvA s) (hm : ¬ s.main.inDeq) :
    InvA { s with done := (drain s.done s.nextDeq).2.1, safeDone := s.safeDone ++ (drain s.done s.nextDeq).1,
                  nextDeq := (drain s.done s.nextDeq).2.2 } := by
  obtain ⟨hsplit, hmv, hnd⟩ := drain_spec s.done s.nextDeq
  rw [hnd]
  exact h.moveDone s.main hm hsplit hmv

theorem InvA.safe_head {s : State} {it : Item} {r : List Item} (h : InvA s) (hs : s.safeDone = it :: r) :
    it.ticket = s.returned.length ∧ tks r = range' (s.returned.length + 1) r.length ∧
    s.submitted[s.returned.length]? = some it.data := by
  have hsafe := h.safe
  rw [hs] at hsafe
  simp only [tks, map_cons, length_cons, range'_succ, cons.injEq] at hsafe
  have hdata := h.data it (.inr (.inr (.inl (hs ▸ mem_cons_self))))
  rw [hsafe.1] at hdata
  exact ⟨hsafe.1, hsafe.2, hdata⟩

theorem InvA.deqFast {s : State} {it : Item} {r : List Item} (c : List Op) (h : InvA s) (hs : s.safeDone = it :: r)
    (hic : s.itemCount ≠ 0) : InvA (deqReturn { s with safeDone := r, calls := c } it) := by
  obtain ⟨htk, hrest, hdata⟩ := h.safe_head hs
  have hnd := h.nd
  have hic' := h.ic
  rw [hs, length_cons] at hnd
  have hR : ∀ t, count t (range (s.returned.length + 1)) = count t (range s.returned.length) +
      count t [s.returned.length] := fun t => by rw [range_succ, count_append]
  have hS : ∀ t, count t (tks r) + count t [s.returned.length] = count t (tks s.safeDone) := fun t => by
    rw [hs]; simp only [tks, map_cons, count_cons, count_nil, Nat.zero_add, htk]
  unfold deqReturn
  refine { h with data := fun x hx => h.data x ?_, ret := ?_, safe := ?_, nd := ?_, perm := ?_, ic := ?_,
                  mainDeq := fun hx => False.elim hx, startedPerm := ?_ }
  · exact hx.imp_right (Or.imp_right (Or.imp_left fun hx => hs ▸ mem_cons_of_mem _ hx))
  · simp only [length_append, length_singleton]
    rw [take_add_one, hdata, ← h.ret]; rfl
  · simpa only [length_append, length_singleton, tks] using hrest
  · simp only [length_append, length_singleton]; omega
  · have hp := h.perm
    simp only [append_assoc, length_append, length_singleton] at hp ⊢
    exact (perm_shift hR hS).trans hp
  · simp only [length_append, length_singleton]; omega
  · have hp := h.startedPerm
    simp only [append_assoc, length_append, length_singleton] at hp ⊢
    exact hp.trans (perm_shift hR hS).symm

/-- `dequeue`, slow path: `try_dequeue_done` succeeds — the head of `done` passes through the empty `safe_done` -/
theorem InvA.deqPop {s : State} {it : Item} {r : List Item} (h : InvA s) (hd : s.done = it :: r)
    (ht : it.ticket = s.nextDeq) (hm : s.main.inDeq) :
    InvA (deqReturn { s with done := r, nextDeq := s.nextDeq + 1 } it) := by
  obtain ⟨hsd, hic⟩ := h.mainDeq hm
  have h1 := (h.moveDone (mv := [it]) .idle id hd (by rw [← ht]; rfl)).deqFast s.calls
    (by show s.safeDone ++ [it] = [it]; rw [hsd]; rfl) hic
  simpa only [deqReturn, hsd, length_singleton] using h1

theorem invA_submitBody {s : State} (d : Nat) (h : InvA s) (hm : ¬ s.main.inDeq) : InvA (submitBody s d) := by
  unfold submitBody
  by_cases hst : s.status = 0
  · simp only [hst, if_true]
    exact { ((h.enqueue d hm).drain hm).setWorkers (sameHeld_wakeAll _) with mainDeq := fun hx => False.elim hx }
  · simp only [hst, if_false]
    exact { (h.drain hm).setWorkers (sameHeld_wakeAll _) with mainDeq := fun hx => False.elim hx }

theorem invA_deqTry (cfg : Cfg) {s : State} (h : InvA s) (hm : s.main.inDeq) : InvA (deqTry cfg s) := by
  rcases deqTry_cases cfg s with ⟨it, r, hd, ht, e⟩ | ⟨_, ⟨_, e⟩ | ⟨_, e⟩⟩ <;> rw [e]
  · exact h.deqPop hd ht hm
  · exact { h with mainDeq := fun hx => False.elim hx }
  · exact { h with mainDeq := fun _ => h.mainDeq hm }

theorem invA_step (cfg : Cfg) {s s' : State} (c : Choice) (h : InvA s) (hs : step cfg s c = some s') :
    InvA s' := by
  cases c with
  | worker i spur =>
    cases stepWorker_iff.1 hs with
    | next pc _ hi hpc => exact h.getNextWork hi (by rcases hpc with ⟨rfl, _⟩ | rfl <;> rfl)
    | run it hi => exact h.runCb _ hi
    | store it rc hi => exact (h.store hi).getNextWork (pc := .start) (getElem?_set_self_of_some hi) rfl
  | main c =>
    cases stepMain_iff.1 hs with
    | deqEmpty hm _ => exact { h with mainDeq := fun hx => by rw [hm] at hx; exact hx.elim }
    | deqFast it r _ hic hsd => exact h.deqFast _ hsd hic
    | deqSlow _ hic hsd => exact { h with mainDeq := fun _ => ⟨hsd, hic⟩ }
    | submit d hm => exact invA_submitBody d h (by rw [hm]; exact id)
    | deq spur hm => exact invA_deqTry cfg h (by rcases hm with ⟨hm, _⟩ | hm <;> (rw [hm]; trivial))
    | destroy =>
      exact { h.setWorkers (sameHeld_wakeAll _) with mainDeq := fun hx => by dsimp only at hx; split at hx <;> exact False.elim hx }
    | callSubmit | callStatus | callDestroy | status | joinNext | joinLast =>
      exact { h with mainDeq := fun hx => False.elim hx }

theorem invA_reachable {cfg : Cfg} {n : Nat} {s : State} (hr : Reachable cfg n s) : InvA s := by
  induction hr with
  | init => exact invA_init n
  | step c _ hs ih => exact invA_step cfg c ih hs

theorem InvA.nextDeq_of_inDeq {s : State} (h : InvA s) (hm : s.main.inDeq) : s.nextDeq = s.returned.length := by
  rw [h.nd, (h.mainDeq hm).1]; rfl

theorem InvA.done_head_data {s : State} {it : Item} {r : List Item} (h : InvA s) (hm : s.main.inDeq)
    (hd : s.done = it :: r) (ht : it.ticket = s.nextDeq) : s.submitted[s.returned.length]? = some it.data := by
  have := h.data it (.inr (.inl (hd ▸ mem_cons_self)))
  rwa [ht, h.nextDeq_of_inDeq hm] at this

theorem InvA.done_head_of_mem {s : State} (h : InvA s) (hm : s.nextDeq ∈ tks s.done) :
    ∃ it r, s.done = it :: r ∧ it.ticket = s.nextDeq := by
  cases hd : s.done with
  | nil => rw [hd] at hm; cases hm
  | cons it r =>
    refine ⟨it, r, rfl, ?_⟩
    have hs := h.doneSorted
    have hg := h.doneGe
    rw [hd] at hs hg hm
    simp only [tks, map_cons, pairwise_cons, mem_cons] at hs hg hm
    rcases hm with h1 | h1
    · exact h1.symm
    · have := hs.1 _ h1
      have := hg it.ticket (Or.inl rfl)
      omega

theorem InvA.started_of_finishing {s : State} (hA : InvA s) {i : Nat} {it : Item} {rc : Int}
    (hi : s.workers[i]? = some (.finishing it rc)) : ∃ p ∈ s.started, p.2.ticket = it.ticket ∧ p.2.data = it.data := by
  have : it.ticket ∈ s.started.map (·.2.ticket) :=
    hA.startedPerm.mem_iff.2 (mem_append_right _ (mem_flatMap_of_getElem? hi mem_cons_self))
  obtain ⟨p, hp, hpt⟩ := mem_map.1 this
  refine ⟨p, hp, hpt, ?_⟩
  have h1 := hA.startedData p hp
  have h2 := hA.data it (.inr (.inr (.inr (mem_flatMap_of_getElem? hi mem_cons_self))))
  rw [hpt, h2] at h1
  exact (Option.some.inj h1).symm

/-- the main thread has passed the lock of `destroy` -/
def MPc.inJoin : MPc → Prop
  | .join _ => True
  | .finished => True
  | _ => False

structure InvB (cfg : Cfg) (s : State) : Prop where
  /-- a worker that waits on `queue_cond` without having been signalled has nothing to do: the queue is empty
  and `destroy` has not yet taken the lock (every `submit` and `destroy` broadcasts) -/
  waitQ : ∀ i : Nat, s.workers[i]? = some (WPc.waitQ false) → s.queue = [] ∧ ¬ s.main.inJoin
  /-- a worker only exits after the status became non-zero -/
  exited : ∀ i : Nat, s.workers[i]? = some WPc.exited → s.status ≠ 0
  joinSt : s.main.inJoin → s.status ≠ 0
  joinLt : ∀ j, s.main = .join j → j < s.workers.length
  /-- the main thread waits on `done_cond` unsignalled only while nothing is dequeuable (every
  `store_completed` broadcasts) and — repaired code — the status is still zero -/
  deqWait : s.main = .deqWait false →
    (∀ it r, s.done = it :: r → it.ticket ≠ s.nextDeq) ∧ (cfg.repaired = true → s.status = 0)

theorem invB_init (cfg : Cfg) (n : Nat) : InvB cfg (init n) := by
  have hw : ∀ (i : Nat) (pc : WPc), (init n).workers[i]? = some pc → pc = .start :=
    fun i pc hi => eq_of_mem_replicate (mem_of_getElem? hi)
  refine ⟨fun i hi => ?_, fun i hi => ?_, False.elim, fun j hx => ?_, fun hx => ?_⟩
  · cases hw i _ hi
  · cases hw i _ hi
  · cases hx
  · cases hx

theorem wakeMain_inJoin (m : MPc) : (wakeMain m).inJoin ↔ m.inJoin := by
  cases m <;> exact Iff.rfl

theorem getElem?_wakeAll (ws : List WPc) (j : Nat) :
    (wakeAll ws)[j]? ≠ some (.waitQ false) ∧ ((wakeAll ws)[j]? = some .exited → ws[j]? = some .exited) ∧
    ∀ it rc, (wakeAll ws)[j]? = some (.finishing it rc) → ws[j]? = some (.finishing it rc) := by
  rw [wakeAll, getElem?_map]
  cases ws[j]? with
  | none => exact ⟨nofun, nofun, nofun⟩
  | some pc => cases pc <;> simp [wakeW]

theorem InvB.frameMain {cfg : Cfg} {s s' : State} (h : InvB cfg s)
    (hw : s'.workers = s.workers) (hq : s'.queue = s.queue) (hst : s'.status = s.status)
    (hj : ¬ s'.main.inJoin) (hdw : s'.main ≠ .deqWait false) : InvB cfg s' := by
  constructor
  · intro i hi; rw [hw] at hi; rw [hq]; exact ⟨(h.waitQ i hi).1, hj⟩
  · intro i hi; rw [hw] at hi; rw [hst]; exact h.exited i hi
  · intro hx; exact absurd hx hj
  · intro j hx; exact absurd (by rw [hx]; trivial) hj
  · intro hx; exact absurd hx hdw

theorem InvB.setWorker {cfg : Cfg} {s s' : State} {i : Nat} {pc : WPc} (h : InvB cfg s)
    (hw : s'.workers = s.workers.set i pc) (hm : s'.main = s.main) (hst : s'.status = s.status)
    (hd : s'.done = s.done) (hn : s'.nextDeq = s.nextDeq) (hq : s.queue = [] → s'.queue = [])
    (hpcW : pc = .waitQ false → s'.queue = [] ∧ s.status = 0) (hpcE : pc = .exited → s.status ≠ 0) :
    InvB cfg s' := by
  constructor
  · intro j hj
    rw [hw] at hj; rw [hm]
    rcases getElem?_set_cases hj with ⟨_, hb⟩ | ⟨_, hj⟩
    · exact ⟨(hpcW hb.symm).1, fun hx => h.joinSt hx (hpcW hb.symm).2⟩
    · exact ⟨hq (h.waitQ j hj).1, (h.waitQ j hj).2⟩
  · intro j hj
    rw [hw] at hj; rw [hst]
    rcases getElem?_set_cases hj with ⟨_, hb⟩ | ⟨_, hj⟩
    · exact hpcE hb.symm
    · exact h.exited j hj
  · rw [hm, hst]; exact h.joinSt
  · rw [hm, hw, length_set]; exact h.joinLt
  · rw [hm, hd, hn, hst]; exact h.deqWait

theorem InvB.getNextWork {cfg : Cfg} {s : State} {i : Nat} (h : InvB cfg s) : InvB cfg (getNextWork s i) := by
  rcases getNextWork_cases s i with ⟨hst, e⟩ | ⟨hst, hq, e⟩ | ⟨it, q, hst, hq, e⟩ <;> rw [e]
  · exact h.setWorker rfl rfl rfl rfl rfl id nofun fun _ => hst
  · exact h.setWorker rfl rfl rfl rfl rfl id (fun _ => ⟨hq, hst⟩) nofun
  · exact h.setWorker rfl rfl rfl rfl rfl (fun hx => nomatch hq ▸ hx) nofun nofun

theorem InvB.store {cfg : Cfg} {s : State} (i : Nat) (it : Item) (rc : Int) (h : InvB cfg s) :
    InvB cfg (stored s i it rc) := by
  have hsticky : s.status ≠ 0 → (stored s i it rc).status ≠ 0 := fun h0 => stored_status_ne_zero i it (.inl h0)
  unfold stored at hsticky ⊢
  constructor
  · intro j hj
    rcases getElem?_set_cases hj with ⟨_, hb⟩ | ⟨_, hj⟩
    · cases hb
    · exact ⟨(h.waitQ j hj).1, fun hx => (h.waitQ j hj).2 ((wakeMain_inJoin _).1 hx)⟩
  · intro j hj
    rcases getElem?_set_cases hj with ⟨_, hb⟩ | ⟨_, hj⟩
    · cases hb
    · exact hsticky (h.exited j hj)
  · exact fun hx => hsticky (h.joinSt ((wakeMain_inJoin _).1 hx))
  · intro j hj
    rw [length_set]
    refine h.joinLt j ?_
    revert hj
    show wakeMain s.main = .join j → s.main = .join j
    cases s.main <;> simp [wakeMain]
  · intro hx
    exfalso; revert hx
    show wakeMain s.main ≠ .deqWait false
    cases s.main <;> nofun

theorem invB_deqTry (cfg : Cfg) {s : State} (h : InvB cfg s) : InvB cfg (deqTry cfg s) := by
  rcases deqTry_cases cfg s with ⟨it, r, _, _, e⟩ | ⟨hnd, ⟨_, e⟩ | ⟨hst, e⟩⟩ <;> rw [e]
  · exact h.frameMain rfl rfl rfl id nofun
  · exact h.frameMain rfl rfl rfl id nofun
  · exact ⟨fun i hi => ⟨(h.waitQ i hi).1, id⟩, h.exited, False.elim, nofun, fun _ => ⟨hnd, hst⟩⟩

theorem invB_reachable {cfg : Cfg} {n : Nat} {s : State} (hr : Reachable cfg n s) : InvB cfg s := by
  refine hr.rules (invB_init cfg n) (fun s _ i _ h hw => ?_) (fun s _ _ h hm => ?_)
  · cases hw with
    | next pc _ hi hpc => exact h.getNextWork
    | run it hi => exact h.setWorker rfl rfl rfl rfl rfl id nofun nofun
    | store it rc hi => exact (h.store i it rc).getNextWork
  cases hm with
  | callSubmit | deqFast | deqSlow | callStatus | callDestroy | status => exact h.frameMain rfl rfl rfl id nofun
  | deqEmpty hm _ => exact h.frameMain rfl rfl rfl (by rw [hm]; exact id) (by rw [hm]; nofun)
  | submit d _ =>
    -- the queue may grow, but every worker is woken
    obtain ⟨hst, hws, hm, _⟩ := submitBody_frame s d
    refine ⟨fun i hi => ?_, fun i hi => ?_, ?_, ?_, ?_⟩
    · rw [hws] at hi; exact absurd hi (getElem?_wakeAll _ _).1
    · rw [hws] at hi; rw [hst]; exact h.exited i ((getElem?_wakeAll _ _).2.1 hi)
    all_goals rw [hm]; nofun
  | deq spur _ => exact invB_deqTry cfg h
  | destroy =>
    refine ⟨fun i hi => absurd hi (getElem?_wakeAll _ _).1, fun _ _ => (by decide : (-1 : Int) ≠ 0),
      fun _ => (by decide : (-1 : Int) ≠ 0), fun j hx => ?_, fun hx => ?_⟩
    · show j < (wakeAll s.workers).length
      rw [wakeAll, length_map]
      dsimp only at hx
      split at hx <;> cases hx
      omega
    · dsimp only at hx
      split at hx <;> cases hx
  | joinNext i hm _ hlt =>
    have hin : s.main.inJoin := by rw [hm]; trivial
    exact ⟨fun j hj => absurd hin (h.waitQ j hj).2, h.exited, fun _ => h.joinSt hin, fun j hx => by cases hx; exact hlt,
      nofun⟩
  | joinLast i hm _ _ =>
    have hin : s.main.inJoin := by rw [hm]; trivial
    exact ⟨fun j hj => absurd hin (h.waitQ j hj).2, h.exited, fun _ => h.joinSt hin, nofun, nofun⟩

/-- what a step of the main thread does to the fields it shares with the workers -/
structure MainStep.Shared (s s' : State) : Prop where
  started : s'.started = s.started
  /-- the workers are left alone or all woken (`submit`, `destroy`) -/
  workers : s'.workers = s.workers ∨ s'.workers = wakeAll s.workers
  /-- only `destroy` writes the status -/
  status : s'.status = s.status ∨ s.main = .destroyLock ∧ s'.status = -1 ∧ s'.main.inJoin
  /-- after a failure nothing is enqueued -/
  failed : s.status ≠ 0 → s'.queue = s.queue ∧ s'.submitted = s.submitted
  inJoin : s.main.inJoin → s'.main.inJoin

theorem MainStep.shared {cfg : Cfg} {s s' : State} {c : MChoice} (h : MainStep cfg s c s') : MainStep.Shared s s' := by
  cases h with
  | submit d hm =>
    obtain ⟨hst, hws, _, hsta, _⟩ := submitBody_frame s d
    exact ⟨hsta, .inr hws, .inl hst, fun h0 => by simp [submitBody, h0], fun hj => by rw [hm] at hj; exact hj.elim⟩
  | deq spur hm =>
    have hj : ¬ s.main.inJoin := by rcases hm with ⟨hm, _⟩ | hm <;> (rw [hm]; exact id)
    rcases deqTry_cases cfg s with ⟨it, r, _, _, e⟩ | ⟨_, ⟨_, e⟩ | ⟨_, e⟩⟩ <;> rw [e] <;>
      exact ⟨rfl, .inl rfl, .inl rfl, fun _ => ⟨rfl, rfl⟩, fun hx => absurd hx hj⟩
  | destroy hm =>
    exact ⟨rfl, .inr rfl, .inr ⟨hm, rfl, by dsimp only; split <;> trivial⟩, fun _ => ⟨rfl, rfl⟩,
      fun hj => by rw [hm] at hj; exact hj.elim⟩
  | deqEmpty hm _ => exact ⟨rfl, .inl rfl, .inl rfl, fun _ => ⟨rfl, rfl⟩, id⟩
  | joinNext | joinLast => exact ⟨rfl, .inl rfl, .inl rfl, fun _ => ⟨rfl, rfl⟩, fun _ => trivial⟩
  | callSubmit _ hm | deqFast _ _ hm _ _ | deqSlow hm _ _ | callStatus hm | callDestroy hm | status hm =>
    exact ⟨rfl, .inl rfl, .inl rfl, fun _ => ⟨rfl, rfl⟩, fun hj => by rw [hm] at hj; exact hj.elim⟩

theorem getNextWork_length (s : State) (i : Nat) : (getNextWork s i).workers.length = s.workers.length := by
  obtain ⟨q, pc, e, _⟩ := getNextWork_eq s i
  rw [e]; exact length_set

theorem step_length (cfg : Cfg) {s s' : State} (c : Choice) (hs : step cfg s c = some s') :
    s'.workers.length = s.workers.length := by
  cases c with
  | worker i spur =>
    cases stepWorker_iff.1 hs with
    | next pc _ hi hpc => exact getNextWork_length _ _
    | run it hi => exact length_set
    | store it rc hi => rw [getNextWork_length]; exact length_set
  | main c =>
    rcases (stepMain_iff.1 hs).shared.workers with e | e <;> rw [e]
    exact length_map _

theorem workers_length_reachable {cfg : Cfg} {n : Nat} {s : State} (hr : Reachable cfg n s) :
    s.workers.length = n := by
  induction hr with
  | init => simp [init]
  | step c _ hs ih => rw [step_length cfg c hs, ih]

theorem stepWorker_isSome (cfg : Cfg) (s : State) (i : Nat) :
    (stepWorker cfg s i false).isSome = workerEnabled s i := by
  unfold stepWorker workerEnabled
  cases s.workers[i]? with
  | none => rfl
  | some pc =>
    cases pc with
    | waitQ sig => cases sig <;> rfl
    | _ => rfl

theorem stepMain_cont_isSome (cfg : Cfg) (s : State) :
    (stepMain cfg s (.cont false)).isSome = mainContEnabled s := by
  unfold stepMain mainContEnabled
  cases s.main with
  | deqWait sig => cases sig <;> rfl
  | join i =>
    show (if s.workers[i]? = some .exited then _ else none).isSome = (s.workers[i]? == some .exited)
    by_cases h : s.workers[i]? = some .exited
    · rw [if_pos h, h]; split <;> rfl
    · rw [if_neg h]; exact (beq_eq_false_iff_ne.2 h).symm
  | _ => rfl

theorem workerEnabled_of_getElem? {s : State} {i : Nat} {pc : WPc} (hi : s.workers[i]? = some pc)
    (h1 : pc ≠ .waitQ false) (h2 : pc ≠ .exited) : workerEnabled s i = true := by
  unfold workerEnabled
  rw [hi]
  cases pc with
  | waitQ sig => cases sig <;> first | rfl | exact absurd rfl h1
  | exited => exact absurd rfl h2
  | _ => rfl

theorem lt_of_workerEnabled {s : State} {i : Nat} (h : workerEnabled s i = true) : i < s.workers.length := by
  unfold workerEnabled at h
  cases hi : s.workers[i]? with
  | none => rw [hi] at h; cases h
  | some pc => exact (List.getElem?_eq_some_iff.1 hi).1

theorem isDeadlock_eq_false {s : State} :
    isDeadlock s = false ↔ (mainInCall s = true → mainContEnabled s = true ∨ ∃ i, workerEnabled s i = true) := by
  unfold isDeadlock
  cases mainInCall s with
  | false => simp
  | true =>
    simp only [Bool.true_and, Bool.and_eq_false_iff, Bool.not_eq_false', all_eq_false, mem_range, Bool.not_eq_true,
      true_imp_iff]
    exact or_congr_right ⟨fun ⟨i, _, hw⟩ => ⟨i, hw⟩, fun ⟨i, hw⟩ => ⟨i, lt_of_workerEnabled hw, hw⟩⟩

theorem isDeadlock_eq_false_iff (cfg : Cfg) (s : State) :
    isDeadlock s = false ↔
      (mainInCall s = true → ∃ c s', (∀ op, c ≠ .main (.call op)) ∧ stepStrict cfg s c = some s') := by
  rw [isDeadlock_eq_false]
  refine imp_congr_right fun _ => ⟨?_, ?_⟩
  · rintro (hm | ⟨i, hw⟩)
    · obtain ⟨s', hs⟩ := Option.isSome_iff_exists.1 ((stepMain_cont_isSome cfg s).trans hm)
      exact ⟨.main (.cont false), s', nofun, stepStrict_eq_some.2 ⟨rfl, hs⟩⟩
    · obtain ⟨s', hs⟩ := Option.isSome_iff_exists.1 ((stepWorker_isSome cfg s i).trans hw)
      exact ⟨.worker i false, s', nofun, stepStrict_eq_some.2 ⟨rfl, hs⟩⟩
  · rintro ⟨c, s', hc, hs⟩
    obtain ⟨hstrict, hs⟩ := stepStrict_eq_some.1 hs
    cases c with
    | main mc =>
      cases mc with
      | call op => exact absurd rfl (hc op)
      | cont spur =>
        cases spur <;> cases hstrict
        exact .inl ((stepMain_cont_isSome cfg s).symm.trans (Option.isSome_iff_exists.2 ⟨s', hs⟩))
    | worker i spur =>
      cases spur <;> cases hstrict
      exact .inr ⟨i, (stepWorker_isSome cfg s i).symm.trans (Option.isSome_iff_exists.2 ⟨s', hs⟩)⟩

theorem InvA.somewhere {s : State} (h : InvA s) {t : Nat} (ht : t < s.submitted.length) :
    t < s.returned.length ∨ t ∈ tks s.safeDone ∨ t ∈ tks s.done ∨ t ∈ tkF s ∨ t ∈ tkW s ∨ t ∈ tks s.queue := by
  have : t ∈ range s.nextTicket := by rw [h.nt]; exact mem_range.2 ht
  have := (h.perm.mem_iff).2 this
  simpa [mem_append, mem_range, or_assoc] using this

/-- on the slow path of `dequeue` with nothing dequeuable, the awaited ticket is still queued or in the hands of a worker -/
theorem InvA.awaited {s : State} (h : InvA s) (hm : s.main.inDeq)
    (hnd : ∀ it r, s.done = it :: r → it.ticket ≠ s.nextDeq) :
    s.nextDeq ∈ tks s.queue ∨ s.nextDeq ∈ tkW s ∨ s.nextDeq ∈ tkF s := by
  obtain ⟨hsd, hic⟩ := h.mainDeq hm
  have hnd' := h.nextDeq_of_inDeq hm
  have hlt : s.nextDeq < s.submitted.length := by have := h.ic; omega
  rcases h.somewhere hlt with h1 | h1 | h1 | h1 | h1 | h1
  · omega
  · rw [hsd] at h1; cases h1
  · obtain ⟨it, r, hd, ht⟩ := h.done_head_of_mem h1
    exact absurd ht (hnd it r hd)
  · exact .inr (.inr h1)
  · exact .inr (.inl h1)
  · exact .inl h1

/-- **Progress from the invariants.**  With the repaired `dequeue` and at least one worker, a state that satisfies `InvA` and
`InvB` is no dead-lock: inside a call the main thread can go on, or it waits for a ticket that a worker can advance, or it
joins a worker that can reach its exit. -/
theorem not_deadlock_of_inv {cfg : Cfg} {s : State} (hA : InvA s) (hB : InvB cfg s) (hrep : cfg.repaired = true)
    (hn : 0 < s.workers.length) : isDeadlock s = false := by
  refine isDeadlock_eq_false.2 fun hcall => ?_
  cases hm : s.main with
  | deqWait sig =>
    cases sig with
    | true => exact .inl (by rw [mainContEnabled, hm])
    | false =>
      obtain ⟨hnd, hst⟩ := hB.deqWait hm
      rcases hA.awaited (by rw [hm]; trivial) hnd with hq | hw | hw
      · -- the awaited ticket is still queued: worker 0 cannot be asleep
        obtain ⟨pc, hpc⟩ : ∃ pc, s.workers[0]? = some pc := ⟨_, getElem?_eq_getElem hn⟩
        refine .inr ⟨0, workerEnabled_of_getElem? hpc (fun hx => ?_) fun hx => ?_⟩
        · rw [hx] at hpc
          rw [(hB.waitQ 0 hpc).1] at hq; cases hq
        · rw [hx] at hpc
          exact hB.exited 0 hpc (hst hrep)
      -- a worker holds it, inside the callback or on its way to `store_completed`: that worker is neither asleep nor gone
      all_goals
        obtain ⟨pc, hpc, hin⟩ := mem_flatMap.1 hw
        obtain ⟨i, hi⟩ := getElem?_of_mem hpc
        refine .inr ⟨i, workerEnabled_of_getElem? hi ?_ ?_⟩ <;> (rintro rfl; cases hin)
  | join i =>
    obtain ⟨pc, hpc⟩ : ∃ pc, s.workers[i]? = some pc := ⟨_, getElem?_eq_getElem (hB.joinLt i hm)⟩
    by_cases hx : pc = .exited
    · exact .inl (by simp [mainContEnabled, hm, hpc, hx])
    · refine .inr ⟨i, workerEnabled_of_getElem? hpc (fun hw => ?_) hx⟩
      rw [hw] at hpc
      exact (hB.waitQ i hpc).2 (by rw [hm]; trivial)
  | idle | finished => rw [mainInCall, hm] at hcall; cases hcall
  | submitLock | deqLock | statusLock | destroyLock => exact .inl (by rw [mainContEnabled, hm])

structure InvC (cfg : Cfg) (s : State) : Prop where
  /-- the `rc` a worker carries to `store_completed` is what the callback returned for that item -/
  finRc : ∀ (i : Nat) (it : Item) (rc : Int), s.workers[i]? = some (WPc.finishing it rc) → rc = cfg.rcOf it.data
  /-- a non-zero status is the return value of a callback that ran (or −1 set by `destroy`) -/
  statusFrom : s.status ≠ 0 → s.main.inJoin ∨ ∃ p ∈ s.started, cfg.rcOf p.2.data = s.status
  /-- a failure is never lost: once the failing worker has passed `store_completed` the status is non-zero -/
  failSeen : ∀ p ∈ s.started, cfg.rcOf p.2.data ≠ 0 → s.status ≠ 0 ∨ p.2.ticket ∈ tkF s

theorem invC_init (cfg : Cfg) (n : Nat) : InvC cfg (init n) := by
  refine ⟨fun i it rc hi => ?_, fun h => absurd rfl h, nofun⟩
  cases (eq_of_mem_replicate (mem_of_getElem? hi) : WPc.finishing it rc = .start)

theorem InvC.frame {cfg : Cfg} {s s' : State} (h : InvC cfg s)
    (hfin : ∀ (i : Nat) (it : Item) (rc : Int), s'.workers[i]? = some (WPc.finishing it rc) →
      ∃ j : Nat, s.workers[j]? = some (WPc.finishing it rc))
    (hst : s'.status = s.status) (hstarted : s'.started = s.started)
    (hjoin : s.main.inJoin → s'.main.inJoin) (htk : tkF s' = tkF s) : InvC cfg s' := by
  refine ⟨fun i it rc hi => ?_, fun h0 => ?_, fun p hp hrc => ?_⟩
  · obtain ⟨j, hj⟩ := hfin i it rc hi
    exact h.finRc j it rc hj
  · rw [hst] at h0 ⊢
    rw [hstarted]
    exact (h.statusFrom h0).imp_left hjoin
  · rw [hstarted] at hp
    rw [hst, htk]
    exact h.failSeen p hp hrc

theorem InvC.getNextWork {cfg : Cfg} {s : State} {i : Nat} {pc : WPc} (h : InvC cfg s)
    (hi : s.workers[i]? = some pc) (hpc : pc.tkF = []) : InvC cfg (getNextWork s i) := by
  obtain ⟨q, pc', e, hpc'⟩ := getNextWork_eq s i
  rw [e]
  refine h.frame (fun j it rc hj => ?_) rfl rfl id (flatMap_set_same hi (hpc'.trans hpc.symm))
  rcases getElem?_set_cases hj with ⟨_, hb⟩ | ⟨_, hj⟩
  · rw [← hb] at hpc'; cases hpc'
  · exact ⟨j, hj⟩

theorem invC_reachable {cfg : Cfg} {n : Nat} {s : State} (hr : Reachable cfg n s) : InvC cfg s := by
  refine hr.rules (invC_init cfg n) (fun s _ i hr h hw => ?_) (fun s s' _ h hm => ?_)
  · have hA := invA_reachable hr
    cases hw with
    | next pc _ hi hpc => exact h.getNextWork hi (by rcases hpc with ⟨rfl, _⟩ | rfl <;> rfl)
    | run it hi =>
      refine ⟨fun j it' rc hj => ?_, fun h0 => ?_, fun p hp hrc => ?_⟩
      · rcases getElem?_set_cases hj with ⟨_, hb⟩ | ⟨_, hj⟩
        · cases hb; rfl
        · exact h.finRc j it' rc hj
      · exact (h.statusFrom h0).imp_right fun ⟨p, hp, hprc⟩ => ⟨p, mem_append_left _ hp, hprc⟩
      · -- the ticket of the callback that ran joins `tkF`
        rcases mem_append.1 hp with hp | hp
        · exact (h.failSeen p hp hrc).imp_right fun h1 => (mem_set_flatMap WPc.tkF _ hi h1).resolve_right nofun
        · cases mem_singleton.1 hp
          exact .inr (mem_flatMap_of_getElem? (getElem?_set_self_of_some hi) mem_cons_self)
    | store it rc hi =>
      have hrc := h.finRc i it rc hi
      obtain ⟨p0, hp0, hp0t, hp0d⟩ := hA.started_of_finishing hi
      refine InvC.getNextWork (pc := .start) ⟨fun j it' rc' hj => ?_, fun h0 => ?_, fun p hp hprc => ?_⟩
        (getElem?_set_self_of_some hi) rfl
      · rcases getElem?_set_cases hj with ⟨_, hb⟩ | ⟨_, hj⟩
        · cases hb
        · exact h.finRc j it' rc' hj
      · rcases stored_status s i it rc with e | ⟨_, _, e⟩
        · rw [e] at h0 ⊢; exact (h.statusFrom h0).imp_left (wakeMain_inJoin _).2
        · exact .inr ⟨p0, hp0, by rw [e, hp0d, hrc]⟩
      · rcases h.failSeen p hp hprc with h1 | h1
        · exact .inl (stored_status_ne_zero i it (.inl h1))
        · rcases mem_set_flatMap WPc.tkF .start hi h1 with h2 | h2
          · exact .inr h2
          · -- same ticket, hence same data, hence this very failure
            have hd : p.2.data = it.data := by
              have h1 := hA.startedData p hp
              rw [mem_singleton.1 h2, ← hp0t, hA.startedData p0 hp0] at h1
              rw [← hp0d]; exact (Option.some.inj h1).symm
            exact .inl (stored_status_ne_zero i it (.inr (by rw [hrc, ← hd]; exact hprc)))
  have hsh := hm.shared
  have hfin : ∀ (i : Nat) (it : Item) (rc : Int), s'.workers[i]? = some (.finishing it rc) →
      s.workers[i]? = some (.finishing it rc) := by
    rcases hsh.workers with e | e <;> rw [e]
    · exact fun _ _ _ => id
    · exact fun i => (getElem?_wakeAll _ i).2.2
  have htk : tkF s' = tkF s := by
    rcases hsh.workers with e | e <;> simp only [tkF, e]
    exact (sameHeld_wakeAll s).finishing
  rcases hsh.status with hst | ⟨_, hst, hj'⟩
  · exact h.frame (fun i it rc hi => ⟨i, hfin i it rc hi⟩) hst hsh.started hsh.inJoin htk
  · exact ⟨fun i it rc hi => h.finRc i it rc (hfin i it rc hi), fun _ => .inl hj',
      fun p _ _ => .inl (by rw [hst]; decide)⟩

theorem InvC.status_zero {cfg : Cfg} {s : State} (h : InvC cfg s) (hok : ∀ d, cfg.rcOf d = 0)
    (hj : ¬ s.main.inJoin) : s.status = 0 :=
  Decidable.not_not.1 fun h0 => (h.statusFrom h0).elim hj fun ⟨_, _, hp⟩ => h0 (hp ▸ hok _)

/-- a failing item that is past `store_completed` (handed back, in `safe_done` or in `done`) has set the status -/
theorem InvC.stored_failed {cfg : Cfg} {s : State} (hC : InvC cfg s) (hA : InvA s) {t d : Nat}
    (ht : t ∈ range s.returned.length ++ tks s.safeDone ++ tks s.done) (hd : s.submitted[t]? = some d)
    (hrc : cfg.rcOf d ≠ 0) : s.status ≠ 0 := by
  obtain ⟨p, hp, hpt⟩ := mem_map.1 (hA.startedPerm.mem_iff.2 (mem_append_left _ ht))
  have hdata := hA.startedData p hp
  rw [hpt, hd] at hdata
  refine (hC.failSeen p hp (by rw [← Option.some.inj hdata]; exact hrc)).resolve_right fun hF => ?_
  -- every ticket is in one place only, so `t` is not also with a worker on its way to `store_completed`
  have hnd := hA.perm.nodup_iff.2 nodup_range
  exact (nodup_append.1 (nodup_append.1 (nodup_append.1 hnd).1).1).2.2 t ht t (hpt ▸ hF) rfl

def wWeight : WPc → Nat
  | .start => 1
  | .waitQ true => 1
  | .waitQ false => 0
  | .working _ => 2
  | .finishing _ _ => 1
  | .exited => 0

/-- `destroyLock`: the broadcast of `destroy` may raise the weight of each of the `n` workers by one (`2 * n` in `mu`), and
it leads to `join 0`, which weighs `n` -/
def mWeight (n : Nat) : MPc → Nat
  | .idle => 0
  | .submitLock _ => 1
  | .deqLock => 2
  | .deqWait true => 1
  | .deqWait false => 0
  | .statusLock => 1
  | .destroyLock => 3 * n + 1
  | .join i => n - i
  | .finished => 0

/-- work still to be done before every thread is blocked or gone: 6 per queued item, 2 per worker step still
possible without new input, plus the main thread's own remaining steps inside the current call -/
def mu (s : State) : Nat :=
  6 * s.queue.length + 2 * (s.workers.map wWeight).sum + mWeight s.workers.length s.main

theorem sum_wWeight_wakeAll (ws : List WPc) : ((wakeAll ws).map wWeight).sum ≤ (ws.map wWeight).sum + ws.length := by
  induction ws with
  | nil => simp [wakeAll]
  | cons pc r ih =>
    simp only [wakeAll, map_cons, sum_cons, length_cons] at ih ⊢
    have : wWeight (wakeW pc) ≤ wWeight pc + 1 := by
      cases pc with
      | waitQ sig => cases sig <;> simp [wakeW, wWeight]
      | _ => simp [wakeW, wWeight]
    omega

theorem mWeight_wakeMain_le (n : Nat) (m : MPc) : mWeight n (wakeMain m) ≤ mWeight n m + 1 := by
  cases m with
  | deqWait sig => cases sig <;> simp [wakeMain, mWeight]
  | _ => simp [wakeMain]

theorem mu_getNextWork (s : State) (i : Nat) (pc : WPc) (hi : s.workers[i]? = some pc) :
    mu (getNextWork s i) + 2 * wWeight pc ≤ mu s := by
  have hsum := fun b => sum_map_set wWeight s.workers i pc b hi
  rcases getNextWork_cases s i with ⟨_, e⟩ | ⟨_, _, e⟩ | ⟨it, q, _, hq, e⟩ <;> rw [e]
  · have := hsum .exited
    simp only [mu, length_set, wWeight] at this ⊢
    omega
  · have := hsum (.waitQ false)
    simp only [mu, length_set, wWeight] at this ⊢
    omega
  · have := hsum (.working it)
    simp only [mu, length_set, wWeight, hq, length_cons] at this ⊢
    omega

theorem mu_decreases (cfg : Cfg) {s s' : State} (c : Choice) (hs : stepStrict cfg s c = some s')
    (hin : mainInCall s = true) (hin' : mainInCall s' = true) : mu s' < mu s := by
  obtain ⟨hstrict, hs⟩ := stepStrict_eq_some.1 hs
  cases c with
  | worker i spur =>
    cases spur <;> cases hstrict
    cases stepWorker_iff.1 hs with
    | next pc _ hi hpc =>
      have := mu_getNextWork s i pc hi
      rcases hpc with ⟨rfl, _⟩ | rfl <;> (simp only [Bool.not_false, wWeight] at this; omega)
    | run it hi =>
      have := sum_map_set wWeight s.workers i _ (.finishing it (cfg.rcOf it.data)) hi
      simp only [mu, length_set, wWeight] at this ⊢
      omega
    | store it rc hi =>
      have h1 := sum_map_set wWeight s.workers i _ .start hi
      have h2 := mu_getNextWork (stored s i it rc) i .start (getElem?_set_self_of_some hi)
      have h3 := mWeight_wakeMain_le s.workers.length s.main
      simp only [mu, stored, length_set, wWeight] at h1 h2 h3 ⊢
      omega
  | main mc =>
    -- the main thread is inside a call: it cannot make another one
    have hne : s.main ≠ .idle := fun hm => by rw [mainInCall, hm] at hin; cases hin
    cases stepMain_iff.1 hs with
    | callSubmit _ hm | deqEmpty hm _ | deqFast _ _ hm _ _ | deqSlow hm _ _ | callStatus hm | callDestroy hm =>
      exact absurd hm hne
    | submit d hm =>
      obtain ⟨_, _, hidle, _, _⟩ := submitBody_frame s d
      rw [mainInCall, hidle] at hin'; cases hin'
    | status hm | joinLast _ hm _ _ => cases hin'
    | deq spur hm =>
      cases spur <;> cases hstrict
      rcases deqTry_cases cfg s with ⟨it, r, _, _, e⟩ | ⟨_, ⟨_, e⟩ | ⟨_, e⟩⟩ <;> rw [e] at hin' ⊢
      · cases hin'
      · cases hin'
      · rcases hm with ⟨hm, _⟩ | hm <;> (simp only [mu, hm, Bool.not_false, mWeight]; omega)
    | destroy hm =>
      have hw := sum_wWeight_wakeAll s.workers
      by_cases h0 : s.workers.length = 0
      · simp only [mainInCall, h0, if_true] at hin'; cases hin'
      · simp only [mu, hm, mWeight, h0, if_false, wakeAll, length_map] at hw ⊢
        omega
    | joinNext i hm _ hlt =>
      simp only [mu, hm, mWeight]
      omega

/-- a strict execution inside one call (either variant of `dequeue`, any number of workers) is paid for by the measure, and
ends in a reachable state inside the call -/
theorem StaysInCall.bound {cfg : Cfg} {n : Nat} {s s' : State} {cs : List Choice} (hx : StaysInCall cfg s cs s')
    (hr : Reachable cfg n s) (hcall : mainInCall s = true) :
    cs.length + mu s' ≤ mu s ∧ Reachable cfg n s' ∧ mainInCall s' = true := by
  induction hx with
  | nil s => exact ⟨by simp, hr, hcall⟩
  | @cons s0 s1 s2 c cs' hs hin _ ih =>
    obtain ⟨h1, h2⟩ := ih (.step c hr (stepStrict_eq_some.1 hs).2) hin
    have := mu_decreases cfg c hs hcall hin
    exact ⟨by simp only [length_cons]; omega, h2⟩

/-- simulation relation: the serial pool run on the calls that have *returned* has produced the same return
values, and (until `destroy` returns) its queue is what the threaded pool still owes the caller -/
def InvR (cfg : Cfg) (s : State) : Prop :=
  ∃ cdone : List Op, s.calls = cdone ++ (mainPending s.main).toList ∧
    (Serial.run cfg.rcOf Serial.init cdone).rets = s.rets ∧
    (s.main ≠ .finished →
      (Serial.run cfg.rcOf Serial.init cdone).queue = s.submitted.drop s.returned.length ∧
      (Serial.run cfg.rcOf Serial.init cdone).status = 0)

theorem invR_init (cfg : Cfg) (n : Nat) : InvR cfg (init n) :=
  ⟨[], rfl, rfl, fun _ => ⟨rfl, rfl⟩⟩

theorem InvR.frame {cfg : Cfg} {s s' : State} (h : InvR cfg s) (hc : s'.calls = s.calls)
    (hp : mainPending s'.main = mainPending s.main) (hr : s'.rets = s.rets) (hsub : s'.submitted = s.submitted)
    (hret : s'.returned = s.returned) (hf : s'.main ≠ .finished → s.main ≠ .finished) : InvR cfg s' := by
  obtain ⟨cdone, h1, h2, h3⟩ := h
  exact ⟨cdone, by rw [hc, hp]; exact h1, by rw [hr]; exact h2, fun hx => by rw [hsub, hret]; exact h3 (hf hx)⟩

theorem InvR.begin {cfg : Cfg} {s s' : State} (h : InvR cfg s) (hm : s.main = .idle) (op : Op)
    (hc : s'.calls = s.calls ++ [op]) (hp : mainPending s'.main = some op) (hr : s'.rets = s.rets)
    (hsub : s'.submitted = s.submitted) (hret : s'.returned = s.returned) : InvR cfg s' := by
  obtain ⟨cdone, h1, h2, h3⟩ := h
  rw [hm] at h1
  exact ⟨cdone, by rw [hc, hp, h1]; exact append_assoc _ _ _, by rw [hr]; exact h2,
    fun _ => by rw [hsub, hret]; exact h3 (by rw [hm]; nofun)⟩

/-- one more completed call: the serial pool makes the same call -/
theorem InvR.complete {cfg : Cfg} {s' : State} {cdone : List Op} (op : Op)
    (hcalls : s'.calls = (cdone ++ [op]) ++ (mainPending s'.main).toList)
    (hrets : (Serial.call cfg.rcOf (Serial.run cfg.rcOf Serial.init cdone) op).rets = s'.rets)
    (hq : s'.main ≠ .finished →
      (Serial.call cfg.rcOf (Serial.run cfg.rcOf Serial.init cdone) op).queue = s'.submitted.drop s'.returned.length ∧
      (Serial.call cfg.rcOf (Serial.run cfg.rcOf Serial.init cdone) op).status = 0) : InvR cfg s' := by
  refine ⟨cdone ++ [op], hcalls, ?_, ?_⟩
  · rw [Serial.run_append]; exact hrets
  · rw [Serial.run_append]; exact hq

theorem InvR.getNextWork {cfg : Cfg} {s : State} (i : Nat) (h : InvR cfg s) : InvR cfg (getNextWork s i) := by
  obtain ⟨q, pc, e, _⟩ := getNextWork_eq s i
  rw [e]; exact h.frame rfl rfl rfl rfl rfl id

theorem invR_reachable {cfg : Cfg} {n : Nat} {s : State} (hok : ∀ d, cfg.rcOf d = 0) (hr : Reachable cfg n s) :
    InvR cfg s := by
  refine hr.rules (invR_init cfg n) (fun s _ i _ h hw => ?_) (fun s _ hreach h hm => ?_)
  · cases hw with
    | next pc _ hi hpc => exact h.getNextWork i
    | run it hi => exact h.frame rfl rfl rfl rfl rfl id
    | store it rc hi =>
      refine InvR.getNextWork i (h.frame rfl ?_ rfl rfl rfl ?_)
      · show mainPending (wakeMain s.main) = mainPending s.main
        cases s.main <;> rfl
      · show wakeMain s.main ≠ .finished → s.main ≠ .finished
        cases s.main <;> simp [wakeMain]
  have hA := invA_reachable hreach
  have hst0 := (invC_reachable hreach).status_zero hok
  have hR := h
  obtain ⟨cdone, h1, h2, h3⟩ := h
  -- a call that has returned: `calls` ends with it and nothing is pending
  have fin : ∀ {op : Op}, s.calls = cdone ++ [op] → s.calls = (cdone ++ [op]) ++ [] := fun h => h.trans (append_nil _).symm
  -- handing back item `it` with `it.ticket = returned.length`
  have hand : ∀ it : Item, s.submitted[s.returned.length]? = some it.data → s.main ≠ .finished →
      (Serial.call cfg.rcOf (Serial.run cfg.rcOf Serial.init cdone) .dequeue).rets = s.rets ++ [.deq (some it.data)] ∧
      (Serial.call cfg.rcOf (Serial.run cfg.rcOf Serial.init cdone) .dequeue).queue
        = s.submitted.drop (s.returned ++ [it.data]).length ∧
      (Serial.call cfg.rcOf (Serial.run cfg.rcOf Serial.init cdone) .dequeue).status = 0 := by
    intro it hd hnf
    obtain ⟨hq, hz⟩ := h3 hnf
    rw [drop_eq_cons_of_getElem? hd] at hq
    simp only [Serial.call, hq, h2, hok, hz, length_append, length_singleton]
    simp
  cases hm with
  | callSubmit _ hm | deqSlow hm _ _ | callStatus hm | callDestroy hm => exact hR.begin hm _ rfl rfl rfl rfl rfl
  | deqEmpty hm hic =>
    rw [hm] at h1
    obtain ⟨hq, hz⟩ := h3 (by rw [hm]; nofun)
    have hlen : s.returned.length = s.submitted.length := by have := hA.ic; omega
    rw [hlen, drop_length] at hq
    refine InvR.complete (cdone := cdone) .dequeue (by simp [mainPending, hm, h1]) ?_ fun _ => ?_
    · simp [Serial.call, hq, h2]
    · simp only [Serial.call, hq]; rw [hlen, drop_length]; exact ⟨rfl, hz⟩
  | deqFast it r hm hic hsd =>
    rw [hm] at h1
    obtain ⟨r1, r2⟩ := hand it (hA.safe_head hsd).2.2 (by rw [hm]; nofun)
    exact InvR.complete (cdone := cdone) .dequeue (by simp [deqReturn, mainPending, h1]) r1 fun _ => r2
  | submit d hm =>
    have h0 := hst0 (by rw [hm]; exact id)
    obtain ⟨hq, hz⟩ := h3 (by rw [hm]; nofun)
    have hle : s.returned.length ≤ s.submitted.length := by have := hA.ic; omega
    rw [hm] at h1
    refine InvR.complete (.submit d) (by simp only [submitBody, h0, if_true]; exact fin h1) ?_ fun _ => ?_
    · simp [Serial.call, hz, h2, submitBody, h0]
    · simp only [Serial.call, hz, submitBody, h0]
      simp [hq, drop_append_of_le_length hle]
  | deq spur hm =>
    have hin : s.main.inDeq := by rcases hm with ⟨hm, _⟩ | hm <;> (rw [hm]; trivial)
    have hp : mainPending s.main = some .dequeue := by rcases hm with ⟨hm, _⟩ | hm <;> (rw [hm]; rfl)
    have hnf : s.main ≠ .finished := fun hx => by rw [hx] at hin; exact hin
    have h0 := hst0 fun hx => by rcases hm with ⟨hm, _⟩ | hm <;> (rw [hm] at hx; exact hx)
    rw [hp] at h1
    rcases deqTry_cases cfg s with ⟨it, r, hd, ht, e⟩ | ⟨_, ⟨hc, _⟩ | ⟨_, e⟩⟩
    · rw [e]
      obtain ⟨r1, r2⟩ := hand it (hA.done_head_data hin hd ht) hnf
      exact InvR.complete .dequeue (fin h1) r1 fun _ => r2
    · exact absurd h0 hc.2
    · rw [e]; exact hR.frame rfl hp.symm rfl rfl rfl fun _ => hnf
  | status hm =>
    have h0 := hst0 (by rw [hm]; exact id)
    obtain ⟨hq, hz⟩ := h3 (by rw [hm]; nofun)
    rw [hm] at h1
    refine InvR.complete .getStatus (fin h1) ?_ fun _ => ⟨hq, hz⟩
    show _ ++ [Ret.status _] = _ ++ [Ret.status _]
    rw [h2, hz, h0]
  | destroy hm =>
    rw [hm] at h1
    by_cases hn : s.workers.length = 0
    · refine InvR.complete .destroy (by simp only [hn, if_true]; exact fin h1) ?_ fun hx => ?_
      · simp [Serial.call, h2, hn]
      · simp [hn] at hx
    · exact ⟨cdone, by simp only [hn, if_false]; exact h1, by simp only [hn, if_false]; exact h2,
        fun _ => h3 (by rw [hm]; nofun)⟩
  | joinNext i hm _ _ => exact hR.frame rfl (by rw [hm]; rfl) rfl rfl rfl fun _ => by rw [hm]; nofun
  | joinLast i hm _ _ =>
    rw [hm] at h1
    exact InvR.complete .destroy (fin h1) (congrArg (· ++ [Ret.destroyed]) h2) nofun

end Sqfs.Pool
