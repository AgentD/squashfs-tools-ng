/-
C01 — `locations[]` of the xattr id table: the (repaired) loop of `write_id_table` records the start of *every*
metadata block of the table, each in its slot, and nothing else.
-/
import Sqfs.Proofs.EncTable
import Sqfs.Proofs.EncXattrLocStores
namespace Sqfs.Enc
open Sqfs.Consts
open Sqfs.MetaWriter (Codec St append run position)

theorem applyStores_range (S : Nat → Nat) (n : Nat) : ∀ m, m ≤ n →
    applyStores n ((List.range m).map (fun j => (j, S j))) = (List.range m).map S ++ List.replicate (n - m) 0 := by
  intro m
  induction m with
  | zero => intro _; rfl
  | succ m ih =>
    intro hm
    unfold applyStores at ih ⊢
    rw [List.range_succ, List.map_append, List.foldl_append, ih (Nat.le_of_succ_le hm), List.map_append, List.append_assoc]
    have hl : ((List.range m).map S).length = m := by simp
    rw [show n - m = (n - (m + 1)) + 1 from (Nat.succ_pred_eq_of_pos (Nat.sub_pos_of_lt hm)).symm, List.replicate_succ]
    simp only [List.map_cons, List.map_nil, List.foldl_cons, List.foldl_nil]
    rw [List.set_append_right _ _ (Nat.le_of_eq hl), hl, Nat.sub_self, List.set_cons_zero, List.singleton_append]

theorem locStores_complete (S : Nat → Nat) (blockAfter : Nat → Nat) (n : Nat) (hn : 0 < n) (hS0 : S 0 = 0)
    (hba : ∀ k, 1 ≤ k → k ≤ n → blockAfter k = S (k / 512)) (hne : ∀ a, a < n / 512 → S (a + 1) ≠ S a) :
    applyStores (locCount n) (locStores (some (locCount n)) blockAfter n) = (List.range (locCount n)).map S := by
  have hc := locCount_eq n
  have hpos : 0 < locCount n := Nat.lt_of_le_of_lt (Nat.zero_le _) (locCount_slot hn)
  have hle : locCount n ≤ n / 512 + 1 := by rw [hc]; split; exact Nat.le_refl _; exact Nat.le_succ _
  rw [(locStores_eq S blockAfter n hS0 hba hne).2 _ hpos, ← List.map_take, List.take_range, Nat.min_eq_left hle,
    applyStores_range S _ _ (Nat.le_refl _), Nat.sub_self, List.replicate_zero, List.append_nil]

theorem blockAfters_getD (cmp : Codec) : ∀ (chunks : List (List UInt8)) (st : St) (k : Nat), 1 ≤ k → k ≤ chunks.length →
    (blockAfters cmp st chunks).getD (k - 1) 0 = ((chunks.take k).foldl (append cmp) st).blockOffset := by
  intro chunks
  induction chunks with
  | nil => intro st k h1 h2; exact absurd (Nat.le_trans h1 h2) (by decide)
  | cons c cs ih =>
    intro st k h1 h2
    cases k with
    | zero => exact absurd h1 (by decide)
    | succ k =>
      cases k with
      | zero => simp [blockAfters]
      | succ k =>
        simp only [blockAfters, Nat.add_sub_cancel, List.getD_cons_succ, List.take_succ_cons, List.foldl_cons]
        have := ih (append cmp st c) (k + 1) (Nat.succ_pos k) (Nat.le_of_succ_le_succ h2)
        simpa using this

theorem encDesc_length (d : XDesc) : (encDesc d).length = sizeofXattrId := by
  simp [encDesc, encFields_length, sizeofXattrId]

theorem encDescs_length (l : List XDesc) : (encDescs l).length = l.length * sizeofXattrId := records_length encDesc_length l

theorem xattrFlush_locs (cmp : Codec) (refOf : Nat → Nat) (w : XWriter) (hn : 0 < (flushKv refOf w).2.length) :
    let f := xattrFlush cmp refOf w
    f.locs = (List.range f.idBlocks.length).map (startOf f.idBlocks) ∧ f.idBlocks.length = locCount f.descs.length := by
  simp only [xattrFlush]
  generalize hd : (flushKv refOf w).2 = descs at hn
  have hcount := run_count cmp (descs.map encDesc)
  have hflat : ((descs.map encDesc).flatten).length = descs.length * 16 := encDescs_length descs
  rw [hflat] at hcount
  have hlc : (run cmp (descs.map encDesc)).out.length = locCount descs.length := by
    rw [hcount]; unfold tableBlockCount locCount; simp only [sizeofXattrId]; rfl
  refine ⟨?_, hlc⟩
  rw [hlc]
  apply locStores_complete (startOf (run cmp (descs.map encDesc)).out) _ descs.length hn (by simp [startOf])
  · intro k h1 h2
    rw [blockAfters_getD cmp _ {} k h1 (by simpa using h2)]
    have hp := writer_position cmp (descs.map encDesc) k
    have hbo : ((List.take k (descs.map encDesc)).foldl (append cmp) {}).blockOffset
        = (position ((List.take k (descs.map encDesc)).foldl (append cmp) {})).1 := rfl
    rw [hbo, hp, ← List.map_take, records_length encDesc_length, List.length_take, Nat.min_eq_left h2]
    simp only [refOfPos]
    rw [descs_div]
  · intro a ha
    exact Nat.ne_of_gt (startOf_strictMono _ a (a + 1) (Nat.lt_succ_self a) (hlc ▸ Nat.le_trans ha (locCount_eq _ ▸ Nat.le_add_right _ _)))

end Sqfs.Enc
