/-
Translation invariance of the block-writer model: running the writer on a file that has `pad` in front of `pre`
gives the same run with every offset shifted by `|pad|` (the answer `0` of a `LAST` call that stored nothing stays `0`,
as in C: `*out = 0`).  This is what the correspondence check relies on when it drives the *real* writer at file
offsets around 4 GiB (harness file with a virtual base of zero bytes) and compares with the model run at offset 0.
-/
import Sqfs.Proofs.BlockWriter
namespace Sqfs.BlockWriter
open Sqfs.Consts

def shiftE (k : Nat) (e : Entry) : Entry := { e with offset := e.offset + k }

theorem shiftE_offset (k : Nat) (e : Entry) : (shiftE k e).offset = e.offset + k := rfl

/-- `s0` moved `|pad|` bytes up -/
def shiftState (pad : Bytes) (s0 : State) : State :=
  { file := pad ++ s0.file, blocks := s0.blocks.map (shiftE pad.length), fileStart := s0.fileStart, hashOnly := s0.hashOnly }

theorem shiftState_blocks (pad : Bytes) (s0 : State) : (shiftState pad s0).blocks = s0.blocks.map (shiftE pad.length) := rfl
theorem shiftState_file (pad : Bytes) (s0 : State) : (shiftState pad s0).file = pad ++ s0.file := rfl
theorem shiftState_fileStart (pad : Bytes) (s0 : State) : (shiftState pad s0).fileStart = s0.fileStart := rfl
theorem shiftState_hashOnly (pad : Bytes) (s0 : State) : (shiftState pad s0).hashOnly = s0.hashOnly := rfl

theorem slice_shift (pad f : Bytes) (off n : Nat) : slice (pad ++ f) (off + pad.length) n = slice f off n := by
  have := List.take_drop_append_right pad f n (Nat.le_add_left pad.length off)
  rwa [Nat.add_sub_cancel] at this

theorem readAt_shift (pad f : Bytes) (off n : Nat) : readAt (pad ++ f) (off + pad.length) n = readAt f off n := by
  unfold readAt
  by_cases hn : n = 0
  · simp [hn]
  · simp only [hn, if_false, List.length_append]
    by_cases h : off + n ≤ f.length
    · rw [if_pos (by rw [Nat.add_right_comm, Nat.add_comm pad.length]; exact Nat.add_le_add_right h _), if_pos h, slice_shift]
    · rw [if_neg (by omega), if_neg h]

theorem rangeEqGo_shift (pad f : Bytes) : ∀ (fuel a b n : Nat),
    rangeEqGo (pad ++ f) fuel (a + pad.length) (b + pad.length) n = rangeEqGo f fuel a b n := by
  intro fuel
  induction fuel with
  | zero => intro a b n; rfl
  | succ fuel ih =>
    intro a b n
    unfold rangeEqGo
    by_cases hn : n = 0
    · simp [hn]
    · simp only [hn, if_false]
      rw [readAt_shift, readAt_shift]
      rw [Nat.add_right_comm a, Nat.add_right_comm b]
      cases readAt f a (min (scratchSize / 2) n) with
      | none => rfl
      | some x =>
        cases readAt f b (min (scratchSize / 2) n) with
        | none => rfl
        | some y =>
          simp only []
          split
          · rfl
          · exact ih _ _ _

theorem hashRun_shift (k : Nat) (l : List Entry) (i fs : Nat) : ∀ (rem j : Nat),
    hashRun (l.map (shiftE k)) i fs rem j = hashRun l i fs rem j := by
  intro rem
  induction rem with
  | zero => intro j; rfl
  | succ rem ih =>
    intro j
    unfold hashRun
    rw [List.getElem?_map, List.getElem?_map]
    cases l[i + j]? with
    | none => rfl
    | some a =>
      cases l[fs + j]? with
      | none => rfl
      | some b =>
        simp only [Option.map_some]
        have : (shiftE k a).sameHash (shiftE k b) = a.sameHash b := rfl
        rw [this, ih]

theorem checkFileRangeEqual_shift (pad f : Bytes) (a b n : Nat) :
    checkFileRangeEqual (pad ++ f) (a + pad.length) (b + pad.length) n = checkFileRangeEqual f a b n :=
  rangeEqGo_shift pad f n a b n

theorem findMatch_shift (pad : Bytes) (s0 : State) (count locA sz fuel i : Nat) :
    findMatch (shiftState pad s0) count (locA + pad.length) sz fuel i = findMatch s0 count locA sz fuel i := by
  -- in each branch the shifted run makes the same three tests (hash run, entry `i`, byte comparison at the moved
  -- offsets) with the same outcome, so it takes that branch too
  fun_induction findMatch s0 count locA sz fuel i <;>
    simp only [findMatch, shiftState_blocks, shiftState_fileStart, shiftState_hashOnly, shiftState_file, hashRun_shift,
      List.getElem?_map, Option.map_some, Option.map_none, shiftE_offset, checkFileRangeEqual_shift, Bool.false_eq_true,
      if_true, if_false, *]

theorem truncate_shift (pad f : Bytes) (m : Nat) : truncate (pad ++ f) (m + pad.length) = pad ++ truncate f m := by
  unfold truncate
  have h1 : List.take (m + pad.length) (pad ++ f) = pad ++ List.take m f := by
    rw [Nat.add_comm, List.take_append, List.take_of_length_le (Nat.le_add_right _ _), Nat.add_sub_cancel_left]
  have h2 : m + pad.length - (pad ++ f).length = m - f.length := by
    rw [List.length_append, Nat.add_comm m, Nat.add_sub_add_left]
  rw [h1, h2, List.append_assoc]

theorem size_shift (k : Nat) (l : List Entry) : (l.map (shiftE k)).map Entry.size = l.map Entry.size := by
  rw [List.map_map]; rfl

/-- the answer of a `LAST` call: shifted, except the literal `0` for a file that stored nothing -/
def shiftLoc (k : Nat) (empty : Bool) (loc0 : Nat) : Nat := if empty then loc0 else loc0 + k

def shiftRes (pad : Bytes) (empty : Bool) : Except Err (State × Nat) → Except Err (State × Nat)
  | .error e => .error e
  | .ok (s0', loc0) => .ok (shiftState pad s0', shiftLoc pad.length empty loc0)

theorem cutAt_shift (pad : Bytes) (s0 : State) (i loc : Nat) :
    cutAt (shiftState pad s0) i (loc + pad.length) = shiftRes pad false (cutAt s0 i loc) := by
  unfold cutAt
  simp only [shiftState_blocks, shiftState_fileStart, List.length_map, List.getElem?_map]
  cases s0.blocks[(if s0.blocks.length - s0.fileStart ≥ s0.fileStart - i
      then i + (s0.blocks.length - s0.fileStart) else s0.fileStart) - 1]? with
  | none => rfl
  | some bl =>
    have e : (shiftE pad.length bl).offset + (shiftE pad.length bl).size = (bl.offset + bl.size) + pad.length :=
      Nat.add_right_comm bl.offset pad.length bl.size
    simp only [Option.map_some, shiftRes, shiftLoc, shiftState, Bool.false_eq_true, if_false, e, truncate_shift,
      List.map_take]

theorem searchAndCut_shift (pad : Bytes) (s0 : State) (b0 : Entry) :
    searchAndCut (shiftState pad s0) (shiftE pad.length b0) = shiftRes pad false (searchAndCut s0 b0) := by
  unfold searchAndCut
  simp only [shiftState_blocks, shiftState_fileStart, List.length_map, ← List.map_drop, size_shift]
  rw [shiftE_offset, findMatch_shift]
  cases findMatch s0 (s0.blocks.length - s0.fileStart) b0.offset
      ((s0.blocks.drop s0.fileStart).map Entry.size).sum s0.fileStart 0 with
  | error e => rfl
  | ok i =>
    simp only [List.getElem?_map]
    cases s0.blocks[i]? with
    | none => rfl
    | some bi =>
      simp only [Option.map_some]
      by_cases hge : i ≥ s0.fileStart
      · simp only [hge, if_true]; rfl
      · simp only [hge, if_false]; exact cutAt_shift pad s0 i bi.offset

theorem dedup_shift (pad : Bytes) (s0 : State) (flags : Nat) :
    deduplicateBlocks (shiftState pad s0) flags =
      shiftRes pad (decide (s0.blocks.length - s0.fileStart = 0)) (deduplicateBlocks s0 flags) := by
  rw [deduplicateBlocks_eq, deduplicateBlocks_eq]
  simp only [shiftState_blocks, shiftState_fileStart, List.length_map, List.getElem?_map]
  by_cases hgt : s0.fileStart > s0.blocks.length
  · rw [if_pos hgt, if_pos hgt]; rfl
  rw [if_neg hgt, if_neg hgt]
  by_cases hc0 : s0.blocks.length - s0.fileStart = 0
  · rw [if_pos hc0, if_pos hc0, decide_eq_true hc0]; rfl
  rw [if_neg hc0, if_neg hc0, decide_eq_false hc0]
  cases s0.blocks[s0.fileStart]? with
  | none => rfl
  | some b0 =>
    simp only [Option.map_some]
    by_cases hdd : hasFlag flags blkDontDeduplicate = true
    · rw [if_pos hdd, if_pos hdd]; rfl
    · rw [if_neg hdd, if_neg hdd]; exact searchAndCut_shift pad s0 b0

theorem afterFirst_shift (pad : Bytes) (s0 : State) (c : Call) :
    afterFirst (shiftState pad s0) c = shiftState pad (afterFirst s0 c) := by
  unfold afterFirst
  split
  · simp [shiftState]
  · rfl

theorem afterStore_shift (pad : Bytes) (s0 : State) (c : Call) :
    afterStore (shiftState pad s0) c = shiftState pad (afterStore s0 c) := by
  unfold afterStore
  split
  · simp only [shiftState, List.map_append, List.map_cons, List.map_nil, shiftE, List.length_append]
    rw [show pad.length + s0.file.length = (pad ++ s0.file).length by simp, writeAt_end, writeAt_end, List.append_assoc]
    simp [Nat.add_comm]
  · rfl

/-- did this call end a file that stored nothing (the writer then answers the literal 0)? -/
def emptyLast (s0 : State) (c : Call) : Bool :=
  c.last && decide ((afterStore (afterFirst s0 c) c).blocks.length - (afterStore (afterFirst s0 c) c).fileStart = 0)

theorem writeDataBlock_shift (pad : Bytes) (s0 : State) (c : Call) :
    writeDataBlock (shiftState pad s0) c.chk c.flags c.data =
      shiftRes pad (emptyLast s0 c) (writeDataBlock s0 c.chk c.flags c.data) := by
  rw [writeDataBlock_eq, writeDataBlock_eq, afterFirst_shift, afterStore_shift]
  unfold emptyLast
  by_cases hl : hasFlag c.flags blkLastBlock = true
  · have hl' : c.last = true := hl
    rw [if_pos hl, if_pos hl, dedup_shift, hl']
    simp
  · have hl' : c.last = false := by
      have : hasFlag c.flags blkLastBlock = false := by simpa using hl
      exact this
    rw [if_neg hl, if_neg hl, hl']
    simp only [Bool.false_and, shiftRes, shiftLoc, Bool.false_eq_true, if_false]
    congr 2
    simp [shiftState, Nat.add_comm]

def emptiesOf : State → List Call → List Bool
  | _, [] => []
  | s, c :: cs =>
    emptyLast s c :: (match writeDataBlock s c.chk c.flags c.data with
      | .ok (s', _) => emptiesOf s' cs
      | .error _ => [])

def shiftLocs (k : Nat) : List Bool → List Nat → List Nat
  | e :: es, l :: ls => shiftLoc k e l :: shiftLocs k es ls
  | _, _ => []

theorem run_shift (pad : Bytes) : ∀ (cs : List Call) (s0 : State),
    run (shiftState pad s0) cs =
      (match run s0 cs with
       | .error e => .error e
       | .ok (s0', locs0) => .ok (shiftState pad s0', shiftLocs pad.length (emptiesOf s0 cs) locs0)) := by
  intro cs
  induction cs with
  | nil => intro s0; rfl
  | cons c cs ih =>
    intro s0
    simp only [run, emptiesOf]
    rw [writeDataBlock_shift]
    cases writeDataBlock s0 c.chk c.flags c.data with
    | error e => rfl
    | ok r =>
      obtain ⟨s1, l1⟩ := r
      simp only [shiftRes]
      rw [ih s1]
      cases run s1 cs with
      | error e => rfl
      | ok r2 =>
        obtain ⟨s2, ls⟩ := r2
        rfl

theorem init_shift (pad pre : Bytes) (wrFlags : Nat) : init (pad ++ pre) wrFlags = shiftState pad (init pre wrFlags) := rfl

end Sqfs.BlockWriter
