/-
Proofs for the step after the C16 round trip (`Sqfs/Model/QuoteFs.lean`, `Sqfs/Spec/QuoteFs.lean`): adding the decoded
entries of a described tree, in the order of the listing, to a fresh `fstree_t` yields `normTree`.

The entries are folded (`foldRel`) along paths relative to the directory they are added to (`relTree`: `specTree` with those
paths).  The first line of a subtree links a childless node into that directory (`addAt_new`, the directory becomes a `bump` of
itself); the lines of everything below are walked through that node and build it up where it stands (`foldRel_below`), so the
induction over the tree (`tree_fs_img`/`forest_fs_img`) can treat it as the directory of its children.  `PairOk`: for the
entries of a described tree `addEntry` is `addAt` on those paths, which makes `addAll` the fold (`build_root`).
-/
import Sqfs.Spec.QuoteFs
import Sqfs.Proofs.Bits
import Sqfs.Proofs.QuoteNode
namespace Sqfs.QuoteFs
open Sqfs.Path (Bytes joinSlash)
open Sqfs.Quote
open Sqfs.Consts

theorem isType_perm (p K T : Nat) (hp : p < 4096) : isType (p ||| K) T = ((K &&& 61440) == T) := by
  unfold isType sIFMT
  rw [mask_perm p K hp]

theorem isType_ifmt {p : Nat} (hp : p < 4096) (k : Kind) :
    isType (p ||| ifmtOf k) sIFDIR = decide (k = .dir) ∧ isType (p ||| ifmtOf k) sIFLNK = decide (k = .slink) ∧
    isType (p ||| ifmtOf k) sIFREG = decide (k = .file) ∧ isType (p ||| ifmtOf k) sIFBLK = decide (k = .blk) ∧
    isType (p ||| ifmtOf k) sIFCHR = decide (k = .chr) := by
  simp only [isType_perm _ _ _ hp]
  cases k <;> decide

/-- the root that `fstree_init` creates, like every implicitly created directory, has the type bits of a directory -/
theorem or_perm_isDir (x : Nat) : isType (sIFDIR ||| (x &&& 0o7777)) sIFDIR = true := by
  rw [Nat.or_comm, isType_perm _ _ _ (Nat.lt_succ_of_le Nat.and_le_right)]
  decide

theorem childByName_name {cs : List FNode} {n : Bytes} {c : FNode} (h : childByName cs n = some c) : c.name = n := by
  fun_induction childByName cs n
  case case1 => cases h
  case case2 => cases h; rfl
  case case3 ih => exact ih h

theorem childByName_insert_self (c : FNode) (cs : List FNode) (h : childByName cs c.name = none) :
    childByName (insertSorted c cs) c.name = some c := by
  fun_induction insertSorted c cs
  case case1 => simp [childByName]
  case case2 x xs hl ih =>
    rw [childByName] at h ⊢
    split at h
    · cases h
    · rename_i hx; rw [if_neg hx]; exact ih h
  case case3 => simp [childByName]

theorem childByName_insert_other (c : FNode) (cs : List FNode) (m : Bytes) (h : m ≠ c.name) :
    childByName (insertSorted c cs) m = childByName cs m := by
  fun_induction insertSorted c cs
  case case1 => simp [childByName, Ne.symm h]
  case case2 x xs hl ih => simp only [childByName, ih]
  case case3 => rw [childByName, if_neg (Ne.symm h)]

theorem replaceChild_self {cs : List FNode} {n : Bytes} {c : FNode} (h : childByName cs n = some c) : replaceChild c cs = cs := by
  have hn := childByName_name h
  fun_induction childByName cs n
  case case1 => rfl
  case case2 => cases h; simp [replaceChild]
  case case3 hx ih => rw [replaceChild, if_neg (hn ▸ hx), ih h hn]

theorem childByName_replace {cs : List FNode} {n : Bytes} {c c' : FNode} (h : childByName cs n = some c) (hn : c'.name = n) :
    childByName (replaceChild c' cs) n = some c' := by
  fun_induction childByName cs n
  case case1 => cases h
  case case2 => simp [replaceChild, hn, childByName]
  case case3 hx ih => rw [replaceChild, if_neg (hn ▸ hx), childByName, if_neg hx, ih h hn]

theorem replaceChild_twice (c1 c2 : FNode) (cs : List FNode) (h : c1.name = c2.name) :
    replaceChild c2 (replaceChild c1 cs) = replaceChild c2 cs := by
  fun_induction replaceChild c1 cs
  case case1 => rfl
  case case2 x xs hx => simp [replaceChild, h, hx.trans h]
  case case3 x xs hx ih => rw [replaceChild, if_neg (h ▸ hx), ih, replaceChild, if_neg (h ▸ hx)]

theorem replace_insert (c c' : FNode) (cs : List FNode) (hn : c'.name = c.name) (h : childByName cs c.name = none) :
    replaceChild c' (insertSorted c cs) = insertSorted c' cs := by
  fun_induction insertSorted c cs
  case case1 => simp [insertSorted, replaceChild, hn]
  case case2 x xs hl ih =>
    rw [childByName] at h
    split at h
    · cases h
    · rename_i hx; rw [replaceChild, if_neg (hn ▸ hx), insertSorted, hn, if_pos hl, ih h]
  case case3 x xs hl => simp [replaceChild, insertSorted, hn, hl]

theorem insertSorted_length (c : FNode) (cs : List FNode) : (insertSorted c cs).length = cs.length + 1 := by
  fun_induction insertSorted c cs <;> simp_all

theorem map_eq_ok {ε α β : Type} {f : α → β} {r : Except ε α} {y : β} (h : r.map f = .ok y) : ∃ x, r = .ok x ∧ y = f x := by
  cases r with
  | error x => cases h
  | ok x => cases h; exact ⟨x, rfl, rfl⟩

theorem bind_eq_ok {ε α β : Type} {f : α → Except ε β} {r : Except ε α} {y : β} (h : r.bind f = .ok y) :
    ∃ x, r = .ok x ∧ f x = .ok y := by
  cases r with
  | error x => cases h
  | ok x => exact ⟨x, rfl, h⟩

/-- entries in the order of the listing, each with the components left to walk from the current directory -/
abbrev RelE := List Bytes × Entry

def foldRel (d : Defaults) (k : Nat) : List RelE → FNode → Except FsErr FNode
  | [], X => .ok X
  | (p, e) :: r, X => (addAt d e p k X).bind (foldRel d k r)

theorem foldRel_append (d : Defaults) (k : Nat) (a b : List RelE) (X : FNode) :
    foldRel d k (a ++ b) X = (foldRel d k a X).bind (foldRel d k b) := by
  induction a generalizing X with
  | nil => rfl
  | cons pe r ih =>
    obtain ⟨p, e⟩ := pe
    simp only [List.cons_append, foldRel]
    cases addAt d e p k X with
    | error x => rfl
    | ok X' => exact ih X'

theorem overwrite_name {c c' : FNode} {e : Entry} {m : Nat} (h : overwrite c e m = .ok c') : c'.name = c.name := by
  cases c with
  | mk n a cs =>
    unfold overwrite at h
    by_cases hc : (!isType a.mode sIFDIR || !isType e.mode sIFDIR || !a.implicit) = true
    · simp [hc] at h
    · simp only [hc, Bool.false_eq_true, if_false, Except.ok.injEq] at h
      rw [← h]; rfl

theorem linkChild_name {X c X' : FNode} (h : linkChild X c = .ok X') : X'.name = X.name := by
  cases X with
  | mk n a cs =>
    unfold linkChild at h
    by_cases hc : a.linkCount = 0xFFFFFFFF
    · simp [hc] at h
    · simp only [hc, if_false, Except.ok.injEq] at h
      rw [← h]; rfl

theorem putChild_name (X c : FNode) : (putChild X c).name = X.name := rfl
theorem putChild_children (X c : FNode) : (putChild X c).children = replaceChild c X.children := rfl
theorem putChild_isDir (X c : FNode) : (putChild X c).isDir = X.isDir := rfl
theorem putChild_attr (X c : FNode) : (putChild X c).attr = X.attr := rfl

theorem addAt_name (d : Defaults) (e : Entry) (p : List Bytes) (k : Nat) (X X' : FNode) (h : addAt d e p k X = .ok X') :
    X'.name = X.name := by
  fun_induction addAt d e p k X
  case case1 => exact overwrite_name h
  case case3 => obtain ⟨x, _, rfl⟩ := map_eq_ok h; rfl
  case case6 => obtain ⟨x, _, rfl⟩ := map_eq_ok h; rfl
  case case4 => obtain ⟨x, _, h2⟩ := bind_eq_ok h; exact linkChild_name h2
  case case9 => obtain ⟨x, _, h2⟩ := bind_eq_ok h; exact linkChild_name h2
  all_goals cases h

/-- walking `n :: p` from a directory that has a child `n` is walking `p` below that child (for `p = []`: the
entry names that child, which is overwritten) -/
theorem addAt_under (d : Defaults) (e : Entry) (n : Bytes) (p : List Bytes) (k : Nat) (X c : FNode) (hd : X.isDir = true)
    (hc : childByName X.children n = some c) :
    addAt d e (n :: p) k X = (addAt d e p (k + 1) c).map (putChild X) := by
  cases p <;> simp only [addAt, hd, Bool.not_true, Bool.false_eq_true, if_false, hc]

def bump (X : FNode) (k : Nat) (cs : List FNode) : FNode :=
  .mk X.name { X.attr with linkCount := X.attr.linkCount + k } cs

theorem bump_bump (X : FNode) (a b : Nat) (cs cs' : List FNode) : bump (bump X a cs) b cs' = bump X (a + b) cs' := by
  simp [bump, FNode.name, FNode.attr, Nat.add_assoc]

theorem bump_isDir (X : FNode) (k : Nat) (cs : List FNode) : (bump X k cs).isDir = X.isDir := rfl
theorem bump_children (X : FNode) (k : Nat) (cs : List FNode) : (bump X k cs).children = cs := rfl
theorem bump_zero (X : FNode) : bump X 0 X.children = X := by cases X; rfl

theorem linkChild_ok (X c : FNode) (h : X.attr.linkCount < 0xFFFFFFFF) :
    linkChild X c = .ok (bump X 1 (insertSorted c X.children)) := by
  cases X with
  | mk n a cs => exact if_neg (Nat.ne_of_lt h)

theorem putChild_bump_insert (X : FNode) (j : Nat) (c c' : FNode) (hn : c'.name = c.name) (h : childByName X.children c.name = none) :
    putChild (bump X j (insertSorted c X.children)) c' = bump X j (insertSorted c' X.children) := by
  cases X with
  | mk n a cs =>
    simp only [FNode.children] at h
    simp only [putChild, bump, FNode.name, FNode.attr, FNode.children, replace_insert c c' cs hn h]

/-- entries that are all to be walked through the child `c` that was linked into `X` last are added below `c`, which keeps
its place among the children -/
theorem foldRel_below (d : Defaults) (k : Nat) (X : FNode) (hX : X.isDir = true) (j : Nat) (n : Bytes)
    (hnone : childByName X.children n = none) :
    ∀ (l : List RelE) (c : FNode), c.name = n →
      foldRel d k (l.map (fun pe => (n :: pe.1, pe.2))) (bump X j (insertSorted c X.children))
        = (foldRel d (k + 1) l c).map (fun c' => bump X j (insertSorted c' X.children))
  | [], _, _ => rfl
  | (p, e) :: r, c, hn => by
    subst hn
    simp only [List.map_cons, foldRel]
    rw [addAt_under d e c.name p k (bump X j (insertSorted c X.children)) c hX (childByName_insert_self c X.children hnone)]
    cases h1 : addAt d e p (k + 1) c with
    | error x => rfl
    | ok c1 =>
      have hn1 := addAt_name d e p (k + 1) c c1 h1
      show foldRel d k (r.map _) (putChild (bump X j (insertSorted c X.children)) c1) = _
      rw [putChild_bump_insert X j c c1 hn1 hnone]
      exact foldRel_below d k X hX j c.name hnone r c1 hn1

mutual
/-- `specTree` with, for every entry, the components left to walk: `rel` is the path of the node relative to the
directory the entries are added to, `abs` its path in the image -/
def relTree (ur : Option Bytes) (abs rel : List Bytes) : Tree → List RelE
  | .mk _ node ch =>
    ((specEntry ur abs node).toList.map (fun e => (rel, e))) ++
      (if node.kind = .dir then relForest ur abs rel ch else [])
def relForest (ur : Option Bytes) (pabs prel : List Bytes) : List Tree → List RelE
  | [] => []
  | .mk name node ch :: ts =>
    relTree ur (pabs ++ [name]) (prel ++ [name]) (.mk name node ch) ++ relForest ur pabs prel ts
end

mutual
theorem relTree_snd (ur : Option Bytes) (abs rel : List Bytes) : (t : Tree) → (relTree ur abs rel t).map (·.2) = specTree ur abs t
  | .mk name node ch => by
    simp only [relTree, specTree, List.map_append, List.map_map]
    congr 1
    · cases specEntry ur abs node <;> simp [Option.toList]
    · by_cases hk : node.kind = .dir
      · simp only [hk, if_true]; exact relForest_snd ur abs rel ch
      · simp only [hk, if_false, List.map_nil]
theorem relForest_snd (ur : Option Bytes) (pabs prel : List Bytes) : (ts : List Tree) → (relForest ur pabs prel ts).map (·.2) = specForest ur pabs ts
  | [] => by simp only [relForest, specForest, List.map_nil]
  | .mk name node ch :: ts => by
    simp only [relForest, specForest, List.map_append]
    rw [relTree_snd ur (pabs ++ [name]) (prel ++ [name]) (.mk name node ch), relForest_snd ur pabs prel ts]
end

mutual
theorem relTree_cons (ur : Option Bytes) (abs : List Bytes) (n : Bytes) (rel : List Bytes) :
    (t : Tree) → relTree ur abs (n :: rel) t = (relTree ur abs rel t).map (fun pe => (n :: pe.1, pe.2))
  | .mk name node ch => by
    have ih := relForest_cons ur abs n rel ch
    unfold relTree
    cases specEntry ur abs node <;> by_cases hk : node.kind = .dir <;> simp [hk, ih, Option.toList]
theorem relForest_cons (ur : Option Bytes) (pabs : List Bytes) (n : Bytes) (prel : List Bytes) :
    (ts : List Tree) → relForest ur pabs (n :: prel) ts = (relForest ur pabs prel ts).map (fun pe => (n :: pe.1, pe.2))
  | [] => by simp only [relForest, List.map_nil]
  | .mk name node ch :: ts => by
    simp only [relForest, List.map_append, List.cons_append]
    rw [relTree_cons ur (pabs ++ [name]) n (prel ++ [name]) (.mk name node ch), relForest_cons ur pabs n prel ts]
end

/-- what `specEntry` yields for every kind that can be described, written out once -/
def entryOf (ur : Option Bytes) (comps : List Bytes) (n : Node) : Entry :=
  { name := joinSlash comps, mode := n.perm ||| ifmtOf n.kind, uid := n.uid, gid := n.gid,
    rdev := if n.kind = .chr ∨ n.kind = .blk then n.devno else 0,
    extra := match n.kind with
      | .slink => some n.target
      | .file => some (match ur with | none => joinSlash comps | some r => r ++ SL :: joinSlash comps)
      | _ => none }

theorem specEntry_eq (ur : Option Bytes) (comps : List Bytes) (n : Node) :
    specEntry ur comps n = if n.kind = .other then none else some (entryOf ur comps n) := by
  cases hk : n.kind <;> simp only [specEntry, entryOf, hk, reduceCtorEq, if_false, if_true, or_false, or_true]
  cases ur <;> rfl

theorem specEntry_of {ur : Option Bytes} {comps : List Bytes} {n : Node} (hk : n.kind ≠ .other) :
    specEntry ur comps n = some (entryOf ur comps n) := by
  rw [specEntry_eq, if_neg hk]

theorem specEntry_flags (ur : Option Bytes) (comps : List Bytes) (n : Node) (e : Entry) (he : specEntry ur comps n = some e) :
    e.flags = 0 := by
  rw [specEntry_eq] at he
  split at he
  · cases he
  · cases he; rfl

mutual
theorem specTree_flags (ur : Option Bytes) (comps : List Bytes) : (t : Tree) → ∀ e ∈ specTree ur comps t, e.flags = 0
  | .mk name node ch => by
    intro e he
    simp only [specTree, List.mem_append, Option.mem_toList] at he
    rcases he with he | he
    · exact specEntry_flags ur comps node e he
    · by_cases hk : node.kind = .dir
      · simp only [hk, if_true] at he; exact specForest_flags ur comps ch e he
      · simp [hk] at he
theorem specForest_flags (ur : Option Bytes) (parents : List Bytes) : (ts : List Tree) → ∀ e ∈ specForest ur parents ts, e.flags = 0
  | [] => by intro e he; simp [specForest] at he
  | .mk name node ch :: ts => by
    intro e he
    simp only [specForest, List.mem_append] at he
    rcases he with he | he
    · exact specTree_flags ur (parents ++ [name]) (.mk name node ch) e he
    · exact specForest_flags ur parents ts e he
end

theorem clampTime_id {m : Nat} (h : m < 2 ^ 32) : clampTime m = m :=
  if_neg (Nat.not_lt.2 (Nat.le_of_lt_succ h))

theorem leafOf_entry (d : Defaults) (hd : d.mtime < 2 ^ 32) (ur : Option Bytes) (comps : List Bytes) (n : Node) (hp : n.perm < 4096)
    (name : Bytes) : leafOf d name (entryOf ur comps n) = .mk name (attrOf d ur comps n 0) [] := by
  obtain ⟨t1, t2, t3, t4, t5⟩ := isType_ifmt hp n.kind
  simp only [leafOf, mkAttr, attrOf, entryOf, t1, t2, t3, t4, t5, clampTime_id hd]
  cases n.kind <;> simp
  cases ur <;> rfl

def nDescribed : List Tree → Nat
  | [] => 0
  | .mk _ node _ :: ts => if node.kind = .other then nDescribed ts else 1 + nDescribed ts

theorem normForest_length (d : Defaults) (ur : Option Bytes) (pa : List Bytes) :
    ∀ (ts : List Tree) (acc : List FNode), (normForest d ur pa acc ts).length = acc.length + nDescribed ts
  | [], acc => by simp [normForest, nDescribed]
  | .mk name node ch :: ts, acc => by
    simp only [normForest, nDescribed]
    by_cases hk : node.kind = .other
    · simp only [hk, if_true]; exact normForest_length d ur pa ts acc
    · simp only [hk, if_false]
      rw [normForest_length d ur pa ts _, insertSorted_length]
      omega

theorem normTree_name (d : Defaults) (ur : Option Bytes) (comps : List Bytes) (t : Tree) : (normTree d ur comps t).name = t.name := by
  cases t; simp [normTree, FNode.name, Tree.name]

/-- `mknode` for an entry that is no hard link, below a directory at depth `k`: the nesting limit is the only test
that can fire -/
theorem mknodeOf_spec (d : Defaults) (k : Nat) (name : Bytes) (e : Entry) (hfl : e.flags = 0)
    (hk : isType e.mode sIFDIR = true → k + 1 ≤ sqfsMaxDirNesting) : mknodeOf d k name e = .ok (leafOf d name e) := by
  have hh : isHard e = false := by simp [isHard, hfl]
  unfold mknodeOf
  by_cases hd : isType e.mode sIFDIR = true
  · have : ¬ (k + 1 > sqfsMaxDirNesting) := Nat.not_lt.2 (hk hd)
    simp [hd, hh, this]
  · simp [hd, hh]

theorem relTree_other (ur : Option Bytes) (abs rel : List Bytes) (name : Bytes) (node : Node) (ch : List Tree)
    (hk : node.kind = .other) : relTree ur abs rel (.mk name node ch) = [] := by
  simp [relTree, specEntry_eq, hk, Option.toList]

/-- the node `mknode` creates for a described directory (childless, link count 2), and what it has become once its
described children are linked in: the rebuilt directory -/
theorem freshDir (d : Defaults) (ur : Option Bytes) (comps : List Bytes) (name : Bytes) (node : Node) (ch : List Tree)
    (hdir : node.kind = .dir) (hp : node.perm < 4096) :
    (FNode.mk name (attrOf d ur comps node 0) []).isDir = true ∧ (attrOf d ur comps node 0).linkCount = 2 ∧
    bump (.mk name (attrOf d ur comps node 0) []) (nDescribed ch) (normForest d ur comps [] ch) = normTree d ur comps (.mk name node ch) := by
  refine ⟨?_, ?_, ?_⟩
  · simp only [FNode.isDir, FNode.attr, attrOf, hdir, reduceCtorEq, if_false]
    rw [← hdir, (isType_ifmt hp node.kind).1, hdir]; rfl
  · simp only [attrOf, hdir, if_true]
  · simp only [bump, FNode.name, FNode.attr, normTree, hdir, if_true, normForest_length, attrOf, List.length_nil, Nat.zero_add, Nat.add_zero]

theorem addAt_new (d : Defaults) (hd : d.mtime < 2 ^ 32) (ur : Option Bytes) (comps : List Bytes) (node : Node) (hp : node.perm < 4096)
    (name : Bytes) (k : Nat) (X : FNode) (hsh : node.kind = .dir → k + 1 ≤ sqfsMaxDirNesting) (hX : X.isDir = true)
    (hnone : childByName X.children name = none) (hlc : X.attr.linkCount < 0xFFFFFFFF) :
    addAt d (entryOf ur comps node) [name] k X
      = .ok (bump X 1 (insertSorted (.mk name (attrOf d ur comps node 0) []) X.children)) := by
  have hmk := mknodeOf_spec d k name (entryOf ur comps node) rfl
    (fun hdir => hsh (by simpa [entryOf, (isType_ifmt hp node.kind).1] using hdir))
  simp only [addAt, hX, Bool.not_true, Bool.false_eq_true, if_false, hnone, hmk, Except.bind, leafOf_entry d hd ur comps node hp name]
  exact linkChild_ok X _ hlc

mutual
/-- **one subtree** of a tree an image can hold (image names, C-string fields; LF allowed): adding the entries of the described
tree `t` (its own, then those of everything below it, in the order of the listing) below a directory `X` at depth `k` that has no
child of `t`'s name links the rebuilt `t` into `X` -/
theorem tree_fs_img (d : Defaults) (hd : d.mtime < 2 ^ 32) (ur : Option Bytes) (pabs : List Bytes) (k : Nat) :
    (t : Tree) → (X : FNode) →
      (match t with
        | .mk name node ch => node.kind ≠ .other ∧ node.WfN ∧ ForestOkN ch ∧ DistinctF ch ∧ (ch.map Tree.name).Nodup ∧
            ch.length < 2 ^ 32 - 3 ∧ childByName X.children name = none) →
      Shallow (k + 1) t → X.isDir = true → X.attr.linkCount < 0xFFFFFFFF →
      foldRel d k (relTree ur (pabs ++ [t.name]) [t.name] t) X
        = .ok (bump X 1 (insertSorted (normTree d ur (pabs ++ [t.name]) t) X.children))
  | .mk name node ch, X, h, hsh, hX, hlc => by
    obtain ⟨hk, hn, hf, hdf, hnd, hlen, hnone⟩ := h
    obtain ⟨hsh1, hsh2⟩ := hsh
    simp only [Tree.name, relTree, specEntry_of hk, Option.toList, List.map_cons, List.map_nil, List.cons_append, List.nil_append,
      foldRel, addAt_new d hd ur _ node hn.1 name k X hsh1 hX hnone hlc, Except.bind]
    by_cases hdir : node.kind = .dir
    · obtain ⟨hleafdir, hlc2, hnode⟩ := freshDir d ur (pabs ++ [name]) name node ch hdir hn.1
      -- the children, added below the fresh leaf
      rw [if_pos hdir, relForest_cons ur _ name [] ch, foldRel_below d k X hX 1 name hnone _ _ rfl,
        forest_fs_img d hd ur (pabs ++ [name]) (k + 1) ch _ hf hdf hnd hsh2 hleafdir (fun t _ => rfl)
          (by rw [FNode.attr, hlc2]; exact Nat.add_lt_add_left hlen 2), FNode.children, hnode]
      rfl
    · simp only [hdir, if_false, foldRel, normTree, List.length_nil]
/-- **the children of one directory** (at depth `k`), one after the other -/
theorem forest_fs_img (d : Defaults) (hd : d.mtime < 2 ^ 32) (ur : Option Bytes) (pabs : List Bytes) (k : Nat) :
    (ts : List Tree) → (X : FNode) → ForestOkN ts → DistinctF ts → (ts.map Tree.name).Nodup → ShallowF (k + 1) ts → X.isDir = true →
      (∀ t ∈ ts, childByName X.children t.name = none) → X.attr.linkCount + ts.length < 0xFFFFFFFF →
      foldRel d k (relForest ur pabs [] ts) X = .ok (bump X (nDescribed ts) (normForest d ur pabs X.children ts))
  | [], X, _, _, _, _, _, _, _ => by
    simp only [relForest, foldRel, nDescribed, normForest, bump_zero]
  | .mk name node ch :: ts, X, hf, hdf, hnd, hsh, hX, hnone, hlc => by
    obtain ⟨⟨_, hn, hch⟩, hts⟩ := hf
    obtain ⟨⟨⟨hndc, hlenc⟩, hdc⟩, hdts⟩ := hdf
    obtain ⟨hsh1, hshts⟩ := hsh
    have hnd' : (ts.map Tree.name).Nodup := (List.nodup_cons.1 hnd).2
    have hnotin : name ∉ ts.map Tree.name := (List.nodup_cons.1 hnd).1
    simp only [relForest, List.nil_append, foldRel_append]
    by_cases hk : node.kind = .other
    · rw [relTree_other ur _ _ name node ch hk]
      simp only [foldRel, Except.bind, nDescribed, normForest, hk, if_true]
      exact forest_fs_img d hd ur pabs k ts X hts hdts hnd' hshts hX (fun t ht => hnone t (by simp [ht]))
        (Nat.lt_of_le_of_lt (Nat.add_le_add_left (Nat.le_succ _) _) hlc)
    · have h1 := tree_fs_img d hd ur pabs k (.mk name node ch) X
        ⟨hk, hn, hch, hdc, hndc, hlenc, hnone (.mk name node ch) (by simp)⟩ hsh1 hX (Nat.lt_of_le_of_lt (Nat.le_add_right _ _) hlc)
      simp only [Tree.name] at h1
      rw [h1]
      simp only [Except.bind, nDescribed, normForest, hk, if_false]
      have h2 := forest_fs_img d hd ur pabs k ts (bump X 1 (insertSorted (normTree d ur (pabs ++ [name]) (.mk name node ch)) X.children))
        hts hdts hnd' hshts (by rw [bump_isDir]; exact hX)
        (fun t ht => by
          rw [bump_children, childByName_insert_other _ _ _ (by
            rw [normTree_name]
            intro e
            exact hnotin (List.mem_map.2 ⟨t, ht, e⟩))]
          exact hnone t (by simp [ht]))
        (by rw [List.length_cons, ← Nat.add_assoc, Nat.add_right_comm] at hlc; exact hlc)
      rw [h2, bump_bump, bump_children]
end

/-- the same for good names and `Wf` fields (the hypotheses of `Sqfs.C16.describe_roundtrip`): their line-feed clauses are not looked at -/
theorem tree_fs (d : Defaults) (hd : d.mtime < 2 ^ 32) (ur : Option Bytes) (pabs : List Bytes) (k : Nat) :
    (t : Tree) → (X : FNode) →
      (match t with
        | .mk name node ch => node.kind ≠ .other ∧ node.Wf ∧ ForestOk ch ∧ DistinctF ch ∧ (ch.map Tree.name).Nodup ∧
            ch.length < 2 ^ 32 - 3 ∧ childByName X.children name = none) →
      Shallow (k + 1) t → X.isDir = true → X.attr.linkCount < 0xFFFFFFFF →
      foldRel d k (relTree ur (pabs ++ [t.name]) [t.name] t) X
        = .ok (bump X 1 (insertSorted (normTree d ur (pabs ++ [t.name]) t) X.children))
  | .mk name node ch, X, ⟨hk, hn, hf, hr⟩, hsh, hX, hlc =>
    tree_fs_img d hd ur pabs k (.mk name node ch) X ⟨hk, hn.toN, ForestOk.toN ch hf, hr⟩ hsh hX hlc

theorem pathOf_join (p : List Bytes) (h : ∀ c ∈ p, ImgName c) : pathOf (joinSlash p) = p := by
  unfold pathOf
  by_cases hp : p = []
  · subst hp; simp [joinSlash]
  · have hne := joinSlash_img_ne_nil p hp h
    simp only [hne, if_false]
    exact Sqfs.Path.splitSlash_joinSlash p hp (fun c hc => ImgName.slashFree (h c hc))

/-- none of the argument checks of `fstree_add_generic` fires for the entry of a described node -/
theorem addEntry_spec (d : Defaults) (ur : Option Bytes) (comps : List Bytes) (n : Node) (hn : n.WfN) (X : FNode) :
    addEntry d (entryOf ur comps n) X = addAt d (entryOf ur comps n) (pathOf (joinSlash comps)) 0 X := by
  obtain ⟨hp, hu, hg, hdv, _⟩ := hn
  have le (x : Nat) (h : x < 2 ^ 32) : ¬ x > 0xFFFFFFFF := Nat.not_lt.2 (Nat.le_of_lt_succ h)
  have h1 : (isType (entryOf ur comps n).mode sIFLNK && (entryOf ur comps n).extra.isNone) = false := by
    simp only [entryOf, (isType_ifmt hp n.kind).2.1]
    cases n.kind <;> rfl
  have h3 : decide ((entryOf ur comps n).rdev > 0xFFFFFFFF) = false := by
    simp only [entryOf]
    split
    · exact decide_eq_false (le _ hdv)
    · rfl
  simp only [addEntry, h1, h3, Bool.and_false]
  simp only [entryOf, le _ hu, le _ hg, decide_false, Bool.or_self, Bool.false_eq_true, if_false]

/-- a pair of the annotated entry list is usable by `addAll`: the path is what `fstree_get_node_by_path` cuts the
name into, and the argument checks pass -/
def PairOk (d : Defaults) (pe : RelE) : Prop := ∀ X, addEntry d pe.2 X = addAt d pe.2 pe.1 0 X

mutual
theorem relTree_ok_img (d : Defaults) (ur : Option Bytes) (comps : List Bytes) (hc : ∀ c ∈ comps, ImgName c) :
    (t : Tree) → (match t with | .mk _ node ch => node.WfN ∧ ForestOkN ch) → ∀ pe ∈ relTree ur comps comps t, PairOk d pe
  | .mk name node ch, h => by
    obtain ⟨hn, hf⟩ := h
    intro pe hpe
    simp only [relTree, List.mem_append, List.mem_map, Option.mem_toList, specEntry_eq] at hpe
    rcases hpe with ⟨e, he, rfl⟩ | hpe
    · intro X
      split at he
      · cases he
      · cases he
        rw [addEntry_spec d ur comps node hn X, pathOf_join comps hc]
    · by_cases hk : node.kind = .dir
      · simp only [hk, if_true] at hpe
        exact relForest_ok_img d ur comps hc ch hf pe hpe
      · simp [hk] at hpe
theorem relForest_ok_img (d : Defaults) (ur : Option Bytes) (parents : List Bytes) (hc : ∀ c ∈ parents, ImgName c) :
    (ts : List Tree) → ForestOkN ts → ∀ pe ∈ relForest ur parents parents ts, PairOk d pe
  | [], _ => by intro pe hpe; simp [relForest] at hpe
  | .mk name node ch :: ts, h => by
    obtain ⟨⟨hname, hn, hch⟩, hts⟩ := h
    intro pe hpe
    simp only [relForest, List.mem_append] at hpe
    rcases hpe with hpe | hpe
    · have hc' : ∀ c ∈ parents ++ [name], ImgName c :=
        List.forall_mem_append.2 ⟨hc, List.forall_mem_singleton.2 hname⟩
      exact relTree_ok_img d ur (parents ++ [name]) hc' (.mk name node ch) ⟨hn, hch⟩ pe hpe
    · exact relForest_ok_img d ur parents hc ts hts pe hpe
end

theorem relForest_ok (d : Defaults) (ur : Option Bytes) (parents : List Bytes) (hc : ∀ c ∈ parents, GoodName c) :
    (ts : List Tree) → ForestOk ts → ∀ pe ∈ relForest ur parents parents ts, PairOk d pe :=
  fun ts h => relForest_ok_img d ur parents (fun c m => (hc c m).img) ts (ForestOk.toN ts h)

theorem addAll_of_foldRel (d : Defaults) :
    ∀ (l : List RelE) (X X' : FNode), (∀ pe ∈ l, PairOk d pe) → foldRel d 0 l X = .ok X' → addAll d (l.map (·.2)) X = (X', none)
  | [], X, X', _, h => by
    simp only [foldRel, Except.ok.injEq] at h
    simp [addAll, h]
  | (p, e) :: r, X, X', hok, h => by
    simp only [foldRel] at h
    obtain ⟨X1, h1, h2⟩ := bind_eq_ok h
    have := hok (p, e) (by simp) X
    simp only at this
    simp only [List.map_cons, addAll, this, h1]
    exact addAll_of_foldRel d r X1 X' (fun pe hpe => hok pe (by simp [hpe])) h2

/-- **the whole listing**: the decoded entries of the tree of an image, added in the order of the listing to a fresh
`fstree_t`, give the rebuilt tree -/
theorem build_root (d : Defaults) (hd : d.mtime < 2 ^ 32) (ur : Option Bytes) (t : Tree) (ht : RootOkN t) (hdist : Distinct t)
    (hsh : Shallow 0 t) :
    addAll d (specTree ur [] t) (initRoot d) = (normTree d ur [] t, none) := by
  cases t with
  | mk name node ch =>
    obtain ⟨hname, hk, hn, hf⟩ := ht
    obtain ⟨⟨hnd, hlen⟩, hdf⟩ := hdist
    obtain ⟨_, hshf⟩ := hsh
    subst hname
    rw [← relTree_snd ur [] [] (.mk [] node ch)]
    have hem : isType (node.perm ||| ifmtOf node.kind) sIFDIR = true := by rw [(isType_ifmt hn.1 node.kind).1, hk]; rfl
    -- the root's own line overwrites the implicitly created root: the fresh directory node once more
    have hover : addAt d (entryOf ur [] node) [] 0 (initRoot d) = .ok (.mk [] (attrOf d ur [] node 0) []) := by
      simp only [addAt, initRoot, overwrite, entryOf, or_perm_isDir, hem, Bool.not_true, Bool.or_self, Bool.false_eq_true, if_false,
        Nat.mod_eq_of_lt hd]
      simp [attrOf, hk]
    obtain ⟨hdir, hlc2, hnode⟩ := freshDir d ur [] [] node ch hk hn.1
    apply addAll_of_foldRel d _ _ _ (relTree_ok_img d ur [] (by simp) (.mk [] node ch) ⟨hn, hf⟩)
    simp only [relTree, specEntry_of (show node.kind ≠ .other by rw [hk]; decide), Option.toList, List.map_cons, List.map_nil, hk, if_true,
      List.cons_append, List.nil_append, foldRel, hover, Except.bind]
    rw [forest_fs_img d hd ur [] 0 ch _ hf hdf hnd hshf hdir (fun t _ => rfl) (by rw [FNode.attr, hlc2]; exact Nat.add_lt_add_left hlen 2),
      FNode.children, hnode]

end Sqfs.QuoteFs
