/-
Helper lemmas for C16: one describe line through `istream_get_line` and `split_line`, up to the call of `handle_line`.
-/
import Sqfs.Proofs.Quote
import Sqfs.Proofs.QuoteNum
import Sqfs.Spec.Quote
namespace Sqfs.Quote
open Sqfs.Path (Bytes)

/-- `LineSafe` (no NUL, no LF), byte by byte -/
def Safe (s : Bytes) : Prop := ∀ c ∈ s, c ≠ NUL ∧ c ≠ LF

theorem Safe.append {a b : Bytes} (ha : Safe a) (hb : Safe b) : Safe (a ++ b) := by
  intro c hc
  rcases List.mem_append.1 hc with h | h
  · exact ha c h
  · exact hb c h

theorem Safe.cons {c : UInt8} {b : Bytes} (h0 : c ≠ NUL) (h1 : c ≠ LF) (hb : Safe b) : Safe (c :: b) := by
  intro d hd
  rcases List.mem_cons.1 hd with h | h
  · subst h; exact ⟨h0, h1⟩
  · exact hb d h

theorem safe_of_lineSafe {s : Bytes} (h : LineSafe s) : Safe s :=
  fun _ hc => ⟨fun e => h.1 (e ▸ hc), fun e => h.2 (e ▸ hc)⟩

theorem Safe.nul {s : Bytes} (h : Safe s) : NUL ∉ s := fun m => (h NUL m).1 rfl
theorem Safe.lf {s : Bytes} (h : Safe s) : LF ∉ s := fun m => (h LF m).2 rfl

theorem safe_escapeBody {s : Bytes} (h : Safe s) : Safe (escapeBody s) := by
  induction s with
  | nil => intro c hc; simp [escapeBody] at hc
  | cons c r ih =>
    have hc := h c (by simp)
    have hr : Safe r := fun d hd => h d (by simp [hd])
    unfold escapeBody
    split
    · exact Safe.cons (by decide) (by decide) (Safe.cons hc.1 hc.2 (ih hr))
    · exact Safe.cons hc.1 hc.2 (ih hr)

theorem safe_printEscaped {s : Bytes} (h : Safe s) : Safe (printEscaped s) := by
  unfold printEscaped
  split
  · exact Safe.cons (by decide) (by decide) (Safe.append (safe_escapeBody h) (Safe.cons (by decide) (by decide) (fun _ hc => by simp at hc)))
  · exact h

theorem digit_props {c : UInt8} (h : isDigit c = true) :
    c ≠ NUL ∧ c ≠ LF ∧ c ≠ SP ∧ c ≠ TAB ∧ c ≠ CR ∧ c ≠ DQ := by
  refine ⟨?_, ?_, ?_, ?_, ?_, ?_⟩ <;> (intro e; subst e; revert h; decide)

theorem safe_digits {s : Bytes} (h : AllDigit s) : Safe s :=
  fun c hc => ⟨(digit_props (h c hc)).1, (digit_props (h c hc)).2.1⟩

theorem printEscaped_plain {s : Bytes} (hne : s ≠ []) (h : ∀ c ∈ s, c ≠ SP ∧ c ≠ TAB ∧ c ≠ CR ∧ c ≠ DQ ∧ c ≠ BS) :
    printEscaped s = s := by
  rw [printEscaped, needsQuote_false.2 ⟨hne, h⟩]; rfl

theorem printEscaped_digits {s : Bytes} (hne : s ≠ []) (h : AllDigit s) : printEscaped s = s :=
  printEscaped_plain hne fun c hc =>
    have d := digit_props (h c hc)
    ⟨d.2.2.1, d.2.2.2.1, d.2.2.2.2.1, d.2.2.2.2.2, fun e => by subst e; exact absurd (h _ hc) (by decide)⟩

/-- a trailing CR would be eaten by `istream_get_line` -/
def NoCRLast (s : Bytes) : Prop := s.getLast? ≠ some CR

theorem NoCRLast.append {a b : Bytes} (ha : NoCRLast a) (hb : NoCRLast b) : NoCRLast (a ++ b) := by
  unfold NoCRLast at *
  rw [List.getLast?_append]
  cases h : b.getLast? with
  | none => exact ha
  | some c => exact fun e => hb (h.trans e)

theorem noCRLast_printEscaped (s : Bytes) : NoCRLast (printEscaped s) := by
  unfold printEscaped NoCRLast
  cases hq : needsQuote s with
  | true =>
    simp only [if_true]
    rw [List.getLast?_concat]
    decide
  | false =>
    simp only [Bool.false_eq_true, if_false]
    exact fun h => ((needsQuote_false.1 hq).2 CR (List.mem_of_getLast? h)).2.2.1 rfl

theorem splitLF_line (l rest cur : Bytes) (h : LF ∉ l) :
    splitLF (l ++ LF :: rest) cur = (cur.reverse ++ l, true) :: splitLF rest [] := by
  induction l generalizing cur with
  | nil => simp [splitLF]
  | cons c r ih =>
    have hc : c ≠ LF := fun e => h (by simp [e])
    have hr : LF ∉ r := fun m => h (by simp [m])
    simp only [List.cons_append, splitLF, hc, if_false]
    rw [ih (c :: cur) hr]
    simp

theorem cstr_id {s : Bytes} (h : NUL ∉ s) : cstr s = s := by
  induction s with
  | nil => rfl
  | cons c r ih =>
    have hc : c ≠ NUL := fun e => h (by simp [e])
    simp [cstr, hc, ih (fun m => h (by simp [m]))]

theorem stripCR_id {s : Bytes} (h : NoCRLast s) : stripCR s = s := by
  unfold stripCR
  unfold NoCRLast at h
  cases hl : s.getLast? with
  | none => rfl
  | some c =>
    have : c ≠ CR := by intro e; subst e; exact h hl
    simp [this]

/-- the shape of a non-comment, non-indented line -/
def GoodHead (s : Bytes) : Prop := ∃ c r, s = c :: r ∧ isSpace c = false ∧ c ≠ HASH

theorem cookLine_id {l : Bytes} (hs : Safe l) (hl : NoCRLast l) (hh : GoodHead l) : cookLine (l, true) = l := by
  obtain ⟨c, r, rfl, h1, _⟩ := hh
  simp only [cookLine, if_true, stripCR_id hl, cstr_id hs.nul]
  simp [ltrim, h1]

/-- **one line through the per-line loop of `fstree_from_file_stream`**: a line of escaped tokens (none with NUL or LF), the
form every describe line has, reaches `handle_line` as the tokens -/
theorem line_decodes (opt : Opt) (ts : List Bytes) (rest : Bytes) (hs : ∀ t ∈ ts, Safe t)
    (hh : GoodHead (joinSp (ts.map printEscaped))) :
    fstreeFromFile opt (joinSp (ts.map printEscaped) ++ LF :: rest) =
      match handleLine opt ts with
      | .ok e => (e :: (fstreeFromFile opt rest).1, (fstreeFromFile opt rest).2)
      | .error e => ([], some (.handle e)) := by
  have henc := encs_printEscaped ts fun t ht => (hs t ht).nul
  have hsafe : Safe (joinSp (ts.map printEscaped)) :=
    joinSp_closed nofun (Safe.cons (by decide) (by decide) nofun) Safe.append fun e he => by
      obtain ⟨t, ht, rfl⟩ := List.mem_map.1 he
      exact safe_printEscaped (hs t ht)
  have hlast : NoCRLast (joinSp (ts.map printEscaped)) :=
    joinSp_closed nofun (by unfold NoCRLast; decide) NoCRLast.append fun e he => by
      obtain ⟨t, _, rfl⟩ := List.mem_map.1 he
      exact noCRLast_printEscaped t
  unfold fstreeFromFile
  rw [splitLF_line _ _ _ hsafe.lf]
  simp only [List.reverse_nil, List.nil_append, List.map_cons, cookLine_id hsafe hlast hh]
  obtain ⟨c, r, hj, _, hhash⟩ := hh
  have hne : joinSp (ts.map printEscaped) ≠ [] := by rw [hj]; simp
  have hhd : (joinSp (ts.map printEscaped)).head? ≠ some HASH := by rw [hj]; simpa using hhash
  simp only [fromLines, hne, hhd, if_false, splitLine_join henc]
  cases handleLine opt ts <;> rfl

end Sqfs.Quote
