/-
Link chains (`Spec/HardLink.lean`) are runs of a partial function: the chains from one node are linearly ordered, and a chain
that reaches a node no link leaves (`Stuck`) ends nowhere else and meets no cycle.  So the three fates of a link exclude one
another, and `endOf` names the end.  The repaired `resolve_link` loop and the classifier `specClass` are judged against this
through `Trail`, the links followed so far: pairwise different unless a cycle is already known, so following more of them than
there are candidates means a cycle.  `Cons` is what `fstree_resolve_hard_links` keeps between the calls.
-/
import Sqfs.Proofs.HardLink
namespace Sqfs.HardLink

theorem Step.fun {g : Graph} {i j j' : Nat} (h : Step g i j) (h' : Step g i j') : j = j' := by
  unfold Step at h h'; rw [h] at h'; cases h'; rfl

theorem Chain.trans {g : Graph} {i j k : Nat} (h : Chain g i j) (h' : Chain g j k) : Chain g i k := by
  induction h with
  | refl => exact h'
  | step s _ ih => exact .step s (ih h')

theorem Chain.snoc {g : Graph} {i j k : Nat} (h : Chain g i j) (s : Step g j k) : Chain g i k :=
  h.trans (.step s (.refl k))

/-- no link leads on from `k`: `k` is no link, a link whose target does not resolve, or outside the graph -/
def Stuck (g : Graph) (k : Nat) : Prop := ∀ j, ¬ Step g k j

theorem NonLink.stuck {g : Graph} {t : Nat} (h : NonLink g t) : Stuck g t :=
  fun j s => by unfold Step at s; rcases h with h | h <;> rw [h] at s <;> cases s

theorem stuck_of_fail {g : Graph} {k : Nat} {e : LErr} (h : g[k]? = some (.hlink (.fail e))) : Stuck g k :=
  fun j s => by unfold Step at s; rw [h] at s; cases s

theorem Stuck.chain_eq {g : Graph} {t k : Nat} (h : Stuck g t) (c : Chain g t k) : k = t := by
  cases c with
  | refl => rfl
  | step s _ => exact (h _ s).elim

theorem Chain.linear {g : Graph} {i k k' : Nat} (h : Chain g i k) (h' : Chain g i k') :
    Chain g k k' ∨ Chain g k' k := by
  induction h with
  | refl => exact Or.inl h'
  | step s c ih =>
    cases h' with
    | refl => exact Or.inr (.step s c)
    | step s' c' =>
      have := s.fun s'
      subst this
      exact ih c'

theorem Chain.stuck_unique {g : Graph} {i k k' : Nat} (h : Chain g i k) (h' : Chain g i k') (hk : Stuck g k)
    (hk' : Stuck g k') : k = k' :=
  (h.linear h').elim (fun c => (hk.chain_eq c).symm) hk'.chain_eq

/-- the link graph is a partial function, so a cycle met from `i` is met from the successor of `i` as well -/
theorem Cyclic.step {g : Graph} {i j : Nat} (h : Cyclic g i) (s : Step g i j) : Cyclic g j := by
  obtain ⟨k, m, ck, sm, cm⟩ := h
  cases ck with
  | refl => cases s.fun sm; exact ⟨i, j, cm, s, cm⟩
  | step s' c' => cases s.fun s'; exact ⟨k, m, c', sm, cm⟩

theorem Chain.stuck_not_cyclic {g : Graph} {i t : Nat} (h : Chain g i t) (ht : Stuck g t) : ¬ Cyclic g i := by
  induction h with
  | refl => rintro ⟨k, m, ck, s, _⟩; cases ht.chain_eq ck; exact ht _ s
  | step s _ ih => exact fun hc => ih ht (hc.step s)

theorem EndsAt.not_cyclic {g : Graph} {i t : Nat} (h : EndsAt g i t) : ¬ Cyclic g i := h.1.stuck_not_cyclic h.2.stuck

theorem Dangling.not_cyclic {g : Graph} {i : Nat} {e : LErr} (h : Dangling g i e) : ¬ Cyclic g i :=
  let ⟨_, ck, hk⟩ := h
  ck.stuck_not_cyclic (stuck_of_fail hk)

theorem EndsAt.not_dangling {g : Graph} {i t : Nat} {e : LErr} (h : EndsAt g i t) : ¬ Dangling g i e := by
  rintro ⟨k, ck, hk⟩
  cases h.1.stuck_unique ck h.2.stuck (stuck_of_fail hk)
  rcases h.2 with h2 | h2 <;> rw [h2] at hk <;> cases hk

theorem EndsAt.unique {g : Graph} {i t t' : Nat} (h : EndsAt g i t) (h' : EndsAt g i t') : t = t' :=
  h.1.stuck_unique h'.1 h.2.stuck h'.2.stuck

theorem Dangling.unique {g : Graph} {i : Nat} {e e' : LErr} (h : Dangling g i e) (h' : Dangling g i e') : e = e' := by
  obtain ⟨k, ck, hk⟩ := h
  obtain ⟨k', ck', hk'⟩ := h'
  cases ck.stuck_unique ck' (stuck_of_fail hk) (stuck_of_fail hk')
  rw [hk] at hk'; cases hk'; rfl

/-- the node at which the chain of `m` ends, if it ends (at one node at most: `EndsAt.unique`) -/
noncomputable def endOf (g : Graph) (m : Nat) : Nat :=
  open Classical in if h : ∃ t, EndsAt g m t then h.choose else 0

theorem EndsAt.endOf_eq {g : Graph} {m t : Nat} (h : EndsAt g m t) : endOf g m = t := by
  have he : ∃ t, EndsAt g m t := ⟨t, h⟩
  rw [endOf, dif_pos he]
  exact he.choose_spec.unique h

/-- what `fstree_resolve_hard_links` maintains between calls of `resolve_link` -/
structure Cons (g : Graph) (links0 : List Nat) (res : Nat → Option Nat) : Prop where
  /-- a recorded resolution is the end of that link's chain -/
  ends : ∀ k t, res k = some t → EndsAt g k t
  /-- every hard link not yet resolved is on the list that was counted on entry -/
  mem : ∀ k tg, g[k]? = some (.hlink tg) → res k = none → k ∈ links0

/-- the links followed from `start` to `node`, all of them among the candidates `S`: pairwise different (unless `start` is
already known to run into a cycle), and each of them leads on to `node` -/
structure Trail (g : Graph) (S : List Nat) (start node : Nat) (vis : List Nat) : Prop where
  chain : Chain g start node
  nodup : Cyclic g start ∨ vis.Nodup
  leads : ∀ v ∈ vis, ∃ m, Step g v m ∧ Chain g m node
  sub : ∀ v ∈ vis, v ∈ S

theorem Trail.nil {g : Graph} {S : List Nat} {start : Nat} : Trail g S start start [] :=
  ⟨.refl start, Or.inr List.nodup_nil, nofun, nofun⟩

theorem Trail.move {g : Graph} {S : List Nat} {start node k : Nat} {vis : List Nat} (t : Trail g S start node vis)
    (c : Chain g node k) : Trail g S start k vis :=
  ⟨t.chain.trans c, t.nodup, fun v hv => by obtain ⟨m, s, c'⟩ := t.leads v hv; exact ⟨m, s, c'.trans c⟩, t.sub⟩

/-- the node reached is a link followed before, which closes a cycle, or it is one more link -/
theorem Trail.nodup_cons {g : Graph} {S : List Nat} {start node : Nat} {vis : List Nat} (t : Trail g S start node vis) :
    Cyclic g start ∨ (node :: vis).Nodup := by
  by_cases hin : node ∈ vis
  · obtain ⟨m, s, c⟩ := t.leads node hin
    exact .inl ⟨node, m, t.chain, s, c⟩
  · exact t.nodup.imp id fun hnd => List.nodup_cons.2 ⟨hin, hnd⟩

theorem Trail.push {g : Graph} {S : List Nat} {start node nx : Nat} {vis : List Nat} (t : Trail g S start node vis)
    (s : Step g node nx) (hS : node ∈ S) : Trail g S start nx (node :: vis) := by
  refine ⟨t.chain.snoc s, t.nodup_cons, fun v hv => ?_, List.forall_mem_cons.2 ⟨hS, t.sub⟩⟩
  rcases List.mem_cons.1 hv with rfl | hv
  · exact ⟨nx, s, .refl nx⟩
  · obtain ⟨m, s', c⟩ := t.leads v hv
    exact ⟨m, s', c.snoc s⟩

/-- pigeon-hole: as many links followed as there are candidates, and one more reached, means a cycle -/
theorem Trail.cyclic_of_length {g : Graph} {S : List Nat} {start node : Nat} {vis : List Nat} (t : Trail g S start node vis)
    (hS : node ∈ S) (hlen : S.length ≤ vis.length) : Cyclic g start :=
  t.nodup_cons.elim id fun hnd => by
    have := hnd.length_le_of_subset fun x hx => List.forall_mem_cons.2 ⟨hS, t.sub⟩ x hx
    rw [List.length_cons] at this
    omega

/-- what an answer of the loop must mean for the chain of `start` -/
def LoopOK (g : Graph) (start : Nat) : LoopRes → Prop
  | .brk r => EndsAt g start r
  | .err .EMLINK => Cyclic g start
  | .err .ENOENT => Dangling g start .ENOENT
  | .err .ENOTDIR => Dangling g start .ENOTDIR
  | .err .EPERM => False
  | .badIndex => Escapes g start
  | .outOfFuel => True

theorem loopFix_sound (g : Graph) (links0 : List Nat) (res : Nat → Option Nat) (start : Nat)
    (hc : Cons g links0 res) :
    ∀ fuel node hops (vis : List Nat), Trail g links0 start node vis → vis.length = hops →
      LoopOK g start (loopFix g res start links0.length fuel node hops) := by
  intro fuel node hops
  fun_induction loopFix g res start links0.length fuel node hops <;> intro vis tr hlen
  case case1 => trivial
  case case2 node _ hq => exact ⟨node, tr.chain, hq⟩
  case case3 node _ _ hq hr =>
    -- a resolved target is never a link, `start` is one
    have h1 : NonLink g start := (hc.ends node start hr).2
    cases h1.stuck.chain_eq tr.chain
    rcases h1 with h1 | h1 <;> rw [h1] at hq <;> cases hq
  case case4 node _ _ _ t hr _ ih => exact ih vis (tr.move (hc.ends node t hr).1) hlen
  case case5 node hops tgt hq hr hh => exact tr.cyclic_of_length (hc.mem node tgt hq hr) (hlen ▸ hh)
  case case6 node _ _ _ e hq => cases e <;> exact ⟨node, tr.chain, hq⟩
  case case7 node _ _ _ hq => exact ⟨node, start, tr.chain, hq, tr.chain⟩
  case case8 node hops hr _ nx _ hq ih =>
    exact ih (node :: vis) (tr.push hq (hc.mem _ _ hq hr)) (by rw [List.length_cons, hlen])
  case case9 hnl hq => exact ⟨tr.chain, nonLink_of_not_hlink hq hnl⟩

/-- `WF` as a check node by node, so that `by decide` settles it for a literal graph -/
theorem WF.of_all {g : Graph}
    (h : (g.all fun | .hlink (.found j) => j < g.length | _ => true) = true) : WF g := by
  intro i j s
  simpa using List.all_eq_true.1 h _ (List.mem_of_getElem? s)

theorem WF.chain_lt {g : Graph} (hwf : WF g) {i k : Nat} (c : Chain g i k) (hi : i < g.length) : k < g.length := by
  induction c with
  | refl => exact hi
  | step s _ ih => exact ih (hwf _ _ s)

theorem WF.no_escape {g : Graph} (hwf : WF g) {i : Nat} (hi : i < g.length) : ¬ Escapes g i := by
  rintro ⟨k, c, hk⟩
  have := hwf.chain_lt c hi
  simp at hk
  omega

/-- the answer the specification asks for when the chain of the link ends at `t` -/
def endsAnswer (g : Graph) (cnt : Nat → Nat) (t : Nat) : Option Nat × Option Errno :=
  if g[t]? = some .dir then (none, some .EPERM)
  else if cnt t = linkCountMax then (none, some .EMLINK)
  else (some t, none)

theorem Expected.trichotomy {g : Graph} {cnt : Nat → Nat} {n : Nat} {o : Option Nat × Option Errno}
    (h : Expected g cnt n o) :
    (∃ t, EndsAt g n t ∧ o = endsAnswer g cnt t) ∨ (Cyclic g n ∧ o = (none, some .EMLINK)) ∨
      ∃ e : LErr, Dangling g n e ∧ o = (none, some e.toErrno) := by
  obtain ⟨a, b⟩ := o
  cases a with
  | some t =>
    cases b with
    | some e => exact h.elim
    | none =>
      obtain ⟨h1, h2, h3⟩ := h
      exact Or.inl ⟨t, h1, by simp [endsAnswer, h2, h3]⟩
  | none =>
    cases b with
    | none => exact h.elim
    | some e =>
      cases e with
      | EPERM => obtain ⟨t, h1, h2⟩ := h; exact Or.inl ⟨t, h1, by simp [endsAnswer, h2]⟩
      | EMLINK =>
        rcases h with hc | ⟨t, h1, h2, h3⟩
        · exact Or.inr (Or.inl ⟨hc, rfl⟩)
        · exact Or.inl ⟨t, h1, by simp [endsAnswer, h2, h3]⟩
      | ENOENT => exact Or.inr (Or.inr ⟨.ENOENT, h, rfl⟩)
      | ENOTDIR => exact Or.inr (Or.inr ⟨.ENOTDIR, h, rfl⟩)

theorem Expected.unique {g : Graph} {cnt : Nat → Nat} {n : Nat} {o o' : Option Nat × Option Errno}
    (h : Expected g cnt n o) (h' : Expected g cnt n o') : o = o' := by
  rcases h.trichotomy with ⟨t, h1, rfl⟩ | ⟨h1, rfl⟩ | ⟨e, h1, rfl⟩ <;>
    rcases h'.trichotomy with ⟨t', h2, rfl⟩ | ⟨h2, rfl⟩ | ⟨e', h2, rfl⟩
  · rw [h1.unique h2]
  · exact (h1.not_cyclic h2).elim
  · exact (h1.not_dangling h2).elim
  · exact (h2.not_cyclic h1).elim
  · rfl
  · exact (h2.not_cyclic h1).elim
  · exact (h2.not_dangling h1).elim
  · exact (h1.not_cyclic h2).elim
  · rw [h1.unique h2]

theorem Expected.congr {g : Graph} {cnt cnt' : Nat → Nat} {n : Nat} {o : Option Nat × Option Errno}
    (h : Expected g cnt n o) (hc : ∀ t, cnt t = cnt' t) : Expected g cnt' n o := by
  have : cnt = cnt' := funext hc
  subst this; exact h

/-- the link counts `resolve_links_exact` names do not depend on the choice of the function `tgt`: the end of a
chain is unique, so any two admissible choices count the same links -/
theorem countP_ends_unique {g : Graph} {pre : List Nat} {tgt tgt' : Nat → Nat}
    (h : ∀ m ∈ pre, EndsAt g m (tgt m)) (h' : ∀ m ∈ pre, EndsAt g m (tgt' m)) (t : Nat) :
    pre.countP (fun m => tgt m = t) = pre.countP (fun m => tgt' m = t) :=
  List.countP_congr (fun x hx => by rw [(h x hx).unique (h' x hx)])

/-- one call of the repaired `resolve_link`, judged against the specification -/
theorem resolveLink_sound (g : Graph) (hwf : WF g) (links0 : List Nat) (st : St) (n : Nat) (hn : n < g.length)
    (hc : Cons g links0 st.resolved) (fuel : Nat) (hf : links0.length + 2 ≤ fuel) :
    match finishLink g st n (loopFix g st.resolved n links0.length fuel n 0) with
    | .ok st' => ∃ t, Expected g st.linkCount n (some t, none) ∧
        st'.resolved = (fun k => if k = n then some t else st.resolved k) ∧
        st'.linkCount = (fun k => if k = t then st.linkCount k + 1 else st.linkCount k)
    | .err e => Expected g st.linkCount n (none, some e)
    | .outOfFuel => False
    | .badIndex => False := by
  have hres : ResOK g st.resolved := fun k t h => (hc.ends k t h).2
  have hfuel := loopFix_fuel g st.resolved n links0.length hres fuel n 0 (by omega)
  have hs := loopFix_sound g links0 st.resolved n hc fuel n 0 [] .nil rfl
  generalize loopFix g st.resolved n links0.length fuel n 0 = lr at hs hfuel
  fun_cases finishLink g st n lr
  case case1 => exact hfuel rfl
  case case2 => exact hwf.no_escape hn hs
  case case3 e =>
    cases e with
    | EMLINK => exact Or.inl hs
    | EPERM => exact hs.elim
    | ENOENT => exact hs
    | ENOTDIR => exact hs
  case case4 r hd => exact ⟨r, hs, hd⟩
  case case5 r hd hm => exact Or.inr ⟨r, hs, hs.2.resolve_right hd, hm⟩
  case case6 r hd hm => exact ⟨r, ⟨hs, hs.2.resolve_right hd, hm⟩, rfl, rfl⟩

theorem Cons.update {g : Graph} {links0 : List Nat} {res : Nat → Option Nat} (hc : Cons g links0 res)
    {n t : Nat} (he : EndsAt g n t) : Cons g links0 (fun k => if k = n then some t else res k) where
  ends := forall_resolved_set hc.ends he
  mem k tg hk hr := by
    by_cases hkn : k = n
    · rw [if_pos hkn] at hr; cases hr
    · rw [if_neg hkn] at hr; exact hc.mem k tg hk hr

/-- the whole of the repaired `fstree_resolve_hard_links`, from any consistent state -/
theorem resolveAll_sound (g : Graph) (hwf : WF g) (links0 : List Nat) (fuel : Nat) (hf : links0.length + 2 ≤ fuel) :
    ∀ (rest : List Nat) (st : St), Cons g links0 st.resolved → (∀ n ∈ rest, n < g.length) →
      match resolveAllWith g (fun res n => loopFix g res n links0.length fuel n 0) st rest with
      | .ok st' => Cons g links0 st'.resolved
      | .err n e => ∃ (pre post : List Nat), rest = pre ++ n :: post ∧
          (∀ m ∈ pre, EndsAt g m (endOf g m) ∧ g[endOf g m]? = some .other) ∧
          Expected g (fun t => st.linkCount t + pre.countP (fun m => endOf g m = t)) n (none, some e)
      | .outOfFuel => False
      | .badIndex => False := by
  intro rest
  induction rest with
  | nil => intro st hc _; exact hc
  | cons n rest ih =>
    intro st hc hlt
    have h1 := resolveLink_sound g hwf links0 st n (hlt n (by simp)) hc fuel hf
    simp only [resolveAllWith]
    cases hfin : finishLink g st n (loopFix g st.resolved n links0.length fuel n 0) with
    | outOfFuel | badIndex => rw [hfin] at h1; exact h1
    | err e =>
      rw [hfin] at h1
      exact ⟨[], rest, rfl, fun _ h => (nomatch h), h1.congr fun _ => rfl⟩
    | ok st1 =>
      rw [hfin] at h1
      obtain ⟨t, hexp, hr, hlc⟩ := h1
      have hc1 : Cons g links0 st1.resolved := by rw [hr]; exact hc.update hexp.1
      have h2 := ih st1 hc1 (fun m hm => hlt m (List.mem_cons_of_mem _ hm))
      simp only
      cases hrest : resolveAllWith g (fun res n => loopFix g res n links0.length fuel n 0) st1 rest with
      | outOfFuel | badIndex | ok st' => rw [hrest] at h2; exact h2
      | err m e =>
        rw [hrest] at h2
        obtain ⟨pre, post, hsplit, hpre, hex⟩ := h2
        have hn : endOf g n = t := hexp.1.endOf_eq
        refine ⟨n :: pre, post, by rw [hsplit]; rfl, ?_, hex.congr fun k => ?_⟩
        · intro x hx
          rcases List.mem_cons.1 hx with rfl | hx
          · rw [hn]; exact ⟨hexp.1, hexp.2.1⟩
          · exact hpre x hx
        · -- the count of `t` has gone up by one, and `n` is one more link in front that ends at `t`
          rw [hlc, List.countP_cons, hn]
          simp only [decide_eq_true_eq, eq_comm (a := t)]
          split <;> omega

/-- the executable classifier used by the check's monitor agrees with the relational specification -/
theorem classify_sound (g : Graph) (hwf : WF g) (start : Nat) :
    ∀ f i (vis : List Nat), Trail g (List.range g.length) start i vis → vis.length + f = g.length + 1 → i < g.length →
      match classify g f i with
      | .endsAt t => EndsAt g start t
      | .dangling e => Dangling g start e
      | .cyclic => Cyclic g start
      | .escapes => False := by
  intro f i
  fun_induction classify g f i <;> intro vis tr hlen hi
  case case1 i => exact tr.cyclic_of_length (List.mem_range.2 hi) (by rw [List.length_range]; omega)
  case case2 hq => simp at hq; omega
  case case3 f i j hq ih =>
    exact ih (i :: vis) (tr.push hq (List.mem_range.2 hi)) (by rw [List.length_cons]; omega) (hwf _ _ hq)
  case case4 i e hq => exact ⟨i, tr.chain, hq⟩
  case case5 h1 h2 hq =>
    exact ⟨tr.chain, nonLink_of_not_hlink hq fun t e => t.casesOn (fun j e => h1 j e) (fun x e => h2 x e) e⟩

end Sqfs.HardLink
