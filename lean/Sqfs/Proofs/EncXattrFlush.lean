/-
C01 — xattr flush → read through the location array: `sqfs_xattr_reader_get_desc` finds descriptor `j` of a flushed
writer via `id_block_starts[]`.
-/
import Sqfs.Proofs.EncXattr
import Sqfs.Proofs.EncXattrLoc
namespace Sqfs.Enc
open Sqfs.Consts
open Sqfs.MetaWriter (Codec run)

theorem getDesc_flush {cmp : Codec} {unc : Unc} (hc : CodecOk cmp unc) (refOf : Nat → Nat) (posOf : Nat → Option Nat)
    (w : XWriter) (j : Nat) (d : XDesc) (hj : (flushKv refOf w).2[j]? = some d)
    (h1 : d.ref < 2 ^ 64) (h2 : d.count < 2 ^ 32) (h3 : d.size < 2 ^ 32) :
    getDesc ((xattrFlush cmp refOf w).reader unc posOf) j = .ok d := by
  obtain ⟨hjl, _⟩ := List.getElem?_eq_some_iff.mp hj
  have hn : 0 < (flushKv refOf w).2.length := Nat.lt_of_le_of_lt (Nat.zero_le j) hjl
  obtain ⟨hlocs, hlen⟩ := xattrFlush_locs cmp refOf w hn
  unfold getDesc XFlush.reader
  simp only
  have hdescs : (xattrFlush cmp refOf w).descs = (flushKv refOf w).2 := rfl
  have hblocks : (xattrFlush cmp refOf w).idBlocks = (run cmp ((flushKv refOf w).2.map encDesc)).out := rfl
  rw [hdescs, if_neg (Nat.not_le.mpr hjl)]
  generalize hdd : (flushKv refOf w).2 = descs at *
  obtain ⟨hok, hraw⟩ := run_blocksOk cmp (descs.map encDesc)
  have hfull := run_full cmp (descs.map encDesc)
  have hrawd : rawOf (run cmp (descs.map encDesc)).out = encDescs descs := by rw [hraw]; rfl
  -- the block the descriptor lies in has a slot
  have hq : j * sizeofXattrId / metaBlockSize < (xattrFlush cmp refOf w).idBlocks.length := by
    rw [hlen, hdescs]; exact locCount_slot hjl
  rw [hlocs, List.getElem?_map, List.getElem?_range hq]
  simp only [Option.map_some]
  rw [hblocks]
  have hp : j * sizeofXattrId < (rawOf (run cmp (descs.map encDesc)).out).length := by
    rw [hrawd, encDescs_length]; exact Nat.mul_lt_mul_of_pos_right hjl (by decide)
  have hrd := metaReadAt_refOfPos hc _ hok hfull (j * sizeofXattrId) sizeofXattrId hp
    (by rw [hrawd, encDescs_length]; exact Nat.succ_mul j sizeofXattrId ▸ Nat.mul_le_mul_right sizeofXattrId hjl)
  simp only [refOfPos] at hrd
  rw [hrd, hrawd]
  rw [encDescs, records_drop encDesc_length descs j d hj, ← encDesc_length d, List.take_left]
  simp only
  have hf := readFields_encFields_fit [(8, d.ref), (4, d.count), (4, d.size)] [] (.cons h1 (.cons h2 (.cons h3 .nil)))
  simp only [List.append_nil] at hf
  simp only [encDesc, hf]

end Sqfs.Enc
