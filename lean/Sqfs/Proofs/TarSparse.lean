/-
Sparse expansion: every way of walking the regions of a well-formed map — the region walk of `iterator.c`, and the same walk
cut where the caller's reads of `want` bytes end — computes the specification.  The regions are told by the entries still ahead
of the position (`region`), and a walk (`IsWalk`) is taken from a position on, so that behind an entry it is a walk over the rest
of the map.  An ordinary (non-sparse) file read through the tar file stream is the walk over the empty map.
-/
import Sqfs.Spec.TarSparse
import Mathlib.Tactic.Ring
namespace Sqfs.Tar

theorem wf_bounds (pos : Nat) (t : List (Nat × Nat)) (F : Nat) (h : WellFormedMap pos t F) :
    pos ≤ F ∧ ∀ e ∈ t, pos ≤ e.1 ∧ e.1 + e.2 ≤ F := by
  induction t generalizing pos with
  | nil => exact ⟨h, by simp⟩
  | cons e t ih =>
    obtain ⟨o, c⟩ := e
    obtain ⟨h1, h2⟩ := h
    obtain ⟨h3, h4⟩ := ih (o + c) h2
    refine ⟨by omega, ?_⟩
    intro e he
    rcases List.mem_cons.1 he with rfl | he
    · simp only; omega
    · have := h4 e he; omega

theorem dataRegion_ahead (t : List (Nat × Nat)) (pos : Nat) (h : ∀ e ∈ t, pos < e.1 ∨ e.2 = 0) :
    dataRegion pos t = none := by
  induction t with
  | nil => rfl
  | cons e t ih =>
    obtain ⟨o, c⟩ := e
    have he := h (o, c) (by simp)
    have hn : ¬ (pos ≥ o ∧ pos - o < c) := by simp only at he; omega
    simp only [dataRegion, hn, if_false]
    exact ih (fun e he => h e (List.mem_cons_of_mem _ he))

theorem holeRegion_noop (t : List (Nat × Nat)) (pos cnt : Nat) (h : ∀ e ∈ t, e.1 ≤ pos ∨ cnt ≤ e.1 - pos) :
    holeRegion pos cnt t = cnt := by
  induction t with
  | nil => rfl
  | cons e t ih =>
    obtain ⟨o, c⟩ := e
    have he := h (o, c) (by simp)
    have hn : ¬ (pos < o ∧ o - pos < cnt) := by simp only at he; omega
    simp only [holeRegion, hn, if_false]
    exact ih (fun e he => h e (List.mem_cons_of_mem _ he))

theorem zeros_add (a b : Nat) : zeros (a + b) = zeros a ++ zeros b := by
  unfold zeros; rw [List.replicate_append_replicate]

/-- `is_sparse_region` when the map is not empty, as a function of the entries `m` still to be looked at: an entry that lies
    behind the position can be dropped (`region_behind`), and with none left the rest of the file is a hole. -/
def region (m : List (Nat × Nat)) (F pos : Nat) : Bool × Nat :=
  match dataRegion pos m with
  | some n => (false, n)
  | none => (true, holeRegion pos (F - pos) m)

theorem isSparseRegion_eq_region (m : List (Nat × Nat)) (hne : m ≠ []) (F pos : Nat) :
    isSparseRegion m F pos = region m F pos := by
  cases m with
  | nil => exact absurd rfl hne
  | cons _ _ => rfl

theorem region_behind (o c : Nat) (t : List (Nat × Nat)) (F pos : Nat) (h : o + c ≤ pos) :
    region ((o, c) :: t) F pos = region t F pos := by
  have h1 : ¬ (pos ≥ o ∧ pos - o < c) := by omega
  have h2 : ¬ (pos < o ∧ o - pos < F - pos) := by omega
  simp only [region, dataRegion, holeRegion, h1, h2, if_false]

theorem region_data (o c : Nat) (t : List (Nat × Nat)) (F pos : Nat) (h1 : o ≤ pos) (h2 : pos < o + c) :
    region ((o, c) :: t) F pos = (false, o + c - pos) := by
  have : pos ≥ o ∧ pos - o < c := by omega
  simp only [region, dataRegion, this, and_self, if_true]
  congr 1
  omega

theorem region_hole (o c : Nat) (t : List (Nat × Nat)) (F pos : Nat)
    (hlt : pos < o) (hoF : o ≤ F) (ht : ∀ e ∈ t, o + c ≤ e.1) :
    region ((o, c) :: t) F pos = (true, o - pos) := by
  have hd : dataRegion pos ((o, c) :: t) = none := by
    apply dataRegion_ahead
    intro e he
    rcases List.mem_cons.1 he with rfl | he
    · left; exact hlt
    · left; have := ht e he; omega
  have h2 : (if pos < o ∧ o - pos < F - pos then o - pos else F - pos) = o - pos := by split <;> omega
  simp only [region, hd, holeRegion, h2]
  rw [holeRegion_noop]
  intro e he; right; have := ht e he; omega

/-- A way of reading the file stream to its end, from position `lo` on and with `reg` telling the regions: short of the file
    size every step hands out at least one byte and at most the rest of the current region.  `expandLoop` takes whole regions,
    `expandLoopC` cuts them where the caller's reads end. -/
structure IsWalk (reg : Nat → Bool × Nat) (lo F : Nat) (W : Nat → Nat → Nat → Bytes → Bytes → ExpandResult) : Prop where
  done : ∀ f pos rsz s acc, pos ≥ F → W (f + 1) pos rsz s acc = ⟨acc, s, rsz, .eof⟩
  hole : ∀ f pos rsz s acc n, lo ≤ pos → pos < F → reg pos = (true, n) → n ≠ 0 →
    ∃ m, 1 ≤ m ∧ m ≤ n ∧ W (f + 1) pos rsz s acc = W f (pos + m) rsz s (acc ++ zeros m)
  data : ∀ f pos rsz s acc n, lo ≤ pos → pos < F → reg pos = (false, n) → n ≠ 0 → n ≤ s.length → n ≤ rsz → rsz < U64 →
    ∃ m, 1 ≤ m ∧ m ≤ n ∧ W (f + 1) pos rsz s acc = W f (pos + m) (rsz - m) (s.drop m) (acc ++ s.take m)

theorem IsWalk.from {reg reg' : Nat → Bool × Nat} {lo lo' F : Nat} {W : Nat → Nat → Nat → Bytes → Bytes → ExpandResult}
    (h : IsWalk reg lo F W) (hlo : lo ≤ lo') (hr : ∀ pos, lo' ≤ pos → pos < F → reg' pos = reg pos) : IsWalk reg' lo' F W where
  done := h.done
  hole := fun f pos rsz s acc n hl hp hreg => h.hole f pos rsz s acc n (Nat.le_trans hlo hl) hp (hr pos hl hp ▸ hreg)
  data := fun f pos rsz s acc n hl hp hreg => h.data f pos rsz s acc n (Nat.le_trans hlo hl) hp (hr pos hl hp ▸ hreg)

theorem take_step (m rsz : Nat) (s : Bytes) (h1 : 1 ≤ m) (hs : m ≤ s.length) (hr : m ≤ rsz) (h64 : rsz < U64) :
    s.isEmpty = false ∧ (s.take m).length = m ∧ (rsz + U64 - m % U64) % U64 = rsz - m := by
  refine ⟨?_, by rw [List.length_take]; omega, ?_⟩
  · cases s with
    | nil => simp at hs; omega
    | cons _ _ => rfl
  · rw [Nat.mod_eq_of_lt (Nat.lt_of_le_of_lt hr h64), show rsz + U64 - m = (rsz - m) + U64 by omega, Nat.add_mod_right,
      Nat.mod_eq_of_lt (Nat.lt_of_le_of_lt (Nat.sub_le _ _) h64)]

theorem expandLoop_isWalk (map : List (Nat × Nat)) (F : Nat) : IsWalk (isSparseRegion map F) 0 F (expandLoop map F) where
  done := by intro f pos rsz s acc h; rw [expandLoop, if_pos h]
  hole := by
    intro f pos rsz s acc n _ hp hr hn
    refine ⟨n, by omega, Nat.le_refl _, ?_⟩
    rw [expandLoop, if_neg (by omega), hr]
    simp only [hn, if_false, if_true]
  data := by
    intro f pos rsz s acc n _ hp hr hn hs hrs h64
    obtain ⟨e1, e2, e3⟩ := take_step n rsz s (by omega) hs hrs h64
    refine ⟨n, by omega, Nat.le_refl _, ?_⟩
    rw [expandLoop, if_neg (by omega), hr]
    simp only [hn, if_false, Bool.false_eq_true, e1, e2, e3]

theorem expandLoopC_isWalk (map : List (Nat × Nat)) (F want : Nat) (hw : 1 ≤ want) : IsWalk (isSparseRegion map F) 0 F (expandLoopC map F want) where
  done := by intro f pos rsz s acc h; rw [expandLoopC, if_pos h]
  hole := by
    intro f pos rsz s acc n _ hp hr hn
    have := Nat.mod_lt pos (by omega : want > 0)
    refine ⟨if n > want - pos % want then want - pos % want else n, by split <;> omega, by split <;> omega, ?_⟩
    rw [expandLoopC, if_neg (by omega), hr]
    simp only [hn, if_false, if_true]
  data := by
    intro f pos rsz s acc n _ hp hr hn hs hrs h64
    have := Nat.mod_lt pos (by omega : want > 0)
    generalize hm : (if n > want - pos % want then want - pos % want else n) = m
    have h1 : 1 ≤ m := by rw [← hm]; split <;> omega
    have h2 : m ≤ n := by rw [← hm]; split <;> omega
    obtain ⟨e1, e2, e3⟩ := take_step m rsz s h1 (by omega) (by omega) h64
    refine ⟨m, h1, h2, ?_⟩
    rw [expandLoopC, if_neg (by omega), hr]
    simp only [hn, if_false, Bool.false_eq_true, hm, e1, e2, e3]

section
variable {reg : Nat → Bool × Nat} {lo F : Nat} {W : Nat → Nat → Nat → Bytes → Bytes → ExpandResult}

/-- a walk crosses a hole `[a, a + n)` in some number of steps: `n` zeros are written, the stream is not touched -/
theorem IsWalk.cross_hole (hW : IsWalk reg lo F W) {R : ExpandResult} :
    ∀ (n a fuel rsz : Nat) (s acc : Bytes), lo ≤ a → a + n ≤ F → F + 2 ≤ fuel + a →
      (∀ p, a ≤ p → p < a + n → reg p = (true, a + n - p)) →
      (∀ fuel', F + 2 ≤ fuel' + (a + n) → W fuel' (a + n) rsz s (acc ++ zeros n) = R) →
      W fuel a rsz s acc = R := by
  intro n
  induction n using Nat.strong_induction_on with
  | _ n ih =>
  intro a fuel rsz s acc hlo hF hfuel hreg hk
  by_cases h0 : n = 0
  · subst h0; simpa [zeros] using hk fuel hfuel
  · obtain ⟨f, rfl⟩ : ∃ f, fuel = f + 1 := ⟨fuel - 1, by omega⟩
    have hr0 := hreg a (Nat.le_refl _) (by omega)
    rw [Nat.add_sub_cancel_left] at hr0
    obtain ⟨m, hm1, hm2, hstep⟩ := hW.hole f a rsz s acc n hlo (by omega) hr0 h0
    rw [hstep]
    have e : a + n = a + m + (n - m) := by omega
    refine ih (n - m) (by omega) (a + m) f rsz s _ (by omega) (by omega) (by omega) (fun p h1 h2 => ?_) (fun fuel' hf' => ?_)
    · rw [← e]; exact hreg p (by omega) (by omega)
    · rw [List.append_assoc, ← zeros_add, ← e, show m + (n - m) = n by omega]
      exact hk fuel' (by omega)

/-- … and a data region `[a, a + n)`: the next `n` bytes of the stream are copied -/
theorem IsWalk.cross_data (hW : IsWalk reg lo F W) {R : ExpandResult} :
    ∀ (n a fuel rsz : Nat) (s acc : Bytes), lo ≤ a → a + n ≤ F → F + 2 ≤ fuel + a → n ≤ s.length → n ≤ rsz → rsz < U64 →
      (∀ p, a ≤ p → p < a + n → reg p = (false, a + n - p)) →
      (∀ fuel', F + 2 ≤ fuel' + (a + n) → W fuel' (a + n) (rsz - n) (s.drop n) (acc ++ s.take n) = R) →
      W fuel a rsz s acc = R := by
  intro n
  induction n using Nat.strong_induction_on with
  | _ n ih =>
  intro a fuel rsz s acc hlo hF hfuel hs hr h64 hreg hk
  by_cases h0 : n = 0
  · subst h0; simpa using hk fuel hfuel
  · obtain ⟨f, rfl⟩ : ∃ f, fuel = f + 1 := ⟨fuel - 1, by omega⟩
    have hr0 := hreg a (Nat.le_refl _) (by omega)
    rw [Nat.add_sub_cancel_left] at hr0
    obtain ⟨m, hm1, hm2, hstep⟩ := hW.data f a rsz s acc n hlo (by omega) hr0 h0 hs hr h64
    rw [hstep]
    have e : a + n = a + m + (n - m) := by omega
    refine ih (n - m) (by omega) (a + m) f (rsz - m) (s.drop m) _ (by omega) (by omega) (by omega)
      (by rw [List.length_drop]; omega) (by omega) (by omega) (fun p h1 h2 => ?_) (fun fuel' hf' => ?_)
    · rw [← e]; exact hreg p (by omega) (by omega)
    · rw [List.append_assoc, ← List.take_add, List.drop_drop, ← e, show m + (n - m) = n by omega,
        show rsz - m - (n - m) = rsz - n by omega]
      exact hk fuel' (by omega)

end

theorem walk_wf {F : Nat} : ∀ (m : List (Nat × Nat)) {W : Nat → Nat → Nat → Bytes → Bytes → ExpandResult} (pos fuel rsz : Nat)
      (s acc : Bytes), IsWalk (region m F) pos F W →
      WellFormedMap pos m F → dataBytes m ≤ s.length → dataBytes m ≤ rsz → rsz < U64 → F + 2 ≤ fuel + pos →
      W fuel pos rsz s acc = ⟨acc ++ specExpand pos m F s, s.drop (dataBytes m), rsz - dataBytes m, .eof⟩ := by
  intro m
  induction m with
  | nil =>
    intro W pos fuel rsz s acc hW hwf _ _ _ hfuel
    have hpF : pos ≤ F := hwf
    -- the hole behind the last entry, then the end of the file
    refine hW.cross_hole (F - pos) pos fuel rsz s acc (Nat.le_refl _) (by omega) hfuel (fun p h1 _ => ?_) (fun fuel' hf' => ?_)
    · show (true, F - p) = _; congr 1; omega
    · obtain ⟨f, rfl⟩ : ∃ f, fuel' = f + 1 := ⟨fuel' - 1, by omega⟩
      rw [hW.done f _ _ _ _ (by omega)]
      simp [specExpand, dataBytes]
  | cons e t ih =>
    obtain ⟨o, c⟩ := e
    intro W pos fuel rsz s acc hW hwf hs hr h64 hfuel
    obtain ⟨hpo, hwft⟩ := hwf
    obtain ⟨hocF, htb⟩ := wf_bounds (o + c) t F hwft
    simp only [dataBytes] at hs hr
    -- the hole in front of the entry, the entry's data, then the rest of the map
    refine hW.cross_hole (o - pos) pos fuel rsz s acc (Nat.le_refl _) (by omega) hfuel (fun p h1 h2 => ?_) (fun f1 hf1 => ?_)
    · rw [region_hole o c t F p (by omega) (by omega) (fun e he => (htb e he).1)]
      congr 1; omega
    rw [show pos + (o - pos) = o by omega] at hf1 ⊢
    refine hW.cross_data c o f1 rsz s _ hpo hocF hf1 (by omega) (by omega) h64 (fun p h1 h2 => region_data o c t F p h1 h2)
      (fun f2 hf2 => ?_)
    rw [ih (o + c) f2 (rsz - c) (s.drop c) _ (hW.from (by omega) fun p h _ => (region_behind o c t F p h).symm) hwft
      (by rw [List.length_drop]; omega) (by omega) (by omega) hf2]
    simp only [specExpand, dataBytes, List.append_assoc, List.drop_drop, Nat.sub_sub]

theorem walk_wf_start {F : Nat} {W : Nat → Nat → Nat → Bytes → Bytes → ExpandResult} {m : List (Nat × Nat)}
    (hW : IsWalk (isSparseRegion m F) 0 F W)
    (fuel : Nat) (s : Bytes) (hne : m ≠ []) (hwf : WellFormedMap 0 m F) (hs : dataBytes m ≤ s.length) (h64 : dataBytes m < U64)
    (hfuel : F + 2 ≤ fuel) :
    W fuel 0 (dataBytes m) s [] = ⟨specExpand 0 m F s, s.drop (dataBytes m), 0, .eof⟩ := by
  simpa using walk_wf m 0 fuel (dataBytes m) s [] (hW.from (Nat.le_refl _) fun p _ _ => (isSparseRegion_eq_region m hne F p).symm)
    hwf hs (Nat.le_refl _) h64 hfuel

theorem isSparseRegion_nil (F off : Nat) : isSparseRegion [] F off = (false, F - off) := rfl

theorem expandC_plain (want : Nat) (hw : 1 ≤ want) (d tail : Bytes) (hF : d.length < U64) :
    expandC want [] d.length d.length (d ++ tail) = ⟨d, tail, 0, .eof⟩ := by
  have hW := expandLoopC_isWalk [] d.length want hw
  refine hW.cross_data d.length 0 _ _ _ _ (Nat.le_refl _) (by omega) (by omega) (by simp) (Nat.le_refl _) hF
    (fun p _ _ => by rw [isSparseRegion_nil, Nat.zero_add]) (fun fuel hf => ?_)
  obtain ⟨f, rfl⟩ : ∃ f, fuel = f + 1 := ⟨fuel - 1, by omega⟩
  rw [hW.done f _ _ _ _ (by omega)]
  simp

end Sqfs.Tar
