/-
C06, runs with failing calls: what `run` keeps under any `Faults` (`run_preserves`, `Inv.run`), the shape of its trace
(`run_spec`), `mkdir_p` makes only new empty directories, and the five ways out of `unpackMain`.
-/
import Sqfs.Proofs.Unpack
namespace Sqfs.Unpack
open Sqfs.Path

/-! ## a run under environment faults keeps the invariant -/

theorem stepF_ok {flt : Option Errno} {fs fs' : Fs} {cwd : PathC} {sc : Syscall}
    (h : stepF flt fs cwd sc = .ok fs') : flt = none ∧ step fs cwd sc = .ok fs' := by
  unfold stepF at h
  split at h
  · cases h
  · exact ⟨rfl, h⟩

theorem run_preserves {P : Fs → Prop} {cwd : PathC} (flt : Faults) (scs : List Syscall) (i : Nat) (fs : Fs) (h : P fs)
    (hstep : ∀ sc ∈ scs, ∀ fs fs', P fs → step fs cwd sc = .ok fs' → P fs') : P (run flt cwd i fs scs).fs := by
  fun_induction run flt cwd i fs scs
  case case1 | case4 => exact h
  case case2 hs _ ih => exact ih (hstep _ (by simp) _ _ h (stepF_ok hs).2) fun sc hsc => hstep sc (by simp [hsc])
  case case3 ih => exact ih h fun sc hsc => hstep sc (by simp [hsc])

theorem Inv.run {V : VSet} {R : PathC} {fs₀ : Fs} (hf : VFun V) (hp : VPrefix V) (flt : Faults) (scs : List Syscall)
    (i : Nat) (fs : Fs) (hi : Inv V R fs₀ fs) (ho : ∀ sc ∈ scs, OpFor V sc) : Inv V R fs₀ (run flt R i fs scs).fs :=
  run_preserves flt scs i fs hi fun sc hsc _ _ hi hs => hi.step hf hp (ho sc hsc) hs

theorem run_noFaults_fs (cwd : PathC) : ∀ (scs : List Syscall) (i : Nat) (fs : Fs),
    (run noFaults cwd i fs scs).fs = exec cwd fs scs := by
  intro scs
  induction scs with
  | nil => intro i fs; rfl
  | cons sc r ih =>
    intro i fs
    unfold Unpack.run exec
    simp only [noFaults, stepF]
    split
    · exact ih _ _
    · split
      · exact ih _ _
      · rfl

/-! ## shape of a run's trace -/

/-- What the trace of a run over `scs` looks like: every call made was fine (it succeeded, or was tolerated), up to the
    end of the list — or up to the first call that was not, which ends the trace and sets `failed`. -/
inductive Traced : List Syscall → List (Syscall × Option Errno) → Bool → Prop
  | nil : Traced [] [] false
  | fine {sc o r tr f} : Fine (sc, o) → Traced r tr f → Traced (sc :: r) ((sc, o) :: tr) f
  | stop {sc e r} : tolerated sc e = false → Traced (sc :: r) [(sc, some e)] true

theorem fine_some {sc : Syscall} {e : Errno} : Fine (sc, some e) ↔ tolerated sc e = true := by
  simp [Fine]

theorem run_spec (flt : Faults) (cwd : PathC) (scs : List Syscall) (i : Nat) (fs : Fs) :
    Traced scs (run flt cwd i fs scs).trace (run flt cwd i fs scs).failed := by
  fun_induction run flt cwd i fs scs
  case case1 => exact .nil
  case case2 ih => exact .fine (Or.inl rfl) ih
  case case3 ht _ ih => exact .fine (fine_some.2 ht) ih
  case case4 ht => exact .stop (by simpa using ht)

theorem Traced.ok {scs tr} (h : Traced scs tr false) : tr.map Prod.fst = scs ∧ ∀ x ∈ tr, Fine x := by
  generalize hf : false = f at h
  induction h with
  | nil => exact ⟨rfl, fun _ h => absurd h List.not_mem_nil⟩
  | fine hy _ ih => exact ⟨congrArg _ (ih hf).1, List.forall_mem_cons.2 ⟨hy, (ih hf).2⟩⟩
  | stop => cases hf

theorem Traced.failed {scs tr} (h : Traced scs tr true) :
    ∃ pre sc e, tr = pre ++ [(sc, some e)] ∧ tolerated sc e = false ∧ ∀ x ∈ pre, Fine x := by
  generalize hf : true = f at h
  induction h with
  | nil => cases hf
  | fine hy _ ih =>
    obtain ⟨pre, sc', e, ha, hb, hc⟩ := ih hf
    exact ⟨_ :: pre, sc', e, by rw [ha]; rfl, hb, List.forall_mem_cons.2 ⟨hy, hc⟩⟩
  | stop ht => exact ⟨[], _, _, rfl, ht, fun _ h => absurd h List.not_mem_nil⟩

theorem Traced.bad_is_last {scs tr f} (h : Traced scs tr f) {x : Syscall × Option Errno} (hx : x ∈ tr) (hbad : ¬ Fine x) :
    f = true ∧ ∃ pre, tr = pre ++ [x] := by
  cases f with
  | false => exact absurd (h.ok.2 x hx) hbad
  | true =>
    obtain ⟨pre, sc, e, rfl, _, hc⟩ := h.failed
    refine ⟨rfl, pre, ?_⟩
    rcases List.mem_append.1 hx with hx | hx
    · exact absurd (hc x hx) hbad
    · simp at hx; rw [hx]

theorem run_no_success_fs (flt : Faults) (cwd : PathC) : ∀ (scs : List Syscall) (i : Nat) (fs : Fs),
    (∀ x ∈ (run flt cwd i fs scs).trace, x.2 ≠ none) → (run flt cwd i fs scs).fs = fs := by
  intro scs i fs
  fun_induction run flt cwd i fs scs <;> intro h
  case case1 | case4 => rfl
  case case2 => exact absurd rfl (h _ List.mem_cons_self)
  case case3 ih => exact ih fun x hx => h x (List.mem_cons_of_mem _ hx)

/-! ## `mkdir_p` only makes new, empty directories -/

theorem OnlyNewDirs.refl (fs : Fs) : OnlyNewDirs fs fs := fun _ => Or.inl rfl

theorem OnlyNewDirs.trans {a b c : Fs} (h1 : OnlyNewDirs a b) (h2 : OnlyNewDirs b c) : OnlyNewDirs a c := by
  intro p
  rcases h2 p with e2 | ⟨n2, d2⟩
  · rcases h1 p with e1 | ⟨n1, d1⟩
    · exact Or.inl (e2.trans e1)
    · exact Or.inr ⟨n1, e2.trans d1⟩
  · rcases h1 p with e1 | ⟨_, d1⟩
    · exact Or.inr ⟨e1 ▸ n2, d2⟩
    · rw [d1] at n2; cases n2

theorem step_mkdir_onlyNewDirs {fs fs' : Fs} {cwd : PathC} {p : Bytes}
    (h : step fs cwd (.mkdir p 0o755) = .ok fs') : OnlyNewDirs fs fs' := by
  simp only [step] at h
  split at h
  · cases h
  · cases h
  · rename_i key hr
    cases h
    have hnone : fs key = none := (resolve_snd hr).symm
    intro q
    by_cases hq : q = key
    · subst hq
      exact Or.inr ⟨hnone, fs.set_self ..⟩
    · exact Or.inl (fs.set_of_ne _ hq)

theorem mkdirP_onlyNewDirs (flt : Faults) (cwd : PathC) (fs : Fs) (R : Bytes) :
    OnlyNewDirs fs (mkdirP flt cwd fs R).fs := by
  refine run_preserves flt _ 0 fs (OnlyNewDirs.refl fs) ?_
  intro sc hsc fs₁ fs₂ h hs
  obtain ⟨p, _, rfl⟩ := List.mem_map.1 hsc
  exact h.trans (step_mkdir_onlyNewDirs hs)

theorem mkdirP_trace_length (flt : Faults) (cwd : PathC) (fs : Fs) (R : Bytes) (h : (mkdirP flt cwd fs R).failed = false) :
    (mkdirP flt cwd fs R).trace.length = (mkdirPCuts R).length := by
  have := (h ▸ run_spec flt cwd ((mkdirPCuts R).map (Syscall.mkdir · 0o755)) 0 fs).ok.1
  have := congrArg List.length this
  simpa [mkdirP] using this

/-! ## `unpackMain` -/

section
variable {ord : List FileEnt → List FileEnt} {fl : Flags} {t t' : TNode} {root : Option Bytes} {R : Bytes} {flt : Faults}
  {cwd₀ : PathC} {fs₀ : Fs} {M : MainRun}

/-! The five ways out of `unpackMain` (`fun_cases`): `tree_sort` fails; no `--unpack-root`, the walks run; `mkdir_p`
    fails; `chdir` fails; both succeed, the walks run. -/

/-- the walks are reached only behind `tree_sort`, `mkdir_p` and `chdir`; then the rest of the run is `run` on the plan -/
theorem main_established (hM : unpackMain ord fl t root flt cwd₀ fs₀ = M) (h : M.established = true) :
    ∃ t' i f, treeSort t = .ok t' ∧ M.fs = (run flt M.cwd i M.fsEst (planSorted ord fl t').syscalls).fs ∧
      Traced (planSorted ord fl t').syscalls M.trace f ∧
      M.exit = (if f || (planSorted ord fl t').err.isSome then 1 else 0) := by
  subst hM
  revert h
  fun_cases unpackMain ord fl t root flt cwd₀ fs₀ <;> intro h
  case case2 => exact ⟨_, 0, _, ‹treeSort t = _›, rfl, run_spec .., rfl⟩
  case case5 => exact ⟨_, _, _, ‹treeSort t = _›, rfl, run_spec .., rfl⟩
  all_goals cases h

theorem main_not_established (hM : unpackMain ord fl t root flt cwd₀ fs₀ = M) (h : M.established = false) :
    M.trace = [] ∧ M.exit = 1 ∧ M.fs = M.fsEst := by
  subst hM
  revert h
  fun_cases unpackMain ord fl t root flt cwd₀ fs₀ <;> intro h
  case case2 | case5 => cases h
  all_goals exact ⟨rfl, rfl, rfl⟩

theorem main_pre (hs : treeSort t = .ok t') (hr : root = some R) :
    (unpackMain ord fl t root flt cwd₀ fs₀).pre = (mkdirP flt cwd₀ fs₀ R).trace ∧
    (unpackMain ord fl t root flt cwd₀ fs₀).fsEst = (mkdirP flt cwd₀ fs₀ R).fs := by
  revert hr
  fun_cases unpackMain ord fl t root flt cwd₀ fs₀ <;> intro hr <;> cases hr
  case case1 => cases hs.symm.trans ‹treeSort t = .error _›
  all_goals exact ⟨rfl, rfl⟩

theorem main_fsEst_onlyNewDirs : OnlyNewDirs fs₀ (unpackMain ord fl t root flt cwd₀ fs₀).fsEst := by
  fun_cases unpackMain ord fl t root flt cwd₀ fs₀
  case case1 | case2 => exact OnlyNewDirs.refl _
  all_goals exact mkdirP_onlyNewDirs flt cwd₀ fs₀ _
end

end Sqfs.Unpack
