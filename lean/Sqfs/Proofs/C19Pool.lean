import Sqfs.Model.C19Pool
import Sqfs.Proofs.RbTree
/-!
Lemmas about the pool configuration of `rbtree.c` (`Sqfs.Model.C19Pool`):
* `copyNodeP_st` — on node memory `copy_node` does in the pool configuration exactly what it does in the `calloc` configuration
  (so `rbtree_copy_equiv` carries over);
* `copyNodeP_owner` — every node it allocates belongs to the pool it was handed (`nt->pool`), no other node changes owner, no
  pool is created;
* `rbCopyP_of_rbCopy` — the two together at `rbtree_copy`, for any store and root.
-/
namespace Sqfs.Rb

theorem copyNodeP_succ (c : Cfg) (pool fuel : Nat) (ps : PStore) (a : Nat) (n : Cell) (hn : ps.st.cells a = some n) :
    copyNodeP c pool (fuel + 1) ps a =
      match copyChildP (copyNodeP c pool fuel) (ps.alloc pool ⟨none, none, n.off, n.red, copyData c n.data⟩).1 n.left with
      | none => none
      | some (ps2, l') =>
        match copyChildP (copyNodeP c pool fuel) (ps2.mod ps.st.next fun x => { x with left := l' }) n.right with
        | none => none
        | some (ps4, r') => some (ps4.mod ps.st.next fun x => { x with right := r' }, ps.st.next) := by
  simp only [copyNodeP, hn, PStore.alloc]
  rfl

theorem copyChildP_st (recP : PStore → Nat → Option (PStore × Nat)) (rec : Store → Nat → Option (Store × Nat))
    (h : ∀ ps a, (recP ps a).map (fun r => (r.1.st, r.2)) = rec ps.st a) (ps : PStore) (p : Option Nat) :
    (copyChildP recP ps p).map (fun r => (r.1.st, r.2)) = copyChild rec ps.st p := by
  cases p with
  | none => rfl
  | some a =>
    simp only [copyChildP, copyChild, ← h ps a]
    cases recP ps a <;> rfl

theorem PStore.alloc_st (ps : PStore) (pool : Nat) (c : Cell) : (ps.alloc pool c).1.st = (ps.st.alloc c).1 := rfl

theorem PStore.mod_st (ps : PStore) (a : Nat) (f : Cell → Cell) : (ps.mod a f).st = modCell ps.st a f := rfl

theorem copyNodeP_st (c : Cfg) (pool : Nat) : ∀ (fuel : Nat) (ps : PStore) (a : Nat),
    (copyNodeP c pool fuel ps a).map (fun r => (r.1.st, r.2)) = copyNode c fuel ps.st a := by
  intro fuel
  induction fuel with
  | zero => intro ps a; rfl
  | succ fuel ih =>
    intro ps a
    cases hn : ps.st.cells a with
    | none => simp [copyNodeP, copyNode, hn]
    | some n =>
      -- both sides run the same two recursive calls; the induction hypothesis turns each call on node memory into the call on the pool store
      rw [copyNode_succ c fuel ps.st a n hn, copyNodeP_succ c pool fuel ps a n hn, ← PStore.alloc_st ps pool, ← copyChildP_st _ _ ih]
      generalize copyChildP (copyNodeP c pool fuel) _ n.left = x2
      obtain _ | ⟨ps2, l'⟩ := x2
      · rfl
      dsimp only [Option.map_some]
      rw [← PStore.mod_st, ← copyChildP_st _ _ ih]
      generalize copyChildP (copyNodeP c pool fuel) _ n.right = x4
      obtain _ | ⟨ps4, r'⟩ := x4 <;> rfl

/-- what a run of allocations from `pool` does to the ownership map -/
structure OwnerStep (pool : Nat) (ps ps' : PStore) : Prop where
  next_le : ps.st.next ≤ ps'.st.next
  old : ∀ i, i < ps.st.next → ps'.owner i = ps.owner i
  new : ∀ i, ps.st.next ≤ i → i < ps'.st.next → ps'.owner i = pool
  np : ps'.nextPool = ps.nextPool
  lv : ps'.live = ps.live

theorem OwnerStep.refl (pool : Nat) (ps : PStore) : OwnerStep pool ps ps :=
  ⟨Nat.le_refl _, fun _ _ => rfl, fun _ h1 h2 => absurd h2 (Nat.not_lt.mpr h1), rfl, rfl⟩

theorem OwnerStep.trans {pool : Nat} {a b c : PStore} (h1 : OwnerStep pool a b) (h2 : OwnerStep pool b c) : OwnerStep pool a c := by
  refine ⟨Nat.le_trans h1.next_le h2.next_le, ?_, ?_, by rw [h2.np, h1.np], by rw [h2.lv, h1.lv]⟩
  · intro i hi
    rw [h2.old i (Nat.lt_of_lt_of_le hi h1.next_le), h1.old i hi]
  · intro i hlo hhi
    by_cases hb : i < b.st.next
    · rw [h2.old i hb]; exact h1.new i hlo hb
    · exact h2.new i (Nat.not_lt.mp hb) hhi

theorem OwnerStep.alloc (pool : Nat) (ps : PStore) (c : Cell) : OwnerStep pool ps (ps.alloc pool c).1 :=
  ⟨Nat.le_succ _, fun _ hi => if_neg (Nat.ne_of_lt hi), fun _ hlo hhi => if_pos (Nat.le_antisymm (Nat.le_of_lt_succ hhi) hlo), rfl, rfl⟩

theorem OwnerStep.mod (pool : Nat) (ps : PStore) (a : Nat) (f : Cell → Cell) : OwnerStep pool ps (ps.mod a f) := by
  have hn : (ps.mod a f).st.next = ps.st.next := modCell_next _ _ _
  refine ⟨by rw [hn]; exact Nat.le_refl _, fun _ _ => rfl, ?_, rfl, rfl⟩
  intro i hlo hhi
  rw [hn] at hhi
  exact absurd hhi (Nat.not_lt.mpr hlo)

theorem copyChildP_owner (pool : Nat) (recP : PStore → Nat → Option (PStore × Nat))
    (h : ∀ ps a ps' out, recP ps a = some (ps', out) → OwnerStep pool ps ps')
    (ps : PStore) (p : Option Nat) (ps' : PStore) (p' : Option Nat) (he : copyChildP recP ps p = some (ps', p')) :
    OwnerStep pool ps ps' := by
  cases p with
  | none => cases he; exact OwnerStep.refl pool ps
  | some a =>
    simp only [copyChildP] at he
    generalize hr : recP ps a = r at he
    obtain _ | ⟨ps2, x⟩ := r <;> cases he
    exact h ps a ps' x hr

theorem copyNodeP_owner (c : Cfg) (pool : Nat) : ∀ (fuel : Nat) (ps : PStore) (a : Nat) (ps' : PStore) (out : Nat),
    copyNodeP c pool fuel ps a = some (ps', out) → OwnerStep pool ps ps' := by
  intro fuel
  induction fuel with
  | zero => intro ps a ps' out h; simp [copyNodeP] at h
  | succ fuel ih =>
    intro ps a ps' out h
    cases hn : ps.st.cells a with
    | none => simp [copyNodeP, hn] at h
    | some n =>
      rw [copyNodeP_succ c pool fuel ps a n hn] at h
      generalize h2 : copyChildP (copyNodeP c pool fuel) _ n.left = x2 at h
      obtain _ | ⟨ps2, l'⟩ := x2
      · cases h
      dsimp only at h
      generalize h4 : copyChildP (copyNodeP c pool fuel) _ n.right = x4 at h
      obtain _ | ⟨ps4, r'⟩ := x4
      · cases h
      cases h
      exact (OwnerStep.alloc pool ps _).trans <| (copyChildP_owner pool _ ih _ _ _ _ h2).trans <| (OwnerStep.mod pool ps2 _ _).trans <|
        (copyChildP_owner pool _ ih _ _ _ _ h4).trans (OwnerStep.mod pool ps4 _ _)

/-- `rbtree_copy` does on node memory what it does in the `calloc` configuration and takes every node from the pool it creates -/
theorem rbCopyP_of_rbCopy {c : Cfg} {fuel : Nat} {ps : PStore} {root root' : Option Nat} {st' : Store}
    (he : rbCopy c fuel ps.st root = some (st', root')) :
    ∃ ps', rbCopyP c fuel ps root = some (ps', root', ps.nextPool) ∧ ps'.st = st' ∧ OwnerStep ps.nextPool ps.createPool.1 ps' := by
  have hst := copyChildP_st _ _ (copyNodeP_st c ps.createPool.2 fuel) ps.createPool.1 root
  rw [show copyChild (copyNode c fuel) ps.createPool.1.st root = _ from he] at hst
  cases hP : copyChildP (copyNodeP c ps.createPool.2 fuel) ps.createPool.1 root with
  | none => rw [hP] at hst; cases hst
  | some r =>
    rw [hP] at hst
    cases hst
    exact ⟨r.1, by simp only [rbCopyP, hP]; rfl, rfl, copyChildP_owner _ _ (copyNodeP_owner c _ fuel) _ _ _ _ hP⟩

theorem destroyPool_cells (ps : PStore) (pool i : Nat) :
    (ps.destroyPool pool).st.cells i = if ps.owner i = pool then none else ps.st.cells i := rfl

end Sqfs.Rb
