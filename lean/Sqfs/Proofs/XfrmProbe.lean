/-
C15 — `tar_open_stream`'s decision (`tar_probe`, `xfrm_compressor_id_from_magic`): the byte-level predicates the property
theorem `Sqfs.C15.probe_spec` is stated with, and the lemmas of its proof: the table of magic numbers enters through
`magicTable_facts` only.
-/
import Sqfs.Spec.XfrmContract
namespace Sqfs.C15
open Sqfs.Xfrm

/-- the five bytes `ustar` -/
def ustarMagic : Bytes := [0x75, 0x73, 0x74, 0x61, 0x72]
/-- `ustar` stands at offset 257 of `r` (in particular `r` has at least 262 bytes) -/
def UstarAt (r : Bytes) : Prop := (r.drop 257).take 5 = ustarMagic
/-- the first 512-byte record of `d` is there and is all zero -/
def ZeroRecord (d : Bytes) : Prop := 512 ≤ d.length ∧ ∀ b ∈ d.take 512, b = 0
/-- the informal condition of `tar_probe`: `ustar` at offset 257 of the first record, or of the second when the first is all zero -/
def TarLike (d : Bytes) : Prop := UstarAt d ∨ (ZeroRecord d ∧ UstarAt (d.drop 512))

theorem ustarAt_iff (r : Bytes) :
    (decide (257 + 5 ≤ r.length) && ((r.drop 257).take 5 == ustarMagic)) = true ↔ UstarAt r := by
  unfold UstarAt
  simp only [Bool.and_eq_true, decide_eq_true_eq, beq_iff_eq]
  constructor
  · exact fun h => h.2
  · intro h
    refine ⟨?_, h⟩
    have := congrArg List.length h
    simp [ustarMagic] at this
    omega

theorem zeroRecord_not_ustarAt (d : Bytes) (hz : ZeroRecord d) : ¬ UstarAt d := by
  intro hu
  unfold UstarAt at hu
  have hm : (0x75 : UInt8) ∈ (d.drop 257).take 5 := by rw [hu]; simp [ustarMagic]
  have hsub : (0x75 : UInt8) ∈ d.take 512 := by
    have e : (d.drop 257).take 5 = (((d.take 512).drop 257).take 5) := by
      rw [List.drop_take, List.take_take]
      simp
    rw [e] at hm
    exact List.mem_of_mem_drop (List.mem_of_mem_take hm)
  have := hz.2 _ hsub
  exact absurd this (by decide)

/-- the test `xfrm_compressor_id_from_magic` makes on one table entry -/
theorem magicTest_iff (data : Bytes) (e : Nat × Bytes) :
    (decide (e.2.length ≤ data.length) && (data.take e.2.length == e.2)) = true ↔ IsPre e.2 data := by
  simp only [Bool.and_eq_true, decide_eq_true_eq, beq_iff_eq]
  constructor
  · rintro ⟨_, h⟩
    exact ⟨data.drop e.2.length, by conv => lhs; rw [← List.take_append_drop e.2.length data, h]⟩
  · rintro ⟨t, rfl⟩
    simp

/-- what is finite about compress.c's table: no magic number is a prefix of another, every id is positive -/
theorem magicTable_facts : (∀ e ∈ magicTable, ∀ e' ∈ magicTable, e.2 <+: e'.2 → e = e') ∧ ∀ e ∈ magicTable, 0 < e.1 := by
  decide

theorem prefix_key_unique {T : List (Nat × Bytes)} (hT : ∀ e ∈ T, ∀ e' ∈ T, e.2 <+: e'.2 → e = e') {d : Bytes}
    {e e' : Nat × Bytes} (he : e ∈ T) (he' : e' ∈ T) (h : IsPre e.2 d) (h' : IsPre e'.2 d) : e = e' := by
  obtain ⟨t, rfl⟩ := h
  obtain ⟨t', ht'⟩ := h'
  exact (List.prefix_or_prefix_of_prefix ⟨t, rfl⟩ ⟨t', ht'.symm⟩).elim (hT e he e' he') fun p => (hT e' he' e he p).symm

theorem compressorIdFromMagic_cases (d : Bytes) :
    (∃ id m, (id, m) ∈ magicTable ∧ IsPre m d ∧ compressorIdFromMagic d = (id : Int)) ∨
    ((∀ e ∈ magicTable, ¬ IsPre e.2 d) ∧ compressorIdFromMagic d = -1) := by
  unfold compressorIdFromMagic
  cases hf : magicTable.find? (fun e => decide (e.2.length ≤ d.length) && (d.take e.2.length == e.2)) with
  | none => exact Or.inr ⟨fun e he h => by simpa using List.find?_eq_none.1 hf e he ((magicTest_iff d e).2 h), rfl⟩
  | some e =>
    have he := List.find?_some hf
    rw [magicTest_iff] at he
    exact Or.inl ⟨e.1, e.2, List.mem_of_find?_eq_some hf, he, rfl⟩

end Sqfs.C15
