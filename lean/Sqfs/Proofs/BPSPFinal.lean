/-
C02 — **`packRef = specPack`** (DESIGN.md Appendix B): the queue-free reference of the block processor
(`Spec/BlockProcSpec.lean`) computes, on the observables the two share (`PackView`: the output file, the fragment table, the
inode fields of every file), exactly what the functional specification `Sqfs.Pack.specPack` (`Spec/PackSpec.lean`) says.

Together with `Sqfs.C02.run_eq_spec` (the model on the serial pool equals `packRef` for every `max_backlog`) and
`Sqfs.C02.schedule_independent` (every number of workers, every schedule) this says "the implementation model computes
`specPack`".

Hypotheses: the codec contract (`CodecOk`; `hpos`: a successful `do_block` returns a positive size, which is how the C
interface tells success from "not smaller"), `0 < B < 2^24`, user-settable flag words, and the byte comparison of fragment
candidates switched on (`byteCompare`; without it a fragment whose size, checksum and `DONT_COMPRESS` flag collide with an
earlier one is deduplicated against it, which `specPack` — comparing bytes — does not do).
-/
import Sqfs.Proofs.BPSPAll
import Sqfs.Proofs.BPFinal
namespace Sqfs.BlockProc
open Sqfs.Consts

/-- the fragment table: every index is set once, in order -/
theorem applySets_table (n : Nat) (sets : List (Nat × Nat × Nat)) (vals : List (Nat × Nat))
    (h1 : sets.map (·.1) = List.range n) (h2 : sets.map (·.2) = vals) :
    applySets (List.replicate n (0, 0)) sets = vals := by
  have hl1 : sets.length = n := by simpa using congrArg List.length h1
  have hnd : (sets.map (·.1)).Nodup := h1 ▸ List.nodup_range
  apply List.ext_getElem?
  intro i
  by_cases hi : i < n
  · -- entry `i` of `sets` is `(i, vals[i])`
    obtain ⟨s, hs⟩ : ∃ s, sets[i]? = some s := ⟨_, List.getElem?_eq_getElem (hl1 ▸ hi)⟩
    have h1i : s.1 = i := by
      have := congrArg (·[i]?) h1
      simpa [hs, hi] using this
    have h2i : vals[i]? = some s.2 := by
      have := congrArg (·[i]?) h2
      simpa [hs] using this.symm
    rw [h2i]
    exact applySets_get _ sets hnd i s.2.1 s.2.2 (h1i ▸ List.mem_of_getElem? hs) (by simpa using hi)
  · have hl2 : vals.length = n := by rw [← h2, List.length_map, hl1]
    rw [List.getElem?_eq_none (by rw [applySets_length, List.length_replicate]; exact Nat.le_of_not_lt hi),
      List.getElem?_eq_none (hl2 ▸ Nat.le_of_not_lt hi)]

/-- The reference of the block processor and `specPack` agree on the whole output file, the
fragment table and every file's inode fields. -/
theorem packRef_eq_specPack (P : Params) (hc : CodecOk P.codec) (hpos : ∀ x z, P.codec.cmp x = some z → 0 < z.length)
    (hbc : P.byteCompare = true) (hB0 : 0 < P.B) (hB : P.B < 2 ^ 24) (files : List InFile)
    (hfl : ∀ f ∈ files, f.flags &&& Consts.blkUserSettable = f.flags) :
    ∃ out, packRef P files = .ok out ∧
      out.view = specView P.pre (Sqfs.Pack.specPack (toPackParams P) (toPackFiles files)) := by
  obtain ⟨W1, fs1, FE, WE, hs1, hres⟩ := files_sim ⟨hc, hpos, hB⟩ hB0 hbc files 0 (Sim.init P) hfl
  obtain ⟨W2, hs2, hopn⟩ := close_sim ⟨hc, hpos, hB⟩ hs1
  unfold packRef
  rw [feFiles_eq P.B hB0 files 0 hfl]
  simp only [hs2.run]
  refine ⟨_, rfl, ?_⟩
  obtain ⟨ps, habs, hh⟩ := hs2.w.abs
  unfold Output.view specView assemble
  simp only [PackView.mk.injEq]
  refine ⟨?_, ?_, ?_⟩
  · rw [habs.file, hh.bytes]; rfl
  · have hn : ((fRun P {} ((allItems P.B 0 files).map (processBlock P))).close P).ntbl =
        (Sqfs.Pack.closeOpen (toPackParams P) (Sqfs.Pack.packFiles (toPackParams P) {} (files.map toPackFile)).1).frags.length := by
      rw [hs2.f.ntbl, hopn]; rfl
    rw [hn]
    exact applySets_table _ _ _ hs2.w.setsIdx hs2.w.setsVal
  · rw [applyEffs_table, hs2.fe, hs2.we]
    simp only [Nat.zero_add] at hres
    exact hres

/-- The implementation model on the serial pool — hence, by `Sqfs.C02.schedule_independent`, on
every behaviour of the threaded pool — computes `specPack` for every `max_backlog`, with or without a `sync` before
`end_file`. -/
theorem run_eq_specPack (P : Params) (hP : P.ans = serialAns) (hc : CodecOk P.codec)
    (hpos : ∀ x z, P.codec.cmp x = some z → 0 < z.length) (hbc : P.byteCompare = true) (hB0 : 0 < P.B) (hB : P.B < 2 ^ 24)
    (mb : Nat) (files : List InFile) (hfl : ∀ f ∈ files, f.flags &&& Consts.blkUserSettable = f.flags) (sy : Bool) :
    ∃ out, run P mb files sy = .ok out ∧
      out.view = specView P.pre (Sqfs.Pack.specPack (toPackParams P) (toPackFiles files)) := by
  rw [run_eq_packRef hP hc hB0 hB mb files sy]
  exact packRef_eq_specPack P hc hpos hbc hB0 hB files hfl

/-- a codec that compresses exactly one block (`7 7 7 7 ↦ 7 4`) -/
def spCodec : Codec :=
  { cmp := fun x => if x = [7, 7, 7, 7] then some [7, 4] else none
    unc := fun z => if z = [7, 4] then some [7, 7, 7, 7] else some z }

theorem spCodec_ok : CodecOk spCodec ∧ ∀ x z, spCodec.cmp x = some z → 0 < z.length := by
  refine ⟨⟨?_, ?_⟩, ?_⟩ <;>
  · intro x z h
    simp only [spCodec] at h ⊢
    split at h
    · simp only [Option.some.injEq] at h; subst h; rename_i hx; simp [hx]
    · cases h

/-- block size 4, a 3-byte prefix (the "super block") in front of the data area -/
def spP : Params := { B := 4, codec := spCodec, h := fun d => d.foldl (fun a b => a * 31 + b.toUInt32) 7, pre := [9, 9, 9] }

/-- 21 files: a tail end packed into a fragment block; `DONT_FRAGMENT`; an empty file; all-zero blocks and an all-zero tail
(holes); `IGNORE_SPARSE`; fragment blocks that overflow (3-byte tails, block size 4); a tail deduplicated against an
earlier fragment; `DONT_COMPRESS` (its own key); whole-file deduplication of data blocks, with truncation; compressed
blocks; `DONT_DEDUPLICATE` twice, then the same tail without it; a `DONT_FRAGMENT` file shorter than a block, also all
zero; `DONT_HASH` -/
def spFiles : List InFile :=
  [⟨0, [1, 2, 3, 4, 5, 6]⟩, ⟨blkDontFragment, [1, 2, 3, 4, 5, 6]⟩, ⟨0, []⟩, ⟨0, [0, 0, 0, 0, 0, 0]⟩, ⟨0, [0, 0]⟩,
   ⟨blkIgnoreSparse, [0, 0, 0, 0, 0, 0]⟩, ⟨0, [1, 2, 3]⟩, ⟨0, [4, 5, 6]⟩, ⟨0, [1, 2, 3]⟩, ⟨blkDontCompress, [1, 2, 3]⟩,
   ⟨blkDontFragment, [1, 2, 3, 4, 5, 6]⟩, ⟨blkDontFragment, [7, 7, 7, 7, 7, 7, 7, 7]⟩, ⟨0, [7, 7, 7, 7, 7, 7, 7, 7]⟩,
   ⟨0, [7, 7, 7, 7, 7, 7, 7, 7, 7, 7, 7, 7]⟩, ⟨0, [7, 7, 7, 7]⟩, ⟨blkDontDeduplicate, [5, 6]⟩, ⟨blkDontDeduplicate, [5, 6]⟩,
   ⟨0, [5, 6]⟩, ⟨blkDontFragment, [1, 2]⟩, ⟨blkDontFragment, [0, 0]⟩, ⟨blkDontHash, [1, 2, 3, 4, 1, 2]⟩]

/-- the hypotheses of `packRef_eq_specPack` hold on the instance -/
example : CodecOk spP.codec ∧ (∀ x z, spP.codec.cmp x = some z → 0 < z.length) ∧ spP.byteCompare = true ∧ 0 < spP.B ∧
    spP.B < 2 ^ 24 ∧ ∀ f ∈ spFiles, f.flags &&& blkUserSettable = f.flags :=
  ⟨spCodec_ok.1, spCodec_ok.2, rfl, by decide, by decide, by decide⟩

/-- the conclusion, evaluated: 6 fragment blocks, a 48-byte output file, starts shared between files 1 and 10 and between
files 11 … 14, holes in files 3, 4 and 19 -/
example :
    (packRef spP spFiles).toOption.map Output.view =
      some (specView spP.pre (Sqfs.Pack.specPack (toPackParams spP) (toPackFiles spFiles))) ∧
    (packRef spP spFiles).toOption.map (fun o => (o.frags.length, o.file.length)) = some (6, 48) ∧
    (packRef spP spFiles).toOption.map (fun o => o.files.map (·.start)) =
      some [3, 7, 0, 0, 0, 13, 0, 0, 0, 0, 7, 27, 27, 27, 27, 0, 0, 0, 36, 0, 38] ∧
    (packRef spP spFiles).toOption.map (fun o => o.files.map (·.sparse)) =
      some [0, 0, 0, 6, 2, 0, 0, 0, 0, 0, 0, 0, 0, 0, 0, 0, 0, 0, 0, 2, 0] := by
  decide +kernel

/-- `byteCompare` is needed: with the byte comparison off (`SQFS_BLOCK_PROCESSOR` created without a file to read back from)
and a checksum that collides, the second tail is deduplicated against the first one; `specPack` compares bytes -/
example :
    let P : Params := { B := 4, codec := spCodec, h := fun _ => 0, byteCompare := false }
    (packRef P [⟨0, [1, 2]⟩, ⟨0, [3, 4]⟩]).toOption.map (fun o => o.files.map (fun r => (r.fragIdx, r.fragOff))) =
      some [(0, 0), (0, 0)] ∧
    (Sqfs.Pack.specPack (toPackParams P) (toPackFiles [⟨0, [1, 2]⟩, ⟨0, [3, 4]⟩])).files.map (·.frag) =
      [some (0, 0), some (0, 2)] := by
  decide +kernel

end Sqfs.BlockProc
