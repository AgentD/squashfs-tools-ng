/-
`fstree_post_process`: what the numbering step leaves in `fs->inodes` (used by C01 `post_process_order_partial`).

* `reorder_hard_links` only permutes the array (`reorderHardLinks_perm`: every `moveTo arr i j` is called with `i < j`);
* the DFS numbering `alloc_inode_num_dfs` + `map_inodes_dfs` (`allocOrder`) lists pairwise different paths when every
  directory's children have pairwise different names (`allocOrder_nodup`; `AllSorted` is what `insert_sorted` keeps,
  `Proofs/FsTreeSorted.lean`).
-/
import Sqfs.Proofs.FsTreeSorted

namespace Sqfs.FsTree

theorem moveTo_perm (arr : List Path) (i j : Nat) (hij : i ≤ j) : (moveTo arr i j).Perm arr := by
  unfold moveTo
  cases hx : arr[j]? with
  | none => exact List.Perm.refl _
  | some x =>
    have hj : j < arr.length := by
      rcases Nat.lt_or_ge j arr.length with h | h
      · exact h
      · rw [List.getElem?_eq_none h] at hx; cases hx
    have hxe : arr[j] = x := by rw [List.getElem?_eq_getElem hj] at hx; exact Option.some.inj hx
    have h1 : arr.drop j = x :: arr.drop (j + 1) := by rw [← hxe]; exact List.drop_eq_getElem_cons hj
    have h2 : (arr.drop i).drop (j - i) = arr.drop j := by rw [List.drop_drop]; congr 1; omega
    have h3 : arr = arr.take i ++ ((arr.drop i).take (j - i) ++ (x :: arr.drop (j + 1))) := by
      rw [← h1, ← h2, List.take_append_drop, List.take_append_drop]
    simp only
    conv => rhs; rw [h3]
    rw [List.append_assoc]
    apply List.Perm.append_left
    simp only [List.cons_append]
    exact (List.perm_middle).symm

theorem reorderChildren_perm (dirPath : Path) (cs : List TNode) (arr : List Path) (i : Nat) :
    (reorderChildren dirPath cs arr i).1.Perm arr := by
  fun_induction reorderChildren dirPath cs arr i
  case case1 => exact List.Perm.refl _
  case case4 hj ih => exact ih.trans (moveTo_perm _ _ _ (Nat.le_of_not_ge hj))
  all_goals assumption

theorem reorderLoop_perm (root : TNode) (fuel : Nat) (arr : List Path) (i : Nat) :
    (reorderLoop root fuel arr i).Perm arr := by
  fun_induction reorderLoop root fuel arr i
  case case4 ih => exact ih
  case case5 arr i p _ n _ _ arr' i' heq ih =>
    have h := reorderChildren_perm p n.children arr i
    rw [heq] at h
    exact ih.trans h
  all_goals exact List.Perm.refl _

theorem reorderHardLinks_perm (root : TNode) (arr : List Path) : (reorderHardLinks root arr).Perm arr :=
  reorderLoop_perm root _ arr 0

theorem sortedNames_nodup {l : List Name} (h : SortedNames l) : l.Nodup := by
  unfold SortedNames at h
  exact h.imp (fun {a b} hab heq => by subst heq; exact absurd hab (by simp [nameLt_irrefl]))

theorem allocOwn_eq (path : Path) (cs : List TNode) :
    allocOwn path cs = ((cs.filter (fun c => !c.isHardLink)).map TNode.name).map (fun n => path ++ [n]) := by
  induction cs with
  | nil => rfl
  | cons c cs ih => cases h : c.isHardLink <;> simp [allocOwn, h, ih]

theorem allocOwn_mem (path : Path) (cs : List TNode) (q : Path) (h : q ∈ allocOwn path cs) : ∃ c ∈ cs, q = path ++ [c.name] := by
  rw [allocOwn_eq, List.map_map] at h
  obtain ⟨c, hc, rfl⟩ := List.mem_map.1 h
  exact ⟨c, (List.mem_filter.1 hc).1, rfl⟩

theorem allocOwn_nodup (path : Path) (cs : List TNode) (h : (cs.map TNode.name).Nodup) : (allocOwn path cs).Nodup := by
  rw [allocOwn_eq]
  exact List.Pairwise.map _ (fun a b hab e => hab (List.singleton_inj.1 (List.append_cancel_left e)))
    (List.Nodup.sublist (List.filter_sublist.map _) h)

mutual
theorem allocNode_spec : ∀ (n : TNode) (path : Path), n.AllSorted →
    (allocNode path n).Nodup ∧ ∀ q ∈ allocNode path n, ∃ x rest, q = path ++ x :: rest
  | .mk nm a cs, path, hs => by
    rw [allSorted_mk] at hs
    have hnd : (cs.map TNode.name).Nodup := sortedNames_nodup hs.1
    obtain ⟨s1, s2⟩ := allocSubdirs_spec cs path hs.2 hnd
    simp only [allocNode]
    refine ⟨List.nodup_append.2 ⟨s1, allocOwn_nodup path cs hnd, ?_⟩, ?_⟩
    · intro q hq q' hq' he
      subst he
      obtain ⟨c, _, x, rest, h1⟩ := s2 q hq
      obtain ⟨c', _, h2⟩ := allocOwn_mem path cs q hq'
      rw [h1] at h2
      have := List.append_cancel_left h2
      simp at this
    · intro q hq
      rcases List.mem_append.1 hq with h | h
      · obtain ⟨c, _, x, rest, h1⟩ := s2 q h
        exact ⟨c.name, x :: rest, h1⟩
      · obtain ⟨c', _, h2⟩ := allocOwn_mem path cs q h
        exact ⟨c'.name, [], h2⟩
theorem allocSubdirs_spec : ∀ (cs : List TNode) (path : Path), AllSortedList cs → (cs.map TNode.name).Nodup →
    (allocSubdirs path cs).Nodup ∧
      ∀ q ∈ allocSubdirs path cs, ∃ c ∈ cs, ∃ x rest, q = path ++ c.name :: x :: rest
  | [], path, _, _ => by simp [allocSubdirs]
  | c :: cs, path, hs, hnd => by
    simp only [AllSortedList] at hs
    simp only [List.map_cons, List.nodup_cons] at hnd
    obtain ⟨r1, r2⟩ := allocSubdirs_spec cs path hs.2 hnd.2
    obtain ⟨n1, n2⟩ := allocNode_spec c (path ++ [c.name]) hs.1
    have hfirst : ∀ q ∈ (if c.isDir then allocNode (path ++ [c.name]) c else []), ∃ x rest, q = path ++ c.name :: x :: rest := by
      intro q hq
      split at hq
      · obtain ⟨x, rest, h⟩ := n2 q hq
        exact ⟨x, rest, by rw [h]; simp⟩
      · simp at hq
    simp only [allocSubdirs]
    refine ⟨List.nodup_append.2 ⟨by split <;> simp [n1], r1, ?_⟩, ?_⟩
    · intro q hq q' hq' he
      subst he
      obtain ⟨x, rest, h1⟩ := hfirst q hq
      obtain ⟨c', hc', x', rest', h2⟩ := r2 q hq'
      rw [h1] at h2
      have := List.append_cancel_left h2
      simp at this
      exact hnd.1 (List.mem_map.2 ⟨c', hc', this.1.symm⟩)
    · intro q hq
      rcases List.mem_append.1 hq with h | h
      · obtain ⟨x, rest, h1⟩ := hfirst q h
        exact ⟨c, by simp, x, rest, h1⟩
      · obtain ⟨c', hc', x', rest', h2⟩ := r2 q h
        exact ⟨c', by simp [hc'], x', rest', h2⟩
end

theorem allocOrder_nodup (t : TNode) (h : t.AllSorted) : (allocOrder t).Nodup := by
  unfold allocOrder
  obtain ⟨h1, h2⟩ := allocNode_spec t [] h
  refine List.nodup_append.2 ⟨h1, by simp, ?_⟩
  intro q hq q' hq' he
  subst he
  obtain ⟨x, rest, hx⟩ := h2 q hq
  simp at hq'
  rw [hq'] at hx
  simp at hx

end Sqfs.FsTree
