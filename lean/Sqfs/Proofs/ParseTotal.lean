/-
Helper lemmas for C07, parser totality and bounds.  The vocabulary of the parser proofs: `R.safe` and `R.Sat Q r`, taken apart
by the eliminators `R.safe.seq` / `R.Sat.seq`; the rules `of_get`, `of_get2`, `of_wr` for a checked read and a checked store (for
`if`, core's `iteInduction`).  Then the parsers of `Sqfs/Model/ParseTotal.lean`: `read_number`, `hex_decode` / `base64_decode`,
`parse_uint` / `parse_int` (`Bound`: explicit length and terminator, the two calling conventions, as one invariant of the scan).
(`Sqfs/Model/ParseTotalTar.lean` is imported for the checked store `wr` behind the rule `of_wr`, which is defined there.)
-/
import Sqfs.Model.ParseTotalTar
import Sqfs.Proofs.FuelInd
namespace Sqfs.ParseTotal

/-- neither an out-of-bounds access nor a loop that has not ended -/
def R.safe {α : Type} : R α → Prop
  | .oob => False
  | .spin => False
  | _ => True

@[simp] theorem R.safe_ok {α : Type} (a : α) : (R.ok a).safe := trivial
@[simp] theorem R.safe_fail {α : Type} (c : Nat) : (R.fail c : R α).safe := trivial
@[simp] theorem R.not_safe_oob {α : Type} : ¬ (R.oob : R α).safe := fun h => h
@[simp] theorem R.not_safe_spin {α : Type} : ¬ (R.spin : R α).safe := fun h => h

theorem safe_map {α β : Type} {r : R α} (f : α → R β) (hr : r.safe) (hf : ∀ a, (f a).safe) :
    (match r with | .ok a => f a | .fail c => .fail c | .oob => .oob | .spin => .spin : R β).safe := by
  cases r with
  | ok a => exact hf a
  | fail c => trivial
  | oob => exact hr.elim
  | spin => exact hr.elim

/-- the function stayed inside its buffer and returned, and a value it returned satisfies `Q` -/
def R.Sat {α : Type} (Q : α → Prop) (r : R α) : Prop := r.safe ∧ ∀ a, r = .ok a → Q a

theorem R.Sat.ok {α : Type} {Q : α → Prop} {a : α} (h : Q a) : (R.ok a).Sat Q := ⟨trivial, fun _ e => by cases e; exact h⟩

theorem R.Sat.fail {α : Type} {Q : α → Prop} {c : Nat} : (R.fail c : R α).Sat Q := ⟨trivial, fun _ e => by cases e⟩

theorem R.Sat.mono {α : Type} {Q Q' : α → Prop} {r : R α} (h : r.Sat Q) (hq : ∀ a, Q a → Q' a) : r.Sat Q' :=
  ⟨h.1, fun a e => hq a (h.2 a e)⟩

/-- Sequencing: whatever is done with the result of a callee that stayed inside, only `.ok a` and `.fail c` arrive.  Stated
as an eliminator, so that the motive is found by abstracting the callee's result in the goal: one rule then serves every
`match` on such a result (the models write the arms in several orders, rename failure codes, answer in other types) and
every predicate.  The callee has to stand in the goal as it is written in `h`: reduce a `let` or an enclosing `match` first. -/
@[elab_as_elim]
theorem R.safe.seq {α : Type} {motive : R α → Prop} {r : R α} (h : r.safe)
    (ok : ∀ a, motive (.ok a)) (fail : ∀ c, motive (.fail c)) : motive r := by
  cases r with
  | ok a => exact ok a
  | fail c => exact fail c
  | oob => exact h.elim
  | spin => exact h.elim

@[elab_as_elim]
theorem R.Sat.seq {α : Type} {Q : α → Prop} {motive : R α → Prop} {r : R α} (h : r.Sat Q)
    (ok : ∀ a, Q a → motive (.ok a)) (fail : ∀ c, motive (.fail c)) : motive r :=
  h.1.seq (motive := fun r' => (∀ a, r' = .ok a → Q a) → motive r') (fun a q => ok a (q a rfl)) (fun c _ => fail c) h.2

/-- for the caller that needs the callee's equation as well (inside `seq` the result is abstracted) -/
theorem R.Sat.withEq {α : Type} {Q : α → Prop} {r : R α} (h : r.Sat Q) : r.Sat fun a => r = .ok a ∧ Q a :=
  ⟨h.1, fun a e => ⟨e, h.2 a e⟩⟩

theorem get_some {buf : Bytes} {i : Nat} (h : i < buf.length) : ∃ c, buf[i]? = some c :=
  ⟨buf[i], List.getElem?_eq_getElem h⟩

theorem getElem?_lt {buf : Bytes} {k : Nat} {c : UInt8} (hk : buf[k]? = some c) : k < buf.length :=
  (List.getElem?_eq_some_iff.mp hk).1

theorem lt_nul {buf : Bytes} {k i : Nat} {c : UInt8} (hk : buf[k]? = some 0) (hi : i ≤ k) (hc : buf[i]? = some c)
    (hne : c ≠ 0) : i < k :=
  Nat.lt_of_le_of_ne hi fun e => hne (by subst e; rw [hk] at hc; exact (Option.some.inj hc).symm)

theorem wr_spec {buf buf' : Bytes} {i : Nat} {c : UInt8} (h : wr buf i c = some buf') :
    buf'.length = buf.length ∧ buf'[i]? = some c ∧ ∀ j, j ≠ i → buf'[j]? = buf[j]? := by
  unfold wr at h
  split at h
  · rename_i hlt
    cases h
    refine ⟨by simp, by simp [hlt], fun j hj => ?_⟩
    rw [List.getElem?_set_ne (Ne.symm hj)]
  · cases h

theorem wr_some {buf : Bytes} {i : Nat} (c : UInt8) (h : i < buf.length) : ∃ b, wr buf i c = some b := by
  unfold wr; simp [h]

/-- The rules for a checked read `*p` and a checked store `*p = x` hold, like core's `iteInduction` for `if`, of every predicate on
every result type (`safe`, `Sat Q`, and the like on `FrameRes`, `RHOut`).  Each of those predicates takes the result as its last
argument: that is what lets Lean read `P` off the goal. -/
theorem of_get {β : Type} {P : β → Prop} {buf : Bytes} {i : Nat} {z : β} {k : UInt8 → β} (h : i < buf.length)
    (hk : ∀ c, buf[i]? = some c → P (k c)) : P (match buf[i]? with | none => z | some c => k c) := by
  obtain ⟨c, hc⟩ := get_some h
  rw [hc]; exact hk c hc

theorem of_get2 {β : Type} {P : β → Prop} {buf : Bytes} {i j : Nat} {z : β} {k : UInt8 → UInt8 → β} (hi : i < buf.length)
    (hj : j < buf.length) (hk : ∀ a b, P (k a b)) : P (match buf[i]?, buf[j]? with | some a, some b => k a b | _, _ => z) := by
  obtain ⟨a, ha⟩ := get_some hi
  obtain ⟨b, hb⟩ := get_some hj
  rw [ha, hb]; exact hk a b

theorem of_wr {β : Type} {P : β → Prop} {buf : Bytes} {i : Nat} {x : UInt8} {z : β} {k : Bytes → β} (h : i < buf.length)
    (hk : ∀ b, wr buf i x = some b → P (k b)) : P (match wr buf i x with | none => z | some b => k b) := by
  obtain ⟨b, hb⟩ := wr_some x h
  rw [hb]; exact hk b hb

theorem skipSpaces_spec (buf : Bytes) : ∀ d i, i + d ≤ buf.length →
    (skipSpaces buf i d).Sat fun (j, d') => j + d' ≤ buf.length := by
  intro d
  induction d with
  | zero => intro i h; exact .ok h
  | succ d ih =>
    intro i h
    rw [skipSpaces]
    exact of_get (by omega) fun c _ => iteInduction (fun _ => ih (i + 1) (by omega)) (fun _ => .ok h)

theorem octLoop_safe (buf : Bytes) : ∀ d i acc, i + d ≤ buf.length → (octLoop buf i d acc).safe := by
  intro d
  induction d with
  | zero => intro i acc _; trivial
  | succ d ih =>
    intro i acc h
    rw [octLoop]
    exact of_get (by omega) fun c _ =>
      iteInduction (fun _ => iteInduction (fun _ => trivial) (fun _ => ih _ _ (by omega))) (fun _ => trivial)

theorem octLoop_fits (buf : Bytes) (d i acc v : Nat) (ha : acc < U64) (h : octLoop buf i d acc = .ok v) : v < U64 := by
  revert h ha
  fun_induction octLoop buf i d acc <;> intro ha h
  · cases h; exact ha
  · cases h
  · cases h
  · rename_i c _ hoct hle ih
    refine ih ?_ h
    -- an octal digit is at most 7, and `acc ≤ 0x1FFF…` leaves the three bits it is shifted into free
    simp only [isOct, Bool.and_eq_true, decide_eq_true_eq] at hoct
    simp only [U64] at *
    omega
  · cases h; exact ha

theorem binLoop_safe (neg : Bool) (buf : Bytes) : ∀ d i r, i + d ≤ buf.length → (binLoop neg buf i d r).safe := by
  intro d
  induction d with
  | zero => intro i r _; trivial
  | succ d ih =>
    intro i r h
    simp only [binLoop]
    exact of_get (by omega) fun c _ => iteInduction (fun _ => trivial) (fun _ => ih _ _ (by omega))

theorem readOctal_safe (buf : Bytes) (i d : Nat) (h : i + d ≤ buf.length) : (readOctal buf i d).safe := by
  unfold readOctal
  exact (skipSpaces_spec buf d i h).seq (fun (j, d') h2 => octLoop_safe buf d' j 0 h2) (fun _ => trivial)

theorem readBinary_safe (buf : Bytes) (i d : Nat) (h : i + d ≤ buf.length) : (readBinary buf i d).safe := by
  cases d with
  | zero => trivial
  | succ d =>
    simp only [readBinary]
    refine of_get (by omega) fun c _ => iteInduction (fun _ => ?_)
      (fun _ => iteInduction (fun _ => trivial) (fun _ => binLoop_safe false buf d (i + 1) _ (by omega)))
    exact (binLoop_safe true buf d (i + 1) (U64 - 1) (by omega)).seq
      (fun _ => iteInduction (fun _ => trivial) (fun _ => trivial)) (fun _ => trivial)

theorem readNumber_safe (buf : Bytes) (i d : Nat) (hd : 0 < d) (h : i + d ≤ buf.length) :
    (readNumber buf i d).safe := by
  unfold readNumber
  exact of_get (by omega) fun c _ => iteInduction (fun _ => readBinary_safe buf i d h) (fun _ => readOctal_safe buf i d h)

theorem hexDecode_spec (buf : Bytes) : ∀ outSz i inSz acc, i + inSz ≤ buf.length →
    (hexDecode buf i inSz outSz acc).Sat fun out => out.length ≤ acc.length + outSz := by
  intro outSz
  induction outSz with
  | zero =>
    intro i inSz acc _
    simp only [hexDecode]
    exact iteInduction (fun _ => .fail) (fun _ => .ok (by simp))
  | succ o ih =>
    intro i inSz acc h
    simp only [hexDecode]
    refine iteInduction (fun _ => iteInduction (fun _ => .fail) (fun _ => .ok (by simp))) (fun hlt => ?_)
    refine of_get2 (by omega) (by omega) fun a b => iteInduction (fun _ => (ih _ _ _ (by omega)).mono fun out hl => ?_) (fun _ => .fail)
    simp only [List.length_cons] at hl; omega

/-- a byte goes to the output only below its capacity -/
theorem R.Sat.put {α : Type} {Q : α → Prop} {cap : Nat} {acc : Bytes} {b : Nat} {k : Bytes → R α}
    (hk : ∀ acc', acc'.length ≤ cap → (k acc').Sat Q) : (match push cap acc b with | none => R.fail 1 | some acc' => k acc').Sat Q := by
  unfold push
  by_cases h : acc.length ≥ cap
  · rw [if_pos h]; exact .fail
  · rw [if_neg h]; exact hk _ (Nat.succ_le_of_lt (Nat.lt_of_not_le h))

theorem R.Sat.digit {α : Type} {Q : α → Prop} {c : UInt8} {k : Nat → R α} (hk : ∀ d, (k d).Sat Q) :
    (match b64digit c with | none => R.fail 1 | some d => k d).Sat Q := by
  cases b64digit c
  · exact .fail
  · exact hk _

theorem R.Sat.digit2 {α : Type} {Q : α → Prop} {c1 c2 : UInt8} {k : Nat → Nat → R α} (hk : ∀ d1 d2, (k d1 d2).Sat Q) :
    (match b64digit c1, b64digit c2 with | some d1, some d2 => k d1 d2 | _, _ => R.fail 1).Sat Q := by
  cases b64digit c1 with
  | none => exact .fail
  | some d1 =>
    cases b64digit c2 with
    | none => exact .fail
    | some d2 => exact hk d1 d2

theorem b64Tail_spec (buf : Bytes) (i inLen cap : Nat) (acc : Bytes) (h : i + inLen ≤ buf.length) (ha : acc.length ≤ cap) :
    (b64Tail buf i inLen cap acc).Sat fun out => out.length ≤ cap := by
  have fin : ∀ a : Bytes, a.length ≤ cap → (R.ok a.reverse).Sat fun out => out.length ≤ cap := fun a hl =>
    .ok (by simpa using hl)
  unfold b64Tail
  refine iteInduction (fun _ => fin _ ha) (fun h0 => iteInduction (fun _ => .fail) (fun h1 => ?_))
  refine of_get2 (by omega) (by omega) fun c1 c2 => ?_
  exact .digit2 fun i1 i2 => .put fun acc1 hl1 => iteInduction (fun h2 => of_get (by omega) fun c3 _ => iteInduction (fun _ => fin _ hl1) fun _ =>
    .digit fun i3 => .put fun acc2 hl2 => fin _ hl2) (fun _ => fin _ hl1)

theorem b64Loop_spec (buf : Bytes) (cap : Nat) : ∀ g i inLen acc, i + inLen ≤ buf.length → acc.length ≤ cap →
    (b64Loop buf cap g i inLen acc).Sat fun out => out.length ≤ cap := by
  intro g
  induction g with
  | zero => intro i inLen acc h ha; exact b64Tail_spec buf i inLen cap acc h ha
  | succ g ih =>
    intro i inLen acc h ha
    simp only [b64Loop]
    refine iteInduction (fun _ => b64Tail_spec buf i inLen cap acc h ha) (fun h4 => ?_)
    obtain ⟨c1, hc1⟩ := get_some (buf := buf) (i := i) (by omega)
    obtain ⟨c2, hc2⟩ := get_some (buf := buf) (i := i + 1) (by omega)
    obtain ⟨c3, hc3⟩ := get_some (buf := buf) (i := i + 2) (by omega)
    obtain ⟨c4, hc4⟩ := get_some (buf := buf) (i := i + 3) (by omega)
    simp only [hc1, hc2, hc3, hc4]
    -- each output byte is pushed below the capacity; a pad character hands the rest to the tail
    exact .digit2 fun i1 i2 => .put fun acc1 hl1 =>
        iteInduction (fun _ => iteInduction (fun _ => .fail) (fun _ => b64Tail_spec buf _ _ cap acc1 (by omega) hl1)) fun _ =>
      .digit fun i3 => .put fun acc2 hl2 =>
        iteInduction (fun _ => iteInduction (fun _ => .fail) (fun _ => b64Tail_spec buf _ _ cap acc2 (by omega) hl2)) fun _ =>
      .digit fun i4 => .put fun acc3 hl3 => ih _ _ _ (by omega) hl3

theorem base64Decode_spec (buf : Bytes) (i inLen cap : Nat) (h : i + inLen ≤ buf.length) :
    (base64Decode buf i inLen cap).Sat fun out => out.length ≤ cap :=
  b64Loop_spec buf cap (inLen / 4) i inLen [] h (Nat.zero_le _)

/-- `k` bounds a scan that stands at `i` with `len` bytes to go: the end of an explicit length inside the buffer, or,
for `len = (size_t)-1`, a terminator at or after `i` -/
def Bound (buf : Bytes) (k i : Nat) : Option Nat → Prop
  | some n => i + n = k ∧ k ≤ buf.length
  | none => i ≤ k ∧ buf[k]? = some 0

theorem Bound.ofLen {buf : Bytes} {i n : Nat} (h : i + n ≤ buf.length) : Bound buf (i + n) i (some n) := ⟨rfl, h⟩

theorem Bound.ofNul {buf : Bytes} {k i : Nat} (hi : i ≤ k) (hk : buf[k]? = some 0) : Bound buf k i none := ⟨hi, hk⟩

theorem Bound.le {buf : Bytes} {k i : Nat} {len : Option Nat} (h : Bound buf k i len) : i ≤ k ∧ k ≤ buf.length := by
  cases len with
  | some n => exact ⟨by have := h.1; omega, h.2⟩
  | none => exact ⟨h.1, Nat.le_of_lt (getElem?_lt h.2)⟩

theorem Bound.lt {buf : Bytes} {k i : Nat} {len : Option Nat} (h : Bound buf k i len) (hp : lenPos len = true) :
    i < buf.length := by
  cases len with
  | some n => have := h.1; have := h.2; simp only [lenPos, decide_eq_true_eq] at hp; omega
  | none => have := h.1; have := getElem?_lt h.2; omega

theorem Bound.step {buf : Bytes} {k i : Nat} {len : Option Nat} {c : UInt8} (h : Bound buf k i len) (hp : lenPos len = true)
    (hc : buf[i]? = some c) (hne : c ≠ 0) : Bound buf k (i + 1) (lenDec len) := by
  cases len with
  | some n => exact ⟨by have := h.1; simp only [lenPos, decide_eq_true_eq] at hp; omega, h.2⟩
  | none => exact ⟨lt_nul h.2 h.1 hc hne, h.2⟩

theorem ne_zero_of_isDigit {c : UInt8} (h : isDigit c = true) : c ≠ 0 := by rintro rfl; simp [isDigit] at h

theorem parseLoop_spec (base : Nat) (buf : Bytes) (k : Nat) : ∀ fuel i, k - i + 1 ≤ fuel → ∀ len acc, Bound buf k i len → acc < U64 →
    (parseLoop base buf fuel i len acc).Sat fun (v, j, l) => v < U64 ∧ Bound buf k j l := by
  refine fuel_ind (k - ·) fun f i ih len acc hb ha => ?_
  -- wherever the loop stops, it hands back what it was given: the postcondition is the invariant
  have stop : (R.ok (acc, i, len)).Sat fun (v, j, l) => v < U64 ∧ Bound buf k j l := .ok ⟨ha, hb⟩
  simp only [parseLoop]
  refine iteInduction (fun _ => stop) (fun hp => ?_)
  have hp : lenPos len = true := by simpa using hp
  refine of_get (hb.lt hp) fun c hc => iteInduction (fun _ => stop) (fun hd => iteInduction (fun _ => stop) (fun _ =>
    iteInduction (fun _ => .fail) (fun h1 => iteInduction (fun _ => .fail) (fun h2 => ?_))))
  have hd : isDigit c = true := by simpa using hd
  have hlt : acc * base + (c.toNat - 48) < U64 := by
    have := c.toNat_lt
    simp only [U64] at *; omega
  have hb' := hb.step hp hc (ne_zero_of_isDigit hd)
  have := hb'.le
  exact ih (i + 1) (by omega) _ _ hb' hlt

theorem parseU_spec (base : Nat) (buf : Bytes) (i : Nat) (len : Option Nat) (wd : Bool) (vmin vmax k : Nat)
    (hb : Bound buf k i len) : (parseU base buf i len wd vmin vmax).Sat fun (v, d) => v < U64 ∧ i + d ≤ k := by
  unfold parseU
  refine iteInduction (fun _ => .fail) (fun hp => ?_)
  refine of_get (hb.lt (by simpa using hp)) fun c _ => iteInduction (fun _ => .fail) (fun _ => ?_)
  have := hb.le
  refine (parseLoop_spec base buf k (buf.length + 1) i (by omega) len 0 hb (by simp [U64])).seq
    (fun (v, j, l) ⟨hv, hbj⟩ => ?_) (fun _ => .fail)
  -- `i` and `j` both stand at or in front of `k`
  have fin : (R.ok (v, j - i)).Sat fun (v, d) => v < U64 ∧ i + d ≤ k := .ok ⟨hv, by have := hbj.le; omega⟩
  refine iteInduction (fun _ => .fail) (fun _ => iteInduction (fun hl => ?_) (fun _ => fin))
  simp only [Bool.and_eq_true] at hl
  exact of_get (hbj.lt hl.2) fun c2 _ => iteInduction (fun _ => .fail) (fun _ => fin)

theorem parseI_safe (buf : Bytes) (i : Nat) (len : Option Nat) (wd : Bool) (k : Nat) (hb : Bound buf k i len) :
    (parseI buf i len wd).safe := by
  unfold parseI
  refine iteInduction (fun _ => (parseU_spec 10 buf i len wd 0 0 k hb).1.seq (fun _ => trivial) (fun _ => trivial)) (fun hp => ?_)
  have hp : lenPos len = true := by simpa using hp
  refine of_get (hb.lt hp) fun c hc => ?_
  simp only []
  -- a sign is not NUL, so the magnitude behind it is still in front of the bound
  have hb' : Bound buf k (if c.toNat = 45 then i + 1 else i) (if c.toNat = 45 then lenDec len else len) := by
    split
    · rename_i hneg; exact hb.step hp hc (by rintro rfl; simp at hneg)
    · exact hb
  exact (parseU_spec 10 buf _ _ wd 0 0 k hb').1.seq
    (fun _ => iteInduction (fun _ => trivial) (fun _ => iteInduction (fun _ => trivial) (fun _ => trivial))) (fun _ => trivial)

end Sqfs.ParseTotal
