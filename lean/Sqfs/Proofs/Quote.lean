/-
C16, tokeniser against encoder: `Enc t e` says that `e` is a way of writing the token `t` which `split_line` reads back
as `t`; encodings joined by single spaces split into their tokens (`splitLine_join`), and `print_escaped` produces an
encoding of every NUL-free string (`enc_printEscaped`).  A joined line is read as its first field followed by `spTail` of
the others (`joinSp_cons_tail`): the tokeniser's loop does the same thing per field of `spTail`.  `joinSp_closed` takes a
property of the fields to the line.
-/
import Sqfs.Model.Quote
namespace Sqfs.Quote
open Sqfs.Path (Bytes)

@[simp] theorem isSep_pack (c : UInt8) : isSep packSep c = (c == SP || c == TAB) := by
  unfold isSep packSep
  by_cases h1 : c = SP
  · subst h1; decide
  · by_cases h2 : c = TAB
    · subst h2; decide
    · simp [h1, h2]

/-- a byte that can stand inside an unquoted token -/
def Plain (c : UInt8) : Prop := c ≠ SP ∧ c ≠ TAB ∧ c ≠ NUL

theorem plain_iff (c : UInt8) : Plain c ↔ (isSep packSep c || c = NUL) = false := by
  simp [Plain, and_assoc]

theorem skipSep_of_plain (c : UInt8) (r : Bytes) (h : Plain c) : skipSep packSep (c :: r) = c :: r := by
  rw [skipSep, if_neg (Bool.eq_false_iff.1 (Bool.or_eq_false_iff.1 ((plain_iff c).1 h)).1)]

@[simp] theorem skipSep_sp (r : Bytes) : skipSep packSep (SP :: r) = skipSep packSep r := by
  simp [skipSep]

theorem quoted_escapeBody (t rest : Bytes) (h : NUL ∉ t) :
    quoted (escapeBody t ++ DQ :: rest) = .ok (t, rest) := by
  have d0 : (DQ : UInt8) ≠ NUL := by decide
  have hbs : (BS : UInt8) ≠ NUL ∧ (BS : UInt8) ≠ DQ := by decide
  fun_induction escapeBody t
  case case1 => unfold quoted; simp [d0]
  case case2 c r hq ih =>
    have := ih fun m => h (List.mem_cons_of_mem _ m)
    unfold quoted; simp [hbs, this, hq]
  case case3 c r hq ih =>
    have := ih fun m => h (List.mem_cons_of_mem _ m)
    have hc : c ≠ NUL := fun e => h (by simp [e])
    simp only [Bool.or_eq_true, decide_eq_true_eq, not_or] at hq
    unfold quoted; simp [hc, hq, this]

theorem unquoted_plain (t rest : Bytes) (ht : ∀ c ∈ t, Plain c) (hr : ∀ c ∈ rest.head?, ¬ Plain c) :
    unquoted packSep (t ++ rest) = (t, rest) := by
  induction t with
  | nil =>
    cases rest with
    | nil => rfl
    | cons c r => rw [List.nil_append, unquoted, if_pos (eq_true_of_ne_false (mt (plain_iff c).2 (hr c rfl)))]
  | cons c r ih =>
    rw [List.cons_append, unquoted, if_neg (Bool.eq_false_iff.1 ((plain_iff c).1 (ht c List.mem_cons_self))),
      ih fun d hd => ht d (List.mem_cons_of_mem _ hd)]

/-- `e` is a way of writing the token `t` that `split_line` reads back as `t` -/
inductive Enc : Bytes → Bytes → Prop
  | plain (t : Bytes) : t ≠ [] → (∀ c ∈ t, Plain c) → t.head? ≠ some DQ → Enc t t
  | quoted (t : Bytes) : NUL ∉ t → Enc t (DQ :: escapeBody t ++ [DQ])

theorem Enc.ne_nil {t e : Bytes} (h : Enc t e) : e ≠ [] := by
  cases h with
  | plain h1 _ _ => exact h1
  | quoted _ => simp

theorem Enc.head_plain {t e : Bytes} (h : Enc t e) : ∃ c r, e = c :: r ∧ Plain c := by
  cases h with
  | plain h1 h2 _ =>
    cases t with
    | nil => exact absurd rfl h1
    | cons c r => exact ⟨c, r, rfl, h2 c (by simp)⟩
  | quoted _ => exact ⟨DQ, _, rfl, by unfold Plain; decide⟩

theorem splitLoop_enc {t e : Bytes} (h : Enc t e) (fuel : Nat) (rest : Bytes) (hr : ∀ c ∈ rest.head?, ¬ Plain c) :
    splitLoop packSep (fuel + 1) (e ++ rest) =
      match splitLoop packSep fuel (skipSep packSep rest) with
      | .ok toks => .ok (t :: toks)
      | .error err => .error err := by
  cases h with
  | plain h1 h2 h3 =>
    cases t with
    | nil => exact absurd rfl h1
    | cons c r =>
      obtain ⟨_, _, c3⟩ := h2 c (by simp)
      have cq : c ≠ DQ := by simpa using h3
      have hu := unquoted_plain (c :: r) rest h2 hr
      simp only [List.cons_append] at hu ⊢
      simp only [splitLoop, c3, cq, if_false, hu]
      cases splitLoop packSep fuel (skipSep packSep rest) <;> rfl
  | quoted h1 =>
    have hq := quoted_escapeBody t rest h1
    have : DQ :: escapeBody t ++ [DQ] ++ rest = DQ :: (escapeBody t ++ DQ :: rest) := by simp
    rw [this]
    have d0 : (DQ : UInt8) ≠ NUL := by decide
    simp only [splitLoop, d0, if_false, if_true, hq]
    cases splitLoop packSep fuel (skipSep packSep rest) <;> rfl

/-- field-wise encoding of a token list -/
inductive Encs : List Bytes → List Bytes → Prop
  | nil : Encs [] []
  | cons {t e : Bytes} {ts es : List Bytes} : Enc t e → Encs ts es → Encs (t :: ts) (e :: es)

/-- single-space join of the encoded fields of a line -/
def joinSp : List Bytes → Bytes
  | [] => []
  | [a] => a
  | a :: b :: r => a ++ SP :: joinSp (b :: r)

/-- ` e₁ e₂ …` — every field with a space in front: what follows the first field of a line -/
def spTail : List Bytes → Bytes
  | [] => []
  | e :: r => SP :: e ++ spTail r

theorem joinSp_cons_tail (a : Bytes) (r : List Bytes) : joinSp (a :: r) = a ++ spTail r := by
  induction r generalizing a with
  | nil => simp [joinSp, spTail]
  | cons b r' ih => simp only [joinSp, spTail]; rw [ih b]; simp

theorem joinSp_closed {P : Bytes → Prop} (hnil : P []) (hsp : P [SP]) (happ : ∀ {a b}, P a → P b → P (a ++ b)) :
    ∀ {es : List Bytes}, (∀ e ∈ es, P e) → P (joinSp es)
  | [], _ => hnil
  | [a], h => h a (by simp)
  | a :: b :: r, h =>
    happ (h a (by simp)) (happ hsp (joinSp_closed hnil hsp happ fun e he => h e (List.mem_cons_of_mem _ he)))

theorem spTail_head (es : List Bytes) : ∀ c ∈ (spTail es).head?, ¬ Plain c := by
  cases es with
  | nil => nofun
  | cons e r => intro c hc; cases hc; exact fun h => h.1 rfl

/-- the loop on ` e₁ e₂ …`: per field, skip the space, read one encoding (`splitLoop_enc`); the fuel is counted on what is
left after the first space -/
theorem splitLoop_spTail {ts es : List Bytes} (h : Encs ts es) :
    ∀ fuel, (spTail es).length ≤ fuel + 1 → splitLoop packSep fuel (skipSep packSep (spTail es)) = .ok ts := by
  induction h with
  | nil => intro fuel _; cases fuel <;> rfl
  | @cons t e ts es h1 _ ih =>
    intro fuel hf
    obtain ⟨c, r, rfl, hp⟩ := h1.head_plain
    simp only [spTail, List.length_cons, List.length_append] at hf
    obtain ⟨f, rfl⟩ : ∃ f, fuel = f + 1 := ⟨fuel - 1, by omega⟩
    rw [spTail, List.cons_append, skipSep_sp, List.cons_append, skipSep_of_plain c _ hp, ← List.cons_append,
      splitLoop_enc h1 f _ (spTail_head es), ih f (by omega)]

theorem splitLine_join {ts es : List Bytes} (h : Encs ts es) :
    splitLine packSep (joinSp es) = .ok ts := by
  cases es with
  | nil => cases h; rfl
  | cons e r =>
    have hs : spTail (e :: r) = SP :: joinSp (e :: r) := by rw [joinSp_cons_tail]; rfl
    have := splitLoop_spTail h (joinSp (e :: r)).length (by rw [hs]; exact Nat.le_refl _)
    rwa [hs, skipSep_sp] at this

theorem needsQuote_false {s : Bytes} :
    needsQuote s = false ↔ s ≠ [] ∧ ∀ c ∈ s, c ≠ SP ∧ c ≠ TAB ∧ c ≠ CR ∧ c ≠ DQ ∧ c ≠ BS := by
  simp only [needsQuote, Bool.or_eq_false_iff, decide_eq_false_iff_not, List.any_eq_false, Bool.or_eq_true, decide_eq_true_eq,
    not_or, and_assoc]

theorem enc_printEscaped (s : Bytes) (h : NUL ∉ s) : Enc s (printEscaped s) := by
  unfold printEscaped
  cases hq : needsQuote s with
  | true => simp only [if_true]; exact Enc.quoted s h
  | false =>
    obtain ⟨hne, hall⟩ := needsQuote_false.1 hq
    simp only [Bool.false_eq_true, if_false]
    refine Enc.plain s hne (fun c hc => ?_) ?_
    · obtain ⟨a, b, _, _, _⟩ := hall c hc
      exact ⟨a, b, fun e => h (e ▸ hc)⟩
    · cases s with
      | nil => exact absurd rfl hne
      | cons c r =>
        have := (hall c (by simp)).2.2.2.1
        simpa using this

/-- every field through `print_escaped`: the encoding `Sqfs.C16.split_print_roundtrip` and every describe line use -/
theorem encs_printEscaped : ∀ (ts : List Bytes), (∀ t ∈ ts, NUL ∉ t) → Encs ts (ts.map printEscaped)
  | [], _ => Encs.nil
  | t :: r, h => Encs.cons (enc_printEscaped t (h t (by simp))) (encs_printEscaped r fun g hg => h g (by simp [hg]))

end Sqfs.Quote
