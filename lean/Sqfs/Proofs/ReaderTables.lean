/-
Safety proofs for `Sqfs/Model/ReaderTables.lean` (C05).  Every routine of the xattr reader is a chain of meta reader calls
(`RV.bind`): one rule for the chain (`bind_post`), and for each call `readInto_post` with the arithmetic side condition
`off + n ≤ cap`; the public functions keep `XattrInv` (`XRes.Post`).  Then the superblock checks, the id/fragment table requests
and the directory reader states.  Core Lean only.
-/
import Sqfs.Proofs.ReaderBounds
import Sqfs.Proofs.ListFacts
import Sqfs.Model.ReaderTables
namespace Sqfs.ReaderTables
open Sqfs Sqfs.ReaderBounds
-- see `Sqfs/Proofs/ReaderBounds.lean`: the default `split` doubles its cost with every level of a nested `if`
set_option backward.split false

/-- what a chain of meta reader calls that starts in state `m` promises: it ends, and from a reader that holds at most a
block its accesses are in bounds and the reader still holds at most a block -/
def RV.Post {α : Type} (c : MetaCfg) (m : MetaSt) (a : RV α) : Prop :=
  a.r ≠ .error .fuel ∧
    (MetaCodecOk c → m.dataUsed.toNat ≤ metaCap → (∀ x ∈ a.acc, x.inBounds) ∧ a.st.dataUsed.toNat ≤ metaCap)

theorem bind_post {α β : Type} {c : MetaCfg} {m : MetaSt} (a : RV α) (f : α → MetaSt → RV β) (ha : a.Post c m)
    (hf : ∀ v m', a.r = .ok v → (f v m').Post c m') : (a.bind f).Post c m := by
  unfold RV.bind
  split
  · rename_i e he
    exact ⟨fun h => ha.1 (by rw [he, Except.error.inj h]), ha.2⟩
  · rename_i v hv
    have hfv := hf v a.st hv
    exact ⟨hfv.1, fun hc hm =>
      ⟨safe_append (ha.2 hc hm).1 (hfv.2 hc (ha.2 hc hm).2).1, (hfv.2 hc (ha.2 hc hm).2).2⟩⟩

theorem RV.bind_ok {α β : Type} {a : RV α} {f : α → MetaSt → RV β} {v : β} (h : (a.bind f).r = .ok v) :
    ∃ u, a.r = .ok u ∧ (f u a.st).r = .ok v := by
  unfold RV.bind at h
  split at h
  · cases h
  · exact ⟨_, ‹_›, h⟩

theorem pure_post {α : Type} (c : MetaCfg) (m : MetaSt) (r : Except Err α) (hr : r ≠ .error .fuel) :
    (RV.mk m r [] : RV α).Post c m :=
  ⟨hr, fun _ hm => ⟨List.forall_mem_nil _, hm⟩⟩

theorem ofRes_seek_post (c : MetaCfg) (m : MetaSt) (b o : UInt64) : (ofRes (seek c m b o)).Post c m :=
  ⟨(seekG_post true c m b o).ne_fuel, (seekG_post true c m b o).safe⟩

theorem readInto_post (c : MetaCfg) (m : MetaSt) (buf : Buf) (off n cap : UInt64)
    (hfit : off.toNat + n.toNat ≤ cap.toNat) : (readInto c m buf off n cap).Post c m :=
  ⟨mread_ne_fuel true c m n, fun hc hm => ⟨safe_cons hfit (mread_safe c hc m n hm).1, (mread_safe c hc m n hm).2⟩⟩

/-- `acc`: what the C function writes itself (the header it fills in, the prefix it copies) in front of the chain's accesses -/
theorem prepend_post {α : Type} {c : MetaCfg} {m : MetaSt} (r : RV α) (acc : List Access) (hr : r.Post c m)
    (hacc : ∀ x ∈ acc, x.inBounds) : (RV.mk r.st r.r (acc ++ r.acc)).Post c m :=
  ⟨hr.1, fun hc hm => ⟨safe_append hacc (hr.2 hc hm).1, (hr.2 hc hm).2⟩⟩

theorem szXattrEntry_eq : szXattrEntry = 4 := by decide
theorem szXattrValue_eq : szXattrValue = 4 := by decide
theorem szXattrId_eq : szXattrId = 16 := by decide
theorem szXattrIdTable_eq : szXattrIdTable = 16 := by decide
theorem szXattrT_eq : szXattrT = 32 := by decide
theorem szXattrEntry_toNat : szXattrEntry.toUInt64.toNat = 4 := by decide
theorem szXattrValue_toNat : szXattrValue.toUInt64.toNat = 4 := by decide
theorem szXattrT_toNat : szXattrT.toUInt64.toNat = 32 := by decide
theorem szXattrId_toNat : szXattrId.toUInt64.toNat = 16 := by decide

theorem prefixLen_le (t : UInt16) (p : UInt64) (h : prefixLen t = some p) : p.toNat ≤ 9 := by
  revert h
  fun_cases prefixLen t <;> intro h <;> cases h <;> decide

theorem readKeyHdr_post (c : MetaCfg) (a : KvAns) (m : MetaSt) : (readKeyHdr c a m).Post c m := by
  unfold readKeyHdr
  apply bind_post
  · exact readInto_post c m _ _ _ _ (by simp)
  · intro _ m' _
    split <;> exact pure_post c _ _ nofun

theorem readKeyHdr_ok (c : MetaCfg) (a : KvAns) (m : MetaSt) (p : UInt64)
    (h : (readKeyHdr c a m).r = .ok p) : p.toNat ≤ 9 := by
  obtain ⟨_, _, h⟩ := RV.bind_ok h
  split at h
  · cases h
  · cases h
    exact prefixLen_le _ _ ‹_›

theorem restorePos_post (c : MetaCfg) (a : KvAns) (saved : UInt64 × UInt64) (m : MetaSt) :
    (restorePos c a saved m).Post c m := by
  unfold restorePos
  split
  · exact ofRes_seek_post c m _ _
  · exact pure_post c _ _ nofun

theorem readValueHdr_post (c : MetaCfg) (xs xe : UInt64) (a : KvAns) (m : MetaSt) :
    (readValueHdr c xs xe a m).Post c m := by
  unfold readValueHdr
  apply bind_post
  · exact readInto_post c m _ _ _ _ (by simp)
  · intro _ m1 _
    split
    · apply bind_post
      · exact readInto_post c m1 _ _ _ _ (by decide)
      · intro _ m2 _
        dsimp only
        split
        · exact pure_post c _ _ nofun
        · apply bind_post
          · exact ofRes_seek_post c m2 _ _
          · intro _ m3 _
            apply bind_post
            · exact readInto_post c m3 _ _ _ _ (by simp)
            · intro _ m4 _
              exact pure_post c _ _ nofun
    · exact pure_post c _ _ nofun

theorem kvReadKey_post (c : MetaCfg) (a : KvAns) (m : MetaSt) : (kvReadKey c a m).Post c m := by
  unfold kvReadKey
  apply bind_post
  · exact readKeyHdr_post c a m
  · intro plen m1 _
    split
    · exact pure_post c _ _ nofun
    · rename_i total htot
      obtain ⟨s2, h12, htot⟩ := Option.bind_eq_some_iff.1 htot
      obtain ⟨s1, h1, h2⟩ := Option.bind_eq_some_iff.1 h12
      have e1 := addOv_some _ _ _ h1
      have e2 := addOv_some _ _ _ h2
      have e3 := addOv_some _ _ _ htot
      rw [szXattrEntry_toNat] at e3
      have hoff := toNat_add_le (Nat.le_of_eq szXattrEntry_toNat) (Nat.le_refl plen.toNat)
      dsimp only
      apply prepend_post (readInto c m1 .xattrKeyOut (szXattrEntry.toUInt64 + plen) a.ksize.toUInt64 total)
      · exact readInto_post c m1 _ _ _ _ (by omega)
      · rw [szXattrEntry_eq]
        exact safe_cons (by omega) (safe_one (by omega))

theorem kvReadValue_post (c : MetaCfg) (xs xe : UInt64) (a : KvAns) (m : MetaSt) :
    (kvReadValue c xs xe a m).Post c m := by
  unfold kvReadValue
  apply bind_post
  · exact readValueHdr_post c xs xe a m
  · intro saved m1 _
    split
    · exact pure_post c _ _ nofun
    · rename_i size hsize
      have e := addOv_some _ _ _ hsize
      rw [show (szXattrValue.toUInt64 + 1).toNat = 5 by decide] at e
      dsimp only
      apply prepend_post ((readInto c m1 .xattrValOut szXattrValue.toUInt64 a.vsize.toUInt64 size).bind
        fun _ m => restorePos c a saved m)
      · apply bind_post
        · exact readInto_post c m1 _ _ _ _ (by rw [szXattrValue_toNat]; omega)
        · intro _ m2 _
          exact restorePos_post c a saved m2
      · rw [szXattrValue_eq]
        exact safe_one (by omega)

theorem kvRead_post (c : MetaCfg) (xs xe : UInt64) (a : KvAns) (m : MetaSt) : (kvRead c xs xe a m).Post c m := by
  unfold kvRead
  apply bind_post
  · exact readKeyHdr_post c a m
  · intro plen m1 hp
    have hp := readKeyHdr_ok c a m plen hp
    have one := UInt64.toNat_one
    have hoff : (szXattrT.toUInt64 + plen).toNat = 32 + plen.toNat := by
      rw [toNat_add_of_lt (by rw [szXattrT_toNat]; omega), szXattrT_toNat]
    -- `total = sizeof(*kv) + plen + 1` is not checked in the C text: the one sum that needs `plen ≤ 9`
    have hbase : (szXattrT.toUInt64 + plen + 1).toNat = 33 + plen.toNat := by
      rw [toNat_add_of_lt (by rw [hoff, one]; omega), hoff, one]; omega
    have hvoff := toNat_add_le (toNat_add_le (Nat.le_of_eq hoff) (Nat.le_refl a.ksize.toUInt64.toNat)) (Nat.le_of_eq one)
    split
    · exact pure_post c _ _ nofun
    · rename_i total0 h0
      have e0 := addOv_some _ _ _ h0
      rw [hbase] at e0
      dsimp only
      apply prepend_post (RV.bind _ _)
      · apply bind_post
        · exact readInto_post c m1 _ _ _ _ (by omega)
        · intro _ m2 _
          apply bind_post
          · exact readValueHdr_post c xs xe a m2
          · intro saved m3 _
            split
            · exact pure_post c _ _ nofun
            · rename_i total htot
              obtain ⟨s1, h1, htot⟩ := Option.bind_eq_some_iff.1 htot
              have e1 := addOv_some _ _ _ h1
              have e2 := addOv_some _ _ _ htot
              apply bind_post
              · exact readInto_post c m3 _ _ _ _ (by omega)
              · intro _ m4 _
                apply bind_post
                · exact restorePos_post c a saved m4
                · intro _ m5 _
                  have hend := toNat_add_le hvoff (Nat.le_refl a.vsize.toUInt64.toNat)
                  exact ⟨nofun, fun _ hm5 => ⟨safe_one (by omega), hm5⟩⟩
      · rw [szXattrT_eq]
        exact safe_one (by omega)

theorem kvReadMany_post (c : MetaCfg) (xs xe : UInt64) (ans : Nat → KvAns) (rem i : Nat) (m : MetaSt) :
    (kvReadMany c xs xe ans rem i m).Post c m := by
  fun_induction kvReadMany c xs xe ans rem i m
  case case1 => exact pure_post c _ _ nofun
  case case2 ih => exact bind_post _ _ (kvRead_post c xs xe _ _) fun _ m1 _ => ih m1

/-- what every public function of the xattr reader keeps: both meta readers hold at most a block, and after a
successful load the number of location entries matches the number of descriptors -/
def XattrInv (x : XattrSt) : Prop :=
  x.idrd.dataUsed.toNat ≤ metaCap ∧ x.kvrd.dataUsed.toNat ≤ metaCap ∧
  (x.loaded = true → x.numIdBlocks = xattrIdBlocks x.numIds ∧ x.numIds.toNat < 2 ^ 32)

theorem XattrInv.idrd_le {x : XattrSt} (h : XattrInv x) : x.idrd.dataUsed.toNat ≤ metaCap := h.1
theorem XattrInv.kvrd_le {x : XattrSt} (h : XattrInv x) : x.kvrd.dataUsed.toNat ≤ metaCap := h.2.1
theorem XattrInv.of_loaded {x : XattrSt} (h : XattrInv x) (hl : x.loaded = true) :
    x.numIdBlocks = xattrIdBlocks x.numIds ∧ x.numIds.toNat < 2 ^ 32 := h.2.2 hl

theorem XattrInv_init : XattrInv XattrSt.init := by
  refine ⟨by decide, by decide, ?_⟩
  intro h; cases h

theorem metaCap_toNat : metaCap.toUInt64.toNat = 8192 := by decide

theorem xattrIdBlocks_spec (numIds : UInt64) (h : numIds.toNat < 2 ^ 32) :
    (xattrIdBlocks numIds).toNat = (numIds.toNat * 16 + 8191) / 8192 := by
  have hb : (numIds * szXattrId.toUInt64).toNat = numIds.toNat * 16 := by
    rw [UInt64.toNat_mul, szXattrId_toNat]; exact Nat.mod_eq_of_lt (by omega)
  rw [← hb]
  exact toNat_metaBlocks _

theorem xattrCheckStarts_safe (bu : UInt64) (starts : Nat → UInt64) (n rem i : Nat) (acc : List Access)
    (hi : i + rem = n) (hacc : ∀ a ∈ acc, a.inBounds) :
    ∀ a ∈ (xattrCheckStarts bu starts n rem i acc).2, a.inBounds := by
  fun_induction xattrCheckStarts bu starts n rem i acc
  case case1 => exact hacc
  case case2 => exact safe_append hacc (safe_elem _ 8 (by omega))
  case case3 ih => exact ih (by omega) (safe_append hacc (safe_elem _ 8 (by omega)))

/-- the seek and the read of `sqfs_xattr_reader_get_desc` -/
theorem descChain_post (c : MetaCfg) (m : MetaSt) (b o : UInt64) :
    (RV.bind (ofRes (seek c m b o)) fun _ m => readInto c m .xattrDesc 0 szXattrId.toUInt64 szXattrId.toUInt64).Post c m :=
  bind_post _ _ (ofRes_seek_post c m b o) (fun _ m' _ => readInto_post c m' _ _ _ _ (by simp))

/-- what a public function of the xattr reader promises: it ends, and from a reader that satisfies `XattrInv` its accesses are
in bounds and the invariant is kept, also when it fails -/
def XRes.Post (c : MetaCfg) (x : XattrSt) (r : XRes) : Prop :=
  r.r ≠ .error .fuel ∧ (MetaCodecOk c → XattrInv x → (∀ a ∈ r.acc, a.inBounds) ∧ XattrInv r.st)

theorem xattrGetDesc_post (c : MetaCfg) (x : XattrSt) (idx : UInt32) : (xattrGetDesc c x idx).Post c x := by
  have ha0 : ∀ a ∈ [Access.mk .xattrDesc 0 szXattrId szXattrId], a.inBounds :=
    safe_front (Nat.le_refl _)
  unfold xattrGetDesc
  dsimp only
  split
  · exact ⟨nofun, fun _ hx => ⟨ha0, hx⟩⟩
  split
  · exact ⟨by split <;> nofun, fun _ hx => ⟨ha0, hx⟩⟩
  split
  · exact ⟨nofun, fun _ hx => ⟨ha0, hx⟩⟩
  rename_i _ hl hlt
  refine ⟨(descChain_post c _ _ _).1, fun hc hx => ?_⟩
  have hloaded : x.loaded = true := by simpa using hl
  obtain ⟨hnb, hni⟩ := hx.of_loaded hloaded
  rw [UInt64.not_le, UInt64.lt_iff_toNat_lt] at hlt
  simp only [UInt32.toNat_toUInt64] at hlt
  have hpos := toNat_mul_le idx.toUInt64 szXattrId.toUInt64
  rw [szXattrId_toNat, UInt32.toNat_toUInt64] at hpos
  have hblocks := xattrIdBlocks_spec x.numIds hni
  have hchain := (descChain_post c x.idrd (x.blockStarts (idx.toUInt64 * szXattrId.toUInt64 / metaCap.toUInt64).toNat)
    (idx.toUInt64 * szXattrId.toUInt64 % metaCap.toUInt64)).2 hc hx.idrd_le
  refine ⟨safe_append (safe_append ha0 (safe_one ?_)) hchain.1, hchain.2, hx.kvrd_le, hx.2.2⟩
  rw [UInt64.toNat_div, metaCap_toNat, hnb, hblocks]
  omega

theorem xattrSeekKv_post (c : MetaCfg) (x : XattrSt) (xattr : UInt64) : (xattrSeekKv c x xattr).Post c x := by
  unfold xattrSeekKv
  dsimp only
  split
  · exact ⟨nofun, fun _ hx => ⟨List.forall_mem_nil _, hx⟩⟩
  · have h := seekG_post true c x.kvrd (x.xattrStart + (xattr >>> 16)) (xattr &&& 0xFFFF).toUInt32.toUInt64
    exact ⟨h.ne_fuel, fun hc hx => ⟨(h.safe hc hx.kvrd_le).1, hx.idrd_le, (h.safe hc hx.kvrd_le).2, hx.2.2⟩⟩

/-- `sqfs_xattr_reader_read_all`: descriptor, seek, `count` pairs; each step starts where the one before ended -/
theorem xattrReadAll_post (c : MetaCfg) (x : XattrSt) (idx : UInt32) (xattr : UInt64) (count : UInt32) (ans : Nat → KvAns) :
    (xattrReadAll c x idx xattr count ans).Post c x := by
  unfold xattrReadAll
  split
  · exact ⟨nofun, fun _ hx => ⟨List.forall_mem_nil _, hx⟩⟩
  have hd := xattrGetDesc_post c x idx
  dsimp only
  split
  · rename_i e he
    exact ⟨fun h => hd.1 (by rw [he, Except.error.inj h]), hd.2⟩
  have hs := xattrSeekKv_post c (xattrGetDesc c x idx).st xattr
  split
  · rename_i e he
    refine ⟨fun h => hs.1 (by rw [he, Except.error.inj h]), fun hc hx => ?_⟩
    have s := hs.2 hc (hd.2 hc hx).2
    exact ⟨safe_append (hd.2 hc hx).1 s.1, s.2⟩
  · have hr := kvReadMany_post c (xattrSeekKv c (xattrGetDesc c x idx).st xattr).st.xattrStart
      (xattrSeekKv c (xattrGetDesc c x idx).st xattr).st.xattrEnd ans count.toNat 0
      (xattrSeekKv c (xattrGetDesc c x idx).st xattr).st.kvrd
    refine ⟨hr.1, fun hc hx => ?_⟩
    obtain ⟨sacc, sinv⟩ := hs.2 hc (hd.2 hc hx).2
    have r := hr.2 hc sinv.kvrd_le
    exact ⟨safe_append (safe_append (hd.2 hc hx).1 sacc) r.1, sinv.idrd_le, r.2, sinv.2.2⟩

/-- the loop `block_size <<= 1` multiplies by a power of two in `size_t` -/
theorem shiftLoop_toNat (k : Nat) (b : UInt64) : (shiftLoop k b).toNat = b.toNat * 2 ^ k % 2 ^ 64 := by
  induction k generalizing b with
  | zero => rw [shiftLoop, Nat.pow_zero, Nat.mul_one, Nat.mod_eq_of_lt (UInt64.toNat_lt b)]
  | succ n ih =>
    rw [shiftLoop, ih, UInt64.toNat_shiftLeft, Nat.shiftLeft_eq, Nat.mod_mul_mod]
    exact congrArg (· % 2 ^ 64) (by rw [Nat.mul_assoc, ← Nat.pow_add, Nat.add_comm]; rfl)

theorem shiftLoop_pow (k : Nat) (h : k < 64) : (shiftLoop k 1).toNat = 2 ^ k := by
  rw [shiftLoop_toNat, UInt64.toNat_one, Nat.one_mul]
  exact Nat.mod_eq_of_lt (Nat.pow_lt_pow_right (by decide) h)

theorem superRead_acc (io : Bool) (s : Super) :
    (superRead io s).2 = [Access.mk .superBuf 0 Consts.sizeofSuper Consts.sizeofSuper] := by
  simp only [superRead, apply_ite Prod.snd, ite_self]

theorem superRead_safe (io : Bool) (s : Super) : ∀ a ∈ (superRead io s).2, a.inBounds := by
  simp [superRead_acc, Access.inBounds]

/-- what a successful `sqfs_super_read` has established -/
structure SuperOk (s : Super) : Prop where
  magic : s.magic.toNat = Consts.magic
  version : s.vMajor.toNat = Consts.versionMajor ∧ s.vMinor.toNat = Consts.versionMinor
  bsMin : Consts.minBlockSize ≤ s.blockSize.toNat
  bsMax : s.blockSize.toNat ≤ Consts.maxBlockSize
  logMin : 12 ≤ s.blockLog.toNat
  logMax : s.blockLog.toNat ≤ 20
  bsPow : s.blockSize.toNat = 2 ^ s.blockLog.toNat
  comp : Consts.compMin ≤ s.compId.toNat ∧ s.compId.toNat ≤ Consts.compMax
  ids : s.idCount.toNat ≠ 0

theorem superRead_ok (io : Bool) (s : Super) (h : (superRead io s).1 = .ok ()) : io = false ∧ SuperOk s := by
  simp only [superRead, apply_ite Prod.fst, Except.ite_error_eq_ok, and_true] at h
  obtain ⟨hio, hmagic, hver, _, hmin, hmax, hlog, hpow, hcomp, hid⟩ := h
  have hmagic' : s.magic = Consts.magic.toUInt32 := by simpa using hmagic
  have hver' : s.vMajor = Consts.versionMajor.toUInt16 ∧ s.vMinor = Consts.versionMinor.toUInt16 := by
    simpa using hver
  have hlog' : 12 ≤ s.blockLog.toNat ∧ s.blockLog.toNat ≤ 20 := by
    simp only [Bool.or_eq_true, decide_eq_true_eq, not_or, UInt16.not_lt, UInt16.le_iff_toNat_le] at hlog
    exact ⟨by simpa using hlog.1, by simpa using hlog.2⟩
  have hpow' : s.blockSize.toUInt64 = shiftLoop s.blockLog.toNat 1 := by simpa using hpow
  have hcomp' : Consts.compMin ≤ s.compId.toNat ∧ s.compId.toNat ≤ Consts.compMax := by
    simp only [Bool.or_eq_true, decide_eq_true_eq, not_or, UInt16.not_lt, UInt16.le_iff_toNat_le] at hcomp
    have e1 : Consts.compMin % 65536 = Consts.compMin := by decide
    have e2 : Consts.compMax % 65536 = Consts.compMax := by decide
    have c1 := hcomp.1
    have c2 := hcomp.2
    simp only [Nat.toUInt16, UInt16.toNat_ofNat', Nat.reducePow, e1, e2] at c1 c2
    exact ⟨c1, c2⟩
  refine ⟨by simpa using hio, ⟨?_, ?_, ?_, ?_, hlog'.1, hlog'.2, ?_, hcomp', ?_⟩⟩
  · rw [hmagic']; decide
  · rw [hver'.1, hver'.2]; decide
  · rw [UInt32.not_lt, UInt32.le_iff_toNat_le] at hmin
    have e1 : Consts.minBlockSize % 4294967296 = Consts.minBlockSize := by decide
    simp only [Nat.toUInt32, UInt32.toNat_ofNat', Nat.reducePow, e1] at hmin
    exact hmin
  · rw [UInt32.not_lt, UInt32.le_iff_toNat_le] at hmax
    have e1 : Consts.maxBlockSize % 4294967296 = Consts.maxBlockSize := by decide
    simp only [Nat.toUInt32, UInt32.toNat_ofNat', Nat.reducePow, e1] at hmax
    exact hmax
  · have := shiftLoop_pow s.blockLog.toNat (Nat.lt_of_le_of_lt hlog'.2 (by decide))
    rw [← hpow'] at this
    simpa using this
  · intro h0
    apply hid
    have : s.idCount = 0 := UInt16.toNat_inj.1 (by simpa using h0)
    simp [this]

/-- the request `sqfs_id_table_read` hands to `sqfs_read_table`: `id_count * 4` bytes (no wrap), read at
`id_table_start`, the meta reader window ends at `id_table_start` -/
theorem idTableReq_ok (s : Super) (req : TableReq) (h : idTableReq s = .ok req) :
    req.tableSize.toNat = s.idCount.toNat * 4 ∧ req.location = s.idTableStart ∧ req.upper = s.idTableStart ∧
    s.idCount.toNat ≠ 0 ∧ s.idTableStart.toNat < s.bytesUsed.toNat := by
  unfold idTableReq at h
  split at h
  · cases h
  · rename_i hc
    simp only [Bool.or_eq_true, decide_eq_true_eq, not_or, UInt64.not_le, UInt64.lt_iff_toNat_lt] at hc
    dsimp only at h
    simp only [Except.ok.injEq] at h
    subst h
    have hid := UInt16.toNat_lt s.idCount
    refine ⟨?_, rfl, rfl, ?_, hc.2⟩
    · have e4 : (4 : UInt64).toNat = 4 := rfl
      rw [UInt64.toNat_mul, e4]; simp only [UInt16.toNat_toUInt64]; omega
    · intro h0
      apply hc.1
      have : s.idCount = 0 := UInt16.toNat_inj.1 (by simpa using h0)
      simp [this]

theorem idTableRead_safe (s : Super) (rt : Except Err Unit) : ∀ a ∈ (idTableRead s rt).2, a.inBounds := by
  unfold idTableRead
  split
  · simp
  · rename_i req hreq
    split
    · simp
    · have h := idTableReq_ok s req hreq
      intro a ha
      simp only [idTableSwap, List.mem_map, List.mem_range] at ha
      obtain ⟨i, hi, rfl⟩ := ha
      simp only [Access.inBounds]
      omega

theorem sizeofFragment_toNat : Consts.sizeofFragment.toUInt64.toNat = 16 := by decide

/-- the request `sqfs_frag_table_read` hands to `sqfs_read_table`: `count * 16` bytes without wrap, located inside
the window `[directory_table_start, min(id_table_start, export_table_start))` -/
theorem fragTableReq_ok (s : Super) (req : TableReq) (h : fragTableReq s = .ok (some req)) :
    req.tableSize.toNat = s.fragCount.toNat * 16 ∧ s.fragCount.toNat ≠ 0 ∧ req.location = s.fragTableStart ∧
    req.lower = s.dirTableStart ∧ req.lower.toNat ≤ req.location.toNat ∧ req.location.toNat < s.idTableStart.toNat ∧
    req.location.toNat < s.bytesUsed.toNat ∧ req.upper.toNat ≤ s.idTableStart.toNat := by
  revert h
  fun_cases fragTableReq s <;> intro h <;> cases h
  rename_i hcnt hbu hdts hits upper size hsize
  have e := mulOv_some _ _ _ hsize
  rw [sizeofFragment_toNat] at e
  simp only [UInt32.toNat_toUInt64] at e
  rw [UInt64.not_le, UInt64.lt_iff_toNat_lt] at hbu hits
  rw [UInt64.not_lt, UInt64.le_iff_toNat_le] at hdts
  refine ⟨e, ?_, rfl, rfl, hdts, hits, hbu, ?_⟩
  · intro h0
    apply hcnt
    have : s.fragCount = 0 := UInt32.toNat_inj.1 (by simpa using h0)
    simp [this]
  · simp only [upper]
    split
    · rename_i hlt; rw [UInt64.lt_iff_toNat_lt] at hlt; omega
    · omega

theorem openDir_ok (dotEntries : Bool) (flags : UInt32) (dts rootRef : UInt64) (cache : UInt32 → Option UInt64)
    (ino : DirIno) (st : DirSt) (h : openDir dotEntries flags dts rootRef cache ino = .ok st) :
    st.size.toNat = ino.size.toNat ∧ st.offset.toNat = ino.offset.toNat ∧ st.block = ino.startBlock.toUInt64 + dts ∧
    (st.state = .opened ∨ st.state = .entries) ∧ (st.state = .opened → cache ino.inum = some st.dirRef) := by
  revert h
  -- three paths deliver a state, all with the cursor of `sqfs_readdir_state_init`: the directory is the root, its parent is
  -- in the cache (both `opened`, with the reference the cache gave for the directory), no dot entries (`entries`)
  fun_cases openDir dotEntries flags dts rootRef cache ino <;> intro h <;> cases h
  case case4 hc _ => exact ⟨UInt32.toNat_toUInt64 _, UInt16.toNat_toUInt64 _, rfl, .inl rfl, fun _ => hc⟩
  case case6 hc _ _ _ => exact ⟨UInt32.toNat_toUInt64 _, UInt16.toNat_toUInt64 _, rfl, .inl rfl, fun _ => hc⟩
  case case7 => exact ⟨UInt32.toNat_toUInt64 _, UInt16.toNat_toUInt64 _, rfl, .inr rfl, nofun⟩

theorem dummyEntry_safe (len : Nat) : ∀ a ∈ dummyEntry len, a.inBounds :=
  safe_one (by omega)

theorem dirReadDot_safe (st : DirSt) (r : Except Err DirSt) (as : List Access) (h : dirReadDot st = some (r, as)) :
    ∀ a ∈ as, a.inBounds := by
  revert h
  fun_cases dirReadDot st <;> intro h <;> cases h
  · exact dummyEntry_safe 1
  · exact dummyEntry_safe 2
  · exact List.forall_mem_nil _

/-- `.` and `..` are delivered once each, in this order, then the listing follows; the two artificial entries fit their
allocations -/
theorem dirReadDot_states (st : DirSt) (hs : st.state = .opened) :
    ∃ st1 st2 a1 a2, dirReadDot st = some (.ok st1, a1) ∧ st1.entRef = st.dirRef ∧
      dirReadDot st1 = some (.ok st2, a2) ∧ st2.entRef = st.parentRef ∧ dirReadDot st2 = none ∧
      ∀ a ∈ a1 ++ a2, a.inBounds := by
  refine ⟨{ st with state := .dot, entRef := st.dirRef }, { st with state := .entries, entRef := st.parentRef },
    dummyEntry 1, dummyEntry 2, ?_, rfl, ?_, rfl, ?_, safe_append (dummyEntry_safe 1) (dummyEntry_safe 2)⟩
  · simp [dirReadDot, hs]
  · simp [dirReadDot]
  · simp [dirReadDot]

theorem cstr_length_le (name : List UInt8) : (cstr name).length ≤ name.length :=
  (List.takeWhile_sublist _).length_le

theorem entryNameLen_le (name : List UInt8) (len : UInt64) : entryNameLen name len ≤ name.length := by
  have := cstr_length_le name
  unfold entryNameLen
  split
  · split <;> omega
  · omega

theorem entryNameExamined_le (name : List UInt8) (len : UInt64) : entryNameExamined name len ≤ name.length + 1 := by
  have := cstr_length_le name
  unfold entryNameExamined
  split
  · split <;> omega
  · omega

end Sqfs.ReaderTables
