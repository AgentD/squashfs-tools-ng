/-
C02: all files, `finish`, and the comparison of the final state with the reference.  After `finish` everything has been handed
back and written (`finish_ok`), so the state is the reference's function of the whole history, up to the order in which the
inode updates were applied; they commute (`inodes_final`).  `Final` is what the theorems about runs read off the last state.
-/
import Sqfs.Proofs.BPApi
namespace Sqfs.BlockProc
open Sqfs.Consts

theorem beginFile_unsupported (s : Proc) (flags : Nat) (hb : s.beginCalled = false) (hfl : ¬ flags &&& blkUserSettable = flags) :
    beginFile s flags = .error .unsupported := by
  unfold beginFile
  rw [if_neg (by simp [hb]), if_pos (by simpa using hfl)]

theorem packFiles_spec {P : Params} (hp : SerialOK P) (hBpos : 0 < P.B) (sy : Bool) :
    ∀ (files : List InFile) (s : Proc) (f : Front) (front : List Blk) (es : List Eff) (n : Nat), At P 0 f s front es n →
      Acc P.B n front false → f.beginCalled = false → f.blkCurrent = none →
      (∃ s' f' items, packFiles P s files sy = .ok s' ∧ feFiles P.B n files = .ok items ∧
        At P 0 f' s' (front ++ items) (es ++ feEffs n files) (n + files.length) ∧
        Acc P.B (n + files.length) (front ++ items) false ∧ f'.beginCalled = false ∧ f'.blkCurrent = none) ∨
      (∃ e, packFiles P s files sy = .error e ∧ feFiles P.B n files = .error e ∧ e = .unsupported ∧
        ∃ f ∈ files, ¬ f.flags &&& blkUserSettable = f.flags) := by
  intro files
  induction files with
  | nil =>
    intro s f front es n h a hidle hcur
    exact Or.inl ⟨s, f, [], rfl, rfl, by simpa [feEffs] using h, by simpa using a, hidle, hcur⟩
  | cons file fs ih =>
    intro s f front es n h a hidle hcur
    by_cases hfl : file.flags &&& blkUserSettable = file.flags
    · obtain ⟨s1, f1, items1, hp1, hf1, h1, hidle1, hcur1⟩ := packFile_ok hp hBpos h a hidle hcur file hfl sy
      rcases ih s1 f1 _ _ _ h1 (a.feFile hBpos file items1 hf1) hidle1 hcur1 with
        ⟨s', f', items, hp, hf, h', a', hidle', hcur'⟩ | ⟨e, hp, hf, he, hbad⟩
      · left
        refine ⟨s', f', items1 ++ items, ?_, ?_, ?_, ?_, hidle', hcur'⟩
        · simp only [packFiles, hp1]; exact hp
        · simp only [feFiles, hf1, hf]
        · simpa only [feEffs, List.append_assoc, List.length_cons, Nat.add_assoc, Nat.add_comm 1] using h'
        · simpa only [List.append_assoc, List.length_cons, Nat.add_assoc, Nat.add_comm 1] using a'
      · right
        obtain ⟨fb, hfb, hbad⟩ := hbad
        refine ⟨e, ?_, ?_, he, fb, List.mem_cons_of_mem _ hfb, hbad⟩
        · simp only [packFiles, hp1]; exact hp
        · simp only [feFiles, hf1, hf]
    · right
      refine ⟨.unsupported, ?_, ?_, rfl, file, List.mem_cons_self, hfl⟩
      · simp only [packFiles, packFile, beginFile_unsupported s file.flags ((congrArg Front.beginCalled h.fe).trans hidle) hfl]
      · simp only [feFiles, feFile]
        rw [if_pos (by simpa using hfl)]

/-- after a drain with no open data block: nothing is left in the pool or in `io_queue` -/
theorem PInv.drained {P : Params} {s : Proc} {g : Ghost} {W : WSt} (h : PInv P s g 0 W) (hcur : s.blkCurrent = none)
    (hpost : s.backlog = 0 ∨ mustWait s = false) :
    g.items = [] ∧ s.ioQueue = [] ∧ s.backlog = boolNat s.fragBlock.isSome := by
  have hac := h.acct
  unfold Acct at hac
  simp only [hcur, Option.isSome_none, boolNat, Bool.false_eq_true, if_false, Nat.add_zero] at hac
  have key : g.items.length + s.ioQueue.length = 0 := by
    rcases hpost with h0 | hmw
    · omega
    · unfold mustWait at hmw
      simp only [hcur, Option.isSome_none, Bool.or_false, Bool.and_false, Bool.not_false, Bool.and_true] at hmw
      cases hf : s.fragBlock.isSome
      · simp [hf] at hmw
      · simp only [hf, Bool.and_true, Bool.not_eq_false', beq_iff_eq] at hmw
        simp only [hf, if_true] at hac
        omega
  have h1 : g.items = [] := List.eq_nil_of_length_eq_zero (by omega)
  have h2 : s.ioQueue = [] := List.eq_nil_of_length_eq_zero (by omega)
  refine ⟨h1, h2, ?_⟩
  rw [h1, h2] at hac
  simpa [boolNat] using hac

theorem Back.done_all {P : Params} {s : Proc} {g : Ghost} {F : FSt} {W : WSt} (h : Back P s g F W) (hi : g.items = []) :
    g.pend = [] ∧ g.done = g.front.map (processBlock P) := by
  have hp : g.pend = [] := by rw [← h.pend, hi]; rfl
  have := h.worked
  rw [hp, List.append_nil] at this
  exact ⟨hp, this⟩

theorem finish_ok {P : Params} (hp : SerialOK P)
    {s : Proc} {g : Ghost} {W : WSt} (h : PInv P s g 0 W) (hcur : s.blkCurrent = none)
    (hopen0 : g.front.foldl fOpen false = false) (hfin : g.fin = false) :
    ∃ s' g' W', finish P s = .ok s' ∧ PInv P s' g' 0 W' ∧ g'.items = [] ∧ s'.ioQueue = [] ∧ s'.backlog = 0 ∧
      g'.front = g.front ∧ g'.fe = g.fe ∧ s'.w.inodes.length = s.w.inodes.length ∧
      g'.F P = (fRun P {} (g.front.map (processBlock P))).close P := by
  -- the first `sync`: every block of the files has come back, so `g1.done` is the whole of `g.front`, worked
  obtain ⟨s1, g1, W1, hs1, h1, fr1, hpost1⟩ := sync_ok hp h
  have hcur1 : s1.blkCurrent = none := by rw [blkCurrent_of_fe fr1.fe]; exact hcur
  obtain ⟨hi1, hq1, hb1⟩ := h1.drained hcur1 hpost1
  have hfin1 : g1.fin = false := by rw [fr1.fin]; exact hfin
  obtain ⟨hpend1, hdone1⟩ := h1.back.done_all hi1
  rw [fr1.front] at hdone1
  have hF1 : g1.F P = fRun P {} (g.front.map (processBlock P)) := by
    unfold Ghost.F; rw [hfin1, hdone1]; rfl
  unfold finish
  rw [hs1]
  simp only
  cases hfb : s1.fragBlock with
  | none =>
    simp only
    refine ⟨s1, g1, W1, rfl, h1, hi1, hq1, ?_, fr1.front, fr1.gfe, fr1.inodes, ?_⟩
    · rw [hb1, hfb]; rfl
    · have hop : (g1.F P).opn = none := by rw [← h1.back.fragBlock]; exact hfb
      rw [← hF1, close_of_opn_none P _ hop]
  | some fb =>
    simp only
    have hop : (g1.F P).opn = some fb := by rw [← h1.back.fragBlock]; exact hfb
    have ho : g1.done.foldl fOpen false = false := by
      rw [hdone1, foldl_fOpen_worked]; exact hopen0
    -- the open fragment block is closed (between two files: `hopen0`) and the ghost records it, `fin := true`
    obtain ⟨s2, he, k2, hacc, hb2⟩ := h1.back.closeFrag hp.ans fb hop ho
    rw [he]
    simp only
    have hcur2 : s2.blkCurrent = none := by rw [blkCurrent_of_fe k2.fe]; exact hcur1
    have hF2 : ({ g1 with items := g1.items ++ [processBlock P (fb.withSeq (g1.F P).stream.length)], fin := true } : Ghost).F P
        = (g1.F P).close P := by
      unfold Ghost.F
      simp only [if_true, hfin1, Bool.false_eq_true, if_false]
    have h2 : PInv P s2 { g1 with items := g1.items ++ [processBlock P (fb.withSeq (g1.F P).stream.length)], fin := true } 0 W1 := by
      refine PInv.intro _ hF2 { hb2 with } ?_ (fun _ => hpend1)
      rw [hcur2, ← hcur1]
      exact hacc _ h1.acct
    -- the second `sync` brings that block back and writes it
    obtain ⟨s3, g3, W3, hs3, h3, fr3, hpost3⟩ := sync_ok hp h2
    have hcur3 : s3.blkCurrent = none := by rw [blkCurrent_of_fe fr3.fe]; exact hcur2
    obtain ⟨hi3, hq3, hb3⟩ := h3.drained hcur3 hpost3
    have hfin3 : g3.fin = true := fr3.fin
    have hdone3 : g3.done = g.front.map (processBlock P) := by
      rw [(h3.back.done_all hi3).2, fr3.front]
      show List.map (processBlock P) g1.front = _
      rw [fr1.front]
    have hF3 : g3.F P = (fRun P {} (g.front.map (processBlock P))).close P := by
      unfold Ghost.F; rw [hfin3, hdone3]; rfl
    have hfb3 : s3.fragBlock = none := by
      rw [h3.back.fragBlock, hF3]; exact close_opn P _
    refine ⟨s3, g3, W3, hs3, h3, hi3, hq3, ?_, ?_, ?_, ?_, hF3⟩
    · rw [hb3, hfb3]; rfl
    · rw [fr3.front]; exact fr1.front
    · rw [fr3.gfe]; exact fr1.gfe
    · rw [fr3.inodes, k2.inodes]; exact fr1.inodes

theorem PInv.init (P : Params) (mb : Nat) : PInv P (create P mb) {} 0 { wr := BlockWriter.init P.pre } := by
  refine PInv.intro ({} : FSt) rfl ?_ rfl (fun hf => (by cases hf))
  exact {
    maxBacklog := by show 3 ≤ (if mb < 3 then 3 else mb); split <;> omega
    pool := PoolOk.init, pend := rfl, worked := rfl
    deqLe := Nat.le_refl _, queue := List.Perm.refl _, sorted := List.Pairwise.nil
    itemsOK := fun _ hx => by cases hx
    fprotoOK := rfl
    finv := FInv.init P _, fragBlock := rfl, fragHt := rfl, ioSeq := rfl
    wrun := rfl, winv := WInv.init P, wr := rfl, calls := rfl, fragTbl := rfl, inodes := rfl
    mergeH := Merge.nil, mergeM := Merge.nil
    feIds := fun _ he => by cases he
    inFlSub := fun _ he => by cases he
    inFlNodup := List.nodup_nil
    inFlAll := fun _ _ hb => by cases hb
    inFlNone := fun _ => rfl
    cache := fun _ _ hcc => by cases hcc }

/-! ### the inode table does not depend on the order in which the updates were applied -/

theorem effs_comm {P : Params} {s : Proc} {g : Ghost} {F : FSt} {W : WSt} (h : Back P s g F W)
    (hfi : FragIdx g.done) (hall : (F.stream.take s.ioDeqSeqNum) = F.stream) :
    ∀ x ∈ F.effs, ∀ y ∈ W.effs, EffComm x y := by
  intro x hx y hy
  by_cases hid : x.id = y.id
  · rcases h.finv.effProv x hx with ⟨i, o, hxe⟩ | ⟨k, m, xi, hxe, hxi, hxfr, hxino, hxidx⟩
    · apply effComm_of_app
      intro a
      rw [hxe]
      rcases h.winv.effProv y hy with ⟨loc, hye⟩ | ⟨k', m', hye⟩ | ⟨k', v, yb, hye, _⟩
      · rw [hye]; exact fragLoc_comm_start i o loc a
      · rw [hye]; exact fragLoc_comm_sparse i o k' m' a
      · rw [hye]; exact fragLoc_comm_word i o k' v a
    · apply effComm_of_app
      intro a
      rw [hxe]
      rcases h.winv.effProv y hy with ⟨loc, hye⟩ | ⟨k', m', hye⟩ | ⟨k', v, yb, hye, hyb, hyfb, hyne, hyino, hyidx⟩
      · rw [hye]; exact sparse_comm_start k m loc a
      · rw [hye]; exact sparse_comm_sparse k m k' m' a
      · -- a sparse tail end against a block word of the same inode: the two indices differ, by `FragIdx`
        rw [hye]
        have hk : k ≠ k' := by
          rw [hall] at hyb
          obtain ⟨xb, hxb, hxbfr, hybx⟩ := h.finv.datas yb hyb hyfb
          have h1 : xb.data ≠ [] := by rw [hybx] at hyne; exact hyne
          have h2 : xi.inode = xb.inode := by
            rw [hxino, hid, ← hyino, hybx]; rfl
          have := hfi xi hxi xb hxb hxfr hxbfr h1 h2
          rw [hxidx] at this
          rw [← hyidx, hybx]
          exact this
        exact sparse_comm_word k m k' v hk a
  · exact effComm_of_ne x y hid

theorem fe_comm {fe m : List Eff} (hfe : ∀ e ∈ fe, ∃ k, e.e = .size k) : ∀ x ∈ fe, ∀ y ∈ m, EffComm x y := by
  intro x hx y _
  obtain ⟨k, hk⟩ := hfe x hx
  apply effComm_of_app
  intro a
  rw [hk]
  exact size_comm k y.e a

/-- the inode table at the end, in the reference's order -/
theorem inodes_final {P : Params} {s : Proc} {g : Ghost} {F : FSt} {W : WSt} (h : Back P s g F W)
    (hfi : FragIdx g.done) (hall : (F.stream.take s.ioDeqSeqNum) = F.stream) :
    s.w.inodes = applyEffs (List.replicate s.w.inodes.length {}) (g.fe ++ F.effs ++ W.effs) := by
  have h1 := h.mergeH.foldl_eq applyEff (fe_comm (fun e he => (h.feIds e he).2))
  have h2 := h.mergeM.foldl_eq applyEff (effs_comm h hfi hall)
  rw [h.inodes]
  simp only [applyEffs_length, List.length_replicate]
  show List.foldl applyEff _ g.h = List.foldl applyEff _ (g.fe ++ F.effs ++ W.effs)
  rw [h1, List.append_assoc, List.foldl_append, h2, ← List.foldl_append]

/-- everything the final state of a run satisfies -/
structure Final (P : Params) (files : List InFile) (s : Proc) : Prop where
  ioQueue : s.ioQueue = []
  backlog : s.backlog = 0
  deq : s.ioDeqSeqNum = s.ioSeqNum
  pool : s.pool.ser.queue = []
  /-- no callback has failed: what `get_status` at the end of `sync` reads -/
  status : s.pool.ser.status = 0
  fragBlock : s.fragBlock = none
  output : packRef P files = .ok s.w.output

theorem run_final {P : Params} (hP : P.ans = serialAns) (hc : CodecOk P.codec) (hBpos : 0 < P.B) (hB : P.B < 2 ^ 24)
    (mb : Nat) (files : List InFile) (sy : Bool := false) :
    (∃ s, runProc P mb files sy = .ok s ∧ Final P files s) ∨
    (∃ e, runProc P mb files sy = .error e ∧ packRef P files = .error e ∧ e = .unsupported ∧
      ∃ f ∈ files, ¬ f.flags &&& blkUserSettable = f.flags) := by
  have a0 : Acc P.B 0 [] false := ⟨fun x hx => (by cases hx), rfl, fun x hx => (by cases hx), rfl⟩
  have hs : SerialOK P := ⟨hP, hc, hB⟩
  rcases packFiles_spec hs hBpos sy files (create P mb) {} [] [] 0 ⟨{}, _, PInv.init P mb, rfl, rfl, rfl, rfl, rfl⟩ a0 rfl rfl with
    ⟨s1, f1, items, hp, hf, ⟨g1, W1, h1, hfin1, hfe1, hfront, hgfe, hil⟩, a1, _, hcur1⟩ | ⟨e, hp, hf, he, hbad⟩
  · left
    rw [List.nil_append] at hfront hgfe a1
    rw [Nat.zero_add] at hil
    obtain ⟨s2, g2, W2, hfn, h2, hi2, hq2, hb2, hfront2, hgfe2, hil2, hF2⟩ :=
      finish_ok hs h1 ((congrArg Front.blkCurrent hfe1).trans hcur1) (hfront ▸ a1.opened) hfin1
    have hb := h2.back
    -- pool and `io_queue` are empty, so nothing of the stream is left to write: the writer pass `W2` has run on all of it
    have hdrop : (g2.F P).stream.drop s2.ioDeqSeqNum = [] := by
      have := hb.queue
      rw [hq2, hi2] at this
      simpa using this.symm
    have hge : (g2.F P).stream.length ≤ s2.ioDeqSeqNum := by
      have := congrArg List.length hdrop
      simp only [List.length_drop, List.length_nil] at this
      omega
    have hall : (g2.F P).stream.take s2.ioDeqSeqNum = (g2.F P).stream := List.take_of_length_le hge
    have hdone2 := (hb.done_all hi2).2
    have hfi : FragIdx g2.done := by
      rw [hdone2, hfront2, hfront]
      exact a1.fragIdx.worked P
    have hino := inodes_final hb hfi hall
    have hwr := hb.wrun
    rw [hall] at hwr
    refine ⟨s2, ?_, ?_⟩
    · unfold runProc; rw [hp]; exact hfn
    · refine ⟨hq2, hb2, ?_, ?_, ?_, ?_, ?_⟩
      · rw [hb.ioSeq]; have := hb.deqLe; omega
      · have := hb.pool.queue
        rw [hi2] at this
        simpa using this
      · exact hb.pool.status
      · rw [hb.fragBlock, hF2]; exact close_opn P _
      · -- `packRef` is the three passes on `items`; `hF2`, `hwr` and `hino` say that the state holds their results
        unfold packRef
        rw [hf]
        simp only
        rw [hfront] at hF2
        rw [← hF2, hwr]
        simp only
        refine congrArg Except.ok ?_
        unfold assemble W.output
        rw [hb.calls, hb.wr, hb.fragTbl]
        refine congrArg (Output.mk _ _ _) ?_
        rw [hino]
        rw [hil2, hil, hgfe2, hgfe]
  · right
    refine ⟨e, ?_, ?_, he, hbad⟩
    · unfold runProc; rw [hp]
    · unfold packRef
      rw [hf]

theorem runProc_final {P : Params} (hP : P.ans = serialAns) (hc : CodecOk P.codec) (hBpos : 0 < P.B) (hB : P.B < 2 ^ 24)
    {mb : Nat} {files : List InFile} {sy : Bool} {s : Proc} (h : runProc P mb files sy = .ok s) : Final P files s := by
  rcases run_final hP hc hBpos hB mb files sy with ⟨s', hr, hf⟩ | ⟨e, hr, _⟩
  · rw [hr] at h; cases h; exact hf
  · rw [hr] at h; cases h

theorem run_eq_packRef {P : Params} (hP : P.ans = serialAns) (hc : CodecOk P.codec) (hBpos : 0 < P.B) (hB : P.B < 2 ^ 24)
    (mb : Nat) (files : List InFile) (sy : Bool := false) : run P mb files sy = packRef P files := by
  unfold run
  rcases run_final hP hc hBpos hB mb files sy with ⟨s, hr, hf⟩ | ⟨e, hr, hp, _⟩
  · rw [hr, hf.output]
  · rw [hr, hp]

end Sqfs.BlockProc
