/-
C02: a pool whose workers carry compressor state is, for a history-independent `do_block`, the pure pool.
-/
import Sqfs.Model.C02Worker
namespace Sqfs.BlockProc

theorem StatefulCodec.at_eq_pure {σ : Type} (c : StatefulCodec σ) (hi : c.HistoryIndependent) (s : σ) : c.at s = c.pure := by
  unfold StatefulCodec.at StatefulCodec.pure
  congr 1
  funext x
  exact hi s x

theorem processBlockS_pure {σ : Type} (P : Params) (c : StatefulCodec σ) (hi : c.HistoryIndependent) (s : σ) (b : Blk) :
    (processBlockS P c s b).2 = processBlock { P with codec := c.pure } b := by
  unfold processBlockS
  rw [c.at_eq_pure hi s]

end Sqfs.BlockProc
