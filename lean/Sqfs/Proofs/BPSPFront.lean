/-
C02, `packRef = specPack`: the closed form of the front end.  `feFile` (the loop of `append`, then `end_file`)
submits the full blocks `Pack.fullBlocks` (the first one flagged `FIRST`), then the tail end `Pack.tailOf` — as a data
block with `LAST` under `DONT_FRAGMENT`, else as a fragment, preceded by a size-0 sentinel with `LAST` when the file has a
full block — or just the sentinel when the size is a multiple of the block size.  An empty file submits nothing.
-/
import Sqfs.Proofs.BPFrontForm
namespace Sqfs.BlockProc
open Sqfs.Consts
open Sqfs.BlockWriter (hasFlag)

/-- `SQFS_BLK_USER_SETTABLE_FLAGS` is `0x1F`: a word of user flags is a number below 32, and conversely -/
theorem userFlags_lt {fl : Nat} (h : fl &&& blkUserSettable = fl) : fl < 32 :=
  Nat.lt_succ_of_le (h ▸ Nat.and_le_right)

theorem userFlags_of_lt {fl : Nat} (h : fl < 32) : fl &&& blkUserSettable = fl :=
  (Nat.and_two_pow_sub_one_eq_mod fl 5).trans (Nat.mod_eq_of_lt h)

theorem clear_first_user {fl : Nat} (hfl : fl &&& blkUserSettable = fl) :
    clearFlag (fl ||| blkFirstBlock) blkFirstBlock = fl := by
  have h1 : blkUserSettable &&& (0xFFFFFFFF ^^^ blkFirstBlock) = blkUserSettable := by decide
  have h0 : blkFirstBlock &&& (0xFFFFFFFF ^^^ blkFirstBlock) = 0 := by decide
  unfold clearFlag
  rw [Nat.and_or_distrib_right, h0, Nat.or_zero, ← hfl, Nat.and_assoc, h1]

/-- data block `j` of file `id` (user flags `fl`) -/
def dataItem (fl id j : Nat) (d : Bytes) : Blk :=
  { flags := if j = 0 then fl ||| blkFirstBlock else fl, inode := some id, index := j, data := d }

def dataItems (fl id : Nat) : Nat → List Bytes → List Blk
  | _, [] => []
  | j, x :: xs => dataItem fl id j x :: dataItems fl id (j + 1) xs

/-- the size-0 block that only carries `LAST` -/
def sentinel (fl id : Nat) : Blk := { inode := some id, flags := fl ||| blkLastBlock }

/-- the tail end as a data block with `LAST` (`DONT_FRAGMENT`) -/
def lastItem (fl id k : Nat) (t : Bytes) : Blk :=
  { dataItem fl id k t with flags := (dataItem fl id k t).flags ||| blkLastBlock }

/-- the tail end as a fragment -/
def fragItem (fl id k : Nat) (t : Bytes) : Blk :=
  { dataItem fl id k t with flags := (dataItem fl id k t).flags ||| blkIsFragment }

/-- everything file `id` submits, in order -/
def fileItems (B id : Nat) (f : InFile) : List Blk :=
  if f.data.length = 0 then []
  else
    let fulls := dataItems f.flags id 0 (Sqfs.Pack.fullBlocks B f.data)
    let k := f.data.length / B
    if f.data.length % B = 0 then fulls ++ [sentinel f.flags id]
    else if hasFlag f.flags blkDontFragment then fulls ++ [lastItem f.flags id k (Sqfs.Pack.tailOf B f.data)]
    else fulls ++ ((if k = 0 then [] else [sentinel f.flags id]) ++ [fragItem f.flags id k (Sqfs.Pack.tailOf B f.data)])

theorem mkItems_succ (fl id : Nat) : ∀ (xs : List Bytes) (j : Nat),
    mkItems fl fl (some id) (j + 1) xs = dataItems fl id (j + 1) xs := by
  intro xs
  induction xs with
  | nil => intro j; rfl
  | cons x xs ih => intro j; simp only [mkItems, dataItems, dataItem, ih, Nat.succ_ne_zero, if_false]

theorem mkItems_zero (fl id : Nat) (xs : List Bytes) :
    mkItems (fl ||| blkFirstBlock) fl (some id) 0 xs = dataItems fl id 0 xs := by
  cases xs with
  | nil => rfl
  | cons x xs => simp only [mkItems, dataItems, dataItem, mkItems_succ, if_true]

theorem feFile_eq (B : Nat) (hB : 0 < B) (id : Nat) (f : InFile) (hfl : f.flags &&& blkUserSettable = f.flags) :
    feFile B id f = .ok (fileItems B id f) := by
  have hnf : hasFlag f.flags blkFirstBlock = false := user_hasFlag hfl rfl
  have hof : hasFlag (f.flags ||| blkFirstBlock) blkFirstBlock = true := hasFlag_lib hfl _ rfl
  unfold feFile fileItems
  rw [if_neg (by simp [hfl])]
  simp only
  by_cases h0 : f.data.length = 0
  · rw [if_pos h0, if_pos h0]
    simp [feEndItems, feBegin, hof]
  · rw [if_neg h0, if_neg h0]
    have hne : f.data ≠ [] := fun h => h0 (by simp [h])
    rw [feAppend, feAppendGo_none B hB _ f.data hne (Nat.le_add_right _ _) (feBegin {} id f.flags) rfl]
    simp only [goEnd, feBegin, clear_first_user hfl, mkItems_zero, Nat.zero_add, feEndItems, feSentinel]
    congr 2
    by_cases hr : f.data.length % B = 0
    · simp only [hr, if_true, hnf, Bool.not_false, sentinel]
    · simp only [hr, if_false, lastItem, fragItem, dataItem, sentinel]
      by_cases hdf : hasFlag f.flags blkDontFragment = true
      · simp only [hdf, if_true]
      · simp only [hdf, Bool.false_eq_true, if_false]
        by_cases hk : f.data.length / B = 0
        · simp only [hk, if_true, hof, Bool.not_true, Bool.false_eq_true, if_false]
        · simp only [hk, if_false, hnf, Bool.not_false, if_true]

end Sqfs.BlockProc
