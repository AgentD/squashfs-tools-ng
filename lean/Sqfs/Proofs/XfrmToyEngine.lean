/-
C15 — the toy codec of `Sqfs/Model/Xfrm.lean` by itself: what its encoding and its decoding engine (an internal queue, limited
intake and output) compute step by step (`encStep_spec`; `CoreSpec`: one call of the decoding engine inside a valid member), the
relations the contracts are stated over (`EncR`, `DecR` and their variants behind the library interfaces), the engines called as a
zlib-style and as a libzstd-style library, and what happens behind the point where the input has gone wrong (`ToyB`, `toy_doom_core`).
-/
import Sqfs.Proofs.XfrmPrefix
namespace Sqfs.Xfrm
namespace Toy

theorem encBytes_append (a b : Bytes) : encBytes (a ++ b) = encBytes a ++ encBytes b := by
  induction a with
  | nil => rfl
  | cons h t ih => simp [encBytes, ih]

theorem decode_encode (x : Bytes) : decode (encode x) = some x := by
  unfold encode
  induction x with
  | nil => simp [encBytes, decode]
  | cons b t ih =>
    simp only [encBytes, List.cons_append]
    rw [decode]
    simp [ih]

def EncR (s : Enc) (x y : Bytes) (fin : Bool) : Prop :=
  y ++ s.q = encBytes x ++ (if s.fin then [0] else []) ∧ (s.fin = true → fin = true)

theorem EncR_init : EncR ⟨[], false⟩ [] [] false := by simp [EncR, encBytes]

/-- a terminator still to be queued counts 2, so that queueing it (one more byte in `q`) decreases the measure -/
def encPend (s : Enc) : Nat := s.q.length + (if s.fin then 0 else 2)

/-- the `n`, `fin1`, `q2`, `m` of `encStep` (`Sqfs/Model/Xfrm.lean`) -/
def encN (P : Params) (s : Enc) (inp : Bytes) : Nat :=
  if s.fin then 0 else if s.q.length ≤ P.thresh then min (P.absorb + 1) inp.length else 0
def encFin (P : Params) (s : Enc) (inp : Bytes) (fl : Flush) : Bool :=
  s.fin || (decide (fl = Flush.full) && decide (encN P s inp = inp.length))
def encQ (P : Params) (s : Enc) (inp : Bytes) (fl : Flush) : Bytes :=
  if encFin P s inp fl && !s.fin then s.q ++ encBytes (inp.take (encN P s inp)) ++ [0]
  else s.q ++ encBytes (inp.take (encN P s inp))
def encM (P : Params) (s : Enc) (inp : Bytes) (room : Nat) (fl : Flush) : Nat :=
  min (min room (P.gran + 1)) (encQ P s inp fl).length

theorem encStep_eq (P : Params) (s : Enc) (inp : Bytes) (room : Nat) (fl : Flush) (hr : 0 < room) :
    encStep P s inp room fl =
      if encFin P s inp fl && decide (((encQ P s inp fl).drop (encM P s inp room fl)).length = 0) then
        ⟨⟨[], false⟩, encN P s inp, (encQ P s inp fl).take (encM P s inp room fl), Res.streamEnd⟩
      else ⟨⟨(encQ P s inp fl).drop (encM P s inp room fl), encFin P s inp fl⟩, encN P s inp,
            (encQ P s inp fl).take (encM P s inp room fl), Res.ok⟩ := by
  have : ¬ room = 0 := by omega
  simp only [encStep, this, if_false, encFin, encQ, encM, encN]
  rfl

theorem encStep_room0 (P : Params) (s : Enc) (inp : Bytes) (fl : Flush) :
    encStep P s inp 0 fl = ⟨s, 0, [], Res.ok⟩ := by simp [encStep]

theorem encN_le (P : Params) (s : Enc) (inp : Bytes) : encN P s inp ≤ inp.length := by
  unfold encN; split
  · omega
  · split <;> omega

theorem encN_fin {P : Params} {s : Enc} {inp : Bytes} (h : s.fin = true) : encN P s inp = 0 := by
  simp [encN, h]

theorem encQ_inv {P : Params} {s : Enc} {x y : Bytes} {fin : Bool} (inp : Bytes) (fl : Flush) (hR : EncR s x y fin) :
    y ++ encQ P s inp fl = encBytes (x ++ inp.take (encN P s inp)) ++ (if encFin P s inp fl then [0] else []) := by
  obtain ⟨h1, _⟩ := hR
  cases hf : s.fin with
  | true =>
    have hn : encN P s inp = 0 := encN_fin hf
    simp [encQ, encFin, hf, hn, encBytes] at h1 ⊢
    exact h1
  | false =>
    rw [hf] at h1
    simp only [if_false, Bool.false_eq_true, List.append_nil] at h1
    cases he : encFin P s inp fl with
    | true => simp [encQ, he, hf, encBytes_append, ← h1, List.append_assoc]
    | false => simp [encQ, he, encBytes_append, ← h1, List.append_assoc]

theorem encQ_length (P : Params) (s : Enc) (inp : Bytes) (fl : Flush) :
    (encQ P s inp fl).length = s.q.length + (encBytes (inp.take (encN P s inp))).length +
      (if encFin P s inp fl && !s.fin then 1 else 0) := by
  unfold encQ; split <;> simp [*, Nat.add_assoc]

theorem encM_pos {P : Params} {s : Enc} {inp : Bytes} {room : Nat} {fl : Flush} (hr : 0 < room)
    (hq : 0 < (encQ P s inp fl).length) : 0 < encM P s inp room fl := by
  unfold encM; omega

theorem encQ_pos (P : Params) {s : Enc} (inp : Bytes) (fl : Flush) (hwork : inp ≠ [] ∨ fl = Flush.full)
    (hq : s.fin = true → s.q ≠ []) (hn0 : encN P s inp = 0) : 0 < (encQ P s inp fl).length := by
  have hql := encQ_length P s inp fl
  cases hf : s.fin with
  | true => have := List.length_pos_iff.2 (hq hf); omega
  | false =>
    simp only [encN, hf, Bool.false_eq_true, if_false] at hn0
    by_cases hqt : s.q.length ≤ P.thresh
    · rw [if_pos hqt] at hn0
      have hlen : inp.length = 0 := by omega
      have hfull : fl = Flush.full := hwork.resolve_left (fun h => h (List.eq_nil_of_length_eq_zero hlen))
      have hfin : encFin P s inp fl = true := by simp [encFin, hf, hfull, encN, hqt, hlen]
      rw [hfin, hf] at hql
      simp at hql; omega
    · omega

theorem encStep_fin_nil (P : Params) {s : Enc} (inp : Bytes) {room : Nat} (fl : Flush) (hr : 0 < room) (hf : s.fin = true)
    (hq : s.q = []) : (encStep P s inp room fl).res = Res.streamEnd := by
  have : ¬ room = 0 := by omega
  simp [encStep, this, hf, hq, encBytes]

/-- a call with work to do does something, unless it ends a member whose terminator had been queued and handed out before (which the
zstd-style library never leaves behind, `EncRz`) -/
theorem enc_not_stuck (P : Params) {s : Enc} (inp : Bytes) {room : Nat} (fl : Flush) (hr : 0 < room)
    (hwork : inp ≠ [] ∨ fl = Flush.full) (hq : (encStep P s inp room fl).res ≠ Res.streamEnd ∨ (s.fin = true → s.q ≠ [])) :
    0 < (encStep P s inp room fl).consumed + (encStep P s inp room fl).out.length := by
  replace hq : s.fin = true → s.q ≠ [] := hq.elim (fun hne hf hnil => hne (encStep_fin_nil P inp fl hr hf hnil)) id
  rw [encStep_eq P s inp room fl hr]
  have hgoal : 0 < encN P s inp + ((encQ P s inp fl).take (encM P s inp room fl)).length := by
    by_cases hn : encN P s inp = 0
    · have hqpos := encQ_pos P inp fl hwork hq hn
      have := encM_pos (P := P) (s := s) (inp := inp) (fl := fl) hr hqpos
      rw [List.length_take]; omega
    · omega
  split <;> exact hgoal

theorem encStep_spec (P : Params) {s : Enc} {x y : Bytes} {fin : Bool} (inp : Bytes) (room : Nat) (fl : Flush)
    (hR : EncR s x y fin) (hP : Proto fin fl inp) : ∀ r, r = encStep P s inp room fl →
    r.res ≠ Res.error ∧ r.consumed ≤ inp.length ∧ r.out.length ≤ room ∧
    (r.res ≠ Res.streamEnd → EncR r.st (x ++ inp.take r.consumed) (y ++ r.out)
      (fin || (decide (fl = Flush.full) && decide (r.consumed = inp.length)))) ∧
    (r.res = Res.streamEnd → fl = Flush.full ∧ r.consumed = inp.length ∧ r.st = ⟨[], false⟩ ∧
      decode (y ++ r.out) = some (x ++ inp)) ∧
    (0 < room → (inp ≠ [] ∨ (fl = Flush.full ∧ x ≠ [])) → r.res ≠ Res.streamEnd → 0 < r.consumed ∨ encPend r.st < encPend s) := by
  rintro r rfl
  by_cases hr : 0 < room
  · have hq := encQ_inv (P := P) inp fl hR
    have hol : ((encQ P s inp fl).take (encM P s inp room fl)).length ≤ room := by
      simp only [List.length_take, encM]; omega
    rw [encStep_eq P s inp room fl hr]
    split
    · rename_i hc
      simp only [Bool.and_eq_true, decide_eq_true_eq, List.length_drop] at hc
      obtain ⟨hfin, hdrop⟩ := hc
      have hfl : fl = Flush.full ∧ encN P s inp = inp.length := by
        have := hfin
        simp only [encFin, Bool.or_eq_true, Bool.and_eq_true, decide_eq_true_eq] at this
        rcases this with h | h
        · obtain ⟨h1, h2⟩ := hP.2 (hR.2 h)
          exact ⟨h1, by rw [encN_fin h, h2]; rfl⟩
        · exact h
      refine ⟨by simp, encN_le P s inp, hol, fun h => absurd rfl h, fun _ => ⟨hfl.1, hfl.2, rfl, ?_⟩, fun _ _ h => absurd rfl h⟩
      show decode (y ++ (encQ P s inp fl).take (encM P s inp room fl)) = _
      rw [List.take_of_length_le (by omega), hq, hfin, hfl.2, List.take_length]
      exact decode_encode _
    · rename_i hc
      refine ⟨by simp, encN_le P s inp, hol, fun _ => ⟨?_, fun he => ?_⟩, fun h => (by cases h), fun _ hin _ => ?_⟩
      · simp only [List.append_assoc, List.take_append_drop]; exact hq
      · simp only [encFin, Bool.or_eq_true, Bool.and_eq_true] at he
        rcases he with he | ⟨h1, h2⟩
        · simp [hR.2 he]
        · simp [h1, h2]
      · -- nothing taken in: something is handed out, and the queue gets shorter
        show 0 < encN P s inp ∨ _
        by_cases hn : 0 < encN P s inp
        · exact Or.inl hn
        right
        simp only [Bool.and_eq_true, decide_eq_true_eq, not_and, List.length_drop] at hc
        have hn0 : encN P s inp = 0 := by omega
        have hql := encQ_length P s inp fl
        simp only [hn0, List.take_zero, encBytes, List.length_nil, Nat.add_zero] at hql
        have hfin : s.fin = true → encFin P s inp fl = true := fun h => by simp [encFin, h]
        -- a terminator that has been handed out would have ended the member
        have hqn : s.fin = true → s.q ≠ [] := fun hf hq0 => by
          rw [hfin hf, hf, hq0] at hql
          exact hc (hfin hf) (by rw [hql]; simp)
        have hm := encM_pos (P := P) (s := s) (inp := inp) (fl := fl) hr (encQ_pos P inp fl (hin.imp id And.left) hqn hn0)
        have hml : encM P s inp room fl ≤ (encQ P s inp fl).length := by unfold encM; omega
        simp only [encPend, List.length_drop]
        cases hf : s.fin with
        | true =>
          -- the terminator was queued before: the queue gets shorter
          simp [hf, hfin hf] at hql ⊢; omega
        | false =>
          cases he : encFin P s inp fl with
          | true =>
            -- this call queues the terminator: one byte more in the queue, the weight 2 is gone
            simp [hf, he] at hql ⊢; omega
          | false => simp [hf, he] at hql ⊢; omega
  · have : room = 0 := by omega
    subst this
    rw [encStep_room0]
    exact ⟨by simp, Nat.zero_le _, Nat.le_refl _, fun _ => ⟨by simpa using hR.1, fun h => by simp [hR.2 h]⟩, fun h => (by cases h),
      fun h => absurd h (Nat.lt_irrefl 0)⟩

/-- the rest of a member as seen from a parser state -/
def decodeFrom : Bool → Bytes → Option Bytes
  | false, w => decode w
  | true, [] => none
  | true, b :: r => (decode r).map (b :: ·)

theorem decode_cons_cons (m b : UInt8) (r : Bytes) :
    decode (m :: b :: r) = if m = 1 then (decode r).map (b :: ·) else none := by
  rw [decode]

theorem decode_one_cons (r : Bytes) : decode (1 :: r) = decodeFrom true r := by
  cases r with
  | nil => simp [decode, decodeFrom]
  | cons b r' => rw [decode_cons_cons]; simp [decodeFrom]

theorem decodeFrom_false_cons (h : UInt8) (t : Bytes) (y : Bytes) (hd : decodeFrom false (h :: t) = some y) :
    (h = 0 ∧ t = [] ∧ y = []) ∨ (h = 1 ∧ decodeFrom true t = some y) := by
  simp only [decodeFrom] at hd
  cases t with
  | nil =>
    simp only [decode] at hd
    split at hd
    · left; cases hd; exact ⟨by assumption, rfl, rfl⟩
    · cases hd
  | cons b r =>
    rw [decode_cons_cons] at hd
    split at hd
    · right; exact ⟨by assumption, by simpa [decodeFrom] using hd⟩
    · cases hd

theorem decodeFrom_true_cons (b : UInt8) (t : Bytes) (y : Bytes) (hd : decodeFrom true (b :: t) = some y) :
    ∃ y', y = b :: y' ∧ decodeFrom false t = some y' := by
  simp only [decodeFrom, Option.map_eq_some_iff] at hd
  obtain ⟨y', h1, h2⟩ := hd
  exact ⟨y', h2.symm, h1⟩

theorem parse_nil (i : Bool) : parse i [] = (0, [], i, false, false) := by cases i <;> rfl

theorem parse_true_cons (b : UInt8) (r : Bytes) :
    parse true (b :: r) = ((parse false r).1 + 1, b :: (parse false r).2.1, (parse false r).2.2.1,
      (parse false r).2.2.2.1, (parse false r).2.2.2.2) := by
  rw [parse]

theorem parse_false_cons (m : UInt8) (r : Bytes) :
    parse false (m :: r) =
      if m = 0 then (1, [], false, true, false)
      else if m = 1 then ((parse true r).1 + 1, (parse true r).2.1, (parse true r).2.2.1, (parse true r).2.2.2.1, (parse true r).2.2.2.2)
      else (0, [], false, false, true) := by
  rw [parse]

theorem parse_whole : ∀ (w : Bytes) (i : Bool) (y : Bytes), decodeFrom i w = some y →
    parse i w = (w.length, y, false, true, false) := by
  intro w
  induction w with
  | nil => intro i y h; cases i <;> simp [decodeFrom, decode] at h
  | cons h t ih =>
    intro i y hd
    cases i with
    | true =>
      obtain ⟨y', rfl, hd'⟩ := decodeFrom_true_cons h t y hd
      rw [parse_true_cons, ih false y' hd']
      rfl
    | false =>
      rcases decodeFrom_false_cons h t y hd with ⟨rfl, rfl, rfl⟩ | ⟨rfl, hd'⟩
      · rw [parse_false_cons]; simp
      · rw [parse_false_cons, ih true y hd']; simp

/-- once the terminator or a malformed marker has been met nothing more is looked at; otherwise parsing continues where it stopped -/
theorem parse_append_gen : ∀ (a : Bytes) (i : Bool) (b : Bytes),
    parse i (a ++ b) =
      if (parse i a).2.2.2.1 = true ∨ (parse i a).2.2.2.2 = true then parse i a
      else ((parse i a).1 + (parse (parse i a).2.2.1 b).1, (parse i a).2.1 ++ (parse (parse i a).2.2.1 b).2.1,
            (parse (parse i a).2.2.1 b).2.2.1, (parse (parse i a).2.2.1 b).2.2.2.1, (parse (parse i a).2.2.1 b).2.2.2.2) := by
  intro a i b
  -- the cases of `parse`: end of the input, a data byte, the terminator, a `01` marker, a malformed marker
  fun_induction parse i a with
  | case1 i => simp
  | case2 b0 r c d i' dn bd hp ih =>
    rw [List.cons_append, parse_true_cons, ih, hp]
    by_cases hc : dn = true ∨ bd = true
    · rw [if_pos hc, if_pos hc]
    · rw [if_neg hc, if_neg hc]
      simp only [List.cons_append, Prod.mk.injEq, and_true]
      omega
  | case3 r => simp [parse_false_cons]
  | case4 r c d i' dn bd hp _ ih =>
    rw [List.cons_append, parse_false_cons, if_neg (by decide), if_pos rfl, ih, hp]
    by_cases hc : dn = true ∨ bd = true
    · rw [if_pos hc, if_pos hc]
    · rw [if_neg hc, if_neg hc]
      simp only [Prod.mk.injEq, and_true]
      omega
  | case5 m r h0 h1 => simp [parse_false_cons, h0, h1]

theorem parse_len : ∀ (a : Bytes) (i : Bool), (parse i a).1 ≤ a.length ∧ (parse i a).2.1.length ≤ a.length ∧
    ((parse i a).2.2.2.1 = false → (parse i a).2.2.2.2 = false → (parse i a).1 = a.length) ∧
    ¬ ((parse i a).2.2.2.1 = true ∧ (parse i a).2.2.2.2 = true) := by
  intro a i
  fun_induction parse i a with
  | case1 i => simp
  | case2 b r c d i dn bd hp ih | case4 r c d i dn bd hp _ ih =>
    rw [hp] at ih
    obtain ⟨h1, h2, h3, h4⟩ := ih
    simp only [List.length_cons] at h1 h2 h3 ⊢
    exact ⟨by omega, by omega, fun hd hb => by have := h3 hd hb; omega, h4⟩
  | case3 r => simp
  | case5 m r h0 h1 => simp

def DecR (s : Dec) (u v : Bytes) : Prop :=
  s.bad = false ∧ parse false u = (u.length, v ++ s.q, s.inData, s.done, false) ∧ s.fresh = decide (u = [])

/-- a member that has been begun counts 1, so that the call that ends it decreases the measure even with nothing queued -/
def decPend (s : Dec) : Nat := s.q.length + (if s.fresh then 0 else 1)

theorem DecR_fresh : DecR decFresh [] [] := ⟨rfl, by simp [decFresh, parse_nil], by simp [decFresh]⟩

theorem DecR_nil {s : Dec} {v : Bytes} (hR : DecR s [] v) : v = [] ∧ s.q = [] ∧ s.inData = false ∧ s.done = false := by
  have hp := hR.2.1
  rw [parse_nil] at hp
  simp only [Prod.mk.injEq, List.length_nil, true_and] at hp
  exact ⟨(List.append_eq_nil_iff.1 hp.1.symm).1, (List.append_eq_nil_iff.1 hp.1.symm).2, hp.2.1.symm, hp.2.2.1.symm⟩

theorem DecR_idle {s : Dec} {u v : Bytes} (hR : DecR s u v) (hf : s.fresh = true) : s.done = false ∧ s.q = [] := by
  obtain rfl : u = [] := by simpa [hf] using hR.2.2.symm
  exact ⟨(DecR_nil hR).2.2.2, (DecR_nil hR).2.1⟩

theorem DecR_rest {s : Dec} {u v w x : Bytes} (hR : DecR s u v) (hd : decode (u ++ w) = some x) :
    (s.done = true ∧ w = [] ∧ v ++ s.q = x) ∨
    (s.done = false ∧ ∃ d, parse s.inData w = (w.length, d, false, true, false) ∧ (v ++ s.q) ++ d = x) := by
  have hwhole := parse_whole (u ++ w) false x (by simpa [decodeFrom] using hd)
  rw [parse_append_gen, hR.2.1] at hwhole
  cases hdn : s.done with
  | true =>
    rw [hdn, if_pos (Or.inl rfl)] at hwhole
    simp only [Prod.mk.injEq, List.length_append] at hwhole
    exact Or.inl ⟨rfl, List.eq_nil_of_length_eq_zero (by omega), hwhole.2.1⟩
  | false =>
    rw [hdn, if_neg (by simp)] at hwhole
    rcases hpw : parse s.inData w with ⟨c, d, i', dn, bd⟩
    rw [hpw] at hwhole
    simp only [Prod.mk.injEq, List.length_append, Nat.add_left_cancel_iff] at hwhole
    obtain ⟨rfl, hx, rfl, rfl, rfl⟩ := hwhole
    exact Or.inr ⟨rfl, d, rfl, hx⟩

theorem DecR_facts {s : Dec} {u v w x : Bytes} (hR : DecR s u v) (hd : decode (u ++ w) = some x) :
    IsPre (v ++ s.q) x ∧ (s.done = true → w = [] ∧ v ++ s.q = x) ∧ (s.done = false → w ≠ []) := by
  rcases DecR_rest hR hd with ⟨hdn, hw, hx⟩ | ⟨hdn, d, hpw, hx⟩
  · exact ⟨hx ▸ IsPre.refl _, fun _ => ⟨hw, hx⟩, fun h => (by rw [hdn] at h; cases h)⟩
  · refine ⟨⟨d, hx.symm⟩, fun h => (by rw [hdn] at h; cases h), ?_⟩
    rintro _ rfl
    simp [parse_nil] at hpw

theorem chunk_parse {s : Dec} {u v w x : Bytes} (hR : DecR s u v) (hd : decode (u ++ w) = some x)
    (hnd : s.done = false) (chunk tail : Bytes) (hc : IsPre chunk (w ++ tail)) :
    ∃ d i', parse s.inData chunk = (min chunk.length w.length, d, i', decide (w.length ≤ chunk.length), false) ∧
      parse false (u ++ chunk.take (min chunk.length w.length)) =
        (u.length + min chunk.length w.length, (v ++ s.q) ++ d, i', decide (w.length ≤ chunk.length), false) ∧
      IsPre ((v ++ s.q) ++ d) x ∧ (w.length ≤ chunk.length → (v ++ s.q) ++ d = x) := by
  have hp := hR.2.1
  rw [hnd] at hp
  rcases DecR_rest hR hd with ⟨hdn, _⟩ | ⟨_, dw, hpw, hx⟩
  · rw [hnd] at hdn; cases hdn
  rcases hc.append_cases with ⟨w2, hw2, rfl⟩ | ⟨rest, rfl⟩
  · -- the chunk ends inside the member: it is parsed completely, without reaching the end
    have hlt := List.length_pos_iff.2 hw2
    simp only [List.length_append] at hpw ⊢
    obtain ⟨hl1, _, hl3, _⟩ := parse_len chunk s.inData
    rw [parse_append_gen] at hpw
    rcases hpc : parse s.inData chunk with ⟨c, d1, i1, dn, bd⟩
    rw [hpc] at hpw hl1 hl3
    simp only at hpw hl1 hl3
    have hmin : min chunk.length (chunk.length + w2.length) = chunk.length := by omega
    have hdec : decide (chunk.length + w2.length ≤ chunk.length) = false := by simp; omega
    by_cases hstop : dn = true ∨ bd = true
    · rw [if_pos hstop] at hpw
      simp only [Prod.mk.injEq] at hpw
      omega
    · rw [if_neg hstop] at hpw
      simp only [Prod.mk.injEq] at hpw
      obtain ⟨rfl, rfl⟩ : dn = false ∧ bd = false := by cases dn <;> cases bd <;> simp at hstop ⊢
      obtain rfl := hl3 rfl rfl
      refine ⟨d1, i1, by rw [hmin, hdec], ?_, ⟨(parse i1 w2).2.1, by rw [← hx, ← hpw.2.1]; simp [List.append_assoc]⟩, fun h => by omega⟩
      rw [hmin, List.take_length, parse_append_gen, hp, if_neg (by simp), hpc, hdec]
  · -- the chunk covers the rest of the member
    have hmin : min (w ++ rest).length w.length = w.length := by simp
    have hdec : decide (w.length ≤ (w ++ rest).length) = true := by simp
    refine ⟨dw, false, ?_, ?_, ⟨[], by simp [hx]⟩, fun _ => hx⟩
    · rw [hmin, hdec, parse_append_gen, hpw, if_pos (Or.inl rfl)]
    · rw [hmin, hdec, List.take_left' rfl, parse_append_gen, hp, if_neg (by simp), hpw, hx]

theorem decCore_done (P : Params) {s : Dec} (inp : Bytes) (room : Nat) (h : s.done = true) :
    decCore P s inp room = ⟨0, s.q, min (min room (P.gran + 1)) s.q.length, s.inData, s.fresh, true, false⟩ := by
  simp [decCore, h]

theorem decCore_blocked (P : Params) {s : Dec} (inp : Bytes) (room : Nat) (h : s.done = false) (hq : ¬ s.q.length ≤ P.thresh) :
    decCore P s inp room = ⟨0, s.q, min (min room (P.gran + 1)) s.q.length, s.inData, s.fresh, false, false⟩ := by
  simp [decCore, h, hq]

theorem decCore_absorb (P : Params) {s : Dec} (inp : Bytes) (room : Nat) (h : s.done = false) (hq : s.q.length ≤ P.thresh)
    {n : Nat} {d : Bytes} {i' dn bd : Bool} (hp : parse s.inData (inp.take (P.absorb + 1)) = (n, d, i', dn, bd)) :
    decCore P s inp room = ⟨n, s.q ++ d, min (min room (P.gran + 1)) (s.q ++ d).length, i',
      s.fresh && decide (n = 0), dn, bd⟩ := by
  simp [decCore, h, hq, hp]

/-- one call of the decoding engine in state `s` inside a valid member `u ++ w` with content `x` -/
structure CoreSpec (P : Params) (s : Dec) (u v w x inp : Bytes) (room : Nat) (c : Core) : Prop where
  good : c.bad = false
  n_le_inp : c.n ≤ inp.length
  n_le : c.n ≤ w.length
  parsed : parse false (u ++ inp.take c.n) = (u.length + c.n, v ++ c.q, c.inData, c.done, false)
  pre : IsPre (v ++ c.q) x
  done_iff : c.done = true ↔ c.n = w.length
  whole : c.done = true → v ++ c.q = x
  fresh_eq : c.fresh = (s.fresh && decide (c.n = 0))
  m_eq : c.m = min (min room (P.gran + 1)) c.q.length
  q_eq : c.n = 0 → c.q = s.q
  n_pos : s.done = false → s.q.length ≤ P.thresh → inp ≠ [] → 0 < c.n
  stays_done : s.done = true → c.done = true
  rel : DecR s u v

theorem decCore_spec (P : Params) {s : Dec} {u v w x : Bytes} (hR : DecR s u v) (hd : decode (u ++ w) = some x)
    (inp tail : Bytes) (hin : IsPre inp (w ++ tail)) (room : Nat) : ∀ c, c = decCore P s inp room →
    CoreSpec P s u v w x inp room c := by
  rintro c rfl
  obtain ⟨hfacts1, hfacts2, hfacts3⟩ := DecR_facts hR hd
  have hp := hR.2.1
  cases hdn : s.done with
  | true =>
    obtain ⟨hw, hx⟩ := hfacts2 hdn
    subst hw
    rw [decCore_done P inp room hdn]
    rw [hdn] at hp
    exact ⟨rfl, Nat.zero_le _, Nat.le_refl _, by simpa using hp, hfacts1, by simp, fun _ => hx, by simp, rfl, fun _ => rfl,
      fun h => (by rw [hdn] at h; cases h), fun _ => rfl, hR⟩
  | false =>
    have hw0 : 0 < w.length := List.length_pos_iff.2 (hfacts3 hdn)
    rw [hdn] at hp
    by_cases hq : s.q.length ≤ P.thresh
    · have hchunk : IsPre (inp.take (P.absorb + 1)) (w ++ tail) := (IsPre.take _ _).trans hin
      obtain ⟨d, i', hpc, hpu, hpre, hfull⟩ := chunk_parse hR hd hdn _ tail hchunk
      rw [decCore_absorb P inp room hdn hq hpc]
      have hnl : min (inp.take (P.absorb + 1)).length w.length ≤ inp.length :=
        Nat.le_trans (Nat.min_le_left _ _) (List.length_take_le' _ _)
      rw [List.take_take, Nat.min_eq_left (Nat.le_trans (Nat.min_le_left _ _) (List.length_take_le _ _))] at hpu
      refine ⟨rfl, hnl, Nat.min_le_right _ _, by simpa [List.append_assoc] using hpu, by simpa [List.append_assoc] using hpre,
        by simp only [decide_eq_true_eq]; omega, ?_, rfl, rfl, ?_, ?_, fun h => (by rw [hdn] at h; cases h), hR⟩
      · intro h
        simp only [decide_eq_true_eq] at h
        simpa [List.append_assoc] using hfull h
      · -- nothing consumed: nothing decoded
        intro h0
        have : inp.take (P.absorb + 1) = [] := List.eq_nil_of_length_eq_zero (by simp only at h0; omega)
        rw [this, parse_nil] at hpc
        simp only [Prod.mk.injEq] at hpc
        rw [← hpc.2.1]; simp
      · intro _ _ hne
        have := List.length_pos_iff.2 hne
        simp only [List.length_take]; omega
    · rw [decCore_blocked P inp room hdn hq]
      exact ⟨rfl, Nat.zero_le _, Nat.zero_le _, by simpa using hp, hfacts1, ⟨fun h => (by cases h), fun h => by simp only at h; omega⟩,
        fun h => (by cases h), by simp, rfl, fun _ => rfl, fun _ h => absurd h hq, fun h => (by rw [hdn] at h; cases h), hR⟩

def decEnd (c : Core) : Bool := c.done && decide ((c.q.drop c.m).length = 0)

/-- the engine's state after a call that met no malformed marker -/
def decAfter (c : Core) : Dec := if decEnd c then decFresh else ⟨c.q.drop c.m, c.inData, c.fresh, c.done, false⟩

theorem decAfter_end {c : Core} (h : decEnd c = true) : decAfter c = decFresh := by simp [decAfter, h]

theorem decAfter_open {c : Core} (h : decEnd c = false) : decAfter c = ⟨c.q.drop c.m, c.inData, c.fresh, c.done, false⟩ := by
  simp [decAfter, h]

theorem decEnd_open {c : Core} (h : c.done = false) : decEnd c = false := by simp [decEnd, h]

theorem decStep_room0 (P : Params) (s : Dec) (inp : Bytes) (fl : Flush) :
    (decoder P).step s inp 0 fl = ⟨s, 0, [], Res.ok⟩ := by simp [decoder, decStep]

theorem decStep_eq (P : Params) {s : Dec} (inp : Bytes) {room : Nat} (fl : Flush) (hr : 0 < room) (hb : s.bad = false) :
    ∀ c, c = decCore P s inp room → c.bad = false →
    (decoder P).step s inp room fl =
      if decEnd c then ⟨decFresh, c.n, c.q.take c.m, Res.streamEnd⟩
      else if decide (fl = Flush.full) && decide (c.n = inp.length) && decide (c.m = 0) then
        if c.fresh then ⟨decFresh, c.n, [], Res.streamEnd⟩ else ⟨{ decAfter c with bad := true }, c.n, [], Res.error⟩
      else ⟨decAfter c, c.n, c.q.take c.m,
        if decide (0 < (c.q.drop c.m).length) && decide (c.m = room) then Res.bufferFull else Res.ok⟩ := by
  rintro c rfl hcb
  have : ¬ room = 0 := by omega
  simp only [decoder, decStep, this, hb, hcb, if_false, Bool.false_eq_true]
  change (if decEnd (decCore P s inp room) = true then _ else _) = _
  cases he : decEnd (decCore P s inp room) with
  | true => rfl
  | false =>
    rw [decAfter_open he]
    simp only [Bool.false_eq_true, if_false]
    split
    · rfl
    · split <;> rfl

section Call
variable {P : Params} {s : Dec} {u v w x inp : Bytes} {room : Nat} {c : Core} (hS : CoreSpec P s u v w x inp room c)
include hS

theorem CoreSpec.after : (c.q.take c.m).length ≤ room ∧ IsPre (v ++ c.q.take c.m) x ∧
    (decEnd c = true ↔ c.n = w.length ∧ v ++ c.q.take c.m = x) ∧
    (decEnd c = false → DecR (decAfter c) (u ++ inp.take c.n) (v ++ c.q.take c.m)) := by
  have hm := hS.m_eq
  refine ⟨by rw [List.length_take]; omega, hS.pre.append_take c.m, ⟨fun he => ?_, fun ⟨hcn, hx⟩ => ?_⟩, fun he => ?_⟩
  · simp only [decEnd, Bool.and_eq_true, decide_eq_true_eq, List.length_drop] at he
    rw [List.take_of_length_le (by omega)]
    exact ⟨hS.done_iff.1 he.1, hS.whole he.1⟩
  · -- the member is complete and everything queued has been handed out
    have hdone := hS.done_iff.2 hcn
    have hl := congrArg List.length (List.append_cancel_left (hx.trans (hS.whole hdone).symm))
    rw [List.length_take] at hl
    simp only [decEnd, hdone, List.length_drop, Bool.true_and, decide_eq_true_eq]
    omega
  · rw [decAfter_open he]
    refine ⟨rfl, ?_, ?_⟩
    · simp only [List.length_append, List.length_take, Nat.min_eq_left hS.n_le_inp, List.append_assoc, List.take_append_drop]
      exact hS.parsed
    · -- still fresh exactly when nothing had been consumed and nothing is consumed now
      have htake : inp.take c.n = [] ↔ c.n = 0 := by
        rw [List.take_eq_nil_iff]
        exact ⟨fun h => h.elim id fun h0 => Nat.le_zero.1 (by simpa [h0] using hS.n_le_inp), Or.inl⟩
      simp only [hS.fresh_eq, hS.rel.2.2, List.append_eq_nil_iff, htake, Bool.decide_and]

theorem CoreSpec.progress (hr : 0 < room) (hne : inp ≠ []) : 0 < c.n ∨ decPend (decAfter c) < decPend s := by
  by_cases hn : 0 < c.n
  · exact Or.inl hn
  right
  have hn0 : c.n = 0 := by omega
  have hcq := hS.q_eq hn0
  have hfr : c.fresh = s.fresh := by rw [hS.fresh_eq, hn0]; simp
  -- nothing consumed: the member is complete (and was begun), or the queue is not empty
  have hcase : (s.done = true ∧ s.fresh = false) ∨ 0 < s.q.length := by
    cases hdn : s.done with
    | true => exact Or.inl ⟨rfl, Bool.eq_false_iff.2 fun hf => by rw [(DecR_idle hS.rel hf).1] at hdn; cases hdn⟩
    | false =>
      right
      by_cases hq : s.q.length ≤ P.thresh
      · have := hS.n_pos hdn hq hne; omega
      · omega
  cases he : decEnd c with
  | true =>
    rw [decAfter_end he]
    simp only [decPend, decFresh, List.length_nil, if_true]
    rcases hcase with ⟨_, h⟩ | h
    · rw [h]; simp
    · omega
  | false =>
    rw [decAfter_open he]
    simp only [decPend, hfr, List.length_drop, hcq]
    have hm : 0 < s.q.length → 0 < c.m := fun h => by rw [hS.m_eq, hcq]; omega
    rcases hcase with ⟨h, _⟩ | h
    · by_cases hq0 : 0 < s.q.length
      · have := hm hq0; omega
      · simp [decEnd, hS.stays_done h, List.length_drop, hcq, show s.q.length = 0 by omega] at he
    · have := hm h; omega

/-- a call that is offered input takes some of it or hands something out, unless it ends a member whose terminator an earlier call
had read and whose content that call had handed out completely (which the zstd-style library never leaves behind, `DecRz`) -/
theorem CoreSpec.not_stuck (hr : 0 < room) (hne : inp ≠ []) (he : decEnd c = false ∨ (s.done = true → s.q ≠ [])) :
    0 < c.n + (c.q.take c.m).length := by
  refine Nat.pos_of_ne_zero fun h0 => ?_
  have hm := hS.m_eq
  rw [List.length_take] at h0
  have hn : c.n = 0 := by omega
  have hq : c.q.length = 0 := by omega
  cases hdn : s.done with
  | true =>
    rcases he with he | he
    · simp [decEnd, hS.stays_done hdn, List.length_drop, hq] at he
    · exact he hdn (by rw [← hS.q_eq hn]; exact List.eq_nil_of_length_eq_zero hq)
  | false =>
    by_cases hqt : s.q.length ≤ P.thresh
    · have := hS.n_pos hdn hqt hne; omega
    · rw [hS.q_eq hn] at hq; omega

theorem CoreSpec.drain (hr : 0 < room) (hcw : c.n = w.length) : c.q.take c.m ≠ [] ∨ decEnd c = true := by
  have hm := hS.m_eq
  cases he : decEnd c with
  | true => exact Or.inr rfl
  | false =>
    left
    simp only [decEnd, hS.done_iff.2 hcw, Bool.true_and, decide_eq_false_iff_not, List.length_drop] at he
    exact take_ne_nil (by omega) (List.length_pos_iff.1 (by omega))

theorem CoreSpec.fresh_nil (hf : c.fresh = true) : u = [] ∧ inp = [] := by
  rw [hS.fresh_eq] at hf
  simp only [Bool.and_eq_true, decide_eq_true_eq] at hf
  obtain ⟨hdn, hq⟩ := DecR_idle hS.rel hf.1
  refine ⟨by simpa [hf.1] using hS.rel.2.2.symm, Classical.byContradiction fun hne => ?_⟩
  have := hS.n_pos hdn (by rw [hq]; exact Nat.zero_le _) hne
  omega

end Call

theorem decCore_idle (P : Params) {s : Dec} (hR : DecR s [] []) (room : Nat) :
    s.bad = false ∧ decCore P s [] room = ⟨0, [], 0, false, true, false, false⟩ := by
  obtain ⟨_, hq, hi, hdn⟩ := DecR_nil hR
  exact ⟨hR.1, by simp [decCore, hq, hdn, hi, hR.2.2, parse_nil]⟩

def libRet (b : Backend) (stuck : Prop) [Decidable stuck] : LibRet := if stuck then stuckRet b else LibRet.ok

theorem libRet_cases (b : Backend) (stuck : Prop) [Decidable stuck] :
    libRet b stuck = LibRet.ok ∨ (libRet b stuck = LibRet.bufError ∧ b ≠ Backend.bzip2) := by
  unfold libRet stuckRet
  split
  · split
    · exact Or.inl rfl
    · rename_i hb; exact Or.inr ⟨rfl, hb⟩
  · exact Or.inl rfl

theorem libRet_ne_end (b : Backend) (stuck : Prop) [Decidable stuck] : libRet b stuck ≠ LibRet.streamEnd := by
  rcases libRet_cases b stuck with h | ⟨h, _⟩ <;> rw [h] <;> simp

theorem libRet_buf {b : Backend} {stuck : Prop} [Decidable stuck] (h : libRet b stuck = LibRet.bufError) : stuck := by
  unfold libRet at h
  split at h
  · assumption
  · cases h

theorem encLib_call (P : Params) (b : Backend) (s : LibSt Enc) (inp : Bytes) (room : Nat) (fl : Flush) :
    ((encLib P b).call s inp room fl).st = ⟨(encStep P s.eng inp room fl).st, s.total + (encStep P s.eng inp room fl).consumed⟩ ∧
    ((encLib P b).call s inp room fl).consumed = (encStep P s.eng inp room fl).consumed ∧
    ((encLib P b).call s inp room fl).out = (encStep P s.eng inp room fl).out ∧
    ((encLib P b).call s inp room fl).ret =
      (if (encStep P s.eng inp room fl).res = Res.streamEnd then LibRet.streamEnd
       else if (encStep P s.eng inp room fl).consumed = 0 ∧ (encStep P s.eng inp room fl).out.length = 0 then stuckRet b
       else LibRet.ok) := ⟨rfl, rfl, rfl, rfl⟩

theorem encLib_ret (P : Params) (b : Backend) (s : LibSt Enc) (inp : Bytes) (room : Nat) (fl : Flush) :
    ((encLib P b).call s inp room fl).ret =
      if (encStep P s.eng inp room fl).res = Res.streamEnd then LibRet.streamEnd
      else libRet b ((encStep P s.eng inp room fl).consumed = 0 ∧ (encStep P s.eng inp room fl).out.length = 0) :=
  (encLib_call P b s inp room fl).2.2.2

theorem encLib_end_iff (P : Params) (b : Backend) (s : LibSt Enc) (inp : Bytes) (room : Nat) (fl : Flush) :
    ((encLib P b).call s inp room fl).ret = LibRet.streamEnd ↔ (encStep P s.eng inp room fl).res = Res.streamEnd := by
  rw [encLib_ret]
  split
  · simpa
  · simpa [*] using libRet_ne_end b _

theorem decLib_call_eq (P : Params) (b : Backend) (s : LibSt Dec) (inp : Bytes) (room : Nat) (fl : Flush)
    (hb : s.eng.bad = false) : ∀ c, c = decCore P s.eng inp room → c.bad = false →
    (decLib P b).call s inp room fl =
      { st := ⟨decAfter c, s.total + c.n⟩, consumed := c.n, out := c.q.take c.m,
        ret := if decEnd c then LibRet.streamEnd else libRet b (c.n = 0 ∧ c.m = 0) } := by
  rintro c rfl hcb
  simp only [decLib, hb, hcb, Bool.false_eq_true, if_false]
  change (if decEnd (decCore P s.eng inp room) = true then _ else _) = _
  cases he : decEnd (decCore P s.eng inp room) with
  | true => rw [decAfter_end he]; rfl
  | false => rw [decAfter_open he]; rfl

def DecLibR (s : LibSt Dec) (u v : Bytes) : Prop := DecR s.eng u v ∧ s.total = u.length

theorem encZLib_call (P : Params) (s : Enc) (inp : Bytes) (room : Nat) (fl : Flush) :
    ((encZLib P).call s inp room fl).st = (encStep P s inp room fl).st ∧
    ((encZLib P).call s inp room fl).consumed = (encStep P s inp room fl).consumed ∧
    ((encZLib P).call s inp room fl).out = (encStep P s inp room fl).out ∧
    ((encZLib P).call s inp room fl).isError = false ∧
    ((encZLib P).call s inp room fl).hint =
      (if (encStep P s inp room fl).res = Res.streamEnd then 0
       else (encStep P s inp room fl).st.q.length + (if fl = Flush.full then 1 else 0)) := ⟨rfl, rfl, rfl, rfl, rfl⟩

theorem encZ_done_iff (P : Params) (s : Enc) (inp : Bytes) (room : Nat) :
    ((encZLib P).call s inp room Flush.full).hint = 0 ↔ (encStep P s inp room Flush.full).res = Res.streamEnd := by
  rw [(encZLib_call P s inp room Flush.full).2.2.2.2]
  split <;> simp [*]

/-- the relation for the zstd-style toy library: as for the codec, and a queued terminator has not been handed out yet -/
def EncRz (s : Enc) (x y : Bytes) (fin : Bool) : Prop := EncR s x y fin ∧ (s.fin = true → s.q ≠ [])

theorem encZ_open {P : Params} {s : Enc} {x y : Bytes} {fin : Bool} {inp : Bytes} {room : Nat} {fl : Flush}
    (hR : EncR s x y fin) (hP : Proto fin fl inp) (hnd : ¬ (fl = Flush.full ∧ ((encZLib P).call s inp room fl).hint = 0)) :
    (encStep P s inp room fl).res ≠ Res.streamEnd := by
  intro he
  obtain ⟨rfl, _⟩ := (encStep_spec P inp room fl hR hP _ rfl).2.2.2.2.1 he
  exact hnd ⟨rfl, (encZ_done_iff P s inp room).2 he⟩

theorem encStep_keeps_queue {P : Params} {s : Enc} {inp : Bytes} {room : Nat} {fl : Flush}
    (hq : s.fin = true → s.q ≠ []) (hne : (encStep P s inp room fl).res ≠ Res.streamEnd) :
    (encStep P s inp room fl).st.fin = true → (encStep P s inp room fl).st.q ≠ [] := by
  by_cases hr : 0 < room
  · rw [encStep_eq P s inp room fl hr] at hne ⊢
    split at hne
    · exact absurd rfl hne
    · rename_i hc
      rw [if_neg hc]
      intro hf hnil
      apply hc
      simp only [] at hf hnil
      simp [hf, hnil]
  · have : room = 0 := by omega
    subst this
    rw [encStep_room0]; exact hq

theorem decZLib_call_eq (P : Params) (s : Dec) (inp : Bytes) (room : Nat) (fl : Flush) (hb : s.bad = false) :
    ∀ c, c = decCore P s inp room → c.bad = false →
    (decZLib P).call s inp room fl =
      { st := decAfter c, consumed := c.n, out := c.q.take c.m, isError := false,
        hint := if decEnd c then 0
                else if c.fresh && decide ((c.q.drop c.m).length = 0) then 0 else (c.q.drop c.m).length + 1 } := by
  rintro c rfl hcb
  simp only [decZLib, hb, hcb, Bool.false_eq_true, if_false]
  change (if decEnd (decCore P s inp room) = true then _ else _) = _
  cases he : decEnd (decCore P s inp room) with
  | true => rw [decAfter_end he]; rfl
  | false => rw [decAfter_open he]; rfl

/-- the library's relation: the engine's, and "a frame whose end has been read still has something to hand out" (otherwise
the call that read the end would have answered 0) -/
def DecRz (s : Dec) (u v : Bytes) : Prop := DecR s u v ∧ (s.done = true → s.q ≠ [])

/-- input on which the parser finds nothing wrong is a member followed by something, or can be completed to a member -/
theorem parse_viable : ∀ (c : Bytes) (i : Bool), (parse i c).2.2.2.2 = false →
    (∃ k y, decodeFrom i (c.take k) = some y) ∨ (∃ w y, decodeFrom i (c ++ w) = some y) := by
  intro c i hb
  fun_induction parse i c with
  | case1 i =>
    cases i with
    | false => exact Or.inr ⟨[0], [], by simp [decodeFrom, decode]⟩
    | true => exact Or.inr ⟨[0, 0], [0], by simp [decodeFrom, decode]⟩
  | case2 h t c d i' dn bd hp ih =>
    rw [hp] at ih
    refine (ih hb).imp (fun ⟨k, y, hk⟩ => ⟨k + 1, h :: y, ?_⟩) (fun ⟨w, y, hw⟩ => ⟨w, h :: y, ?_⟩)
    · simp only [decodeFrom] at hk
      simp [decodeFrom, hk]
    · simp only [decodeFrom] at hw
      simp [decodeFrom, hw]
  | case3 t => exact Or.inl ⟨1, [], by simp [decodeFrom, decode]⟩
  | case4 t c d i' dn bd hp _ ih =>
    rw [hp] at ih
    refine (ih hb).imp (fun ⟨k, y, hk⟩ => ⟨k + 1, y, ?_⟩) (fun ⟨w, y, hw⟩ => ⟨w, y, ?_⟩)
    · simp only [decodeFrom, List.take_succ_cons]
      rw [decode_one_cons]; exact hk
    · simp only [decodeFrom, List.cons_append]
      rw [decode_one_cons]; exact hw
  | case5 m t h0 h1 => cases hb

/-- on dead bytes the parser meets a malformed marker -/
theorem parse_dead {c : Bytes} (hd : Dead decode c) : (parse false c).2.2.2.2 = true := by
  cases hb : (parse false c).2.2.2.2 with
  | true => rfl
  | false =>
    exfalso
    rcases parse_viable c false hb with ⟨k, y, hk⟩ | ⟨w, y, hw⟩
    · exact (hd.2 _ _ (by simpa [decodeFrom] using hk)).2 (IsPre.take _ _)
    · exact (hd.2 _ _ (by simpa [decodeFrom] using hw)).1 ⟨w, rfl⟩

/-- the engine's state on input that has gone wrong: it has already failed, or a malformed marker lies ahead; `j` bounds
what is queued plus what can still be decoded before that marker -/
def ToyB (s : Dec) (rest : Bytes) (j : Nat) : Prop :=
  s.bad = true ∨
  (s.bad = false ∧ s.done = false ∧ (parse s.inData rest).2.2.2.2 = true ∧ (s.fresh = true → s.q = []) ∧
    s.q.length + (parse s.inData rest).2.1.length ≤ j)

theorem ToyB_nil {s : Dec} {j : Nat} (h : ToyB s [] j) : s.bad = true := by
  rcases h with h | ⟨_, _, h, _⟩
  · exact h
  · rw [parse_nil] at h; cases h

theorem ToyB_enter {s : Dec} {c : Bytes} (hR : DecR s [] []) (hd : Dead decode c) : ToyB s c c.length := by
  obtain ⟨_, hq, hi, hdn⟩ := DecR_nil hR
  right
  refine ⟨hR.1, hdn, by rw [hi]; exact parse_dead hd, fun _ => hq, ?_⟩
  rw [hq, hi]
  have := (parse_len c false).2.1
  simpa using this

theorem toy_doom_core (P : Params) {s : Dec} {rest : Bytes} {j : Nat} (hB : ToyB s rest j) (hb : s.bad = false)
    (inp : Bytes) (hin : IsPre inp rest) {room : Nat} (hr : 0 < room) :
    ∀ c, c = decCore P s inp room →
    c.bad = true ∨
    (c.bad = false ∧ decEnd c = false ∧ c.n ≤ inp.length ∧ (c.q.take c.m).length ≤ room ∧
      (0 < (c.q.drop c.m).length → c.m = room → c.q.take c.m ≠ []) ∧
      (∃ j', ToyB (decAfter c) (rest.drop c.n) j' ∧ (c.q.take c.m).length + j' ≤ j) ∧
      (inp ≠ [] → c.fresh = false ∧ (0 < c.n ∨ (c.q.take c.m ≠ [] ∧ decPend (decAfter c) < decPend s)))) := by
  rintro c rfl
  rcases hB with h | ⟨_, hdn, hpb, hfq, hj⟩
  · rw [hb] at h; cases h
  obtain ⟨z, rfl⟩ := hin
  have hout : ∀ {q : Bytes} {m : Nat}, 0 < m → m ≤ q.length → q.take m ≠ [] := fun h0 hq =>
    take_ne_nil h0 (List.length_pos_iff.1 (by omega))
  by_cases hq : s.q.length ≤ P.thresh
  · -- the engine takes in a chunk; the malformed marker lies in it, or behind it
    have hsplit : inp ++ z = inp.take (P.absorb + 1) ++ (inp.drop (P.absorb + 1) ++ z) := by
      rw [← List.append_assoc, List.take_append_drop]
    rw [hsplit, parse_append_gen] at hpb hj
    obtain ⟨_, _, hl3, hnb⟩ := parse_len (inp.take (P.absorb + 1)) s.inData
    rcases hpc : parse s.inData (inp.take (P.absorb + 1)) with ⟨n, d, i', dn, bd⟩
    rw [hpc] at hpb hj hl3 hnb
    simp only at hpb hj hl3 hnb
    rw [decCore_absorb P inp room hdn hq hpc]
    cases bd with
    | true => exact Or.inl rfl
    | false =>
      cases dn with
      | true => rw [if_pos (Or.inl rfl)] at hpb; cases hpb
      | false =>
        rw [if_neg (by simp)] at hpb hj
        obtain rfl := hl3 rfl rfl
        have hdrop : (inp ++ z).drop (inp.take (P.absorb + 1)).length = inp.drop (P.absorb + 1) ++ z := by
          rw [hsplit, List.drop_left]
        simp only [List.length_append] at hj
        right
        generalize hm : min (min room (P.gran + 1)) (s.q ++ d).length = m
        obtain ⟨hmr, hmq⟩ : m ≤ room ∧ m ≤ (s.q ++ d).length := by omega
        clear hm
        have htl : ((s.q ++ d).take m).length = m := List.length_take_of_le hmq
        rw [List.length_append] at hmq
        rw [decAfter_open (decEnd_open rfl)]
        dsimp only
        rw [htl]
        refine ⟨rfl, decEnd_open rfl, List.length_take_le' _ _, hmr, fun _ h => hout (by omega) (by rw [List.length_append]; exact hmq),
          ⟨j - m, Or.inr ⟨rfl, rfl, by rw [hdrop]; exact hpb, fun hf => ?_, ?_⟩, by omega⟩, fun hne => ?_⟩
        · -- still fresh: nothing was queued and nothing has been taken in
          simp only [Bool.and_eq_true, decide_eq_true_eq] at hf
          rw [List.eq_nil_of_length_eq_zero hf.2, parse_nil] at hpc
          simp only [Prod.mk.injEq] at hpc
          show (s.q ++ d).drop _ = []
          rw [hfq hf.1, ← hpc.2.1]; simp
        · show ((s.q ++ d).drop m).length + (parse i' ((inp ++ z).drop _)).2.1.length ≤ j - m
          rw [hdrop, List.length_drop, List.length_append]
          omega
        · have := List.length_pos_iff.2 hne
          have hpos : 0 < (inp.take (P.absorb + 1)).length := by rw [List.length_take]; omega
          exact ⟨by simp [List.length_take, Nat.ne_of_gt (List.length_take ▸ hpos)], Or.inl hpos⟩
  · -- the engine only hands out
    rw [decCore_blocked P inp room hdn hq]
    right
    have hfr : s.fresh = false := by
      cases hf : s.fresh with
      | false => rfl
      | true => rw [hfq hf] at hq; simp at hq
    generalize hm : min (min room (P.gran + 1)) s.q.length = m
    obtain ⟨hmr, hmq, hm0⟩ : m ≤ room ∧ m ≤ s.q.length ∧ 0 < m := by omega
    clear hm
    rw [decAfter_open (decEnd_open rfl)]
    dsimp only
    rw [List.length_take_of_le hmq]
    refine ⟨rfl, decEnd_open rfl, Nat.zero_le _, hmr, fun _ _ => hout hm0 hmq,
      ⟨j - m, Or.inr ⟨rfl, rfl, by simpa using hpb, fun hf => (by rw [hfr] at hf; cases hf), ?_⟩, by omega⟩,
      fun _ => ⟨hfr, Or.inr ⟨hout hm0 hmq, ?_⟩⟩⟩
    · show (s.q.drop m).length + (parse s.inData ((inp ++ z).drop 0)).2.1.length ≤ j - m
      rw [List.drop_zero, List.length_drop]
      omega
    · simp only [decPend, List.length_drop, hfr]
      omega

end Toy
end Sqfs.Xfrm
