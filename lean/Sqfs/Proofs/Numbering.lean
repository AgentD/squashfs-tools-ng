/-
The inode numbering (`Sqfs/Model/Numbering.lean`, post_process.c).

`alloc_inode_num_dfs` and the root: `SpecT`/`SpecL` say what the DFS below a node does from any counter value `n` (it gives
out `n + 1, …`, numbers a directory after everything below it, keeps the shape); `alloc_spec`, and `allocDir_spec` for
everything below one directory.

`reorder_hard_links`: an array with `inode_num = slot + 1` is a function of the list of its nodes (`slots`), and a rotation
moves one node forward in that list (`rotate_slots`).  So the loops are list surgery: the inner loop moves the link targets
first found behind the directory in front of it (`reorderDir_slots`), the outer loop leaves what is before the current
slot and permutes the rest (`reorderGo_slots`).  "In an earlier slot" (`Before`) holds when the pair is a sublist of the
node list (`before_of_sublist`), and a move keeps every such pair whose second member is not the node moved
(`sublist_move`).

Last: the directories of a numbered tree with their link targets (`dirsT`), looked up by number: the `linksOf` that
`postProcess_spec` and `links_before_dirs` put into `reorderGo_slots`.
-/
import Sqfs.Model.Numbering
namespace Sqfs.Numbering

theorem Tree.induct {P : Tree → Prop} {Q : List Tree → Prop} (file : P .file) (hlink : ∀ k, P (.hlink k))
    (dir : ∀ cs, Q cs → P (.dir cs)) (nil : Q []) (cons : ∀ t r, P t → Q r → Q (t :: r)) :
    (∀ t, P t) ∧ (∀ l, Q l) :=
  ⟨fun t => Tree.rec (motive_1 := P) (motive_2 := Q) file hlink dir nil cons t,
   fun l => Tree.rec_1 (motive_1 := P) (motive_2 := Q) file hlink dir nil cons l⟩

theorem NTree.induct {P : NTree → Prop} {Q : List NTree → Prop} (file : ∀ n, P (.file n)) (hlink : ∀ k, P (.hlink k))
    (dir : ∀ n cs, Q cs → P (.dir n cs)) (nil : Q []) (cons : ∀ t r, P t → Q r → Q (t :: r)) :
    (∀ t, P t) ∧ (∀ l, Q l) :=
  ⟨fun t => NTree.rec (motive_1 := P) (motive_2 := Q) file hlink dir nil cons t,
   fun l => NTree.rec_1 (motive_1 := P) (motive_2 := Q) file hlink dir nil cons l⟩

mutual
/-- every directory has a larger number than everything below it (`POrdT`: the same inside a node whose own number is still to
come, a `PTree`) -/
def OrdT : NTree → Prop
  | .file _ => True
  | .hlink _ => True
  | .dir n cs => (∀ k ∈ numsL cs, k < n) ∧ OrdL cs
def OrdL : List NTree → Prop
  | [] => True
  | t :: r => OrdT t ∧ OrdL r
end

def POrdT : PTree → Prop
  | .dir cs => OrdL cs
  | _ => True

def POrdL : List PTree → Prop
  | [] => True
  | t :: r => POrdT t ∧ POrdL r

mutual
/-- the tree without its numbers (`peraseT`: of a `PTree`) -/
def eraseT : NTree → Tree
  | .file _ => .file
  | .hlink k => .hlink k
  | .dir _ cs => .dir (eraseL cs)
def eraseL : List NTree → List Tree
  | [] => []
  | t :: r => eraseT t :: eraseL r
end

def peraseT : PTree → Tree
  | .file => .file
  | .hlink k => .hlink k
  | .dir cs => .dir (eraseL cs)

def peraseL : List PTree → List Tree
  | [] => []
  | t :: r => peraseT t :: peraseL r

theorem step2_perm : ∀ (ps : List PTree) (n : Nat),
    ∃ c, (step2 ps n).2 = n + c ∧ (numsL (step2 ps n).1).Perm (pnumsL ps ++ List.range' (n + 1) c) := by
  intro ps
  induction ps with
  | nil => intro n; exact ⟨0, rfl, .refl _⟩
  | cons p rest ih =>
    intro n
    -- a node that gets the number `n + 1`, `x` being the numbers inside it
    have numbered : ∀ x : List Nat, ∃ c, (step2 rest (n + 1)).2 = n + c ∧
        (x ++ [n + 1] ++ numsL (step2 rest (n + 1)).1).Perm (x ++ pnumsL rest ++ List.range' (n + 1) c) := by
      intro x
      obtain ⟨c, h1, h2⟩ := ih (n + 1)
      refine ⟨c + 1, by rw [h1, Nat.add_assoc, Nat.add_comm 1], ?_⟩
      rw [List.range'_succ, List.append_assoc, List.append_assoc]
      exact List.Perm.append_left _ ((h2.cons _).trans List.perm_middle.symm)
    cases p with
    | hlink k => simpa only [step2, numsL, numsT, pnumsL, pnumsT, List.nil_append] using ih n
    | file => simpa only [step2, numsL, numsT, pnumsL, pnumsT, List.nil_append] using numbered []
    | dir cs => simpa only [step2, numsL, numsT, pnumsL, pnumsT] using numbered (numsL cs)

theorem step2_ord : ∀ (ps : List PTree) (n : Nat), POrdL ps → (∀ k ∈ pnumsL ps, k ≤ n) → OrdL (step2 ps n).1 := by
  intro ps
  induction ps with
  | nil => intro n _ _; simp [step2, OrdL]
  | cons p rest ih =>
    intro n ho hb
    simp only [POrdL] at ho
    simp only [pnumsL, List.mem_append] at hb
    cases p with
    | hlink k =>
      simp only [step2, OrdL, OrdT, true_and]
      exact ih n ho.2 (fun k hk => hb k (Or.inr hk))
    | file =>
      simp only [step2, OrdL, OrdT, true_and]
      exact ih (n + 1) ho.2 (fun k hk => Nat.le_succ_of_le (hb k (Or.inr hk)))
    | dir cs =>
      simp only [step2, OrdL, OrdT]
      refine ⟨⟨?_, ho.1⟩, ih (n + 1) ho.2 (fun k hk => Nat.le_succ_of_le (hb k (Or.inr hk)))⟩
      intro k hk
      exact Nat.lt_succ_of_le (hb k (Or.inl hk))

theorem step2_erase : ∀ (ps : List PTree) (n : Nat), eraseL (step2 ps n).1 = peraseL ps := by
  intro ps
  induction ps with
  | nil => intro n; simp [step2, eraseL, peraseL]
  | cons p rest ih =>
    intro n
    cases p <;> simp [step2, eraseL, eraseT, peraseL, peraseT, ih]

/-- what the DFS below a node establishes, from any counter value `n`: the numbers given out (inside directories) are
`n + 1, …, n + c`, `c` what the counter advances by; every directory is numbered after what is below it; the shape is kept -/
def SpecT (t : Tree) : Prop := ∀ n, ∃ c, (allocT t n).2 = n + c ∧
  (pnumsT (allocT t n).1).Perm (List.range' (n + 1) c) ∧ POrdT (allocT t n).1 ∧ peraseT (allocT t n).1 = t
def SpecL (l : List Tree) : Prop := ∀ n, ∃ c, (allocL l n).2 = n + c ∧
  (pnumsL (allocL l n).1).Perm (List.range' (n + 1) c) ∧ POrdL (allocL l n).1 ∧ peraseL (allocL l n).1 = l

theorem range'_split (a k m : Nat) : List.range' a k ++ List.range' (a + k) m = List.range' a (k + m) := by
  rw [List.range'_append_1]

/-- everything below a directory (`alloc_inode_num_dfs` on its children, then `step2`), given the specification of the
recursive calls -/
theorem allocDir_spec (cs : List Tree) (ih : SpecL cs) (n : Nat) :
    ∃ c, (step2 (allocL cs n).1 (allocL cs n).2).2 = n + c ∧
      (numsL (step2 (allocL cs n).1 (allocL cs n).2).1).Perm (List.range' (n + 1) c) ∧
      OrdL (step2 (allocL cs n).1 (allocL cs n).2).1 ∧ eraseL (step2 (allocL cs n).1 (allocL cs n).2).1 = cs := by
  obtain ⟨c₁, a1, a2, a3, a4⟩ := ih n
  obtain ⟨c₂, b1, b2⟩ := step2_perm (allocL cs n).1 (allocL cs n).2
  refine ⟨c₁ + c₂, by rw [b1, a1, Nat.add_assoc], ?_, step2_ord _ _ a3 fun k hk => ?_, by rw [step2_erase, a4]⟩
  · rw [← range'_split, Nat.add_right_comm, ← a1]
    exact b2.trans (List.Perm.append_right _ a2)
  · have := List.mem_range'_1.mp (a2.mem_iff.mp hk)
    omega

theorem alloc_spec : (∀ t, SpecT t) ∧ (∀ l, SpecL l) := by
  refine Tree.induct ?_ ?_ ?_ ?_ ?_
  · intro n; exact ⟨0, rfl, .refl _, trivial, rfl⟩
  · intro k n; exact ⟨0, rfl, .refl _, trivial, rfl⟩
  · intro cs ih n
    obtain ⟨c, h1, h2, h3, h4⟩ := allocDir_spec cs ih n
    exact ⟨c, h1, h2, h3, by rw [allocT, peraseT, h4]⟩
  · intro n; exact ⟨0, rfl, .refl _, trivial, rfl⟩
  · intro t rest iht ihl n
    obtain ⟨c₁, a1, a2, a3, a4⟩ := iht n
    obtain ⟨c₂, r1, r2, r3, r4⟩ := ihl (allocT t n).2
    simp only [allocL, pnumsL, POrdL, peraseL]
    refine ⟨c₁ + c₂, by rw [r1, a1, Nat.add_assoc], ?_, ⟨a3, r3⟩, by rw [a4, r4]⟩
    rw [← range'_split, Nat.add_right_comm, ← a1]
    exact List.Perm.append a2 r2

theorem numberRoot_perm (cs : List Tree) :
    (numsT (numberRoot cs).1).Perm (List.range' 1 (numberRoot cs).2) := by
  obtain ⟨c, h1, h2, -⟩ := allocDir_spec cs (alloc_spec.2 cs) 0
  simp only [numberRoot, numsT]
  rw [h1, Nat.zero_add, List.range'_1_concat, Nat.add_comm 1]
  exact List.Perm.append_right _ h2

/-- numbering changes nothing but the numbers: forgetting them gives back the input tree -/
theorem numberRoot_shape (cs : List Tree) : eraseT (numberRoot cs).1 = .dir cs := by
  obtain ⟨c, -, -, -, h⟩ := allocDir_spec cs (alloc_spec.2 cs) 0
  rw [numberRoot, eraseT, h]

/-- the array with `inodes[k]->inode_num == a + k` that holds the nodes `ids` in this order (`a = 1`: what
`map_inodes_dfs` builds and `reorder_hard_links` maintains) -/
def slots (a : Nat) : List Nat → List Slot
  | [] => []
  | x :: r => ⟨x, a⟩ :: slots (a + 1) r

theorem slots_append : ∀ (l₁ l₂ : List Nat) (a : Nat), slots a (l₁ ++ l₂) = slots a l₁ ++ slots (a + l₁.length) l₂
  | [], _, _ => rfl
  | x :: r, l₂, a => by
    rw [List.cons_append, slots, slots, slots_append r l₂, List.length_cons, Nat.add_right_comm a, Nat.add_assoc,
      List.cons_append]

theorem slots_ids : ∀ (l : List Nat) (a : Nat), (slots a l).map (·.id) = l
  | [], _ => rfl
  | x :: r, a => by rw [slots, List.map_cons, slots_ids r]

theorem slots_nums : ∀ (l : List Nat) (a : Nat), (slots a l).map (·.num) = List.range' a l.length
  | [], _ => rfl
  | x :: r, a => by rw [slots, List.map_cons, slots_nums r, List.length_cons, List.range'_succ]

theorem slots_bump : ∀ (l : List Nat) (a : Nat), (slots a l).map (fun s => (⟨s.id, s.num + 1⟩ : Slot)) = slots (a + 1) l
  | [], _ => rfl
  | x :: r, a => by rw [slots, List.map_cons, slots_bump r, slots]

theorem length_slots (l : List Nat) (a : Nat) : (slots a l).length = l.length := by
  rw [← List.length_map (·.id), slots_ids]

theorem initialSlots_eq (n : Nat) : initialSlots n = slots 1 (List.range' 1 n) := by
  suffices h : ∀ a, (List.range' a n).map (fun n => (⟨n, n⟩ : Slot)) = slots a (List.range' a n) from h 1
  induction n with
  | zero => intro a; rfl
  | succ n ih => intro a; rw [List.range'_succ, List.map_cons, ih, slots]

theorem getElem?_slots (l₁ : List Nat) (x : Nat) (l₂ : List Nat) (a : Nat) :
    (slots a (l₁ ++ x :: l₂))[l₁.length]? = some ⟨x, a + l₁.length⟩ := by
  rw [slots_append, List.getElem?_append_right (Nat.le_of_eq (length_slots l₁ a)), length_slots, Nat.sub_self]
  rfl

theorem find_slots {t : Nat} : ∀ (l₁ l₂ : List Nat) (a : Nat), t ∉ l₁ →
    (slots a (l₁ ++ t :: l₂)).find? (·.id == t) = some ⟨t, a + l₁.length⟩
  | [], _, _, _ => by rw [List.nil_append, slots, List.find?_cons_of_pos (by simp)]; rfl
  | x :: r, l₂, a, h => by
    rw [List.cons_append, slots, List.find?_cons_of_neg (by simpa using fun (e : x = t) => h (e ▸ List.mem_cons_self)),
      find_slots r l₂ (a + 1) (fun hr => h (List.mem_cons_of_mem _ hr)), List.length_cons, Nat.add_right_comm a, Nat.add_assoc]

theorem find_slots_none {t : Nat} {l : List Nat} (a : Nat) (h : t ∉ l) : (slots a l).find? (·.id == t) = none :=
  List.find?_eq_none.mpr fun s hs he => h (by
    rw [← slots_ids l a, ← eq_of_beq he]; exact List.mem_map_of_mem hs)

theorem rotate_of_length_le (arr : List Slot) (i t : Nat) (h : arr.length ≤ t) : rotate arr i t = arr := by
  rw [rotate, List.getElem?_eq_none h]

theorem rotate_append (A B : List Slot) (c : Slot) (C : List Slot) :
    rotate (A ++ (B ++ c :: C)) A.length (A.length + B.length) =
      A ++ ⟨c.id, A.length + 1⟩ :: (B.map (fun s => ⟨s.id, s.num + 1⟩) ++ C) := by
  have hc : (A ++ (B ++ c :: C))[A.length + B.length]? = some c := by
    rw [List.getElem?_append_right (Nat.le_add_right _ _), Nat.add_sub_cancel_left,
      List.getElem?_append_right (Nat.le_refl _), Nat.sub_self]
    rfl
  rw [rotate, hc]
  simp only
  rw [List.take_left, List.drop_left, Nat.add_sub_cancel_left, List.take_left, Nat.add_assoc, List.drop_length_add_append,
    List.drop_length_add_append]
  rfl

theorem rotate_slots (pre mid : List Nat) (t : Nat) (q : List Nat) :
    rotate (slots 1 (pre ++ (mid ++ t :: q))) pre.length (pre.length + mid.length) = slots 1 (pre ++ t :: (mid ++ q)) := by
  have h := rotate_append (slots 1 pre) (slots (1 + pre.length) mid) ⟨t, 1 + pre.length + mid.length⟩
    (slots (1 + pre.length + mid.length + 1) q)
  rw [length_slots, length_slots, slots_bump] at h
  rw [slots_append, slots_append, slots, h, slots_append, slots, slots_append, Nat.add_comm pre.length 1,
    Nat.add_right_comm _ mid.length 1]

/-- a link of the directory `d` in slot `|pre|` that is not first found behind `d` is passed over -/
theorem reorderDir_skip {d t : Nat} {pre post : List Nat} (rest : List Nat) (h : t ∈ post → t ∈ pre ++ [d]) :
    reorderDir (t :: rest) (slots 1 (pre ++ d :: post)) pre.length = reorderDir rest (slots 1 (pre ++ d :: post)) pre.length := by
  rw [reorderDir]
  by_cases h1 : t ∈ pre ++ [d]
  · obtain ⟨l₁, l₂, hl, hn⟩ := List.eq_append_cons_of_mem h1
    have hlen : l₁.length ≤ pre.length := by
      have := congrArg List.length hl
      simp only [List.length_append, List.length_cons, List.length_nil] at this
      omega
    have hf := find_slots l₁ (l₂ ++ post) 1 hn
    rw [← List.cons_append, ← List.append_assoc, ← hl, ← List.append_cons] at hf
    rw [hf]
    simp only
    rw [Nat.add_sub_cancel_left, if_pos hlen]
  · rw [find_slots_none 1 (l := pre ++ d :: post) (by
      rw [List.append_cons]; exact fun h' => (List.mem_append.mp h').elim h1 fun h2 => h1 (h h2))]

/-- a link first found behind the directory is rotated in front of it -/
theorem reorderDir_move {d t : Nat} {pre m : List Nat} (rest q : List Nat) (h1 : t ∉ pre ++ [d]) (hn : t ∉ m) :
    reorderDir (t :: rest) (slots 1 (pre ++ d :: (m ++ t :: q))) pre.length
      = reorderDir rest (slots 1 (pre ++ t :: d :: (m ++ q))) (pre.length + 1) := by
  have hf := find_slots (pre ++ d :: m) q 1 (t := t) (by
    rw [List.append_cons]; exact fun h => (List.mem_append.mp h).elim h1 hn)
  have hr := rotate_slots pre (d :: m) t q
  rw [List.append_assoc, List.length_append] at hf
  simp only [List.cons_append] at hf hr
  rw [reorderDir, hf]
  simp only
  rw [Nat.add_sub_cancel_left, if_neg (Nat.not_le_of_lt (Nat.lt_add_of_pos_right (List.length_pos_of_mem List.mem_cons_self))), hr]

/-- the node `a` sits in an earlier slot of the array than the node `b` -/
def Before (arr : List Slot) (a b : Nat) : Prop :=
  ∃ (i j : Nat) (sa sb : Slot), i < j ∧ arr[i]? = some sa ∧ arr[j]? = some sb ∧ sa.id = a ∧ sb.id = b

theorem before_of_sublist {arr : List Slot} {a b : Nat} (h : [a, b].Sublist (arr.map (·.id))) : Before arr a b := by
  obtain ⟨r₁, r₂, hr, ha, hb⟩ := List.cons_sublist_iff.mp h
  obtain ⟨i, hi⟩ := List.getElem?_of_mem ha
  obtain ⟨j, hj⟩ := List.getElem?_of_mem (List.singleton_sublist.mp hb)
  have hil := (List.getElem?_eq_some_iff.mp hi).1
  rw [← List.getElem?_append_left (l₂ := r₂) hil, ← hr, List.getElem?_map] at hi
  rw [← Nat.add_sub_cancel_left (n := r₁.length) (m := j), ← List.getElem?_append_right (Nat.le_add_right _ _), ← hr,
    List.getElem?_map] at hj
  obtain ⟨sa, hsa, rfl⟩ := Option.map_eq_some_iff.mp hi
  obtain ⟨sb, hsb, rfl⟩ := Option.map_eq_some_iff.mp hj
  exact ⟨i, r₁.length + j, sa, sb, Nat.lt_add_right j hil, hsa, hsb, rfl, rfl⟩

theorem pair_sublist_range' (n a b : Nat) (ha : 1 ≤ a) (hab : a < b) (hb : b ≤ n) : [a, b].Sublist (List.range' 1 n) := by
  obtain ⟨k, rfl⟩ := Nat.exists_eq_add_of_lt hab
  obtain ⟨j, rfl⟩ := Nat.exists_eq_add_of_le hb
  rw [Nat.add_assoc (a + k) 1 j, ← List.range'_append_1]
  exact List.Sublist.append (l₁ := [a]) (r₁ := [a + k + 1]) (List.singleton_sublist.mpr (List.mem_range'_1.mpr (by omega)))
    (List.singleton_sublist.mpr (List.mem_range'_1.mpr (by omega)))

theorem sublist_move {a b t : Nat} {X M q : List Nat} (hb : b ≠ t) (h : [a, b].Sublist (X ++ (M ++ t :: q))) :
    [a, b].Sublist (X ++ t :: (M ++ q)) := by
  rw [← List.append_assoc] at h
  obtain ⟨l₁, l₂, hl, h₁, h₂⟩ := List.sublist_append_iff.mp h
  rcases List.sublist_cons_iff.mp h₂ with h₂ | ⟨r, rfl, hr⟩
  · rw [hl]
    exact (h₁.append h₂).trans (by rw [List.append_assoc]; exact (List.sublist_cons_self t _).append_left X)
  · -- the pair ends in `b ≠ t`: it is this `t` followed by a `b` from `q`
    match l₁, hl with
    | [], hl =>
      cases hl
      exact List.sublist_append_of_sublist_right ((List.sublist_append_of_sublist_right hr).cons_cons _)
    | [x], hl => cases hl; exact absurd rfl hb
    | _ :: _ :: _, hl => simp at hl

/-- the inner loop on a dense array with the directory `d` in slot `|pre|`: the links first found behind `d` (`mv`) are
moved in front of it, in link order, so that every link found in the array then stands no later than `d`; nothing else
changes place -/
theorem reorderDir_slots (d : Nat) (links pre post : List Nat) :
    ∃ mv post', reorderDir links (slots 1 (pre ++ d :: post)) pre.length
        = (slots 1 (pre ++ (mv ++ d :: post')), pre.length + mv.length) ∧
      (mv ++ post').Perm post ∧ (∀ t ∈ mv, t ∈ links) ∧
      (∀ t ∈ links, t ∈ pre ++ d :: post → t ∈ pre ++ (mv ++ [d])) ∧
      (∀ a b, b ∉ links → [a, b].Sublist (pre ++ d :: post) → [a, b].Sublist (pre ++ (mv ++ d :: post'))) := by
  induction links generalizing pre post with
  | nil => exact ⟨[], post, by rw [reorderDir]; rfl, .refl _, fun _ h => h, fun _ h => absurd h List.not_mem_nil, fun _ _ _ h => h⟩
  | cons t rest ih =>
    by_cases h : t ∈ post → t ∈ pre ++ [d]
    · obtain ⟨mv, post', e, hp, hm, hl, hk⟩ := ih pre post
      refine ⟨mv, post', (reorderDir_skip rest h).trans e, hp, fun x hx => List.mem_cons_of_mem _ (hm x hx),
        List.forall_mem_cons.mpr ⟨fun ht => ?_, hl⟩, fun a b hb => hk a b fun h => hb (List.mem_cons_of_mem _ h)⟩
      rw [List.append_cons] at ht
      rcases List.mem_append.mp ((List.mem_append.mp ht).elim id h) with h' | h'
      · exact List.mem_append_left _ h'
      · exact List.mem_append_right _ (List.mem_append_right _ h')
    · obtain ⟨h2, h1⟩ := Decidable.not_imp_iff_and_not.mp h
      obtain ⟨m, q, rfl, hn⟩ := List.eq_append_cons_of_mem h2
      obtain ⟨mv, post', e, hp, hm, hl, hk⟩ := ih (pre ++ [t]) (m ++ q)
      simp only [List.append_assoc, List.singleton_append, List.length_append, List.length_singleton] at e hl hk
      refine ⟨t :: mv, post', ?_, (hp.cons t).trans List.perm_middle.symm,
        List.forall_mem_cons.mpr ⟨List.mem_cons_self, fun x hx => List.mem_cons_of_mem _ (hm x hx)⟩,
        List.forall_mem_cons.mpr ⟨fun _ => List.mem_append_right _ List.mem_cons_self, fun x hx hx' => ?_⟩, fun a b hb h => ?_⟩
      · rw [reorderDir_move rest q h1 hn, e, List.length_cons, Nat.add_assoc, Nat.add_comm 1]
        rfl
      · exact hl x hx (((List.perm_middle (l₁ := d :: m)).append_left pre).mem_iff.mp hx')
      · exact hk a b (fun h => hb (List.mem_cons_of_mem _ h))
          (sublist_move (M := d :: m) (fun (e : b = t) => hb (e ▸ List.mem_cons_self)) h)

/-- one round of the outer loop; a non-directory is passed over like a directory without links: `links = []` for it, so the
second clause claims `linksOf s.id = some links` only where `links` has a member -/
theorem reorderGo_succ (linksOf : Nat → Option (List Nat)) (f : Nat) {arr : List Slot} {i : Nat} {s : Slot}
    (h : arr[i]? = some s) :
    ∃ links, reorderGo linksOf (f + 1) arr i = reorderGo linksOf f (reorderDir links arr i).1 ((reorderDir links arr i).2 + 1) ∧
      (∀ t ∈ links, linksOf s.id = some links) ∧ ∀ l, linksOf s.id = some l → l = links := by
  rw [reorderGo, h]
  simp only
  cases hl : linksOf s.id with
  | none => exact ⟨[], rfl, fun _ h => absurd h List.not_mem_nil, fun _ h => nomatch h⟩
  | some links => exact ⟨links, rfl, fun _ _ => rfl, fun _ h => (Option.some.inj h).symm⟩

/-- the outer loop on a dense array, at slot `|pre|`: `pre` stays and `post` is permuted; nothing overtakes a node that is
no link target; and if the link targets are non-directories in the array (`linksOf t = none ∧ t ∈ pre ++ post`), every
directory ends up behind its targets, provided those in `pre` are already -/
theorem reorderGo_slots (linksOf : Nat → Option (List Nat)) : ∀ (f : Nat) (pre post : List Nat), post.length ≤ f →
    ∃ out, reorderGo linksOf f (slots 1 (pre ++ post)) pre.length = slots 1 (pre ++ out) ∧ out.Perm post ∧
      (∀ a b, (∀ id links, linksOf id = some links → b ∉ links) →
        [a, b].Sublist (pre ++ post) → [a, b].Sublist (pre ++ out)) ∧
      ((∀ id links, linksOf id = some links → ∀ t ∈ links, linksOf t = none ∧ t ∈ pre ++ post) →
        (∀ d ∈ pre, ∀ links, linksOf d = some links → ∀ t ∈ links, [t, d].Sublist pre) →
        ∀ d ∈ pre ++ out, ∀ links, linksOf d = some links → ∀ t ∈ links, [t, d].Sublist (pre ++ out)) := by
  intro f
  induction f with
  | zero =>
    intro pre post hlen
    cases List.eq_nil_of_length_eq_zero (Nat.le_zero.mp hlen)
    exact ⟨[], rfl, .refl _, fun _ _ _ h => h, fun _ hq => by rw [List.append_nil]; exact hq⟩
  | succ f ih =>
    intro pre post hlen
    cases post with
    | nil =>
      refine ⟨[], ?_, .refl _, fun _ _ _ h => h, fun _ hq => by rw [List.append_nil]; exact hq⟩
      rw [reorderGo, List.getElem?_eq_none (by rw [length_slots]; exact Nat.le_of_eq (by rw [List.append_nil]))]
    | cons s rest =>
      obtain ⟨links, hstep, hsome, hs⟩ := reorderGo_succ linksOf f (getElem?_slots pre s rest 1)
      obtain ⟨mv, post', e1, hp1, hm, hl1, hk1⟩ := reorderDir_slots s links pre rest
      have hperm : (pre ++ (mv ++ s :: post')).Perm (pre ++ s :: rest) :=
        (List.perm_middle.trans (hp1.cons s)).append_left pre
      obtain ⟨out, e, hp, hk, hd⟩ := ih (pre ++ (mv ++ [s])) post'
        (by have := hp1.length_eq; rw [List.length_append] at this; rw [List.length_cons] at hlen; omega)
      simp only [List.append_assoc, List.singleton_append, List.length_append, List.length_singleton] at e hk hd
      refine ⟨mv ++ s :: out, by rw [hstep, e1, Nat.add_assoc]; exact e,
        List.perm_middle.trans (((hp.append_left mv).trans hp1).cons s),
        fun a b hb h => hk a b hb (hk1 a b (fun h' => hb s links (hsome b h') h') h), fun hlinks hq => ?_⟩
      refine hd (fun id ls hls t ht => ⟨(hlinks id ls hls t ht).1, hperm.mem_iff.mpr (hlinks id ls hls t ht).2⟩)
        fun d hd links' hl' t ht => ?_
      rcases List.mem_append.mp hd with h | h
      · exact (hq d h links' hl' t ht).trans (List.sublist_append_left _ _)
      · rcases List.mem_append.mp h with h | h
        · -- a node of `mv` is a link target, hence no directory
          rw [(hlinks s links (hsome d (hm d h)) d (hm d h)).1] at hl'; cases hl'
        · -- the directory just handled: its targets are in the array, so now in `pre ++ mv`
          obtain rfl := List.mem_singleton.mp h
          obtain rfl := hs links' hl'
          obtain ⟨ht0, ht1⟩ := hlinks d links' hl' t ht
          have h3 := hl1 t ht ht1
          rw [← List.append_assoc] at h3 ⊢
          rcases List.mem_append.mp h3 with h3 | h3
          · exact (List.singleton_sublist.mpr h3).append (List.Sublist.refl [d])
          · rw [List.mem_singleton.mp h3, hl'] at ht0; cases ht0

theorem postProcess_spec (cs : List Tree) :
    (postProcess cs).map (·.num) = List.range' 1 (numberRoot cs).2 ∧
    ((postProcess cs).map (·.id)).Perm (numsT (numberRoot cs).1) := by
  obtain ⟨out, e, hp, -⟩ := reorderGo_slots
    (fun id => ((dirsT (filesT (numberRoot cs).1) (numberRoot cs).1).find? (·.1 == id)).map (·.2))
    ((numberRoot cs).2 + 1) [] (List.range' 1 (numberRoot cs).2) (by rw [List.length_range']; exact Nat.le_succ _)
  have hpp : postProcess cs = slots 1 out := by rw [postProcess, initialSlots_eq]; exact e
  rw [hpp, slots_nums, slots_ids, hp.length_eq, List.length_range']
  exact ⟨rfl, hp.trans (numberRoot_perm cs).symm⟩

mutual
/-- every hard link of the tree names an existing file (`k <` number of files) -/
def ValidT (nf : Nat) : NTree → Prop
  | .file _ => True
  | .hlink k => k < nf
  | .dir _ cs => ValidL nf cs
def ValidL (nf : Nat) : List NTree → Prop
  | [] => True
  | t :: r => ValidT nf t ∧ ValidL nf r
end

mutual
def dirNumsT : NTree → List Nat
  | .file _ => []
  | .hlink _ => []
  | .dir n cs => n :: dirNumsL cs
def dirNumsL : List NTree → List Nat
  | [] => []
  | t :: r => dirNumsT t ++ dirNumsL r
end

theorem dirs_fst (files : List Nat) : (∀ t, (dirsT files t).map (·.1) = dirNumsT t) ∧ (∀ l, (dirsL files l).map (·.1) = dirNumsL l) := by
  refine NTree.induct ?_ ?_ ?_ ?_ ?_
  · intro n; rfl
  · intro k; rfl
  · intro n cs ih; simp only [dirsT, dirNumsT, List.map_cons, ih]
  · rfl
  · intro t r iht ihr; simp only [dirsL, dirNumsL, List.map_append, iht, ihr]

theorem nums_split : (∀ t, (numsT t).Perm (filesT t ++ dirNumsT t)) ∧ (∀ l, (numsL l).Perm (filesL l ++ dirNumsL l)) := by
  refine NTree.induct ?_ ?_ ?_ ?_ ?_
  · intro n; simp [numsT, filesT, dirNumsT]
  · intro k; simp [numsT, filesT, dirNumsT]
  · intro n cs ih
    simp only [numsT, filesT, dirNumsT]
    exact (List.Perm.append_right [n] ih).trans (by
      rw [List.append_assoc]
      exact List.Perm.append_left _ (List.perm_append_comm))
  · simp [numsL, filesL, dirNumsL]
  · intro t r iht ihr
    simp only [numsL, filesL, dirNumsL]
    refine (List.Perm.append iht ihr).trans ?_
    -- (ft ++ dt) ++ (fr ++ dr) ~ (ft ++ fr) ++ (dt ++ dr)
    rw [List.append_assoc, List.append_assoc]
    apply List.Perm.append_left
    rw [← List.append_assoc, ← List.append_assoc]
    exact List.Perm.append_right _ List.perm_append_comm

theorem linkTargets_mem (files : List Nat) : ∀ (cs : List NTree), ValidL files.length cs → ∀ x ∈ linkTargets files cs, x ∈ files := by
  intro cs
  induction cs with
  | nil => intro _ x hx; simp [linkTargets] at hx
  | cons c r ih =>
    intro hv x hx
    simp only [ValidL] at hv
    cases c with
    | file n => exact ih hv.2 x (by simpa [linkTargets] using hx)
    | dir n cs' => exact ih hv.2 x (by simpa [linkTargets] using hx)
    | hlink k =>
      simp only [linkTargets, List.mem_cons] at hx
      rcases hx with h | h
      · subst h
        have hk : k < files.length := hv.1
        rw [List.getD_eq_getElem?_getD, List.getElem?_eq_getElem hk]
        exact List.getElem_mem hk
      · exact ih hv.2 x h

theorem dirs_targets (files : List Nat) :
    (∀ t, ValidT files.length t → ∀ d ∈ dirsT files t, ∀ x ∈ d.2, x ∈ files) ∧
    (∀ l, ValidL files.length l → ∀ d ∈ dirsL files l, ∀ x ∈ d.2, x ∈ files) := by
  refine NTree.induct ?_ ?_ ?_ ?_ ?_
  · intro n _ d hd; simp [dirsT] at hd
  · intro k _ d hd; simp [dirsT] at hd
  · intro n cs ih hv d hd x hx
    simp only [dirsT, List.mem_cons] at hd
    simp only [ValidT] at hv
    rcases hd with h | h
    · subst h; exact linkTargets_mem files cs hv x hx
    · exact ih hv d h x hx
  · intro _ d hd; simp [dirsL] at hd
  · intro t r iht ihr hv d hd x hx
    simp only [dirsL, List.mem_append] at hd
    simp only [ValidL] at hv
    rcases hd with h | h
    · exact iht hv.1 d h x hx
    · exact ihr hv.2 d h x hx

theorem lookup_mem {l : List (Nat × List Nat)} {id : Nat} {v : List Nat}
    (h : (l.find? (·.1 == id)).map (·.2) = some v) : (id, v) ∈ l := by
  obtain ⟨d, hd, rfl⟩ := Option.map_eq_some_iff.mp h
  have hid : d.1 = id := by simpa using List.find?_some hd
  exact hid ▸ List.mem_of_find?_eq_some hd

theorem lookup_of_mem : ∀ {l : List (Nat × List Nat)}, (l.map (·.1)).Nodup → ∀ d ∈ l,
    (l.find? (·.1 == d.1)).map (·.2) = some d.2
  | x :: xs, hn, d, hd => by
    rw [List.map_cons, List.nodup_cons] at hn
    rw [List.find?_cons]
    rcases List.mem_cons.mp hd with rfl | hd
    · simp
    · have hne : (x.1 == d.1) = false := beq_false_of_ne fun he => hn.1 (he ▸ List.mem_map_of_mem hd)
      rw [hne]; exact lookup_of_mem hn.2 d hd

/-- `reorder_hard_links` on any numbered tree whose numbers are `1, …, n` and whose hard links name existing files: whatever
was numbered below a directory stays in front of it, and every directory ends up behind the targets of its links -/
theorem links_before_dirs (t : NTree) (n : Nat) (hn : (numsT t).Perm (List.range' 1 n))
    (hv : ValidT (filesT t).length t) :
    let arr := reorderGo (fun id => ((dirsT (filesT t) t).find? (·.1 == id)).map (·.2)) (n + 1) (initialSlots n) 0
    (∀ a b, 1 ≤ a → a < b → b ∈ dirNumsT t → Before arr a b) ∧
    (∀ d ∈ dirsT (filesT t) t, ∀ x ∈ d.2, Before arr x d.1) := by
  -- files and directories share the numbers 1..n between them
  have hperm : (filesT t ++ dirNumsT t).Perm (List.range' 1 n) := (nums_split.1 t).symm.trans hn
  obtain ⟨-, hnd, hdisj⟩ := List.nodup_append.mp (hperm.nodup_iff.mpr List.nodup_range')
  have hfst := (dirs_fst (filesT t)).1 t
  let linksOf : Nat → Option (List Nat) := fun id => ((dirsT (filesT t) t).find? (·.1 == id)).map (·.2)
  have hdirs : ∀ d ∈ dirsT (filesT t) t, linksOf d.1 = some d.2 := lookup_of_mem (hfst ▸ hnd)
  have hfile : ∀ id links, linksOf id = some links → ∀ x ∈ links, x ∈ filesT t := fun id links h x hx =>
    (dirs_targets (filesT t)).1 t hv (id, links) (lookup_mem h) x hx
  -- on dense arrays: `reorder_hard_links` started at slot 0 of `1, …, n`
  obtain ⟨out, e, hp, r1, r2⟩ := reorderGo_slots linksOf (n + 1) [] (List.range' 1 n)
    (by rw [List.length_range']; exact Nat.le_succ n)
  intro arr
  have hpp : arr = slots 1 out := by
    simp only [arr, initialSlots_eq]; exact e
  have hbef : ∀ a b, [a, b].Sublist out → Before (slots 1 out) a b := fun a b h =>
    before_of_sublist ((slots_ids out 1).symm ▸ h)
  rw [hpp]
  refine ⟨fun a b ha hab hb => ?_, fun d hd x hx => ?_⟩
  · have hbN := List.mem_range'_1.mp (hperm.subset (List.mem_append_right _ hb))
    exact hbef a b (r1 a b (fun id links h hbl => hdisj b (hfile id links h b hbl) b hb rfl)
      (pair_sublist_range' n a b ha hab (by omega)))
  · have hin : d.1 ∈ out := hp.mem_iff.mpr (hperm.subset (List.mem_append_right _ (hfst ▸ List.mem_map_of_mem hd)))
    refine hbef x d.1 (r2 (fun id links h y hy => ⟨?_, hperm.subset (List.mem_append_left _ (hfile id links h y hy))⟩)
      (fun _ h => nomatch h) d.1 hin d.2 (hdirs d hd) x hx)
    -- a link target is a file, so no directory
    cases hy' : linksOf y with
    | none => rfl
    | some v => exact absurd rfl (hdisj y (hfile id links h y hy) y (hfst ▸ List.mem_map_of_mem (lookup_mem hy')))

end Sqfs.Numbering
