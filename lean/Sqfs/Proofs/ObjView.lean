import Sqfs.Proofs.ObjCopy
/-! What the copy sees: after `sqfs_copy` through a well-formed hook the copy observes, through every buffer slot
and internal pointer, what the original observes, and its buffers are as large as the hook's actions make them. -/
namespace Sqfs.Obj

/-- the buffer `copyBufs` allocates for a slot with action `a` whose original is `bf` -/
def dupBuf (a : BufAct) (bf : Buf) : Buf :=
  if a = .trim then ⟨bf.used, bf.used, bf.val⟩ else if a = .garble then ⟨bf.cap, bf.used, bf.val + 1⟩ else bf

/-- what an owner reads off the buffer behind a slot through `g`; nothing through a NULL pointer -/
def slotObs {α : Type} (g : Buf → Option α) (h : Heap) (s : Option Nat) : Option α := s.bind fun b => (h.bufs b).bind g

theorem slotVal_eq : slotVal = slotObs (fun bf => if bf.used = 0 then none else some bf.val) := by
  funext h s; cases s <;> rfl

def slotCap (h : Heap) : Option Nat → Option Nat
  | none => none
  | some b => (h.bufs b).map (·.cap)

theorem slotCap_eq : slotCap = slotObs (fun bf => some bf.cap) := by
  funext h s
  cases s with
  | none => rfl
  | some b => show (h.bufs b).map _ = (h.bufs b).bind _; cases h.bufs b <;> rfl

theorem map_slotObs_congr {α : Type} (g : Buf → Option α) {h1 h2 : Heap} (l : List (Option Nat))
    (hs : ∀ b, some b ∈ l → h1.bufs b = h2.bufs b) : l.map (slotObs g h1) = l.map (slotObs g h2) :=
  List.map_congr_left fun s hm => by
    cases s with
    | none => rfl
    | some b => simp [slotObs, hs b hm]

/-- buffer action `a` keeps the observation `g`: the duplicate shows what the original shows, and where the copy's
pointer stays NULL (`trim` of an empty array) the original shows nothing -/
def ObsKept {α : Type} (g : Buf → Option α) (a : BufAct) : Prop :=
  a ≠ .alias ∧ ∀ bf, g (dupBuf a bf) = g bf ∧ (a = .trim → bf.used = 0 → g bf = none)

theorem ObsKept.val {a : BufAct} (ha : a ≠ .alias) (hg : a ≠ .garble) :
    ObsKept (fun bf => if bf.used = 0 then none else some bf.val) a := by
  refine ⟨ha, fun bf => ⟨?_, fun _ h0 => if_pos h0⟩⟩
  unfold dupBuf
  by_cases hat : a = .trim <;> simp [hat, hg]

theorem copyBufs_obs {α : Type} (g : Buf → Option α) (bs : List (Option Nat)) (as : List BufAct) (h : Heap)
    (hw : ∀ a ∈ as, ObsKept g a) (hbd : ∀ b, some b ∈ bs → b < h.nbuf)
    (hk : (copyBufs h bs as).2.2 = true) (hl : bs.length ≤ as.length) :
    (copyBufs h bs as).2.1.map (slotObs g (copyBufs h bs as).1) = bs.map (slotObs g h) := by
  fun_induction copyBufs h bs as with
  | case1 => rfl
  | case2 => exact absurd hl (Nat.not_succ_le_zero _)
  | case3 h bs a as ih =>
    exact congrArg (none :: ·) (ih (List.forall_mem_cons.mp hw).2 (fun b hb => hbd b (List.mem_cons_of_mem _ hb)) hk (Nat.le_of_succ_le_succ hl))
  | case4 => exact absurd rfl (hw _ List.mem_cons_self).1
  | case5 | case7 => cases hk
  | case6 h b bs a as _ bf hbf hu ih =>
    -- `trim` of an empty array: the copy's pointer stays NULL, and the original shows nothing
    have hx : slotObs g h (some b) = none := by simp [slotObs, hbf, ((hw a List.mem_cons_self).2 bf).2 hu.1 hu.2]
    rw [List.map_cons, hx]
    exact congrArg (none :: ·) (ih (List.forall_mem_cons.mp hw).2 (fun b hb => hbd b (List.mem_cons_of_mem _ hb)) hk (Nat.le_of_succ_le_succ hl))
  | case8 h b bs a as _ bf hbf _ h1 id hal ih =>
    obtain ⟨rfl, bud, _, eh1⟩ := allocBuf_some hal
    have e1 : h1.bufs = upd h.bufs h.nbuf (some (dupBuf a bf)) := by rw [eh1]; rfl
    have e2 : h1.nbuf = h.nbuf + 1 := by rw [eh1]
    have hbd' : ∀ b', some b' ∈ bs → b' < h.nbuf := fun b' hb' => hbd b' (List.mem_cons_of_mem _ hb')
    show slotObs g (copyBufs h1 bs as).1 (some h.nbuf) :: (copyBufs h1 bs as).2.1.map (slotObs g (copyBufs h1 bs as).1) =
      slotObs g h (some b) :: bs.map (slotObs g h)
    rw [ih (List.forall_mem_cons.mp hw).2 (fun b' hb' => e2 ▸ Nat.lt_succ_of_lt (hbd' b' hb')) hk (Nat.le_of_succ_le_succ hl)]
    congr 1
    · -- the fresh buffer, which the rest of the loop leaves alone
      have hnew : (copyBufs h1 bs as).1.bufs h.nbuf = some (dupBuf a bf) := by
        rw [(SlotsOk.copyBufs bs as h1).bufsOld _ (e2 ▸ Nat.lt_succ_self _), e1]; exact upd_same _ _ _
      simp only [slotObs, Option.bind_some, hnew, hbf]
      exact ((hw a List.mem_cons_self).2 bf).1
    · -- the remaining original slots are old buffers: unchanged by the allocation
      exact map_slotObs_congr g bs fun b' hm => by rw [e1]; exact upd_ne _ _ (Nat.ne_of_lt (hbd' b' hm))

theorem slotVal_listGet (h : Heap) (l : List (Option Nat)) (i : Nat) :
    slotVal h (listGet l i) = ((l.map (slotVal h))[i]?).join := by
  unfold listGet
  rw [List.getElem?_map]
  cases l[i]? with
  | none => rfl
  | some s => rfl

/-- The heap may be that inside a hook (pending references `P`, pending buffers `PB`). -/
theorem sqfsCopy_obs {α : Type} (g : Buf → Option α) (D : Kind → CopyDesc) (hD : ∀ k, WfDesc (D k)) (n : Nat)
    {h : Heap} {U : Nat → Nat} {P PB : List Nat} {x : Nat} {o : Obj}
    (hb : Bal h U P PB []) (hox : h.objs x = some o) (hxn : x < n)
    (hg : ∀ a ∈ (D o.kind).bufs, ObsKept g a) (hs1 : o.bufs.length ≤ (D o.kind).bufs.length)
    {h' : Heap} {c : Nat} (he : sqfsCopy D n h x = (h', some c)) :
    ∃ oc, h'.objs c = some oc ∧ oc.views = repointViews o.views (D o.kind).views oc.bufs ∧
      oc.bufs.map (slotObs g h') = o.bufs.map (slotObs g h) := by
  obtain ⟨n, rfl⟩ : ∃ k, n = k + 1 := ⟨n - 1, (Nat.succ_pred_eq_of_pos (Nat.zero_lt_of_lt hxn)).symm⟩
  have hbb : ∀ b, some b ∈ o.bufs → b < h.nbuf := fun b hbm => hb.buf_lt hox (by simp) hbm
  obtain ⟨hB, nb, nr, ⟨⟨hX, hY, hsX, hcb, hsY, hlt⟩, _⟩, hfin⟩ := sqfsCopy_loops D hD n hb hox hxn he
  -- the buffer loop saw the original's buffers as they were, and what it made was left alone
  have hv := copyBufs_obs g o.bufs (D o.kind).bufs hX hg (fun b hbm => Nat.lt_of_lt_of_le (hbb b hbm) hsX.nbuf) (by rw [hcb]) hs1
  rw [hcb] at hv
  have hobs : nb.map (slotObs g hB) = o.bufs.map (slotObs g h) :=
    ((map_slotObs_congr g nb fun b hm => hsY.bufsOld b (hlt b hm)).trans hv).trans
      (map_slotObs_congr g o.bufs fun b hm => hsX.bufsOld b (hbb b hm))
  unfold finishCopy at hfin
  simp only [Prod.mk.injEq, Option.some.injEq] at hfin
  obtain ⟨rfl, rfl⟩ := hfin
  refine ⟨_, upd_same _ _ _, rfl, ?_⟩
  rw [← hobs]
  exact map_slotObs_congr g _ fun _ _ => rfl

theorem repointViews_vals {h h' : Heap} {views bufs nb : List (Option Nat)} {dv : List (ViewAct × Nat)}
    (hw : ∀ v ∈ dv, v.1 = .repoint) (hlen : views.length ≤ dv.length)
    (hpt : ∀ p ∈ views.zip dv, ∀ v, p.1 = some v → listGet bufs p.2.2 = some v)
    (hvals : nb.map (slotVal h') = bufs.map (slotVal h)) :
    (repointViews views dv nb).map (slotVal h') = views.map (slotVal h) := by
  unfold repointViews
  rw [List.map_map]
  have e : views.map (slotVal h) = (views.zip dv).map (slotVal h ∘ Prod.fst) := by
    rw [← List.map_map, List.map_fst_zip hlen]
  rw [e]
  apply List.map_congr_left
  intro p hp
  obtain ⟨v, act, slot⟩ := p
  have hact : act = .repoint := hw (act, slot) (List.of_mem_zip hp).2
  subst hact
  simp only [Function.comp, repointView]
  cases v with
  | none => rfl
  | some w =>
    have := hpt _ hp w rfl
    simp only at this
    show slotVal h' (listGet nb slot) = slotVal h (some w)
    rw [slotVal_listGet, hvals, ← slotVal_listGet, this]

theorem view_congr {h h' : Heap} {x : Nat} {o o' : Obj} (hx : h.objs x = some o) (hx' : h'.objs x = some o') (he : o'.erase = o.erase)
    (hbufs : ∀ b, some b ∈ o.bufs ++ o.views → h'.bufs b = h.bufs b) : view h' x = view h x := by
  have e1 : o'.bufs = o.bufs := Obj.erase_bufs he
  have e2 : o'.views = o.views := Obj.erase_views he
  unfold view
  simp only [hx', hx, Option.map_some, Option.some.injEq, e1, e2]
  rw [slotVal_eq]
  exact map_slotObs_congr _ _ hbufs

theorem Bal.view_step {h h' : Heap} {U : Nat → Nat} {P PB : List Nat} (hb : Bal h U P PB []) (hs : SlotsOk h h') {x : Nat}
    (hx : (h.objs x).isSome) : view h' x = view h x := by
  obtain ⟨o, ho⟩ := Option.isSome_iff_exists.mp hx
  -- the same record up to its count, and its buffers are below `h.nbuf`
  obtain ⟨o', hx', hso⟩ := map_erase_some (ho ▸ hs.objsOld x (hb.bound x hx))
  exact view_congr ho hx' hso fun b hm =>
    hs.bufsOld b (hb.buf_lt ho (by simp) (mem_bufs_of_mem_slots (hb.views_owned ho (by simp)) hm))

/-- the object has (at most) the slots its kind's hook description lists, and each internal pointer points at the
buffer slot the description names -/
def ShapeOk (d : CopyDesc) (o : Obj) : Prop :=
  o.bufs.length ≤ d.bufs.length ∧ o.views.length ≤ d.views.length ∧
  ∀ p ∈ o.views.zip d.views, ∀ v, p.1 = some v → listGet o.bufs p.2.2 = some v

/-- **what the copy sees is what the original sees**, and the original sees what it saw before -/
theorem sqfsCopy_viewP (D : Kind → CopyDesc) (hD : ∀ k, WfDesc (D k)) (n : Nat) {h : Heap} {U : Nat → Nat} {P PB : List Nat} {x : Nat} {o : Obj}
    (hb : Bal h U P PB []) (hox : h.objs x = some o) (hxn : x < n) (hsh : ShapeOk (D o.kind) o)
    {h' : Heap} {c : Nat} (he : sqfsCopy D n h x = (h', some c)) :
    view h' c = view h x ∧ view h' x = view h x := by
  obtain ⟨hs1, hs2, hs3⟩ := hsh
  have hxl : (h.objs x).isSome := by simp [hox]
  obtain ⟨_, hw2, hw3, _, _, _, hw7⟩ := hD o.kind
  obtain ⟨oc, hoc, hocv, hvals⟩ := sqfsCopy_obs _ D hD n hb hox hxn (fun a ha => ObsKept.val (hw2 a ha) (hw7 a ha)) hs1 he
  rw [← slotVal_eq] at hvals
  obtain ⟨_, _, _, hsl⟩ := sqfsCopy_bal D hD n h U P PB x hb hxl hxn h' (some c) he
  refine ⟨?_, hb.view_step hsl hxl⟩
  unfold view
  rw [hoc, hox, Option.map_some, Option.map_some, List.map_append, List.map_append, hvals, hocv,
    repointViews_vals hw3 hs2 hs3 hvals]

theorem sqfsCopy_view (D : Kind → CopyDesc) (hD : ∀ k, WfDesc (D k)) (n : Nat) {h : Heap} {U : Nat → Nat} {x : Nat} {o : Obj}
    (hb : Bal h U [] [] []) (hox : h.objs x = some o) (hxn : x < n) (hsh : ShapeOk (D o.kind) o)
    {h' : Heap} {c : Nat} (he : sqfsCopy D n h x = (h', some c)) :
    view h' c = view h x ∧ view h' x = view h x :=
  sqfsCopy_viewP D hD n hb hox hxn hsh he

/-- for hooks that `dup` every buffer (required of kinds that do not record the allocated size next to the pointer), the
copy's buffer slots are allocated as large as the original's -/
theorem sqfsCopy_caps (D : Kind → CopyDesc) (hD : ∀ k, WfDesc (D k)) (n : Nat) {h : Heap} {U : Nat → Nat} {x : Nat} {o : Obj}
    (hb : Bal h U [] [] []) (hox : h.objs x = some o) (hxn : x < n)
    (hdup : ∀ a ∈ (D o.kind).bufs, a = .dup) (hs1 : o.bufs.length ≤ (D o.kind).bufs.length)
    {h' : Heap} {c : Nat} (he : sqfsCopy D n h x = (h', some c)) :
    ∃ oc, h'.objs c = some oc ∧ oc.bufs.map (slotCap h') = o.bufs.map (slotCap h) := by
  have hg : ∀ a ∈ (D o.kind).bufs, ObsKept (fun bf => some bf.cap) a := by
    intro a ha
    rw [hdup a ha]
    exact ⟨by decide, fun bf => ⟨rfl, fun e => by cases e⟩⟩
  obtain ⟨oc, hoc, _, hcaps⟩ := sqfsCopy_obs _ D hD n hb hox hxn hg hs1 he
  exact ⟨oc, hoc, by rw [slotCap_eq]; exact hcaps⟩

end Sqfs.Obj
