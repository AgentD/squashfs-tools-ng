import Sqfs.Model.ObjKinds
/-! Lemmas about the table state machines: answers and successor contents depend on the used part only; `idFill` is the table the
adds build. -/
namespace Sqfs.Obj.Kinds

theorem Arr.append_data {α : Type} (a : Arr α) (x : α) : (a.append x).data = a.data ++ [x] := by
  unfold Arr.append; split <;> rfl

theorem Arr.set_data {α : Type} (a b : Arr α) (h : a.data = b.data) (i : Nat) (x : α) :
    (a.set i x).map (·.data) = (b.set i x).map (·.data) := by
  unfold Arr.set; rw [h]; split <;> simp

theorem idStep_data (t u : IdTable) (h : t.data = u.data) (op : IdOp) :
    (idStep t op).2 = (idStep u op).2 ∧ (idStep t op).1.data = (idStep u op).1.data := by
  cases op with
  | add id =>
    simp only [idStep, h]
    split
    · exact ⟨rfl, h⟩
    · split
      · exact ⟨rfl, h⟩
      · exact ⟨rfl, by simp [Arr.append_data, h]⟩
  | get idx =>
    simp only [idStep, h]
    split <;> exact ⟨rfl, h⟩

theorem idRun_data (ops : List IdOp) : ∀ (t u : IdTable), t.data = u.data → idRun t ops = idRun u ops := by
  induction ops with
  | nil => intros; rfl
  | cons op ops ih =>
    intro t u h
    have := idStep_data t u h op
    simp only [idRun]
    rw [this.1, ih _ _ this.2]

theorem fragStep_data (t u : FragTable) (h : t.data = u.data) (op : FragOp) :
    (fragStep t op).2 = (fragStep u op).2 ∧ (fragStep t op).1.data = (fragStep u op).1.data := by
  cases op with
  | append l s => simp [fragStep, Arr.append_data, h]
  | lookup idx =>
    simp only [fragStep, h]
    split <;> exact ⟨rfl, h⟩
  | set idx l s =>
    have hs := Arr.set_data t u h idx (l, s)
    simp only [fragStep]
    cases ht : t.set idx (l, s) <;> cases hu : u.set idx (l, s) <;> simp_all
  | size => simp [fragStep, h]

theorem fragRun_data (ops : List FragOp) : ∀ (t u : FragTable), t.data = u.data → fragRun t ops = fragRun u ops := by
  induction ops with
  | nil => intros; rfl
  | cons op ops ih =>
    intro t u h
    have := fragStep_data t u h op
    simp only [fragRun]
    rw [this.1, ih _ _ this.2]

theorem Arr.appendAll_cons {α : Type} (a : Arr α) (x : α) (xs : List α) : a.appendAll (x :: xs) = (a.append x).appendAll xs := by
  unfold Arr.appendAll Arr.append
  simp only [List.length_cons, capAfter]
  split <;> simp

theorem Arr.appendAll_eq_foldl {α : Type} (xs : List α) : ∀ a : Arr α, xs.foldl Arr.append a = a.appendAll xs := by
  induction xs with
  | nil => intro a; simp [Arr.appendAll, capAfter]
  | cons x xs ih => intro a; rw [List.foldl_cons, ih, Arr.appendAll_cons]

theorem Arr.appendAll_snoc {α : Type} (a : Arr α) (xs : List α) (x : α) : a.appendAll (xs ++ [x]) = (a.appendAll xs).append x := by
  rw [← Arr.appendAll_eq_foldl, List.foldl_append, List.foldl_cons, List.foldl_nil, Arr.appendAll_eq_foldl]

/-- the ids added one by one -/
def idAdds (t : IdTable) (ids : List Nat) : IdTable := ids.foldl (fun t id => (idStep t (.add id)).1) t

theorem idFill_data (n : Nat) : (idFill n).data = List.range n := by simp [idFill, Arr.appendAll, Arr.empty]

theorem idStep_add_new (t : IdTable) (id : Nat) (h : id ∉ t.data) :
    idStep t (.add id) =
      if t.data.length ≥ idLimit then (t, (Sqfs.Consts.c19ErrOverflow, 0)) else (t.append id, (0, t.data.length)) := by
  simp only [idStep, List.idxOf?_eq_none_iff.mpr h]

/-- `fill n` (n ≤ 0xFFFF) leaves exactly the table that `n` calls of `sqfs_id_table_id_to_index` with the ids
`0 … n-1` leave (contents and capacity) -/
theorem idFill_eq_adds (n : Nat) (hn : n ≤ idLimit) : idAdds Arr.empty (List.range n) = idFill n := by
  induction n with
  | zero => simp [idAdds, idFill, Arr.appendAll, capAfter]
  | succ n ih =>
    unfold idAdds at ih ⊢
    have hnew : n ∉ (idFill n).data := by rw [idFill_data]; simp
    have hlen : ¬ (idFill n).data.length ≥ idLimit := by rw [idFill_data, List.length_range]; exact Nat.not_le.mpr hn
    rw [List.range_succ, List.foldl_append, ih (Nat.le_of_succ_le hn), List.foldl_cons, List.foldl_nil,
      idStep_add_new _ _ hnew, if_neg hlen]
    unfold idFill
    rw [List.range_succ, Arr.appendAll_snoc]

end Sqfs.Obj.Kinds
