/-
C01 — `decInode (encInode i ++ rest) = (i, rest)` for every well-formed inode, all 14 kinds.
-/
import Sqfs.Model.EncInode
import Sqfs.Proofs.EncBytes
import Sqfs.Proofs.Bits
namespace Sqfs.Enc
open Sqfs.Consts

theorem and_4095 (x : Nat) : x &&& 4095 = x % 4096 := Nat.and_two_pow_sub_one_eq_mod x 12

theorem permBits_eq {m : Nat} (h : m < 65536) : permBits m = m % 4096 := by
  unfold permBits
  rw [Nat.mod_eq_of_lt h]
  exact and_4095 m

theorem decIndex_encIndex (idx : List DirIdx) (rest : Bytes) (h : ∀ e ∈ idx, WfIdx e) :
    decIndex idx.length (encIndex idx ++ rest) = .ok (idx, rest) := by
  induction idx with
  | nil => rfl
  | cons e r ih =>
    obtain ⟨h1, h2, h3, h4⟩ := h e (List.mem_cons_self ..)
    have hr := ih (fun x hx => h x (List.mem_cons_of_mem _ hx))
    simp only [List.length_cons, decIndex, encIndex, List.append_assoc]
    have hf := readFields_encFields_fit [(4, e.index), (4, e.startBlock), (4, e.name.length - 1)]
      (e.name ++ (encIndex r ++ rest)) (.cons h1 (.cons h2 (.cons (Nat.sub_one_lt_of_le h3 h4) .nil)))
    rw [hf]
    simp only
    rw [Nat.sub_add_cancel h3, take?_append]
    simp only [hr]

theorem blocks_roundtrip {bs sz fi fo : Nat} {blks : List Nat} (rest : Bytes) (h : WfBlocks bs sz fi fo blks) :
    take? (4 * getBlockCount sz bs fi fo) (encWords 4 blks ++ rest) = .ok (encWords 4 blks, rest)
    ∧ decWords 4 (getBlockCount sz bs fi fo) (encWords 4 blks) = blks := by
  obtain ⟨hl, hw⟩ := h
  rw [← hl]
  exact ⟨encWords_length 4 blks ▸ take?_append _ _, decWords_encWords' 4 blks hw⟩

theorem setMode_typ (i : Inode) (p : Nat) :
    setMode i.typ p = .ok (((p % 65536) &&& (65535 - sIFMT)) ||| i.typeBits) := by
  cases i with
  | dev b c nl d => cases c <;> rfl
  | ipc b c nl => cases c <;> rfl
  | devExt b c nl d x => cases c <;> rfl
  | ipcExt b c nl x => cases c <;> rfl
  | _ => rfl

/-- `set_mode` on the stored permission bits puts the type bits of the kind back -/
theorem setMode_perm {m : Nat} (i : Inode) (hm : m < 65536) (htb : m / 4096 * 4096 = i.typeBits) :
    setMode i.typ (permBits m) = .ok m := by
  have h1 : m % 4096 % 65536 = m % 4096 := Nat.mod_eq_of_lt (Nat.lt_trans (Nat.mod_lt _ (by decide)) (by decide))
  have h2 : 65535 - sIFMT = 4095 := by decide
  rw [setMode_typ, permBits_eq hm, h1, h2, and_4095, Nat.mod_mod, ← htb, Nat.or_mul_two_pow_of_lt (i := 12) (Nat.mod_lt _ (by decide)), Nat.mul_comm,
    Nat.div_add_mod]

theorem typ_lt (i : Inode) : i.typ < 65536 := by
  cases i with
  | dev b c nl d => cases c <;> simp [Inode.typ, inodeBdev, inodeCdev]
  | ipc b c nl => cases c <;> simp [Inode.typ, inodeFifo, inodeSocket]
  | devExt b c nl d x => cases c <;> simp [Inode.typ, inodeExtBdev, inodeExtCdev]
  | ipcExt b c nl x => cases c <;> simp [Inode.typ, inodeExtFifo, inodeExtSocket]
  | _ => simp [Inode.typ, inodeDir, inodeFile, inodeSlink, inodeExtDir, inodeExtFile, inodeExtSlink]

theorem decBase_encBase (i : Inode) (rest : Bytes) (h : WfBase i.typeBits i.base) :
    decBase (encBase i.typ i.base ++ rest) = .ok ((i.typ, i.base), rest) := by
  obtain ⟨hm, htb, hu, hg, hmt, hi⟩ := h
  have hp : permBits i.base.mode < 256 ^ 2 := by
    rw [permBits_eq hm]; exact Nat.lt_trans (Nat.mod_lt _ (by decide)) (by decide)
  have hf := readFields_encFields_fit [(2, i.typ), (2, permBits i.base.mode), (2, i.base.uidIdx), (2, i.base.gidIdx),
    (4, i.base.mtime), (4, i.base.inum)] rest (.cons (typ_lt i) (.cons hp (.cons hu (.cons hg (.cons hmt (.cons hi .nil))))))
  unfold decBase encBase
  rw [hf]
  simp only [setMode_perm i hm htb]

theorem slinkBody_rt (nl : Nat) (t rest : Bytes) (h1 : nl < 2 ^ 32) (h2 : t.length < 2 ^ 32) :
    decSlinkBody (encFields [(4, nl), (4, t.length)] ++ (t ++ rest)) = .ok ((nl, t.length, t), rest) := by
  have hf := readFields_encFields_fit [(4, nl), (4, t.length)] (t ++ rest) (.cons h1 (.cons h2 .nil))
  simp [decSlinkBody, hf, take?_append]

/- the type switch is decided by unfolding the fourteen type numbers -/
attribute [local simp] decBody encBody Inode.typ Inode.base inodeDir inodeFile inodeSlink inodeBdev inodeCdev inodeFifo inodeSocket
  inodeExtDir inodeExtFile inodeExtSlink inodeExtBdev inodeExtCdev inodeExtFifo inodeExtSocket in
theorem decBody_encBody (bs : Nat) (i : Inode) (rest : Bytes) (h : WfBody bs i) :
    decBody bs i.typ i.base (encBody i ++ rest) = .ok (i, rest) := by
  cases i with
  | dir b sb nl sz off par =>
    obtain ⟨h1, h2, h3, h4, h5⟩ := h
    have hf := readFields_encFields_fit [(4, sb), (4, nl), (2, sz), (2, off), (4, par)] rest
      (.cons h1 (.cons h2 (.cons h3 (.cons h4 (.cons h5 .nil)))))
    simp [hf]
  | file b st fi fo sz blks =>
    obtain ⟨h1, h2, h3, h4, hb⟩ := h
    have hf := readFields_encFields_fit [(4, st), (4, fi), (4, fo), (4, sz)] (encWords 4 blks ++ rest)
      (.cons h1 (.cons h2 (.cons h3 (.cons h4 .nil))))
    obtain ⟨hb1, hb2⟩ := blocks_roundtrip rest hb
    simp [decFile, hf, hb1, hb2]
  | slink b nl ts t =>
    obtain ⟨h1, h2, rfl⟩ := h
    have := slinkBody_rt nl t rest h1 h2
    simp [this]
  | dev b c nl d =>
    obtain ⟨h1, h2⟩ := h
    have hf := readFields_encFields_fit [(4, nl), (4, d)] rest (.cons h1 (.cons h2 .nil))
    cases c <;> simp [hf]
  | ipc b c nl =>
    have hf := readFields_encFields_fit [(4, nl)] rest (.cons h .nil)
    cases c <;> simp [hf]
  | dirExt b nl sz sb par ic off x idx =>
    obtain ⟨h1, h2, h3, h4, h5, h6, h7, rfl, h9, h10⟩ := h
    have hf := readFields_encFields_fit [(4, nl), (4, sz), (4, sb), (4, par), (2, idx.length), (2, off), (4, x)]
      (encIndex idx ++ rest) (.cons h1 (.cons h2 (.cons h3 (.cons h4 (.cons h5 (.cons h6 (.cons h7 .nil)))))))
    have hi := decIndex_encIndex idx rest h10
    by_cases hz : sz = 0
    · -- an empty directory has no index, and none is looked for
      have := h9 hz
      subst this
      subst hz
      simp only [List.length_nil, encIndex, List.nil_append] at hf
      simp [decDirExt, hf, encIndex]
    · simp [decDirExt, hf, hz, hi]
  | fileExt b st sz sp nl fi fo x blks =>
    obtain ⟨h1, h2, h3, h4, h5, h6, h7, hb⟩ := h
    have hf := readFields_encFields_fit [(8, st), (8, sz), (8, sp), (4, nl), (4, fi), (4, fo), (4, x)]
      (encWords 4 blks ++ rest) (.cons h1 (.cons h2 (.cons h3 (.cons h4 (.cons h5 (.cons h6 (.cons h7 .nil)))))))
    obtain ⟨hb1, hb2⟩ := blocks_roundtrip rest hb
    simp [decFileExt, hf, hb1, hb2]
  | slinkExt b nl ts t x =>
    obtain ⟨h1, h2, rfl, h4⟩ := h
    have := slinkBody_rt nl t (encFields [(4, x)] ++ rest) h1 h2
    have hf := readFields_encFields_fit [(4, x)] rest (.cons h4 .nil)
    simp [this, hf]
  | devExt b c nl d x =>
    obtain ⟨h1, h2, h3⟩ := h
    have hf := readFields_encFields_fit [(4, nl), (4, d), (4, x)] rest (.cons h1 (.cons h2 (.cons h3 .nil)))
    cases c <;> simp [hf]
  | ipcExt b c nl x =>
    obtain ⟨h1, h2⟩ := h
    have hf := readFields_encFields_fit [(4, nl), (4, x)] rest (.cons h1 (.cons h2 .nil))
    cases c <;> simp [hf]

theorem decInode_encInode (bs : Nat) (i : Inode) (rest : Bytes) (h : WfInode bs i) :
    decInode bs (encInode i ++ rest) = .ok (i, rest) := by
  unfold decInode encInode
  rw [List.append_assoc, decBase_encBase i _ h.1]
  exact decBody_encBody bs i rest h.2

theorem encInode_pos (i : Inode) : 0 < (encInode i).length := by
  simp only [encInode, encBase, List.length_append, encFields_length]
  simp only [List.map_cons, List.map_nil, List.sum_cons, List.sum_nil]
  omega

end Sqfs.Enc
