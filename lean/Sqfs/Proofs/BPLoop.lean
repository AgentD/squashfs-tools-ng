/-
C02: the loops of `dequeue_block`, `get_new_block`, `sync` keep the invariant, never run out of
fuel, and never reach the `SQFS_ERROR_INTERNAL` return.
-/
import Sqfs.Proofs.BPDeq
namespace Sqfs.BlockProc

/-- what draining the pool leaves alone -/
structure Frame (s s' : Proc) (g g' : Ghost) : Prop where
  fe : s'.fe = s.fe
  maxBacklog : s'.maxBacklog = s.maxBacklog
  inodes : s'.w.inodes.length = s.w.inodes.length
  front : g'.front = g.front
  fin : g'.fin = g.fin
  gfe : g'.fe = g.fe
  pendNil : g.pend = [] → g'.pend = []

theorem Frame.refl (s : Proc) (g : Ghost) : Frame s s g g := ⟨rfl, rfl, rfl, rfl, rfl, rfl, id⟩

theorem Kept.frame {s s' : Proc} {g g' : Ghost} (k : Kept s s') (hfront : g'.front = g.front) (hfin : g'.fin = g.fin)
    (hfe : g'.fe = g.fe) (hpend : g.pend = [] → g'.pend = []) : Frame s s' g g' :=
  ⟨k.fe, k.maxBacklog, k.inodes, hfront, hfin, hfe, hpend⟩

theorem Frame.trans {s1 s2 s3 : Proc} {g1 g2 g3 : Ghost} (a : Frame s1 s2 g1 g2) (b : Frame s2 s3 g2 g3) : Frame s1 s3 g1 g3 :=
  ⟨b.fe.trans a.fe, b.maxBacklog.trans a.maxBacklog, b.inodes.trans a.inodes, b.front.trans a.front, b.fin.trans a.fin,
   b.gfe.trans a.gfe, fun h => b.pendNil (a.pendNil h)⟩

theorem Ghost.F_step (P : Params) {g g' : Ghost} (x : Blk) (h1 : g'.done = g.done ++ [x]) (h2 : g'.fin = false) (h3 : g.fin = false) :
    g'.F P = fStep P (g.F P) x := by
  unfold Ghost.F; rw [h1, h2, h3]; simp [fRun, List.foldl_append]

/-- `PInv` with the fragment pass given as `F`: the steps state `Back` at `fStep P F x` or `F.close P`, not at `g'.F P` -/
theorem PInv.intro {P : Params} {s : Proc} {g : Ghost} {held : Nat} {W : WSt} (F : FSt) (hF : g.F P = F) (hb : Back P s g F W)
    (ha : Acct s g (boolNat s.blkCurrent.isSome + held))
    (hn : g.fin = true → g.pend = []) : PInv P s g held W := by
  subst hF; exact ⟨hb, ha, hn⟩

/-- the release loop of `dequeue_block`; the last conjunct (it stops in front of a block that is not the next to be written) is
where `pool_nonempty` starts -/
theorem release_ok {P : Params} (hc : CodecOk P.codec) (hB : P.B < 2 ^ 24) :
    ∀ (fuel : Nat) (s : Proc) (g : Ghost) (held : Nat) (W : WSt), PInv P s g held W → s.ioQueue.length ≤ fuel →
      ∃ s' g' W', releaseGo fuel s = .ok s' ∧ PInv P s' g' held W' ∧ Frame s s' g g' ∧ g'.items = g.items ∧ g'.pend = g.pend ∧
        (∀ b rest, s'.ioQueue = b :: rest → b.seq ≠ s'.ioDeqSeqNum) := by
  intro fuel
  induction fuel with
  | zero =>
    intro s g held W h hl
    have hq : s.ioQueue = [] := List.eq_nil_of_length_eq_zero (Nat.le_zero.mp hl)
    refine ⟨s, g, W, ?_, h, Frame.refl s g, rfl, rfl, ?_⟩
    · simp [releaseGo, hq]
    · intro b rest hb; rw [hq] at hb; cases hb
  | succ fuel ih =>
    intro s g held W h hl
    cases hq : s.ioQueue with
    | nil =>
      refine ⟨s, g, W, ?_, h, Frame.refl s g, rfl, rfl, ?_⟩
      · simp [releaseGo, hq]
      · intro b rest hb; rw [hq] at hb; cases hb
    | cons b rest =>
      by_cases hs : b.seq = s.ioDeqSeqNum
      · obtain ⟨s1, W1, effs, hp, k1, f3, hacc, hb1⟩ := h.back.releaseOne hc hB b rest hq hs
        have hinv1 : PInv P s1 { g with h := g.h ++ effs, m := g.m ++ effs } held W1 :=
          ⟨hb1, by rw [blkCurrent_of_fe k1.fe]; exact hacc _ h.acct, h.finNoPend⟩
        have hl1 : s1.ioQueue.length ≤ fuel := by rw [f3]; rw [hq] at hl; simpa using hl
        obtain ⟨s', g', W', hr, hinv', hfr, hi, hpe, hhead⟩ := ih s1 _ held W1 hinv1 hl1
        refine ⟨s', g', W', ?_, hinv', ?_, hi, hpe, hhead⟩
        · unfold releaseGo
          simp only [hq, hs, bne_self_eq_false, Bool.false_eq_true, if_false]
          rw [hp]; exact hr
        · exact Frame.trans (g2 := { g with h := g.h ++ effs, m := g.m ++ effs }) (k1.frame rfl rfl rfl id) hfr
      · refine ⟨s, g, W, ?_, h, Frame.refl s g, rfl, rfl, ?_⟩
        · have : (b.seq != s.ioDeqSeqNum) = true := by simpa using hs
          simp [releaseGo, hq, this]
        · intro b' rest' hb'
          rw [hq] at hb'
          cases hb'
          exact hs

theorem not_mustWait_le {s : Proc} (h : mustWait s = false) : 1 ≤ s.backlog ∧ s.backlog ≤ 2 := by
  unfold mustWait at h
  by_cases h1 : s.backlog = 1
  · omega
  · by_cases h2 : s.backlog = 2
    · omega
    · simp [h1, h2] at h

/-- the early exits of `dequeue_block` and `sync` apply when the backlog counts exactly the blocks the main thread holds open -/
theorem mustWait_of_open {s : Proc} (hb : 1 ≤ s.backlog)
    (h : s.backlog = boolNat s.fragBlock.isSome + boolNat s.blkCurrent.isSome) : mustWait s = false := by
  unfold mustWait
  cases hf : s.fragBlock.isSome <;> cases hc : s.blkCurrent.isSome <;> simp [hf, hc, boolNat] at h ⊢ <;> omega

/-- the pool is not empty when `dequeue_block` reaches `pool->dequeue`: the `SQFS_ERROR_INTERNAL` return is dead -/
theorem pool_nonempty {P : Params} {s : Proc} {g : Ghost} {W : WSt} (h : PInv P s g 0 W)
    (hhead : ∀ b rest, s.ioQueue = b :: rest → b.seq ≠ s.ioDeqSeqNum) (hmw : mustWait s = true) (hb : 1 ≤ s.backlog) :
    g.items ≠ [] := by
  intro hi
  have hq := h.back.queue
  rw [hi] at hq
  simp only [List.filter_nil, List.append_nil] at hq
  have hioq : s.ioQueue = [] := by
    cases hqq : s.ioQueue with
    | nil => rfl
    | cons b rest =>
      -- with the pool empty, a non-empty `io_queue` holds `stream[io_deq_seq_num]`; sorted, that is its head, against `hhead`
      exfalso
      have hbd : b ∈ (g.F P).stream.drop s.ioDeqSeqNum := hq.subset (by rw [hqq]; exact List.mem_cons_self)
      obtain ⟨hge, hlt, _⟩ := mem_drop_seq h.back.finv hbd
      have hdl : s.ioDeqSeqNum < (g.F P).stream.length := by omega
      have hd0 : (g.F P).stream[s.ioDeqSeqNum] ∈ (g.F P).stream.drop s.ioDeqSeqNum := by
        rw [List.drop_eq_getElem_cons hdl]; exact List.mem_cons_self
      have hd0q : (g.F P).stream[s.ioDeqSeqNum] ∈ s.ioQueue := hq.symm.subset hd0
      have hd0s : ((g.F P).stream[s.ioDeqSeqNum]).seq = s.ioDeqSeqNum := h.back.finv.seqs _ hdl
      rw [hqq] at hd0q
      rcases List.mem_cons.mp hd0q with he | he
      · exact hhead b rest hqq (by rw [← he]; exact hd0s)
      · have hs := h.back.sorted
        rw [hqq, List.pairwise_cons] at hs
        have := hs.1 _ he
        omega
  have hac := h.acct
  unfold Acct at hac
  rw [hi, hioq] at hac
  simp only [List.length_nil, Nat.zero_add, Nat.add_zero] at hac
  rw [mustWait_of_open hb hac] at hmw
  cases hmw

theorem dequeueGo_ok {P : Params} (hp : SerialOK P) (old : Nat) (hold : 1 ≤ old) :
    ∀ (fuel : Nat) (s : Proc) (g : Ghost) (W : WSt), PInv P s g 0 W → g.items.length + g.pend.length < fuel →
      ∃ s' g' W', dequeueGo P old fuel s = .ok s' ∧ PInv P s' g' 0 W' ∧ Frame s s' g g' ∧
        (s'.backlog < old ∨ mustWait s' = false) := by
  intro fuel
  induction fuel with
  | zero => intro s g W _ hm; omega
  | succ fuel ih =>
    intro s g W h hm
    obtain ⟨s1, g1, W1, hr, h1, fr1, hi1, hpe1, hhead⟩ := release_ok hp.codec hp.lt s.ioQueue.length s g 0 W h (Nat.le_refl _)
    have hrel : release s = .ok s1 := hr
    rw [← hi1, ← hpe1] at hm
    -- the end of an iteration: `while (proc->backlog >= backlog_old)`
    have step : ∀ (s2 : Proc) (g2 : Ghost), PInv P s2 g2 0 W1 → g2.items.length + g2.pend.length < fuel → Frame s1 s2 g1 g2 →
        ∃ s' g' W', (if s2.backlog ≥ old then dequeueGo P old fuel s2 else .ok s2) = .ok s' ∧ PInv P s' g' 0 W' ∧
          Frame s s' g g' ∧ (s'.backlog < old ∨ mustWait s' = false) := by
      intro s2 g2 h2 hm2 fr2
      by_cases hge : s2.backlog ≥ old
      · rw [if_pos hge]
        obtain ⟨s', g', W', hd, hinv', hfr', hpost⟩ := ih s2 g2 W1 h2 hm2
        exact ⟨s', g', W', hd, hinv', fr1.trans (fr2.trans hfr'), hpost⟩
      · rw [if_neg hge]
        exact ⟨s2, g2, W1, rfl, h2, fr1.trans fr2, Or.inl (Nat.lt_of_not_ge hge)⟩
    unfold dequeueGo
    rw [hrel]
    simp only
    by_cases hlt : s1.backlog < old
    · rw [if_pos hlt]
      exact ⟨s1, g1, W1, rfl, h1, fr1, Or.inl hlt⟩
    · rw [if_neg hlt]
      by_cases hmw : mustWait s1 = true
      · simp only [hmw, Bool.not_true, Bool.false_eq_true, if_false]
        have hne := pool_nonempty h1 hhead hmw (by omega)
        cases hitems : g1.items with
        | nil => exact absurd hitems hne
        | cons x rest =>
          have hacct1 := h1.acct
          rw [hitems, List.length_cons] at hm
          by_cases hfb : isFB x = true
          · -- a fragment block
            obtain ⟨hdq, hhd, hb2⟩ := h1.back.deqFB hp.ans x rest hitems hfb
            rw [hdq]
            simp only
            rw [hhd]
            simp only
            exact step _ { g1 with items := rest }
              ⟨hb2, Acct.deqStore hacct1 x rest hitems (poolDequeue P s1.pool).1 x { g1 with items := rest } rfl s1.ioSeqNum,
                h1.finNoPend⟩
              (by show rest.length + g1.pend.length < fuel; omega) ⟨rfl, rfl, rfl, rfl, rfl, rfl, id⟩
          · have hfb' : isFB x = false := by simpa using hfb
            have hpend := h1.back.pend_of_items hitems hfb'
            have hfin : g1.fin = false := by
              cases hf : g1.fin with
              | false => rfl
              | true => have := h1.finNoPend hf; rw [hpend] at this; cases this
            have hpl : g1.pend.length = g1.pend.tail.length + 1 := by rw [hpend]; rfl
            have hpn : g1.pend = [] → g1.pend.tail = [] := fun hp => by rw [hp]; rfl
            by_cases hfr : isFrag x = true
            · -- a fragment
              obtain ⟨s2, extra, effs, hdq, hhd, hb2, hac2, k2, hex⟩ :=
                h1.back.deqFrag hp x rest hitems hfb' hfr _ hacct1
              rw [hdq]
              simp only
              rw [hhd]
              simp only
              exact step s2
                { g1 with items := rest ++ extra, pend := g1.pend.tail, done := g1.done ++ [x], h := g1.h ++ effs, m := g1.m ++ effs }
                (PInv.intro (fStep P (g1.F P) x) (Ghost.F_step P x rfl hfin hfin) hb2 (by rw [blkCurrent_of_fe k2.fe]; exact hac2)
                  (fun hf => by rw [hfin] at hf; cases hf))
                (by show (rest ++ extra).length + g1.pend.tail.length < fuel; rw [List.length_append]; omega)
                (k2.frame rfl rfl rfl hpn)
            · -- a data block
              have hfr' : isFrag x = false := by simpa using hfr
              obtain ⟨hdq, hhd, hb2⟩ := h1.back.deqData hp.ans hp.codec x rest hitems hfb' hfr'
              rw [hdq]
              simp only
              rw [hhd]
              simp only
              exact step _ { g1 with items := rest, pend := g1.pend.tail, done := g1.done ++ [x] }
                (PInv.intro (fStep P (g1.F P) x) (Ghost.F_step P x rfl hfin hfin) hb2
                  (Acct.deqStore hacct1 x rest hitems (poolDequeue P s1.pool).1 _ _ rfl _) (fun hf => by rw [hfin] at hf; cases hf))
                (by show rest.length + g1.pend.tail.length < fuel; omega) ⟨rfl, rfl, rfl, rfl, rfl, rfl, hpn⟩
      · have hmw' : mustWait s1 = false := by simpa using hmw
        simp only [hmw', Bool.not_false, if_true]
        exact ⟨s1, g1, W1, rfl, h1, fr1, Or.inr hmw'⟩

theorem dequeueBlock_ok {P : Params} (hp : SerialOK P)
    {s : Proc} {g : Ghost} {W : WSt} (h : PInv P s g 0 W) (hb : 1 ≤ s.backlog) :
    ∃ s' g' W', dequeueBlock P s = .ok s' ∧ PInv P s' g' 0 W' ∧ Frame s s' g g' ∧
      (s'.backlog < s.backlog ∨ mustWait s' = false) := by
  have hm : g.items.length + g.pend.length < 2 * s.backlog + 1 := by
    have h1 : g.pend.length ≤ g.items.length := by rw [← h.back.pend]; exact List.length_filter_le _ _
    have h2 := h.acct
    unfold Acct at h2
    omega
  exact dequeueGo_ok hp s.backlog hb _ s g W h hm

/-- `get_new_block`: the backlog is drained below `max_backlog`, then one more block is accounted for -/
theorem getNewBlockGo_ok {P : Params} (hp : SerialOK P) :
    ∀ (fuel : Nat) (s : Proc) (g : Ghost) (W : WSt), PInv P s g 0 W → s.backlog < fuel →
      ∃ s' g' W', getNewBlockGo P fuel s = .ok s' ∧ PInv P s' g' 1 W' ∧ Frame s s' g g' := by
  intro fuel
  induction fuel with
  | zero => intro s g W _ hf; omega
  | succ fuel ih =>
    intro s g W h hf
    unfold getNewBlockGo
    by_cases hge : s.backlog ≥ s.maxBacklog
    · rw [if_pos hge]
      have hmb := h.back.maxBacklog
      obtain ⟨s1, g1, W1, hd, h1, fr1, hpost⟩ := dequeueBlock_ok hp h (by omega)
      rw [hd]
      simp only
      have hlt : s1.backlog < s.backlog := by
        rcases hpost with hlt | hmw
        · exact hlt
        · have := (not_mustWait_le hmw).2; omega
      obtain ⟨s', g', W', hg, h', fr'⟩ := ih s1 g1 W1 h1 (by omega)
      exact ⟨s', g', W', hg, h', fr1.trans fr'⟩
    · rw [if_neg hge]
      refine ⟨_, g, W, rfl, ?_, ⟨rfl, rfl, rfl, rfl, rfl, rfl, id⟩⟩
      refine ⟨h.back.backlogIrrel _, ?_, h.finNoPend⟩
      have := h.acct
      unfold Acct at this ⊢
      simp only at this ⊢
      omega

theorem getNewBlock_ok {P : Params} (hp : SerialOK P)
    {s : Proc} {g : Ghost} {W : WSt} (h : PInv P s g 0 W) :
    ∃ s' g' W', getNewBlock P s = .ok s' ∧ PInv P s' g' 1 W' ∧ Frame s s' g g' :=
  getNewBlockGo_ok hp _ s g W h (Nat.lt_succ_self _)

theorem syncGo_ok {P : Params} (hp : SerialOK P) :
    ∀ (fuel : Nat) (s : Proc) (g : Ghost) (W : WSt), PInv P s g 0 W → s.backlog < fuel →
      ∃ s' g' W', syncGo P fuel s = .ok s' ∧ PInv P s' g' 0 W' ∧ Frame s s' g g' ∧ (s'.backlog = 0 ∨ mustWait s' = false) := by
  intro fuel
  induction fuel with
  | zero => intro s g W _ hf; omega
  | succ fuel ih =>
    intro s g W h hf
    unfold syncGo
    by_cases h0 : s.backlog = 0
    · rw [if_pos h0]
      exact ⟨s, g, W, rfl, h, Frame.refl s g, Or.inl h0⟩
    · rw [if_neg h0]
      by_cases hmw : mustWait s = true
      · simp only [hmw, Bool.not_true, Bool.false_eq_true, if_false]
        obtain ⟨s1, g1, W1, hd, h1, fr1, hpost⟩ := dequeueBlock_ok hp h (by omega)
        rw [hd]
        simp only
        rcases hpost with hlt | hmw1
        · obtain ⟨s', g', W', hg, h', fr', hp'⟩ := ih s1 g1 W1 h1 (by omega)
          exact ⟨s', g', W', hg, h', fr1.trans fr', hp'⟩
        · -- the early exit applies: the next iteration returns
          have hfuel : 1 ≤ fuel := by omega
          obtain ⟨f, rfl⟩ : ∃ f, fuel = f + 1 := ⟨fuel - 1, by omega⟩
          have hb1 := (not_mustWait_le hmw1).1
          refine ⟨s1, g1, W1, ?_, h1, fr1, Or.inr hmw1⟩
          unfold syncGo
          rw [if_neg (by omega)]
          simp [hmw1]
      · have hmw' : mustWait s = false := by simpa using hmw
        simp only [hmw', Bool.not_false, if_true]
        exact ⟨s, g, W, rfl, h, Frame.refl s g, Or.inr hmw'⟩

theorem syncDrain_ok {P : Params} (hp : SerialOK P)
    {s : Proc} {g : Ghost} {W : WSt} (h : PInv P s g 0 W) :
    ∃ s' g' W', syncDrain P s = .ok s' ∧ PInv P s' g' 0 W' ∧ Frame s s' g g' ∧ (s'.backlog = 0 ∨ mustWait s' = false) :=
  syncGo_ok hp _ s g W h (Nat.lt_succ_self _)

/-- the `get_status` call at the end of `sync` answers 0 under the invariant (no callback fails on the healthy pool) and
changes nothing but the pool's call history -/
theorem PInv.status {P : Params} (hP : P.ans = serialAns) {s : Proc} {g : Ghost} {held : Nat} {W : WSt} (h : PInv P s g held W) :
    (poolStatus P s.pool).2 = 0 ∧ PInv P { s with pool := (poolStatus P s.pool).1 } g held W := by
  obtain ⟨h0, hp⟩ := poolStatus_ok P hP s.pool g.items h.back.pool
  exact ⟨h0, ⟨{ h.back with pool := hp }, h.acct, h.finNoPend⟩⟩

/-- where the invariant holds (healthy pool), `sync` is the drain followed by a status call that answers 0 — so
everything proved about the drain carries over -/
theorem sync_eq_drain {P : Params} (hP : P.ans = serialAns) {s s1 : Proc} {g : Ghost} {W : WSt}
    (hd : syncDrain P s = .ok s1) (h1 : PInv P s1 g 0 W) :
    sync P s = .ok { s1 with pool := (poolStatus P s1.pool).1 } := by
  unfold sync
  rw [hd]
  simp only [(h1.status hP).1, ne_eq, not_true_eq_false, if_false]

theorem sync_ok {P : Params} (hp : SerialOK P)
    {s : Proc} {g : Ghost} {W : WSt} (h : PInv P s g 0 W) :
    ∃ s' g' W', sync P s = .ok s' ∧ PInv P s' g' 0 W' ∧ Frame s s' g g' ∧ (s'.backlog = 0 ∨ mustWait s' = false) := by
  obtain ⟨s1, g1, W1, hd, h1, fr, hpost⟩ := syncDrain_ok hp h
  refine ⟨_, g1, W1, sync_eq_drain hp.ans hd h1, (h1.status hp.ans).2, ?_, hpost⟩
  exact ⟨fr.fe, fr.maxBacklog, fr.inodes, fr.front, fr.fin, fr.gfe, fr.pendNil⟩

end Sqfs.BlockProc
