import Sqfs.Proofs.ObjBal
/-! `sqfs_copy` through well-formed hook descriptions preserves balance (`Sqfs.Proofs.ObjBal`), in two layers. What the steps of a hook
that release nothing (`Heap.fail`, an allocation, `sqfs_grab`, the buffer loop, publishing the copy) leave of the cells that were there is
`SlotsOk`, for any heap and either outcome; the invariant plays no part in it. The balance is carried through the two slot loops and the
failure path, one level of `sqfs_copy` given the level below (`CpSpec`); a reference loop that got through hands back its sub-copies
(`DeepSlots`), a copy that came about what its loops established (`Loops`). In a balanced heap a buffer has one owner
(`Bal.bufs_disjoint`), and a store overwrites one buffer of the object it goes through (`Bal.writeSlot_eq`). -/
namespace Sqfs.Obj

theorem takeAlloc_none {h : Heap} (hb : h.budget = none) : takeAlloc h = (h, true) := by
  simp [takeAlloc, hb]

theorem Bal.setBudget {h : Heap} {U : Nat → Nat} {P PB Z : List Nat} (hb : Bal h U P PB Z) (bud : Option Nat) :
    Bal { h with budget := bud } U P PB Z :=
  ⟨hb.ok, hb.live, hb.bound, hb.dead, hb.bufLive, hb.bufDead, hb.bufBound⟩

theorem takeAlloc_spec (h : Heap) : ∃ bud, (takeAlloc h = ({ h with budget := bud }, false) ∧ h.budget ≠ none) ∨
    (takeAlloc h = ({ h with budget := bud }, true) ∧ (h.budget = none → bud = none)) := by
  unfold takeAlloc
  cases hb : h.budget with
  | none => exact ⟨none, Or.inr ⟨by cases h; simp_all, fun _ => rfl⟩⟩
  | some k =>
    cases k with
    | zero => exact ⟨none, Or.inl ⟨rfl, nofun⟩⟩
    | succ k => exact ⟨some k, Or.inr ⟨rfl, nofun⟩⟩

/-- everything about an object except its reference count -/
def Obj.erase (o : Obj) : Obj := { o with rc := 0 }

theorem Obj.erase_kind {a b : Obj} (h : a.erase = b.erase) : a.kind = b.kind := (congrArg Obj.kind h : a.erase.kind = b.erase.kind)
theorem Obj.erase_bufs {a b : Obj} (h : a.erase = b.erase) : a.bufs = b.bufs := (congrArg Obj.bufs h : a.erase.bufs = b.erase.bufs)
theorem Obj.erase_views {a b : Obj} (h : a.erase = b.erase) : a.views = b.views := (congrArg Obj.views h : a.erase.views = b.erase.views)
theorem Obj.erase_refs {a b : Obj} (h : a.erase = b.erase) : a.refs = b.refs := (congrArg Obj.refs h : a.erase.refs = b.erase.refs)

theorem Obj.erase_setRc (o : Obj) (r : Nat) : ({ o with rc := r } : Obj).erase = o.erase := rfl

theorem map_erase_setRc {objs : Nat → Option Obj} {x : Nat} {ox : Obj} (hx : objs x = some ox) (r j : Nat) :
    (upd objs x (some { ox with rc := r }) j).map Obj.erase = (objs j).map Obj.erase := by
  by_cases hj : j = x
  · subst hj; rw [upd_same, hx]; rfl
  · rw [upd_ne _ _ hj]

theorem map_erase_some {a : Option Obj} {b : Obj} (h : a.map Obj.erase = (some b).map Obj.erase) :
    ∃ a', a = some a' ∧ a'.erase = b.erase := by
  cases a with
  | none => simp at h
  | some a' => exact ⟨a', rfl, by simpa using h⟩

/-- what the slot-copying loops guarantee about the rest of the heap -/
structure SlotsOk (h h' : Heap) : Prop where
  nobj : h.nobj ≤ h'.nobj
  nbuf : h.nbuf ≤ h'.nbuf
  objLive : ∀ x, (h.objs x).isSome → (h'.objs x).isSome
  bufLive : ∀ b, (h.bufs b).isSome → (h'.bufs b).isSome
  budget : h.budget = none → h'.budget = none
  bufsOld : ∀ b, b < h.nbuf → h'.bufs b = h.bufs b
  objsOld : ∀ j, j < h.nobj → (h'.objs j).map Obj.erase = (h.objs j).map Obj.erase

theorem SlotsOk.refl (h : Heap) : SlotsOk h h :=
  ⟨Nat.le_refl _, Nat.le_refl _, fun _ h => h, fun _ h => h, fun h => h, fun _ _ => rfl, fun _ _ => rfl⟩

theorem SlotsOk.setBudget (h : Heap) {bud : Option Nat} (hbud : h.budget = none → bud = none) : SlotsOk h { h with budget := bud } :=
  ⟨Nat.le_refl _, Nat.le_refl _, fun _ h => h, fun _ h => h, hbud, fun _ _ => rfl, fun _ _ => rfl⟩

theorem SlotsOk.trans {h h1 h' : Heap} (h1s : SlotsOk h h1) (hs : SlotsOk h1 h') : SlotsOk h h' :=
  ⟨Nat.le_trans h1s.nobj hs.nobj, Nat.le_trans h1s.nbuf hs.nbuf,
   fun x hx => hs.objLive x (h1s.objLive x hx), fun b hb => hs.bufLive b (h1s.bufLive b hb), fun hb => hs.budget (h1s.budget hb),
   fun b hb => by rw [hs.bufsOld b (Nat.lt_of_lt_of_le hb h1s.nbuf), h1s.bufsOld b hb],
   fun j hj => by rw [hs.objsOld j (Nat.lt_of_lt_of_le hj h1s.nobj), h1s.objsOld j hj]⟩

theorem allocBuf_none {h h1 : Heap} {bf : Buf} (e : allocBuf h bf = (h1, none)) :
    h.budget ≠ none ∧ ∃ bud, h1 = { h with budget := bud } := by
  unfold allocBuf at e
  obtain ⟨bud, ⟨hta, hbn⟩ | ⟨hta, _⟩⟩ := takeAlloc_spec h <;> rw [hta] at e <;> cases e
  exact ⟨hbn, bud, rfl⟩

theorem allocBuf_some {h h1 : Heap} {bf : Buf} {id : Nat} (e : allocBuf h bf = (h1, some id)) :
    id = h.nbuf ∧ ∃ bud, (h.budget = none → bud = none) ∧
      h1 = { h with budget := bud, bufs := upd h.bufs h.nbuf (some bf), nbuf := h.nbuf + 1 } := by
  unfold allocBuf at e
  obtain ⟨bud, ⟨hta, _⟩ | ⟨hta, hbud⟩⟩ := takeAlloc_spec h <;> rw [hta] at e <;> cases e
  exact ⟨rfl, bud, hbud, rfl⟩

theorem SlotsOk.fail (h : Heap) (c : Crash) : SlotsOk h (h.fail c) := by
  unfold Heap.fail
  split
  · exact SlotsOk.refl h
  · exact ⟨Nat.le_refl _, Nat.le_refl _, fun _ h => h, fun _ h => h, fun h => h, fun _ _ => rfl, fun _ _ => rfl⟩

theorem SlotsOk.allocBuf (h : Heap) (bf : Buf) : SlotsOk h (allocBuf h bf).1 := by
  rcases hr : Sqfs.Obj.allocBuf h bf with ⟨h1, _ | id⟩
  · obtain ⟨hbn, bud, rfl⟩ := allocBuf_none hr
    exact SlotsOk.setBudget h fun hn => absurd hn hbn
  · obtain ⟨_, bud, hbud, rfl⟩ := allocBuf_some hr
    exact ⟨Nat.le_refl _, Nat.le_succ _, fun _ hx => hx, fun _ => upd_isSome, hbud, fun b hb => upd_ne _ _ (Nat.ne_of_lt hb), fun _ _ => rfl⟩

theorem SlotsOk.grab (h : Heap) (x : Nat) : SlotsOk h (grab h x) := by
  unfold Sqfs.Obj.grab
  split
  · exact SlotsOk.refl h
  · split
    · exact SlotsOk.fail h _
    · rename_i o ho
      exact ⟨Nat.le_refl _, Nat.le_refl _, fun _ => upd_isSome, fun _ h => h, fun h => h, fun _ _ => rfl, fun j _ => map_erase_setRc ho _ j⟩

/-- the buffer loop only allocates: finished or not, crashed or not, no cell that was there has changed -/
theorem SlotsOk.copyBufs (bs : List (Option Nat)) (as : List BufAct) (h : Heap) : SlotsOk h (copyBufs h bs as).1 := by
  fun_induction Sqfs.Obj.copyBufs h bs as with
  | case1 | case2 => exact SlotsOk.refl _
  | case3 _ _ _ _ ih | case4 _ _ _ _ ih | case6 _ _ _ _ _ _ _ _ _ ih => exact ih
  | case5 => exact SlotsOk.fail _ _
  | case7 h _ _ _ _ _ _ _ _ _ hal => exact congrArg Prod.fst hal ▸ SlotsOk.allocBuf h _
  | case8 h _ _ _ _ _ _ _ _ _ _ hal ih => exact (show SlotsOk h (_, some _).1 from hal ▸ SlotsOk.allocBuf h _).trans ih

theorem copyBufs_bal (bs : List (Option Nat)) (as : List BufAct) {h : Heap} {U : Nat → Nat} {P PB : List Nat}
    (hb : Bal h U P PB []) (hw : ∀ a ∈ as, a ≠ .alias) (hlive : ∀ b, some b ∈ bs → (h.bufs b).isSome)
    (h' : Heap) (nb : List (Option Nat)) (ok : Bool) (he : copyBufs h bs as = (h', nb, ok)) :
    Bal h' U P (nb.filterMap id ++ PB) [] ∧
    (∀ b, some b ∈ nb → h.nbuf ≤ b) ∧ nb.length ≤ bs.length ∧ (h.budget = none → ok = true) := by
  fun_induction copyBufs h bs as generalizing PB h' nb ok with
  | case1 | case2 =>
    cases he
    exact ⟨hb, by simp, Nat.zero_le _, fun _ => rfl⟩
  | case3 h bs a as ih | case6 h _ bs a as _ _ _ _ ih =>
    -- the copy's pointer stays NULL
    cases he
    obtain ⟨hb', hf, hlen, hok⟩ := ih hb (List.forall_mem_cons.mp hw).2
      (fun b hbm => hlive b (List.mem_cons_of_mem _ hbm)) _ _ _ rfl
    exact ⟨hb', fun b hbm => hf b (by simpa using hbm), Nat.succ_le_succ hlen, hok⟩
  | case4 => exact absurd rfl (hw _ List.mem_cons_self)
  | case5 h b _ _ _ _ hbf => exact absurd (hlive b List.mem_cons_self) (by simp [hbf])
  | case7 h _ _ _ _ _ _ _ _ h1 hal =>
    cases he
    obtain ⟨hbn, bud, rfl⟩ := allocBuf_none hal
    exact ⟨hb.setBudget bud, by simp, Nat.zero_le _, fun hn => absurd hn hbn⟩
  | case8 h b bs a as _ bf _ _ h1 id hal ih =>
    cases he
    obtain ⟨rfl, bud, hbud, rfl⟩ := allocBuf_some hal
    obtain ⟨hb', hf, hlen, hok'⟩ := ih ((hb.setBudget bud).allocBuf _) (List.forall_mem_cons.mp hw).2
      (fun b' hbm => upd_isSome (hlive b' (List.mem_cons_of_mem _ hbm))) _ _ _ rfl
    refine ⟨?_, ?_, Nat.succ_le_succ hlen, fun hn => hok' (hbud hn)⟩
    · exact hb'.perm (fun _ => rfl) (fun b' => (List.perm_middle.count_eq b').symm)
    · intro b' hbm
      rcases List.mem_cons.mp hbm with hbm | hbm
      · exact Nat.le_of_eq (Option.some.inj hbm).symm
      · exact Nat.le_of_succ_le (hf b' hbm)

/-- specification of `sqfs_copy` one level down, as used by the reference-slot loop: on success the caller holds
the copy, on failure (only with an injected allocation failure) nothing has changed hands -/
def CpRes (h h' : Heap) (U : Nat → Nat) (P PB : List Nat) : Option Nat → Prop
  | some y => Bal h' U (y :: P) PB [] ∧ h.nobj ≤ y ∧ SlotsOk h h'
  | none => Bal h' U P PB []

def CpSpec (cp : Heap → Nat → Heap × Option Nat) (bound : Nat) : Prop :=
  ∀ (h : Heap) (U : Nat → Nat) (P PB : List Nat) (x : Nat), Bal h U P PB [] → (h.objs x).isSome → x < bound →
    ∀ h' r, cp h x = (h', r) → (h.budget = none → r.isSome) ∧ CpRes h h' U P PB r

/-- what a reference loop that got through has to say of the slots it deep-copied: each sub-copy ran in a balanced heap in which
nothing old had changed, and what it made was left alone afterwards -/
def DeepSlots (cp : Heap → Nat → Heap × Option Nat) (h h' : Heap) (U : Nat → Nat) (PB : List Nat)
    (rs : List (Option Nat)) (as : List RefAct) (nr : List (Option Nat)) : Prop :=
  ∀ i r : Nat, rs[i]? = some (some r) → as[i]? = some RefAct.deep →
    ∃ y hi hi' Pi, nr[i]? = some (some y) ∧ Bal hi U Pi PB [] ∧ SlotsOk h hi ∧ cp hi r = (hi', some y) ∧ SlotsOk hi' h'

/-- reference slot `x` was filled with `s` by the step from `h` to `h1`, the sub-copy if the slot is deep-copied; `ih` is what the rest
of the loop guarantees -/
theorem copyRefs_cont {cp : Heap → Nat → Heap × Option Nat} {h h1 h' : Heap} {U : Nat → Nat} {P PB : List Nat} {x s : Option Nat}
    {a : RefAct} {rs nr : List (Option Nat)} {as : List RefAct} {ok : Bool} (hs1 : SlotsOk h h1)
    (hd : ∀ r, x = some r → a = .deep → ∃ y P', s = some y ∧ Bal h U P' PB [] ∧ cp h r = (h1, some y))
    (ih : Bal h' U (nr.filterMap id ++ (s.toList ++ P)) PB [] ∧ (ok = true → SlotsOk h1 h' ∧ DeepSlots cp h1 h' U PB rs as nr) ∧
      nr.length ≤ rs.length ∧ nr.length ≤ as.length ∧ (h1.budget = none → ok = true)) :
    Bal h' U ((s :: nr).filterMap id ++ P) PB [] ∧ (ok = true → SlotsOk h h' ∧ DeepSlots cp h h' U PB (x :: rs) (a :: as) (s :: nr)) ∧
    (s :: nr).length ≤ (x :: rs).length ∧ (s :: nr).length ≤ (a :: as).length ∧ (h.budget = none → ok = true) := by
  obtain ⟨hb', hs, hl1, hl2, hok⟩ := ih
  refine ⟨?_, fun hk => ⟨hs1.trans (hs hk).1, fun i r hi ha => ?_⟩, Nat.succ_le_succ hl1, Nat.succ_le_succ hl2, fun hn => hok (hs1.budget hn)⟩
  · cases s with
    | none => exact hb'
    | some y => exact hb'.perm (fun z => (List.perm_middle.count_eq z).symm) (fun _ => rfl)
  · cases i with
    | zero =>
      obtain ⟨y, P', rfl, hb, hc⟩ := hd r (Option.some.inj hi) (Option.some.inj ha)
      exact ⟨y, h, h1, P', rfl, hb, SlotsOk.refl h, hc, (hs hk).1⟩
    | succ j =>
      obtain ⟨y, hi, hi', Pi, e, hb, hsi, rest⟩ := (hs hk).2 j r hi ha
      exact ⟨y, hi, hi', Pi, e, hb, hs1.trans hsi, rest⟩

theorem copyRefs_bal (cp : Heap → Nat → Heap × Option Nat) (bound : Nat) (hcp : CpSpec cp bound)
    (rs : List (Option Nat)) (as : List RefAct) {h : Heap} {U : Nat → Nat} {P PB : List Nat}
    (hb : Bal h U P PB []) (hw : ∀ a ∈ as, a ≠ .alias) (hlive : ∀ r, some r ∈ rs → (h.objs r).isSome ∧ r < bound)
    (h' : Heap) (nr : List (Option Nat)) (ok : Bool) (he : copyRefs cp h rs as = (h', nr, ok)) :
    Bal h' U (nr.filterMap id ++ P) PB [] ∧ (ok = true → SlotsOk h h' ∧ DeepSlots cp h h' U PB rs as nr) ∧
    nr.length ≤ rs.length ∧ nr.length ≤ as.length ∧ (h.budget = none → ok = true) := by
  fun_induction copyRefs cp h rs as generalizing P h' nr ok with
  | case1 =>
    cases he
    exact ⟨hb, fun _ => ⟨SlotsOk.refl _, fun _ _ hi => nomatch hi⟩, Nat.zero_le _, Nat.zero_le _, fun _ => rfl⟩
  | case2 =>
    cases he
    exact ⟨hb, fun _ => ⟨SlotsOk.refl _, fun _ _ _ ha => nomatch ha⟩, Nat.zero_le _, Nat.zero_le _, fun _ => rfl⟩
  | case3 h rs a as ih =>
    cases he
    exact copyRefs_cont (SlotsOk.refl h) (fun _ e => nomatch e) (ih hb (List.forall_mem_cons.mp hw).2
      (fun r hm => hlive r (List.mem_cons_of_mem _ hm)) _ _ _ rfl)
  | case4 => exact absurd rfl (hw _ List.mem_cons_self)
  | case5 h x rs as ih =>
    -- `sqfs_grab`
    cases he
    obtain ⟨ox, hox⟩ := Option.isSome_iff_exists.mp (hlive x List.mem_cons_self).1
    have hsg := SlotsOk.grab h x
    exact copyRefs_cont hsg (fun _ _ e => nomatch e) (ih (hb.grabbed hox (by simp))
      (List.forall_mem_cons.mp hw).2
      (fun r hm => ⟨hsg.objLive r (hlive r (List.mem_cons_of_mem _ hm)).1, (hlive r (List.mem_cons_of_mem _ hm)).2⟩) _ _ _ rfl)
  | case6 h x rs as h1 hc =>
    -- the sub-copy failed
    cases he
    obtain ⟨hxl, hxb⟩ := hlive x List.mem_cons_self
    obtain ⟨hsome, hres⟩ := hcp h U P PB x hb hxl hxb h1 none hc
    exact ⟨hres, fun hk => Bool.noConfusion hk, Nat.zero_le _, Nat.zero_le _, fun hn => hsome hn⟩
  | case7 h x rs as h1 y hc ih =>
    cases he
    obtain ⟨hxl, hxb⟩ := hlive x List.mem_cons_self
    obtain ⟨_, hb1, _, hs1⟩ := hcp h U P PB x hb hxl hxb h1 (some y) hc
    exact copyRefs_cont hs1 (fun r e _ => ⟨y, P, rfl, hb, Option.some.inj e ▸ hc⟩) (ih hb1 (List.forall_mem_cons.mp hw).2
      (fun r hm => ⟨hs1.objLive r (hlive r (List.mem_cons_of_mem _ hm)).1, (hlive r (List.mem_cons_of_mem _ hm)).2⟩) _ _ _ rfl)

theorem listGet_mem {l : List (Option Nat)} {i w : Nat} (h : listGet l i = some w) : some w ∈ l := by
  unfold listGet at h
  cases hi : l[i]? with
  | none => simp [hi] at h
  | some v =>
    simp only [hi, Option.join_some] at h
    subst h
    exact List.mem_of_getElem? hi

theorem views_repointed {views : List (Option Nat)} {dv : List (ViewAct × Nat)} {nb : List (Option Nat)}
    (hw : ∀ v ∈ dv, v.1 = .repoint) (w : Nat) (hm : some w ∈ repointViews views dv nb) : some w ∈ nb := by
  obtain ⟨⟨v, act, slot⟩, hmem, heq⟩ := List.mem_map.mp hm
  have hact : act = .repoint := hw (act, slot) (List.of_mem_zip hmem).2
  subst hact
  cases v with
  | none => simp [repointView] at heq
  | some _ => exact listGet_mem heq

theorem filterMap_zip_fst {β : Type} (l : List (Option Nat)) (m : List β) (f : Option Nat × β → Option Nat)
    (hlen : l.length ≤ m.length) (hf : ∀ p ∈ l.zip m, f p = p.1) : (l.zip m).filterMap f = l.filterMap id := by
  induction l generalizing m with
  | nil => rfl
  | cons x l ih =>
    cases m with
    | nil => exact absurd hlen (Nat.not_succ_le_zero _)
    | cons y m =>
      rw [List.zip_cons_cons, List.filterMap_cons, List.filterMap_cons, hf _ List.mem_cons_self,
        ih m (Nat.le_of_succ_le_succ hlen) (fun p hp => hf p (List.mem_cons_of_mem _ hp))]
      rfl

theorem failPath_unwind {d : CopyDesc} {h : Heap} {U : Nat → Nat} {P PB : List Nat} {o : Obj} {nr nb : List (Option Nat)}
    (hu : d.onFail = .unwind) (hw : ∀ a ∈ d.refs, a ≠ .alias)
    (hb : Bal h U (nr.filterMap id ++ P) (nb.filterMap id ++ PB) [])
    (h1 : nr.length ≤ o.refs.length) (h2 : nr.length ≤ d.refs.length) (h3 : nb.length ≤ o.bufs.length)
    (hf : ∀ b, some b ∈ nb → some b ∉ o.bufs) :
    Bal (failPath d h o nr nb) U P PB [] := by
  unfold failPath
  simp only [hu]
  -- what the path drops is what was acquired (no slot is an alias), what it frees is what was allocated (no fresh buffer is the original's)
  rw [filterMap_zip_fst nr (o.refs.zip d.refs) _ (by rw [List.length_zip]; exact Nat.le_min.mpr ⟨h1, h2⟩)
      (fun p hp => if_neg (hw _ (List.of_mem_zip (List.of_mem_zip hp).2).2)),
    filterMap_zip_fst nb o.bufs _ h3 (fun p hp => by
      obtain ⟨x, orig⟩ := p
      cases x with
      | none => exact ite_self _
      | some b => exact if_pos (fun (e : some b = orig) => hf b (List.of_mem_zip hp).1 (e ▸ (List.of_mem_zip hp).2)))]
  -- the budget `h.nobj` suffices: an acquired reference is pending
  exact Bal.freeBufs _ (Bal.foldl_pending (Bal.drop _) _ (fun l hl => hb.pending_lt (List.mem_append_left _ hl)) hb)

theorem SlotsOk.finishCopy (d : CopyDesc) (h : Heap) (o : Obj) (nb nr : List (Option Nat)) : SlotsOk h (finishCopy d h o nb nr).1 := by
  refine ⟨Nat.le_succ _, Nat.le_refl _, fun _ => upd_isSome, fun _ hb => hb, fun hb => hb, fun _ _ => rfl, fun j hj => ?_⟩
  simp [Sqfs.Obj.finishCopy, upd, Nat.ne_of_lt hj]

/-- what the two slot loops of a hook that got through have established, whatever their order: each ran in a heap in which nothing
old had changed, and what it made was left alone afterwards -/
structure Loops (cp : Heap → Nat → Heap × Option Nat) (h hB : Heap) (U : Nat → Nat) (P PB : List Nat) (o : Obj) (d : CopyDesc)
    (nb nr : List (Option Nat)) : Prop where
  bufs : ∃ hX hY, SlotsOk h hX ∧ copyBufs hX o.bufs d.bufs = (hY, nb, true) ∧ SlotsOk hY hB ∧ ∀ b, some b ∈ nb → b < hY.nbuf
  refs : ∃ hR hS PB', Bal hR U P PB' [] ∧ SlotsOk h hR ∧ copyRefs cp hR o.refs d.refs = (hS, nr, true) ∧
    Bal hS U (nr.filterMap id ++ P) PB' [] ∧ SlotsOk hS hB

/-- for a copy that came about: its loops and the publishing step -/
def CpLoops (cp : Heap → Nat → Heap × Option Nat) (h h' : Heap) (U : Nat → Nat) (P PB : List Nat) (o : Obj) (d : CopyDesc) : Option Nat → Prop
  | some c => ∃ hB nb nr, Loops cp h hB U P PB o d nb nr ∧ finishCopy d hB o nb nr = (h', some c)
  | none => True

theorem sqfsCopy_step (D : Kind → CopyDesc) (hD : ∀ k, WfDesc (D k)) (n : Nat) (ih : CpSpec (sqfsCopy D n) n)
    {h : Heap} {U : Nat → Nat} {P PB : List Nat} {x : Nat} {o : Obj} (hb : Bal h U P PB []) (hox : h.objs x = some o) (hxn : x < n + 1)
    {h' : Heap} {r : Option Nat} (he : sqfsCopy D (n + 1) h x = (h', r)) :
    (h.budget = none → r.isSome) ∧ CpRes h h' U P PB r ∧ CpLoops (sqfsCopy D n) h h' U P PB o (D o.kind) r := by
  obtain ⟨hd, hc⟩ := hb.hooks hox (by simp)
  have hrefs := hb.refs_lt hox (by simp)
  obtain ⟨hw1, hw2, hw3, hw4, _, hw6, _⟩ := hD o.kind
  have hrl : ∀ r, some r ∈ o.refs → (h.objs r).isSome ∧ r < n :=
    fun r hr => ⟨hb.ref_live hox (by simp) hr, Nat.lt_of_lt_of_le (hrefs r hr) (Nat.le_of_lt_succ hxn)⟩
  have hbl : ∀ b, some b ∈ o.bufs → (h.bufs b).isSome := fun b hbm => hb.buf_live hox (by simp) hbm
  have hbb : ∀ b, some b ∈ o.bufs → b < h.nbuf := fun b hbm => hb.buf_lt hox (by simp) hbm
  rw [sqfsCopy] at he
  simp only [hb.ok, hox, hc, Bool.not_true, Bool.false_eq_true, if_false] at he
  obtain ⟨bud, ⟨e, hbn⟩ | ⟨e, hbud⟩⟩ := takeAlloc_spec h
  · simp only [e, Prod.mk.injEq] at he
    obtain ⟨rfl, rfl⟩ := he
    exact ⟨fun hn => absurd hn hbn, hb.setBudget bud, trivial⟩
  · simp only [e] at he
    have hb0 : Bal ({ h with budget := bud } : Heap) U P PB [] := hb.setBudget bud
    have hs0 : SlotsOk h ({ h with budget := bud } : Heap) := SlotsOk.setBudget h hbud
    -- the header the hook writes has both hooks set
    have hflags : (match (D o.kind).header with | .init => (true, true) | .memcpy => (o.destroy, o.copy) | .zeroed => (false, false)) =
        (true, true) := by
      cases hh : (D o.kind).header with
      | init => rfl
      | memcpy => rw [hd, hc]
      | zeroed => exact absurd hh hw1
    -- publishing the finished struct
    have fin : ∀ (h2 : Heap) (nb nr : List (Option Nat)), Bal h2 U (nr.filterMap id ++ P) (nb.filterMap id ++ PB) [] →
        SlotsOk h h2 → Loops (sqfsCopy D n) h h2 U P PB o (D o.kind) nb nr →
        finishCopy (D o.kind) h2 o nb nr = (h', r) →
        (h.budget = none → r.isSome) ∧ CpRes h h' U P PB r ∧ CpLoops (sqfsCopy D n) h h' U P PB o (D o.kind) r := by
      intro h2 nb nr hb2 hs2 hl hfin
      have hr : r = some h2.nobj := (congrArg Prod.snd hfin).symm
      have hh : h' = (finishCopy (D o.kind) h2 o nb nr).1 := (congrArg Prod.fst hfin).symm
      subst hr hh
      refine ⟨fun _ => rfl, ⟨?_, hs2.nobj, hs2.trans (SlotsOk.finishCopy _ _ _ _ _)⟩, h2, nb, nr, hl, hfin⟩
      show Bal _ U (h2.nobj :: P) PB []
      apply Bal.allocObj (c := _) hb2
      · exact congrArg Prod.fst hflags
      · exact congrArg Prod.snd hflags
      · rfl
      · intro v hv; exact views_repointed hw3 v hv
    -- a failure after the struct was allocated: the failure path restores the balance
    have failed : ∀ (h2 : Heap) (nb nr : List (Option Nat)), Bal h2 U (nr.filterMap id ++ P) (nb.filterMap id ++ PB) [] →
        nr.length ≤ o.refs.length → nr.length ≤ (D o.kind).refs.length → nb.length ≤ o.bufs.length →
        (∀ b, some b ∈ nb → h.nbuf ≤ b) → h.budget ≠ none →
        (failPath (D o.kind) h2 o nr nb, (none : Option Nat)) = (h', r) →
        (h.budget = none → r.isSome) ∧ CpRes h h' U P PB r ∧ CpLoops (sqfsCopy D n) h h' U P PB o (D o.kind) r := by
      intro h2 nb nr hb2 l1 l2 l3 hfresh hbn hfp
      simp only [Prod.mk.injEq] at hfp
      obtain ⟨rfl, rfl⟩ := hfp
      refine ⟨fun hn => absurd hn hbn, ?_, trivial⟩
      exact failPath_unwind hw6 hw4 hb2 l1 l2 l3 (fun b hbm hmo =>
        absurd (hbb b hmo) (Nat.not_lt.mpr (hfresh b hbm)))
    by_cases hrf : (D o.kind).refsFirst = true
    · simp only [hrf, if_true] at he
      rcases hr1 : copyRefs (sqfsCopy D n) ({ h with budget := bud } : Heap) o.refs (D o.kind).refs with ⟨h1, nr, ok1⟩
      obtain ⟨hb1, hs1, l1, l2, hok1⟩ := copyRefs_bal (sqfsCopy D n) n ih o.refs (D o.kind).refs hb0 hw4 hrl _ _ _ hr1
      rw [hr1] at he
      cases ok1 with
      | false =>
        simp only at he
        exact failed h1 [] nr (by simpa using hb1) l1 l2 (by simp) (by simp)
          (fun hn => by have := hok1 (hbud hn); cases this) he
      | true =>
        simp only at he
        replace hs1 := (hs1 rfl).1
        rcases hr2 : copyBufs h1 o.bufs (D o.kind).bufs with ⟨h2, nb, ok2⟩
        obtain ⟨hb2, hf2, l3, hok2⟩ := copyBufs_bal o.bufs (D o.kind).bufs hb1 hw2 (fun b hbm => hs1.bufLive b (hbl b hbm)) _ _ _ hr2
        have hs2 : SlotsOk h1 (h2, nb, ok2).1 := hr2 ▸ SlotsOk.copyBufs o.bufs (D o.kind).bufs h1
        rw [hr2] at he
        cases ok2 with
        | false =>
          simp only at he
          exact failed h2 nb nr hb2 l1 l2 l3 (fun b hbm => Nat.le_trans hs1.nbuf (hf2 b hbm))
            (fun hn => by have := hok2 (hs1.budget (hbud hn)); cases this) he
        | true =>
          simp only at he
          exact fin h2 nb nr hb2 (hs0.trans (hs1.trans hs2))
            ⟨⟨h1, h2, hs0.trans hs1, hr2, SlotsOk.refl _, fun b hbm => hb2.slot_pending_lt hbm⟩,
              ⟨_, h1, PB, hb0, hs0, hr1, hb1, hs2⟩⟩ he
    · simp only [hrf] at he
      rcases hr1 : copyBufs ({ h with budget := bud } : Heap) o.bufs (D o.kind).bufs with ⟨h1, nb, ok1⟩
      obtain ⟨hb1, hf1, l3, hok1⟩ := copyBufs_bal o.bufs (D o.kind).bufs hb0 hw2 hbl _ _ _ hr1
      have hs1 : SlotsOk _ (h1, nb, ok1).1 := hr1 ▸ SlotsOk.copyBufs o.bufs (D o.kind).bufs _
      rw [hr1] at he
      cases ok1 with
      | false =>
        simp only at he
        exact failed h1 nb [] (by simpa using hb1) (by simp) (by simp) l3 hf1
          (fun hn => by have := hok1 (hbud hn); cases this) he
      | true =>
        simp only at he
        rcases hr2 : copyRefs (sqfsCopy D n) h1 o.refs (D o.kind).refs with ⟨h2, nr, ok2⟩
        obtain ⟨hb2, hs2, l1, l2, hok2⟩ := copyRefs_bal (sqfsCopy D n) n ih o.refs (D o.kind).refs hb1 hw4
          (fun r hr => ⟨hs1.objLive r (hrl r hr).1, (hrl r hr).2⟩) _ _ _ hr2
        rw [hr2] at he
        cases ok2 with
        | false =>
          simp only at he
          exact failed h2 nb nr hb2 l1 l2 l3 hf1
            (fun hn => by have := hok2 (hs1.budget (hbud hn)); cases this) he
        | true =>
          simp only at he
          replace hs2 := (hs2 rfl).1
          exact fin h2 nb nr hb2 (hs0.trans (hs1.trans hs2))
            ⟨⟨_, h1, hs0, hr1, hs2, fun b hbm => hb1.slot_pending_lt hbm⟩,
              ⟨h1, h2, _, hb1, hs0.trans hs1, hr2, hb2, SlotsOk.refl _⟩⟩ he

/-- **`sqfs_copy` through well-formed hooks keeps the heap balanced, with or without an allocation failure**:
on success the caller holds the one reference to the (fresh) copy; on failure nothing has changed hands (that the heap is
then exactly what it was is `restore_of_frame`) -/
theorem sqfsCopy_bal (D : Kind → CopyDesc) (hD : ∀ k, WfDesc (D k)) : ∀ n, CpSpec (sqfsCopy D n) n := by
  intro n
  induction n with
  | zero => intro h U P PB x _ _ hx; exact absurd hx (Nat.not_lt_zero _)
  | succ n ih =>
    intro h U P PB x hb hxl hxn h' r he
    obtain ⟨o, hox⟩ := Option.isSome_iff_exists.mp hxl
    have s := sqfsCopy_step D hD n ih hb hox hxn he
    exact ⟨s.1, s.2.1⟩

theorem sqfsCopy_loops (D : Kind → CopyDesc) (hD : ∀ k, WfDesc (D k)) (n : Nat) {h : Heap} {U : Nat → Nat} {P PB : List Nat} {x : Nat} {o : Obj}
    (hb : Bal h U P PB []) (hox : h.objs x = some o) (hxn : x < n + 1) {h' : Heap} {c : Nat} (he : sqfsCopy D (n + 1) h x = (h', some c)) :
    ∃ hB nb nr, Loops (sqfsCopy D n) h hB U P PB o (D o.kind) nb nr ∧ finishCopy (D o.kind) hB o nb nr = (h', some c) :=
  (sqfsCopy_step D hD n (sqfsCopy_bal D hD n) hb hox hxn he).2.2

theorem Bal.bufs_disjoint {h : Heap} {U : Nat → Nat} {P PB Z : List Nat} (hb : Bal h U P PB Z) {x y b : Nat} {ox oy : Obj}
    (hx : h.objs x = some ox) (hy : h.objs y = some oy) (hxz : x ∉ Z) (hyz : y ∉ Z) (hne : x ≠ y)
    (hbx : some b ∈ ox.bufs) : some b ∉ oy.bufs :=
  not_mem_of_slotCount_zero _ (hb.slot_once hx hxz hbx).2.2 hy (by simp [hyz, Ne.symm hne]) (hb.lt_nobj hy)

theorem Bal.setBuf {h : Heap} {U : Nat → Nat} {P PB Z : List Nat} (hb : Bal h U P PB Z) {b : Nat} (bf : Buf)
    (hl : (h.bufs b).isSome) : Bal { h with bufs := upd h.bufs b (some bf) } U P PB Z :=
  hb.bufStep b (some bf) (Nat.le_refl _) (fun _ => hb.bufBound b hl) (fun _ _ => rfl) (hb.bufLive b hl)

theorem slot_owned {ox : Obj} (hviews : ∀ v, some v ∈ ox.views → some v ∈ ox.bufs) {s b : Nat}
    (hs : listGet (ox.bufs ++ ox.views) s = some b) : some b ∈ ox.bufs :=
  mem_bufs_of_mem_slots hviews (listGet_mem hs)

theorem Bal.writeSlot_eq {h : Heap} {U : Nat → Nat} {P PB Z : List Nat} (hb : Bal h U P PB Z) {x : Nat} {ox : Obj}
    (hx : h.objs x = some ox) (hz : x ∉ Z) (s v : Nat) :
    Sqfs.Obj.writeSlot h x s v = h ∨ ∃ b bf, some b ∈ ox.bufs ∧ h.bufs b = some bf ∧
      Sqfs.Obj.writeSlot h x s v = { h with bufs := upd h.bufs b (some { bf with val := v }) } := by
  unfold Sqfs.Obj.writeSlot
  simp only [hb.ok, hx]
  cases hs : listGet (ox.bufs ++ ox.views) s with
  | none => exact Or.inl rfl
  | some b =>
    have hown := slot_owned (hb.views_owned hx hz) hs
    obtain ⟨bf, hbf⟩ := Option.isSome_iff_exists.mp (hb.buf_live hx hz hown)
    simp only [hbf]
    exact Or.inr ⟨b, bf, hown, hbf, rfl⟩

theorem Bal.writeSlot {h : Heap} {U : Nat → Nat} {P PB Z : List Nat} (hb : Bal h U P PB Z) {x : Nat} {ox : Obj}
    (hx : h.objs x = some ox) (hz : x ∉ Z) (s v : Nat) : Bal (Sqfs.Obj.writeSlot h x s v) U P PB Z := by
  rcases hb.writeSlot_eq hx hz s v with e | ⟨b, bf, _, hbf, e⟩ <;> rw [e]
  · exact hb
  · exact hb.setBuf _ (by simp [hbf])

theorem writeSlot_objs (h : Heap) (x s v : Nat) : (Sqfs.Obj.writeSlot h x s v).objs = h.objs := by
  unfold Sqfs.Obj.writeSlot Heap.fail
  repeat' split
  all_goals rfl

/-- a sequence of stores through slots / internal pointers of object `x` -/
def writes (h : Heap) (x : Nat) (ws : List (Nat × Nat)) : Heap := ws.foldl (fun h w => Sqfs.Obj.writeSlot h x w.1 w.2) h

end Sqfs.Obj
