/-
C17 — lemmas for `Sqfs/Model/C17Mkfs.lean` (flag hand-over of `pack_files` / `pack_file`) and for the flag-list decoder
of `Sqfs/Model/Sort.lean` (`applyFlagNames`): flag words seen through `Pack.Flags.ofNat`.
-/
import Sqfs.Model.C17Mkfs
import Sqfs.Proofs.Bits
namespace Sqfs.C17Mkfs
open Sqfs.Sort Sqfs.Pack

theorem testBit_or (a b bit : Nat) : testBit (a ||| b) bit = (testBit a bit || testBit b bit) :=
  Nat.or_and_bne_zero a b bit

theorem ofNat_zero : Flags.ofNat 0 = {} := by decide

theorem ofNat_or_dontFragment (n : Nat) :
    Flags.ofNat (n ||| Consts.blkDontFragment) = { Flags.ofNat n with dontFragment := true } := by
  simp only [Flags.ofNat, testBit_or]
  have h1 : testBit Consts.blkDontFragment Consts.blkDontCompress = false := by decide
  have h2 : testBit Consts.blkDontFragment Consts.blkDontHash = false := by decide
  have h3 : testBit Consts.blkDontFragment Consts.blkDontFragment = true := by decide
  have h4 : testBit Consts.blkDontFragment Consts.blkDontDeduplicate = false := by decide
  have h5 : testBit Consts.blkDontFragment Consts.blkIgnoreSparse = false := by decide
  simp [h1, h2, h3, h4, h5]

theorem ofNat_packFileFlags (nt : Bool) (B size n : Nat) :
    Flags.ofNat (packFileFlags nt B size n) = effectiveFlags nt B size (Flags.ofNat n) := by
  unfold packFileFlags effectiveFlags
  split
  · exact ofNat_or_dontFragment n
  · rfl

theorem packFiles_eq_map (nt : Bool) (B : Nat) (content : List UInt8 → List UInt8) (fs : List FileEnt) :
    packFiles nt B content fs = fs.map (packFile nt B content) := by
  induction fs with
  | nil => rfl
  | cons f fs ih => simp [packFiles, ih]

/-- the bit a flag name stands for (`decode_flags`, the `strcmp` chain); `glob` / `glob_no_path` set no bit -/
def nameBit (a : List UInt8) : Nat :=
  if a = nmDontFragment then Consts.blkDontFragment
  else if a = nmDontCompress then Consts.blkDontCompress
  else if a = nmDontDeduplicate then Consts.blkDontDeduplicate
  else if a = nmNosparse then Consts.blkIgnoreSparse
  else 0

theorem nameBit_glob_no_path : nameBit (nmGlobNoPath) = 0 := by decide
theorem nameBit_glob : nameBit (nmGlob) = 0 := by decide

theorem applyFlagNames_flags (args : List (List UInt8)) (d0 d : Directives) (h : applyFlagNames d0 args = .ok d) :
    d.flags = (args.map trim).foldl (fun acc a => acc ||| nameBit a) d0.flags := by
  -- one case per branch of the `strcmp` chain; `nameBit` is the same chain from the third name on
  fun_induction applyFlagNames d0 args with
  | case1 d0 => cases h; rfl
  | case2 d0 a as a' e ih =>
    rw [ih h, List.map_cons, List.foldl_cons, show trim a = nmGlobNoPath from e, nameBit_glob_no_path, Nat.or_zero]
  | case3 d0 a as a' _ e ih => rw [ih h, List.map_cons, List.foldl_cons, show trim a = nmGlob from e, nameBit_glob, Nat.or_zero]
  | case4 d0 a as a' _ _ e ih => rw [ih h, List.map_cons, List.foldl_cons, nameBit, if_pos e]
  | case5 d0 a as a' _ _ n1 e ih => rw [ih h, List.map_cons, List.foldl_cons, nameBit, if_neg n1, if_pos e]
  | case6 d0 a as a' _ _ n1 n2 e ih => rw [ih h, List.map_cons, List.foldl_cons, nameBit, if_neg n1, if_neg n2, if_pos e]
  | case7 d0 a as a' _ _ n1 n2 n3 e ih =>
    rw [ih h, List.map_cons, List.foldl_cons, nameBit, if_neg n1, if_neg n2, if_neg n3, if_pos e]
  | case8 => cases h

theorem testBit_foldl (bit : Nat) : ∀ (l : List (List UInt8)) (x : Nat),
    testBit (l.foldl (fun acc a => acc ||| nameBit a) x) bit = (testBit x bit || l.any (fun a => testBit (nameBit a) bit)) := by
  intro l
  induction l with
  | nil => intro x; simp
  | cons a l ih => intro x; simp [List.foldl_cons, ih, testBit_or, Bool.or_assoc]

theorem ofNat_nameBit (a : List UInt8) :
    Flags.ofNat (nameBit a) =
      { dontCompress := a == nmDontCompress
        dontHash := false
        dontFragment := a == nmDontFragment
        dontDedup := a == nmDontDeduplicate
        ignoreSparse := a == nmNosparse } := by
  unfold nameBit
  by_cases h1 : a = nmDontFragment
  · subst h1; decide
  by_cases h2 : a = nmDontCompress
  · subst h2; decide
  by_cases h3 : a = nmDontDeduplicate
  · subst h3; decide
  by_cases h4 : a = nmNosparse
  · subst h4; decide
  rw [if_neg h1, if_neg h2, if_neg h3, if_neg h4, ofNat_zero, beq_false_of_ne h1, beq_false_of_ne h2, beq_false_of_ne h3,
    beq_false_of_ne h4]

theorem testBit_nameBit_dontCompress (a : List UInt8) : testBit (nameBit a) Consts.blkDontCompress = (a == nmDontCompress) :=
  congrArg Flags.dontCompress (ofNat_nameBit a)

theorem testBit_nameBit_dontHash (a : List UInt8) : testBit (nameBit a) Consts.blkDontHash = false :=
  congrArg Flags.dontHash (ofNat_nameBit a)

theorem testBit_nameBit_dontFragment (a : List UInt8) : testBit (nameBit a) Consts.blkDontFragment = (a == nmDontFragment) :=
  congrArg Flags.dontFragment (ofNat_nameBit a)

theorem testBit_nameBit_dontDeduplicate (a : List UInt8) :
    testBit (nameBit a) Consts.blkDontDeduplicate = (a == nmDontDeduplicate) :=
  congrArg Flags.dontDedup (ofNat_nameBit a)

theorem testBit_nameBit_ignoreSparse (a : List UInt8) : testBit (nameBit a) Consts.blkIgnoreSparse = (a == nmNosparse) :=
  congrArg Flags.ignoreSparse (ofNat_nameBit a)

end Sqfs.C17Mkfs
