/-
C01 — the record side of the xattr writer on *strings*: interning, replace-by-key, and the invariant every reachable
writer state satisfies.
-/
import Sqfs.Spec.EncXattrSpec
import Sqfs.Proofs.EncXattr
import Sqfs.Proofs.ListFacts
namespace Sqfs.Enc

def strPair (w : XWriter) (p : Nat × Nat) : Bytes × Bytes := (keyOf w p.1, valOf w p.2)

def idxPair (w : XWriter) (kv : Bytes × Bytes) : Nat × Nat := (w.keys.idxOf kv.1, (w.values.map (·.1)).idxOf kv.2)

/-- `canonStep` for pairs of any kind: a key that is already there gets the new value, a new key goes to the end -/
def upsert {α β : Type} [DecidableEq α] (acc : List (α × β)) (kv : α × β) : List (α × β) :=
  if kv.1 ∈ acc.map (·.1) then acc.map (fun e => if e.1 = kv.1 then kv else e) else acc ++ [kv]

theorem canonStep_eq (acc : List (Bytes × Bytes)) (kv : Bytes × Bytes) : canonStep acc kv = upsert acc kv := by
  unfold canonStep upsert
  congr   -- the two differ in their `Decidable` instances only

theorem map_replace_keys {α β : Type} [DecidableEq α] (kv : α × β) (acc : List (α × β)) :
    (acc.map (fun e => if e.1 = kv.1 then kv else e)).map (·.1) = acc.map (·.1) := by
  rw [List.map_map]
  apply List.map_congr_left
  intro e _
  show (if e.1 = kv.1 then kv else e).1 = e.1
  by_cases h : e.1 = kv.1
  · rw [if_pos h, h]
  · rw [if_neg h]

section
variable {α β : Type} [DecidableEq α] {acc : List (α × β)} {kv : α × β}

theorem mem_upsert {e : α × β} (h : e ∈ upsert acc kv) : e ∈ acc ∨ e = kv := by
  unfold upsert at h
  by_cases hin : kv.1 ∈ acc.map (·.1)
  · rw [if_pos hin] at h
    obtain ⟨x, hx, rfl⟩ := List.mem_map.mp h
    by_cases hk : x.1 = kv.1
    · rw [if_pos hk]; exact Or.inr rfl
    · rw [if_neg hk]; exact Or.inl hx
  · rw [if_neg hin] at h
    exact (List.mem_append.mp h).imp_right List.mem_singleton.mp

theorem upsert_keys_nodup (h : (acc.map (·.1)).Nodup) : ((upsert acc kv).map (·.1)).Nodup := by
  unfold upsert
  by_cases hin : kv.1 ∈ acc.map (·.1)
  · rw [if_pos hin, map_replace_keys]; exact h
  · rw [if_neg hin, List.map_append]; exact List.nodup_snoc h hin

theorem map_upsert {γ δ : Type} [DecidableEq γ] (g : α × β → γ × δ) (hg : ∀ e ∈ acc, (g e).1 = (g kv).1 ↔ e.1 = kv.1) :
    (upsert acc kv).map g = upsert (acc.map g) (g kv) := by
  have hmem : (g kv).1 ∈ (acc.map g).map (·.1) ↔ kv.1 ∈ acc.map (·.1) := by
    simp only [List.map_map, List.mem_map, Function.comp]
    exact ⟨fun ⟨e, he, h⟩ => ⟨e, he, (hg e he).mp h⟩, fun ⟨e, he, h⟩ => ⟨e, he, (hg e he).mpr h⟩⟩
  unfold upsert
  by_cases hin : kv.1 ∈ acc.map (·.1)
  · rw [if_pos hin, if_pos (hmem.mpr hin), List.map_map, List.map_map]
    apply List.map_congr_left
    intro e he
    by_cases hk : e.1 = kv.1
    · simp only [Function.comp, if_pos hk, if_pos ((hg e he).mpr hk)]
    · simp only [Function.comp, if_neg hk, if_neg (fun h => hk ((hg e he).mp h))]
  · rw [if_neg hin, if_neg (fun h => hin (hmem.mp h)), List.map_append]; rfl

end

theorem map_replace_id (kp : Nat × Nat) : ∀ (r : List (Nat × Nat)), kp.1 ∉ r.map (·.1) →
    r.map (fun e => if e.1 = kp.1 then kp else e) = r := by
  intro r h
  induction r with
  | nil => rfl
  | cons e r ih =>
    simp only [List.map_cons, List.mem_cons, not_or] at h
    simp only [List.map_cons]
    rw [if_neg (fun he => h.1 he.symm), ih h.2]

theorem replacePair_none (kp : Nat × Nat) : ∀ (cur : List (Nat × Nat)), kp.1 ∉ cur.map (·.1) →
    replacePair kp cur = none ∧ upsert cur kp = cur ++ [kp] := by
  intro cur h
  refine ⟨?_, if_neg h⟩
  induction cur with
  | nil => rfl
  | cons e r ih =>
    simp only [List.map_cons, List.mem_cons, not_or] at h
    simp only [replacePair]
    have h1 : ¬ e = kp := fun he => h.1 (by rw [he])
    have h2 : ¬ e.1 = kp.1 := fun he => h.1 he.symm
    rw [if_neg h1, if_neg h2, ih h.2]; rfl

theorem replacePair_some (kp : Nat × Nat) : ∀ (cur : List (Nat × Nat)), (cur.map (·.1)).Nodup → kp.1 ∈ cur.map (·.1) →
    ∃ old, replacePair kp cur = some (upsert cur kp, old) := by
  intro cur hn hm
  rw [upsert, if_pos hm]
  induction cur with
  | nil => simp at hm
  | cons e r ih =>
    simp only [List.map_cons, List.nodup_cons] at hn
    simp only [replacePair, List.map_cons]
    by_cases h1 : e = kp
    · rw [if_pos h1]
      subst h1
      exact ⟨none, by rw [if_pos rfl, map_replace_id _ r hn.1]⟩
    · rw [if_neg h1]
      by_cases h2 : e.1 = kp.1
      · rw [if_pos h2, if_pos h2]
        exact ⟨some e.2, by rw [map_replace_id kp r (by rw [← h2]; exact hn.1)]⟩
      · rw [if_neg h2, if_neg h2]
        simp only [List.map_cons, List.mem_cons] at hm
        obtain ⟨old, ho⟩ := ih hn.2 (hm.resolve_left (fun h => h2 h.symm))
        exact ⟨old, by rw [ho]; rfl⟩

theorem getD_append_left {α : Type} (l x : List α) (i : Nat) (d : α) (h : i < l.length) : (l ++ x).getD i d = l.getD i d := by
  simp [List.getD_eq_getElem?_getD, List.getElem?_append_left h]

theorem nodup_getD_inj {α : Type} (l : List α) (hn : l.Nodup) (i j : Nat) (d : α) (hi : i < l.length) (hj : j < l.length)
    (h : l.getD i d = l.getD j d) : i = j := by
  simp only [List.getD_eq_getElem?_getD, List.getElem?_eq_getElem hi, List.getElem?_eq_getElem hj, Option.getD_some] at h
  exact (List.getElem_inj hn).mp h

theorem getD_idxOf {α : Type} [BEq α] [LawfulBEq α] (l : List α) (a d : α) (h : a ∈ l) :
    l.idxOf a < l.length ∧ l.getD (l.idxOf a) d = a := by
  have hlt := List.idxOf_lt_length_iff.mpr h
  exact ⟨hlt, by simp [List.getD_eq_getElem?_getD, List.getElem?_eq_getElem hlt]⟩

theorem idxOf_getD {α : Type} [BEq α] [LawfulBEq α] {l : List α} (hn : l.Nodup) {i : Nat} (d : α) (h : i < l.length) :
    l.idxOf (l.getD i d) = i := by
  rw [List.getD_eq_getElem?_getD, List.getElem?_eq_getElem h]; exact hn.idxOf_getElem i h

theorem getD_mem {α : Type} (l : List α) (i : Nat) (d : α) (h : i < l.length) : l.getD i d ∈ l := by
  rw [List.getD_eq_getElem?_getD, List.getElem?_eq_getElem h]; exact List.getElem_mem h

theorem getD_fst (l : List (Bytes × Nat)) (i : Nat) : (l.getD i ([], 0)).1 = (l.map (·.1)).getD i [] := by
  simp only [List.getD_eq_getElem?_getD, List.getElem?_map]
  cases l[i]? <;> rfl

/-- `str_table_get_index` on the strings alone: the table afterwards; the index handed out is that of the string in it -/
def intern (l : List Bytes) (a : Bytes) : List Bytes := if a ∈ l then l else l ++ [a]

theorem intern_spec (l : List Bytes) (a : Bytes) (hn : l.Nodup) :
    (intern l a).Nodup ∧ a ∈ intern l a ∧ (∃ e, intern l a = l ++ e) ∧ ∀ x ∈ intern l a, x ∈ l ∨ x = a := by
  unfold intern
  rcases Classical.em (a ∈ l) with h | h
  · rw [if_pos h]; exact ⟨hn, h, ⟨[], (List.append_nil l).symm⟩, fun x hx => Or.inl hx⟩
  · rw [if_neg h]
    exact ⟨List.nodup_snoc hn h, List.mem_append_right _ (List.mem_singleton_self a), ⟨[a], rfl⟩,
      fun x hx => (List.mem_append.mp hx).imp_right List.mem_singleton.mp⟩

theorem internKey_eq (keys : List Bytes) (k : Bytes) : internKey keys k = ((intern keys k).idxOf k, intern keys k) := by
  unfold internKey intern
  simp only [List.idxOf_lt_length_iff]
  rcases Classical.em (k ∈ keys) with h | h
  · rw [if_pos h, if_pos h]
  · rw [if_neg h, if_neg h, List.idxOf_append, if_neg h, List.idxOf_cons_self, Nat.zero_add]

theorem modify_map_fst (l : List (Bytes × Nat)) (i : Nat) (f : Bytes × Nat → Bytes × Nat) (hf : ∀ e, (f e).1 = e.1) :
    (l.modify i f).map (·.1) = l.map (·.1) := by
  induction l generalizing i with
  | nil => simp
  | cons e r ih =>
    cases i with
    | zero => simp [List.modify, hf]
    | succ i => simp only [List.modify_succ_cons, List.map_cons, ih]

/-- the value table, reference counts aside, is a string table like the key table -/
theorem internValue_eq (values : List (Bytes × Nat)) (v : Bytes) :
    (internValue values v).1 = (intern (values.map (·.1)) v).idxOf v
    ∧ (internValue values v).2.map (·.1) = intern (values.map (·.1)) v := by
  have hlt : (values.map (·.1)).idxOf v < values.length ↔ v ∈ values.map (·.1) := by
    rw [← List.idxOf_lt_length_iff, List.length_map]
  unfold internValue intern
  rcases Classical.em (v ∈ values.map (·.1)) with h | h
  · simp only [if_pos (hlt.mpr h), if_pos h, true_and]
    exact modify_map_fst _ _ _ (fun _ => rfl)
  · simp only [if_neg (mt hlt.mp h), if_neg h, List.idxOf_append, List.idxOf_cons_self, Nat.zero_add, List.length_map,
      List.map_append, true_and]
    rfl

theorem delRef_map_fst (values : List (Bytes × Nat)) (i : Nat) : (delRef values i).map (·.1) = values.map (·.1) :=
  modify_map_fst values i _ (fun _ => rfl)

/-- what holds of the writer between `begin` and `end` (and, with `kvStart = pairs.length`, between sets) -/
structure XCur (w : XWriter) : Prop where
  kN : w.keys.Nodup
  vN : (w.values.map (·.1)).Nodup
  rng : ∀ p ∈ w.pairs, p.1 < w.keys.length ∧ p.2 < w.values.length
  ks : w.kvStart ≤ w.pairs.length
  bl : ∀ b ∈ w.blocks, b.1 + b.2 ≤ w.kvStart
  cur : ((w.pairs.drop w.kvStart).map (·.1)).Nodup
  keyOk : ∀ k ∈ w.keys, (∃ t, prefixId k = some t) ∧ (afterDot k).length < 65536
  valOk : ∀ v ∈ w.values, v.1.length < 2 ^ 32

/-- the set collected so far, as strings -/
def curSet (w : XWriter) : List (Bytes × Bytes) := (w.pairs.drop w.kvStart).map (strPair w)

theorem curSet_beginSet (w : XWriter) : curSet (beginSet w) = [] := by
  simp only [curSet, beginSet, List.drop_length, List.map_nil]

theorem xcur_empty : XCur {} := ⟨by simp, by simp, by simp, by simp, by simp, by simp, by simp, by simp⟩

end Sqfs.Enc
