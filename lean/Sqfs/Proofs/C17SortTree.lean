/-
C17 — lemmas for `Sqfs/Model/C17SortTree.lean`: the sort commutes with forgetting the tree node a `FileEnt` belongs to.
-/
import Sqfs.Model.Sort
namespace Sqfs.C17SortTree
open Sqfs.Sort

theorem scanLow_map {α β : Type} (f : β → α) (prio : α → Int) (ys pre : List β) (low : β) (mid : List β) :
    (let r := scanLow (fun b => prio (f b)) pre low mid ys; (r.1.map f, f r.2.1, r.2.2.map f))
      = scanLow prio (pre.map f) (f low) (mid.map f) (ys.map f) := by
  fun_induction scanLow (fun b => prio (f b)) pre low mid ys with
  | case1 => rfl
  | case2 pre low mid y ys hlt ih => simpa [scanLow, hlt] using ih
  | case3 pre low mid y ys hge ih => simpa [scanLow, hge] using ih

theorem sortLoop_map {α β : Type} (f : β → α) (prio : α → Int) (n : Nat) (l out : List β) :
    (sortLoop (fun b => prio (f b)) n l out).map f = sortLoop prio n (l.map f) (out.map f) := by
  fun_induction sortLoop (fun b => prio (f b)) n l out with
  | case1 => rfl
  | case2 => rfl
  | case3 n x xs out r ih =>
    have h := scanLow_map f prio xs [] x []
    simp only [List.map_nil] at h
    rw [ih, List.map_cons, sortLoop, ← h]
    simp [r]

theorem sortBy_map {α β : Type} (f : β → α) (prio : α → Int) (l : List β) :
    (sortBy (fun b => prio (f b)) l).map f = sortBy prio (l.map f) := by
  simp [sortBy, sortLoop_map]

theorem mem_zip_of_map_eq {A B C : Type} (f : A → C) (g : B → C) (a : List A) (b : List B) (h : b.map g = a.map f) :
    ∀ x ∈ a.zip b, g x.2 = f x.1 := by
  intro x hx
  obtain ⟨i, hi⟩ := List.getElem?_of_mem hx
  obtain ⟨h1, h2⟩ := List.getElem?_zip_eq_some.1 hi
  have := congrArg (·[i]?) h
  simpa only [List.getElem?_map, h1, h2, Option.map_some, Option.some.injEq] using this

end Sqfs.C17SortTree
