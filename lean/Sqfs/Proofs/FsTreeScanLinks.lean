/-
C11: what a `--pack-dir` scan leaves in `links_unresolved`.  Every pending link is a hard-link node whose target is the
path the hard-link filter recorded for the first name of that file; at that path there is either nothing (`scan_directory`
dropped the first name: its parent directory is not in the tree) or the node made from that first name — never a directory,
never another link.  Hence post-processing does not depend on the order of the list (`postProcess_perm'`).
-/
import Sqfs.Proofs.FsTreePost
import Sqfs.Proofs.Bits
import Sqfs.Proofs.FsTree

namespace Sqfs.FsTree
open Sqfs.Consts

theorem and_mod_65536 (m : Nat) : (m % 65536) &&& 61440 = m &&& 61440 := by
  have h : m % 65536 = m &&& 65535 := by
    have := Nat.and_two_pow_sub_one_eq_mod m 16
    simpa using this.symm
  have h2 : (65535 &&& 61440 : Nat) = 61440 := by decide
  rw [h, Nat.and_assoc, h2]

theorem isType_mod (m ty : Nat) : isType (m % 65536) ty = isType m ty := by
  simp only [isType, sIFMT, and_mod_65536]

/-- `apply_changes` without DIR_SCAN_KEEP_MODE replaces the permission bits only -/
theorem typeBits_applyMode (m d : Nat) : ((m - (m &&& 4095)) ||| (d &&& 4095)) &&& 61440 = m &&& 61440 := by
  have hlt : ∀ x : Nat, x &&& 4095 < 4096 := fun x => Nat.lt_succ_of_le Nat.and_le_right
  -- `m` is its permission bits and the rest
  have hm : (m &&& 4095) ||| (m - (m &&& 4095)) = m := by
    have h1 : m &&& 4095 = m % 4096 := Nat.and_two_pow_sub_one_eq_mod m 12
    have h2 : m - m % 4096 = (m / 4096) <<< 12 := by
      rw [Nat.shiftLeft_eq]; have := Nat.div_add_mod m 4096; omega
    rw [h1, h2, Nat.or_comm, ← Nat.shiftLeft_add_eq_or_of_lt (Nat.mod_lt m (by decide)), Nat.shiftLeft_eq]
    have := Nat.div_add_mod m 4096; omega
  rw [Nat.or_comm, mask_perm _ _ (hlt d), ← mask_perm _ _ (hlt m), hm]

/-- `mknode` seen from the parent: the new node linked in with `insert_sorted`, `link_count++` -/
def addChild (leaf : TNode) (D : TNode) : TNode :=
  .mk D.name { D.attr with linkCount := D.attr.linkCount + 1 } (insertSorted leaf D.children)

theorem namePres_addChild (leaf : TNode) : NamePres (addChild leaf) := fun _ => rfl

theorem addChild_isDir (leaf D : TNode) : (addChild leaf D).isDir = D.isDir := rfl

/-- with the parent directory present and no child of that name, `fstree_add_generic` is `mknode` on that directory -/
theorem addPathAt_new (d : Defaults) (e : Ent) (x : Extra) (name : Name) :
    ∀ (pq : Path) (depth : Nat) (t t' D : TNode), lookup t pq = some D →
      childByName D.children name = none → addPathAt d e x depth (pq ++ [name]) t = some t' →
      t' = modifyAt (addChild (.mk name (mknodeAttr e x) [])) pq t
  | [], depth, t, t', D, hD, hnone, h => by
    cases hD
    rcases (addPathAt_cons_some h).2 with ⟨c, _, hc, _⟩ | ⟨c', _, hlink, ⟨-, rfl⟩ | ⟨hne, -⟩⟩
    · rw [hnone] at hc; cases hc
    · exact linkChild_some hlink
    · exact absurd rfl hne
  | c :: rest, depth, t, t', D, hD, hnone, h => by
    obtain ⟨-, ch, hch, hD'⟩ := lookup_cons_some hD
    rcases (addPathAt_cons_some h).2 with ⟨c0, c', hc, hrec, rfl⟩ | ⟨_, hc, -⟩
    · cases hch.symm.trans hc
      rw [modifyAt_cons, updChild_some _ hch, addPathAt_new d e x name rest _ ch c' D hD' hnone hrec]
    · rw [hch] at hc; cases hc

theorem lookup_addChild_leaf {D : TNode} {name : Name} {a : Attr} (hdir : D.isDir = true)
    (hnone : childByName D.children name = none) (c : Name) (r : Path) :
    lookup (addChild (.mk name a []) D) (c :: r) = if c :: r = [name] then some (.mk name a []) else lookup D (c :: r) := by
  by_cases hc : c = name
  · subst hc
    rw [show lookup (addChild (.mk c a []) D) (c :: r) = lookup (.mk c a []) r from
        lookup_mk_cons r hdir (childByName_insertBy_self (.mk c a []) hnone rfl),
      show lookup D (c :: r) = none by rw [lookup_cons, hdir, hnone]; rfl]
    cases r with
    | nil => rw [if_pos rfl]; rfl
    | cons c2 r' => rw [if_neg (by simp), lookup_leaf_cons]
  · rw [if_neg (by simp [hc]), lookup_cons, lookup_cons, addChild_isDir, addChild, TNode.children_mk, insertSorted,
      childByName_insertBy_ne (.mk name a []) D.children c hc]

/-- seen from a place that holds no directory, only the new leaf has changed -/
theorem addChild_frame {t D : TNode} {pq : Path} {name : Name} {a : Attr} (hD : lookup t pq = some D) (hdir : D.isDir = true)
    (hnone : childByName D.children name = none) (m : Path) (hnd : ∀ n, lookup t m = some n → n.isDir = false) :
    lookup (modifyAt (addChild (.mk name a [])) pq t) m = if m = pq ++ [name] then some (.mk name a []) else lookup t m := by
  by_cases hpre : pq <+: m
  · obtain ⟨r, rfl⟩ := hpre
    cases r with
    | nil => rw [List.append_nil] at hnd; rw [hnd D hD] at hdir; cases hdir
    | cons c r' =>
      rw [lookup_append, lookup_append, lookup_modifyAt_self (namePres_addChild _) hD, hD, Option.bind_some, Option.bind_some,
        lookup_addChild_leaf hdir hnone]
      simp only [List.append_cancel_left_eq]
  · rw [if_neg fun e => hpre ⟨[name], e.symm⟩]
    refine lookup_modifyAt_diverge (namePres_addChild _)
      ((path_trichotomy pq m).resolve_right fun h => h.elim hpre fun hp => ?_) t
    -- a place on the way to `pq` holds a directory
    obtain ⟨y, hy, hyd⟩ := lookup_prefix_isDir hD hdir hp
    rw [hnd y hy] at hyd; cases hyd

theorem addChild_dom {t D : TNode} {pq : Path} {name : Name} {a : Attr} (hD : lookup t pq = some D) (hdir : D.isDir = true)
    (hnone : childByName D.children name = none) (m : Path) (n' : TNode)
    (h : lookup (modifyAt (addChild (.mk name a [])) pq t) m = some n') :
    m = pq ++ [name] ∨ ∃ n, lookup t m = some n := by
  cases h0 : lookup t m with
  | some n => exact Or.inr ⟨n, rfl⟩
  | none =>
    rw [addChild_frame hD hdir hnone m (by rw [h0]; nofun), h0] at h
    exact Or.inl (Decidable.by_contra fun hm => by rw [if_neg hm] at h; cases h)

def Plain (n : TNode) : Prop := n.isHardLink = false ∧ n.isDir = false

/-- `V`: paths of the entries consumed so far; `T`: the paths the hard-link filter has recorded as link targets -/
structure ScanInv (V T : List Path) (tree : TNode) (links : List Path) : Prop where
  /-- nodes exist only at consumed paths -/
  dom : ∀ p n, lookup tree p = some n → p = [] ∨ p ∈ V
  tgtV : ∀ m ∈ T, m ∈ V
  /-- what sits at a recorded target is neither a directory nor a link -/
  seenPlain : ∀ m ∈ T, ∀ n, lookup tree m = some n → Plain n
  /-- a pending link is a hard-link node pointing at a recorded target -/
  linksOK : ∀ p ∈ links, ∃ n tgt, lookup tree p = some n ∧ n.isHardLink = true ∧ n.attr.extra = .link tgt none ∧ tgt ∈ T

theorem ScanInv.mono {V V' T : List Path} {t : TNode} {l : List Path} (h : ScanInv V T t l) (hV : V ⊆ V') :
    ScanInv V' T t l :=
  ⟨fun p n hp => (h.dom p n hp).imp id (@hV p), fun m hm => hV (h.tgtV m hm), h.seenPlain, h.linksOK⟩

theorem ScanInv.lookup_fresh {V T : List Path} {t : TNode} {l : List Path} (inv : ScanInv V T t l) {q : Path} {n : Name}
    (hq : q ++ [n] ∉ V) : lookup t (q ++ [n]) = none := by
  cases h : lookup t (q ++ [n]) with
  | none => rfl
  | some x => exact ((inv.dom _ x h).elim (by simp) hq).elim

theorem ScanInv.addTarget {V T : List Path} {t : TNode} {l : List Path} {q : Path} (h : ScanInv V T t l) (hq : q ∈ V)
    (hplain : ∀ n, lookup t q = some n → Plain n) : ScanInv V (q :: T) t l := by
  refine ⟨h.dom, List.forall_mem_cons.mpr ⟨hq, h.tgtV⟩, List.forall_mem_cons.mpr ⟨hplain, h.seenPlain⟩, fun p hp => ?_⟩
  obtain ⟨n, tgt, h1, h2, h3, h4⟩ := h.linksOK p hp
  exact ⟨n, tgt, h1, h2, h3, List.mem_cons_of_mem _ h4⟩

theorem ScanInv.pushLink {V T : List Path} {t n : TNode} {l : List Path} {p tgt : Path} (h : ScanInv V T t l)
    (hp : lookup t p = some n) (hn : n.isHardLink = true) (hx : n.attr.extra = .link tgt none) (ht : tgt ∈ T) :
    ScanInv V T t (p :: l) :=
  ⟨h.dom, h.tgtV, h.seenPlain, List.forall_mem_cons.mpr ⟨⟨n, tgt, hp, hn, hx, ht⟩, h.linksOK⟩⟩

theorem mknodeAttr_hard (e : Ent) (x : Extra) (h : e.hard = true) :
    (TNode.mk n (mknodeAttr e x) []).isHardLink = true ∧ (mknodeAttr e x).extra = x := by
  have h1 : isType (sIFLNK ||| 511) sIFLNK = true := by decide
  simp only [TNode.isHardLink, TNode.attr_mk, mknodeAttr, h, if_true, h1, Bool.or_true, Bool.and_self, and_self]

theorem mknodeAttr_plain (e : Ent) (x : Extra) (h : e.hard = false) (hd : isDirMode e.mode = false) :
    Plain (TNode.mk n (mknodeAttr e x) []) := by
  refine ⟨?_, ?_⟩
  · simp [TNode.isHardLink, mknodeAttr, h]
  · simp only [TNode.isDir, TNode.attr_mk, mknodeAttr, h, Bool.false_eq_true, if_false]
    split
    · decide
    · simp only [isDirMode] at hd ⊢
      rw [isType_mod]; exact hd

theorem ScanInv.addLeaf {V T : List Path} {t D : TNode} {links : List Path} (inv : ScanInv V T t links) {pq : Path}
    {name : Name} (a : Attr) (hD : lookup t pq = some D) (hdir : D.isDir = true) (hq : pq ++ [name] ∉ V) :
    lookup (modifyAt (addChild (.mk name a [])) pq t) (pq ++ [name]) = some (.mk name a []) ∧
      ScanInv ((pq ++ [name]) :: V) T (modifyAt (addChild (.mk name a [])) pq t) links := by
  have hnoq := inv.lookup_fresh hq
  have hnone : childByName D.children name = none := lookup_child name hD hdir ▸ hnoq
  have frame := fun m => addChild_frame (a := a) hD hdir hnone m
  refine ⟨by rw [frame _ (fun n hn => by rw [hnoq] at hn; cases hn), if_pos rfl], ?_,
    fun m hm => List.mem_cons_of_mem _ (inv.tgtV m hm), ?_, ?_⟩
  · intro p n hp
    rcases addChild_dom hD hdir hnone p n hp with h0 | ⟨n0, h0⟩
    · exact Or.inr (h0 ▸ List.mem_cons_self)
    · exact (inv.dom p n0 h0).imp id (List.mem_cons_of_mem _)
  · intro m hm n hn
    rw [frame m (fun n' hn' => (inv.seenPlain m hm n' hn').2), if_neg (fun e : m = pq ++ [name] => hq (e ▸ inv.tgtV m hm))] at hn
    exact inv.seenPlain m hm n hn
  · -- a pending link is no directory and is not at the new place
    intro p hp
    obtain ⟨n, tgt, h1, h2, h3, h4⟩ := inv.linksOK p hp
    refine ⟨n, tgt, ?_, h2, h3, h4⟩
    rw [frame p (fun n' hn' => by rw [h1] at hn'; cases hn'; exact isHardLink_not_dir h2),
      if_neg (fun e => by rw [e, hnoq] at h1; cases h1), h1]

mutual
/-- the paths of all entries at or below a node of the host forest (`rel` = path of the directory it is in) -/
def allPathsNode (rel : Path) : HNode → List Path
  | .mk n _ _ c => (rel ++ [n]) :: allPathsList (rel ++ [n]) c
def allPathsList (rel : Path) : List HNode → List Path
  | [] => []
  | x :: xs => allPathsNode rel x ++ allPathsList rel xs
end

mutual
theorem mem_allPathsNode (rel : Path) : ∀ (x : HNode) (p : Path), p ∈ allPathsNode rel x → ∃ r, p = rel ++ x.name :: r
  | .mk n s t c, p, hp => by
    simp only [allPathsNode, List.mem_cons] at hp
    rcases hp with rfl | hp
    · exact ⟨[], rfl⟩
    · obtain ⟨y, _, r, rfl⟩ := mem_allPathsList (rel ++ [n]) c p hp
      exact ⟨y.name :: r, List.append_assoc ..⟩
theorem mem_allPathsList (rel : Path) : ∀ (l : List HNode) (p : Path), p ∈ allPathsList rel l →
    ∃ x ∈ l, ∃ r, p = rel ++ x.name :: r
  | [], p, hp => by simp [allPathsList] at hp
  | x :: xs, p, hp => by
    simp only [allPathsList, List.mem_append] at hp
    rcases hp with hp | hp
    · exact ⟨x, List.mem_cons_self, mem_allPathsNode rel x p hp⟩
    · obtain ⟨y, hy, h⟩ := mem_allPathsList rel xs p hp
      exact ⟨y, List.mem_cons_of_mem _ hy, h⟩
end

theorem not_mem_allPathsList_self (q : Path) (l : List HNode) : q ∉ allPathsList q l := fun h => by
  obtain ⟨x, _, r, hr⟩ := mem_allPathsList q l q h
  exact List.cons_ne_nil _ _ (List.self_eq_append_right.mp hr)

mutual
theorem allPathsNode_nodup (rel : Path) : ∀ (x : HNode), WFNode x → (allPathsNode rel x).Nodup
  | .mk n s t c, h => by
    rw [wfNode_mk] at h
    simp only [allPathsNode, List.nodup_cons]
    exact ⟨not_mem_allPathsList_self _ c, allPathsList_nodup (rel ++ [n]) c h⟩
theorem allPathsList_nodup (rel : Path) : ∀ (l : List HNode), WFList l → (allPathsList rel l).Nodup
  | [], _ => by simp [allPathsList]
  | x :: xs, h => by
    rw [wfList_cons] at h
    simp only [allPathsList]
    rw [List.nodup_append]
    refine ⟨allPathsNode_nodup rel x h.2.1, allPathsList_nodup rel xs h.2.2, ?_⟩
    -- a path below `x` and a path below a later entry differ in the component after `rel`
    rintro a ha _ hb rfl
    obtain ⟨r, rfl⟩ := mem_allPathsNode rel x a ha
    obtain ⟨y, hy, r', e⟩ := mem_allPathsList rel xs _ hb
    exact h.1 y hy (List.cons.inj (List.append_cancel_left e)).1.symm
end

theorem treeIterStep_out {cfg : Cfg} {fnm : Fnm} {e e2 : Ent} (h : (treeIterStep cfg fnm e).1 = some e2) :
    e2 = applyChanges cfg e := by
  revert h; fun_cases treeIterStep cfg fnm e <;> intro h <;> first | cases h | exact (Option.some.inj h).symm

theorem applyChanges_isType (cfg : Cfg) (e : Ent) (ty : Nat) : isType (applyChanges cfg e).mode ty = isType e.mode ty := by
  simp only [applyChanges]
  split
  · rfl
  · simp only [isType, sIFMT]
    rw [typeBits_applyMode e.mode cfg.defMode]

def targets (seen : List ((Nat × Nat) × Path)) : List Path := seen.map (·.2)

theorem seenLookup_mem {seen : List ((Nat × Nat) × Path)} {k : Nat × Nat} {v : Path} (h : seenLookup seen k = some v) :
    v ∈ targets seen := by
  induction seen with
  | nil => simp [seenLookup] at h
  | cons x xs ih =>
    obtain ⟨k', v'⟩ := x
    simp only [seenLookup] at h
    split at h
    · cases h; simp [targets]
    · simp only [targets, List.map_cons, List.mem_cons]; exact Or.inr (ih h)

/-- what the iterators hand to `scan_directory` for the entry at path `p` -/
structure IterPassed (seen : List ((Nat × Nat) × Path)) (p : Path) (it : IterOut) : Prop where
  path : ∀ e2, it.out = some e2 → e2.path = p
  /-- the hard-link filter sees only what is delivered -/
  dropped : it.out = none → it.seen = seen
  /-- the filter's table is as before, and the entry delivered, if it has become a link, points to a path remembered before; or
  the entry delivered is no link and no directory and has been remembered -/
  table : (it.seen = seen ∧ ∀ e2, it.out = some e2 → e2.hard = true →
        ∃ tgt, it.hlTarget = some tgt ∧ tgt ∈ targets seen ∧ isType e2.mode sIFLNK = true) ∨
      (targets it.seen = p :: targets seen ∧ ∀ e2, it.out = some e2 → e2.hard = false ∧ isDirMode e2.mode = false)

/-- the hard-link filter (`nohl`: switched off) on an entry `e` that is not a link yet -/
theorem hlNext_cases (nohl rc : Bool) (seen : List ((Nat × Nat) × Path)) (e : Ent) (he : e.hard = false) {p : Path}
    (hp : e.path = p) :
    IterPassed seen p
      { out := some (if nohl then (e, none, seen) else hlNext seen e).1, recurse := rc,
        hlTarget := (if nohl then (e, none, seen) else hlNext seen e).2.1,
        seen := (if nohl then (e, none, seen) else hlNext seen e).2.2 } := by
  subst hp
  have pass : IterPassed seen e.path { out := some e, recurse := rc, hlTarget := none, seen := seen } :=
    ⟨fun _ h => by cases h; rfl, nofun, Or.inl ⟨rfl, fun _ h hh => by cases h; rw [he] at hh; cases hh⟩⟩
  cases nohl with
  | true => exact pass
  | false =>
    rw [if_neg Bool.false_ne_true]
    fun_cases hlNext seen e
    · exact pass
    · exact ⟨fun _ h => by cases h; rfl, nofun, Or.inl ⟨rfl, fun _ h _ => by
        cases h; exact ⟨_, rfl, seenLookup_mem ‹_›, show isType (inodeModeLnk ||| 511) sIFLNK = true by decide⟩⟩⟩
    · exact ⟨fun _ h => by cases h; rfl, nofun, Or.inr ⟨rfl, fun _ h => by
        cases h; exact ⟨he, by simpa using ‹¬ isDirMode e.mode = true›⟩⟩⟩

theorem iterStep_cases (cfg : Cfg) (fnm : Fnm) (rel : Path) (dirDev : Nat) (seen : List ((Nat × Nat) × Path)) (name : Name)
    (s : Stat) (hp : cfg.pfx = []) :
    IterPassed seen (rel ++ [name]) (iterStep cfg fnm rel dirDev seen name s) := by
  cases hti : (treeIterStep cfg fnm (nativeEntry rel dirDev name s)).1 with
  | none =>
    simp only [iterStep, hti]
    exact ⟨nofun, fun _ => rfl, .inl ⟨rfl, nofun⟩⟩
  | some e1 =>
    have he1 := treeIterStep_out hti
    simp only [iterStep, hti]
    exact hlNext_cases _ _ seen e1 (by rw [he1]; rfl) (by rw [he1]; simp [applyChanges, hp, nativeEntry])

/-- `scan_directory` on an entry the iterators have passed for a path not consumed yet -/
theorem scanStep_inv {V : List Path} {seen : List ((Nat × Nat) × Path)} {t t' : TNode} {links links' : List Path}
    (inv : ScanInv V (targets seen) t links) {d : Defaults} {cfg : Cfg} {it : IterOut} {e2 : Ent} {target : List UInt8} {ig : Bool}
    {pq : Path} {name : Name} (hit : IterPassed seen (pq ++ [name]) it) (hout : it.out = some e2)
    (hq : pq ++ [name] ∉ V) (h : scanStep d cfg e2 it.hlTarget target t links = some (t', links', ig)) :
    ScanInv ((pq ++ [name]) :: V) (targets it.seen) t' links' := by
  have hpath := hit.path e2 hout
  have hnoq := inv.lookup_fresh hq
  rcases scanStep_some h with ⟨-, rfl, rfl⟩ | ⟨hP, hadd, rfl⟩
  · -- parent missing: entry dropped; if its path has been remembered, there is nothing at it
    have inv' := inv.mono (List.subset_cons_self (pq ++ [name]) V)
    rcases hit.table with ⟨hs, -⟩ | ⟨hs, -⟩
    · rw [hs]; exact inv'
    · rw [hs]; exact inv'.addTarget List.mem_cons_self fun n hn => by rw [hnoq] at hn; cases hn
  · rw [hpath] at hP hadd
    obtain ⟨D, hD, hdir⟩ := parentOf_snoc_isSome hP
    cases addPathAt_new d e2 _ name pq 0 t t' D hD (lookup_child name hD hdir ▸ hnoq) hadd
    obtain ⟨hnew, hinv⟩ := inv.addLeaf (mknodeAttr e2 (scanExtra cfg e2 it.hlTarget target)) hD hdir hq
    rcases hit.table with ⟨hs, hh⟩ | ⟨hs, hh⟩
    · rw [hs]
      by_cases hhard : e2.hard = true
      · -- the leaf is a link to a recorded target and is queued
        obtain ⟨tgt, htg, htT, hlnk⟩ := hh e2 hout hhard
        rw [if_pos hhard, hpath]
        refine hinv.pushLink hnew (mknodeAttr_hard e2 _ hhard).1 ?_ htT
        simp only [TNode.attr_mk, (mknodeAttr_hard (n := name) e2 _ hhard).2, scanExtra, hlnk, if_true, htg]
      · rw [if_neg hhard]; exact hinv
    · -- the leaf is made from the first name of a file
      obtain ⟨hnh, hnd⟩ := hh e2 hout
      rw [hs, if_neg (by rw [hnh]; nofun)]
      exact hinv.addTarget List.mem_cons_self fun n hn => by
        rw [hnew] at hn; cases hn; exact mknodeAttr_plain e2 _ hnh hnd

mutual
theorem walkNode_inv (d : Defaults) (cfg : Cfg) (fnm : Fnm) (hp : cfg.pfx = []) :
    ∀ (h : HNode) (rel : Path) (dirDev : Nat) (st st' : St) (V : List Path), WFNode h →
      ScanInv V (targets st.seen) st.tree st.links → (∀ p ∈ allPathsNode rel h, p ∉ V) →
      walkNode d cfg fnm rel dirDev h st = some st' →
      ScanInv (allPathsNode rel h ++ V) (targets st'.seen) st'.tree st'.links
  | .mk name s target children, rel, dirDev, st, st', V, hwf, inv, hfresh, hw => by
    have hqV : rel ++ [name] ∉ V := hfresh _ (by simp [allPathsNode])
    rcases walkNode_some hw with rfl | ⟨tree', links', ignored, hr, hrest⟩
    · exact inv.mono (List.subset_append_right _ _)
    · have hit := iterStep_cases cfg fnm rel dirDev st.seen name s hp
      -- the state after `scan_directory` has handled this entry
      have inv1 : ScanInv ((rel ++ [name]) :: V) (targets (iterStep cfg fnm rel dirDev st.seen name s).seen) tree' links' := by
        rcases hr with ⟨ho, rfl, rfl⟩ | ⟨e2, hout, hr⟩
        · rw [hit.dropped ho]; exact inv.mono (List.subset_cons_self (rel ++ [name]) V)
        · exact scanStep_inv inv hit hout hqV hr
      rcases hrest with hw' | rfl
      · -- descend into the sub-directory
        have hfresh' : ∀ p ∈ allPathsList (rel ++ [name]) children, p ∉ (rel ++ [name]) :: V := by
          intro p hp hmem
          rcases List.mem_cons.mp hmem with rfl | hmem'
          · exact not_mem_allPathsList_self _ children hp
          · exact hfresh p (by simp only [allPathsNode, List.mem_cons]; exact Or.inr hp) hmem'
        exact (walkList_inv d cfg fnm hp children (rel ++ [name]) s.dev _ st' _ ((wfNode_mk _ _ _ _).mp hwf) inv1
          hfresh' hw').mono List.perm_middle.subset
      · exact inv1.mono (List.cons_subset_cons _ (List.subset_append_right _ _))
theorem walkList_inv (d : Defaults) (cfg : Cfg) (fnm : Fnm) (hp : cfg.pfx = []) :
    ∀ (l : List HNode) (rel : Path) (dirDev : Nat) (st st' : St) (V : List Path), WFList l →
      ScanInv V (targets st.seen) st.tree st.links → (∀ p ∈ allPathsList rel l, p ∉ V) →
      walkList d cfg fnm rel dirDev l st = some st' →
      ScanInv (allPathsList rel l ++ V) (targets st'.seen) st'.tree st'.links
  | [], rel, dirDev, st, st', V, _, inv, _, hw => by
    simp only [walkList] at hw; cases hw
    simpa [allPathsList] using inv
  | x :: xs, rel, dirDev, st, st', V, hwf, inv, hfresh, hw => by
    have hnd := allPathsList_nodup rel (x :: xs) hwf
    simp only [allPathsList, List.nodup_append] at hnd
    rw [wfList_cons] at hwf
    rw [walkList_cons] at hw
    obtain ⟨st1, h1, hw⟩ := Option.bind_eq_some_iff.mp hw
    have inv1 := walkNode_inv d cfg fnm hp x rel dirDev st st1 V hwf.2.1 inv
      (fun p hp' => hfresh p (by simp only [allPathsList, List.mem_append]; exact Or.inl hp')) h1
    have hfresh' : ∀ p ∈ allPathsList rel xs, p ∉ allPathsNode rel x ++ V := by
      intro p hp' hmem
      rcases List.mem_append.mp hmem with hm | hm
      · exact hnd.2.2 p hm p hp' rfl
      · exact hfresh p (by simp only [allPathsList, List.mem_append]; exact Or.inr hp') hm
    rw [allPathsList, List.append_assoc]
    exact (walkList_inv d cfg fnm hp xs rel dirDev st1 st' _ hwf.2.2 inv1 hfresh' hw).mono
      (List.perm_append_comm_assoc ..).subset
end

theorem ScanInv.flatOrDangling {V T : List Path} {t : TNode} {l : List Path} (h : ScanInv V T t l) : FlatOrDangling t l := by
  intro p hp
  obtain ⟨n, tgt, h1, h2, h3, h4⟩ := h.linksOK p hp
  exact ⟨tgt, n, h1, h2, by rw [linkTargetOf, h3], h.seenPlain tgt h4⟩

theorem fperm_of_perm {l₁ l₂ : List HNode} (h : l₁.Perm l₂) : FPerm l₁ l₂ := by
  induction h with
  | nil => exact FPerm.nil
  | cons x _ ih =>
    obtain ⟨n, s, t, c⟩ := x
    exact FPerm.cons (fperm_refl c) ih
  | swap x y l => exact FPerm.trans (FPerm.swap y x l) (fperm_refl _)
  | trans _ _ ih₁ ih₂ => exact FPerm.trans ih₁ ih₂

theorem fperm_readNames (b : Bool) {l l' : List HNode} (h : FPerm l l') : FPerm l (readNames b l') :=
  FPerm.trans h (fperm_of_perm (readNames_perm_self b l').symm)

mutual
theorem fperm_nativeNode (b : Bool) : ∀ x : HNode, FPerm x.children (readNames b (nativeList b x.children))
  | .mk _ _ _ c => fperm_readNames b (fperm_nativeList b c)
theorem fperm_nativeList (b : Bool) : ∀ l : List HNode, FPerm l (nativeList b l)
  | [] => FPerm.nil
  | .mk n s t c :: xs => by
    simp only [nativeList, nativeNode]
    exact FPerm.cons (fperm_nativeNode b (.mk n s t c)) (fperm_nativeList b xs)
end

theorem fperm_nativeOrder (b : Bool) (l : List HNode) : FPerm l (nativeOrder b l) :=
  fperm_readNames b (fperm_nativeList b l)

theorem scanInv_init (d : Defaults) : ScanInv [] [] (initRoot d) [] := by
  refine ⟨?_, ?_, ?_, ?_⟩
  · intro p n hp
    cases p with
    | nil => exact Or.inl rfl
    | cons c r => simp only [initRoot, lookup_leaf_cons] at hp; cases hp
  · intro m hm; cases hm
  · intro m hm; cases hm
  · intro p hp; cases hp

/-- every link a `--pack-dir` scan leaves pending points at the node made from the first name of that file, or at nothing -/
theorem scanInto_links {sorted : Bool} {d : Defaults} {cfg : Cfg} {fnm : Fnm} {rootDev : Nat} {e : List HNode} {t : TNode}
    {links : List Path} (hp : cfg.pfx = []) (hwf : WFList e)
    (h : scanInto sorted d cfg fnm rootDev e (initRoot d) [] = some (t, links)) : FlatOrDangling t links := by
  simp only [scanInto] at h
  split at h
  · cases h
  · rename_i st hst
    cases h
    have hwf' : WFList (nativeOrder sorted e) := fperm_wf (fperm_nativeOrder sorted e) hwf
    have := walkList_inv d cfg fnm hp (nativeOrder sorted e) [] rootDev
      { seen := [], tree := initRoot d, links := [] } st [] hwf' (scanInv_init d) (fun _ _ hm => by cases hm) hst
    exact this.flatOrDangling

end Sqfs.FsTree
