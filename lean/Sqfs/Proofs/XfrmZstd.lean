/-
C15 — `zstd.c: process_data`: what one round of its loop does by answer of the library (`zstdBody_idle/_fail/_next`) and the
decision after the loop (`zstdStepOf`), for both directions; and the compressing side: libzstd's streaming convention
(`ZSTD_compressStream2`: the return value is 0 exactly when, under `ZSTD_e_end`, the frame is complete and flushed)
⇒ the loop with its `pending` flag is a codec that meets `EncContract`.
-/
import Sqfs.Proofs.XfrmWrap
namespace Sqfs.Xfrm

section Body
variable {τ : Type} (L : ZLib τ) (compress : Bool) (fl : Flush) (st : ZState τ) (inp : Bytes) (room ai : Nat) (ao : Bytes)

theorem zstdBody_idle (h : ¬ ((inp ≠ [] ∨ (st.pending = true ∧ fl = Flush.full)) ∧ 0 < room)) :
    zstdBody L compress fl (st, inp, room, ai, ao) = LoopStep.done ((st, inp, room, ai, ao), false) := by
  have : ((decide (0 < inp.length) || (st.pending && decide (fl = Flush.full))) && decide (0 < room)) = false := by
    simpa [List.length_pos_iff, ← Bool.not_eq_true] using h
  simp only [zstdBody, this, Bool.false_eq_true, if_false]

theorem zstdBody_cond {st : ZState τ} {inp : Bytes} {fl : Flush} {room : Nat}
    (hw : inp ≠ [] ∨ (st.pending = true ∧ fl = Flush.full)) (hr : 0 < room) :
    ((decide (0 < inp.length) || (st.pending && decide (fl = Flush.full))) && decide (0 < room)) = true := by
  simpa [List.length_pos_iff] using ⟨hw, hr⟩

theorem zstdBody_fail (hw : inp ≠ [] ∨ (st.pending = true ∧ fl = Flush.full)) (hr : 0 < room) : ∀ r, r = L.call st.lib inp room fl →
    r.isError = true ∨ (inp = [] ∧ r.consumed = 0 ∧ r.out = []) →
    zstdBody L compress fl (st, inp, room, ai, ao) = LoopStep.done (({ st with lib := r.st }, inp, room, ai, ao), true) := by
  rintro r rfl h
  rcases h with h | ⟨h1, h2, h3⟩
  · simp only [zstdBody, zstdBody_cond hw hr, if_true, h]
  · subst h1
    obtain ⟨hp, rfl⟩ := hw.resolve_left (fun h => h rfl)
    simp [zstdBody, hp, hr, h2, h3]

theorem zstdBody_next (hw : inp ≠ [] ∨ (st.pending = true ∧ fl = Flush.full)) (hr : 0 < room) : ∀ r, r = L.call st.lib inp room fl →
    r.isError = false → 0 < r.consumed + r.out.length →
    zstdBody L compress fl (st, inp, room, ai, ao) =
      LoopStep.next (⟨r.st, decide (r.hint ≠ 0) || (compress && decide (fl ≠ Flush.full))⟩,
        inp.drop r.consumed, room - r.out.length, ai + r.consumed, ao ++ r.out) := by
  rintro r rfl he hby
  have : (decide (inp.length = 0) && decide ((L.call st.lib inp room fl).consumed = 0) &&
      decide ((L.call st.lib inp room fl).out.length = 0)) = false := by
    rw [Bool.eq_false_iff]
    simp only [ne_eq, Bool.and_eq_true, decide_eq_true_eq]
    omega
  simp only [zstdBody, zstdBody_cond hw hr, if_true, he, this, Bool.false_eq_true, if_false]

/-- the decision of `process_data` after its loop: the result code, read off the final loop state and the error flag -/
def zstdStepOf {τ : Type} (fl : Flush) (r : ZWrapSt τ × Bool) : StepOut (ZState τ) :=
  if r.2 = true then ⟨r.1.1, r.1.2.2.2.1, r.1.2.2.2.2, Res.error⟩
  else if fl ≠ Flush.none ∧ r.1.2.1.length = 0 ∧ (!r.1.1.pending) = true then ⟨r.1.1, r.1.2.2.2.1, r.1.2.2.2.2, Res.streamEnd⟩
  else if 0 < r.1.2.1.length ∧ r.1.2.2.1 = 0 then ⟨r.1.1, r.1.2.2.2.1, r.1.2.2.2.2, Res.bufferFull⟩
  else ⟨r.1.1, r.1.2.2.2.1, r.1.2.2.2.2, Res.ok⟩

theorem zstdStepOf_ok : ∃ res, zstdStepOf fl ((st, inp, room, ai, ao), false) = ⟨st, ai, ao, res⟩ ∧ res ≠ Res.error ∧
    (res = Res.streamEnd ↔ fl ≠ Flush.none ∧ inp.length = 0 ∧ st.pending = false) ∧
    (res = Res.bufferFull ↔ 0 < inp.length ∧ room = 0) := by
  simp only [zstdStepOf, Bool.false_eq_true, if_false]
  by_cases hE : fl ≠ Flush.none ∧ inp.length = 0 ∧ (!st.pending) = true
  · exact ⟨_, if_pos hE, by simp, ⟨fun _ => ⟨hE.1, hE.2.1, by simpa using hE.2.2⟩, fun _ => rfl⟩,
      ⟨fun h => (by cases h), fun h => absurd hE.2.1 (by omega)⟩⟩
  · have hno : ¬ (fl ≠ Flush.none ∧ inp.length = 0 ∧ st.pending = false) := fun ⟨h1, h2, h3⟩ => hE ⟨h1, h2, by simp [h3]⟩
    rw [if_neg hE]
    by_cases hB : 0 < inp.length ∧ room = 0
    · exact ⟨_, if_pos hB, by simp, ⟨fun h => (by cases h), fun h => absurd h hno⟩, ⟨fun _ => hB, fun _ => rfl⟩⟩
    · exact ⟨_, if_neg hB, by simp, ⟨fun h => (by cases h), fun h => absurd h hno⟩, ⟨fun h => (by cases h), fun h => absurd h hB⟩⟩

theorem zstdProcess_of_loop {L : ZLib τ} {compress : Bool} {st : ZState τ} {inp : Bytes} {room : Nat} {fl : Flush}
    {r : ZWrapSt τ × Bool} (h : zstdLoop L compress fl (inp.length + room + 2) st inp room 0 [] = some r) :
    zstdProcess L compress st inp room fl = some (zstdStepOf fl r) := by
  obtain ⟨⟨st', inp', room', ai, ao⟩, err⟩ := r
  cases err with
  | true => simp only [zstdProcess, h]; rfl
  | false => simp only [zstdProcess, h, zstdStepOf, Bool.false_eq_true, if_false, apply_ite some]

theorem zstdCodec_step_of_loop {L : ZLib τ} {compress : Bool} {st : ZState τ} {inp : Bytes} {room : Nat} {fl : Flush}
    {r : ZWrapSt τ × Bool} (h : zstdLoop L compress fl (inp.length + room + 2) st inp room 0 [] = some r) :
    (zstdCodec L compress).step st inp room fl = zstdStepOf fl r := by
  simp only [zstdCodec, zstdProcess_of_loop h]

end Body

section ZEnc
variable {τ : Type} {L : ZLib τ} {Dec : Bytes → Option Bytes}

/-- the relation for the stream object: the library's, plus the meaning of the `pending` flag -/
def ZEncR (hL : ZEncContract L Dec) (zs : ZState τ) (x y : Bytes) (fin : Bool) : Prop :=
  hL.R zs.lib x y fin ∧ (zs.pending = false → x = [] ∧ y = [] ∧ fin = false)

theorem zstdLoop_enc_spec (hL : ZEncContract L Dec) {s : ZState τ} {x y : Bytes} {fin : Bool} (inp : Bytes) (room : Nat)
    (fl : Flush) (hR : ZEncR hL s x y fin) (hP : Proto fin fl inp) :
    ∃ r, zstdLoop L true fl (inp.length + room + 2) s inp room 0 [] = some r ∧
      EncPost (ZEncR hL) (fun zs => hL.pend zs.lib) Dec s x y fin inp room fl (zstdStepOf fl r) := by
  let hyp : Prop := inp ≠ [] ∨ (fl = Flush.full ∧ x ≠ [])
  refine iter_buf (zstdBody L true fl) inp room
    (fun st ai ao =>
      -- the frame has been finished
      (st.pending = false ∧ ai = inp.length ∧ hL.R st.lib [] [] false ∧ fl = Flush.full ∧
          (x ++ inp ≠ [] → Dec (y ++ ao) = some (x ++ inp))) ∨
      -- nothing has happened yet, or the frame is open
      (∃ f, hL.R st.lib (x ++ inp.take ai) (y ++ ao) f ∧ FlagInv fin fl inp ai f ∧
          ((st = s ∧ ai = 0 ∧ ao = []) ∨ (st.pending = true ∧ (hyp → 0 < ai ∨ hL.pend st.lib < hL.pend s.lib)))))
    (fun r => EncPost (ZEncR hL) (fun zs => hL.pend zs.lib) Dec s x y fin inp room fl (zstdStepOf fl r)) ?_
    (Or.inr ⟨fin, by simpa using hR.1, ⟨Or.inl, id⟩, Or.inl ⟨rfl, rfl, rfl⟩⟩)
  rintro st inp' room' ai ao hinp hai hao hmode
  by_cases hcond : (inp' ≠ [] ∨ (st.pending = true ∧ fl = Flush.full)) ∧ 0 < room'
  · obtain ⟨hw, hr0⟩ := hcond
    rcases hmode with ⟨hpf, hfin, _⟩ | ⟨f, hRf, hf, htrack⟩
    · -- after the frame has been finished the loop condition is false
      rcases hw with h | h
      · exact absurd (List.eq_nil_of_length_eq_zero (by omega)) h
      · rw [hpf] at h; cases h.1
    have hPf := hf.proto hP hai
    obtain ⟨hne, hcl, hol⟩ := hL.ok inp' room' fl hRf hPf hr0
    have hwork : inp' ≠ [] ∨ fl = Flush.full := hw.imp id And.right
    have hbytes := hL.bytes inp' room' fl hRf hPf hr0 hwork
    have hdones := hL.done inp' room' fl hRf hPf hr0
    have hkeeps := hL.keep inp' room' fl hRf hPf hr0
    have hprogs := hL.progress inp' room' fl hRf hPf hr0
    rw [zstdBody_next L true fl st inp' room' ai ao hw hr0 _ rfl hne hbytes]
    generalize L.call st.lib inp' room' fl = r at *
    refine ⟨_, _, _, rfl, hcl, hol, hbytes, ?_⟩
    by_cases hdone : fl = Flush.full ∧ r.hint = 0
    · -- the frame is finished by this call
      obtain ⟨d1, d2, d3⟩ := hdones hdone.1 hdone.2
      refine Or.inl ⟨?_, by omega, d2, hdone.1, fun hne' => ?_⟩
      · show (decide (r.hint ≠ 0) || (true && decide (fl ≠ Flush.full))) = false
        rw [hdone.2]; simp [hdone.1]
      · have e : x ++ inp.take ai ++ inp' = x ++ inp := by rw [List.append_assoc, hinp, List.take_append_drop]
        rw [e] at d3
        simpa [List.append_assoc] using d3 hne'
    · have hkeep := hkeeps hdone
      rw [show x ++ inp.take ai ++ inp'.take r.consumed = x ++ inp.take (ai + r.consumed) by
        rw [List.append_assoc, hinp, ← List.take_add], List.append_assoc] at hkeep
      have hpend' : (decide (r.hint ≠ 0) || (true && decide (fl ≠ Flush.full))) = true := by
        by_cases hfl : fl = Flush.full
        · have : r.hint ≠ 0 := fun h => hdone ⟨hfl, h⟩
          simp [this]
        · simp [hfl]
      refine Or.inr ⟨_, hkeep, hf.step hai hcl, Or.inr ⟨hpend', fun hh => ?_⟩⟩
      exact call_progress (fun hai0 => hprogs (by rw [hinp, hai0]; simpa using hh) hdone)
        (htrack.elim (fun h => Or.inl ⟨h.2.1, by rw [h.1]⟩) (fun h => Or.inr (h.2 hh)))
  · -- the loop is left; the result code is `END` exactly when a flush was asked for, all input is taken and the frame is closed
    rw [zstdBody_idle L true fl st inp' room' ai ao hcond]
    obtain ⟨res, hstep, hne, hend, _⟩ := zstdStepOf_ok fl st inp' room' ai ao
    have hfull : fl ≠ Flush.none ↔ fl = Flush.full := by
      cases fl with
      | none => simp
      | sync => exact absurd rfl hP.1
      | full => simp
    rw [hfull, show inp'.length = 0 ↔ ai = inp.length by omega] at hend
    rw [LoopStep.Post, hstep]
    refine ⟨hne, by simp only; omega, by simp only; omega, ?_⟩
    rcases hmode with ⟨h1, h2, h3, h4, h5⟩ | ⟨f, hRf, hf, htrack⟩
    · -- the frame has been finished
      have he := hend.2 ⟨h4, h2, h1⟩
      exact ⟨fun hne => absurd he hne, fun _ => ⟨h4, h2, ⟨h3, fun _ => ⟨rfl, rfl, rfl⟩⟩, h5⟩, fun _ _ hne => absurd he hne⟩
    cases hp : st.pending with
    | false =>
      -- nothing has happened on an idle object
      obtain ⟨rfl, rfl, rfl⟩ := htrack.resolve_right fun h => by rw [hp] at h; cases h.1
      obtain ⟨rfl, rfl, rfl⟩ := hR.2 hp
      refine ⟨fun hne => ?_, fun he => ?_, fun hr0 hh _ => ?_⟩
      · have hF : (false || (decide (fl = Flush.full) && decide (0 = inp.length))) = false := by
          rw [Bool.false_or, Bool.eq_false_iff]
          intro hb
          simp only [Bool.and_eq_true, decide_eq_true_eq] at hb
          exact hne (hend.2 ⟨hb.1, hb.2, hp⟩)
        simpa only [List.take_zero, List.append_nil, hF] using hR
      · obtain ⟨hfl, hai0, _⟩ := hend.1 he
        have hin : inp = [] := List.eq_nil_of_length_eq_zero hai0.symm
        exact ⟨hfl, hai0, hR, fun h => absurd (by simp [hin]) h⟩
      · exact (hcond (loop_runs_at_start hinp hao rfl rfl hr0 (hh.imp_right fun h => absurd rfl h.2))).elim
    | true =>
      -- the frame is open
      have hne : res ≠ Res.streamEnd := fun he => by rw [(hend.1 he).2.2] at hp; cases hp
      refine ⟨fun _ => ⟨hf.fix (R := hL.R _ _ _) hL.mono hRf, fun h => by rw [hp] at h; cases h⟩, fun he => absurd he hne,
        fun hr0 hh _ => ?_⟩
      rcases htrack with ⟨_, h2, h3⟩ | ⟨_, h1⟩
      · exact (hcond (loop_runs_at_start hinp hao h2 h3 hr0 (hh.imp_right fun h => ⟨hp, h.1⟩))).elim
      · exact h1 hh

def zstdEncContract (hL : ZEncContract L Dec) : EncContract (zstdCodec L true) Dec :=
  .ofPost (ZEncR hL) (fun zs => hL.pend zs.lib) ⟨hL.init, fun _ => ⟨rfl, rfl, rfl⟩⟩ fun inp room fl hR hP => by
    obtain ⟨r, hrun, hpost⟩ := zstdLoop_enc_spec hL inp room fl hR hP
    rwa [zstdCodec_step_of_loop hrun]

end ZEnc

end Sqfs.Xfrm
