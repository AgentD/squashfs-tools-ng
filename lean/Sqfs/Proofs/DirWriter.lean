/-
The directory writer (`Sqfs/Model/DirWriter.lean`, dir_writer.c): what `get_conseq_entry_count` returns, what
`sqfs_dir_writer_end` emits on a meta writer (runs satisfying `RunOk` that concatenate to the entries, with the
positions the meta writer stood at), the export table, and the coarser model `dirEnd` as an instance of `dirEndM`.
-/
import Sqfs.Model.DirWriter
import Sqfs.Proofs.MetaWriter
import Sqfs.Proofs.ExportTable
namespace Sqfs.DirWriter
open Sqfs.Consts
open Sqfs.MetaWriter (Codec St append stream)

theorem sdiff32_self (a : Nat) : sdiff32 a a = 0 := by
  unfold sdiff32
  have h : (a + 4294967296 - a % 4294967296) % 4294967296 = 0 := by omega
  simp [h]

/-- what an accepted entry satisfies w.r.t. the head of its run -/
def Accept (hblk hnum : Nat) (e : DEnt) : Prop :=
  e.inodeRef >>> 16 = hblk ∧ -32767 ≤ sdiff32 e.inodeNum hnum ∧ sdiff32 e.inodeNum hnum ≤ 32767

-- the loop body is a chain of conditionals: `split` takes them apart without simplifying the rest of the goal each time
set_option backward.split false in
/-- the loop behind the head (`count ≥ 1`, so the size test is in force): the `k` further entries it takes are accepted
and, with what was there, fit into the block -/
theorem conseqGo_spec (hblk hnum : Nat) (l : List DEnt) : ∀ (size count : Nat), 0 < count → count < maxDirEnt →
    ∃ k, conseqGo hblk hnum size count l = count + k ∧ k ≤ l.length ∧ count + k ≤ maxDirEnt ∧
      (∀ e ∈ l.take k, Accept hblk hnum e) ∧ (k = 0 ∨ size + ((l.take k).map entSize).sum ≤ metaBlockSize) := by
  induction l with
  | nil => intro size count _ hc; exact ⟨0, by simp [conseqGo], by simp, Nat.le_of_lt hc, by simp, Or.inl rfl⟩
  | cons it rest ih =>
    intro size count h0 hc
    unfold conseqGo
    -- the three tests that end the run
    iterate 3 (split; · exact ⟨0, by simp, by simp, Nat.le_of_lt hc, by simp, Or.inl rfl⟩)
    rename_i h1 h2 h3
    have hacc : Accept hblk hnum it :=
      ⟨by simpa using h1, Int.not_lt.mp fun h => h2 (Or.inr h), Int.not_lt.mp fun h => h2 (Or.inl h)⟩
    have hsz : size + entSize it ≤ metaBlockSize := Nat.le_of_not_lt fun h => h3 ⟨h0, h⟩
    have hmem : ∀ k, (∀ e ∈ rest.take k, Accept hblk hnum e) → ∀ e ∈ (it :: rest).take (k + 1), Accept hblk hnum e :=
      fun k hk e he => (List.mem_cons.mp he).elim (· ▸ hacc) (hk e)
    by_cases h4 : count + 1 = maxDirEnt
    · rw [if_pos h4]
      exact ⟨1, rfl, by simp, Nat.le_of_eq h4, hmem 0 (by simp), Or.inr (by simpa using hsz)⟩
    · rw [if_neg h4]
      obtain ⟨k, hk1, hk2, hk3, hk4, hk5⟩ := ih (size + entSize it) (count + 1) (Nat.succ_pos _) (Nat.lt_of_le_of_ne hc h4)
      refine ⟨k + 1, hk1.trans (Nat.add_right_comm count 1 k), Nat.succ_le_succ hk2, Nat.add_right_comm count 1 k ▸ hk3,
        hmem k hk4, Or.inr ?_⟩
      simp only [List.take_succ_cons, List.map_cons, List.sum_cons]
      rcases hk5 with rfl | h
      · simpa using hsz
      · omega

theorem maxDirEnt_gt_one : 1 < maxDirEnt := by decide

theorem conseqCount_spec (offset : Nat) (head : DEnt) (rest : List DEnt) :
    1 ≤ conseqCount offset (head :: rest) ∧ conseqCount offset (head :: rest) ≤ maxDirEnt ∧
    conseqCount offset (head :: rest) ≤ (head :: rest).length ∧
    (∀ e ∈ (head :: rest).take (conseqCount offset (head :: rest)), Accept (head.inodeRef >>> 16) head.inodeNum e) ∧
    (conseqCount offset (head :: rest) = 1 ∨
      (offset + sizeofDirHeader) % metaBlockSize +
        (((head :: rest).take (conseqCount offset (head :: rest))).map entSize).sum ≤ metaBlockSize) := by
  -- the head passes its own tests, so the loop goes on behind it with `count = 1`
  obtain ⟨k, hk1, hk2, hk3, hk4, hk5⟩ := conseqGo_spec (head.inodeRef >>> 16) head.inodeNum rest
    ((offset + sizeofDirHeader) % metaBlockSize + entSize head) 1 Nat.one_pos (by decide)
  have he : conseqCount offset (head :: rest) = k + 1 := by
    rw [← Nat.add_comm 1 k, ← hk1]
    simp [conseqCount, conseqGo, sdiff32_self, show ¬ 1 = maxDirEnt by decide]
  rw [he]
  refine ⟨Nat.le_add_left 1 k, Nat.add_comm 1 k ▸ hk3, Nat.succ_le_succ hk2, fun e he => ?_, hk5.imp (congrArg (· + 1)) fun h => ?_⟩
  · rcases List.mem_cons.mp he with rfl | he
    · exact ⟨rfl, by rw [sdiff32_self]; decide, by rw [sdiff32_self]; decide⟩
    · exact hk4 e he
  · simp only [List.take_succ_cons, List.map_cons, List.sum_cons]
    omega

/-- what `sqfs_dir_writer_end` guarantees for one emitted header + run -/
def RunOk (r : Run) : Prop :=
  ∃ first tl, r.ents = first :: tl ∧ r.ents.length ≤ maxDirEnt ∧
    r.startBlock = (first.inodeRef >>> 16) % 4294967296 ∧ r.inodeNumber = first.inodeNum ∧
    ∀ e ∈ r.ents, e.inodeRef >>> 16 = first.inodeRef >>> 16 ∧
      -32767 ≤ sdiff32 e.inodeNum r.inodeNumber ∧ sdiff32 e.inodeNum r.inodeNumber ≤ 32767

theorem take_runOk (off idx blk : Nat) (first : DEnt) (rest : List DEnt) :
    RunOk ⟨(first :: rest).take (conseqCount off (first :: rest)), (first.inodeRef >>> 16) % 4294967296, first.inodeNum,
      idx, blk⟩ := by
  obtain ⟨h1, h2, h3, h4, _⟩ := conseqCount_spec off first rest
  obtain ⟨n, hn⟩ : ∃ n, conseqCount off (first :: rest) = n + 1 := ⟨_, (Nat.sub_add_cancel h1).symm⟩
  refine ⟨first, rest.take n, by simp [hn], ?_, rfl, rfl, h4⟩
  simp only [List.length_take]; omega

theorem drop_conseqCount_length (off : Nat) (first : DEnt) (rest : List DEnt) :
    ((first :: rest).drop (conseqCount off (first :: rest))).length ≤ rest.length := by
  have := (conseqCount_spec off first rest).1
  simp only [List.length_drop, List.length_cons]; omega

theorem dirEndGoM_runs_ok (cmp : Codec) : ∀ (fuel : Nat) (st : St) (ds : Nat) (ents : List DEnt),
    ∀ r ∈ (dirEndGoM cmp fuel st ds ents).1, RunOk r := by
  intro fuel
  induction fuel with
  | zero => intro st ds ents r hr; simp [dirEndGoM] at hr
  | succ f ih =>
    intro st ds ents r hr
    cases ents with
    | nil => simp [dirEndGoM] at hr
    | cons first rest =>
      simp only [dirEndGoM, List.mem_cons] at hr
      rcases hr with rfl | hr
      · exact take_runOk _ _ _ first rest
      · exact ih _ _ _ r hr

theorem dirEndGoM_flatten (cmp : Codec) : ∀ (fuel : Nat) (ents : List DEnt), ents.length < fuel → ∀ (st : St) (ds : Nat),
    ((dirEndGoM cmp fuel st ds ents).1.map (·.ents)).flatten = ents := by
  refine fuel_ind List.length fun f ents ih st ds => ?_
  cases ents with
  | nil => simp [dirEndGoM]
  | cons first rest =>
    have hdrop := drop_conseqCount_length st.cur.length first rest
    simp only [dirEndGoM, List.map_cons, List.flatten_cons]
    rw [ih _ (Nat.lt_succ_of_le hdrop) _ _, List.take_append_drop]

theorem dirEndGo_runs_ok (c : Nat) : ∀ (fuel blk off ds : Nat) (ents : List DEnt),
    ∀ r ∈ dirEndGo c fuel blk off ds ents, RunOk r := by
  intro fuel
  induction fuel with
  | zero => intro blk off ds ents r hr; simp [dirEndGo] at hr
  | succ f ih =>
    intro blk off ds ents r hr
    cases ents with
    | nil => simp [dirEndGo] at hr
    | cons first rest =>
      simp only [dirEndGo, List.mem_cons] at hr
      rcases hr with rfl | hr
      · exact take_runOk _ _ _ first rest
      · exact ih _ _ _ _ r hr

theorem dirEndGo_flatten (c : Nat) : ∀ (fuel : Nat) (ents : List DEnt), ents.length < fuel → ∀ blk off ds : Nat,
    ((dirEndGo c fuel blk off ds ents).map (·.ents)).flatten = ents := by
  refine fuel_ind List.length fun f ents ih blk off ds => ?_
  cases ents with
  | nil => simp [dirEndGo]
  | cons first rest =>
    have hdrop := drop_conseqCount_length off first rest
    simp only [dirEndGo, List.map_cons, List.flatten_cons]
    rw [ih _ (Nat.lt_succ_of_le hdrop) _ _ _, List.take_append_drop]

theorem le16_length (v : Nat) : (le16 v).length = 2 := rfl
theorem le32_length (v : Nat) : (le32 v).length = 4 := rfl

theorem headerBytes_length (c b n : Nat) : (headerBytes c b n).length = sizeofDirHeader := rfl

theorem nodeBytes_length (f : Nat) (e : DEnt) : (nodeBytes f e).length = sizeofDirNode := rfl

theorem encodeEnt_eq (f : Nat) (e : DEnt) : encodeEnt f e = nodeBytes f e ++ e.name := rfl

theorem encodeRun_eq (r : Run) :
    encodeRun r = headerBytes r.ents.length r.startBlock r.inodeNumber ++ (r.ents.map (encodeEnt r.inodeNumber)).flatten := rfl

theorem encodeEnt_length (f : Nat) (e : DEnt) : (encodeEnt f e).length = entSize e := by
  rw [encodeEnt_eq, List.length_append, nodeBytes_length]; rfl

theorem runChunks_flatten (r : Run) : (runChunks r).flatten = encodeRun r := by
  rw [encodeRun_eq]
  unfold runChunks
  simp only [List.flatten_cons]
  congr 1
  induction r.ents with
  | nil => rfl
  | cons e es ih => simp [encodeEnt_eq, ih]

theorem encodeRun_length (r : Run) : (encodeRun r).length = runBytes r.ents := by
  rw [encodeRun_eq]
  unfold runBytes
  rw [List.length_append, headerBytes_length]
  congr 1
  induction r.ents with
  | nil => rfl
  | cons e es ih => simp [encodeEnt_length, ih]

open Sqfs.MetaWriter in
/-- `stk` is the state of the writer when the `k`-th header was added: it had received exactly the runs before it. -/
theorem dirEndGoM_pos (cmp : Codec) : ∀ (fuel : Nat) (ents : List DEnt), ents.length < fuel → ∀ (st : St) (ds : Nat), WF cmp st →
    WF cmp (dirEndGoM cmp fuel st ds ents).2 ∧ Ext st (dirEndGoM cmp fuel st ds ents).2 ∧
    stream (dirEndGoM cmp fuel st ds ents).2 = stream st ++ ((dirEndGoM cmp fuel st ds ents).1.map encodeRun).flatten ∧
    ∀ (k : Nat) (r : Run), (dirEndGoM cmp fuel st ds ents).1[k]? = some r →
      ∃ stk, WF cmp stk ∧ Ext stk (dirEndGoM cmp fuel st ds ents).2 ∧
        stream stk = stream st ++ (((dirEndGoM cmp fuel st ds ents).1.take k).map encodeRun).flatten ∧
        r.index = ds + ((((dirEndGoM cmp fuel st ds ents).1.take k).map encodeRun).flatten).length ∧
        r.block = stk.blockOffset := by
  refine fuel_ind List.length fun f ents ih st ds hwf => ?_
  cases ents with
  | nil => simp [dirEndGoM, hwf, Ext.refl]
  | cons first rest =>
    have hdrop := drop_conseqCount_length st.cur.length first rest
    simp only [dirEndGoM]
    generalize conseqCount st.cur.length (first :: rest) = cnt at hdrop ⊢
    generalize hr0 : (⟨(first :: rest).take cnt, (first.inodeRef >>> 16) % 4294967296, first.inodeNum, ds,
      st.blockOffset⟩ : Run) = r0
    have hr0e : r0.ents = (first :: rest).take cnt := by rw [← hr0]
    obtain ⟨w1, w2, w3⟩ := foldl_append_wf cmp (runChunks r0) st hwf
    rw [runChunks_flatten] at w3
    generalize (runChunks r0).foldl (append cmp) st = st' at w1 w2 w3
    obtain ⟨i1, i2, i3, i4⟩ := ih ((first :: rest).drop cnt) (Nat.lt_succ_of_le hdrop) st'
      (ds + runBytes ((first :: rest).take cnt)) w1
    rw [← hr0e] at i1 i2 i3 i4 ⊢
    generalize dirEndGoM cmp f st' (ds + runBytes r0.ents) ((first :: rest).drop cnt) = next at i1 i2 i3 i4 ⊢
    refine ⟨i1, Ext.trans w2 i2, by rw [i3, w3]; simp [List.append_assoc], fun k r hk => ?_⟩
    cases k with
    | zero =>
      obtain rfl : r0 = r := by simpa using hk
      exact ⟨st, hwf, Ext.trans w2 i2, by simp, by simp [← hr0], by rw [← hr0]⟩
    | succ j =>
      obtain ⟨stk, j1, j2, j3, j4, j5⟩ := i4 j r hk
      refine ⟨stk, j1, j2, by rw [j3, w3]; simp [List.append_assoc], ?_, j5⟩
      rw [j4]
      simp only [List.take_succ_cons, List.map_cons, List.flatten_cons, List.length_append, encodeRun_length]
      exact Nat.add_assoc _ _ _

/-- the 16-bit field written for an accepted entry decodes (as s16, added to the header's number) to the
entry's inode number (in the reader's 32-bit arithmetic): "inode-number deltas fit in 16 bits" -/
theorem delta_roundtrip (num first : Nat) (hn : num < 4294967296) (hf : first < 4294967296)
    (h1 : -32767 ≤ sdiff32 num first) (h2 : sdiff32 num first ≤ 32767) :
    let d16 := (num + 4294967296 - first % 4294967296) % 65536
    ((first : Int) + (if d16 < 32768 then (d16 : Int) else (d16 : Int) - 65536)) % 4294967296 = num := by
  unfold sdiff32 at h1 h2
  rw [Nat.mod_eq_of_lt hf] at h1 h2 ⊢
  generalize hx : num + 4294967296 - first = x at h1 h2 ⊢
  have hx' : x + first = num + 4294967296 := by omega
  clear hx
  simp only at h1 h2 ⊢
  by_cases hc : x % 4294967296 < 2147483648
  · rw [if_pos hc] at h1 h2; split <;> omega
  · rw [if_neg hc] at h1 h2; split <;> omega

/-- an index entry of a directory inode is made of the header with the same position, and there are at most `maxIndex` -/
theorem createInode_index {dirRef : Nat} {runs : List Run} {n h x p k : Nat} {ie : Nat × Nat × Bytes}
    (hk : (createInode dirRef runs n h x p).index[k]? = some ie) :
    k < maxIndex ∧ ∃ r, runs[k]? = some r ∧
      ie = (r.index % 4294967296, r.block % 4294967296, match r.ents with | e :: _ => e.name | [] => []) := by
  unfold createInode createInodeCap at hk
  simp only at hk
  split at hk
  · rw [List.getElem?_map, List.getElem?_take] at hk
    split at hk
    · obtain ⟨r, hr, rfl⟩ := Option.map_eq_some_iff.mp hk
      exact ⟨‹_›, r, hr, rfl⟩
    · cases hk
  · cases hk

theorem addExport_eq : addExport = ExportTable.add exportUnset :=
  funext fun t => funext fun n => funext fun r => ExportTable.set_ite_eq_add exportUnset t n r

def maxNum (adds : List (Nat × Nat)) : Nat := adds.foldl (fun m a => max m a.1) 0

theorem maxNum_eq (adds : List (Nat × Nat)) : maxNum adds = ExportTable.maxNum adds := rfl

open Sqfs.MetaWriter in
/-- under a compressor that never shrinks every flushed block occupies 8192 + 2 bytes -/
theorem raw_outBytes (st : St) (hi : Inv (fun _ => none) st) : outBytes st.out = 8194 * st.out.length := by
  have h : ∀ (bs : List Block), (∀ b ∈ bs, b.raw.length = metaBlockSize) → (∀ b ∈ bs, Made (fun _ => none) b) →
      outBytes bs = 8194 * bs.length := by
    intro bs
    induction bs with
    | nil => intro _ _; rfl
    | cons b bs ih =>
      intro hf hm
      rw [outBytes_cons, ih (fun x hx => hf x (List.mem_cons_of_mem _ hx)) (fun x hx => hm x (List.mem_cons_of_mem _ hx))]
      have hb := hm b List.mem_cons_self
      have hl := hf b List.mem_cons_self
      have : b.stored = b.raw := by
        cases hc : b.compressed with
        | false => exact hb.2 hc
        | true => have := (hb.1 hc).1; simp at this
      rw [this, hl, mb_eq, List.length_cons]; omega
  exact h st.out hi.full hi.made

open Sqfs.MetaWriter in
theorem dirEndGo_eq_dirEndGoM : ∀ (fuel : Nat) (st : St) (ds : Nat) (ents : List DEnt), WF (fun _ => none) st →
    dirEndGo 8194 fuel st.blockOffset st.cur.length ds ents = (dirEndGoM (fun _ => none) fuel st ds ents).1 := by
  intro fuel
  induction fuel with
  | zero => intro st ds ents _; rfl
  | succ f ih =>
    intro st ds ents hwf
    cases ents with
    | nil => rfl
    | cons first rest =>
      simp only [dirEndGo, dirEndGoM]
      generalize conseqCount st.cur.length (first :: rest) = cnt
      generalize hr0 : (⟨(first :: rest).take cnt, (first.inodeRef >>> 16) % 4294967296, first.inodeNum, ds,
        st.blockOffset⟩ : Run) = r0
      have hr0e : r0.ents = (first :: rest).take cnt := by rw [← hr0]
      obtain ⟨w1, _, w3⟩ := foldl_append_wf (fun _ => none) (runChunks r0) st hwf
      rw [runChunks_flatten] at w3
      have hpos : advance 8194 st.blockOffset st.cur.length (runBytes r0.ents) =
          (((runChunks r0).foldl (append (fun _ => none)) st).blockOffset, ((runChunks r0).foldl (append (fun _ => none)) st).cur.length) := by
        generalize (runChunks r0).foldl (append (fun _ => none)) st = st' at w1 w3
        have hl : (stream st').length = (stream st).length + runBytes r0.ents := by
          rw [w3, List.length_append, encodeRun_length]
        have hs := inv_stream_length _ st hwf.inv
        rw [advance, w1.off, raw_outBytes st' w1.inv, w1.blocks, w1.offset, hl, hwf.off, raw_outBytes st hwf.inv, hs, mb_eq]
        have := hwf.curLt
        rw [mb_eq] at this
        refine Prod.ext ?_ ?_ <;> simp only <;> omega
      rw [← hr0e, hpos]
      simp only
      rw [ih _ _ _ w1]

/-- `dirEnd 8194 blk off` (the model C01 builds on) is the run list of `dirEndM` on any well-formed meta writer at
position `(blk, off)` whose compressor never shrinks -/
theorem dirEnd_eq_dirEndM (st : MetaWriter.St) (ents : List DEnt) (hwf : MetaWriter.WF (fun _ => none) st) :
    dirEnd 8194 st.blockOffset st.cur.length ents = (dirEndM (fun _ => none) st ents).1 :=
  dirEndGo_eq_dirEndGoM _ st 0 ents hwf

end Sqfs.DirWriter
