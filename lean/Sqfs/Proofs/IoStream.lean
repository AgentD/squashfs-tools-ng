/-
Helper lemmas for C12: the buffered file istream simulates the ideal window stream (`Sqfs.IoLoops.Spec.Ideal`)
under every script of short counts and `EINTR`s, and every generic client (`sqfs_istream_read/skip/splice`,
`istream_get_line`, `record_to_memory`) therefore observes the same thing over both.
-/
import Sqfs.Proofs.IoLoops
import Sqfs.Spec.IoLoops
namespace Sqfs.IoLoops
open Sqfs.IoLoops.Spec

/-- Two runs side by side: stream states related by `R`, both scripts without hard events. -/
structure Conf {σ τ : Type} (R : σ → τ → Prop) (s : σ) (t : τ) (os osj : OS) : Prop where
  rel : R s t
  soft : noHard os.sc = true
  softJ : noHard osj.sc = true

theorem Conf.with_rel {σ τ σ' τ' : Type} {R : σ → τ → Prop} {R' : σ' → τ' → Prop} {s t os osj s' t'} (h : Conf R s t os osj)
    (hr : R' s' t') : Conf R' s' t' os osj :=
  ⟨hr, h.soft, h.softJ⟩

/-- `I` (driven by an OS script without hard events) simulates `J`, a stream that never touches the OS. -/
structure Sim {σ τ : Type} (I : StreamI σ) (J : StreamI τ) (R : σ → τ → Prop) : Prop where
  get : ∀ {s t os osj} want, Conf R s t os osj →
    ∃ r w s' t' os', I.get s want os = (r, w, s', os') ∧ J.get t want osj = (r, w, t', osj) ∧ Conf R s' t' os' osj
  adv : ∀ {s t} n, R s t → R (I.adv s n) (J.adv t n)
  bound : ∀ {s t}, R s t → I.bound s = J.bound t

theorem Conf.adv {σ τ : Type} {I : StreamI σ} {J : StreamI τ} {R : σ → τ → Prop} {s t os osj} (h : Conf R s t os osj)
    (hs : Sim I J R) (n : Nat) : Conf R (I.adv s n) (J.adv t n) os osj :=
  h.with_rel (hs.adv n h.rel)

theorem precacheLoop_spec (B : Nat) : ∀ (fuel : Nat) (buf : Bytes) (os : OS), os.sc.length + (B - buf.length) + 1 < fuel →
    ∀ src : Bytes, noHard os.sc = true →
    ∃ os', precacheLoop B fuel buf src os =
        (.ok, buf ++ src.take (B - buf.length), src.drop (B - buf.length),
          decide (src.length < B - buf.length), os') ∧ noHard os'.sc = true := by
  refine fuel_ind₂ (fun (buf : Bytes) (os : OS) => os.sc.length + (B - buf.length) + 1) fun fuel buf os ih src hn => ?_
  unfold precacheLoop
  by_cases hlt : buf.length < B
  · rw [if_pos hlt]
    obtain ⟨r, os', hc, hl, hh, ⟨rfl, hi⟩ | ⟨rfl, hx⟩ | ⟨rfl, h0⟩ | ⟨k, rfl, hm⟩⟩ :=
      call_cases os ⟨0, B - buf.length, 0⟩ (min (B - buf.length) src.length) <;> rw [hc]
    · exact ih buf os' (by omega) src (hh hn)
    · exact absurd hn hx
    · -- nothing was possible although the buffer has room: the source is empty
      obtain rfl : src = [] := List.eq_nil_of_length_eq_zero (by have := h0 hn; omega)
      exact ⟨os', by simp; omega, hh hn⟩
    · obtain ⟨hk1, hk2⟩ := Nat.le_min.1 hm
      clear hm hc  -- `omega` is much slower with `min` in the context
      have hlen : (buf ++ src.take (k + 1)).length = buf.length + (k + 1) := by
        rw [List.length_append, List.length_take, Nat.min_eq_left hk2]
      obtain ⟨os'', h', hn''⟩ := ih (buf ++ src.take (k + 1)) os' (by omega) (src.drop (k + 1)) (hh hn)
      clear hl ih
      have hB : (k + 1) + (B - (buf.length + (k + 1))) = B - buf.length := by
        rw [Nat.sub_add_eq, Nat.add_sub_cancel' hk1]
      simp only [h', hlen, List.append_assoc, ← List.take_add, List.drop_drop, List.length_drop, hB]
      exact ⟨os'', by rw [Nat.sub_add_eq B, decide_eq_decide.2 (Nat.sub_lt_sub_iff_right hk2)], hn''⟩
  · have hz : B - buf.length = 0 := by omega
    exact ⟨os, by simp [hlt, hz], hn⟩

/-- The model state of the file istream `s` represents the ideal window `t` over the content `data`. -/
structure Rel (B : Nat) (data : Bytes) (s : IStream) (t : Ideal) : Prop where
  content : s.buf.drop s.off ++ s.src = data.drop t.pos
  avail : s.buf.length - s.off = t.avail
  offs : s.off = 0 ∨ s.off < s.buf.length
  cap : s.buf.length ≤ B
  eof : s.eof = true → s.src = []

theorem rel_init (B : Nat) (data : Bytes) : Rel B data (IStream.init data) ⟨0, 0⟩ :=
  ⟨by simp [IStream.init], by simp [IStream.init], Or.inl rfl, by simp [IStream.init], by simp [IStream.init]⟩

theorem rel_window {B : Nat} {data : Bytes} {s : IStream} {t : Ideal} (h : Rel B data s t) :
    s.buf.drop s.off = slice data t.pos t.avail := by
  unfold slice
  rw [← h.content, ← h.avail]
  have : (s.buf.drop s.off).length = s.buf.length - s.off := by simp
  rw [← this, List.take_left]

theorem rel_len {B : Nat} {data : Bytes} {s : IStream} {t : Ideal} (h : Rel B data s t) :
    t.avail + s.src.length = data.length - t.pos := by
  have := congrArg List.length h.content
  simp only [List.length_append, List.length_drop] at this
  rw [← h.avail]; exact this

theorem precache_spec (B : Nat) (hB : 0 < B) (data : Bytes) (s : IStream) (t : Ideal) (os : OS)
    (hr : Rel B data s t) (hn : noHard os.sc = true) :
    ∃ s' os', precache B s os = (.ok, s', os') ∧ Rel B data s' ⟨t.pos, min B (data.length - t.pos)⟩ ∧
      (min B (data.length - t.pos) = 0 → s'.eof = true) ∧ noHard os'.sc = true := by
  have hlen := rel_len hr
  have hwl : (s.buf.drop s.off).length = t.avail := by rw [List.length_drop]; exact hr.avail
  have hta : t.avail ≤ B := by have := hr.cap; have := hr.avail; omega
  unfold precache
  by_cases he : s.eof = true
  · -- sticky end-of-file: the buffer already holds everything that is left
    have hmin : min B (data.length - t.pos) = t.avail := by
      rw [← hlen, hr.eof he, List.length_nil, Nat.add_zero]; exact Nat.min_eq_right hta
    rw [if_pos he, hmin]
    exact ⟨s, os, rfl, hr, fun _ => he, hn⟩
  · obtain ⟨os', hp, hn'⟩ := precacheLoop_spec B (os.sc.length + (B - (s.buf.drop s.off).length) + 2) (s.buf.drop s.off)
      os (Nat.lt_succ_self _) s.src hn
    rw [if_neg he]
    simp only [hwl] at hp ⊢
    simp only [hp]
    have hm : min B (data.length - t.pos) = t.avail + min (B - t.avail) s.src.length := by
      rw [← hlen, ← Nat.add_min_add_left, Nat.add_sub_cancel' hta]
    have hbl : (s.buf.drop s.off ++ s.src.take (B - t.avail)).length = min B (data.length - t.pos) := by
      rw [List.length_append, List.length_take, hwl, hm]
    refine ⟨⟨_, 0, _, _⟩, os', rfl, ⟨?_, ?_, Or.inl rfl, ?_, ?_⟩, ?_, hn'⟩
    · simp only [List.drop_zero, List.append_assoc, List.take_append_drop]
      exact hr.content
    · exact hbl
    · exact hbl ▸ Nat.min_le_left _ _
    · intro h
      exact List.drop_eq_nil_of_le (Nat.le_of_lt (of_decide_eq_true h))
    · intro h
      rw [decide_eq_true_eq]
      omega

theorem rel_status {B : Nat} {data : Bytes} {s : IStream} {t : Ideal} (hr : Rel B data s t)
    (he : t.avail = 0 → s.eof = true) :
    (if (s.eof && decide ((s.buf.drop s.off).length = 0)) = true then GRet.eof else GRet.ok) =
      if t.avail = 0 then GRet.eof else GRet.ok := by
  rw [List.length_drop, hr.avail]
  by_cases hz : t.avail = 0
  · simp [hz, he hz]
  · simp [hz]

theorem fileGet_sim (B : Nat) (hB : 0 < B) (data : Bytes) {s : IStream} {t : Ideal} {os osj : OS} (want : Nat)
    (h : Conf (Rel B data) s t os osj) :
    ∃ r w s' t' os', fileGet B s want os = (r, w, s', os') ∧ idealGet B data t want osj = (r, w, t', osj) ∧
      Conf (Rel B data) s' t' os' osj := by
  have hr := h.rel
  unfold fileGet idealGet
  generalize (if want > B then B else want) = w
  have hcond : (s.buf.length = 0 ∨ s.buf.length - s.off < w) ↔ (t.avail = 0 ∨ t.avail < w) := by
    have := hr.avail
    rcases hr.offs with h | h <;> omega
  by_cases hc : t.avail = 0 ∨ t.avail < w
  · obtain ⟨s', os', hp, hr', he', hn'⟩ := precache_spec B hB data s t os hr h.soft
    simp only [if_pos (hcond.2 hc), if_pos hc, hp]
    exact ⟨_, _, s', _, os', rfl, by rw [rel_status hr' he', rel_window hr'], hr', hn', h.softJ⟩
  · simp only [if_neg (mt hcond.1 hc), if_neg hc]
    exact ⟨_, _, s, _, os, rfl, by rw [rel_status hr fun h => absurd (Or.inl h) hc, rel_window hr], h⟩

theorem fileAdvance_sim (B : Nat) (data : Bytes) (s : IStream) (t : Ideal) (count : Nat) (hr : Rel B data s t) :
    Rel B data (fileAdvance s count) (idealAdv t count) := by
  have hav := hr.avail
  unfold fileAdvance idealAdv
  by_cases hc : count < t.avail
  · have hc' : count < s.buf.length - s.off := by omega
    simp only [hc, hc', if_true]
    refine ⟨?_, by simp; omega, Or.inr (by simp; omega), hr.cap, hr.eof⟩
    simp only
    have := congrArg (List.drop count) hr.content
    rw [List.drop_append_of_le_length (by simp; omega), List.drop_drop, List.drop_drop] at this
    exact this
  · have hc' : ¬ count < s.buf.length - s.off := by omega
    simp only [hc, hc', if_false]
    refine ⟨?_, by simp, Or.inl rfl, Nat.zero_le _, hr.eof⟩
    simp only [List.drop_nil, List.nil_append]
    have := congrArg (List.drop t.avail) hr.content
    rw [List.drop_append_of_le_length (by simp; omega), List.drop_drop] at this
    rw [List.drop_eq_nil_iff.2 (by omega), List.nil_append, List.drop_drop] at this
    exact this

theorem file_sim (B : Nat) (hB : 0 < B) (data : Bytes) :
    Sim (fileStream B) (idealStream B data) (Rel B data) where
  get := fileGet_sim B hB data
  adv := fun n hr => fileAdvance_sim B data _ _ n hr
  bound := fun hr => by
    simp only [fileStream, idealStream]
    rw [hr.avail, rel_len hr]

/-- client states that agree on everything except the representation of the stream -/
def RC {σ τ : Type} (R : σ → τ → Prop) (c : Client σ) (c' : Client τ) : Prop :=
  R c.s c'.s ∧ c.o = c'.o ∧ c.ln = c'.ln

/-- Two runs under scripts without hard events return the same result and leave related streams. -/
abbrev Agree {α σ τ : Type} (R : σ → τ → Prop) (x : α × σ × OS) (y : α × τ × OS) : Prop :=
  ∃ a s t os osj, x = (a, s, os) ∧ y = (a, t, osj) ∧ Conf R s t os osj

theorem Agree.mk {α σ τ : Type} {R : σ → τ → Prop} {a : α} {s : σ} {t : τ} {os osj : OS} (h : Conf R s t os osj) :
    Agree R (a, s, os) (a, t, osj) :=
  ⟨a, s, t, os, osj, rfl, rfl, h⟩

theorem Agree.fst_rel {α σ τ : Type} {R : σ → τ → Prop} {x : α × σ × OS} {y : α × τ × OS} (h : Agree R x y) :
    x.1 = y.1 ∧ R x.2.1 y.2.1 := by
  obtain ⟨_, _, _, _, _, rfl, rfl, h⟩ := h
  exact ⟨rfl, h.rel⟩

/-- Two runs that test the same guard take the same branch. -/
theorem ite_both {α β : Type} {P : α → β → Prop} {c : Prop} [Decidable c] {a b : α} {a' b' : β}
    (ht : c → P a a') (hf : ¬ c → P b b') : P (if c then a else b) (if c then a' else b') := by
  by_cases h : c
  · rw [if_pos h, if_pos h]; exact ht h
  · rw [if_neg h, if_neg h]; exact hf h

section
variable {σ τ : Type} {I : StreamI σ} {J : StreamI τ} {R : σ → τ → Prop} (hs : Sim I J R)
include hs

theorem istreamReadLoop_sim :
    ∀ (fuel : Nat) {s : σ} {t : τ} {os osj : OS} (size : Nat) (acc : Bytes), Conf R s t os osj →
    Agree R (istreamReadLoop I fuel s size acc os) (istreamReadLoop J fuel t size acc osj) := by
  intro fuel
  induction fuel with
  | zero => intro s t os osj size acc h; exact .mk h
  | succ fuel ih =>
    intro s t os osj size acc h
    unfold istreamReadLoop
    refine ite_both (fun _ => .mk h) fun _ => ?_
    obtain ⟨r, w, s1, t1, os1, hI, hJ, h1⟩ := hs.get size h
    rw [hI, hJ]
    cases r with
    | eof => exact .mk h1
    | fail e => exact .mk h1
    | ok => exact ih _ _ (h1.adv hs _)

theorem istreamSkipLoop_sim :
    ∀ (fuel : Nat) {s : σ} {t : τ} {os osj : OS} (size : Nat), Conf R s t os osj →
    Agree R (istreamSkipLoop I fuel s size os) (istreamSkipLoop J fuel t size osj) := by
  intro fuel
  induction fuel with
  | zero => intro s t os osj size h; exact .mk h
  | succ fuel ih =>
    intro s t os osj size h
    unfold istreamSkipLoop
    refine ite_both (fun _ => .mk h) fun _ => ?_
    obtain ⟨r, w, s1, t1, os1, hI, hJ, h1⟩ := hs.get size h
    rw [hI, hJ]
    cases r with
    | eof => exact .mk h1
    | fail e => exact .mk h1
    | ok => exact ih _ (h1.adv hs _)

theorem istreamRead_sim {s : σ} {t : τ} {os osj : OS} (size : Nat) (h : Conf R s t os osj) :
    Agree R (istreamRead I s size os) (istreamRead J t size osj) :=
  istreamReadLoop_sim hs _ _ [] h

theorem istreamSkip_sim {s : σ} {t : τ} {os osj : OS} (size : Nat) (h : Conf R s t os osj) :
    Agree R (istreamSkip I s size os) (istreamSkip J t size osj) :=
  istreamSkipLoop_sim hs (size + 1) size h

theorem istreamSpliceLoop_sim :
    ∀ (fuel : Nat) {s : σ} {t : τ} {os osj : OS} (o : OStream) (size total : Nat), Conf R s t os osj →
    ∃ r s' t' o' os' osj', istreamSpliceLoop I fuel s o size total os = (r, s', o', os') ∧
      istreamSpliceLoop J fuel t o size total osj = (r, t', o', osj') ∧ Conf R s' t' os' osj' := by
  intro fuel
  induction fuel with
  | zero => intro s t os osj o size total h; exact ⟨_, s, t, o, os, osj, rfl, rfl, h⟩
  | succ fuel ih =>
    intro s t os osj o size total h
    unfold istreamSpliceLoop
    by_cases h0 : size = 0
    · simp only [h0, if_true]; exact ⟨_, s, t, o, os, osj, rfl, rfl, h⟩
    · obtain ⟨r, w, s1, t1, os1, hI, hJ, h1⟩ := hs.get size h
      simp only [h0, if_false, hI, hJ]
      cases r with
      | eof => exact ⟨_, s1, t1, o, os1, osj, rfl, rfl, h1⟩
      | fail e => exact ⟨_, s1, t1, o, os1, osj, rfl, rfl, h1⟩
      | ok =>
        simp only []
        generalize hdiff : (if w.length > size then size else w.length) = diff
        have hlen : diff = (w.take diff).length := by
          rw [← hdiff, List.length_take]; split <;> omega
        obtain ⟨os2, ha, hn2⟩ := fileAppend_det o (w.take diff) diff hlen os1 h1.soft
        obtain ⟨osj2, hb, hj2⟩ := fileAppend_det o (w.take diff) diff hlen osj h1.softJ
        rw [ha, hb]
        exact ih _ _ _ ⟨hs.adv _ h1.rel, hn2, hj2⟩

theorem getLineLoop_sim (flags : Nat) :
    ∀ (fuel : Nat) {s : σ} {t : τ} {os osj : OS} (acc : Bytes) (ln : Nat), Conf R s t os osj →
    ∃ r s' t' ln' os' osj', getLineLoop I flags fuel s acc ln os = (r, s', ln', os') ∧
      getLineLoop J flags fuel t acc ln osj = (r, t', ln', osj') ∧ Conf R s' t' os' osj' := by
  intro fuel
  induction fuel with
  | zero => intro s t os osj acc ln h; exact ⟨_, s, t, ln, os, osj, rfl, rfl, h⟩
  | succ fuel ih =>
    intro s t os osj acc ln h
    unfold getLineLoop
    obtain ⟨r, w, s1, t1, os1, hI, hJ, h1⟩ := hs.get 0 h
    rw [hI, hJ]
    let P (a : LineRet × σ × Nat × OS) (b : LineRet × τ × Nat × OS) : Prop :=
      ∃ r s' t' ln' os' osj', a = (r, s', ln', os') ∧ b = (r, t', ln', osj') ∧ Conf R s' t' os' osj'
    cases r with
    | fail e => exact ⟨_, s1, t1, ln, os1, osj, rfl, rfl, h1⟩
    | eof =>
      show P _ _
      exact ite_both (fun _ => ⟨_, s1, t1, ln, os1, osj, rfl, rfl, h1⟩) fun _ =>
        ite_both (fun _ => ⟨_, s1, t1, ln, os1, osj, rfl, rfl, h1⟩) fun _ => ⟨_, s1, t1, ln, os1, osj, rfl, rfl, h1⟩
    | ok =>
      show P _ _
      exact ite_both
        (fun _ => ite_both (fun _ => ⟨_, _, _, ln, os1, osj, rfl, rfl, h1.adv hs _⟩) fun _ => ih _ _ (h1.adv hs _))
        fun _ => ih _ _ (h1.adv hs _)

theorem recordToMemory_sim {s : σ} {t : τ} {os osj : OS} (size : Nat) (h : Conf R s t os osj) :
    Agree R (recordToMemory I s size os) (recordToMemory J t size osj) := by
  unfold recordToMemory
  obtain ⟨r, s1, t1, os1, oj1, hI, hJ, h1⟩ := istreamRead_sim hs size h
  rw [hI, hJ]
  cases r with
  | fail e => exact .mk h1
  | n d =>
    simp only []
    refine ite_both (fun _ => .mk h1) fun _ => ite_both (fun _ => ?_) fun _ => .mk h1
    obtain ⟨e, s2, t2, os2, oj2, hI2, hJ2, h2⟩ := istreamSkip_sim hs (512 - size % 512) h1
    rw [hI2, hJ2]
    cases e <;> exact .mk h2

theorem stepOp_sim {c : Client σ} {c' : Client τ} {os osj : OS} (op : Op) (h : Conf (RC R) c c' os osj) :
    Agree (RC R) (stepOp I c op os) (stepOp J c' op osj) := by
  obtain ⟨hrs, hro, hrl⟩ := h.rel
  have hc : Conf R c.s c'.s os osj := h.with_rel hrs
  cases op with
  | get want =>
    obtain ⟨r, w, s1, t1, os1, hI, hJ, h1⟩ := hs.get want hc
    simp only [stepOp, hI, hJ]
    exact .mk (h1.with_rel ⟨h1.rel, hro, hrl⟩)
  | adv count => exact .mk (h.with_rel ⟨hs.adv _ hrs, hro, hrl⟩)
  | read size =>
    obtain ⟨r, s1, t1, os1, oj1, hI, hJ, h1⟩ := istreamRead_sim hs size hc
    simp only [stepOp, hI, hJ]
    exact .mk (h1.with_rel ⟨h1.rel, hro, hrl⟩)
  | skip size =>
    obtain ⟨r, s1, t1, os1, oj1, hI, hJ, h1⟩ := istreamSkip_sim hs size hc
    simp only [stepOp, hI, hJ]
    exact .mk (h1.with_rel ⟨h1.rel, hro, hrl⟩)
  | splice size =>
    obtain ⟨r, s1, t1, o1, os1, oj1, hI, hJ, h1⟩ := istreamSpliceLoop_sim hs
      ((if size > 0x7FFFFFFF then 0x7FFFFFFF else size) + 1) c.o (if size > 0x7FFFFFFF then 0x7FFFFFFF else size) 0 hc
    simp only [stepOp, istreamSplice, ← hro, hI, hJ]
    exact .mk (h1.with_rel ⟨h1.rel, rfl, hrl⟩)
  | line flags =>
    obtain ⟨r, s1, t1, ln1, os1, oj1, hI, hJ, h1⟩ := getLineLoop_sim hs flags (I.bound c.s + 2) [] c.ln hc
    simp only [stepOp, ← hs.bound hrs, ← hrl, hI, hJ]
    exact .mk (h1.with_rel ⟨h1.rel, hro, rfl⟩)
  | record size =>
    obtain ⟨r, s1, t1, os1, oj1, hI, hJ, h1⟩ := recordToMemory_sim hs size hc
    simp only [stepOp, hI, hJ]
    exact .mk (h1.with_rel ⟨h1.rel, hro, hrl⟩)

theorem runOps_sim :
    ∀ (ops : List Op) {c : Client σ} {c' : Client τ} {os osj : OS}, Conf (RC R) c c' os osj →
    Agree (RC R) (runOps I c ops os) (runOps J c' ops osj) := by
  intro ops
  induction ops with
  | nil => intro c c' os osj h; exact .mk h
  | cons op ops ih =>
    intro c c' os osj h
    obtain ⟨b, c1, c1', os1, oj1, hI, hJ, h1⟩ := stepOp_sim hs op h
    obtain ⟨obs, c2, c2', os2, oj2, hI2, hJ2, h2⟩ := ih h1
    simp only [runOps, hI, hJ, hI2, hJ2]
    exact .mk h2

end

end Sqfs.IoLoops
