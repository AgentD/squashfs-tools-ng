/-
C04 fix-point — `process_tarball` on the members read back from sqfs2tar's archive rebuilds the tree node by node.
-/
import Sqfs.Proofs.TarFixPath
namespace Sqfs.Tar
open Sqfs.Path (joinSlash)

theorem lookup_of_unique (t : List TNode) (m : TNode) (hm : m ∈ t) (hu : ∀ a ∈ t, a.path = m.path → a = m) :
    lookup t m.path = some m := by
  unfold lookup
  induction t with
  | nil => cases hm
  | cons a r ih =>
    by_cases ha : a.path = m.path
    · have := hu a (by simp) ha
      subst this
      simp [List.find?]
    · have hm' : m ∈ r := by
        rcases List.mem_cons.1 hm with rfl | h
        · exact absurd rfl ha
        · exact h
      simp only [List.find?, ha, decide_false]
      exact ih hm' (fun b hb => hu b (List.mem_cons_of_mem _ hb))

theorem lookup_none (t : List TNode) (p : List Bytes) (h : ∀ m ∈ t, m.path ≠ p) : lookup t p = none := by
  unfold lookup
  rw [List.find?_eq_none]
  intro m hm; simpa using h m hm

theorem ensureParents_present (o : ConvOpts) (t : List TNode) :
    ∀ (cs pre : List Bytes),
      (∀ k, 0 < k → k < cs.length → ∃ m, lookup t (pre ++ cs.take k) = some m ∧ isDirMode m.mode = true) →
      ensureParents o t pre cs = some t := by
  intro cs
  induction cs with
  | nil => intro pre _; rfl
  | cons c rest ih =>
    intro pre h
    cases rest with
    | nil => rfl
    | cons d rest =>
      obtain ⟨m, hm, hd⟩ := h 1 (by omega) (by simp)
      simp only [List.take_succ_cons, List.take_zero] at hm
      simp only [ensureParents, hm, hd, if_true]
      apply ih
      intro k h0 hk
      obtain ⟨m', hm', hd'⟩ := h (k + 1) (by omega) (by simp at hk ⊢; omega)
      refine ⟨m', ?_, hd'⟩
      rw [← hm']
      simp [List.take_succ_cons]

theorem clampMtime_u32 (v : Nat) (h : v ≤ 0xFFFFFFFF) : clampMtime (v : Int) = (v : Int) := by
  unfold clampMtime
  simp only []
  rw [if_neg (by omega), if_neg (by omega)]

theorem clampTimestamp_u32 (v : Nat) (h : v ≤ 0xFFFFFFFF) : clampTimestamp (v : Int) = v := by
  unfold clampTimestamp
  rw [if_neg (by omega), if_neg (by omega)]
  omega

theorem TNode.eq_mk (n : TNode) {i hl : Bool} {tg : Option Bytes} (hi : n.implicit = i) (hh : n.hardLink = hl)
    (ht : n.target = tg) : (⟨n.path, n.mode, n.uid, n.gid, n.modTime, i, hl, tg⟩ : TNode) = n := by
  subst hi hh ht; rfl

/-- the `CEntry` tar2sqfs builds from the member read back for node `n` -/
def centryOf (img : ImgData) (n : TNode) : CEntry :=
  ⟨joinSlash n.path, n.mode, n.uid, n.gid, (n.modTime : Int), n.hardLink,
   if fmt n.mode = S_IFLNK then n.target else none, (viewOf img n).devMajor, (viewOf img n).devMinor⟩

theorem processEntry_node (img : ImgData) (n : TNode) (h : NodeOK img n) :
    processEntry {} (centryOf img n) = .node (centryOf img n) := by
  unfold processEntry processEntryWith centryOf
  have hne := Path.joinSlash_ne_nil h.pathNe fun c hc => (h.comps c hc).1
  simp only [clampMtime_u32 _ h.mtime, hne, if_false, if_true]

theorem addGeneric_node (img : ImgData) (n : TNode) (pre : List TNode) (h : NodeOK img n)
    (hnew : ∀ m ∈ pre, m.path ≠ n.path)
    (hpar : ∀ k, 0 < k → k < n.path.length → ∃ m, lookup pre (n.path.take k) = some m ∧ isDirMode m.mode = true) :
    addGeneric {} pre (centryOf img n) = some (pre ++ [n]) := by
  have hsplit := splitSlash_join_clean n.path h.pathNe h.comps
  unfold addGeneric centryOf
  simp only [hsplit]
  -- EINVAL: a symlink without target
  have c1 : ¬ (fmt n.mode = S_IFLNK ∧ (if fmt n.mode = S_IFLNK then n.target else none).isNone = true) := by
    rintro ⟨hl, hn⟩
    obtain ⟨tg, htg, _⟩ := h.lnkTarget hl
    simp [hl, htg] at hn
  rw [if_neg c1]
  have c2 : ¬ (n.uid > 0xFFFFFFFF ∨ n.gid > 0xFFFFFFFF) := by have := h.uid; have := h.gid; omega
  rw [if_neg c2]
  have c3 : ¬ ((fmt n.mode = S_IFBLK ∨ fmt n.mode = S_IFCHR) ∧ ¬ n.hardLink = true ∧
      ((viewOf img n).devMajor ≥ 4096 ∨ (viewOf img n).devMinor ≥ 1048576)) := by
    rintro ⟨hd, _, hbig⟩
    have hd' : fmt n.mode = S_IFCHR ∨ fmt n.mode = S_IFBLK := hd.symm
    have := h.dev hd'
    simp only [viewOf, hd', if_true] at hbig
    omega
  rw [if_neg c3]
  rw [ensureParents_present {} pre n.path [] (by simpa using hpar)]
  simp only [lookup_none pre n.path hnew]
  by_cases hh : n.hardLink = true
  · have hl := h.hardMode hh
    obtain ⟨tg, htg, hc⟩ := h.hardTarget hh
    simp only [hh, if_true, hl, htg, Option.getD_some, hc, true_or, clampTimestamp_u32 _ h.mtime]
    rw [← h.lnkMode hl, TNode.eq_mk n h.explicit hh htg]
  · have hh' : n.hardLink = false := Bool.eq_false_iff.2 hh
    simp only [hh', Bool.false_eq_true, if_false, false_or, clampTimestamp_u32 _ h.mtime]
    by_cases hl : fmt n.mode = S_IFLNK
    · simp only [hl, if_true, ← h.lnkMode hl]
      rw [TNode.eq_mk n h.explicit hh' rfl]
    · simp only [hl, if_false]
      rw [TNode.eq_mk n h.explicit hh' (h.noTarget hl)]

theorem convStep_node (img : ImgData) (n : TNode) (pre : List TNode) (devs : List (List Bytes × Nat × Nat)) (x : IterEntry)
    (hx : x.view = viewOf img n) (h : NodeOK img n) (hnew : ∀ m ∈ pre, m.path ≠ n.path)
    (hpar : ∀ k, 0 < k → k < n.path.length → ∃ m, lookup pre (n.path.take k) = some m ∧ isDirMode m.mode = true) :
    convStep processEntry {} (some (pre, devs)) x =
      some (pre ++ [n], devs ++ [(n.path, (viewOf img n).devMajor, (viewOf img n).devMinor)]) := by
  have e1 : x.name = joinSlash n.path := congrArg EntryView.name hx
  have e2 : x.mode = n.mode := congrArg EntryView.mode hx
  have e3 : x.uid = n.uid := congrArg EntryView.uid hx
  have e4 : x.gid = n.gid := congrArg EntryView.gid hx
  have e5 : x.mtime = (n.modTime : Int) := congrArg EntryView.mtime hx
  have e6 : x.hardLink = n.hardLink := congrArg EntryView.hardLink hx
  have e7 : x.link = if fmt n.mode = S_IFLNK then n.target else none := congrArg EntryView.link hx
  have e8 : x.devMajor = (viewOf img n).devMajor := congrArg EntryView.devMajor hx
  have e9 : x.devMinor = (viewOf img n).devMinor := congrArg EntryView.devMinor hx
  have hce : (⟨x.name, x.mode, x.uid, x.gid, x.mtime, x.hardLink, if fmt x.mode = S_IFLNK then x.link else none,
      x.devMajor, x.devMinor⟩ : CEntry) = centryOf img n := by
    unfold centryOf
    rw [e1, e2, e3, e4, e5, e6, e7, e8, e9]
    by_cases hl : fmt n.mode = S_IFLNK <;> simp [hl]
  have hsplit := splitSlash_join_clean n.path h.pathNe h.comps
  unfold convStep
  simp only [hce]
  have c1 : ¬ (fmt x.mode = S_IFLNK ∧ (if fmt x.mode = S_IFLNK then x.link else none).isNone = true) := by
    rw [e2, e7]
    rintro ⟨hl, hn⟩
    obtain ⟨tg, htg, _⟩ := h.lnkTarget hl
    simp [hl, htg] at hn
  rw [if_neg c1, processEntry_node img n h]
  simp only [addGeneric_node img n pre h hnew hpar]
  have : (centryOf img n).name = joinSlash n.path := rfl
  rw [this, hsplit, e8, e9]

theorem FromImage.new_at {img : ImgData} {t : List TNode} (h : FromImage img t) (i : Nat) (hi : i < t.length) :
    ∀ m ∈ t.take i, m.path ≠ t[i].path := by
  intro m hm heq
  obtain ⟨j, hj, rfl⟩ := List.mem_take_iff_getElem.1 hm
  have := h.distinct j i (by omega) hi heq
  omega

theorem FromImage.parents_at {img : ImgData} {t : List TNode} (h : FromImage img t) (i : Nat) (hi : i < t.length) :
    ∀ k, 0 < k → k < t[i].path.length → ∃ m, lookup (t.take i) (t[i].path.take k) = some m ∧ isDirMode m.mode = true := by
  intro k h0 hk
  obtain ⟨j, hj, hji, hp, hd⟩ := h.parents i hi k h0 hk
  refine ⟨t[j], ?_, hd⟩
  rw [← hp]
  apply lookup_of_unique
  · exact List.mem_take_iff_getElem.2 ⟨j, by omega, rfl⟩
  · intro a ha hpa
    obtain ⟨j', hj', rfl⟩ := List.mem_take_iff_getElem.1 ha
    have := h.distinct j' j (by omega) hj hpa
    subst this; rfl

theorem convert_fromImage (img : ImgData) (t : List TNode) (h : FromImage img t) (es : List IterEntry)
    (hv : es.map IterEntry.view = t.map (viewOf img)) :
    convertWith processEntry {} es = some (t, devsOf img t) := by
  have hlen : es.length = t.length := by simpa using congrArg List.length hv
  have key : ∀ i, i ≤ t.length →
      (es.take i).foldl (convStep processEntry {}) (some ([], [])) = some (t.take i, devsOf img (t.take i)) := by
    intro i
    induction i with
    | zero => intro _; simp [devsOf]
    | succ i ih =>
      intro hi
      have hi' : i < t.length := by omega
      have hie : i < es.length := by omega
      rw [List.take_succ_eq_append_getElem hie, List.foldl_append, ih (by omega)]
      simp only [List.foldl_cons, List.foldl_nil]
      have hx : (es[i]).view = viewOf img t[i] := by
        have := congrArg (fun l => l[i]?) hv
        simpa [List.getElem?_map, hie, hi'] using this
      have hn := h.nodes t[i] (List.getElem_mem hi')
      rw [convStep_node img t[i] (t.take i) _ es[i] hx hn (h.new_at i hi') (h.parents_at i hi'),
        List.take_succ_eq_append_getElem hi']
      simp only [devsOf, List.map_append, List.map_cons, List.map_nil]
  unfold convertWith
  have := key t.length (Nat.le_refl _)
  rw [← hlen, List.take_length] at this
  rw [this, hlen, List.take_length]

end Sqfs.Tar
