/-
Helper lemmas for C07: `read_header` (model `Sqfs/Model/C07ReadHeader.lean`) never reads outside the 512-byte header or
a record buffer, its loop ends, and every `record_to_memory` request is within the implementation limits.
-/
import Sqfs.Proofs.ParseTotalPax
import Sqfs.Model.C07ReadHeader
import Sqfs.Proofs.ParseTotalTar
namespace Sqfs.ParseTotal

theorem strnAt_safe (buf : Bytes) : ∀ n i, i + n ≤ buf.length → (strnAt buf i n).safe := by
  intro n
  induction n with
  | zero => intro i _; trivial
  | succ n ih =>
    intro i h
    rw [strnAt]
    exact of_get (by omega) fun c _ => iteInduction (fun _ => trivial) fun _ =>
      (ih (i + 1) (by omega)).seq (fun _ => trivial) (fun _ => trivial)

theorem rbind_safe {α β : Type} {r : R α} {f : α → R β} (hr : r.safe) (hf : ∀ a, (f a).safe) : (rbind r f).safe :=
  hr.seq hf (fun _ => trivial)

theorem field_safe (hdr : Bytes) (off len : Nat) (hl : 0 < len) (h : off + len ≤ hdr.length) : (field hdr off len).safe := by
  unfold field
  exact (readNumber_safe hdr off len hl h).seq (fun _ => trivial) (fun _ => trivial)

theorem checksumValid_safe (hdr : Bytes) (h : hdr.length = 512) : (checksumValid hdr).safe := by
  unfold checksumValid
  exact (readNumber_safe hdr 148 8 (by omega) (by omega)).seq (fun _ => trivial) (fun _ => trivial)

theorem decodeHeader_safe (hdr : Bytes) (o : PaxOut) (v : TarVersion) (h : hdr.length = 512) : (decodeHeader hdr o v).safe := by
  unfold decodeHeader
  have num : ∀ off len, 0 < len → off + len ≤ 512 → (field hdr off len).safe := fun off len hl hle =>
    field_safe hdr off len hl (by omega)
  have str : ∀ n i, i + n ≤ 512 → (strnAt hdr i n).safe := fun n i hle => strnAt_safe hdr n i (by omega)
  refine rbind_safe ?_ (fun name => ?_)
  · refine iteInduction (fun _ => trivial) fun _ => of_get (by omega) fun p0 _ => iteInduction (fun _ => ?_) (fun _ => str _ _ (by omega))
    exact rbind_safe (str _ _ (by omega)) (fun n => rbind_safe (str _ _ (by omega)) (fun p => trivial))
  refine rbind_safe (iteInduction (fun _ => trivial) (fun _ => num _ _ (by omega) (by omega))) (fun size => ?_)
  refine rbind_safe (iteInduction (fun _ => trivial) (fun _ => num _ _ (by omega) (by omega))) (fun uid => ?_)
  refine rbind_safe (iteInduction (fun _ => trivial) (fun _ => num _ _ (by omega) (by omega))) (fun gid => ?_)
  refine rbind_safe (num _ _ (by omega) (by omega)) (fun _ => ?_)
  refine rbind_safe (num _ _ (by omega) (by omega)) (fun _ => ?_)
  refine rbind_safe (iteInduction (fun _ => trivial)
    (fun _ => rbind_safe (num _ _ (by omega) (by omega)) (fun f => trivial))) (fun mtime => ?_)
  refine rbind_safe (num _ _ (by omega) (by omega)) (fun modeField => of_get (by omega) fun tf _ => ?_)
  refine rbind_safe ?_ (fun link => ?_)
  · refine iteInduction (fun _ => ?_) (fun _ => trivial)
    exact iteInduction (fun _ => trivial) (fun _ => rbind_safe (str _ _ (by omega)) (fun l => trivial))
  -- the type flag only selects the mode bits: each of the eight arms is a value
  iterate 7 refine iteInduction (fun _ => trivial) (fun _ => ?_)
  trivial

/-- the result is not an out-of-bounds access, the loop has ended, and every allocation request is within `1 … bound` -/
def RHGood (bound : Nat) (o : RHOut) : Prop :=
  (match o.res with | .oob => False | .spin => False | _ => True) ∧ ∀ n ∈ o.allocs, 1 ≤ n ∧ n ≤ bound

theorem ofR_good {α : Type} {bound : Nat} {al : List Nat} {r : R α} {k : α → RHOut} (hal : ∀ n ∈ al, 1 ≤ n ∧ n ≤ bound)
    (hr : r.safe) (hk : ∀ a, RHGood bound (k a)) : RHGood bound (RHOut.ofR al r k) :=
  hr.seq hk (fun _ => ⟨trivial, hal⟩)

theorem recordToMem_spec (s : Bytes) (size : Nat) :
    (recordToMem s size).Sat fun p => p.1 = s.take size ++ [0] ∧ size ≤ s.length ∧ p.2.length + size ≤ s.length := by
  unfold recordToMem
  exact iteInduction (fun _ => .fail) fun _ => iteInduction (fun _ => .fail) fun _ =>
    .ok ⟨rfl, by omega, by simp only [List.length_drop]; omega⟩

/-- what `cstrOf` takes for granted: read byte by byte (`cstr`), the string in a `record_to_memory` buffer ends at the
terminator stored behind the record at the latest -/
theorem cstr_record_safe (s : Bytes) (size : Nat) (h : size ≤ s.length) :
    (cstr (s.take size ++ [0]) ((s.take size ++ [0]).length + 1) 0).safe := by
  have hlen : (s.take size).length = size := List.length_take_of_le h
  have hk := List.getElem?_concat_length (l := s.take size) (a := (0 : UInt8))
  rw [hlen] at hk
  exact cstr_safe _ size hk _ 0 (by rw [List.length_append, hlen]; omega) (Nat.zero_le _)

theorem rhFinish_good (bound : Nat) (hdr s : Bytes) (o : PaxOut) (v : TarVersion) (al : List Nat) (h : hdr.length = 512)
    (hal : ∀ n ∈ al, 1 ≤ n ∧ n ≤ bound) : RHGood bound (rhFinish hdr s o v al) := by
  unfold rhFinish
  refine ofR_good hal (decodeHeader_safe hdr o v h) (fun t => ofR_good hal ?_ (fun p => ?_))
  · refine iteInduction (fun _ => ?_) (fun _ => trivial)
    exact (readGnuNewSparse_spec s t.recordSize).1.seq (fun _ => trivial) (fun _ => trivial)
  · exact iteInduction (fun _ => ⟨trivial, hal⟩) (fun _ => iteInduction (fun _ => ⟨trivial, hal⟩) (fun _ => ⟨trivial, hal⟩))

/-- a `K` / `L` / `x` record: its size field is held against the limit before `record_to_memory` is called, and the
stream behind the record is not longer than the one it was read from -/
theorem record_good {bound lim cls : Nat} {hdr s : Bytes} {al : List Nat} {k : Nat → Bytes × Bytes → RHOut}
    (hlim : lim ≤ bound) (hhdr : hdr.length = 512) (hal : ∀ n ∈ al, 1 ≤ n ∧ n ≤ bound)
    (hk : ∀ sz buf rest, (∀ n ∈ sz :: al, 1 ≤ n ∧ n ≤ bound) → rest.length ≤ s.length → RHGood bound (k sz (buf, rest))) :
    RHGood bound (RHOut.ofR al (field hdr 124 12) fun sz =>
      if sz < 1 ∨ sz > lim then ⟨.fail cls, al⟩ else RHOut.ofR (sz :: al) (recordToMem s sz) (k sz)) := by
  refine ofR_good hal (field_safe hdr 124 12 (by omega) (by omega)) (fun sz =>
    iteInduction (fun _ => ⟨trivial, hal⟩) (fun hsz => ?_))
  have hal' : ∀ n ∈ sz :: al, 1 ≤ n ∧ n ≤ bound := by
    intro n hn
    rcases List.mem_cons.1 hn with rfl | hn
    · omega
    · exact hal n hn
  exact (recordToMem_spec s sz).seq (fun p hp => hk sz p.1 p.2 hal' (by omega)) (fun _ => ⟨trivial, hal'⟩)

theorem rhLoop_good (bound : Nat) (hK : Sqfs.Consts.tarMaxSymlinkLen ≤ bound) (hL : Sqfs.Consts.tarMaxPathLen ≤ bound)
    (hX : Sqfs.Consts.tarMaxPaxLen ≤ bound) :
    ∀ (fuel : Nat) (s : Bytes), s.length / 512 + 1 ≤ fuel → ∀ (o : PaxOut) (pz : Bool) (al : List Nat),
    (∀ n ∈ al, 1 ≤ n ∧ n ≤ bound) → RHGood bound (rhLoop fuel s o pz al) := by
  refine fuel_ind (fun s : Bytes => s.length / 512) fun f s ih o pz al hal => ?_
  rw [rhLoop, show Sqfs.Consts.sizeofTarHeader = 512 from rfl]
  refine iteInduction (fun _ => iteInduction (fun _ => ⟨trivial, hal⟩) (fun _ => ⟨trivial, hal⟩)) (fun hge => ?_)
  have hge : 512 ≤ s.length := Nat.le_of_not_lt hge
  have hhdr : (s.take 512).length = 512 := by rw [List.length_take]; omega
  have hdrop : (s.drop 512).length = s.length - 512 := List.length_drop ..
  -- every later round starts behind this round's header, so the fuel that is left suffices
  have next : ∀ (s' : Bytes) o' pz' al', s'.length ≤ (s.drop 512).length → (∀ n ∈ al', 1 ≤ n ∧ n ≤ bound) →
      RHGood bound (rhLoop f s' o' pz' al') := fun s' o' pz' al' hs' => ih s' (by omega) o' pz' al'
  refine iteInduction (fun _ => iteInduction (fun _ => ⟨trivial, hal⟩) (fun _ => next _ _ _ _ (Nat.le_refl _) hal)) (fun _ => ?_)
  cases checkVersion (s.take 512) with
  | none => exact ⟨trivial, hal⟩
  | some v =>
    refine ofR_good hal (checksumValid_safe _ hhdr) (fun okc => iteInduction (fun _ => ⟨trivial, hal⟩) (fun _ => ?_))
    -- the type flags 'K', 'L', 'g', 'x', 'S', and everything else
    refine of_get (by omega) fun tf _ => iteInduction (fun _ => ?_) (fun _ => iteInduction (fun _ => ?_) (fun _ => iteInduction (fun _ => ?_) (fun _ =>
      iteInduction (fun _ => ?_) (fun _ => iteInduction (fun _ => ?_) (fun _ => rhFinish_good bound _ _ _ _ _ hhdr hal)))))
    · exact record_good hK hhdr hal (fun sz buf rest hal' hr => next _ _ _ _ hr hal')
    · exact record_good hL hhdr hal (fun sz buf rest hal' hr => next _ _ _ _ hr hal')
    · refine ofR_good hal (field_safe _ 124 12 (by omega) (by omega)) (fun sz =>
        iteInduction (fun _ => ⟨trivial, hal⟩) (fun _ => next _ _ _ _ ?_ hal))
      rw [List.length_drop]; omega
    · refine record_good hX hhdr hal (fun sz buf rest hal' hr => ?_)
      exact (readPaxHeader_safe ((s.drop 512).take sz)).seq (fun _ => next _ _ _ _ hr hal') (fun _ => ⟨trivial, hal'⟩)
    · refine (readGnuOldSparse_safe (s.take 512) (s.drop 512) hhdr).seq (fun (m, s') => ?_) (fun _ => ⟨trivial, hal⟩)
      cases m with
      | nil => exact ⟨trivial, hal⟩
      | cons e m' =>
        exact ofR_good hal (field_safe _ 483 12 (by omega) (by omega)) (fun real => rhFinish_good bound _ _ _ _ _ hhdr hal)

end Sqfs.ParseTotal
