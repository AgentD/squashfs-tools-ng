/-
C06, the walks node by node.  When the plan has no error of its own, *every* visited node gets its creating call, every
regular file its content, every node its attribute calls, and the skip reports are exactly the refused entries (order
and multiplicity); and the plan is ordered: a path's prefixes are made by earlier `mkdir`s, a node is created before it
is filled or given attributes.
-/
import Sqfs.Proofs.Unpack
namespace Sqfs.Unpack
open Sqfs.Path

/-! ## the create walk, node by node -/

/-- `Out.skips` for events that are not a whole `Out`'s: a piece `a.evs ++ b.evs` of a walk, the events of a `GenOut` -/
def skipsOf (evs : List Ev) : List Bytes := evs.filterMap (fun | .sys _ => none | .skip n => some n)

theorem skipsOf_append (a b : List Ev) : skipsOf (a ++ b) = skipsOf a ++ skipsOf b := by
  simp [skipsOf, List.filterMap_append]

theorem Out.skips_eq (o : Out) : o.skips = skipsOf o.evs := rfl

mutual
theorem createDfsN_complete (rn : Bytes) (fl : Flags) : ∀ (x : TNode) (comps : List Bytes),
    (createDfs rn fl comps x).err = none →
      (∀ c n, (c, n) ∈ visitN comps x →
        Ev.sys (createNode n.kind (joinSlash c) n.payload n.attr fl) ∈ (createDfs rn fl comps x).evs) ∧
      skipsOf (createDfs rn fl comps x).evs = skipped x
  | .mk name k pl a ch, comps, h => by
    unfold createDfs at h ⊢
    unfold visitN skipped
    by_cases hs : (!isFilenameSane name) = true
    · simp [hs, skipsOf]
    · rw [if_neg hs] at h
      simp only [if_neg hs]
      cases hp : pathOf rn comps with
      | error e => rw [hp] at h; cases h
      | ok p =>
        rw [hp] at h
        simp only at h ⊢
        obtain ⟨_, hb, hevs⟩ := Out.seq_ok h
        obtain ⟨_, _, hpj⟩ := pathOf_ok hp
        rw [hevs]
        -- the children, if the node is a directory
        have kids : (∀ c n, (c, n) ∈ (if k = .dir then visitNL comps ch else []) →
              Ev.sys (createNode n.kind (joinSlash c) n.payload n.attr fl) ∈
                (if k = .dir then createList rn fl comps ch else ⟨[], none⟩).evs) ∧
            skipsOf (if k = .dir then createList rn fl comps ch else ⟨[], none⟩).evs =
              (if k = .dir then skippedL ch else []) := by
          split
          · rename_i hk
            rw [if_pos hk] at hb
            exact createListN_complete rn fl ch comps hb
          · exact ⟨fun _ _ hm => (by cases hm), rfl⟩
        refine ⟨fun c n hm => ?_, by rw [skipsOf_append, kids.2]; rfl⟩
        rcases List.mem_cons.1 hm with e | hm
        · cases e
          simp [TNode.kind, TNode.payload, TNode.attr, hpj]
        · exact List.mem_append_right _ (kids.1 c n hm)
theorem createListN_complete (rn : Bytes) (fl : Flags) : ∀ (l : List TNode) (anc : List Bytes),
    (createList rn fl anc l).err = none →
      (∀ c n, (c, n) ∈ visitNL anc l →
        Ev.sys (createNode n.kind (joinSlash c) n.payload n.attr fl) ∈ (createList rn fl anc l).evs) ∧
      skipsOf (createList rn fl anc l).evs = skippedL l
  | [], _, _ => by simp [visitNL, skippedL, createList, skipsOf]
  | x :: xs, anc, h => by
    unfold createList at h ⊢
    unfold visitNL skippedL
    obtain ⟨ha, hb, hevs⟩ := Out.seq_ok h
    rw [hevs]
    have ih1 := createDfsN_complete rn fl x _ ha
    have ih2 := createListN_complete rn fl xs anc hb
    constructor
    · intro c n hm
      rcases List.mem_append.1 hm with h1 | h1
      · simp [ih1.1 c n h1]
      · simp [ih2.1 c n h1]
    · rw [skipsOf_append, ih1.2, ih2.2]
end

theorem restoreFstreeN_complete (fl : Flags) (t : TNode) (h : (restoreFstree fl t).err = none) :
    (∀ c n, (c, n) ∈ visitNRoot t →
      Ev.sys (createNode n.kind (joinSlash c) n.payload n.attr fl) ∈ (restoreFstree fl t).evs) ∧
    skipsOf (restoreFstree fl t).evs = skippedRoot t := by
  unfold restoreFstree at h ⊢
  unfold visitNRoot skippedRoot
  split
  · rename_i hk
    rw [if_pos hk] at h
    exact createListN_complete _ fl _ [] h
  · rename_i hk
    rw [if_neg hk] at h
    exact createDfsN_complete _ fl t [] h

theorem restoreFstree_complete (fl : Flags) (t : TNode) (h : (restoreFstree fl t).err = none) :
    (∀ c k, (c, k) ∈ visitRoot t → CreatedIn (restoreFstree fl t).evs c k) ∧
    (∀ n ∈ skippedRoot t, Ev.skip n ∈ (restoreFstree fl t).evs) := by
  obtain ⟨h1, h2⟩ := restoreFstreeN_complete fl t h
  constructor
  · intro c k hm
    rw [visitRoot_eq_visitNRoot] at hm
    obtain ⟨⟨c', n⟩, hm', e⟩ := List.mem_map.1 hm
    cases e
    exact ⟨_, h1 c' n hm', path_createNode .., compat_createNode .., isCreate_createNode ..⟩
  · intro n hn
    rw [← h2] at hn
    obtain ⟨ev, hev, e⟩ := List.mem_filterMap.1 hn
    cases ev with
    | sys _ => cases e
    | skip m => cases e; exact hev

/-! ## order: a path's prefixes are made by earlier `mkdir`s -/

/-- in the whole plan, each call comes after the `mkdir` of every proper prefix of its path and, if it belongs to the
    fill or attribute walk, after the creating call of its own node -/
theorem unpackTree_ordered (ord : List FileEnt → List FileEnt) (hord : OrdOK ord) (fl : Flags) (t t' : TNode)
    (hs : treeSort t = .ok t') (l₁ : List Ev) (sc : Syscall) (l₂ : List Ev)
    (h : (unpackTree ord fl t).evs = l₁ ++ Ev.sys sc :: l₂) :
    ∃ c k, (c, k) ∈ visitRoot t' ∧ AllGood c ∧ sc.path = joinSlash c ∧ Compat sc k ∧
      (∀ pre, pre <+: c → pre ≠ [] → pre ≠ c → ∃ m, Ev.sys (.mkdir (joinSlash pre) m) ∈ l₁) ∧
      (sc.isCreate = false → CreatedIn l₁ c k) := by
  obtain ⟨c, k, hm, hg, hpath, hc⟩ := unpackTree_ops ord hord fl t t' hs sc (by rw [Out.mem_syscalls, h]; simp)
  refine ⟨c, k, hm, hg, hpath, hc, ?_⟩
  rw [unpackTree_eq ord fl hs] at h
  simp only [planSorted] at h
  rcases Out.seq_evs_split h with ⟨r, hr⟩ | ⟨a', he, rfl, _⟩
  · -- the call belongs to the create walk: that walk is ordered, and makes creating calls only
    obtain ⟨c', n, _, hgc, hsc, hc2⟩ := restoreFstree_at fl t' l₁ sc r hr
    obtain rfl : c' = c := joinSlash_inj hgc hg (by rw [← hpath, hsc, path_createNode])
    refine ⟨fun pre hp1 hp2 hp3 => hc2 pre hp1 (List.length_pos_iff.2 hp2) hp3, fun hn => ?_⟩
    rw [hsc, isCreate_createNode] at hn
    cases hn
  · -- it comes after the whole create walk, which is complete
    have created : ∀ c k, (c, k) ∈ visitRoot t' → CreatedIn ((restoreFstree fl t').evs ++ a') c k := by
      intro c k hm
      obtain ⟨sc', h1, r⟩ := (restoreFstree_complete fl t' he).1 c k hm
      exact ⟨sc', by simp [h1], r⟩
    refine ⟨fun pre hp1 hp2 hp3 => ?_, fun _ => created c k hm⟩
    obtain ⟨sc', h1, h2, h3, h4⟩ := created pre .dir (visitRoot_prefix t' c k pre hm hp1 hp2 hp3)
    obtain ⟨m, hm'⟩ := create_dir_is_mkdir h4 h3
    exact ⟨m, by rw [← h2, ← hm']; exact h1⟩

/-! ## the file list and the fill phase -/

/-- the file-list entry `add_file` makes for a visited regular file -/
def fileEntOf (c : List Bytes) (n : TNode) : FileEnt := mkFileEnt (joinSlash c) n.payload n.attr

theorem GenOut.seq_ok {a b : GenOut} (h : (a.seq b).err = none) :
    a.err = none ∧ b.err = none ∧ (a.seq b).evs = a.evs ++ b.evs ∧ (a.seq b).files = a.files ++ b.files := by
  unfold GenOut.seq at h ⊢
  split at h
  · rename_i e he; rw [he] at h; cases h
  · rename_i he; simp only at h; simp [he, h]

mutual
theorem genFiles_complete (rn : Bytes) : ∀ (x : TNode) (comps : List Bytes),
    (genFiles rn comps x).err = none →
      (∀ c n, (c, n) ∈ visitN comps x → n.kind = .reg → fileEntOf c n ∈ (genFiles rn comps x).files) ∧
      skipsOf (genFiles rn comps x).evs = skipped x
  | .mk name k pl a ch, comps, h => by
    unfold genFiles at h ⊢
    unfold visitN skipped
    by_cases hs : (!isFilenameSane name) = true
    · simp [hs, skipsOf]
    · rw [if_neg hs] at h
      simp only [if_neg hs]
      by_cases hk : k = .reg
      · subst hk
        simp only [↓reduceIte, reduceCtorEq] at h ⊢
        cases hp : pathOf rn comps with
        | error e => rw [hp] at h; cases h
        | ok p =>
          obtain ⟨_, _, hpj⟩ := pathOf_ok hp
          constructor
          · intro c n hm _
            simp only [List.mem_cons, Prod.mk.injEq, List.not_mem_nil, or_false] at hm
            obtain ⟨rfl, rfl⟩ := hm
            simp [fileEntOf, TNode.attr, TNode.payload, hpj]
          · simp [skipsOf]
      · simp only [if_neg hk] at h ⊢
        by_cases hd : k = .dir
        · subst hd
          simp only [↓reduceIte] at h ⊢
          have ih := genFilesL_complete rn ch comps h
          constructor
          · intro c n hm hr
            simp only [List.mem_cons, Prod.mk.injEq] at hm
            rcases hm with ⟨rfl, rfl⟩ | hm
            · simp only [TNode.kind] at hr; exact absurd hr hk
            · exact ih.1 c n hm hr
          · exact ih.2
        · simp only [if_neg hd]
          constructor
          · intro c n hm hr
            simp only [List.mem_cons, Prod.mk.injEq, List.not_mem_nil, or_false] at hm
            obtain ⟨rfl, rfl⟩ := hm
            simp only [TNode.kind] at hr; exact absurd hr hk
          · simp [skipsOf]
theorem genFilesL_complete (rn : Bytes) : ∀ (l : List TNode) (anc : List Bytes),
    (genFilesL rn anc l).err = none →
      (∀ c n, (c, n) ∈ visitNL anc l → n.kind = .reg → fileEntOf c n ∈ (genFilesL rn anc l).files) ∧
      skipsOf (genFilesL rn anc l).evs = skippedL l
  | [], _, _ => by simp [visitNL, skippedL, genFilesL, skipsOf]
  | x :: xs, anc, h => by
    unfold genFilesL at h ⊢
    unfold visitNL skippedL
    obtain ⟨ha, hb, hevs, hfiles⟩ := GenOut.seq_ok h
    rw [hevs, hfiles]
    have ih1 := genFiles_complete rn x _ ha
    have ih2 := genFilesL_complete rn xs anc hb
    constructor
    · intro c n hm hr
      rcases List.mem_append.1 hm with h1 | h1
      · exact List.mem_append_left _ (ih1.1 c n h1 hr)
      · exact List.mem_append_right _ (ih2.1 c n h1 hr)
    · rw [skipsOf_append, ih1.2, ih2.2]
end

theorem fillFiles_complete : ∀ (l : List FileEnt), (fillFiles l).err = none →
    (∀ f ∈ l, f.fail = false ∧ Ev.sys (.openTrunc f.path f.data) ∈ (fillFiles l).evs) ∧ skipsOf (fillFiles l).evs = []
  | [], _ => by simp [fillFiles, skipsOf]
  | f :: r, h => by
    unfold fillFiles at h ⊢
    obtain ⟨ha, hb, hevs⟩ := Out.seq_ok h
    rw [hevs]
    have ih := fillFiles_complete r hb
    have hf : f.fail = false := by
      cases hff : f.fail with
      | false => rfl
      | true => simp [hff] at ha
    constructor
    · intro g hg
      rcases List.mem_cons.1 hg with rfl | hg
      · exact ⟨hf, by simp⟩
      · exact ⟨(ih.1 g hg).1, by simp [(ih.1 g hg).2]⟩
    · rw [skipsOf_append, ih.2]; simp [skipsOf]

/-- `qsort` loses no entry -/
def OrdAll (ord : List FileEnt → List FileEnt) : Prop := ∀ l f, f ∈ l → f ∈ ord l

theorem mem_insertFile {x y : FileEnt} {l : List FileEnt} : y ∈ insertFile x l ↔ y = x ∨ y ∈ l := by
  fun_induction insertFile x l <;> simp [*, or_left_comm]

theorem mem_ordByLoc {y : FileEnt} : ∀ {l : List FileEnt}, y ∈ ordByLoc l ↔ y ∈ l
  | [] => by simp [ordByLoc]
  | x :: xs => by
    unfold ordByLoc
    rw [mem_insertFile, mem_ordByLoc (l := xs)]
    simp

/-- for a tree whose root has a sane name ("" for the image's root, a path component for `--unpack-path`),
    `gen_file_list_dfs(root)` lists the visited regular files -/
theorem genFiles_root_complete (t : TNode) (hn : isFilenameSane t.name = true) (h : (genFiles t.name [] t).err = none) :
    (∀ c n, (c, n) ∈ visitNRoot t → n.kind = .reg → fileEntOf c n ∈ (genFiles t.name [] t).files) ∧
    skipsOf (genFiles t.name [] t).evs = skippedRoot t := by
  obtain ⟨name, k, pl, a, ch⟩ := t
  by_cases hk : k = .dir
  · subst hk
    simp only [visitNRoot, skippedRoot, TNode.kind, TNode.children, TNode.name, if_true] at hn h ⊢
    rw [genFiles_dir, if_neg (by simp [hn])] at h ⊢
    exact genFilesL_complete name ch [] h
  · simp only [visitNRoot, skippedRoot, TNode.kind, hk, if_false]
    exact genFiles_complete _ _ [] h

theorem fillUnpacked_complete (ord : List FileEnt → List FileEnt) (hall : OrdAll ord) (t : TNode)
    (hn : isFilenameSane t.name = true) (h : (fillUnpacked ord t).err = none) :
    (∀ c n, (c, n) ∈ visitNRoot t → n.kind = .reg → n.attr.copyFail = none ∧
      Ev.sys (.openTrunc (joinSlash c) n.payload) ∈ (fillUnpacked ord t).evs) ∧
    skipsOf (fillUnpacked ord t).evs = skippedRoot t := by
  unfold fillUnpacked at h ⊢
  simp only at h ⊢
  cases hg : (genFiles t.name [] t).err with
  | some e => rw [hg] at h; cases h
  | none =>
    rw [hg] at h
    simp only at h ⊢
    obtain ⟨_, hb, hevs⟩ := Out.seq_ok h
    rw [hevs]
    obtain ⟨g1, g2⟩ := genFiles_root_complete t hn hg
    obtain ⟨f1, f2⟩ := fillFiles_complete _ hb
    constructor
    · intro c n hm hr
      obtain ⟨hfail, hev⟩ := f1 _ (hall _ _ (g1 c n hm hr))
      have hcf : n.attr.copyFail = none := by
        cases hc : n.attr.copyFail with
        | none => rfl
        | some k => simp [fileEntOf, mkFileEnt, hc] at hfail
      refine ⟨hcf, ?_⟩
      simp only [fileEntOf, mkFileEnt, hcf] at hev
      simp [hev]
    · rw [skipsOf_append, g2, f2]; simp

/-! ## the attribute walk -/

theorem attrOps_noskip (fl : Flags) (k : Kind) (p : Bytes) (a : Attr) : skipsOf (attrOps fl k p a).evs = [] := by
  rw [skipsOf, List.filterMap_eq_nil_iff]
  intro ev hev
  obtain ⟨sc, rfl, _⟩ := attrOps_calls hev
  rfl

mutual
theorem setAttribs_complete (rn : Bytes) (fl : Flags) : ∀ (x : TNode) (comps : List Bytes),
    (setAttribs rn fl comps x).err = none →
      (∀ c n, (c, n) ∈ visitN comps x → (attrOps fl n.kind (joinSlash c) n.attr).err = none ∧
        ∀ ev ∈ (attrOps fl n.kind (joinSlash c) n.attr).evs, ev ∈ (setAttribs rn fl comps x).evs) ∧
      skipsOf (setAttribs rn fl comps x).evs = []
  | .mk name k pl a ch, comps, h => by
    unfold setAttribs at h ⊢
    unfold visitN
    by_cases hs : (!isFilenameSane name) = true
    · simp [hs, skipsOf]
    · rw [if_neg hs] at h
      simp only [if_neg hs]
      obtain ⟨ha, hb, hevs⟩ := Out.seq_ok h
      rw [hevs]
      cases hp : pathOf rn comps with
      | error e => rw [hp] at hb; cases hb
      | ok p =>
        rw [hp] at hb
        simp only at hb ⊢
        obtain ⟨_, _, hpj⟩ := pathOf_ok hp
        -- the children, if the node is a directory
        have kids : (∀ c n, (c, n) ∈ (if k = .dir then visitNL comps ch else []) →
              (attrOps fl n.kind (joinSlash c) n.attr).err = none ∧
              ∀ ev ∈ (attrOps fl n.kind (joinSlash c) n.attr).evs,
                ev ∈ (if k = .dir then setAttribsL rn fl comps ch else ⟨[], none⟩).evs) ∧
            skipsOf (if k = .dir then setAttribsL rn fl comps ch else ⟨[], none⟩).evs = [] := by
          split
          · rename_i hk
            rw [if_pos hk] at ha
            exact setAttribsL_complete rn fl ch comps ha
          · exact ⟨fun _ _ hm => (by cases hm), rfl⟩
        refine ⟨fun c n hm => ?_, by rw [skipsOf_append, kids.2, attrOps_noskip]; rfl⟩
        rcases List.mem_cons.1 hm with e | hm
        · cases e
          simp only [TNode.kind, TNode.attr, ← hpj]
          exact ⟨hb, fun ev hev => List.mem_append_right _ hev⟩
        · exact ⟨(kids.1 c n hm).1, fun ev hev => List.mem_append_left _ ((kids.1 c n hm).2 ev hev)⟩
theorem setAttribsL_complete (rn : Bytes) (fl : Flags) : ∀ (l : List TNode) (anc : List Bytes),
    (setAttribsL rn fl anc l).err = none →
      (∀ c n, (c, n) ∈ visitNL anc l → (attrOps fl n.kind (joinSlash c) n.attr).err = none ∧
        ∀ ev ∈ (attrOps fl n.kind (joinSlash c) n.attr).evs, ev ∈ (setAttribsL rn fl anc l).evs) ∧
      skipsOf (setAttribsL rn fl anc l).evs = []
  | [], _, _ => by simp [visitNL, setAttribsL, skipsOf]
  | x :: xs, anc, h => by
    unfold setAttribsL at h ⊢
    unfold visitNL
    obtain ⟨ha, hb, hevs⟩ := Out.seq_ok h
    rw [hevs]
    have ih1 := setAttribs_complete rn fl x _ ha
    have ih2 := setAttribsL_complete rn fl xs anc hb
    constructor
    · intro c n hm
      rcases List.mem_append.1 hm with h1 | h1
      · exact ⟨(ih1.1 c n h1).1, fun ev hev => List.mem_append_left _ ((ih1.1 c n h1).2 ev hev)⟩
      · exact ⟨(ih2.1 c n h1).1, fun ev hev => List.mem_append_right _ ((ih2.1 c n h1).2 ev hev)⟩
    · rw [skipsOf_append, ih1.2, ih2.2]; rfl
end

/-- without `-C -O -T -X` a node has no attribute calls -/
theorem attrOps_noflags {fl : Flags} (h : (fl.chown || fl.chmod || fl.setTimes || fl.setXattr) = false) (k : Kind) (p : Bytes)
    (a : Attr) : (attrOps fl k p a).evs = [] ∧ (attrOps fl k p a).err = none := by
  simp only [Bool.or_eq_false_iff] at h
  obtain ⟨⟨⟨h1, h2⟩, h3⟩, h4⟩ := h
  simp [attrOps, attrTail, h1, h2, h3, h4, Out.seq]

theorem updateAttribs_complete (fl : Flags) (t : TNode) (h : (updateAttribs fl t).err = none) :
    (∀ c n, (c, n) ∈ visitNRoot t → (attrOps fl n.kind (joinSlash c) n.attr).err = none ∧
      ∀ ev ∈ (attrOps fl n.kind (joinSlash c) n.attr).evs, ev ∈ (updateAttribs fl t).evs) ∧
    skipsOf (updateAttribs fl t).evs = [] := by
  unfold updateAttribs at h ⊢
  unfold visitNRoot
  by_cases hfl : (!(fl.chown || fl.chmod || fl.setTimes || fl.setXattr)) = true
  · simp only [hfl, if_true]
    have hfl' : (fl.chown || fl.chmod || fl.setTimes || fl.setXattr) = false := by simpa using hfl
    refine ⟨fun c n _ => ?_, rfl⟩
    obtain ⟨h1, h2⟩ := attrOps_noflags hfl' n.kind (joinSlash c) n.attr
    exact ⟨h2, by rw [h1]; intro ev hev; cases hev⟩
  · rw [if_neg hfl] at h
    simp only [if_neg hfl]
    split
    · rename_i hk
      rw [if_pos hk] at h
      exact setAttribsL_complete _ fl _ [] h
    · rename_i hk
      rw [if_neg hk] at h
      exact setAttribs_complete _ fl t [] h

/-! ## the whole plan -/

/-- **the plan without an error of its own is complete**: every visited node has its creating call, every visited
    regular file the `open(O_TRUNC)` that writes its whole content, every visited node all its attribute calls; and the
    skip reports are exactly the refused entries, once per reporting walk, in walk order. -/
theorem planSorted_complete (ord : List FileEnt → List FileEnt) (hall : OrdAll ord) (fl : Flags) (t : TNode)
    (hn : isFilenameSane t.name = true) (h : (planSorted ord fl t).err = none) :
    (∀ c n, (c, n) ∈ visitNRoot t →
      Ev.sys (createNode n.kind (joinSlash c) n.payload n.attr fl) ∈ (planSorted ord fl t).evs ∧
      (n.kind = .reg → n.attr.copyFail = none ∧ Ev.sys (.openTrunc (joinSlash c) n.payload) ∈ (planSorted ord fl t).evs) ∧
      (attrOps fl n.kind (joinSlash c) n.attr).err = none ∧
      (∀ ev ∈ (attrOps fl n.kind (joinSlash c) n.attr).evs, ev ∈ (planSorted ord fl t).evs)) ∧
    (planSorted ord fl t).skips = skippedRoot t ++ skippedRoot t := by
  unfold planSorted at h ⊢
  obtain ⟨ha, hbc, hevs⟩ := Out.seq_ok h
  obtain ⟨hb, hc, hevs2⟩ := Out.seq_ok hbc
  rw [Out.skips_eq, hevs, hevs2]
  obtain ⟨a1, a2⟩ := restoreFstreeN_complete fl t ha
  obtain ⟨b1, b2⟩ := fillUnpacked_complete ord hall t hn hb
  obtain ⟨c1, c2⟩ := updateAttribs_complete fl t hc
  constructor
  · intro c n hm
    refine ⟨by simp [a1 c n hm], ?_, (c1 c n hm).1, ?_⟩
    · intro hr
      obtain ⟨h1, h2⟩ := b1 c n hm hr
      exact ⟨h1, by simp [h2]⟩
    · intro ev hev
      have := (c1 c n hm).2 ev hev
      simp [this]
  · simp only [skipsOf_append, a2, b2, c2, List.append_nil]

end Sqfs.Unpack
