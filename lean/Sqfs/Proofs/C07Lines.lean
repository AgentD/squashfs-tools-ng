/-
Helper lemmas for C07: the callers' loop around `istream_get_line` over the buffered file stream returns the lines
of the byte-at-a-time specification, for every buffer size and every script of short reads, and it ends.
Built on C12's closed form of one call over the file stream (`getLine_file`).
-/
import Sqfs.Proofs.IoIdeal
import Sqfs.Model.C07Lines
namespace Sqfs.C07Lines
open Sqfs.IoLoops Sqfs.IoLoops.Spec

theorem nextLineAux_rest_le (flags : Nat) : ∀ (rest cur : Bytes) (ln : Nat),
    (nextLineAux flags cur rest ln).2.1.length ≤ rest.length - 1 := by
  intro rest
  induction rest with
  | nil => intro cur ln; simp only [nextLineAux]; split <;> (try split) <;> simp
  | cons c r ih =>
    intro cur ln
    simp only [nextLineAux, List.length_cons, Nat.add_sub_cancel]
    split
    · split
      · exact Nat.le_refl _
      · exact Nat.le_trans (ih _ _) (Nat.sub_le _ _)
    · exact Nat.le_trans (ih _ _) (Nat.sub_le _ _)

theorem nextLine_nil (flags ln : Nat) : nextLine flags [] ln = (none, [], ln) := by
  simp [nextLine, nextLineAux]

/-- the specification's loop needs at most one round per byte, plus the final one -/
theorem specLines_no_fuel (flags : Nat) : ∀ (fuel : Nat) (rest : Bytes), rest.length + 1 ≤ fuel →
    ∀ (ln : Nat) (acc : List (Bytes × Nat)), (specLines flags fuel rest ln acc).err = none := by
  refine fuel_ind List.length fun f rest ih ln acc => ?_
  simp only [specLines]
  cases rest with
  | nil => rw [nextLine_nil]
  | cons c r =>
    have hl := nextLineAux_rest_le flags (c :: r) [] ln
    generalize hn : nextLine flags (c :: r) ln = res at *
    obtain ⟨o, rest', ln'⟩ := res
    replace hl : rest'.length ≤ r.length := by
      have : (nextLineAux flags [] (c :: r) ln).2.1 = rest' := congrArg (fun x => x.2.1) hn
      rw [this] at hl; simpa using hl
    cases o with
    | none => rfl
    | some l => exact ih rest' (by simp only [List.length_cons]; omega) (ln' + 1) _

theorem readLines_file (B : Nat) (hB : 0 < B) (data : Bytes) (flags : Nat) :
    ∀ (fuel : Nat) (s : IStream) (t : Ideal) (ln : Nat) (os : OS) (acc : List (Bytes × Nat)),
    Rel B data s t → Iv data t → noHard os.sc = true →
    readLines (fileStream B) flags fuel s ln os acc = specLines flags fuel (data.drop t.pos) ln acc := by
  intro fuel
  induction fuel with
  | zero => intro s t ln os acc _ _ _; rfl
  | succ f ih =>
    intro s t ln os acc hr hi hn
    obtain ⟨s', t', os', h1, hr', hi', hn', hd⟩ := getLine_file B hB data flags s t [] ln os hr hi hn
    simp only [readLines, specLines, nextLine, h1]
    generalize nextLineAux flags [] (List.drop t.pos data) ln = res at *
    obtain ⟨o, rest', ln'⟩ := res
    cases o with
    | none => simp [lineRetOf]
    | some l =>
      simp only [lineRetOf]
      rw [ih s' t' (ln' + 1) os' _ hr' hi' hn', hd]

end Sqfs.C07Lines
