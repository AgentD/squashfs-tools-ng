/-
Helper lemmas for the header writer (C04).  `num_digits n` is the least `d ≥ 1` with `n < 10 ^ d` (`numDigits_le_iff`); hence it is
monotone and grows by at most one when a number of its own size is added, which is why the loop of `prefix_digit_len` comes to
rest.  Decimal strings have `num_digits` bytes.  The type switch of `write_tar_header` (`entryType`) and the two halves of a mode.
-/
import Sqfs.Model.TarHeader
import Mathlib.Tactic.Ring
import Mathlib.Tactic.Linarith
namespace Sqfs.Tar

theorem numDigitsF_le_iff (f n d : Nat) (h : n ≤ f) : numDigitsF f n ≤ d ↔ 1 ≤ d ∧ n < 10 ^ d := by
  induction f generalizing n d with
  | zero =>
    obtain rfl : n = 0 := by omega
    simp [numDigitsF]
  | succ f ih =>
    unfold numDigitsF
    by_cases h10 : n ≥ 10
    · rw [if_pos h10]
      -- one digit fewer on both sides: `n / 10 < 10 ^ d ↔ n < 10 ^ (d + 1)`
      rcases d with _ | _ | d
      · omega
      · have := ih (n / 10) 0 (by omega); omega
      · have := ih (n / 10) (d + 1) (by omega)
        rw [pow_succ 10 (d + 1)]; omega
    · rw [if_neg h10]
      have : 1 ≤ d → 10 ≤ 10 ^ d := fun hd => Nat.le_self_pow (by omega) 10
      omega

theorem numDigits_le_iff (n d : Nat) : numDigits n ≤ d ↔ 1 ≤ d ∧ n < 10 ^ d := numDigitsF_le_iff n n d (Nat.le_refl n)

theorem numDigits_pos (n : Nat) : 1 ≤ numDigits n := ((numDigits_le_iff n _).1 (Nat.le_refl _)).1
theorem numDigits_lt (n : Nat) : n < 10 ^ numDigits n := ((numDigits_le_iff n _).1 (Nat.le_refl _)).2

theorem numDigits_mono (a b : Nat) (h : a ≤ b) : numDigits a ≤ numDigits b :=
  (numDigits_le_iff a _).2 ⟨numDigits_pos b, Nat.lt_of_le_of_lt h (numDigits_lt b)⟩

theorem pow10_gt (d : Nat) : d + 1 < 10 ^ d + 1 + 1 := by
  have := @Nat.lt_pow_self d 10 (by omega)
  omega

theorem numDigits_add_le (len k : Nat) (hk : k ≤ numDigits len + 1) : numDigits (len + k) ≤ numDigits len + 1 := by
  refine (numDigits_le_iff _ _).2 ⟨Nat.le_add_left 1 _, ?_⟩
  have h1 := numDigits_lt len
  have h2 := @Nat.lt_pow_self (numDigits len) 10 (by omega)
  rw [pow_succ]; omega

theorem prefixDigitLen_fix (len : Nat) : numDigits (len + prefixDigitLen len) = prefixDigitLen len := by
  -- d₁ = numDigits len, d₂ = numDigits (len + d₁), d₃ = numDigits (len + d₂): d₁ ≤ d₂ ≤ d₃ ≤ d₁ + 1, so d₂ = d₁ or d₃ = d₂
  have hd1 := numDigits_pos len
  have m12 := numDigits_mono len (len + numDigits len) (by omega)
  have u2 := numDigits_add_le len (numDigits len) (by omega)
  have m23 := numDigits_mono _ _ (Nat.add_le_add_left m12 len)
  have u3 := numDigits_add_le len _ u2
  unfold prefixDigitLen
  simp only [prefixDigitLoop, Nat.add_zero]
  rw [if_pos (show (0 : Nat) ≠ numDigits len by omega)]
  by_cases h12 : numDigits len = numDigits (len + numDigits len)
  · rw [if_neg (not_not.2 h12), ← h12, ← h12]
  · have h23 : numDigits (len + numDigits len) = numDigits (len + numDigits (len + numDigits len)) := by omega
    rw [if_pos h12, if_neg (not_not.2 h23), ← h23, ← h23]

theorem decDigitsF_length (f n : Nat) : (decDigitsF f n).length = numDigitsF f n := by
  induction f generalizing n with
  | zero => simp [decDigitsF, numDigitsF]
  | succ f ih =>
    unfold decDigitsF numDigitsF
    split
    · simp [ih]
    · simp

theorem decStr_length (n : Nat) : (decStr n).length = numDigits n := decDigitsF_length n n

theorem entryType_cases (m : Nat) (t : UInt8) (h : entryType m = some t) :
    (fmt m = S_IFCHR ∧ t = 51) ∨ (fmt m = S_IFBLK ∧ t = 52) ∨ (fmt m = S_IFLNK ∧ t = 50) ∨ (fmt m = S_IFREG ∧ t = 48) ∨
    (fmt m = S_IFDIR ∧ t = 53) ∨ (fmt m = S_IFIFO ∧ t = 54) := by
  unfold entryType at h
  by_cases h1 : fmt m = S_IFCHR
  · rw [if_pos h1] at h; exact .inl ⟨h1, (Option.some.inj h).symm⟩
  by_cases h2 : fmt m = S_IFBLK
  · rw [if_neg h1, if_pos h2] at h; exact .inr (.inl ⟨h2, (Option.some.inj h).symm⟩)
  by_cases h3 : fmt m = S_IFLNK
  · rw [if_neg h1, if_neg h2, if_pos h3] at h; exact .inr (.inr (.inl ⟨h3, (Option.some.inj h).symm⟩))
  by_cases h4 : fmt m = S_IFREG
  · rw [if_neg h1, if_neg h2, if_neg h3, if_pos h4] at h; exact .inr (.inr (.inr (.inl ⟨h4, (Option.some.inj h).symm⟩)))
  by_cases h5 : fmt m = S_IFDIR
  · rw [if_neg h1, if_neg h2, if_neg h3, if_neg h4, if_pos h5] at h
    exact .inr (.inr (.inr (.inr (.inl ⟨h5, (Option.some.inj h).symm⟩))))
  by_cases h6 : fmt m = S_IFIFO
  · rw [if_neg h1, if_neg h2, if_neg h3, if_neg h4, if_neg h5, if_pos h6] at h
    exact .inr (.inr (.inr (.inr (.inr ⟨h6, (Option.some.inj h).symm⟩))))
  rw [if_neg h1, if_neg h2, if_neg h3, if_neg h4, if_neg h5, if_neg h6] at h
  cases h

theorem entryType_none (m : Nat) : entryType m = none ↔ fmt m ≠ S_IFREG ∧ fmt m ≠ S_IFDIR ∧ fmt m ≠ S_IFLNK ∧
      fmt m ≠ S_IFCHR ∧ fmt m ≠ S_IFBLK ∧ fmt m ≠ S_IFIFO := by
  constructor
  · intro h
    refine ⟨?_, ?_, ?_, ?_, ?_, ?_⟩ <;> intro hk <;> simp [entryType, hk] at h
  · rintro ⟨h4, h5, h3, h1, h2, h6⟩
    simp only [entryType, h1, h2, h3, h4, h5, h6, if_false]

theorem mode_rebuild (m k : Nat) (h : fmt m = k) : perm m % 4096 + k = m := by
  unfold fmt at h; unfold perm; omega

end Sqfs.Tar
