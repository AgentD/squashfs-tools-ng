/-
C02: the block processor over a pool of workers with private compressors (`Model/BlockProcWorkers.lean`) is,
for a constant codec family, the machine of `Model/BlockProc.lean` — the verbatim copy is faithful.
-/
import Sqfs.Model.BlockProcWorkers
import Sqfs.Proofs.C02Worker
namespace Sqfs.BlockProc

section
variable {κ : Nat → Codec} {P : Params} (h : ∀ t, κ t = P.codec)
include h

theorem poolSubmitK_const (p : PoolSt) (b : Blk) : poolSubmitK κ P p b = poolSubmit P p b := by
  unfold poolSubmitK poolSubmit
  rw [h]
  cases P
  rfl

theorem enqueueBlockK_const (s : Proc) (b : Blk) : enqueueBlockK κ P s b = enqueueBlock P s b := by
  unfold enqueueBlockK enqueueBlock
  simp only [poolSubmitK_const h]

theorem handleDequeuedK_const (s : Proc) (blk : Blk) : handleDequeuedK κ P s blk = handleDequeued P s blk := by
  unfold handleDequeuedK handleDequeued processCompletedFragmentK processCompletedFragment storeFragK storeFrag makeRoomK makeRoom
  simp only [enqueueBlockK_const h]
  rfl

theorem dequeueGoK_const (bo : Nat) : ∀ (fuel : Nat) (s : Proc), dequeueGoK κ P bo fuel s = dequeueGo P bo fuel s
  | 0, _ => rfl
  | fuel + 1, s => by
    unfold dequeueGoK dequeueGo
    simp only [handleDequeuedK_const h, dequeueGoK_const bo fuel]
    rfl

theorem getNewBlockGoK_const : ∀ (fuel : Nat) (s : Proc), getNewBlockGoK κ P fuel s = getNewBlockGo P fuel s
  | 0, _ => rfl
  | fuel + 1, s => by
    unfold getNewBlockGoK getNewBlockGo dequeueBlockK dequeueBlock
    simp only [dequeueGoK_const h, getNewBlockGoK_const fuel]
    rfl

theorem appendGoK_const : ∀ (fuel : Nat) (s : Proc) (data : Bytes), appendGoK κ P fuel s data = appendGo P fuel s data
  | 0, _, _ => rfl
  | fuel + 1, s, data => by
    unfold appendGoK appendGo getNewBlockK getNewBlock
    simp only [enqueueBlockK_const h, getNewBlockGoK_const h, appendGoK_const fuel]
    rfl

theorem endFileK_const (s : Proc) : endFileK κ P s = endFile P s := by
  unfold endFileK endFile addSentinelBlockK addSentinelBlock getNewBlockK getNewBlock
  simp only [getNewBlockGoK_const h, enqueueBlockK_const h]
  rfl

theorem syncGoK_const : ∀ (fuel : Nat) (s : Proc), syncGoK κ P fuel s = syncGo P fuel s
  | 0, _ => rfl
  | fuel + 1, s => by
    unfold syncGoK syncGo dequeueBlockK dequeueBlock
    simp only [dequeueGoK_const h, syncGoK_const fuel]
    rfl

theorem syncK_const (s : Proc) : syncK κ P s = sync P s := by
  unfold syncK sync syncDrainK syncDrain
  rw [syncGoK_const h]
  rfl

theorem packFileK_const (s : Proc) (f : InFile) (sy : Bool) : packFileK κ P s f sy = packFile P s f sy := by
  unfold packFileK packFile appendK append
  simp only [appendGoK_const h, syncK_const h, endFileK_const h]
  rfl

theorem packFilesK_const : ∀ (files : List InFile) (s : Proc) (sy : Bool), packFilesK κ P s files sy = packFiles P s files sy
  | [], _, _ => rfl
  | f :: fs, s, sy => by
    unfold packFilesK packFiles
    simp only [packFileK_const h, packFilesK_const fs]
    rfl

/-- **the copy is faithful**: with the same codec for every ticket, the machine over the pool of stateful workers is the
machine of `Model/BlockProc.lean`, for every parameter set, backlog, file list -/
theorem runK_const (mb : Nat) (files : List InFile) (sy : Bool) : runK κ P mb files sy = run P mb files sy := by
  unfold runK run runProcK runProc finishK finish
  simp only [packFilesK_const h, syncK_const h, enqueueBlockK_const h]
  rfl

end

/-- a history-independent `do_block` on the pool of stateful workers: whatever state the copy that takes a ticket is in,
the run is the run with the pure codec -/
theorem runS_pure {σ : Type} (P : Params) (c : StatefulCodec σ) (hi : c.HistoryIndependent) (κ : Nat → σ) (mb : Nat)
    (files : List InFile) (sy : Bool) : runS P c κ mb files sy = run { P with codec := c.pure } mb files sy := by
  unfold runS
  exact runK_const (P := { P with codec := c.pure }) (fun t => c.at_eq_pure hi (κ t)) mb files sy

/-- `workItems` (the pool of `Model/C02Worker.lean`: an assignment of tickets to workers, private states) hands back, for
ticket `t`, the item worked with the compressor in the state `ticketStates` lists for `t` -/
theorem workItems_eq_ticketStates {σ : Type} (P : Params) (c : StatefulCodec σ) (asg : Nat → Nat) :
    ∀ (items : List Blk) (st : Nat → σ) (id : Nat),
      workItems P c asg st id items =
        List.zipWith (fun s b => processBlock { P with codec := c.at s } b) (ticketStates c asg st id items) items
  | [], _, _ => rfl
  | b :: bs, st, id => by
    simp only [workItems, ticketStates, List.zipWith_cons_cons, processBlockS]
    rw [workItems_eq_ticketStates P c asg bs]

end Sqfs.BlockProc
