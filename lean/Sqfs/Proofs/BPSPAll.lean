/-
C02, `packRef = specPack`: all files.  The front end on a file list (`feFiles_eq`), the three passes on all files
against `Pack.packFiles` (`files_sim`).
-/
import Sqfs.Proofs.BPSPFile
namespace Sqfs.BlockProc
open Sqfs.Consts

/-- everything the files submit, in order (`id` = number of the first file) -/
def allItems (B : Nat) : Nat → List InFile → List Blk
  | _, [] => []
  | id, f :: fs => fileItems B id f ++ allItems B (id + 1) fs

theorem feFiles_eq (B : Nat) (hB : 0 < B) : ∀ (files : List InFile) (id : Nat),
    (∀ f ∈ files, f.flags &&& blkUserSettable = f.flags) → feFiles B id files = .ok (allItems B id files) := by
  intro files
  induction files with
  | nil => intro id _; rfl
  | cons f fs ih =>
    intro id hfl
    unfold feFiles
    rw [feFile_eq B hB id f (hfl f List.mem_cons_self), ih (id + 1) (fun g hg => hfl g (List.mem_cons_of_mem _ hg))]
    rfl

theorem feEffs_ids : ∀ (files : List InFile) (id : Nat), ∀ e ∈ feEffs id files, id ≤ e.id := by
  intro files
  induction files with
  | nil => intro id e he; cases he
  | cons f fs ih =>
    intro id e he
    simp only [feEffs, List.mem_append] at he
    rcases he with he | he
    · split at he
      · cases he
      · simp only [List.mem_singleton] at he; rw [he]; exact Nat.le_refl _
    · have := ih (id + 1) e he; omega

theorem feEffs_cons (id : Nat) (f : InFile) (fs : List InFile) : feEffs id (f :: fs) = sizeEff id f ++ feEffs (id + 1) fs := rfl

def allAItems (P : Params) : Nat → List InFile → List AItem
  | _, [] => []
  | id, f :: fs => aItems P id f ++ allAItems P (id + 1) fs

theorem irel_all {P : Params} (hP : CodecFits P) (hB0 : 0 < P.B) (hbc : P.byteCompare = true) : ∀ (files : List InFile) (id : Nat),
    (∀ f ∈ files, f.flags &&& blkUserSettable = f.flags) → IRels P (allItems P.B id files) (allAItems P id files)
  | [], _, _ => .nil
  | f :: fs, id, h =>
    (irel_file hP hB0 hbc id f (h f List.mem_cons_self)).append
      (irel_all hP hB0 hbc fs (id + 1) (fun g hg => h g (List.mem_cons_of_mem _ hg)))

/-- the machine on the items of all files is `Pack.packFiles`, and the updates it logs give every inode -/
theorem aRun_all (P : Params) (hB0 : 0 < P.B) : ∀ (files : List InFile) (id : Nat) (s : ASt),
    ∃ fs FE WE, (allAItems P id files).foldl (aStep (toPackParams P)) s =
        ⟨(Sqfs.Pack.packFiles (toPackParams P) s.σ (files.map toPackFile)).1, fs, s.fe ++ FE, s.we ++ WE⟩ ∧
      (∀ e ∈ FE, id ≤ e.id) ∧ (∀ e ∈ WE, id ≤ e.id) ∧
      (List.range files.length).map (fun i => (inoFold (id + i) (feEffs id files ++ FE ++ WE) {}).res) =
        (Sqfs.Pack.packFiles (toPackParams P) s.σ (files.map toPackFile)).2.map resView := by
  intro files
  induction files with
  | nil =>
    intro id s
    exact ⟨s.fs, [], [], by simp [allAItems, Sqfs.Pack.packFiles], by simp, by simp, by simp [Sqfs.Pack.packFiles]⟩
  | cons f fs ih =>
    intro id s
    obtain ⟨fs1, fe, we, hrun1, hfe, hwe, hres⟩ := aRun_file P hB0 id f s
    obtain ⟨fs', FE, WE, hrun', hFE, hWE, hres'⟩ := ih (id + 1) ⟨_, fs1, s.fe ++ fe, s.we ++ we⟩
    refine ⟨fs', fe ++ FE, we ++ WE, ?_, ?_, ?_, ?_⟩
    · rw [allAItems, List.foldl_append, hrun1, hrun', List.append_assoc, List.append_assoc]; rfl
    · intro e he
      rcases List.mem_append.mp he with he | he
      · rw [hfe e he]; exact Nat.le_refl _
      · exact Nat.le_of_succ_le (hFE e he)
    · intro e he
      rcases List.mem_append.mp he with he | he
      · rw [hwe e he]; exact Nat.le_refl _
      · exact Nat.le_of_succ_le (hWE e he)
    · have hR : ∀ e ∈ feEffs (id + 1) fs, id + 1 ≤ e.id := feEffs_ids fs (id + 1)
      have hne : ∀ (i : Nat) (e : Eff), e.id = id → e.id ≠ id + 1 + i := fun i e h =>
        h.symm ▸ Nat.ne_of_lt (Nat.lt_of_lt_of_le (Nat.lt_succ_self id) (Nat.le_add_right _ i))
      simp only [List.length_cons, List.range_succ_eq_map, List.map_cons, List.map_map, Sqfs.Pack.packFiles, feEffs_cons]
      refine List.cons_eq_cons.mpr ⟨?_, ?_⟩
      · -- inode `id`: its own updates in each of the three segments, none of the later files'
        simp only [Nat.add_zero, inoFold_append]
        rw [inoFold_all id _ (sizeEff_id id f), inoFold_skip id _ (fun e he => Nat.ne_of_gt (hR e he)), inoFold_all id fe hfe,
          inoFold_skip id FE (fun e he => Nat.ne_of_gt (hFE e he)), inoFold_all id we hwe,
          inoFold_skip id WE (fun e he => Nat.ne_of_gt (hWE e he)), ← appAll_append, ← appAll_append, ← List.append_assoc]
        exact hres
      · rw [← hres']
        apply List.map_congr_left
        intro i _
        simp only [Function.comp]
        have e1 : id + i.succ = id + 1 + i := (Nat.add_right_comm id 1 i).symm
        simp only [e1, inoFold_append]
        rw [inoFold_skip _ _ (fun e he => hne i e (sizeEff_id id f e he)), inoFold_skip _ fe (fun e he => hne i e (hfe e he)),
          inoFold_skip _ we (fun e he => hne i e (hwe e he))]

/-- **all files**: the three passes on everything the files submit against `Pack.packFiles` -/
theorem files_sim {P : Params} (hP : CodecFits P) (hB0 : 0 < P.B) (hbc : P.byteCompare = true) (files : List InFile)
    (id : Nat) {F : FSt} {W : WSt} {s : ASt} (h : Sim P F W s) (hfl : ∀ f ∈ files, f.flags &&& blkUserSettable = f.flags) :
    ∃ W' fs FE WE, Sim P (fRun P F ((allItems P.B id files).map (processBlock P))) W'
        ⟨(Sqfs.Pack.packFiles (toPackParams P) s.σ (files.map toPackFile)).1, fs, s.fe ++ FE, s.we ++ WE⟩ ∧
      (List.range files.length).map (fun i => (inoFold (id + i) (feEffs id files ++ FE ++ WE) {}).res) =
        (Sqfs.Pack.packFiles (toPackParams P) s.σ (files.map toPackFile)).2.map resView := by
  obtain ⟨W', hsim⟩ := run_sim (irel_all hP hB0 hbc files id hfl) h
  obtain ⟨fs, FE, WE, hrun, _, _, hres⟩ := aRun_all P hB0 files id s
  exact ⟨W', fs, FE, WE, hrun ▸ hsim, hres⟩

end Sqfs.BlockProc
