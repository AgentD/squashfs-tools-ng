/-
C02, towards `specPack` (Spec/PackSpec.lean, DESIGN.md Appendix B): the worker rule.  `process_block` of the block
processor model stores a block as `Pack.encode` says, so on a data block of a file it is `specPack`'s `workData`.
-/
import Sqfs.Spec.PackSpec
import Sqfs.Proofs.PackLocal
import Sqfs.Proofs.BPFront
namespace Sqfs.BlockProc
open Sqfs.Consts
open Sqfs.BlockWriter (hasFlag)

def toPackParams (P : Params) : Sqfs.Pack.Params :=
  { B := P.B, base := P.pre.length, codec := ⟨P.codec.cmp, fun z => (P.codec.unc z).getD []⟩, h := P.h }

theorem allZero_eq (d : Bytes) : Sqfs.BlockProc.allZero d = Sqfs.Pack.allZero d := rfl

theorem processBlock_hole (P : Params) (b : Blk) (hne : b.data ≠ [])
    (hsp : (!hasFlag b.flags (blkIgnoreSparse ||| blkFragmentBlock) && allZero b.data) = true) :
    processBlock P b = { b with flags := b.flags ||| blkIsSparse } := by
  unfold processBlock
  rw [if_neg (fun h => hne (List.eq_nil_of_length_eq_zero h)), if_pos hsp]

theorem processBlock_encode (P : Params) (hpos : ∀ x z, P.codec.cmp x = some z → 0 < z.length) (b : Blk) (hne : b.data ≠ [])
    (hsp : (!hasFlag b.flags (blkIgnoreSparse ||| blkFragmentBlock) && allZero b.data) = false)
    (hnf : hasFlag b.flags blkIsFragment = false) (st : Sqfs.Pack.Stored)
    (hst : st = Sqfs.Pack.encode (toPackParams P) (hasFlag b.flags blkDontCompress)
      (if hasFlag b.flags blkDontHash then 0 else P.h b.data) b.data) :
    processBlock P b =
      { b with chk := st.cksum, data := st.data, flags := if st.raw then b.flags else b.flags ||| blkIsCompressed } := by
  have h0 : ¬ b.data.length = 0 := fun h => hne (List.eq_nil_of_length_eq_zero h)
  subst hst
  unfold processBlock Sqfs.Pack.encode
  rw [if_neg h0, hsp]
  simp only [hasFlag_or_right, hnf, Bool.false_or, Bool.false_eq_true, if_false, toPackParams]
  cases hasFlag b.flags blkDontCompress with
  | true => rfl
  | false =>
    simp only [Bool.false_eq_true, if_false]
    cases hcmp : P.codec.cmp b.data with
    | none => rfl
    | some z => simp only [hpos _ _ hcmp, if_true]; rfl

/-- a successful `do_block` returns a positive size (how the C interface tells success from "not smaller");
a block fits the 24-bit size field -/
structure CodecFits (P : Params) : Prop where
  ok : CodecOk P.codec
  pos : ∀ x z, P.codec.cmp x = some z → 0 < z.length
  small : P.B < 2 ^ 24

theorem encode_data (P : Params) (hP : CodecFits P) (dc : Bool) (ck : UInt32) (d : Bytes)
    (hne : d ≠ []) (hsz : d.length ≤ P.B) :
    (Sqfs.Pack.encode (toPackParams P) dc ck d).data ≠ [] ∧ (Sqfs.Pack.encode (toPackParams P) dc ck d).data.length < 2 ^ 24 := by
  rcases Sqfs.Pack.encode_cases (toPackParams P) dc ck d with ⟨_, hd⟩ | ⟨_, hd⟩
  · rw [hd]; exact ⟨hne, Nat.lt_of_le_of_lt hsz hP.small⟩
  · exact ⟨List.ne_nil_of_length_pos (hP.pos _ _ hd), Nat.lt_trans (hP.ok.smaller _ _ hd) (Nat.lt_of_le_of_lt hsz hP.small)⟩

theorem worker_eq_workData (P : Params) (hpos : ∀ x z, P.codec.cmp x = some z → 0 < z.length) (b : Blk)
    (hne : b.data ≠ []) (hnf : hasFlag b.flags blkIsFragment = false) (hnb : hasFlag b.flags blkFragmentBlock = false) :
    match Sqfs.Pack.workData (toPackParams P) (Sqfs.Pack.Flags.ofNat b.flags) b.data with
    | .sparse n => hasFlag (processBlock P b).flags blkIsSparse = true ∧ n = b.data.length ∧ (processBlock P b).data = b.data
    | .stored s => (processBlock P b).flags = (if s.raw then b.flags else b.flags ||| blkIsCompressed) ∧
        (processBlock P b).data = s.data ∧ (processBlock P b).chk = s.cksum := by
  have hign : hasFlag b.flags (blkIgnoreSparse ||| blkFragmentBlock) = (Sqfs.Pack.Flags.ofNat b.flags).ignoreSparse := by
    rw [hasFlag_or_right, hnb, Bool.or_false]; rfl
  unfold Sqfs.Pack.workData
  by_cases hsp : (!(Sqfs.Pack.Flags.ofNat b.flags).ignoreSparse && Sqfs.Pack.allZero b.data) = true
  · rw [if_pos hsp, processBlock_hole P b hne (by rw [hign, allZero_eq]; exact hsp)]
    exact ⟨(hasFlag_or _ _ _).trans (Bool.or_true _), rfl, rfl⟩
  · rw [if_neg hsp, processBlock_encode P hpos b hne (by rw [hign, allZero_eq]; exact Bool.not_eq_true _ ▸ hsp) hnf _ rfl]
    exact ⟨rfl, rfl, rfl⟩

end Sqfs.BlockProc
