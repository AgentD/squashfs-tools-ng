/-
The metadata reader as its callers can see it.  `view m` is the reader object without the stale bytes of `data` beyond
`data_used`: of the buffer only its size and its valid front are kept; `Sim` is equality of views.  For the repaired code
(`fix = true`) every call is a function of the view, for every reader object, coherent or not: a miss forgets the cached block
before it loads another one, and no copy reaches beyond `data_used`.  `View.seek` … `View.answer` are the model's functions
written on views, line by line; `view_seek` … `view_answer` say that `view` commutes with them.  Hence the congruence lemmas of
`Sim`; and a concrete query can be evaluated on views, where the 8 KiB buffer is the number 8192.
-/
import Sqfs.Spec.MetaReader
import Sqfs.Proofs.Slice
namespace Sqfs.MetaReader
open Sqfs.Consts
-- `split` as a single rewrite of the `if`/`match` it splits (the default re-simplifies the whole goal through the
-- congruence lemmas of `ite`, at a cost that doubles with every level of nesting)
set_option backward.split false

theorem subWrap_of_le {a b : Nat} (h : b ≤ a) : subWrap a b = a - b := if_pos h

theorem overwrite_length_max (buf new : Bytes) : (overwrite buf new).length = max buf.length new.length := by
  simp only [overwrite, List.length_append, List.length_drop]; omega

theorem overwrite_length {buf new : Bytes} (h : new.length ≤ buf.length) :
    (overwrite buf new).length = buf.length := by
  rw [overwrite_length_max]; omega

theorem overwrite_take (buf new : Bytes) : (overwrite buf new).take new.length = new := by
  simp [overwrite]

/-- the position guard of `sqfs_meta_reader_read` (442364d) is dead when the cursor is inside the loaded data -/
theorem readStep_of_le (fix : Bool) (f : File) (unc : Codec) (m : MR) (size : Nat) (h : m.offset ≤ m.dataUsed) :
    readStep fix f unc m size = readStepBody fix f unc m size := by
  unfold readStep
  have : ¬ (fix = true ∧ m.offset > m.dataUsed) := by omega
  simp only [this, if_false]

/-- what the API can observe of a reader object: `len = |data|`, `blk = data[0 .. data_used)` -/
structure View where
  start : Nat
  limit : Nat
  tag : Nat
  nextBlock : Nat
  dataUsed : Nat
  offset : Nat
  len : Nat
  blk : Bytes
deriving DecidableEq

def view (m : MR) : View :=
  ⟨m.start, m.limit, m.tag, m.nextBlock, m.dataUsed, m.offset, m.data.length, m.data.take m.dataUsed⟩

theorem sim_iff_view {m₁ m₂ : MR} : Sim m₁ m₂ ↔ view m₁ = view m₂ := by
  simp only [Sim, view, View.mk.injEq]

theorem view_fresh (s l : Nat) : view (fresh s l) = ⟨s, l, NONE, 0, 0, 0, metaBlockSize, []⟩ := by
  simp only [view, fresh, List.length_replicate, List.take_zero]

namespace View

/-- `MetaReader.seek true`; a miss leaves no byte of the old block in the view -/
def seek (f : File) (unc : Codec) (v : View) (b o : Nat) : Status × View :=
  if b < v.start ∨ b ≥ v.limit then (errOutOfBounds, v)
  else if b = v.tag then
    if o ≥ v.dataUsed then (errOutOfBounds, v) else (0, { v with offset := o })
  else
    let v0 := { v with tag := NONE, nextBlock := NONE, dataUsed := 0, offset := 0, blk := [] }
    match loadBlock f unc v.limit b with
    | .early e => (e, v0)
    | .uncErr e raw => (e, { v0 with len := max v.len raw.length })
    | .done raw blk size =>
      let v1 := { v0 with len := max (max v.len raw.length) blk.length }
      if o ≥ blk.length then (errOutOfBounds, v1)
      else (0, { v1 with blk := blk, dataUsed := blk.length, tag := b, nextBlock := wrap64 (b + size + 2), offset := o })

def getPos (v : View) : Nat × Nat :=
  if v.offset = v.dataUsed then (v.nextBlock, 0) else (v.tag, v.offset)

def refill (f : File) (unc : Codec) (v : View) : Status × View × Nat :=
  let diff0 := subWrap v.dataUsed v.offset
  if diff0 = 0 then
    let r := seek f unc v v.nextBlock 0
    (r.1, r.2, r.2.dataUsed)
  else (0, v, diff0)

inductive Step where
  | done (st : Status) (v : View)
  | more (v : View) (size : Nat) (chunk : Bytes)

/-- `MetaReader.readStep true`; the copy is taken from `blk`, which holds all of `data` that a copy can reach -/
def readStep (f : File) (unc : Codec) (v : View) (size : Nat) : Step :=
  if v.offset > v.dataUsed then .done errOutOfBounds v
  else
    let r := refill f unc v
    if r.1 ≠ 0 then .done r.1 r.2.1
    else
      let v1 := r.2.1
      let diff := if r.2.2 > size then size else r.2.2
      if v1.offset + diff > v1.len then .done crashSt v1
      else .more { v1 with offset := v1.offset + diff } (size - diff) ((v1.blk.drop v1.offset).take diff)

def readLoop (f : File) (unc : Codec) : Nat → View → Nat → Bytes → Status × Bytes × View
  | 0, v, size, acc => if size = 0 then (0, acc, v) else (fuelSt, acc, v)
  | k + 1, v, size, acc =>
    if size = 0 then (0, acc, v) else
    match readStep f unc v size with
    | .done st v' => (st, acc, v')
    | .more v' size' chunk => readLoop f unc k v' size' (acc ++ chunk)

def read (f : File) (unc : Codec) (v : View) (size : Nat) : Status × Bytes × View := readLoop f unc size v size []

def step (f : File) (unc : Codec) (v : View) : Op → View
  | .seek b o => (seek f unc v b o).2
  | .read n => (read f unc v n).2.2
  | .pos => v

def answerReads (f : File) (unc : Codec) : View → List Nat → List (Status × Bytes) × Option (Nat × Nat)
  | v, [] => ([], some (getPos v))
  | v, n :: ns =>
    let r := read f unc v n
    if r.1 ≠ 0 then ([(r.1, [])], none)
    else
      let rest := answerReads f unc r.2.2 ns
      ((0, r.2.1) :: rest.1, rest.2)

def answer (f : File) (unc : Codec) (v : View) (b o : Nat) (ns : List Nat) : Answer :=
  let s := seek f unc v b o
  if s.1 ≠ 0 then { seekSt := s.1, reads := [], endPos := none }
  else
    let r := answerReads f unc s.2 ns
    { seekSt := 0, reads := r.1, endPos := r.2 }

end View

theorem view_seek (f : File) (unc : Codec) (m : MR) (b o : Nat) :
    View.seek f unc (view m) b o = ((seek true f unc m b o).1, view (seek true f unc m b o).2) := by
  unfold seek View.seek
  simp only [view, if_true]
  by_cases hw : b < m.start ∨ b ≥ m.limit
  · simp only [hw, if_true]
  simp only [hw, if_false]
  by_cases ht : b = m.tag
  · simp only [ht, if_true]
    split <;> rfl
  simp only [ht, if_false]
  cases loadBlock f unc m.limit b with
  | early e => simp
  | uncErr e raw => simp [overwrite_length_max]
  | done raw blk size =>
    simp only
    split <;> simp [overwrite_length_max, overwrite_take]

theorem view_seek_state (f : File) (unc : Codec) (m : MR) (b o : Nat) :
    view (seek true f unc m b o).2 = (View.seek f unc (view m) b o).2 := by
  rw [view_seek]

theorem view_refill (f : File) (unc : Codec) (m : MR) :
    View.refill f unc (view m) = ((refill true f unc m).1, view (refill true f unc m).2.1, (refill true f unc m).2.2) := by
  unfold refill View.refill
  by_cases hd : subWrap m.dataUsed m.offset = 0
  · simp only [show (view m).dataUsed = m.dataUsed from rfl, show (view m).offset = m.offset from rfl,
      show (view m).nextBlock = m.nextBlock from rfl, hd, if_true, view_seek]
    rfl
  · simp only [show (view m).dataUsed = m.dataUsed from rfl, show (view m).offset = m.offset from rfl, hd, if_false]

theorem seek_zero_offset (f : File) (unc : Codec) (m : MR) (b : Nat) (h : (seek true f unc m b 0).1 = 0) :
    (seek true f unc m b 0).2.offset = 0 := by
  revert h
  fun_cases seek true f unc m b 0 <;> intro h
  case case1 | case2 => exact absurd (show errOutOfBounds = 0 from h) (by decide)
  all_goals rfl

theorem refill_fit (f : File) (unc : Codec) (m : MR) (hg : m.offset ≤ m.dataUsed) (h0 : (refill true f unc m).1 = 0) :
    (refill true f unc m).2.1.offset + (refill true f unc m).2.2 ≤ (refill true f unc m).2.1.dataUsed := by
  unfold refill at h0 ⊢
  simp only at h0 ⊢
  split
  · rename_i hd
    simp only [hd, if_true] at h0
    have := seek_zero_offset f unc m m.nextBlock h0
    simp only; omega
  · rw [subWrap_of_le hg]
    simp only; omega

def viewStep : StepR → View.Step
  | .done st m => .done st (view m)
  | .more m size chunk => .more (view m) size chunk

theorem view_readStep (f : File) (unc : Codec) (m : MR) (size : Nat) :
    View.readStep f unc (view m) size = viewStep (readStep true f unc m size) := by
  unfold View.readStep
  by_cases hg : m.offset > m.dataUsed
  · rw [if_pos (show (view m).offset > (view m).dataUsed from hg)]
    unfold readStep
    rw [if_pos ⟨rfl, hg⟩]
    rfl
  · rw [if_neg (show ¬ (view m).offset > (view m).dataUsed from hg), readStep_of_le _ _ _ _ _ (Nat.le_of_not_gt hg),
      view_refill]
    unfold readStepBody
    have hfit := refill_fit f unc m (Nat.le_of_not_gt hg)
    generalize refill true f unc m = r at hfit ⊢
    obtain ⟨st, m1, d1⟩ := r
    by_cases h0 : st = 0
    · subst h0
      have hfit : m1.offset + d1 ≤ m1.dataUsed := hfit rfl
      simp only [ne_eq, not_true_eq_false, if_false]
      generalize hdiff : (if d1 > size then size else d1) = diff
      have hle : diff ≤ d1 := by rw [← hdiff]; split <;> omega
      by_cases hc : m1.offset + diff > m1.data.length
      · rw [if_pos hc, if_pos (show (view m1).offset + diff > (view m1).len from hc)]
        rfl
      · rw [if_neg hc, if_neg (show ¬ (view m1).offset + diff > (view m1).len from hc)]
        simp only [viewStep, view]
        -- the copy ends below `data_used`, where `data` and `blk` agree
        rw [List.take_drop_congr (l := m1.data.take m1.dataUsed) (l' := m1.data) (m := m1.dataUsed) (off := m1.offset)
          (n := diff) (by rw [List.take_take, Nat.min_self]) (by omega)]
    · simp only [ne_eq, h0, not_false_eq_true, if_true]
      rfl

theorem view_readLoop (f : File) (unc : Codec) : ∀ (k : Nat) (m : MR) (size : Nat) (acc : Bytes),
    View.readLoop f unc k (view m) size acc =
      ((readLoop true f unc k m size acc).1, (readLoop true f unc k m size acc).2.1, view (readLoop true f unc k m size acc).2.2) := by
  intro k
  induction k with
  | zero => intro m size acc; unfold readLoop View.readLoop; split <;> rfl
  | succ k ih =>
    intro m size acc
    unfold readLoop View.readLoop
    split
    · rfl
    · rw [view_readStep]
      cases readStep true f unc m size with
      | done st m' => rfl
      | more m' size' chunk => exact ih m' size' _

theorem view_read (f : File) (unc : Codec) (m : MR) (n : Nat) :
    View.read f unc (view m) n = ((read true f unc m n).1, (read true f unc m n).2.1, view (read true f unc m n).2.2) :=
  view_readLoop f unc n m n []

theorem view_step (f : File) (unc : Codec) (m : MR) (op : Op) : view (step true f unc m op) = View.step f unc (view m) op := by
  cases op with
  | seek b o => simp only [step, View.step, view_seek]
  | read n => simp only [step, View.step, view_read]
  | pos => rfl

theorem view_run (f : File) (unc : Codec) (h : List Op) : ∀ m, view (run true f unc m h) = h.foldl (View.step f unc) (view m) := by
  induction h with
  | nil => intro m; rfl
  | cons op t ih => intro m; simp only [run, List.foldl_cons] at ih ⊢; rw [ih, view_step]

theorem view_answerReads (f : File) (unc : Codec) (ns : List Nat) :
    ∀ m, answerReads true f unc m ns = View.answerReads f unc (view m) ns := by
  induction ns with
  | nil => intro m; rfl
  | cons n ns ih => intro m; simp only [answerReads, View.answerReads, view_read, ih]

theorem view_answer (f : File) (unc : Codec) (m : MR) (b o : Nat) (ns : List Nat) :
    answer true f unc m b o ns = View.answer f unc (view m) b o ns := by
  simp only [answer, View.answer, view_seek, view_answerReads]

theorem Sim.refl (m : MR) : Sim m m := ⟨rfl, rfl, rfl, rfl, rfl, rfl, rfl, rfl⟩

theorem Sim.symm {m₁ m₂ : MR} (h : Sim m₁ m₂) : Sim m₂ m₁ := sim_iff_view.2 (sim_iff_view.1 h).symm

theorem Sim.trans {m₁ m₂ m₃ : MR} (h : Sim m₁ m₂) (g : Sim m₂ m₃) : Sim m₁ m₃ :=
  sim_iff_view.2 ((sim_iff_view.1 h).trans (sim_iff_view.1 g))

theorem sim_seek {f : File} {unc : Codec} {m₁ m₂ : MR} (h : Sim m₁ m₂) (b o : Nat) :
    (seek true f unc m₁ b o).1 = (seek true f unc m₂ b o).1 ∧
    Sim (seek true f unc m₁ b o).2 (seek true f unc m₂ b o).2 := by
  have := (view_seek f unc m₁ b o).symm.trans ((congrArg (View.seek f unc · b o) (sim_iff_view.1 h)).trans (view_seek f unc m₂ b o))
  exact ⟨(Prod.mk.inj this).1, sim_iff_view.2 (Prod.mk.inj this).2⟩

theorem sim_read {f : File} {unc : Codec} {m₁ m₂ : MR} (h : Sim m₁ m₂) (n : Nat) :
    (read true f unc m₁ n).1 = (read true f unc m₂ n).1 ∧ (read true f unc m₁ n).2.1 = (read true f unc m₂ n).2.1 ∧
    Sim (read true f unc m₁ n).2.2 (read true f unc m₂ n).2.2 := by
  have := (view_read f unc m₁ n).symm.trans ((congrArg (View.read f unc · n) (sim_iff_view.1 h)).trans (view_read f unc m₂ n))
  exact ⟨(Prod.mk.inj this).1, (Prod.mk.inj (Prod.mk.inj this).2).1, sim_iff_view.2 (Prod.mk.inj (Prod.mk.inj this).2).2⟩

theorem sim_getPos {m₁ m₂ : MR} (h : Sim m₁ m₂) : getPos m₁ = getPos m₂ := congrArg View.getPos (sim_iff_view.1 h)

theorem sim_answerReads {f : File} {unc : Codec} {m₁ m₂ : MR} (h : Sim m₁ m₂) (ns : List Nat) :
    answerReads true f unc m₁ ns = answerReads true f unc m₂ ns := by
  rw [view_answerReads, view_answerReads, sim_iff_view.1 h]

end Sqfs.MetaReader
