/-
C02 (failing compressor): the serial pool with failing callbacks (`Pool.Serial.run rc`).
A non-zero status is sticky; as long as the status is 0 the pool is the healthy pool, answer by answer.
-/
import Sqfs.Model.BlockProcFail
namespace Sqfs.Pool

theorem Serial.call_status_ne (rc : Nat → Int) (s : Serial) (op : Op) (h : s.status ≠ 0) :
    (Serial.call rc s op).status ≠ 0 := by
  cases op with
  | submit d => simp [Serial.call, h]
  | dequeue =>
    unfold Serial.call
    cases s.queue with
    | nil => exact h
    | cons d q => simp [h]
  | getStatus => exact h
  | destroy => exact h

theorem Serial.run_status_ne (rc : Nat → Int) (ops : List Op) (s : Serial) (h : s.status ≠ 0) :
    (Serial.run rc s ops).status ≠ 0 := by
  induction ops generalizing s with
  | nil => exact h
  | cons op r ih => exact ih _ (Serial.call_status_ne rc s op h)

theorem Serial.status_of_run {rc : Nat → Int} {ops : List Op} {s : Serial} (h : (Serial.run rc s ops).status = 0) :
    s.status = 0 :=
  Decidable.not_not.1 fun h0 => Serial.run_status_ne rc ops s h0 h

theorem Serial.status_of_call {rc : Nat → Int} {op : Op} {s : Serial} (h : (Serial.call rc s op).status = 0) :
    s.status = 0 :=
  Serial.status_of_run (ops := [op]) h

theorem Serial.dequeue_rc {rc : Nat → Int} {s : Serial} {d : Nat} {q : List Nat} (hq : s.queue = d :: q)
    (h : (Serial.call rc s .dequeue).status = 0) : rc d = 0 := by
  have hs := Serial.status_of_call h
  simp only [Serial.call, hq, hs, and_true] at h
  exact Decidable.not_not.1 fun h0 => h0 (by rwa [if_pos h0] at h)

/-- one call: if the status is 0 afterwards, a pool whose callbacks fail less often does the same -/
theorem Serial.call_mono (rc₁ rc₂ : Nat → Int) (hle : ∀ d, rc₁ d ≠ 0 → rc₂ d ≠ 0) (s : Serial) (op : Op)
    (h : (Serial.call rc₂ s op).status = 0) : Serial.call rc₁ s op = Serial.call rc₂ s op := by
  cases op with
  | dequeue =>
    cases hq : s.queue with
    | nil => simp only [Serial.call, hq]
    | cons d q =>
      have h2 := Serial.dequeue_rc hq h
      have h1 : rc₁ d = 0 := Decidable.not_not.1 fun h0 => hle d h0 h2
      simp [Serial.call, hq, h1, h2]
  | _ => rfl

theorem Serial.run_mono (rc₁ rc₂ : Nat → Int) (hle : ∀ d, rc₁ d ≠ 0 → rc₂ d ≠ 0) (ops : List Op) (s : Serial)
    (h : (Serial.run rc₂ s ops).status = 0) : Serial.run rc₁ s ops = Serial.run rc₂ s ops := by
  induction ops generalizing s with
  | nil => rfl
  | cons op r ih =>
    simp only [Serial.run] at h ⊢
    rw [Serial.call_mono rc₁ rc₂ hle s op (Serial.status_of_run h)]
    exact ih _ h

/-- status 0 at the end: every callback invocation so far returned 0 -/
theorem Serial.processed_ok (rc : Nat → Int) (ops : List Op) (s : Serial) (hs : ∀ d ∈ s.processed, rc d = 0)
    (h : (Serial.run rc s ops).status = 0) : ∀ d ∈ (Serial.run rc s ops).processed, rc d = 0 := by
  induction ops generalizing s with
  | nil => exact hs
  | cons op r ih =>
    simp only [Serial.run] at h ⊢
    have h1 := Serial.status_of_run h
    refine ih _ ?_ h
    cases op with
    | dequeue =>
      cases hq : s.queue with
      | nil => simpa [Serial.call, hq] using hs
      | cons d q =>
        have h2 := Serial.dequeue_rc hq h1
        simp only [Serial.call, hq, List.forall_mem_append, List.forall_mem_singleton]
        exact ⟨hs, h2⟩
    | submit d => simpa [Serial.call, Serial.status_of_call h1] using hs
    | _ => simpa [Serial.call] using hs

end Sqfs.Pool

namespace Sqfs.BlockProc
open Sqfs.Pool

/-- a larger table can only add failing items -/
theorem rcOfTable_mono (fails : Bytes → Bool) (rc : Int) (t : List Blk) (b : Blk) :
    ∀ d, rcOfTable fails rc t d ≠ 0 → rcOfTable fails rc (t ++ [b]) d ≠ 0 := by
  intro d h
  unfold rcOfTable at h ⊢
  by_cases hd : d < t.length
  · rw [List.getElem?_append_left hd]; exact h
  · rw [List.getElem?_eq_none (by omega)] at h
    exact absurd rfl h

/-- "no callback has failed so far" -/
def Healthy (fails : Bytes → Bool) (rc : Int) (p : PoolSt) : Prop := failStatus fails rc p = 0

theorem Healthy.ser {fails : Bytes → Bool} {rc : Int} {p : PoolSt} (h : Healthy fails rc p) :
    Serial.run (rcOfTable fails rc p.table) Serial.init p.calls = p.ser := by
  rw [p.tracks]
  exact (Serial.run_mono rc0 _ (fun _ h => absurd rfl h) p.calls Serial.init h).symm

theorem Healthy.status {fails : Bytes → Bool} {rc : Int} {p : PoolSt} (h : Healthy fails rc p) : p.ser.status = 0 := by
  rw [← h.ser]; exact h

/-- **agreement**: while no callback has failed the failing pool answers what the healthy serial pool answers -/
theorem Healthy.agree {fails : Bytes → Bool} {rc : Int} {p : PoolSt} (h : Healthy fails rc p) (op : Op) :
    failSerialAns fails rc p op = serialAns p op := by
  unfold failSerialAns serialAns
  rw [Serial.run_append, h.ser]
  have hs := h.status
  simp only [Serial.run]
  cases op with
  | submit d => simp [Serial.call, hs]
  | dequeue =>
    unfold Serial.call
    cases p.ser.queue with
    | nil => rfl
    | cons d q => simp
  | _ => rfl

theorem failSerialAns_status (fails : Bytes → Bool) (rc : Int) (p : PoolSt) :
    failSerialAns fails rc p .getStatus = .status (failStatus fails rc p) := by
  unfold failSerialAns failStatus
  rw [Serial.run_append]
  simp [Serial.run, Serial.call]

/-- downward closure along the three ways the pool state evolves -/
theorem Healthy.of_record {fails : Bytes → Bool} {rc : Int} {p : PoolSt} (op : Op) (t' : List Blk)
    (ht : ∀ d, rcOfTable fails rc p.table d ≠ 0 → rcOfTable fails rc t' d ≠ 0)
    (h : Healthy fails rc (p.record op t')) : Healthy fails rc p := by
  unfold Healthy failStatus at h ⊢
  simp only [PoolSt.record] at h
  rw [Serial.run_append] at h
  have h1 := Serial.status_of_run h
  rw [Serial.run_mono _ _ ht p.calls Serial.init h1]
  exact h1

theorem Healthy.of_submit {fails : Bytes → Bool} {rc : Int} {p : PoolSt} (b : Blk)
    (h : Healthy fails rc (p.record (.submit p.table.length) (p.table ++ [b]))) : Healthy fails rc p :=
  Healthy.of_record _ _ (rcOfTable_mono fails rc p.table b) h

theorem Healthy.of_same {fails : Bytes → Bool} {rc : Int} {p : PoolSt} (op : Op)
    (h : Healthy fails rc (p.record op p.table)) : Healthy fails rc p :=
  Healthy.of_record _ _ (fun _ hd => hd) h

theorem Healthy.record_status {fails : Bytes → Bool} {rc : Int} {p : PoolSt} (h : Healthy fails rc p) :
    Healthy fails rc (p.record .getStatus p.table) := by
  unfold Healthy failStatus at h ⊢
  simp only [PoolSt.record]
  rw [Serial.run_append]
  simpa [Serial.run, Serial.call] using h

/-- while the pool is healthy, no callback invocation was on an item the compressor fails on -/
theorem Healthy.processed {fails : Bytes → Bool} {rc : Int} {p : PoolSt} (h : Healthy fails rc p) :
    ∀ d ∈ p.ser.processed, rcOfTable fails rc p.table d = 0 := by
  rw [← h.ser]
  exact Serial.processed_ok _ p.calls Serial.init (by intro d hd; cases hd) h

end Sqfs.BlockProc
