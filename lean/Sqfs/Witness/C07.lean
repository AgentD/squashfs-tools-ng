/-
C07 — witnesses of three defects of the code **as shipped** (1.2.0): `resolve_link` does not terminate on a hard-link
cycle that does not contain the link being resolved (D12; the shipped loop is `loopCur` of `Model/HardLink.lean`),
`read_pax_header` stores through a freed list node, `read_binary` lets a base-256 number wrap (the 1.2.0 variants of
these two are modelled here only).
-/
import Sqfs.Model.HardLink
import Sqfs.Model.ParseTotalTar
namespace Sqfs.C07.Witness
open Sqfs.HardLink

/-! ## `resolve_link` spins on a cycle entered from outside (D12; repaired in /repo by 185b4ea)

Archive order `b -> c`, `c -> b`, `a -> b` (three hard-link members, `a` last,
hence first in `fs->links_unresolved`).  Node indices: 0 = root, 1 = b, 2 = c,
3 = a.  `resolve_link(a)` walks a → b → c → b → c → …; its only cycle test is
`node == start` (`start = a`), which never fires.
-/

def g₃ : Graph := [.dir, .hlink (.found 2), .hlink (.found 1), .hlink (.found 1)]

/-- the graph is what the model of `fstree_add_generic` builds from the three archive members -/
example :
    (match (do let t ← Tree.addGeneric (fun s => some s) Tree.init [98] .hlink [99]
               let t ← Tree.addGeneric (fun s => some s) t [99] .hlink [98]
               let t ← Tree.addGeneric (fun s => some s) t [97] .hlink [98]
               pure (Tree.toGraph t, Tree.links t)) with
     | .ok (g, l) => decide (g = g₃ ∧ l = [3, 2, 1])
     | .error _ => false) = true := by decide

theorem loop_spins (fuel : Nat) :
    loopCur g₃ (fun _ => none) 3 fuel 1 = .outOfFuel ∧ loopCur g₃ (fun _ => none) 3 fuel 2 = .outOfFuel := by
  induction fuel with
  | zero => exact ⟨rfl, rfl⟩
  | succ n ih =>
    have h1 : loopCur g₃ (fun _ => none) 3 (n + 1) 1 = loopCur g₃ (fun _ => none) 3 n 2 := rfl
    have h2 : loopCur g₃ (fun _ => none) 3 (n + 1) 2 = loopCur g₃ (fun _ => none) 3 n 1 := rfl
    exact ⟨h1.trans ih.2, h2.trans ih.1⟩

/-- **D12.** For every amount of fuel the shipped loop, started on link `a`, is still running. -/
theorem resolve_diverges (fuel : Nat) : loopCur g₃ (fun _ => none) 3 fuel 3 = .outOfFuel := by
  cases fuel with
  | zero => rfl
  | succ n =>
    have h : loopCur g₃ (fun _ => none) 3 (n + 1) 3 = loopCur g₃ (fun _ => none) 3 n 1 := rfl
    exact h.trans (loop_spins n).1

/-- hence `fstree_resolve_hard_links` as shipped never returns on this archive -/
theorem resolveAll_diverges (fuel : Nat) (counts : Nat → Nat) :
    (match resolveAllCur g₃ fuel (St.init counts) [3, 2, 1] with | .outOfFuel => true | _ => false) = true := by
  simp [resolveAllCur, resolveAllWith, St.init, resolve_diverges, finishLink]

/-- the repaired loop reports `EMLINK` on the same graph (3 unresolved links ⇒ `max_hops = 3`) -/
example : (match resolveAllFix g₃ 5 (St.init (fun _ => 1)) [3, 2, 1] with | .err 3 .EMLINK => true | _ => false) = true := by
  decide


/-! ## use-after-free in `read_pax_header` (1.2.0; repaired in /repo by 56b164f)

One PAX extended header with the records `GNU.sparse.numbytes=1`, `GNU.sparse.map=0,1`,
`GNU.sparse.numbytes=2`: the first creates the list and `sparse_last`, the second frees the list
(`pax_sparse_map` → `free_sparse_list(out->sparse)`) but leaves `sparse_last`, the third stores
through it.  The model of the *current* code (`Sqfs.ParseTotal.paxApply`) resets `sparse_last`;
the 1.2.0 behaviour is modelled here only: `stale` = "`sparse_last` points into a freed list", and the
store through it is `.oob`.  The check compares the real code with the current model only, so a revert
of 56b164f is reported (ASan abort of the harness + disagreement), not followed.
-/
section PaxOld
open Sqfs.ParseTotal

def keyMap : Bytes := [71, 78, 85, 46, 115, 112, 97, 114, 115, 101, 46, 109, 97, 112]                      -- "GNU.sparse.map"
def keyNumbytes : Bytes := [71, 78, 85, 46, 115, 112, 97, 114, 115, 101, 46, 110, 117, 109, 98, 121, 116, 101, 115]  -- "GNU.sparse.numbytes"

/-- `apply`-step of the 1.2.0 loop: as today, except that `GNU.sparse.map` leaves `sparse_last` alone -/
def paxApplyOld (buf : Bytes) (r : PaxRec) (o : PaxOut) (stale : Bool) : R (PaxOut × Bool) :=
  match cstr buf (buf.length + 1) r.key with
  | .oob => .oob | .spin => .spin | .fail c => .fail c
  | .ok key =>
    if key = keyNumbytes ∧ stale then
      -- `sparse_last->next = sparse;` with `sparse_last` freed — but only after the value parsed
      match parseU 10 buf r.value none true 0 0 with
      | .ok _ => .oob
      | .fail _ => .fail 1 | .oob => .oob | .spin => .spin
    else match paxApply buf r o with
      | .ok o' =>
        if key = keyMap then .ok ({ o' with sparseOpen := o.sparseOpen }, stale || o.sparseOpen)
        else .ok (o', stale)
      | .fail c => .fail c | .oob => .oob | .spin => .spin

def paxLoopOld (endIdx : Nat) : Nat → Bytes → Nat → PaxOut → Bool → R PaxOut
  | 0, _, _, _, _ => .spin
  | fuel + 1, buf, line, o, stale =>
    if line ≥ endIdx then .ok o
    else match paxFrame buf endIdx line with
      | .oob => .oob | .spin => .spin | .fail c => .fail c
      | .frame buf' r next =>
        match paxApplyOld buf' r o stale with
        | .ok (o', st') => paxLoopOld endIdx fuel buf' next o' st'
        | .fail c => .fail c | .oob => .oob | .spin => .spin

def readPaxHeaderOld (record : Bytes) : R PaxOut :=
  paxLoopOld record.length (record.length + 1) (record ++ [0]) 0 {} false

def uafRecord : List UInt8 := [50, 53, 32, 71, 78, 85, 46, 115, 112, 97, 114, 115, 101, 46, 110, 117, 109, 98, 121, 116, 101, 115, 61, 49, 10, 50, 50, 32, 71, 78, 85, 46, 115, 112, 97, 114, 115, 101, 46, 109, 97, 112, 61, 48, 44, 49, 10, 50, 53, 32, 71, 78, 85, 46, 115, 112, 97, 114, 115, 101, 46, 110, 117, 109, 98, 121, 116, 101, 115, 61, 50, 10]

theorem pax_use_after_free : (readPaxHeaderOld uafRecord).isOob = true := by decide +kernel

/-- the current code accepts the header and keeps the last entry only -/
example : (match readPaxHeader uafRecord with | .ok o => decide (o.sparse = [{ offset := 0, count := 2 }]) | _ => false) = true := by decide +kernel

end PaxOld

/-! ## `read_binary` of 1.2.0 lets a base-256 number wrap (C04's finding; repaired in /repo by 9ba238f)

The old guard was `ov != 0 && ov != 0xFF` for either sign and had no final sign test.  The nine digits
`ff 00 ff 80 00 7f 64 e0 ff` start negative, but the top byte stops being `0xFF` after the second digit:
1.2.0 carries on and returns the wrapped value, the current code refuses.  As for the PAX variant the
check does not probe which guard the tree has.
-/
section BinOld
open Sqfs.ParseTotal

def binLoopOld (buf : Bytes) : Nat → Nat → Nat → R Nat
  | _, 0, r => .ok r
  | i, d + 1, r =>
    match buf[i]? with
    | none => .oob
    | some x =>
      let ov := r / 72057594037927936 % 256
      if ov ≠ 0 ∧ ov ≠ 255 then .fail 1
      else binLoopOld buf (i + 1) d ((r * 256 + x.toNat) % U64)

def readBinaryOld (buf : Bytes) (i digits : Nat) : R Nat :=
  match digits with
  | 0 => .ok 0
  | d + 1 =>
    match buf[i]? with
    | none => .oob
    | some x0 =>
      if x0.toNat = 255 then binLoopOld buf (i + 1) d (U64 - 1)
      else
        let x := x0.toNat % 128
        if d > 7 ∧ x ≠ 0 then .fail 1 else binLoopOld buf (i + 1) d x

def wrapField : List UInt8 := [0xff, 0x00, 0xff, 0x80, 0x00, 0x7f, 0x64, 0xe0, 0xff]

/-- 1.2.0 accepts the field with a *positive* value (the sign byte said negative): not the number the digits denote … -/
theorem read_binary_old_wraps : readBinaryOld wrapField 0 9 = .ok 0x00ff80007f64e0ff := by decide
/-- … the current code refuses it -/
example : readBinary wrapField 0 9 = .fail 1 := by decide

end BinOld

end Sqfs.C07.Witness
