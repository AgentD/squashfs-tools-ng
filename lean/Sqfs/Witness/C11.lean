/-
Witness of defect D16 (C11), repaired in /repo by 7ff9210: on the model of the scan path with a native iterator that does
NOT sort (`sorted = false`: `read_names` without its `qsort` call, i.e. the readdir order is passed through — the code
before 7ff9210, and what a revert of it would be), the full statement of `Sqfs.C11.scan_perm_invariant` is false.

Directory `{a, b, c}` where `a` and `c` are two names of one inode and `b` is another file:
enumeration `a, b, c` makes `a` the real file (inode 1, first in the file list) and `c` a link to it;
enumeration `c, b, a` makes `c` the real file, numbers `b` 1 and `c` 2, and puts `b` first in the file list.
Replayed on the real code by tools/checks/c11.py (case "witness": harness/h_c11.c `packdir sorted` vs `packdir reverse`,
and gensquashfs under LD_PRELOAD=shim_readdir.so — different sha256).
-/
import Sqfs.Spec.FsTree

namespace Sqfs.Witness.C11
open Sqfs.FsTree Sqfs.Consts

def st (ino : Nat) : Stat := { mode := 0o100644, uid := 0, gid := 0, mtime := 0, dev := 1, ino := ino, rdev := 0 }
def fa : HNode := .mk [0x61] (st 10) [] []
def fb : HNode := .mk [0x62] (st 11) [] []
def fc : HNode := .mk [0x63] (st 10) [] []
def dflt : Defaults := { uid := 0, gid := 0, mtime := 0, mode := 0o755 }
/-- `gensquashfs --pack-dir` with default options (options.c: KEEP_UID | KEEP_GID | KEEP_MODE) -/
def cfg : Cfg := { flags := dirScanKeepUid ||| dirScanKeepGid ||| dirScanKeepMode, defUid := 0, defGid := 0, defMode := 0,
                   defMtime := 0, pfx := [], filePrefix := none, pattern := none }
def fnm : Fnm := fun _ _ _ => true

def inodesOf (r : Option Result) : Option (List Path) := r.map (·.inodes)
def filesOf (r : Option Result) : Option (List Path) := r.map (·.files)

theorem inodes_abc : inodesOf (packDir false dflt cfg fnm 1 [fa, fb, fc]) = some [[[0x61]], [[0x62]], []] := by decide +kernel
theorem inodes_cba : inodesOf (packDir false dflt cfg fnm 1 [fc, fb, fa]) = some [[[0x62]], [[0x63]], []] := by decide +kernel
theorem files_abc : filesOf (packDir false dflt cfg fnm 1 [fa, fb, fc]) = some [[[0x61]], [[0x62]]] := by decide +kernel
theorem files_cba : filesOf (packDir false dflt cfg fnm 1 [fc, fb, fa]) = some [[[0x62]], [[0x63]]] := by decide +kernel

theorem perm_abc_cba : FPerm [fa, fb, fc] [fc, fb, fa] :=
  FPerm.trans (FPerm.swap _ _ _) (FPerm.trans (FPerm.cons FPerm.nil (FPerm.swap _ _ _)) (FPerm.swap _ _ _))

theorem wf_abc : WFList [fa, fb, fc] := by simp [WFList, WFNode, HNode.name, fa, fb, fc]

/-- **Negation of the full statement for the iterator without its `qsort`**: two enumerations of one well-formed directory for which
`gensquashfs --pack-dir` computes different inode numbers and a different file (data) order. -/
theorem scan_order_dependent :
    ∃ (e₁ e₂ : List HNode) (d : Defaults) (c : Cfg) (f : Fnm) (dev : Nat),
      FPerm e₁ e₂ ∧ WFList e₁ ∧ packDir false d c f dev e₁ ≠ packDir false d c f dev e₂ := by
  refine ⟨[fa, fb, fc], [fc, fb, fa], dflt, cfg, fnm, 1, perm_abc_cba, wf_abc, ?_⟩
  intro h
  have := congrArg inodesOf h
  rw [inodes_abc, inodes_cba] at this
  exact absurd this (by decide)

/-- with hard-link detection off (`-H` / `-nohardlinks`) the same two enumerations agree -/
theorem nohardlinks_agree :
    inodesOf (packDir false dflt { cfg with flags := cfg.flags ||| dirScanNoHardlinks } fnm 1 [fa, fb, fc])
      = inodesOf (packDir false dflt { cfg with flags := cfg.flags ||| dirScanNoHardlinks } fnm 1 [fc, fb, fa]) := by decide +kernel

/-- the repaired iterator gives the `a, b, c` answer for both -/
theorem repaired_agree :
    inodesOf (packDir true dflt cfg fnm 1 [fc, fb, fa]) = some [[[0x61]], [[0x62]], []] := by decide +kernel

/-! The hard-link filter unifies every multiply-linked **non-directory**, not only regular files: with regular files
filtered out (`-type d -type l`, i.e. `DIR_SCAN_NO_FILE` set) the iterator without its `qsort` is still order dependent
for a symlink with two names.  So "no regular files wanted" is not a licence to skip the sort in the native iterator
(seeded change C11-a2), and the hypothesis of `scan_perm_invariant_partial` cannot be weakened to `DIR_SCAN_NO_FILE`. -/

def lst (ino : Nat) : Stat := { mode := 0o120777, uid := 0, gid := 0, mtime := 0, dev := 1, ino := ino, rdev := 0 }
def lc : HNode := .mk [0x63] (lst 10) [0x78] []
def lk : HNode := .mk [0x6b] (lst 11) [0x79] []
def ls : HNode := .mk [0x73] (lst 10) [0x78] []
/-- `glob / * * * -type d -type l` -/
def cfgNoFile : Cfg :=
  { cfg with flags := cfg.flags ||| dirScanNoFile ||| dirScanNoBlk ||| dirScanNoChr ||| dirScanNoFifo ||| dirScanNoSock }

theorem nofile_inodes_cks : inodesOf (packDir false dflt cfgNoFile fnm 1 [lc, lk, ls]) = some [[[0x63]], [[0x6b]], []] := by decide +kernel
theorem nofile_inodes_skc : inodesOf (packDir false dflt cfgNoFile fnm 1 [ls, lk, lc]) = some [[[0x6b]], [[0x73]], []] := by decide +kernel

theorem nofile_filter_order_dependent :
    hasFlag cfgNoFile.flags dirScanNoFile = true ∧
    packDir false dflt cfgNoFile fnm 1 [lc, lk, ls] ≠ packDir false dflt cfgNoFile fnm 1 [ls, lk, lc] := by
  refine ⟨by decide, ?_⟩
  intro h
  have := congrArg inodesOf h
  rw [nofile_inodes_cks, nofile_inodes_skc] at this
  exact absurd this (by decide)

/-- the repaired iterator is not affected -/
theorem nofile_repaired_agree :
    inodesOf (packDir true dflt cfgNoFile fnm 1 [ls, lk, lc]) = inodesOf (packDir true dflt cfgNoFile fnm 1 [lc, lk, ls]) := by decide +kernel

end Sqfs.Witness.C11
