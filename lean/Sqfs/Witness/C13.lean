/-
C13 — witnesses.

(0) /repo before 65a1d35 (`Variant.current`) violates "a run that exits with status 0 has produced exactly the output of a
    fault-free run" / "exit with a non-zero status … if any system call on the output fails": rdsquashfs -l / -s /
    -d / -x ignore write errors on standard output.  Replayed on the real tool on every run of tools/checks/c13.py
    (fault class `stdout`: /dev/full, closed descriptor, EPIPE); known_findings.d/C13.json lists it as fixed by
    65a1d35 (= fixes/C13-check-stdout-errors.patch).
(1) Regression: the source before b5ce20d (`Variant.beforeRealpath`) violated `failure_never_leaves_output`:
    relative output name × pack directory.  Repaired in /repo; a revert is reported by the check as a VIOLATION
    (cases `gen-rel*`: the oracle sees the file, and the call log no longer contains `realpath`).
(2) Regression witnesses: the first snapshot of the source (`Variant.snapshot`) violated three more clauses; the
    repairs are part of /repo, and the check reports a revert as a VIOLATION.
-/
import Sqfs.Proofs.FailStop
import Sqfs.Model.FailStopBlockProc
namespace Sqfs.Witness.C13
open Sqfs.FailStop

/-! ### (0) the defect of the source before 65a1d35: write errors on standard output are ignored -/

/-- `rdsquashfs -d image` -/
def descCfg : RCfg := { sqfs2tar := false, op := .describe }

/-- /repo before 65a1d35: `main` makes 12 fallible calls, none of them looks at `stdout` -/
example : (readerSites .current descCfg).length = 12 ∧ Site.rStdoutFlush ∉ readerSites .current descCfg := by decide

/-- **`rdsquashfs -d image > /dev/full` exits 0.**  Every call of `main` succeeds (`describe_tree` only fills the
    stdio buffer), `status = EXIT_SUCCESS`; the exit-time flush of libc (script position 12, behind the last site)
    fails and nobody is left to notice: exit status 0, no failure reported, the listing lost. -/
theorem stdout_error_unreported :
    (runReader .current descCfg (single 12)).status = 0 ∧
    (runReader .current descCfg (single 12)).trace.failed = none ∧
    (runReader .current descCfg (single 12)).trace.ran = readerSites .current descCfg ∧
    (runReader .current descCfg (single 12)).stdoutLost = true := by
  decide +kernel

/-- …the same for -l, -s and -x; `-c` (and sqfs2tar) write through `write(2)` and are not affected. -/
theorem stdout_error_unreported_all :
    (runReader .current { descCfg with op := .ls } (single 11)).stdoutLost = true ∧
    (runReader .current { descCfg with op := .stat } (single 12)).stdoutLost = true ∧
    (runReader .current { descCfg with op := .rdattr } (single 12)).stdoutLost = true ∧
    (runReader .current { descCfg with op := .cat, nsplice := 2 } (single 15)).stdoutLost = false ∧
    (runReader .current { sqfs2tar := true, nentries := 2 } (single 9)).stdoutLost = false := by
  decide +kernel

/-- The clause `reader_exit0_results_delivered` is false for /repo before 65a1d35. -/
theorem not_reader_exit0_results_delivered_current :
    ¬ ∀ (c : RCfg) (fs : List Bool), (runReader .current c fs).status = 0 → (runReader .current c fs).stdoutLost = false := by
  intro h
  have := h descCfg (single 12) stdout_error_unreported.1
  rw [stdout_error_unreported.2.2.2] at this
  cases this

/-- …and so is the specification: the oracle's predicate fails on that model run ("exit0-different-output"). -/
theorem current_reader_violates_spec :
    Spec.failStopOk (observedReader .current descCfg (single 12)) = false ∧
    Spec.verdict (observedReader .current descCfg (single 12)) = "exit0-different-output" := by
  decide +kernel

/-- In /repo (since 65a1d35 = fixes/C13-check-stdout-errors.patch) the same fault (at a site of `main`, position 12) is reported:
    exit 1, site `rStdoutFlush`, nothing lost silently. -/
theorem stdout_error_reported_when_fixed :
    (readerSites .fixed descCfg)[12]? = some .rStdoutFlush ∧
    (runReader .fixed descCfg (single 12)).status = 1 ∧
    (runReader .fixed descCfg (single 12)).trace.failed = some .rStdoutFlush ∧
    (runReader .fixed descCfg (single 12)).stdoutLost = false := by
  decide

/-! ### (1) regression: relative output name × pack directory, before b5ce20d -/

/-- `gensquashfs -F packfile -D in rel.sqfs`, one file to pack -/
def relCfg : Cfg := { tool := .gensquashfs, packFile := true, packDir := true, relOut := true, nfiles := 1 }

/-- position of `pack_file` for the first file: behind the `chdir` -/
example : sitePos .beforeRealpath relCfg (.packFile 0) = some 22 ∧ sitePos .beforeRealpath relCfg .chdirPack = some 21 := by decide

/-- **The partial output file stayed behind.**  `pack_file` fails (the pack file names an input that does not
    exist, a read error, an allocation failure …): `main` does `goto out`, `sqfs_writer_cleanup(&sqfs,
    EXIT_FAILURE)` is reached and calls `unlink("rel.sqfs")` — from inside the pack directory, where the name
    does not designate the output file.  Exit status 1, output present. -/
theorem relative_output_left_behind :
    (run .beforeRealpath relCfg (single 22)).status = 1 ∧
    (run .beforeRealpath relCfg (single 22)).cleanupReached = true ∧
    (run .beforeRealpath relCfg (single 22)).trace.cwd = .pack ∧
    (run .beforeRealpath relCfg (single 22)).unlinkHit = some false ∧
    (run .beforeRealpath relCfg (single 22)).out = .present := by
  decide

/-- …and so did every later failure: the rest of `pack_files` and all of `sqfs_writer_finish`
    (positions 22..29 of the program); a failing `chdir` itself (21) and everything before it were harmless. -/
theorem relative_output_left_behind_all :
    ∀ k : Fin 30, (22 ≤ k.val → (run .beforeRealpath relCfg (single k.val)).out = .present) ∧
                  (k.val ≤ 21 → (run .beforeRealpath relCfg (single k.val)).out ≠ .present) := by
  decide +kernel

/-- The clause `failure_never_leaves_output` was false before b5ce20d. -/
theorem not_failure_never_leaves_output_beforeRealpath :
    ¬ ∀ (c : Cfg) (fs : List Bool), (run .beforeRealpath c fs).status ≠ 0 → (run .beforeRealpath c fs).out ≠ .present := by
  intro h
  exact h relCfg (single 22) (by rw [relative_output_left_behind.1]; decide) relative_output_left_behind.2.2.2.2

/-- /repo since b5ce20d: the same failure (one position later: `realpath` is a new site) removes the file; a failing
    `realpath` itself happens before the `chdir` and is harmless too. -/
theorem relative_output_removed_now :
    sitePos .current relCfg (.packFile 0) = some 23 ∧
    (run .current relCfg (single 23)).status = 1 ∧ (run .current relCfg (single 23)).trace.cwd = .pack ∧
    (run .current relCfg (single 23)).unlinkHit = some true ∧ (run .current relCfg (single 23)).out = .unlinked ∧
    sitePos .current relCfg .realpathOut = some 18 ∧ (run .current relCfg (single 18)).out = .unlinked := by
  decide +kernel

/-- `-D .`: the pack directory is the directory the process is in anyway — nothing was left behind. -/
theorem relative_output_packdir_is_cwd :
    (run .beforeRealpath { relCfg with packDirIsCwd := true } (single 22)).out = .unlinked := by
  decide

/-! ### (2) regression witnesses against the first snapshot of the source -/

/-- gensquashfs with a pack file, one file, export table -/
def cfg : Cfg := { tool := .gensquashfs, packFile := true, nfiles := 1, exportable := true }

/-- D15c.  A failure inside `sqfs_writer_init` after the output file was created (here: writing the provisional
    super block) made the packer exit 1 *without* removing the file: `main` returns before
    `sqfs_writer_cleanup` and init.c's `fail_file:` only dropped the object.  Repaired: C13-init-unlink. -/
theorem init_failure_leaves_output :
    ∃ fs, (run .snapshot cfg fs).status ≠ 0 ∧ (run .snapshot cfg fs).out = .present ∧
          (run .snapshot cfg fs).cleanupReached = false :=
  ⟨single 8, by decide⟩

/-- …for every site of `sqfs_writer_init` behind the `open` the same happened (positions 2..17). -/
theorem init_failure_leaves_output_all :
    ∀ k : Fin 18, 2 ≤ k.val →
      (run .snapshot cfg (single k.val)).status = 1 ∧ (run .snapshot cfg (single k.val)).out = .present ∧
      (run .current cfg (single k.val)).out = .unlinked := by
  decide +kernel

example : sitePos .snapshot cfg .exportAddRoot = some 25 := by decide

/-- D15b.  `add_export_table_entry` failing inside `sqfs_dir_writer_write_export_table` (`if (ret) return 0;`):
    exit status 0, the export table not written.  Repaired: C13-export-table-result. -/
theorem export_table_fault_unreported :
    (run .snapshot cfg (single 25)).status = 0 ∧
    (run .snapshot cfg (single 25)).trace.ops ≠ (faultFree .snapshot cfg).trace.ops ∧
    Op.done .exportWrite ∈ (faultFree .snapshot cfg).trace.ops ∧
    Op.done .exportWrite ∉ (run .snapshot cfg (single 25)).trace.ops ∧
    (run .current cfg (single 25)).status = 1 := by
  decide +kernel

/-- The clause `exit0_output_eq_fault_free` was false for the snapshot. -/
theorem not_exit0_output_eq_fault_free_snapshot :
    ¬ ∀ (c : Cfg) (fs : List Bool), (run .snapshot c fs).status = 0 → run .snapshot c fs = faultFree .snapshot c := by
  intro h
  exact export_table_fault_unreported.2.1 (by rw [h cfg (single 25) export_table_fault_unreported.1])

/-- D15a (block processor).  A processor whose pool holds one completed all-zero tail fragment: `sync`
    dequeues it, `set_block_size` fails (second primitive), the call returned 0.  Repaired:
    C13-sparse-tail-result. -/
def procWithSparseTail : BP.Proc :=
  { backlog := 1, pool := [{ size := 3, isFrag := true, zero := true, first := true }] }

theorem sparse_tail_fault_unreported :
    (BP.runCall .snapshot 3 .sync procWithSparseTail [false, true]).1 =
      ⟨true, none, true, true, [.poolDequeue, .growSparseTail]⟩ := by
  decide

/-- …while /repo as it is reports it. -/
theorem sparse_tail_fault_reported_now :
    (BP.runCall .current 3 .sync procWithSparseTail [false, true]).1 =
      ⟨false, some .fault, true, false, [.poolDequeue, .growSparseTail]⟩ := by
  decide

/-- The clause `blockproc_error_propagates` was false for the snapshot. -/
theorem not_blockproc_error_propagates_snapshot :
    ¬ ∀ (fuel : Nat) (a : BP.Api) (p : BP.Proc) (fs : List Bool),
        (BP.runCall .snapshot fuel a p fs).1.faulted = true → (BP.runCall .snapshot fuel a p fs).1.ok = false := by
  intro h
  have := h 3 .sync procWithSparseTail [false, true] (by rw [sparse_tail_fault_unreported])
  rw [sparse_tail_fault_unreported] at this
  cases this

end Sqfs.Witness.C13
