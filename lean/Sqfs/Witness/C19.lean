import Sqfs.Model.Obj
import Sqfs.Model.C19Readers
import Sqfs.Model.RbTree
import Sqfs.Model.C19Pool
/-!
Witnesses: the copy hooks as they were before the `fix:` commits 581be1a … 3353bb2 (`descCurrent`) violate C19.  Each
statement is about the model of that code, is decided by evaluation, and is replayed on the real code by `tools/checks/c19.py`
(known-finding keys in `known_findings.d/C19.json`).
-/
namespace Sqfs.Witness.C19
open Sqfs.Obj

/-- D6: a fresh id table; `sqfs_copy`; `sqfs_drop(copy)` calls the NULL destroy hook. -/
def d6Heap : Heap × Option Nat :=
  let (h, t) := construct Heap.empty .idTable 0 0
  sqfsCopy descCurrent 3 h t

theorem d6_copy_has_null_hooks :
    (d6Heap.2.bind d6Heap.1.objs).map (fun c => (c.rc, c.destroy, c.copy)) = some (1, false, false) := by decide

theorem d6_drop_of_copy_calls_null :
    (match d6Heap with | (h, some c) => (drop 3 h c).crash | _ => none) = some .nullHook := by decide

/-- with the repaired hook the same history is clean -/
theorem d6_repaired :
    (match (let (h, t) := construct Heap.empty .idTable 0 0; sqfsCopy desc 3 h t) with
      | (h, some c) => (drop 3 h c).crash | _ => some .fuel) = none := by decide

/-- D6, second face: a copied data reader owns a copied fragment table; dropping the reader drops the table. -/
def d6DataHeap : Heap × Option Nat :=
  let (h, f) := newObj Heap.empty .file [] [] []
  let (h, c) := newObj h .gzip [] [] []
  let (h, d) := construct h .dataReader f c
  sqfsCopy descCurrent 3 h d

theorem d6_drop_of_copied_data_reader_calls_null :
    (match d6DataHeap with | (h, some c) => (drop 4 h c).crash | _ => none) = some .nullHook := by decide

/-- environment: the user's file (object 0) and compressor (object 1) -/
def env : Heap := (newObj (newObj Heap.empty .file [] [] []).1 .gzip [] [] []).1

/-- give object `id` a buffer `⟨cap, used, 7⟩` in slot `slot` -/
def withBuf (h : Heap) (id slot cap used : Nat) : Heap :=
  match h.objs id with
  | none => h
  | some o =>
    let (h, b) := newBuf h ⟨cap, used, 7⟩
    { h with objs := upd h.objs id (some { o with bufs := o.bufs.set slot (some b) }) }

/-! ### `data_reader_copy`: block buffers sized by the used part -/

/-- a data reader whose cached data block holds 4 of 8 bytes (the rest is the zero padding of `get_block`) -/
def dataHeap : Heap × Nat :=
  let (h, d) := construct env .dataReader 0 1
  (withBuf h d 0 8 4, d)

/-- the original may index its cached block up to `block_size` … -/
theorem dataReader_original_reads : (indexSlot dataHeap.1 dataHeap.2 0 7).crash = none := by decide

/-- … the copy made by the hook before its repair (`descCurrent`) overflows on the same access (with D6 repaired or not) -/
theorem dataReader_copy_overflows :
    (match sqfsCopy descCurrent 3 dataHeap.1 dataHeap.2 with
      | (h, some c) => (indexSlot h c 0 7).crash | _ => none) = some .overflow := by decide

theorem dataReader_copy_repaired :
    (match sqfsCopy desc 3 dataHeap.1 dataHeap.2 with
      | (h, some c) => (indexSlot h c 0 7).crash | _ => some .fuel) = none := by decide

/-! ### D7: failure path of `xattr_reader_copy` -/

/-- an xattr reader after `sqfs_xattr_reader_load`: two meta readers and the id-block array -/
def xattrHeap : Heap × Nat :=
  let (h, x) := construct env .xattrReader 0 1
  let (h, kv) := newMetaReader h 0 1
  let (h, idr) := newMetaReader h 0 1
  let (h, b) := newBuf h ⟨8, 8, 0⟩
  match h.objs x with
  | some o => ({ h with objs := upd h.objs x (some { o with bufs := [some b], refs := [some kv, some idr] }) }, x)
  | none => (h, x)

/-- the second allocation inside `sqfs_copy` (the copy of `kvrd`) fails: the hook returns NULL … -/
def d7After : Heap × Option Nat := sqfsCopy descCurrent 3 { xattrHeap.1 with budget := some 1 } xattrHeap.2

theorem d7_copy_fails : d7After.2 = none ∧ d7After.1.crash = none := by decide

/-- … and the original's `idrd` (object 4) has been destroyed although the original still points to it -/
theorem d7_failed_copy_destroys_originals_reader :
    (d7After.1.objs 4).isNone = true ∧ ((xattrHeap.1.objs xattrHeap.2).map (·.refs)) = some [some 3, some 4] ∧
    (drop 4 d7After.1 xattrHeap.2).crash = some .useAfterFree := by decide

/-- with the repaired hook a failing allocation (the first five of the six the copy makes) leaves a heap that has not crashed and in
which the original can be released -/
theorem d7_repaired :
    ∀ k < 5, (let r := sqfsCopy desc 3 { xattrHeap.1 with budget := some k } xattrHeap.2
      (drop 4 r.1 xattrHeap.2).crash = none ∧ r.1.crash = none) := by decide

/-! ### failure path of `str_table_copy` (reached through `xattr_writer_copy`) -/

def xwrHeap : Heap × Nat :=
  let (h, w) := construct Heap.empty .xattrWriter 0 0
  let h := withBuf (withBuf h w 0 8 4) w 1 8 4      -- key and value bucket arrays
  (withBuf h w 3 8 8, w)                              -- block tree

def strTblAfter : Heap × Option Nat := sqfsCopy descCurrent 3 { xwrHeap.1 with budget := some 1 } xwrHeap.2

/-- the copy fails, and the original's key strings are gone: its next operation reads freed memory, its release frees twice -/
theorem strTable_failed_copy_frees_originals_buckets :
    strTblAfter.2 = none ∧ strTblAfter.1.crash = none ∧
    (touch strTblAfter.1 xwrHeap.2).crash = some .useAfterFree ∧
    (drop 3 strTblAfter.1 xwrHeap.2).crash = some .doubleFree := by decide

theorem strTable_repaired :
    ∀ k < 6, (let r := sqfsCopy desc 3 { xwrHeap.1 with budget := some k } xwrHeap.2
      (touch r.1 xwrHeap.2).crash = none ∧ (drop 3 r.1 xwrHeap.2).crash = none) := by decide

/-! ### D23: `xattr_writer_copy` keeps pointers into the original -/

/-- a writer with one recorded block: `kv_block_first`/`last` point into the tree, `key_context` at the struct -/
def xwrHeap2 : Heap × Nat :=
  match xwrHeap.1.objs xwrHeap.2 with
  | some o => ({ xwrHeap.1 with objs := upd xwrHeap.1.objs xwrHeap.2 (some { o with views := [listGet o.bufs 3, listGet o.bufs 3, listGet o.bufs 4] }) }, xwrHeap.2)
  | none => xwrHeap

def d23After : Heap × Option Nat := sqfsCopy descCurrent 3 xwrHeap2.1 xwrHeap2.2

/-- not independent: the copy's first internal pointer is the original's tree, so a store through it is seen by the original -/
theorem d23_copy_writes_into_original :
    (match d23After with
      | (h, some c) => (view (writeSlot h c 5 99) xwrHeap2.2).map (fun v => v[3]?) | _ => none) = some (some (some 99)) ∧
    (view xwrHeap2.1 xwrHeap2.2).map (fun v => v[3]?) = some (some (some 7)) := by decide

/-- not safely destroyable: after the original is released the copy's next operation reads freed memory -/
theorem d23_copy_dangles_after_original_released :
    (match d23After with
      | (h, some c) => (touch (drop 3 h xwrHeap2.2) c).crash | _ => none) = some .useAfterFree := by decide

theorem d23_repaired :
    (match sqfsCopy desc 3 xwrHeap2.1 xwrHeap2.2 with
      | (h, some c) => ((touch (drop 3 h xwrHeap2.2) c).crash, (view (writeSlot h c 5 99) xwrHeap2.2).map (fun v => v[3]?))
      | _ => (some .fuel, none)) = (none, some (some (some 7))) := by decide

/-! ### what the probe's `differ` means: a hook that does not carry the contents over is not equivalent

`descGarble` is the repaired description with the value string table of the xattr writer duplicated *without its
contents* (the seeded change to `str_table_copy` that drops the per-string use counts, which `sqfs_xattr_writer_flush`
reads; the same shape as a `data_reader_copy` that copies only a prefix of the cached fragment block). -/
def descGarble : Kind → CopyDesc
  | .xattrWriter => { desc .xattrWriter with bufs := [.trim, .garble, .trim, .dup, .dup] }
  | k => desc k

theorem garbled_copy_is_not_wellformed : ¬ WfDesc (descGarble .xattrWriter) := by decide

/-- the copy is balanced and releasable, but it does not observe what the original observes -/
theorem garbled_copy_not_equivalent :
    (match sqfsCopy descGarble 3 xwrHeap2.1 xwrHeap2.2 with
      | (h, some c) => decide (view h c = view h xwrHeap2.2) | _ => true) = false := by decide

/-! ### default configuration (pool allocator): before /repo b076430 `rbtree_copy` leaks the fresh pool when `copy_node` fails

`rbtree_copy` (rbtree.c:206-232) creates `out->pool = mem_pool_create(...)` and then calls `copy_node`; in the pool
configuration `copy_node` fails exactly when `mem_pool_allocate` cannot `mmap` a block.  Before b076430 the failure branch is
`memset(out, 0, sizeof(*out)); return SQFS_ERROR_ALLOC;` — the only pointer to the fresh pool is overwritten, the pool (its
`mem_pool_t` and every block it already mapped) is never destroyed.  `dir_reader_copy` / `xattr_writer_copy` then `free(copy)`
and `sqfs_copy` returns NULL with one more live pool than before: the clause "a failed copy leaves nothing behind"
(`copy_fail_restores`) is false of the default configuration of /repo before b076430.  Replayed on that code: `failcopy 2` of an `rbt` unit /
of a directory reader with cached inodes / of an xattr writer with recorded blocks in the pool build (LeakSanitizer); repair
b076430 = `fixes/C19-rbtree-copy-pool-leak.patch` (`mem_pool_destroy(out->pool)` before the `memset`, rbtree.c:224). -/

open Sqfs.Rb in
/-- the failure branch before b076430: the fresh pool stays -/
def rbCopyFailCurrent (ps : PStore) : PStore := ps.createPool.1

open Sqfs.Rb in
/-- the failure branch in /repo (since b076430): `mem_pool_destroy(out->pool)` first -/
def rbCopyFailFixed (ps : PStore) : PStore := ps.createPool.1.destroyPool ps.createPool.2

open Sqfs.Rb in
/-- a failed `rbtree_copy` leaves a live pool that no tree refers to (for every store; concretely: none before, pool 0 after) -/
theorem failed_pool_copy_leaks_pool :
    (∀ ps : PStore, (rbCopyFailCurrent ps).live = ps.nextPool :: ps.live) ∧ (rbCopyFailCurrent PStore.empty).live = [0] ∧
    (rbCopyFailFixed PStore.empty).live = [] := by
  refine ⟨fun _ => rfl, by decide, by decide⟩

end Sqfs.Witness.C19

namespace Sqfs.Witness.C19
open Sqfs.C19R Sqfs.DataReader

/-! ### why `copy_equiv_dataReader` needs the padding invariant of `get_block`, and what a prefix-only copy loses

`data_reader_copy` carries over `*_blk_size` bytes of each cached block.  On a state that `get_block` cannot produce
(bytes behind `data_blk_size` not zero) the copy differs from the original — the invariant is not decoration; and a hook
that copies fewer bytes than `*_blk_size` (the seeded change C19-a1: the shorter of the two sizes) loses data even on
reachable states. -/

/-- not reachable: a 4-byte block with `data_blk_size = 2` and a non-zero byte behind it -/
def unpaddedDR : DR := ⟨4, [], some ([1, 2, 3, 9], 2), 0, 0, none, 0⟩

theorem unpadded_violates_invariant : cacheInv unpaddedDR = false := by decide
theorem drCopy_differs_without_padding : decide (drCopy unpaddedDR = unpaddedDR) = false := by decide

/-- `data_reader_copy` with both blocks copied up to the *smaller* of the two sizes -/
def drCopyShort (d : DR) : DR :=
  let n := match d.dataBlock, d.fragBlock with
    | some a, some b => min a.2 b.2
    | _, _ => 0
  { d with dataBlock := d.dataBlock.map fun c => (Sqfs.MetaReader.overwrite (zeros d.blockSize) (c.1.take n), c.2),
           fragBlock := d.fragBlock.map fun c => (Sqfs.MetaReader.overwrite (zeros d.blockSize) (c.1.take n), c.2) }

/-- a reachable state (full data block, 2-byte fragment block): the short copy is not the original -/
def twoBlocksDR : DR := ⟨4, [], some ([1, 2, 3, 4], 4), 0, 0, some ([7, 8, 0, 0], 2), 0⟩

theorem twoBlocks_satisfies_invariant : cacheInv twoBlocksDR = true := by decide
theorem short_copy_loses_data : decide (drCopyShort twoBlocksDR = twoBlocksDR) = false ∧ decide (drCopy twoBlocksDR = twoBlocksDR) = true := by decide

/-! ### why `rbtree_copy_equiv` is about `key_size_padded`: a `copy_node` whose `memcpy` is sized by `key_size`

The seeded change C19-b1 computes the node size as `sizeof(*n) + key_size + value_size`.  For every key size that is not
a multiple of `sizeof(void *)` the copied node then lacks the last `key_size_padded - key_size` bytes of its **value**
(they stay zero in the `calloc`ed node).  In the directory reader's cache (4 byte key, 8 byte value) that is the upper
half of every cached inode reference. -/

open Sqfs.Rb in
/-- `data[]` of the fresh node when `memcpy` copies `sizeof(*n) + key_size + value_size` bytes -/
def copyDataShort (c : Cfg) (d : List UInt8) : List UInt8 :=
  (d.take (c.keySize + c.valueSize) ++ List.replicate (c.keyPad + c.valueSize) 0).take (c.keyPad + c.valueSize)

open Sqfs.Rb in
/-- the node that caches "inode 7 lives at reference 0x123456789abc": its copy holds reference 0x56789abc -/
theorem short_node_copy_loses_value_tail :
    let c : Cfg := ⟨4, 8, 8⟩
    let d := dataOf (mknode c (leBytes 4 7) (leBytes 8 0x123456789abc))
    d.length = c.keyPad + c.valueSize ∧ leVal (valueOf c (c.keyPad, d)) = 0x123456789abc ∧
    leVal (valueOf c (c.keyPad, copyDataShort c d)) = 0x56789abc ∧ copyData c d = d := by decide

end Sqfs.Witness.C19
