/-
C06 — the *necessity* witnesses: for five of the mechanisms the property's statement names (duplicate check; the name gates,
all together; no `chmod` on a link; no-follow `fchownat`; `O_EXCL`), a model of the code **without** that
mechanism provably violates confinement on a concrete hostile tree.  They show (i) that `confinement` is not true
for trivial reasons — the abstract file system can express the escapes these mechanisms are there to stop — and
(ii) which theorem breaks first if the corresponding line of C is removed.  The last two are about the one recorded
defect (docs/design/C06.md, round F): where `mkdir`'s `EEXIST` is accepted without a look at what exists, a symbolic
link planted below R is walked through (`prepopulated_symlink_escapes`: /repo before 9dca2a8); with the `lstat` test of
`Sqfs/Model/UnpackRepaired.lean` (/repo since 9dca2a8) it is not (`repaired_planted_symlink_confined`).
-/
import Sqfs.Spec.Unpack
import Sqfs.Model.UnpackRepaired
namespace Sqfs.Witness.C06
open Sqfs.Path Sqfs.Unpack

private abbrev A : Bytes := [97]
private abbrev Pw : Bytes := [112]
private abbrev X : Bytes := [120]
private abbrev Rn : Bytes := [82]
private abbrev DD : Bytes := [DOT, DOT]
/-- "../x" -/
private abbrev upX : Bytes := [DOT, DOT, SL, 120]
/-- "../d" -/
private abbrev upD : Bytes := [DOT, DOT, SL, 100]

/-- `/`, `/R`, `/d` directories; `/x` a file -/
def fs0 : Fs := fun q =>
  if q = [] ∨ q = [Rn] ∨ q = [[100]] then some ⟨.dir, {}⟩ else if q = [X] then some ⟨.file [1], {}⟩ else none

/-- rdsquashfs.c without the duplicate check in `tree_sort`: sort only -/
def planNoDupCheck (fl : Flags) (t : TNode) : Out :=
  let t' := match t with | .mk n k p a ch => TNode.mk n k p a (sortNodes ch)
  (restoreFstree fl t').seq ((fillUnpacked id t').seq (updateAttribs fl t'))

/-- symlink a → ../d and a directory a holding a file p -/
def symlinkPlusDir : TNode :=
  .mk [] .dir [] {} [.mk A .lnk upD {} [], .mk A .dir [] {} [.mk Pw .reg [7] {} []]]

/-- symlink a → ../x and a regular file a -/
def symlinkPlusFile : TNode :=
  .mk [] .dir [] {} [.mk A .lnk upX {} [], .mk A .reg [7] {} []]

/-- without the duplicate check a file appears in `/d`, outside `/R` -/
theorem no_dup_check_escapes :
    outside [Rn] (exec [Rn] fs0 (planNoDupCheck {} symlinkPlusDir).syscalls) ≠ outside [Rn] fs0 := by
  intro h
  have := congrFun h [[100], Pw]
  revert this
  decide +kernel

/-- `unpackTree` (with the check) refuses the same tree before any call -/
theorem with_dup_check_refused : (unpackTree id {} symlinkPlusDir).err = some .duplicate ∧
    (unpackTree id {} symlinkPlusDir).syscalls = [] := by decide

/-- a create walk without the `is_filename_sane` gate *and* without `sqfs_tree_node_get_path`'s checks: a directory
    entry named ".." puts its children next to R -/
def createNoGates : List Bytes → TNode → List Syscall
  | comps, .mk _ k pl a ch =>
    createNode k (joinSlash comps) pl a {} ::
      (if k = .dir then ch.flatMap (fun c => match c with
        | .mk n k' pl' a' _ => [createNode k' (joinSlash (comps ++ [n])) pl' a' {}]) else [])

theorem no_name_gates_escape :
    outside [Rn] (exec [Rn] fs0 (createNoGates [DD] (.mk DD .dir [] {} [.mk Pw .reg [] {} []]))) ≠ outside [Rn] fs0 := by
  intro h
  have := congrFun h [Pw]
  revert this
  decide

/-- `chmod` on a symlink node (the `!S_ISLNK` test dropped): `fchmodat(…, 0)` follows the link -/
theorem chmod_on_symlink_escapes :
    outside [Rn] (exec [Rn] fs0 [.symlink upX A, .chmod A 0o777]) ≠ outside [Rn] fs0 := by
  intro h
  have := congrFun h [X]
  revert this
  decide

/-- `fchownat` without `AT_SYMLINK_NOFOLLOW` -/
theorem chown_follow_escapes :
    outside [Rn] (exec [Rn] fs0 [.symlink upX A, .chown A 7 7 false]) ≠ outside [Rn] fs0 := by
  intro h
  have := congrFun h [X]
  revert this
  decide

/-- whereas the no-follow forms the code uses leave `/x` alone -/
theorem nofollow_forms_confined :
    outside [Rn] (exec [Rn] fs0 [.symlink upX A, .chown A 7 7 true, .utimens A 5 true, .setxattr A [116, 114, 117, 115, 116, 101, 100, 46, 97] [1] true]) [X]
      = outside [Rn] fs0 [X] := by decide

/-- `open` without `O_EXCL` in `create_node` (modelled by the following open) writes through a symlink that is
    already there — reachable only together with the missing duplicate check -/
theorem open_without_excl_escapes :
    outside [Rn] (exec [Rn] fs0 [.symlink upX A, .openTrunc A [9]]) ≠ outside [Rn] fs0 := by
  intro h
  have := congrFun h [X]
  revert this
  decide

/-- `/`, `/R`, `/d` directories and — planted before the run — `/R/a` a symbolic link to `../d` -/
def fsPlanted : Fs := fun q =>
  if q = [] ∨ q = [Rn] ∨ q = [[100]] then some ⟨.dir, {}⟩ else if q = [Rn, A] then some ⟨.symlink upD, {}⟩ else none
/-- an entirely harmless image: directory `a` holding a file `p` -/
def dirWithFile : TNode := .mk [] .dir [] {} [.mk A .dir [] {} [.mk Pw .reg [7] {} []]]
/-- **The hypothesis on R cannot be dropped**: with a symbolic link planted in R beforehand, the tolerated `EEXIST` of
    `mkdir("a")` lets `open("a/p", O_CREAT|O_EXCL)` walk through the link: a file appears in `/d`, outside `/R`.
    (The property quantifies over images, not over what other parties put into R; `NoLinkBelow` is the hypothesis the
    confinement theorems of `Props/C06.lean` make about it.) -/
theorem prepopulated_symlink_escapes :
    outside [Rn] (exec [Rn] fsPlanted (unpackTree id {} dirWithFile).syscalls) ≠ outside [Rn] fsPlanted := by
  intro h
  have := congrFun h [[100], Pw]
  revert this
  decide +kernel

/-- **The repaired code on the same witness**: `mkdir a` answers `EEXIST`, `lstat` says "symbolic link", the run ends
    there with exit status 1 and `/d/p` does not appear — while the code before /repo 9dca2a8 (`unpackMain`) puts the file there. -/
theorem repaired_planted_symlink_confined :
    (unpackMainR id {} dirWithFile none noFaults (fun _ => false) [Rn] fsPlanted).exit = 1 ∧
    (unpackMainR id {} dirWithFile none noFaults (fun _ => false) [Rn] fsPlanted).trace = [(.mkdir A 0o755, some .EEXIST)] ∧
    (unpackMainR id {} dirWithFile none noFaults (fun _ => false) [Rn] fsPlanted).fs [[100], Pw] = none ∧
    (unpackMain id {} dirWithFile none noFaults [Rn] fsPlanted).fs [[100], Pw] ≠ none := by decide +kernel

end Sqfs.Witness.C06
