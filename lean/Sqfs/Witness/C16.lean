/-
Witnesses of violations of C16.

**Section LF (repaired by 4b35342, kept as regression inputs).**  The printer without the line-feed test
(`Sqfs.Quote.describeNode`: /repo between 96e45c1 and 4b35342) prints a symlink target or an `<unpack-root>/<path>` location that contains a line feed; the pack-file format has no
way to carry one (`istream_get_line` cuts at every LF, `split_line` has no escape for it), so the listing is rejected
by `gensquashfs --pack-file` — or, worse, silently decoded to a different tree: whatever follows the LF is read as
pack-file lines of its own.  The property excludes LF from entry *names* only.  The same nodes are replayed on the
real code by every run of the check (`corpus/C16/lf.cases.json`, tool-level LF cases) and must be refused now.

**Section D13 (repaired by 96e45c1, kept as regression inputs).**  The printer of the pinned snapshot
(`Sqfs.QuoteOld`) quoted names only on space/`"`, escaped only `"`, printed targets and locations verbatim and never
printed the root: concrete nodes whose line the pack-file parser rejects or decodes to a different entry.  The same
nodes are replayed on the real code by every run (`corpus/C16/witnesses.cases.json`) and must round-trip now.
-/
import Sqfs.Model.QuoteOld
import Sqfs.Spec.Quote
namespace Sqfs.Witness.C16
open Sqfs.Quote

/-- what the real parser makes of the snapshot printer's line for a node -/
def oldRoundTrip (ur : Option Sqfs.Path.Bytes) (comps : List Sqfs.Path.Bytes) (n : Node) :=
  match Sqfs.QuoteOld.describeNode ur comps n with
  | .ok line => some (fstreeFromFile {} line)
  | .error _ => none

def slinkNode (t : Sqfs.Path.Bytes) : Node := { kind := .slink, perm := 0o777, uid := 0, gid := 0, target := t }
def fileNode : Node := { kind := .file, perm := 0o644, uid := 0, gid := 0 }

/-! ## Section LF — the printer without the line-feed test (repaired in /repo by 4b35342) -/

/-- what the real parser makes of the line the printer without the line-feed test prints for a node -/
def curRoundTrip (ur : Option Sqfs.Path.Bytes) (comps : List Sqfs.Path.Bytes) (n : Node) :=
  match describeNode ur comps n with
  | .ok line => some (fstreeFromFile {} line)
  | .error _ => none

/-- `LF:target` — symlink `l` → `a<LF>b`: printed as `slink l 0777 0 0 a` / `b`; the first line decodes to a link
with the wrong target, the second is "error in entry description": gensquashfs exits 1.  (A target that needs quotes,
e.g. `a b<LF>c`, gives `"a b` on the first line: "missing `\"`".) -/
theorem cur_target_lf_rejected :
    curRoundTrip none [[108]] (slinkNode [97, 10, 98])
      = some ([{ name := [108], mode := 0o120777, uid := 0, gid := 0, rdev := 0, extra := some [97] }], some (.handle .entry)) := by
  decide +kernel

/-- `LF:target`, silent variant — symlink `l` → `a<LF>#b`: the tail of the target starts a line of its own, here
a comment line; the listing is **accepted** and the rebuilt link points to `a` (same for a target that ends in LF:
the empty second line is skipped) -/
theorem cur_target_lf_silently_altered :
    curRoundTrip none [[108]] (slinkNode [97, 10, 35, 98])
      = some ([{ name := [108], mode := 0o120777, uid := 0, gid := 0, rdev := 0, extra := some [97] }], none)
    ∧ curRoundTrip none [[108]] (slinkNode [97, 10])
      = some ([{ name := [108], mode := 0o120777, uid := 0, gid := 0, rdev := 0, extra := some [97] }], none)
    ∧ specEntry none [[108]] (slinkNode [97, 10, 35, 98])
      = some { name := [108], mode := 0o120777, uid := 0, gid := 0, rdev := 0, extra := some [97, 10, 35, 98] } := by decide +kernel

/-- `LF:location` — `--unpack-root 'u<LF>p'`, file `f`: printed as `file f 0644 0 0 u` / `p/f` -/
theorem cur_location_lf_rejected :
    curRoundTrip (some [117, 10, 112]) [[102]] fileNode
      = some ([{ name := [102], mode := 0o100644, uid := 0, gid := 0, rdev := 0, extra := some [117] }], some (.handle .entry)) := by
  decide +kernel

/-- `LF:location`, silent variant — `--unpack-root 'u<LF>#'`: the listing is accepted and names `u` as the input
file of `f` instead of `u<LF>#/f` -/
theorem cur_location_lf_silently_altered :
    curRoundTrip (some [117, 10, 35]) [[102]] fileNode
      = some ([{ name := [102], mode := 0o100644, uid := 0, gid := 0, rdev := 0, extra := some [117] }], none) := by
  decide +kernel

/-- the negation of the full-strength listing theorem for the printer without the test: a tree every image can hold
(`RootOkN`, no LF in any *name*) whose listing is printed without complaint and does not decode to the tree -/
theorem cur_describe_lf_not_rebuilt :
    ∃ t out, RootOkN t ∧ describe none t = .ok out ∧ fstreeFromFile {} out ≠ (specTree none [] t, none) := by
  refine ⟨.mk [] { kind := .dir, perm := 0o755, uid := 0, gid := 0 } [.mk [108] (slinkNode [97, 10, 98]) []],
    [100,105,114,32,47,32,48,55,53,53,32,48,32,48,10, 115,108,105,110,107,32,108,32,48,55,55,55,32,48,32,48,32,97,10,98,10], ?_, ?_, ?_⟩
  · simp only [RootOkN, ForestOkN, TreeOkN, ImgName, Node.WfN, slinkNode]
    decide
  · decide +kernel
  · decide +kernel

/-! ## Section D13 — the printer of the pinned snapshot (repaired in /repo by 96e45c1) -/

/-- D13 `target:sep` — `slink d/s 0777 0 0 target with space` → "too many arguments" -/
theorem old_slink_target_with_space :
    oldRoundTrip none [[100], [115]] (slinkNode [116, 32, 119]) = some ([], some (.handle .tooMany)) := by decide +kernel

/-- D13 `name:backslash` — name `x\ y` is printed `"x\ y"` → "broken escape sequence" -/
theorem old_name_backslash_space :
    oldRoundTrip none [[120, 92, 32, 121]] fileNode = some ([], some (.split .escape)) := by decide +kernel

/-- D13 `name:backslash`, silent variant — name `x\\ y` (two backslashes) is accepted but decoded as `x\ y` (one):
the rebuilt image has a different entry name -/
theorem old_name_double_backslash_silently_altered :
    oldRoundTrip none [[120, 92, 92, 32, 121]] fileNode
      = some ([{ name := [120, 92, 32, 121], mode := 0o100644, uid := 0, gid := 0, rdev := 0, extra := some [120, 92, 32, 121] }], none)
    ∧ specEntry none [[120, 92, 92, 32, 121]] fileNode
      = some { name := [120, 92, 92, 32, 121], mode := 0o100644, uid := 0, gid := 0, rdev := 0, extra := some [120, 92, 92, 32, 121] } := by
  decide +kernel

/-- D13 `name:tab` — a name with a tab but no space is not quoted: the line has one field too many (here the mode
field becomes `b`) -/
theorem old_name_tab_not_quoted :
    oldRoundTrip none [[97, 9, 98]] fileNode = some ([], some (.handle .mode)) := by decide +kernel

/-- D13 `location:sep` — with `--unpack-root`, the location of `a b` is printed verbatim -/
theorem old_location_with_space :
    oldRoundTrip (some [82]) [[97, 32, 98]] fileNode = some ([], some (.handle .tooMany)) := by decide +kernel

/-- D13 `target:trailing-cr` — a target ending in CR loses the CR (`istream_get_line` strips it): silently altered -/
theorem old_target_trailing_cr_silently_altered :
    oldRoundTrip none [[108]] (slinkNode [116, 13])
      = some ([{ name := [108], mode := 0o120777, uid := 0, gid := 0, rdev := 0, extra := some [116] }], none) := by decide +kernel

/-- D13 `target:leading-dquote` — a target starting with `"` is read as a quoted token -/
theorem old_target_leading_dquote :
    oldRoundTrip none [[108]] (slinkNode [34, 116]) = some ([], some (.split .unmatchedQuote)) := by decide +kernel

/-- D13 `root-dir` — the root directory's mode and owner are not described at all -/
theorem old_root_dir_not_described :
    oldRoundTrip none [] { kind := .dir, perm := 0o700, uid := 7, gid := 8 } = some ([], none)
    ∧ specEntry none [] { kind := .dir, perm := 0o700, uid := 7, gid := 8 }
      = some { name := [], mode := 0o40700, uid := 7, gid := 8, rdev := 0, extra := none } := by decide

end Sqfs.Witness.C16
