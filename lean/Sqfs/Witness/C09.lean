/-
D1 (DESIGN.md §5) — `dequeue` of `lib/util/src/threadpool.c` before /repo dbf866f never looks at `pool->status`.

Witness, on the model of the code before dbf866f (`repaired := false`, `pinned` below): one worker, two items, the callback fails on
the first.  After `submit 0; submit 1`, the worker takes item 0, fails, stores it (`status := -5`) and exits,
leaving ticket 1 in the queue for ever.  The first `dequeue` returns item 0; the second waits on `done_cond` for
ticket 1 — no thread is left that could ever run (`isDeadlock`), and even spurious wake-ups only lead back to
the same state: `dequeue` never returns, contradicting the property's "every call … returns … also when a
worker reports a failure, after which the failure status is reported to the submitter rather than the process
hanging".  The same schedule is replayed on the real code by `tools/checks/c09.py` (`corpus/C09/d1-witness.txt`).

In /repo (since dbf866f = `fixes/C09-dequeue-after-failure.patch`; `repaired := true`) the same schedule ends with `dequeue`
returning NULL and `get_status` = -5 (`repaired_reports_failure`); `Sqfs.C09.no_deadlock` is the general theorem.
-/
import Sqfs.Proofs.Pool
namespace Sqfs.Witness.C09
open Sqfs.Pool

def rcFirstFails (d : Nat) : Int := if d = 0 then -5 else 0

def pinned : Cfg := { repaired := false, rcOf := rcFirstFails }
def repaired : Cfg := { repaired := true, rcOf := rcFirstFails }

/-- `submit 0; submit 1;` worker: take 0, run callback, store + exit; `dequeue` (→ 0); `dequeue` -/
def schedule : List Choice :=
  [.main (.call (.submit 0)), .main (.cont false), .main (.call (.submit 1)), .main (.cont false),
   .worker 0 false, .worker 0 false, .worker 0 false,
   .main (.call .dequeue), .main (.cont false), .main (.call .dequeue), .main (.cont false)]

def stuck : State := run pinned (init 1) schedule

/-- every choice of the schedule is a strict step that is enabled when it is taken (nothing is skipped) -/
def allEnabled (cfg : Cfg) : State → List Choice → Bool
  | _, [] => true
  | s, c :: cs => match stepStrict cfg s c with
      | some s' => allEnabled cfg s' cs
      | none => false

theorem schedule_is_strict_execution : allEnabled pinned (init 1) schedule = true := by decide

/-- **the dead-lock**: the main thread is inside `dequeue`, waiting unsignalled, the status is already −5,
ticket 1 is still queued, the only worker has exited — no thread can take a strict step -/
theorem deadlock_after_failure :
    isDeadlock stuck = true ∧ stuck.main = .deqWait false ∧ stuck.status = -5 ∧
    stuck.queue = [⟨1, 1⟩] ∧ stuck.workers = [.exited] ∧ stuck.returned = [0] ∧ stuck.itemCount = 1 := by
  decide

/-- no step of any kind leads anywhere else: the only thing that can happen is a spurious wake-up of the main
thread, after which it waits again -/
theorem stuck_step (c : Choice) : step pinned stuck c = none ∨ step pinned stuck c = some stuck := by
  cases c with
  | worker i spur =>
    left
    cases i with
    | zero => cases spur <;> decide
    | succ i => cases spur <;> rfl
  | main mc =>
    cases mc with
    | call op => left; cases op <;> rfl
    | cont spur =>
      cases spur with
      | false => left; decide
      | true => right; decide

/-- **`dequeue` never returns**: whatever the scheduler does from here on (spurious wake-ups included), the
state does not change -/
theorem hang_forever (cs : List Choice) : run pinned stuck cs = stuck := by
  induction cs with
  | nil => rfl
  | cons c cs ih =>
    unfold run
    rcases stuck_step c with h | h
    · rw [h]; exact ih
    · rw [h]; exact ih

/-- hence `no_deadlock` is false of the code before dbf866f -/
theorem no_deadlock_fails_for_pinned_code :
    ¬ (∀ (n : Nat) (s : State), 0 < n → Reachable pinned n s → isDeadlock s = false) := by
  intro h
  have hr : Reachable pinned 1 stuck := reachable_run .init schedule
  have := h 1 stuck (by decide) hr
  rw [deadlock_after_failure.1] at this
  exact Bool.noConfusion this

/-- the repaired `dequeue` on the same schedule, followed by `get_status`: the second `dequeue` returns NULL
and the status −5 is reported -/
theorem repaired_reports_failure :
    let s := run repaired (init 1) (schedule ++ [.main (.call .getStatus), .main (.cont false)])
    s.rets = [.submit 0, .submit 0, .deq (some 0), .deq none, .status (-5)] ∧ s.main = .idle ∧
    isDeadlock s = false := by
  decide

end Sqfs.Witness.C09
