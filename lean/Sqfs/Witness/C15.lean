/-
C15 — (1) at the end of the file: under the **current** wrappers a reader that stops is given neither the error nor the end of the
stream when the damage lies behind the point where it stops (`stopping_reader_misses_the_error`) — the reason why the tar reader
reads a compressed input on to its end (`lib/tar/src/iterator.c: drain_compressed_stream`, commit `d69b61b` of /repo, kept as
`fixes/C15-drain-compressed-input.patch`; before it: finding `unread-tail-accepted:*`);
(2) defect D14 and the gzip data-error defect, on the model of the code **as it was before** fix commits `8eb5186` /
`7b3a56e` of /repo (= without `fixes/C15-xfrm-flush-eof.patch` / `fixes/C15-gzip-data-error.patch`; `Sqfs/Model/XfrmOld.lean`;
`istream.c` and `ostream.c` are the same in both trees).  Each theorem is the negation of a clause of the property, with a concrete
witness; the same inputs are replayed on the real code by the check (fake-library harness and tool-level runs).
The library underneath is the toy engine of `Sqfs/Model/Xfrm.lean` behind a zlib-style or zstd-style interface, with the most
restrictive knobs (one byte in, one byte out per library call).
-/
import Sqfs.Model.XfrmOld
import Sqfs.Props.C15
namespace Sqfs.C15.Witness
open Sqfs.Xfrm

def P0 : Toy.Params := ⟨0, 0, 0⟩

theorem iter_self {α β : Type} (body : α → LoopStep α β) (a : α) (h : body a = LoopStep.next a) :
    ∀ fuel, iter body fuel a = none := by
  intro fuel
  induction fuel with
  | zero => rfl
  | succ n ih => simp [iter, h, ih]

/-! ### `FLUSH_FULL` is not continued: `sqfs2tar -c gzip|xz|bzip2` never terminates -/

/-- the unpatched gzip/xz/bzip2 compressor object over the toy library -/
def oldEnc (b : Backend) : Codec (Toy.LibSt Toy.Enc) := Old.wrapCodec (Toy.encLib P0) b true

/-- the state in which the compressor is left by `append "A"; flush` with a 2-byte output buffer: the terminator of
the member is still queued inside the library -/
def stuck : Toy.LibSt Toy.Enc := ⟨⟨[65, 0], true⟩, 1⟩

/-- In that state `process_data(in_size = 0, FLUSH_FULL)` does nothing and answers `OK` — for ever. -/
theorem old_flush_not_continued (b : Backend) (room : Nat) :
    (oldEnc b).step stuck [] room Flush.full = ⟨stuck, 0, [], Res.ok⟩ := by
  cases b <;> simp [oldEnc, Old.wrapCodec, Old.wrapProcess, Old.wrapLoop, iter, Old.wrapBody]

/-- **Witness (termination).**  `append [65]; flush` on an `ostream_xfrm` with a 2-byte buffer over the unpatched
backend loop never comes back: for every amount of fuel the model is still running. -/
theorem old_ostream_flush_hangs (b : Backend) :
    ∀ fuel, oRun (oldEnc b) 2 fuel (oInit (oldEnc b)) [OOp.append [65], OOp.flush] = none := by
  intro fuel
  have h1 : oAppend (oldEnc b) 2 fuel (oInit (oldEnc b)) [65] = some (.ok ⟨(Toy.encLib P0).init, [65], [], 0⟩) := by
    cases b <;> rfl
  have hfirst : flushBody (oldEnc b) 2 true ((Toy.encLib P0).init, [65], []) = LoopStep.next (stuck, [], [1]) := by
    cases b <;> decide
  have hself : flushBody (oldEnc b) 2 true (stuck, [], [1]) = LoopStep.next (stuck, [], [1]) := by
    rw [flushBody_true 2 stuck [] [1] _ (old_flush_not_continued b 2).symm]
    rfl
  have hloop : ∀ f, flushLoop (oldEnc b) 2 true f (Toy.encLib P0).init [65] [] = none := by
    intro f
    cases f with
    | zero => rfl
    | succ n => simp only [flushLoop, iter, hfirst]; exact iter_self _ _ hself n
  simp only [oRun, h1, oFlush, flushInbuf, hloop]
  simp

/-- the same history on the repaired loop: terminates, and what was written decodes to the input -/
example : (match oRun (wrapCodec (Toy.encLib P0) Backend.gzip true) 2 100 (oInit (wrapCodec (Toy.encLib P0) Backend.gzip true))
      [OOp.append [65], OOp.flush] with
    | some (.ok st) => Toy.decode st.sink
    | _ => none) = some [65] := by decide

/-! ### zstd: `END` is reported although the frame is not finished -/

def oldZstdEnc : Codec Toy.Enc := Old.zstdCodec (Toy.encZLib P0) true

/-- **Witness (transparency).**  `append [65]; flush` with a 2-byte buffer "succeeds" but what has been written is not a
complete member: no reference decoder accepts it. -/
theorem old_zstd_writes_incomplete_frame :
    oRun oldZstdEnc 2 100 (oInit oldZstdEnc) [OOp.append [65], OOp.flush] = some (.ok ⟨⟨[65, 0], true⟩, [], [1], 1⟩) ∧
      Toy.decode [1] = none ∧ Spec.toyDecodeAll [1] = none := by
  refine ⟨by decide, by decide, by decide⟩

example : (match oRun (zstdCodec (Toy.encZLib P0) true) 2 100 (oInit (zstdCodec (Toy.encZLib P0) true))
      [OOp.append [65], OOp.flush] with
    | some (.ok st) => Toy.decode st.sink
    | _ => none) = some [65] := by decide

/-! ### a truncated compressed input is indistinguishable from a clean end -/

def oldDec (b : Backend) : Codec (Toy.LibSt Toy.Dec) := Old.wrapCodec (Toy.decLib P0) b false

/-- the member `encode [65, 66, 67]` without its last three bytes -/
def cut : Bytes := (Toy.encode [65, 66, 67]).take 4

/-- **Witness (truncated input accepted).**  Reading the cut stream through `istream_xfrm` over the unpatched loops
delivers `[65, 66]` and then reports a regular end-of-stream. -/
theorem old_truncated_accepted (b : Backend) :
    (iRead (oldDec b) 4 100 (iInit (oldDec b) ⟨cut, []⟩) [(4, 4), (4, 4), (4, 4), (4, 4)] []).map
      (fun r => r.map (fun t => (t.2.1, t.2.2))) = some (.ok ([65, 66], true)) := by
  cases b <;> decide

theorem old_truncated_accepted_zstd :
    (iRead (Old.zstdCodec (Toy.decZLib P0) false) 4 100 (iInit (Old.zstdCodec (Toy.decZLib P0) false) ⟨cut, []⟩)
      [(4, 4), (4, 4), (4, 4), (4, 4)] []).map (fun r => r.map (fun t => (t.2.1, t.2.2))) = some (.ok ([65, 66], true)) := by
  decide

/-- the repaired loops report the error -/
example : iRead (wrapCodec (Toy.decLib P0) Backend.gzip false) 4 100 (iInit (wrapCodec (Toy.decLib P0) Backend.gzip false) ⟨cut, []⟩)
    [(4, 4), (4, 4), (4, 4), (4, 4)] [] = some (.error errCompressor) := by decide

example : iRead (zstdCodec (Toy.decZLib P0) false) 4 100 (iInit (zstdCodec (Toy.decZLib P0) false) ⟨cut, []⟩)
    [(4, 4), (4, 4), (4, 4), (4, 4)] [] = some (.error errCompressor) := by decide

/-! ### gzip: a data error of the library is not an error for the wrapper -/

/-- **Witness (corrupted input hangs).**  On a malformed marker the toy library answers `Z_DATA_ERROR` without
progress; the unpatched gzip loop only knows `Z_STREAM_ERROR` and goes round for ever. -/
theorem old_gzip_data_error_spins :
    ∀ fuel, Old.wrapLoop (Toy.decLib P0) Backend.gzip Flush.none fuel (Toy.decLib P0).init [7] 4 0 [] = none := by
  intro fuel
  have hfirst : Old.wrapBody (Toy.decLib P0) Backend.gzip Flush.none ((Toy.decLib P0).init, [7], 4, 0, []) =
      LoopStep.next (⟨{ Toy.decFresh with bad := true }, 0⟩, [7], 4, 0, []) := by decide
  have hself : Old.wrapBody (Toy.decLib P0) Backend.gzip Flush.none (⟨{ Toy.decFresh with bad := true }, 0⟩, [7], 4, 0, []) =
      LoopStep.next (⟨{ Toy.decFresh with bad := true }, 0⟩, [7], 4, 0, []) := by decide
  cases fuel with
  | zero => rfl
  | succ n => simp only [Old.wrapLoop, iter, hfirst]; exact iter_self _ _ hself n

/-- xz.c and bzip2.c (and the repaired gzip.c) return `XFRM_STREAM_ERROR` -/
example : (Old.wrapProcess (Toy.decLib P0) Backend.xz false (Toy.decLib P0).init [7] 4 Flush.none).map (·.res) = some Res.error := by decide
example : (wrapProcess (Toy.decLib P0) Backend.gzip false (Toy.decLib P0).init [7] 4 Flush.none).map (·.res) = some Res.error := by decide

/-! ### the current wrappers: a reader that stops does not see the error

The wrappers and backends below are the **current** ones (`Sqfs/Model/Xfrm.lean`).  The stream holds the members `ABC`, `DE` and
then dead bytes (a malformed marker); the wrapper's buffer has 5 bytes.  The reader takes the five content bytes in two rounds —
that is all it wants, like a tar reader that has seen the end-of-archive marker (`lib/tar/src/read_header.c`) — and stops:
it has been given no error and no end-of-stream.  Reading on, it gets `SQFS_ERROR_COMPRESSOR` (the general statement is
`Sqfs.C15.corrupt_is_error_for_draining_reader`), which is why `it_next` reads a compressed input to its end behind the marker
(`lib/tar/src/iterator.c: drain_compressed_stream`; before commit `d69b61b` of /repo `tar2sqfs` exited 0 on such archives, finding
`unread-tail-accepted:*`).  With real codecs the dead bytes
are e.g. a gzip trailer whose CRC does not match (damaged contents already handed out), or a cut-off trailer; replayed on the real
`tar2sqfs` by the check (class `beyond-end-marker`). -/

def deadStream : Bytes := Toy.encode [65, 66, 67] ++ Toy.encode [68, 69] ++ [2, 9, 9]

theorem stopping_reader_misses_the_error :
    Dead Toy.decode [2, 9, 9] ∧
    -- toy codec directly under `istream_xfrm`
    (iRead (Toy.decoder ⟨1, 0, 2⟩) 5 1000 (iInit (Toy.decoder ⟨1, 0, 2⟩) ⟨deadStream, [1, 0, 2, 1, 3]⟩) [(3, 3), (2, 2)] []).map
      (fun r => r.map (fun t => (t.2.1, t.2.2))) = some (.ok ([65, 66, 67, 68, 69], false)) ∧
    iRead (Toy.decoder ⟨1, 0, 2⟩) 5 1000 (iInit (Toy.decoder ⟨1, 0, 2⟩) ⟨deadStream, [1, 0, 2, 1, 3]⟩) ([(3, 3), (2, 2)] ++ drainOps 5 9) [] =
      some (.error errCompressor) ∧
    -- the same through the (current) gzip/xz/bzip2 `process_data` loop over the toy library
    (iRead (wrapCodec (Toy.decLib ⟨1, 0, 2⟩ Backend.gzip) Backend.gzip false) 5 1000
        (iInit (wrapCodec (Toy.decLib ⟨1, 0, 2⟩ Backend.gzip) Backend.gzip false) ⟨deadStream, [1, 0, 2, 1, 3]⟩) [(3, 3), (2, 2)] []).map
      (fun r => r.map (fun t => (t.2.1, t.2.2))) = some (.ok ([65, 66, 67, 68, 69], false)) ∧
    iRead (wrapCodec (Toy.decLib ⟨1, 0, 2⟩ Backend.gzip) Backend.gzip false) 5 1000
        (iInit (wrapCodec (Toy.decLib ⟨1, 0, 2⟩ Backend.gzip) Backend.gzip false) ⟨deadStream, [1, 0, 2, 1, 3]⟩) ([(3, 3), (2, 2)] ++ drainOps 5 9) [] =
      some (.error errCompressor) :=
  ⟨Sqfs.C15.toy_dead_example [9, 9], by decide, by decide, by decide, by decide⟩

end Sqfs.C15.Witness
