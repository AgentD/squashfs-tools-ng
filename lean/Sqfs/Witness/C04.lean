/-
C04 — witnesses of defects of the *unrepaired* code.

1. `read_binary` (`lib/tar/src/number.c`): the overflow guard is sign-blind
   (`ov != 0 && ov != 0xFF`), so a non-negative base-256 number whose running value reaches a top
   byte of 0xFF is shifted once more and wraps, and a negative number may lose its sign bit in the
   last shift.  Both return a *wrong value with status 0* ("silently wrapped").
   Repair: `fixes/C04-read-binary-overflow.patch`; the repaired guard is `Sqfs.Tar.readBinary`.
-/
import Sqfs.Spec.TarNumber
import Sqfs.Model.TarConv
import Sqfs.Model.TarRead
namespace Sqfs.Witness.C04
open Sqfs.Tar

/-- a 12-byte size/mtime field meaning 255·2^64 -/
def wrapPos : Bytes := [0x80, 0, 0, 0xFF, 0, 0, 0, 0, 0, 0, 0, 0]
/-- a 12-byte mtime field meaning −(2^63 + 2^56) -/
def wrapNeg : Bytes := [0xFF, 0xFF, 0xFF, 0xFF, 0x7F, 0, 0, 0, 0, 0, 0, 0]

/-- The unrepaired reader returns 0 for a field whose value is 255·2^64 (no error). -/
theorem read_binary_wraps_positive :
    readNumberCur wrapPos = some 0 ∧ specBinary wrapPos = 255 * 2 ^ 64 ∧ specNumber wrapPos = none := by
  decide +kernel

/-- The unrepaired reader returns +0x7F00000000000000 for a field whose value is −0x8100000000000000. -/
theorem read_binary_wraps_negative :
    readNumberCur wrapNeg = some 0x7F00000000000000 ∧ specBinary wrapNeg = -0x8100000000000000
      ∧ specNumber wrapNeg = none := by
  decide +kernel

/-- so "exact or error" is false for the unrepaired reader -/
theorem readNumberCur_not_exact_or_error : ¬ ∀ f, readNumberCur f = specNumber f := by
  intro h
  have := h wrapPos
  rw [read_binary_wraps_positive.1, read_binary_wraps_positive.2.2] at this
  cases this

/-!
2. **D25** `process_tarball` (`bin/tar2sqfs/src/process_tarball.c`), `--root-becomes R` without `-S`: the unrepaired
   code runs `canonicalize_name(link)` *in place* before it tests the prefix, so a symlink target that is not below
   `R` is rewritten although the documentation says only prefixed targets are adjusted.
   Repair: `fixes/C04-retarget-keeps-unprefixed-links.patch` (canonicalise a copy); `Sqfs.Tar.retarget`.
-/

def optsR : ConvOpts := { rootBecomes := some (ascii "root") }
def absLink : CEntry :=
  { name := ascii "root/abs", mode := S_IFLNK + 0o777, uid := 0, gid := 0, mtime := 0, hardLink := false,
    link := some (ascii "/usr/bin/foo") }
def halfLink : CEntry := { absLink with name := ascii "root/dotrel", link := some (ascii "./x/../y") }

/-- an absolute target outside the new root becomes a *relative* one -/
theorem retarget_clobbers_absolute :
    processEntryCur optsR absLink = .node { absLink with name := ascii "abs", link := some (ascii "usr/bin/foo") } ∧
    processEntry optsR absLink = .node { absLink with name := ascii "abs" } := by
  decide +kernel

/-- a target on which `canonicalize_name` fails is left half rewritten ("./x/../y" → "x/x/../y") -/
theorem retarget_leaves_half_rewritten_buffer :
    processEntryCur optsR halfLink = .node { halfLink with name := ascii "dotrel", link := some (ascii "x/x/../y") } ∧
    processEntry optsR halfLink = .node { halfLink with name := ascii "dotrel" } := by
  decide +kernel

/-- the repaired retarget never touches a target whose canonical form is not below the root -/
theorem retarget_keeps_unprefixed (r l : Bytes)
    (h : ∀ c, Sqfs.Path.canonicalize l = some c → ¬ (c.take r.length = r ∧ (c.drop r.length).head? = some Sqfs.Path.SL)) :
    retarget r l = l := by
  unfold retarget
  cases hc : Sqfs.Path.canonicalize l with
  | none => rfl
  | some c => simp only; rw [if_neg (h c hc)]

/-!
3. **D27** `write_tar_header` (`lib/tar/src/write_header.c`): the PAX 'x' / GNU 'K','L' records are appended before
   the type switch returns `SQFS_ERROR_UNSUPPORTED`; sqfs2tar skips the socket, the records stay in the stream and
   every reader applies them to the next member.  Repair: `fixes/C04-socket-skip-before-ext-records.patch`.
-/

def longSock : WEntry :=
  { name := List.replicate 120 115, mode := S_IFSOCK + 0o644, uid := 1, gid := 2, size := 0, mtime := 0,
    devMajor := 0, devMinor := 0, hardLink := false }

/-- unrepaired: extension records (an 'L' header and the 120-byte name, padded) are emitted for an entry that is then
    refused; repaired: nothing is emitted -/
theorem socket_leaves_extension_records :
    (writeTarHeaderCur longSock none [] 0).2 = false ∧ (writeTarHeaderCur longSock none [] 0).1 ≠ [] ∧
    writeTarHeader longSock none [] 0 = none := by
  decide +kernel

def nameOf : ReadResult → Option Bytes
  | .ok d _ => d.name
  | _ => none

/-- … and the reader hands that dangling long name to the following member ("d/zfile" is read back under the
    socket's 120-byte name) -/
theorem dangling_long_name_renames_next_member :
    nameOf (readHeader ((writeTarHeaderCur longSock none [] 0).1 ++
        (writeTarHeader { longSock with name := ascii "d/zfile", mode := S_IFREG + 0o644 } none [] 1).getD [])) =
      some (List.replicate 120 115) := by
  decide +kernel

/-!
4. **D20** (`fstree_add_generic` overwrite path copies `mtime` unclamped): real at the library level, unreachable from
   tar2sqfs (`Sqfs.C04.mtime_overwrite_path_safe`).  The library-level difference, for the record:
-/
theorem overwrite_path_unclamped_at_library_level :
    ((4294967301 : Int) % 4294967296).toNat = 5 ∧ clampTimestamp 4294967301 = 4294967295 := by decide

/-!
5. **xattr key with '='** (`write_schily_xattr` in `lib/tar/src/write_header.c`, `pax_xattr_schily` in `pax_header.c`):
   the key is copied verbatim into the `SCHILY.xattr.<key>=<value>` record, but a PAX keyword ends at the first '='.
   An inode with the attribute `user.a=b` = "v" (a legal Linux xattr name; it gets into an image through
   `LIBARCHIVE.xattr.user.a%3Db`, gensquashfs, …) comes out of `sqfs2tar | tar2sqfs` — and out of GNU tar — with the
   attribute `user.a` = "b=v": content altered, status 0.  Repair: `fixes/C04-xattr-key-escape.patch` (GNU tar's
   convention: '%' → "%25", '=' → "%3D" in the writer, the inverse in the reader; `Sqfs.C04.xattr_key_escape`,
   `Sqfs.C04.header_roundtrip`).
-/

def eqKeyFile : WEntry :=
  { name := ascii "f", mode := S_IFREG + 0o644, uid := 0, gid := 0, size := 0, mtime := 0, devMajor := 0, devMinor := 0,
    hardLink := false }

def xattrOf : ReadResult → Option (List (Bytes × Bytes))
  | .ok d _ => some d.xattr
  | _ => none

/-- unrepaired writer and reader: the pair (`user.a=b`, "v") is read back as (`user.a`, "b=v") -/
theorem xattr_key_with_equals_is_altered :
    xattrOf (readHeaderWith { schilyKeyDecode := false }
      ((writeTarHeaderRawKeys eqKeyFile none [(ascii "user.a=b", ascii "v")] 0).getD [] ++ zeros 1024)) =
      some [(ascii "user.a", ascii "b=v")] := by
  decide +kernel

/-- repaired writer and reader: the pair comes back unchanged (instance of `Sqfs.C04.header_roundtrip`) -/
theorem xattr_key_with_equals_repaired :
    xattrOf (readHeader ((writeTarHeader eqKeyFile none [(ascii "user.a=b", ascii "v")] 0).getD [] ++ zeros 1024)) =
      some [(ascii "user.a=b", ascii "v")] := by
  decide +kernel

/-!
6. **Old GNU sparse map, entries from 8 GiB on** (`lib/tar/src/read_sparse_map_old.c: parse`).  The end-of-list test is
   `!isdigit(in->offset[0]) || !isdigit(in->numbytes[0])`; GNU tar stores an offset or size of 8^11 = 8 GiB and more as a
   base-256 number (first byte 0x80), so such an entry is taken for the end of the list: the rest of the map is dropped, the
   data of the dropped regions is skipped, the file is stored with zeros there — exit status 0.  The four map entries below are
   bytes 386…481 of the header GNU tar 1.34 (`tar --format=gnu -S`) writes for a file with 512 bytes of data at offset 0 and 612
   bytes at offset 8 GiB + 4096 (size 8 589 939 300).  Repair: `fixes/C04-old-sparse-base256.patch`.
-/

/-- `hdr.tail.gnu.sparse[0..3]` as written by GNU tar 1.34: (0, 512), (2^33 + 4096, 612), (2^33 + 4708, 0), unused -/
def gnuBigSparse : Bytes :=
  [0x30, 0x30, 0x30, 0x30, 0x30, 0x30, 0x30, 0x30, 0x30, 0x30, 0x30, 0, 0x30, 0x30, 0x30, 0x30, 0x30, 0x30, 0x30, 0x31, 0x30, 0x30, 0x30, 0,
   0x80, 0, 0, 0, 0, 0, 0, 2, 0, 0, 0x10, 0, 0x30, 0x30, 0x30, 0x30, 0x30, 0x30, 0x30, 0x31, 0x31, 0x34, 0x34, 0,
   0x80, 0, 0, 0, 0, 0, 0, 2, 0, 0, 0x12, 0x64, 0x30, 0x30, 0x30, 0x30, 0x30, 0x30, 0x30, 0x30, 0x30, 0x30, 0x30, 0] ++ zeros 24

/-- the unrepaired parser stops in front of the first base-256 entry and reports a complete, shorter map; the repaired one
    reads all three entries -/
theorem old_sparse_base256_entry_ends_map :
    oldSparseParse false 4 gnuBigSparse [] = some ([(0, 512)], true) ∧
    oldSparseParse true 4 gnuBigSparse [] = some ([(0, 512), (8589938688, 612), (8589939300, 0)], true) := by
  decide +kernel

end Sqfs.Witness.C04
