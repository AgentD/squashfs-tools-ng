/-
C10 — witnesses.

* D2, D3, D21 (**repaired in /repo**: 8bf8edc, 442364d, 36fa767; kept as the record of what the models with
  `fix = false` / `kw = false` are): the metadata reader before the repair (`seek false`, `read false` of
  `Sqfs/Model/MetaReader.lean`) violates the property (D2), and its `read` computes `data_used - offset` below zero
  after a failed seek (D3); the data-block cache keyed by location only (D21).
* D33 (`sfix = false`: the code as it was in /repo before 8447a61; `sfix = true`: since then): after
  `dr_stream_get_buffered_data` failed to load the fragment block, the next call on the same stream reports success
  and hands out bytes the stream never filled.

The image: two uncompressed metadata blocks back to back,
  A at 0:  header 0x8004, payload 61 62 63 64  ("abcd")
  B at 6:  header 0x8002, payload 78 79        ("xy")
window `start = 0`, `limit = 10`.
-/
import Sqfs.Proofs.MetaView
import Sqfs.Model.DataReaderCache
namespace Sqfs.C10.Witness
open Sqfs.MetaReader

def imgBytes : List UInt8 := [0x04, 0x80, 0x61, 0x62, 0x63, 0x64, 0x02, 0x80, 0x78, 0x79]
def img : File := { size := 10, byte := fun i => imgBytes.getD i 0, bad := fun _ => false }

/-- `seek(A,0)` ok · `seek(B,3)` fails (B has 2 bytes) · then the query `seek(A,0); read 2` -/
def history : List Op := [.seek 0 0, .seek 6 3]

/-- **D2.**  Before 8bf8edc: after the history, the query "first two bytes of block A" is answered with B's bytes
"xy" (and a wrong end position) — a fresh reader answers "ab". -/
theorem d2_answer_depends_on_history :
    answer false img toyUnc (run false img toyUnc (fresh 0 10) history) 0 0 [2]
      = { seekSt := 0, reads := [(0, [0x78, 0x79])], endPos := some (6, 0) } ∧
    answer false img toyUnc (fresh 0 10) 0 0 [2]
      = { seekSt := 0, reads := [(0, [0x61, 0x62])], endPos := some (0, 2) } := by
  decide +kernel

/-- hence `meta_history_independent` fails for `fix = false` -/
theorem d2_not_history_independent :
    ¬ ∀ (h : List Op) (b o : Nat) (ns : List Nat),
        answer false img toyUnc (run false img toyUnc (fresh 0 10) h) b o ns = answer false img toyUnc (fresh 0 10) b o ns := by
  intro hall
  have := hall history 0 0 [2]
  rw [d2_answer_depends_on_history.1, d2_answer_depends_on_history.2] at this
  exact absurd this (by decide)

/-- **D3.**  Before 442364d: `seek(A,3)` ok, `seek(B,3)` fails and leaves `data_used = 2 < offset = 3`; the next
`read` computes `2 - 3` in `size_t`, so `read 1` "succeeds" with the stale byte `data[3] = 'd'`, and a `read`
of 8190 bytes would copy beyond `m->data`. -/
theorem d3_offset_beyond_data_used :
    let m := run false img toyUnc (fresh 0 10) [.seek 0 3, .seek 6 3]
    m.dataUsed = 2 ∧ m.offset = 3 ∧ m.tag = 0 ∧
    (read false img toyUnc m 1).1 = 0 ∧ (read false img toyUnc m 1).2.1 = [0x64] ∧
    (read false img toyUnc m 8190).1 = crashSt := by
  decide +kernel

/-- the repaired code on the D2 history: the query is answered like a fresh reader does -/
theorem d2_history_repaired :
    answer true img toyUnc (run true img toyUnc (fresh 0 10) history) 0 0 [2]
      = { seekSt := 0, reads := [(0, [0x61, 0x62])], endPos := some (0, 2) } := by
  rw [view_answer, view_run, view_fresh]
  decide +kernel

/-- the repaired code on the D3 history: the reader is unpositioned, `read` fails cleanly -/
theorem d3_history_repaired :
    let m := run true img toyUnc (fresh 0 10) [.seek 0 3, .seek 6 3]
    m.dataUsed = 0 ∧ m.offset = 0 ∧ m.tag = NONE ∧
    (read true img toyUnc m 1).1 = Sqfs.Consts.errOutOfBounds ∧
    (read true img toyUnc m 8190).1 = Sqfs.Consts.errOutOfBounds := by
  decide +kernel

/-! ### D21: before 36fa767 the data-block cache is keyed by location only

Damaged image: eight data bytes `01 … 08` at location 0, block size 8.  Inode A lists one uncompressed block of
8 bytes at location 0 (size word `0x1000008`), inode B one uncompressed block of 4 bytes at the same location
(`0x1000004`).  On a fresh reader B reads `01 02 03 04 00 00 00 00`; after A has been read, B is served A's
cached block. -/

def dimg : File := { size := 8, byte := fun i => UInt8.ofNat (i + 1), bad := fun _ => false }
def inoA : DataReader.Inode := { fileSize := 8, blocksStart := 0, fragIdx := 4294967295, fragOff := 0, blocks := [16777224] }
def inoB : DataReader.Inode := { fileSize := 8, blocksStart := 0, fragIdx := 4294967295, fragOff := 0, blocks := [16777220] }

theorem d21_answer_depends_on_history :
    (DataReader.read false dimg toyUnc (DataReader.run false dimg toyUnc (DataReader.fresh 8 []) [.read inoA 0 8]) inoB 0 8).1
      = (0, [1, 2, 3, 4, 5, 6, 7, 8]) ∧
    (DataReader.read false dimg toyUnc (DataReader.fresh 8 []) inoB 0 8).1 = (0, [1, 2, 3, 4, 0, 0, 0, 0]) := by
  decide +kernel

/-- with the cache keyed by the size word too, the same history is harmless -/
theorem d21_history_repaired :
    (DataReader.read true dimg toyUnc (DataReader.run true dimg toyUnc (DataReader.fresh 8 []) [.read inoA 0 8]) inoB 0 8).1
      = (0, [1, 2, 3, 4, 0, 0, 0, 0]) := by
  decide +kernel

/-! ### D33: a stream answers with stale bytes after a failed fragment lookup (code as it was in /repo before 8447a61)

Image: eight data bytes `01 … 08` at location 0, block size 8, empty fragment table.  The file has 11 bytes: one
raw block and a 3-byte tail that names fragment 5.  `get` delivers the block; after `advance(8)` the next `get`
fails with `SQFS_ERROR_OUT_OF_BOUNDS` (no fragment 5) — and the `get` after that returns 0 with the first three
bytes of the *block* as if they were the tail.  A stream created now and brought to the same position (one `get`,
`advance(8)`) reports the error.  Replay on the real code: `corpus/C10/d33-stream-frag-fail.txt`. -/

def simg : File := { size := 16, byte := fun i => if i < 8 then UInt8.ofNat (i + 1) else 0, bad := fun _ => false }
def sino : DataReader.Inode := { fileSize := 11, blocksStart := 0, fragIdx := 5, fragOff := 0, blocks := [16777224] }

/-- the three calls on one stream: answers of call 1, 2, 3 -/
def d33Calls (sfix : Bool) : DataReader.StreamR × DataReader.StreamR × DataReader.StreamR :=
  let d := DataReader.fresh 8 []
  let r1 := DataReader.streamGet sfix simg toyUnc d (DataReader.streamOpen 8 sino)
  let r2 := DataReader.streamGet sfix simg toyUnc r1.2.2 (DataReader.streamAdvance r1.2.1 8)
  let r3 := DataReader.streamGet sfix simg toyUnc r2.2.2 r2.2.1
  (r1.1, r2.1, r3.1)

theorem d33_stream_answers_after_failure :
    d33Calls false = (.data [some 1, some 2, some 3, some 4, some 5, some 6, some 7, some 8],
                      .err Sqfs.Consts.errOutOfBounds,
                      .data [some 1, some 2, some 3]) := by
  decide +kernel

/-- a file without blocks: the bytes handed out after the failure were never written by anybody (`none`: memory
fresh from `malloc`) -/
theorem d33_uninitialised_bytes :
    let d := DataReader.fresh 8 []
    let ino : DataReader.Inode := { fileSize := 3, blocksStart := 0, fragIdx := 5, fragOff := 0, blocks := [] }
    let r1 := DataReader.streamGet false simg toyUnc d (DataReader.streamOpen 8 ino)
    let r2 := DataReader.streamGet false simg toyUnc r1.2.2 r1.2.1
    r1.1 = .err Sqfs.Consts.errOutOfBounds ∧ r2.1 = .data [none, none, none] := by
  decide +kernel

/-- in /repo (since 8447a61 = `fixes/C10-stream-frag-fail.patch`) the stream is at its end after the failure -/
theorem d33_history_repaired :
    d33Calls true = (.data [some 1, some 2, some 3, some 4, some 5, some 6, some 7, some 8],
                     .err Sqfs.Consts.errOutOfBounds, .eof) := by
  decide +kernel

end Sqfs.C10.Witness
