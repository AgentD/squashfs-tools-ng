/-
C05 — witnesses: the memory-safety / termination theorems of `Sqfs/Props/C05.lean` are FALSE for the code before
the repairs (`fixed := false` in the models; the walks `fillDir`/`dirRec` without visited set and nesting limit).
Each witness is a concrete input; the same values are kept as replays for the real code under `corpus/C05/`.
-/
import Sqfs.Model.ReaderBounds
import Sqfs.Model.ReaderWalk
namespace Sqfs.C05.Witness
open Sqfs.ReaderBounds Sqfs.ReaderWalk

deriving instance DecidableEq for Except

/-! ### D3 — `sqfs_meta_reader_read` after a failed seek -/

/-- one full uncompressed block at 96, followed by a block whose header announces 0 bytes -/
def d3Cfg : MetaCfg :=
  ⟨96, 1000000, fun b => if b == 96 then ⟨false, 0xA000, false, none⟩ else ⟨false, 0x8000, false, none⟩⟩

/-- seek to the block, consume it, ask for one more byte (the implied seek to the empty block fails *after*
`data_used` became 0 while `offset` is still 8192), then read again -/
def d3Ops : List MetaOp := [.seek 96 0, .read 8192, .read 1, .read 16384]

theorem d3_codec_ok : ∀ b n, (d3Cfg.src b).dec = some n → n.toNat ≤ metaCap := by
  intro b n h; simp only [d3Cfg] at h; split at h <;> simp at h

/-- before the repair: the last read copies 16384 bytes from `data + 8192` (capacity 8192) -/
theorem d3_meta_read_after_failed_seek_unsafe :
    ⟨.metaData, 8192, 16384, 8192⟩ ∈ runOps false d3Cfg MetaSt.init d3Ops ∧
    ¬ (⟨.metaData, 8192, 16384, 8192⟩ : Access).inBounds := by
  constructor
  · decide
  · decide

/-- hence `meta_history_safe` fails for `fixed := false` -/
theorem d3_meta_history_current_unsafe :
    ¬ (∀ (c : MetaCfg), (∀ b n, (c.src b).dec = some n → n.toNat ≤ metaCap) → ∀ ops : List MetaOp,
        ∀ a ∈ runOps false c MetaSt.init ops, a.inBounds) := by
  intro h
  exact d3_meta_read_after_failed_seek_unsafe.2 (h d3Cfg d3_codec_ok d3Ops _ d3_meta_read_after_failed_seek_unsafe.1)

/-- the repaired code answers the same history with an error and no such access -/
theorem d3_repaired : (mread true d3Cfg ⟨0, 8192, 96, 8290⟩ 16384).r = .error .oob := by decide

/-! ### D5 — `sqfs_data_reader_get_fragment`, 32-bit `frag_off + frag_sz` -/

theorem d5_get_fragment_current_unsafe :
    ¬ (∀ (bs : UInt32) (filesz blockCount : UInt64) (fragOff : UInt32) (pre : Except Err Unit), bs ≠ 0 →
        ∀ as, getFragment false bs filesz blockCount fragOff pre = .ok as → ∀ a ∈ as, a.inBounds) := by
  intro h
  have := h 4096 100 0 0xFFFFFFF0 (.ok ()) (by decide) _ rfl ⟨.fragBlock, 4294967280, 100, 4096⟩ (by decide)
  revert this; decide

theorem d5_repaired : getFragment true 4096 100 0 0xFFFFFFF0 (.ok ()) = .error .oob := by decide

/-! ### D4 — `dr_stream_get_buffered_data`, 24-bit on-disk size never compared with `block_size` -/

/-- uncompressed block word with on-disk size 0xFFFFFF: `read_at(…, stream->buffer, 16777215)` into 4096 bytes -/
theorem d4_stream_uncompressed_unsafe :
    ⟨.streamBuf, 0, 16777215, 4096⟩ ∈ (streamFill false 4096 ⟨0, 0, 10000, 0, 1, false⟩ 0x1FFFFFF ⟨false, none⟩ (.ok 0) 0).2.2 ∧
    ¬ (⟨.streamBuf, 0, 16777215, 4096⟩ : Access).inBounds := by
  constructor <;> decide

/-- compressed block word: `read_at(…, rd->scratch, 8192)` into the 4096-byte scratch area -/
theorem d4_stream_compressed_unsafe :
    ⟨.drScratch, 0, 8192, 4096⟩ ∈ (streamFill false 4096 ⟨0, 0, 10000, 0, 1, false⟩ 0x2000 ⟨false, some 100⟩ (.ok 0) 0).2.2 ∧
    ¬ (⟨.drScratch, 0, 8192, 4096⟩ : Access).inBounds := by
  constructor <;> decide

theorem d4_repaired :
    (streamFill true 4096 ⟨0, 0, 10000, 0, 1, false⟩ 0x1FFFFFF ⟨false, none⟩ (.ok 0) 0).2.1 = .err .overflow := by decide

/-! ### D19 — `sqfs_dir_reader_resolve_path`, entry name with an embedded NUL -/

/-- entry name `a\0b` against the path `a`: `strncmp` says equal at the NUL, then `path[3]` is read although the
string occupies 2 bytes -/
theorem d19_resolve_current_unsafe :
    ¬ (∀ (name path : List UInt8), (0 : UInt8) ∉ path → ∀ a ∈ (resolveCompare false name path).2, a.inBounds) := by
  intro h
  have := h [97, 0, 98] [97] (by decide) ⟨.path, 3, 1, 2⟩ (by decide)
  revert this; decide

theorem d19_repaired : (resolveCompare true [97, 0, 98] [97]).1 = false := by decide

/-! ### D25 — `sqfs_inode_unpack_dir_index_entry` -/

/-- `ent.size = 0xFFFFFFFE`: `ent.size + 2` wraps to 0 (12-byte allocation) while `ent.size + 1 = 0xFFFFFFFF`
bytes are copied into it -/
theorem d25_unpack_wrap_unsafe :
    ⟨.idxOut, 12, 4294967295, 12⟩ ∈ (unpackIdx false 100 (fun _ => 0xFFFFFFFE) 2 0 0 []).2 ∧
    ¬ (⟨.idxOut, 12, 4294967295, 12⟩ : Access).inBounds := by
  constructor <;> decide

/-- a payload shorter than one record header: 12 bytes are read from 5 -/
theorem d25_unpack_short_payload_unsafe :
    ⟨.idxSrc, 0, 12, 5⟩ ∈ (unpackIdx false 5 (fun _ => 0) 2 0 0 []).2 ∧ ¬ (⟨.idxSrc, 0, 12, 5⟩ : Access).inBounds := by
  constructor <;> decide

theorem d25_repaired : (unpackIdx true 100 (fun _ => 0xFFFFFFFE) 2 0 0 []).1 = .error .oob := by decide

/-! ### D17 — `dir_rec.c` has no ancestor check -/

/-- a directory that lists itself -/
def selfLoop : DirGraph := ⟨fun _ => [0], fun _ => true, fun _ => 1⟩

/-- without the ancestor check no amount of fuel lets the walk finish (sqfs2tar emits entries without end) -/
theorem d17_dir_rec_diverges : ∀ (fuel : Nat) (stack : List Nat), dirRec false selfLoop fuel stack 0 = .error .fuel := by
  intro fuel
  induction fuel with
  | zero => intro st; rfl
  | succ fuel ih =>
    intro st
    unfold dirRec
    simp only [selfLoop, sumEntries, Bool.false_and, if_true]
    have := ih (0 :: st)
    simp only [selfLoop] at this
    simp [this]

theorem d17_repaired : tarWalk true selfLoop 2 0 = .error .linkLoop := by decide

/-- `fill_dir` (rdsquashfs) refuses the same image -/
theorem d17_fill_dir_refuses : readTree selfLoop 1 0 = .error .linkLoop := by decide

/-! ### D17b — shared sub-directories are expanded exponentially by the walks without a visited set -/

/-- `n` levels; every directory lists the next level's directory twice (hard link to a directory) -/
def diamond (n : Nat) : DirGraph := ⟨fun r => if r < n then [r + 1, r + 1] else [], fun _ => true, fun r => r.toUInt32⟩

theorem diamond_fill (n : Nat) (hn : n < 2 ^ 32) : ∀ (k r fuel : Nat) (anc : List UInt32),
    r + k = n → k < fuel → (∀ x ∈ anc, x.toNat ≤ r) →
    fillDir (diamond n) fuel anc r = .ok (2 ^ (k + 1) - 2) := by
  intro k
  induction k with
  | zero =>
    intro r fuel anc hr hf _
    cases fuel with
    | zero => omega
    | succ fuel =>
      have : ¬ r < n := by omega
      simp [fillDir, diamond, this, sumEntries]
  | succ k ih =>
    intro r fuel anc hr hf hanc
    cases fuel with
    | zero => omega
    | succ fuel =>
      have hlt : r < n := by omega
      have e : (r + 1).toUInt32.toNat = r + 1 := by
        simp [Nat.toUInt32, UInt32.toNat_ofNat']
        omega
      have hnot : anc.contains ((r + 1).toUInt32) = false := by
        rw [List.contains_eq_mem]
        simp only [decide_eq_false_iff_not]
        intro hmem
        have := hanc _ hmem
        omega
      have hsub := ih (r + 1) fuel ((r + 1).toUInt32 :: anc) (by omega) (by omega) (by
        intro x hx
        rcases List.mem_cons.1 hx with rfl | hx
        · omega
        · have := hanc x hx; omega)
      unfold fillDir
      simp only [diamond, hlt, if_true, List.any_cons, List.any_nil, hnot, Bool.or_false, Bool.false_eq_true, if_false]
      simp only [diamond] at hsub
      simp only [sumEntries, if_true, hsub]
      congr 1
      have : 2 ^ (k + 1) ≥ 2 := by
        have := Nat.pow_pos (n := k) (show 0 < 2 by decide)
        rw [Nat.pow_succ]; omega
      rw [Nat.pow_succ 2 (k + 1)]
      omega

/-- `fill_dir` before `fixes/C05-dir-visited-set.patch`: an image with `n` levels of doubly-listed directories (a few bytes per
level) is expanded into `2^(n+1) - 2` tree nodes -/
theorem dag_blowup_exponential (n : Nat) (hn : n < 2 ^ 32) : readTree (diamond n) (n + 1) 0 = .ok (2 ^ (n + 1) - 2) := by
  unfold readTree
  apply diamond_fill n hn n 0 (n + 1)
  · omega
  · omega
  · intro x hx
    simp [diamond] at hx
    subst hx
    exact Nat.le_refl _

/-- with the visited set the same images are refused at the first directory that is listed a second time -/
theorem dag_blowup_repaired : readTreeV (diamond 26) 4096 28 0 = .error .linkLoop ∧
    tarWalkV (diamond 26) 4096 28 0 = .error .linkLoop := by
  constructor <;> decide +kernel

/-! ### D26 — recursion depth of `fill_dir` = nesting depth of the image (before `fixes/C05-nesting-limit.patch`) -/

/-- `n` directories nested inside each other -/
def chain (n : Nat) : DirGraph := ⟨fun r => if r < n then [r + 1] else [], fun _ => true, fun r => r.toUInt32⟩

theorem chain_fill (n : Nat) (hn : n < 2 ^ 32) : ∀ (k r fuel : Nat) (anc : List UInt32),
    r + k = n → (∀ x ∈ anc, x.toNat ≤ r) →
    fillDir (chain n) fuel anc r = if k < fuel then .ok k else .error .fuel := by
  intro k
  induction k with
  | zero =>
    intro r fuel anc hr _
    cases fuel with
    | zero => rfl
    | succ fuel =>
      have : ¬ r < n := by omega
      simp [fillDir, chain, this, sumEntries]
  | succ k ih =>
    intro r fuel anc hr hanc
    cases fuel with
    | zero => simp [fillDir]
    | succ fuel =>
      have hlt : r < n := by omega
      have e : (r + 1).toUInt32.toNat = r + 1 := by
        simp [Nat.toUInt32, UInt32.toNat_ofNat']
        omega
      have hnot : anc.contains ((r + 1).toUInt32) = false := by
        rw [List.contains_eq_mem]
        simp only [decide_eq_false_iff_not]
        intro hmem
        have := hanc _ hmem
        omega
      have hsub := ih (r + 1) fuel ((r + 1).toUInt32 :: anc) (by omega) (by
        intro x hx
        rcases List.mem_cons.1 hx with rfl | hx
        · omega
        · have := hanc x hx; omega)
      unfold fillDir
      simp only [chain, hlt, if_true, List.any_cons, List.any_nil, hnot, Bool.or_false, Bool.false_eq_true, if_false]
      simp only [chain] at hsub
      simp only [sumEntries, if_true, hsub]
      by_cases hk : k < fuel
      · simp [hk]; omega
      · simp [hk]

/-- the walk of the unpatched tree needs one frame per directory level, whatever the depth: with `n` frames it is
not finished on a chain of `n` directories, with `n + 1` it delivers the `n` nodes -/
theorem d26_fill_dir_depth_unbounded (n : Nat) (hn : n < 2 ^ 32) :
    readTree (chain n) n 0 = .error .fuel ∧ readTree (chain n) (n + 1) 0 = .ok n := by
  unfold readTree
  have h := fun fuel => chain_fill n hn n 0 fuel [(chain n).inum 0] (by omega) (by
    intro x hx
    simp [chain] at hx
    subst hx
    exact Nat.le_refl _)
  constructor
  · rw [h n]; simp
  · rw [h (n + 1)]; simp

/-- with the nesting limit a chain deeper than the limit is refused after `limit + 2` frames -/
theorem d26_repaired : readTreeV (chain 10) 8 10 0 = .error .overflow ∧ tarWalkV (chain 10) 8 9 0 = .error .overflow ∧
    readTreeV (chain 8) 8 10 0 = .ok 8 ∧ tarWalkV (chain 8) 8 9 0 = .ok 8 := by
  refine ⟨?_, ?_, ?_, ?_⟩ <;> decide

end Sqfs.C05.Witness
