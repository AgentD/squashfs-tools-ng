/-
C01 — witnesses of two defects of the library, on models of the code before the repairs `fixes/C01-*.patch` (both are in
/repo: 6ae20a5 = D9, f317492 = D32); each was replayed on the unrepaired library by `harness/h_c01u.c` (see
docs/design/C01-units.md).

* **D9** `lib/sqfs/src/xattr/xattr_writer_flush.c: write_id_table` — `if (block != locations[i - 1]) locations[i++] = block`
  stores into `locations[count]` when the number of distinct xattr sets is a multiple of 512 (the last descriptor fills
  the metadata block, `sqfs_meta_writer_append` flushes it, `block_offset` moves): a heap overflow of 8 bytes.
  Replay: `xsets 0 512 4` → AddressSanitizer: heap-buffer-overflow, xattr_writer_flush.c:252.
  Repair: `fixes/C01-xattr-id-table-locations.patch`.
* **D32** `lib/sqfs/src/inode.c: sqfs_inode_make_extended` — the FIFO/SOCKET branch writes `data.dev_ext.xattr_idx`
  (union offset 8) instead of `data.ipc_ext.xattr_idx` (offset 4): the extended inode keeps stale bytes as its xattr
  index (0 after calloc = "xattr set 0") and `sqfs_inode_make_basic` refuses to convert it back.
  Replay: `mkext 0 fifo 4516 0 0 0 1 1` → `xfifo 4516 0 0 0 1 1 0`.  Repair: `fixes/C01-make-extended-ipc.patch`.
-/
import Sqfs.Model.EncInode
import Sqfs.Model.EncXattr
import Sqfs.Proofs.EncXattrLocStores
namespace Sqfs.C01.Witness
open Sqfs.Enc Sqfs.Consts

/-- with a never-shrinking compressor a flushed metadata block costs 8194 bytes: `block_offset` after `k` descriptors -/
def blockAfterRaw (k : Nat) : Nat := (k * sizeofXattrId) / metaBlockSize * (metaBlockSize + 2)

/-- D9: with 512 sets the unrepaired `write_id_table` stores `locations[1]` although `alloc_location_table` provided
exactly one slot -/
theorem xattr_locations_overflow :
    locCount 512 = 1 ∧ (locStores none blockAfterRaw 512).any (fun s => s == (1, 8194)) = true := by
  obtain ⟨h1, h2⟩ := locStores_none_multiple (· * 8194) blockAfterRaw 1 rfl
    (fun k _ _ => blockAfter_raw k) (fun a _ => mul_8194_step a)
  exact ⟨h1, List.any_eq_true.mpr ⟨_, h2, by decide⟩⟩

/-- … and so for every multiple of 512 up to 1536 sets: a store at index `count` -/
theorem xattr_locations_overflow_multiples :
    ∀ m ∈ [1, 2, 3], (locStores none blockAfterRaw (512 * m)).any (fun s => s.1 == locCount (512 * m)) = true := by
  intro m hm
  obtain ⟨h1, h2⟩ := locStores_none_multiple (· * 8194) blockAfterRaw m rfl
    (fun k _ _ => blockAfter_raw k) (fun a _ => mul_8194_step a)
  exact List.any_eq_true.mpr ⟨_, h2, by simp [h1]⟩

/-- the repaired loop never does (for the same inputs; `Sqfs.C01.xattr_loc_index_lt_count` proves it in general) -/
theorem xattr_locations_repaired :
    ∀ m ∈ [1, 2, 3], (locStores (some (locCount (512 * m))) blockAfterRaw (512 * m)).all (fun s => s.1 < locCount (512 * m)) = true := by
  intro m hm
  exact List.all_eq_true.mpr fun s hs => decide_eq_true (locStores_lt blockAfterRaw (512 * m) (by simp at hm; omega) s hs)

/-- D32: the unrepaired code turns a basic FIFO whose union bytes are zero (calloc) into an extended FIFO with xattr
index 0, and `make_basic` cannot undo it -/
theorem make_extended_ipc_loses_none :
    let i : Inode := .ipc ⟨0o10644, 0, 0, 0, 1⟩ false 1
    (makeExtendedCur 0 i).xattr = 0 ∧ makeBasic (makeExtendedCur 0 i) ≠ i := by
  decide

/-- the statement `makeBasic (makeExtended i) = i` is false of the unrepaired code -/
theorem make_extended_basic_inverse_fails_cur :
    ¬ ∀ (stale : Nat) (i : Inode), i.isExt = false → WfInode 4096 i → makeBasic (makeExtendedCur stale i) = i := by
  intro h
  have := h 0 (.ipc ⟨0o10644, 0, 0, 0, 1⟩ false 1) rfl (by decide)
  revert this
  decide

end Sqfs.C01.Witness
