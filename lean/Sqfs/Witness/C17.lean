/-
C17 — witnesses of the defects D24, D26 and D27, proved on the models of the code *before* the fixes 47f7b3d,
3c63401 and fcd11e4 (`Sqfs/Model/PackCur.lean`, `decodeFilename (terminate := false)`; the names `…_current` refer to
that code), each next to what the specification / the main model — the code as it is in /repo — gives on the same
input.  The same inputs are replayed against the real tools on every run (corpus cases "D24 witness", "D26 witness",
"D27 witness" of `tools/checks/c17.py`).
-/
import Sqfs.Model.Sort
import Sqfs.Model.PackCur
namespace Sqfs.Witness.C17
open Sqfs.Pack Sqfs.PackCur Sqfs.Sort

/-- no compression, constant checksum: neither matters for D24 -/
def P0 : Params := { B := 4096, base := 96, codec := ⟨fun _ => none, id⟩, h := fun _ => 0 }

/-- a `[nosparse]` file of 100 zero bytes, alone in the image -/
def zeros100 : InFile := ⟨{ ignoreSparse := true }, List.replicate 100 0⟩

/-- **D24 (negation of `nosparse_effect` on `packCur`).**  The fragment block that holds the
`nosparse` tail is flagged sparse: no block is written, the fragment table entry stays `(0, 0)`, and the file's
inode becomes an extended inode with `sparse = 100` and a stray zero block word. -/
theorem d24_current :
    packCur P0 [zeros100]
      = (⟨[], [⟨0, 0, false⟩], [⟨100, [.sparse], 0, some (0, 0), 100, false⟩]⟩, true, false) := by decide +kernel

theorem d24_violates_nosparse :
    ∃ r, (packCur P0 [zeros100]).1.files[0]? = some r ∧ zeros100.flags.ignoreSparse = true
      ∧ r.sparse ≠ 0 ∧ r.extended = true ∧ .sparse ∈ r.words ∧ (packCur P0 [zeros100]).1.blocks = [] := by
  rw [d24_current]
  exact ⟨_, rfl, rfl, by decide, rfl, List.mem_singleton.2 rfl, rfl⟩

/-- the specification on the same input: the tail is materialised in a stored fragment block -/
theorem d24_spec :
    specPack P0 [zeros100]
      = ⟨[⟨true, 0, List.replicate 100 0⟩], [⟨96, 100, true⟩], [⟨100, [], 0, some (0, 0), 0, false⟩]⟩ := by decide +kernel

/-- the line `-5 "b"` -/
def lineQuotedB : List UInt8 := [45, 53, 32, 34, 98, 34]

/-- decoder before 3c63401: the name is `bb"` (unescaped name followed by the stale tail of the buffer) -/
theorem d26_current : (decodeLine false lineQuotedB).toOption = some (some ⟨-5, {}, [98, 98, 34]⟩) := by decide

/-- the decoder of /repo: the name is `b` -/
theorem d26_fixed : (decodeLine true lineQuotedB).toOption = some (some ⟨-5, {}, [98]⟩) := by decide

/-- consequence (negation of "a listed file is matched by its first matching line"): with files `a`, `b` the line
leaves `b` at the default priority before 3c63401, and moves it to the front since -/
theorem d26_violates_first_match :
    (sortFiles false (fun _ _ _ => false) [lineQuotedB] [[97], [98]]).toOption.map (·.map (fun f => (f.path, f.priority)))
        = some [([97], 0), ([98], 0)]
    ∧ (sortFiles true (fun _ _ _ => false) [lineQuotedB] [[97], [98]]).toOption.map (·.map (fun f => (f.path, f.priority)))
        = some [([98], -5), ([97], 0)] := by
  constructor <;> decide

/-- a toy codec that shrinks everything longer than 4 bytes to one byte (any compressing codec will do) -/
def P1 : Params := { B := 4096, base := 96, codec := ⟨fun x => if x.length > 4 then some [UInt8.ofNat x.length] else none, id⟩,
                     h := fun _ => 0 }

def txt : List UInt8 := [104, 101, 108, 108, 111, 32, 119, 111, 114, 108, 100]

/-- file `a` without flags, then file `b` with `dont_compress` and the same content -/
def twoFiles : List InFile := [⟨{}, txt⟩, ⟨{ dontCompress := true }, txt⟩]

/-- **D27 (negation of `dont_compress_effect` on `packCur`).**  `b`'s tail is deduplicated into
`a`'s fragment block, which is stored compressed. -/
theorem d27_current :
    ∃ r e, (packCur P1 twoFiles).1.files[1]? = some r ∧ r.frag = some (0, 0)
      ∧ (packCur P1 twoFiles).1.frags[0]? = some e ∧ e.raw = false := by
  refine ⟨⟨11, [], 0, some (0, 0), 0, false⟩, ⟨96, 1, false⟩, by decide, rfl, by decide, rfl⟩

/-- the specification keeps `b`'s tail out of compressed blocks: it is stored again (offset 11), and the fragment
block that holds it is left uncompressed as a whole, as documented -/
theorem d27_spec :
    (specPack P1 twoFiles).frags = [⟨96, 22, true⟩]
    ∧ (specPack P1 twoFiles).files.map (·.frag) = [some (0, 0), some (0, 11)] := by
  constructor <;> decide

end Sqfs.Witness.C17
