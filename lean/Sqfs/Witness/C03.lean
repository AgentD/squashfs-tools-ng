/-
C03 — witnesses: models of the **unrepaired** code and concrete inputs on which the property fails.
Each is replayed against the real code by tools/checks/c03.py (known-finding keys in known_findings.d/C03.json).

D11  comp/lz4.c `lz4_comp_block` returns LZ4's size even when it is not smaller than the input
D8   id_table.c admits 65536 ids, `id_count` (u16) wraps to 0
D18  dir_writer.c `add_entry` accepts names of any length (size field: 16 bit, kernel limit 255)
D25  dir_writer.c `create_inode` writes one index entry per header, `inodex_count` (u16) wraps beyond 65535
-/
import Sqfs.Proofs.MetaWriter
import Sqfs.Proofs.IdTable
import Sqfs.Model.DirWriter
namespace Sqfs.C03.Witness
open Sqfs.Consts

section D11
open Sqfs.MetaWriter

/-- `lz4_comp_block` of the unrepaired tree on inputs shorter than LZ4's minimum match search length (13):
`LZ4_compress_default` emits one token `len << 4` followed by the literals, i.e. `len + 1` bytes, and the
wrapper returns that size as is. (Longer inputs are not modelled: `none` stands for "not covered here".) -/
def lz4Short : Codec := fun x =>
  if 0 < x.length ∧ x.length < 13 then some (UInt8.ofNat (x.length * 16) :: x) else none

/-- the unrepaired LZ4 wrapper does not meet the `do_block` contract -/
theorem lz4_breaks_contract : ¬ lz4Short.Shrinks := by
  intro h
  have := h [1, 2, 3, 4] [64, 1, 2, 3, 4] (by decide)
  simp at this

/-- a one-entry id table (4 bytes) is written as a 5 byte block flagged compressed: stored larger than unpacked -/
theorem meta_block_larger_than_unpacked :
    (run lz4Short [[0, 0, 0, 0]]).out = [⟨true, [64, 0, 0, 0, 0], [0, 0, 0, 0]⟩] := by decide

/-- `data_block_size_rule` fails for it: a 4 byte data block comes back with 5 bytes, flagged compressed -/
theorem data_block_larger_than_input :
    processBlock lz4Short ⟨0, [9, 8, 7, 6]⟩ = ⟨blkIsCompressed, [64, 9, 8, 7, 6]⟩ := by decide

end D11

section D8
open Sqfs.IdTable

/-- limit of the unrepaired code (`if (tbl->ids.used == 0x10000)`) -/
def oldLimit : Nat := 0x10000

theorem idxOf_range_self (n : Nat) : (List.range n).idxOf n = n := by
  have h : n ∉ List.range n := by simp
  rw [List.idxOf_eq_length h]; simp

theorem addAll_range (lim : Nat) : ∀ (k m : Nat), m + k ≤ lim →
    ∃ is, addAll lim (List.range m) ((List.range' m k)) = some (List.range (m + k), is) := by
  intro k
  induction k with
  | zero => intro m _; exact ⟨[], by simp [addAll]⟩
  | succ k ih =>
    intro m h
    have hstep : step lim (List.range m) m = some (m, List.range (m + 1)) := by
      rw [step_eq, if_neg (by simp), List.length_range, if_neg (by omega), List.range_succ]
    obtain ⟨is, his⟩ := ih (m + 1) (by omega)
    have he : m + 1 + k = m + (k + 1) := by omega
    rw [he] at his
    refine ⟨m :: is, ?_⟩
    simp only [List.range'_succ, addAll, hstep, his, Option.map_some]

/-- 65536 distinct ids are all accepted by the unrepaired code and the u16 `id_count` becomes 0 -/
theorem id_count_wraps :
    ∃ t is, addAll oldLimit [] (List.range' 0 65536) = some (t, is) ∧ t.length = 65536 ∧ superIdCount t = 0 := by
  obtain ⟨is, h⟩ := addAll_range oldLimit 65536 0 (Nat.le_of_eq (Nat.zero_add _))
  rw [Nat.zero_add] at h
  exact ⟨_, is, h, List.length_range, by rw [superIdCount, List.length_range]⟩

end D8

section D18
open Sqfs.DirWriter

/-- unrepaired `sqfs_dir_writer_add_entry`: only the empty name and inode number 0 are refused -/
def addEntryOld (name : Bytes) (inodeNum inodeRef mode : Nat) : AddResult :=
  match getType mode with
  | none => .unsupported
  | some t => if name = [] ∨ inodeNum < 1 then .argInvalid else .ok ⟨inodeRef, inodeNum, t, name⟩

/-- every non-empty name is accepted, whatever its length -/
theorem any_name_accepted (name : Bytes) (h : name ≠ []) :
    addEntryOld name 1 0 0o100644 = .ok ⟨0, 1, inodeFile, name⟩ := by
  have ht : getType 0o100644 = some inodeFile := by decide
  unfold addEntryOld
  rw [ht]
  simp [h]

/-- a 300 byte name is accepted: its `size` field is 299, beyond what the kernel accepts (255) -/
theorem long_name_accepted :
    addEntryOld (List.replicate 300 97) 1 0 0o100644 = .ok ⟨0, 1, inodeFile, List.replicate 300 97⟩ ∧
    (List.replicate 300 (97 : UInt8)).length - 1 > 255 := by
  refine ⟨any_name_accepted _ ?_, ?_⟩
  · intro h
    have := congrArg List.length h
    rw [List.length_replicate] at this
    simp at this
  · rw [List.length_replicate]; decide

/-- for a 65537 byte name the 16-bit `size` field written at dir_writer.c:310 is 0 ("1 byte"), while all 65537 bytes
are appended: the listing cannot be parsed any more -/
theorem size_field_truncated : ((List.replicate 65537 (97 : UInt8)).length - 1) % 65536 = 0 := by
  rw [List.length_replicate]

end D18

section D25
open Sqfs.DirWriter

/-- 65536 single-entry runs (e.g. hard links alternating between two inode blocks) -/
def manyRuns : List Run := List.replicate 65536 ⟨[⟨0, 1, 2, [97]⟩], 0, 1, 0, 0⟩

/-- unrepaired `sqfs_dir_writer_create_inode`: every header gets an index entry, however many there are -/
theorem old_index_length (ref : Nat) (runs : List Run) (n h x p : Nat) (hn : n ≥ dirIndexThreshold) :
    (createInodeCap none ref runs n h x p).index.length = runs.length := by
  unfold createInodeCap
  simp [hn]

/-- the u16 `inodex_count` is 0 while 65536 index entries follow the inode -/
theorem index_count_wraps :
    (createInodeCap none 0 manyRuns 65536 0 0xFFFFFFFF 0).indexCount = 0 ∧
    (createInodeCap none 0 manyRuns 65536 0 0xFFFFFFFF 0).index.length = 65536 := by
  have hl : manyRuns.length = 65536 := List.length_replicate ..
  have hext := old_index_length 0 manyRuns 65536 0 0xFFFFFFFF 0 (by decide)
  exact ⟨by rw [DirInode.indexCount, hext, hl], by rw [hext, hl]⟩

end D25

end Sqfs.C03.Witness
