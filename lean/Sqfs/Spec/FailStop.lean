/-
C13 — the fail-stop property as a predicate on what can be observed of one run of a tool
(exit status, terminating signal / sanitizer report / hang, stderr, the output).  This is the oracle the
correspondence check evaluates on every real run; `Sqfs.C13.packer_meets_spec` / `reader_meets_spec` prove it of every run
of the model (with `sameAsFaultFree` read as "same step sequence").
-/
namespace Sqfs.FailStop.Spec

structure Observed where
  crashed : Bool          -- killed by a signal, sanitizer report, or timeout
  exit0 : Bool            -- exit status 0
  diagnostic : Bool       -- something was written to stderr
  packer : Bool           -- gensquashfs / tar2sqfs (must remove their partial output)
  outputLeft : Bool       -- the output file exists after the run
  sameAsFaultFree : Bool  -- output byte-identical to the fault-free run's
  deriving Repr, DecidableEq

/-- The property, per run in which a fault was injected. -/
def failStopOk (o : Observed) : Bool :=
  !o.crashed &&
  (if o.exit0 then o.sameAsFaultFree
   else o.diagnostic && (!o.packer || !o.outputLeft))

/-- Which clause fails (for reports). -/
def verdict (o : Observed) : String :=
  if o.crashed then "crash"
  else if o.exit0 then (if o.sameAsFaultFree then "ok" else "exit0-different-output")
  else if o.packer && o.outputLeft then "failure-output-left"
  else if !o.diagnostic then "failure-no-diagnostic"
  else "ok"

theorem verdict_ok_iff (o : Observed) : verdict o = "ok" ↔ failStopOk o = true := by
  obtain ⟨a, b, c, d, e, f⟩ := o
  revert a b c d e f
  decide +kernel

end Sqfs.FailStop.Spec
