/-
`packRef` — the **queue-free, backlog-free reference** the block processor is compared against (C02).

Nothing here mentions a pool, `backlog`, `max_backlog`, `io_queue`, the in-flight copies or the block cache.  The
result is computed in three passes over the input:

 1. **front end** (`feFiles`, pure mirror of `begin_file` / `append` / `end_file` of frontend.c): the blocks handed to
    `enqueue_block`, in order, and the file sizes;
 2. **fragment pass** (`fStep`): what the main thread does with an item the pool hands back — a data block gets the next
    I/O sequence number; a fragment is a hole, or is found in the fragment table (compared against the *content* of
    the fragment block, wherever the implementation currently keeps it), or is packed into the open fragment block,
    which is closed first — and numbered at that very moment — when the fragment does not fit.  The result is the
    numbered block stream;
 3. **writer pass** (`wStep`): the numbered blocks go through `process_completed_block` in sequence order.

This is what `threadpool_serial.c` with an immediate drain after every submission computes (each item is worked,
taken back and written before the next one is submitted), regrouped by pass; `Sqfs.C02.run_eq_spec` shows that the
model of the implementation computes the same for *every* `max_backlog`.

Inode updates are collected as `Eff` values (`feEffs`: sizes; fragment pass: fragment location / sparse tail; writer pass:
block words, sparse blocks, start) and applied at the end.
-/
import Sqfs.Model.BlockProc
namespace Sqfs.BlockProc
open Sqfs.Consts
open Sqfs.BlockWriter (hasFlag)

/-! ### inode updates as data -/

inductive InoEff where
  | size (n : Nat)                 -- `file_size += n`                                     (append)
  | fragLoc (i o : Nat)            -- `sqfs_inode_set_frag_location`                        (process_completed_fragment)
  | sparse (k n : Nat)             -- make_extended; `extra[k] = 0`; `sparse += n`          (sparse block / sparse tail)
  | word (k v : Nat)               -- `set_block_size(inode, k, v)`                         (process_completed_block)
  | start (loc : Nat)              -- `sqfs_inode_set_file_block_start`                     (LAST block)
deriving DecidableEq, Repr

def InoEff.app : InoEff → Inode → Inode
  | .size n, i => { i with size := i.size + n }
  | .fragLoc x o, i => { i with fragIdx := x, fragOff := o }
  | .sparse k n, i => ({ i with extended := true, sparse := i.sparse + n } : Inode).setBlockSize k 0
  | .word k v, i => i.setBlockSize k v
  | .start loc, i => { i with start := loc }

/-- an update of the inode of file `id` -/
structure Eff where
  id : Nat
  e : InoEff
deriving DecidableEq, Repr

def applyEff (l : List Inode) (x : Eff) : List Inode := l.modify x.id x.e.app

def applyEffs (l : List Inode) (xs : List Eff) : List Inode := xs.foldl applyEff l

def mkEff (i : Option Nat) (e : InoEff) : List Eff :=
  match i with
  | none => []
  | some id => [⟨id, e⟩]

/-! ### 1. the front end, without the pool -/

structure Front where
  beginCalled : Bool := false
  inode : Option Nat := none
  blkFlags : Nat := 0
  blkIndex : Nat := 0
  blkCurrent : Option Blk := none
deriving DecidableEq, Repr

def Proc.fe (s : Proc) : Front := ⟨s.beginCalled, s.inode, s.blkFlags, s.blkIndex, s.blkCurrent⟩

/-- `appendGo` without `get_new_block`'s drain and with `enqueue_block` replaced by "emit" -/
def feAppendGo (B : Nat) : Nat → Front → Bytes → Option (Front × List Blk)
  | 0, _, _ => none
  | fuel + 1, f, data =>
    if data.length = 0 then
      match f.blkCurrent with
      | none => none
      | some cur => if cur.data.length = B then some ({ f with blkCurrent := none }, [cur]) else some (f, [])
    else
      match f.blkCurrent with
      | none =>
        feAppendGo B fuel
          { f with blkCurrent := some { flags := f.blkFlags, inode := f.inode, index := f.blkIndex },
                   blkIndex := f.blkIndex + 1, blkFlags := clearFlag f.blkFlags blkFirstBlock } data
      | some cur =>
        let diff := B - cur.data.length
        if diff = 0 then
          match feAppendGo B fuel { f with blkCurrent := none } data with
          | none => none
          | some r => some (r.1, cur :: r.2)
        else
          let n := min diff data.length
          feAppendGo B fuel { f with blkCurrent := some { cur with data := cur.data ++ data.take n } } (data.drop n)

def feAppend (B : Nat) (f : Front) (data : Bytes) : Option (Front × List Blk) :=
  feAppendGo B (3 * data.length + 3) f data

def feSentinel (f : Front) : Blk := { inode := f.inode, flags := f.blkFlags ||| blkLastBlock }

/-- `end_file`: the blocks it hands to `enqueue_block` -/
def feEndItems (f : Front) : List Blk :=
  match f.blkCurrent with
  | none => if !hasFlag f.blkFlags blkFirstBlock then [feSentinel f] else []
  | some cur =>
    if hasFlag f.blkFlags blkDontFragment then [{ cur with flags := cur.flags ||| blkLastBlock }]
    else (if !hasFlag cur.flags blkFirstBlock then [feSentinel f] else []) ++ [{ cur with flags := cur.flags ||| blkIsFragment }]

def feEnd (f : Front) : Front := { f with beginCalled := false, inode := none, blkFlags := 0, blkCurrent := none }

def feBegin (f : Front) (id : Nat) (flags : Nat) : Front :=
  { f with beginCalled := true, inode := some id, blkFlags := flags ||| blkFirstBlock, blkIndex := 0 }

/-- all blocks of file number `id`, in submission order.  `begin_file` refuses flags that are not user settable;
`Err.fuel`: the append loop ran out of fuel (never when `0 < B`: `Sqfs.BlockProc.feFile_eq`) -/
def feFile (B : Nat) (id : Nat) (f : InFile) : Except Err (List Blk) :=
  if f.flags &&& blkUserSettable != f.flags then .error .unsupported
  else
    let f0 := feBegin {} id f.flags
    if f.data.length = 0 then .ok (feEndItems f0)
    else
      match feAppend B f0 f.data with
      | none => .error .fuel
      | some r => .ok (r.2 ++ feEndItems r.1)

def feFiles (B : Nat) : Nat → List InFile → Except Err (List Blk)
  | _, [] => .ok []
  | id, f :: fs =>
    match feFile B id f with
    | .error e => .error e
    | .ok a =>
      match feFiles B (id + 1) fs with
      | .error e => .error e
      | .ok b => .ok (a ++ b)

/-- the `size` updates of `append` -/
def feEffs : Nat → List InFile → List Eff
  | _, [] => []
  | id, f :: fs => (if f.data.length = 0 then [] else [⟨id, .size f.data.length⟩]) ++ feEffs (id + 1) fs

/-! ### 2. the fragment pass -/

structure FSt where
  opn : Option Blk := none                   -- `proc->frag_block`
  ht : List Chunk := []                      -- `proc->frag_ht`
  closed : List (Nat × Bytes) := []          -- content of every closed fragment block, newest first
  ntbl : Nat := 0                            -- length of the fragment table
  stream : List Blk := []                    -- the numbered blocks so far (`seq` = position)
  effs : List Eff := []

/-- the (uncompressed) bytes of fragment block `idx` -/
def FSt.fragData (F : FSt) (idx : Nat) : Option Bytes :=
  match openBytes F.opn idx with
  | some d => some d
  | none => (F.closed.find? (fun e => e.1 == idx)).map (·.2)

/-- `chunk_info_equals` against the content of the block -/
def chunkEqRef (byteCompare : Bool) (F : FSt) (d : Bytes) (hd : UInt32) (kf : Nat) (c : Chunk) : Bool :=
  if c.size != d.length || c.hash != hd || c.flags != kf then false
  else if !byteCompare then true
  else
    match F.fragData c.index with
    | none => false
    | some blk => BlockWriter.slice blk c.offset c.size == d

/-- `hash_table_insert_pre_hashed` on a list -/
def insertRef (eq : Chunk → Bool) (new : Chunk) : List Chunk → List Chunk
  | [] => [new]
  | c :: rest => if eq c then new :: rest else c :: insertRef eq new rest

/-- `blk->io_seq_num = n` -/
def Blk.withSeq (b : Blk) (n : Nat) : Blk := { b with seq := n }

@[simp] theorem Blk.withSeq_seq (b : Blk) (n : Nat) : (b.withSeq n).seq = n := rfl
@[simp] theorem Blk.withSeq_flags (b : Blk) (n : Nat) : (b.withSeq n).flags = b.flags := rfl
@[simp] theorem Blk.withSeq_data (b : Blk) (n : Nat) : (b.withSeq n).data = b.data := rfl
@[simp] theorem Blk.withSeq_chk (b : Blk) (n : Nat) : (b.withSeq n).chk = b.chk := rfl
@[simp] theorem Blk.withSeq_index (b : Blk) (n : Nat) : (b.withSeq n).index = b.index := rfl
@[simp] theorem Blk.withSeq_inode (b : Blk) (n : Nat) : (b.withSeq n).inode = b.inode := rfl

/-- hand the open fragment block to the pool: it is numbered now -/
def FSt.close (P : Params) (F : FSt) : FSt :=
  match F.opn with
  | none => F
  | some fb =>
    { F with opn := none, closed := (fb.index, fb.data) :: F.closed,
             stream := F.stream ++ [processBlock P (fb.withSeq F.stream.length)] }

/-- the open block is closed first when a fragment of `len` bytes does not fit -/
def FSt.makeRoom (P : Params) (F : FSt) (len : Nat) : FSt :=
  match F.opn with
  | some fb => if fb.data.length + len > P.B then F.close P else F
  | none => F

/-- the fragment becomes the new open block (next table index, offset 0) or is appended to the open one;
result: new state, index, offset -/
def FSt.place (F : FSt) (x : Blk) : FSt × Nat × Nat :=
  match F.opn with
  | none =>
    ({ F with ntbl := F.ntbl + 1,
              opn := some { x with index := F.ntbl, flags := (x.flags &&& blkDontCompress) ||| blkFragmentBlock } }, F.ntbl, 0)
  | some fb =>
    ({ F with opn := some { fb with data := fb.data ++ x.data, flags := fb.flags ||| (x.flags &&& blkDontCompress) } },
     fb.index, fb.data.length)

/-- a fragment that was not found in the table is stored and recorded -/
def FSt.store (P : Params) (F : FSt) (x : Blk) : FSt :=
  let r := (F.makeRoom P x.data.length).place x
  let kf := x.flags &&& blkDontCompress
  { r.1 with ht := insertRef (chunkEqRef P.byteCompare r.1 x.data x.chk kf) ⟨r.2.1, r.2.2, x.data.length, x.chk, kf⟩ r.1.ht,
             effs := r.1.effs ++ mkEff x.inode (.fragLoc r.2.1 r.2.2) }

/-- the table lookup of `process_completed_fragment` -/
def FSt.lookup (P : Params) (F : FSt) (x : Blk) : Option Chunk :=
  if !hasFlag x.flags blkDontDeduplicate then F.ht.find? (chunkEqRef P.byteCompare F x.data x.chk (x.flags &&& blkDontCompress))
  else none

/-- one item handed back by the pool (already worked) -/
def fStep (P : Params) (F : FSt) (x : Blk) : FSt :=
  if hasFlag x.flags blkIsFragment then
    if hasFlag x.flags blkIsSparse then
      { F with effs := F.effs ++ mkEff x.inode (.sparse x.index x.data.length) }
    else
      match F.lookup P x with
      | some c => { F with effs := F.effs ++ mkEff x.inode (.fragLoc c.index c.offset) }
      | none => F.store P x
  else { F with stream := F.stream ++ [x.withSeq F.stream.length] }

def fRun (P : Params) (F : FSt) (xs : List Blk) : FSt := xs.foldl (fStep P) F

/-! ### 3. the writer pass -/

structure WSt where
  wr : BlockWriter.State
  calls : List WrCall := []
  sets : List (Nat × Nat × Nat) := []        -- `sqfs_frag_table_set(index, location, size)` in order
  effs : List Eff := []

/-- the inode updates of `process_completed_block` for block `b` written at `loc` -/
def blockEffs (b : Blk) (loc : Nat) : List Eff :=
  (if hasFlag b.flags blkIsSparse then mkEff b.inode (.sparse b.index b.data.length)
   else if b.data.length != 0 && !hasFlag b.flags blkFragmentBlock then mkEff b.inode (.word b.index (sizeWord b))
   else [])
  ++ (if hasFlag b.flags blkLastBlock then mkEff b.inode (.start loc) else [])

def wStep (W : WSt) (b : Blk) : Except Err WSt :=
  match BlockWriter.writeDataBlock W.wr b.chk (clearFlag b.flags blkFlagInternal) b.data with
  | .error e => .error (.writer e)
  | .ok (wr', loc) =>
    .ok { wr := wr', calls := W.calls ++ [⟨b.chk, clearFlag b.flags blkFlagInternal, b.data⟩],
          sets := if !hasFlag b.flags blkIsSparse && b.data.length != 0 && hasFlag b.flags blkFragmentBlock
                  then W.sets ++ [(b.index, loc, sizeWord b)] else W.sets,
          effs := W.effs ++ blockEffs b loc }

def wRun : WSt → List Blk → Except Err WSt
  | W, [] => .ok W
  | W, b :: bs =>
    match wStep W b with
    | .error e => .error e
    | .ok W' => wRun W' bs

/-! ### the reference -/

def applySets (tbl : List (Nat × Nat)) (sets : List (Nat × Nat × Nat)) : List (Nat × Nat) :=
  sets.foldl (fun t s => t.set s.1 (s.2.1, s.2.2)) tbl

/-- the observables from the three passes (`n` files) -/
def assemble (n : Nat) (fe : List Eff) (F : FSt) (W : WSt) : Output :=
  ⟨W.calls, W.wr.file, applySets (List.replicate F.ntbl (0, 0)) W.sets,
   (applyEffs (List.replicate n {}) (fe ++ F.effs ++ W.effs)).map Inode.res⟩

/-- **the reference**: no pool, no backlog, no queue -/
def packRef (P : Params) (files : List InFile) : Except Err Output :=
  match feFiles P.B 0 files with
  | .error e => .error e
  | .ok items =>
    let F := (fRun P {} (items.map (processBlock P))).close P           -- `finish` closes the last open block
    match wRun { wr := BlockWriter.init P.pre } F.stream with
    | .error e => .error e
    | .ok W => .ok (assemble files.length (feEffs 0 files) F W)

end Sqfs.BlockProc
