/-
Specification side of C09.

* `Serial` — model of `lib/util/src/threadpool_serial.c` (work is done inside `dequeue`);
  it doubles as the abstract FIFO specification of the threaded pool.
* `StaysInCall` — the executions `Sqfs.C09.api_returns` speaks of.
* executable monitors of the property's clauses on an *observed* history
  (`submitted`, callback invocations, `returned`): evaluated, through the driver's `monitor` op,
  on the implementation's own behaviour.
-/
import Sqfs.Model.Pool
namespace Sqfs.Pool

/-- the API call the main thread is inside of -/
def mainPending : MPc → Option Op
  | .submitLock d => some (.submit d)
  | .deqLock => some .dequeue
  | .deqWait _ => some .dequeue
  | .statusLock => some .getStatus
  | .destroyLock => some .destroy
  | .join _ => some .destroy
  | .idle => none
  | .finished => none

/-! ### threadpool_serial.c -/

structure Serial where
  queue : List Nat
  recycle : Nat
  status : Int
  /-- ghost: callback invocations, in order -/
  processed : List Nat
  rets : List Ret
deriving Repr

def Serial.init : Serial := { queue := [], recycle := 0, status := 0, processed := [], rets := [] }

/-- one API call of the serial pool (no blocking points: every call is one step) -/
def Serial.call (rcOf : Nat → Int) (s : Serial) : Op → Serial
  | .submit d =>
      if s.status ≠ 0 then { s with rets := s.rets ++ [.submit s.status] }
      else { s with queue := s.queue ++ [d], recycle := s.recycle - 1, rets := s.rets ++ [.submit 0] }
  | .dequeue =>
      match s.queue with
      | [] => { s with rets := s.rets ++ [.deq none] }
      | d :: q =>
          { s with queue := q, recycle := s.recycle + 1, processed := s.processed ++ [d],
                   status := if rcOf d ≠ 0 ∧ s.status = 0 then rcOf d else s.status,
                   rets := s.rets ++ [.deq (some d)] }
  | .getStatus => { s with rets := s.rets ++ [.status s.status] }
  | .destroy => { s with queue := [], recycle := 0, rets := s.rets ++ [.destroyed] }

def Serial.run (rcOf : Nat → Int) : Serial → List Op → Serial
  | s, [] => s
  | s, op :: ops => Serial.run rcOf (Serial.call rcOf s op) ops

theorem Serial.run_append (rcOf : Nat → Int) (s : Serial) (a b : List Op) :
    Serial.run rcOf s (a ++ b) = Serial.run rcOf (Serial.run rcOf s a) b := by
  induction a generalizing s with
  | nil => rfl
  | cons x xs ih => simp only [List.cons_append, Serial.run]; exact ih _

/-! ### "the call returns" -/

/-- `StaysInCall cfg s cs s'`: `cs` is a strict execution (every choice enabled, no spurious wake-up) from `s`
to `s'` during which the main thread never leaves the API call it is in (every state after `s` is still
inside the call). -/
inductive StaysInCall (cfg : Cfg) : State → List Choice → State → Prop where
  | nil (s : State) : StaysInCall cfg s [] s
  | cons {s s1 s2 : State} {c : Choice} {cs : List Choice} :
      stepStrict cfg s c = some s1 → mainInCall s1 = true → StaysInCall cfg s1 cs s2 →
      StaysInCall cfg s (c :: cs) s2

/-! ### monitors (the clauses of C09 on an observed history) -/

/-- `returned` is a prefix of `submitted` -/
def fifoOk (submitted returned : List Nat) : Bool := returned.isPrefixOf submitted

/-- no ticket's callback ran twice -/
def onceOk (startedTickets : List Nat) : Bool := startedTickets.Nodup

/-- every returned item had its callback run (exactly once, given `onceOk`): the first `k = returned.length`
tickets all occur among the started ones.  (That the callback ran *before* the hand-back is not visible on one
history; the monitor sees it only when evaluated on every prefix.) -/
def processedOk (startedTickets : List Nat) (nReturned : Nat) : Bool :=
  (List.range nReturned).all (fun t => startedTickets.contains t)

end Sqfs.Pool
