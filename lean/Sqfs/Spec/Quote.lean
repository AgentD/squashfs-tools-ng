/-
Specification the C16 theorems are stated against: the `sqfs_dir_entry_t` (+ `extra`) that a line of
`rdsquashfs --describe` must decode to in `gensquashfs --pack-file` for the rebuilt image to have the same path,
type, permission bits, owner, symlink target, device number and (through the input location) file contents.
-/
import Sqfs.Model.Quote
import Sqfs.Spec.Path
namespace Sqfs.Quote
open Sqfs.Path (Bytes joinSlash)
open Sqfs.Consts

/-- the `S_IFMT` bits of a node kind -/
def ifmtOf : Kind → Nat
  | .dir => sIFDIR | .file => sIFREG | .slink => sIFLNK | .chr => sIFCHR
  | .blk => sIFBLK | .fifo => sIFIFO | .sock => sIFSOCK | .other => 0

/--
The entry that must reach `fstree_add_generic` for the node at `comps` (names from below the root down to the
node itself; `[]` is the root directory).  `none`: the node has a type that cannot be described.
* path  = the names joined by single slashes (what `canonicalize_name` leaves of the absolute path);
* mode  = type bits | permission bits;  uid/gid unchanged;
* rdev  = the device number for `nod`, 0 otherwise;
* extra = the symlink target, byte for byte; for a regular file the input location: the image path itself
          (relative to the pack directory) or `<unpack-root>/<image path>` when `--unpack-root` was given.
-/
def specEntry (unpackRoot : Option Bytes) (comps : List Bytes) (n : Node) : Option Entry :=
  let path := joinSlash comps
  let base : Entry := { name := path, mode := n.perm ||| ifmtOf n.kind, uid := n.uid, gid := n.gid, rdev := 0, extra := none }
  match n.kind with
  | .other => none
  | .slink => some { base with extra := some n.target }
  | .file => some { base with extra := some (match unpackRoot with | none => path | some r => r ++ SL :: path) }
  | .chr | .blk => some { base with rdev := n.devno }
  | .dir | .fifo | .sock => some base

/-- a name that can be a directory entry of an image whose describe output is line-oriented: non-empty, not "."
or "..", no '/', no NUL, no LF -/
def GoodName (c : Bytes) : Prop := c ≠ [] ∧ c ≠ [46] ∧ c ≠ [46, 46] ∧ SL ∉ c ∧ NUL ∉ c ∧ LF ∉ c

/-- a name that can be a directory entry of an image at all (what `sqfs_tree_node_get_path` accepts and a C string
can hold): `GoodName` without the line-feed clause -/
def ImgName (c : Bytes) : Prop := c ≠ [] ∧ c ≠ [46] ∧ c ≠ [46, 46] ∧ SL ∉ c ∧ NUL ∉ c

theorem GoodName.img {c : Bytes} (h : GoodName c) : ImgName c := ⟨h.1, h.2.1, h.2.2.1, h.2.2.2.1, h.2.2.2.2.1⟩
theorem ImgName.slashFree {c : Bytes} (h : ImgName c) : SL ∉ c := h.2.2.2.1

/-- a string that fits on a describe line -/
def LineSafe (s : Bytes) : Prop := NUL ∉ s ∧ LF ∉ s

/-- field widths of the on-disk inode / resolved ids; the target matters for symlinks only (`inode->extra` of any
other kind is never read by `describe_tree`) -/
def Node.Wf (n : Node) : Prop :=
  n.perm < 0o10000 ∧ n.uid < 2^32 ∧ n.gid < 2^32 ∧ n.devno < 2^32 ∧ (n.kind = .slink → LineSafe n.target)

end Sqfs.Quote

namespace Sqfs.Quote
open Sqfs.Path (Bytes)

mutual
/-- the entries the describe output of a (sub)tree must decode to: the node's own, then its children's, in
pre-order; only directories have children, node kinds that cannot be described contribute nothing -/
def specTree (unpackRoot : Option Bytes) (comps : List Bytes) : Tree → List Entry
  | .mk _ node children =>
    (specEntry unpackRoot comps node).toList ++
      (if node.kind = .dir then specForest unpackRoot comps children else [])
def specForest (unpackRoot : Option Bytes) (parents : List Bytes) : List Tree → List Entry
  | [] => []
  | .mk name node ch :: ts =>
    specTree unpackRoot (parents ++ [name]) (.mk name node ch) ++ specForest unpackRoot parents ts
end

mutual
/-- every name below is a good entry name and every node's fields are in range -/
def TreeOk : Tree → Prop
  | .mk name node children => GoodName name ∧ node.Wf ∧ ForestOk children
def ForestOk : List Tree → Prop
  | [] => True
  | t :: ts => TreeOk t ∧ ForestOk ts
end

/-- the tree of an image: a nameless root directory over good subtrees -/
def RootOk : Tree → Prop
  | .mk name node children => name = [] ∧ node.kind = .dir ∧ node.Wf ∧ ForestOk children

/-! ### the same without any line-feed clause: every tree an image can hold (C strings, 16/32-bit fields) -/

/-- field widths; a symlink target is a C string -/
def Node.WfN (n : Node) : Prop :=
  n.perm < 0o10000 ∧ n.uid < 2^32 ∧ n.gid < 2^32 ∧ n.devno < 2^32 ∧ (n.kind = .slink → NUL ∉ n.target)

mutual
def TreeOkN : Tree → Prop
  | .mk name node children => ImgName name ∧ node.WfN ∧ ForestOkN children
def ForestOkN : List Tree → Prop
  | [] => True
  | t :: ts => TreeOkN t ∧ ForestOkN ts
end

def RootOkN : Tree → Prop
  | .mk name node children => name = [] ∧ node.kind = .dir ∧ node.WfN ∧ ForestOkN children

theorem Node.WfN.devno {n : Node} (h : n.WfN) : n.devno < 2^32 := h.2.2.2.1
theorem Node.WfN.target {n : Node} (h : n.WfN) (hk : n.kind = .slink) : NUL ∉ n.target := h.2.2.2.2 hk
theorem Node.Wf.target_lf {n : Node} (h : n.Wf) (hk : n.kind = .slink) : LF ∉ n.target := (h.2.2.2.2 hk).2

/-! ### the line-feed clause only restricts -/

theorem Node.Wf.toN {n : Node} (h : n.Wf) : n.WfN := ⟨h.1, h.2.1, h.2.2.1, h.2.2.2.1, fun hk => (h.2.2.2.2 hk).1⟩

mutual
theorem TreeOk.toN : (t : Tree) → TreeOk t → TreeOkN t
  | .mk _ _ ch, ⟨hname, hn, hch⟩ => ⟨hname.img, hn.toN, ForestOk.toN ch hch⟩
theorem ForestOk.toN : (ts : List Tree) → ForestOk ts → ForestOkN ts
  | [], _ => trivial
  | t :: ts, ⟨ht, hts⟩ => ⟨TreeOk.toN t ht, ForestOk.toN ts hts⟩
end

theorem RootOk.toN {t : Tree} (h : RootOk t) : RootOkN t := by
  cases t with
  | mk name node ch => exact ⟨h.1, h.2.1, h.2.2.1.toN, ForestOk.toN ch h.2.2.2⟩

end Sqfs.Quote
