import Sqfs.Proofs.ObjConstruct
import Sqfs.Proofs.ObjView
import Sqfs.Proofs.ObjRestore
import Sqfs.Proofs.ObjKinds
import Sqfs.Proofs.C19Ops
import Sqfs.Proofs.C19Frame
import Sqfs.Proofs.C19Readers
import Sqfs.Proofs.RbTree
import Sqfs.Proofs.C19Units
import Sqfs.Proofs.C19Pool
import Sqfs.Proofs.C19Deep
import Sqfs.Proofs.C19Proj
/-!
C19 — copies of library objects are well-formed, equivalent, independent and safely destroyable.

Model: `Sqfs.Model.Obj` (object heap, `sqfs_grab/drop/copy`, per-kind copy-hook descriptions `desc`: the hooks as they
are in /repo, i.e. with `fixes/C19-*.patch` in; the hooks before those fixes are `descCurrent`, see
`Sqfs.Witness.C19`), `Sqfs.Model.ObjKinds` (state machines of the two tables), `Sqfs.Model.C19Readers` (state part of the data and
meta reader's hooks over C10's models), `Sqfs.Model.RbTree` / `C19Pool` / `C19Units` (the containers under the hooks).
Every `theorem` below is an obligation.
-/
namespace Sqfs.C19
open Sqfs.Obj Sqfs.Obj.Kinds

/-- every kind's (repaired) hook description is well-formed -/
theorem desc_wellformed : ∀ k : Kind, WfDesc (desc k) := by
  intro k; cases k <;> decide

/-! ### the invariant

`Balanced h U` (`Sqfs.Proofs.ObjBal`): every live object has both hooks and a reference count equal to the number of
references that exist to it (`U x` held by the user + slots of live objects), nothing refers to a freed object, every live
buffer has exactly one owner, internal pointers point into the owner's buffers. -/

/-- the empty heap is balanced (`Balanced.empty`), and every constructor (`sqfs_*_create`, modelled by `construct`) keeps the heap
balanced with the caller holding one reference to the new object: the theorems below apply to every heap the
library builds from constructors, grabs, copies and drops -/
theorem constructed_balanced (k : Kind) (h : Heap) (U : Nat → Nat) (file cmp : Nat)
    (hb : Balanced h U) (hf : (h.objs file).isSome) (hc : (h.objs cmp).isSome) :
    Balanced (construct h k file cmp).1
      (fun y => if y = (construct h k file cmp).2 then U (construct h k file cmp).2 + 1 else U y) :=
  (construct_bal k hb hf hc).pendingToUser

/-- the user's file and compressor (objects 0 and 1), each held once -/
def envHeap : Heap := (newObj (newObj Heap.empty .file [] [] []).1 .gzip [] [] []).1

theorem envHeap_balanced : ∃ U, Balanced envHeap U ∧ U 0 = 1 ∧ U 1 = 1 := by
  have b1 := (Bal.newObj (P := []) (PB := []) .file [] [] [] (by simpa using Balanced.empty) (by simp)).pendingToUser
  have b2 := (Bal.newObj (P := []) (PB := []) .gzip [] [] [] (by simpa using b1) (by simp)).pendingToUser
  exact ⟨_, b2, by decide, by decide⟩

/-! #### the heaps of the instantiating examples

`exH`: the user's file (object 0) and compressor (1) and a directory reader over them (object 4, owning the meta readers 2
and 3).  `exHX`: in addition a data reader (object 6, owning the fragment table 5) and an xattr writer (object 7, the only
kind with internal pointers) over the same file and compressor.  Both are built by constructors over `envHeap`, hence
balanced (`constructed_balanced`), with the user holding one reference to each of the objects it created. -/

def exH : Heap := (construct envHeap .dirReader 0 1).1
def exHD : Heap := (construct exH .dataReader 0 1).1
def exHX : Heap := (construct exHD .xattrWriter 0 1).1

theorem exH_balanced : ∃ U, Balanced exH U ∧ U 0 = 1 ∧ U 1 = 1 ∧ U 4 = 1 ∧ (∀ x, x ≠ 0 → x ≠ 1 → x ≠ 4 → U x = 0) := by
  obtain ⟨U, hb, h0, h1⟩ := envHeap_balanced
  have e4 : (construct envHeap .dirReader 0 1).2 = 4 := by decide
  have hU4 : U 4 = 0 := (hb.dead 4 (Or.inl (by decide))).1
  have b3 := constructed_balanced .dirReader envHeap U 0 1 hb (by decide) (by decide)
  simp only [e4] at b3
  refine ⟨_, b3, by simp [h0], by simp [h1], by simp [hU4], ?_⟩
  intro x x0 x1 x4
  simp only [x4, if_false]
  by_cases hx : x < envHeap.nobj
  · have : envHeap.nobj = 2 := by decide
    omega
  · exact (hb.dead x (Or.inl (hb.none_of_ge (Nat.not_lt.mp hx)))).1

theorem exHX_balanced : ∃ U, Balanced exHX U ∧ U 0 = 1 ∧ U 1 = 1 ∧ U 4 = 1 ∧ U 6 = 1 ∧ U 7 = 1 := by
  obtain ⟨U, hb, h0, h1, h4, hz⟩ := exH_balanced
  have b4 := constructed_balanced .dataReader exH U 0 1 hb (by decide) (by decide)
  have b5 := constructed_balanced .xattrWriter exHD _ 0 1 b4 (by decide) (by decide)
  have e6 : (construct exH .dataReader 0 1).2 = 6 := by decide
  have e7 : (construct exHD .xattrWriter 0 1).2 = 7 := by decide
  have hU6 : U 6 = 0 := hz 6 (by decide) (by decide) (by decide)
  have hU7 : U 7 = 0 := hz 7 (by decide) (by decide) (by decide)
  simp only [e6, e7] at b5
  refine ⟨_, b5, ?_, ?_, ?_, ?_, ?_⟩ <;> simp [h0, h1, h4, hU6, hU7]

/-- what the example heap looks like: kinds, reference counts, reference slots -/
example : (exHX.objs 4).map (fun o => (o.rc, o.refs)) = some (1, [some 2, some 3]) ∧
    (exHX.objs 0).map (·.rc) = some 4 ∧ exHX.nobj = 8 ∧ exHX.budget = none := by decide

/-- `sqfs_grab` by the user keeps the heap balanced -/
theorem grab_balanced (h : Heap) (U : Nat → Nat) (x : Nat) (hb : Balanced h U) (hx : (h.objs x).isSome) :
    Balanced (grab h x) (fun y => if y = x then U x + 1 else U y) := by
  obtain ⟨ox, hox⟩ := Option.isSome_iff_exists.mp hx
  exact (hb.grabbed hox (by simp)).pendingToUser

example : ∃ U : Nat → Nat, Balanced (grab exH 4) (fun y => if y = 4 then U 4 + 1 else U y) := by
  obtain ⟨U, hb, _⟩ := exH_balanced
  exact ⟨U, grab_balanced exH U 4 hb (by decide)⟩

/-- `copy_wellformed`: a successful `sqfs_copy` through a hook that writes the header yields an object with
reference count 1 and both hooks set (so it can itself be dropped and copied), of the same kind. -/
theorem copy_wellformed (D : Kind → CopyDesc) (n : Nat) (h h' : Heap) (id c : Nat) (o : Obj)
    (ho : h.objs id = some o) (hd : o.destroy = true)
    (hw : (D o.kind).header ≠ .zeroed)
    (hc : sqfsCopy D n h id = (h', some c)) :
    ∃ co, h'.objs c = some co ∧ co.rc = 1 ∧ co.destroy = true ∧ co.copy = true ∧ co.kind = o.kind := by
  obtain ⟨o', hm, nb, nr, ho', hcp, hf⟩ := sqfsCopy_some D n h h' id c hc
  rw [ho] at ho'; cases ho'
  obtain ⟨co, hco, hrc, hk, _, _, hhooks⟩ := finishCopy_spec _ _ _ _ _ _ _ hf
  -- the header the hook writes: initialised, or the original's
  cases hh : (D o.kind).header with
  | init => rw [hh] at hhooks; exact ⟨co, hco, hrc, congrArg Prod.fst hhooks, congrArg Prod.snd hhooks, hk⟩
  | memcpy => rw [hh, hd, hcp] at hhooks; exact ⟨co, hco, hrc, congrArg Prod.fst hhooks, congrArg Prod.snd hhooks, hk⟩
  | zeroed => exact absurd hh hw

/-- instance: the directory reader of `exH`, copied with fuel 5 (the copy is object 7) -/
example : ∃ co, (sqfsCopy desc 5 exH 4).1.objs 7 = some co ∧ co.rc = 1 ∧ co.destroy = true ∧ co.copy = true ∧ co.kind = .dirReader :=
  copy_wellformed desc 5 exH _ 4 7 _ (Option.some_get (by decide)).symm (by decide) (by decide) (Prod.ext rfl (by decide))

/-- instantiation for every copyable kind `K` (the family DESIGN.md §4 calls `copy_wellformed_K`): whatever the history, a copy made by the
(repaired) hook of kind `k` has refcount 1, a destroy hook and a copy hook -/
theorem copy_wellformed_all (k : Kind) (n : Nat) (h h' : Heap) (id c : Nat) (o : Obj)
    (ho : h.objs id = some o) (hk : o.kind = k) (hd : o.destroy = true)
    (hc : sqfsCopy desc n h id = (h', some c)) :
    ∃ co, h'.objs c = some co ∧ co.rc = 1 ∧ co.destroy = true ∧ co.copy = true ∧ co.kind = k := by
  have hw : (desc o.kind).header ≠ .zeroed := (desc_wellformed o.kind).1
  obtain ⟨co, h1, h2, h3, h4, h5⟩ := copy_wellformed desc n h h' id c o ho hd hw hc
  exact ⟨co, h1, h2, h3, h4, hk ▸ h5⟩

example : ∃ co, (sqfsCopy desc 5 exH 4).1.objs 7 = some co ∧ co.rc = 1 ∧ co.destroy = true ∧ co.copy = true ∧ co.kind = .dirReader :=
  copy_wellformed_all .dirReader 5 exH _ 4 7 _ (Option.some_get (by decide)).symm (by decide) (by decide) (Prod.ext rfl (by decide))

/-- `copy_equiv_idTable`: a copied id table answers every later operation sequence as the original would
(the copy's capacity differs — `array_init_copy` allocates the used part only). -/
theorem copy_equiv_idTable (t : IdTable) (ops : List IdOp) : idRun (idCopy t) ops = idRun t ops :=
  idRun_data ops _ _ rfl

example := copy_equiv_idTable ⟨128, [5, 7]⟩ [.add 7, .add 9, .get 2, .get 9]

/-- `copy_equiv_fragTable` -/
theorem copy_equiv_fragTable (t : FragTable) (ops : List FragOp) : fragRun (fragCopy t) ops = fragRun t ops :=
  fragRun_data ops _ _ rfl

example := copy_equiv_fragTable ⟨128, [(96, 10), (106, 20)]⟩ [.append 1 2, .lookup 2, .set 0 5 6, .size, .lookup 0]

/-! ### safely destroyable, no leak: reference-count soundness -/

/-- `copy_balanced`: `sqfs_copy` of any live object of a balanced heap through the (repaired) hooks succeeds (no
allocation failure injected), yields a fresh object, and the heap is balanced again with the user holding exactly
one reference to the copy — for every kind, every object graph, every history that led to `h`. -/
theorem copy_balanced (h : Heap) (U : Nat → Nat) (o : Nat)
    (hb : Balanced h U) (hbud : h.budget = none) (hl : (h.objs o).isSome) :
    ∃ h' c, sqfsCopyTop desc h o = (h', some c) ∧ h.objs c = none ∧ U c = 0 ∧
      Balanced h' (fun y => if y = c then 1 else U y) := by
  rcases hr : sqfsCopyTop desc h o with ⟨h', r⟩
  obtain ⟨hsome, hres⟩ := sqfsCopy_bal desc desc_wellformed h.nobj h U [] [] o hb hl (hb.bound o hl) h' r hr
  obtain ⟨c, rfl⟩ := Option.isSome_iff_exists.mp (hsome hbud)
  obtain ⟨hb', hfresh, _⟩ := hres
  have hnone : h.objs c = none := hb.none_of_ge hfresh
  have hU : U c = 0 := (hb.dead c (Or.inl hnone)).1
  refine ⟨h', c, rfl, hnone, hU, ?_⟩
  have := hb'.pendingToUser
  rw [hU] at this
  exact this

example : ∃ (U : Nat → Nat) (h' : Heap) (c : Nat), sqfsCopyTop desc exHX 4 = (h', some c) ∧ Balanced h' (fun y => if y = c then 1 else U y) := by
  obtain ⟨U, hb, _⟩ := exHX_balanced
  obtain ⟨h', c, he, _, _, hb'⟩ := copy_balanced exHX U 4 hb rfl (by decide)
  exact ⟨U, h', c, he, hb'⟩

/-- `copy_fail_safe`: whichever allocation inside `sqfs_copy` fails (`k` allocations succeed, the next one does
not) — in the hook itself or in a nested `sqfs_copy` — a well-formed hook returns NULL or a good copy, never
crashes, and after a NULL the heap is balanced for exactly the references the user held before: every count is right again
and nothing is leaked (that the heap is then cell for cell the one before the call is `copy_fail_restores`). -/
theorem copy_fail_safe (h : Heap) (U : Nat → Nat) (o k : Nat) (hb : Balanced h U) (hl : (h.objs o).isSome) :
    (sqfsCopyTop desc { h with budget := some k } o).1.crash = none ∧
    match (sqfsCopyTop desc { h with budget := some k } o).2 with
    | none => Balanced (sqfsCopyTop desc { h with budget := some k } o).1 U
    | some c => Balanced (sqfsCopyTop desc { h with budget := some k } o).1 (fun y => if y = c then U c + 1 else U y) := by
  rcases hr : sqfsCopyTop desc { h with budget := some k } o with ⟨h', r⟩
  obtain ⟨_, hres⟩ := sqfsCopy_bal desc desc_wellformed h.nobj { h with budget := some k } U [] [] o
    (hb.setBudget _) hl (hb.bound o hl) h' r hr
  cases r with
  | none => exact ⟨hres.ok, hres⟩
  | some c => exact ⟨hres.1.ok, hres.1.pendingToUser⟩

/-- instance: the third allocation inside the copy of the directory reader fails: NULL, heap balanced as before -/
example : ∃ U : Nat → Nat, (sqfsCopyTop desc { exHX with budget := some 2 } 4).1.crash = none ∧
    Balanced (sqfsCopyTop desc { exHX with budget := some 2 } 4).1 U := by
  obtain ⟨U, hb, _⟩ := exHX_balanced
  have h := copy_fail_safe exHX U 4 2 hb (by decide)
  have hn : (sqfsCopyTop desc { exHX with budget := some 2 } 4).2 = none := by decide
  rw [hn] at h
  exact ⟨U, h.1, h.2⟩

/-- `release_safe`: the user releases references in **any order and interleaving** (`ds` lists the objects
dropped, each at most as often as it is held): `sqfs_drop` never calls a NULL hook, never touches or destroys a
freed object, never frees a buffer twice (the heap does not crash), and the heap stays balanced for what is
still held. With `copy_balanced` this covers original and copy in either order. -/
theorem release_safe (h : Heap) (U : Nat → Nat) (ds : List Nat)
    (hb : Balanced h U) (hc : ∀ x, ds.count x ≤ U x) :
    (ds.foldl sqfsDrop h).crash = none ∧ Balanced (ds.foldl sqfsDrop h) (fun x => U x - ds.count x) :=
  have := Bal.dropAllTop ds hb hc
  ⟨this.ok, this⟩

/-- instance: the user releases the directory reader, the file and the xattr writer of `exHX`, in that order -/
example : ∃ U : Nat → Nat, ([4, 0, 7].foldl sqfsDrop exHX).crash = none ∧
    Balanced ([4, 0, 7].foldl sqfsDrop exHX) (fun x => U x - [4, 0, 7].count x) := by
  obtain ⟨U, hb, h0, _, h4, _, h7⟩ := exHX_balanced
  refine ⟨U, release_safe exHX U [4, 0, 7] hb (count_le_of_nodup (by decide) ?_)⟩
  simp [h0, h4, h7]

/-- both release orders of original and copy, spelled out -/
theorem release_safe_either_order (h : Heap) (U : Nat → Nat) (o c : Nat)
    (hb : Balanced h U) (ho : 1 ≤ U o) (hc : 1 ≤ U c) (hne : o ≠ c) :
    (sqfsDrop (sqfsDrop h o) c).crash = none ∧ (sqfsDrop (sqfsDrop h c) o).crash = none ∧
    Balanced (sqfsDrop (sqfsDrop h o) c) (fun x => U x - [o, c].count x) ∧
    Balanced (sqfsDrop (sqfsDrop h c) o) (fun x => U x - [c, o].count x) := by
  have cnt : ∀ x, [o, c].count x ≤ U x := by
    refine count_le_of_nodup (by simp [hne]) ?_
    intro x hx
    rcases List.mem_cons.mp hx with rfl | hx
    · exact ho
    · rw [List.mem_singleton.mp hx]; exact hc
  have h1 := release_safe h U [o, c] hb cnt
  have h2 := release_safe h U [c, o] hb (fun x => (List.Perm.swap o c []).count_eq x ▸ cnt x)
  exact ⟨h1.1, h2.1, h1.2, h2.2⟩

example : (sqfsDrop (sqfsDrop exHX 4) 6).crash = none ∧ (sqfsDrop (sqfsDrop exHX 6) 4).crash = none := by
  obtain ⟨U, hb, _, _, h4, h6, _⟩ := exHX_balanced
  have h := release_safe_either_order exHX U 4 6 hb (by omega) (by omega) (by decide)
  exact ⟨h.1, h.2.1⟩

/-- `copy_then_release_restores`: copying an object and releasing the copy gives back **exactly** the heap there
was: every object with the reference count it had (in particular the shared file and compressor), every buffer
with its contents, nothing added — the copy holds nothing of the original's and leaks nothing of its own. -/
theorem copy_then_release_restores (h : Heap) (U : Nat → Nat) (o : Nat)
    (hb : Balanced h U) (hbud : h.budget = none) (hl : (h.objs o).isSome) :
    ∃ h' c, sqfsCopyTop desc h o = (h', some c) ∧ (sqfsDrop h' c).crash = none ∧
      (sqfsDrop h' c).objs = h.objs ∧ (sqfsDrop h' c).bufs = h.bufs := by
  rcases hr : sqfsCopyTop desc h o with ⟨h', r⟩
  obtain ⟨hsome, hres⟩ := sqfsCopy_bal desc desc_wellformed h.nobj h U [] [] o hb hl (hb.bound o hl) h' r hr
  obtain ⟨c, rfl⟩ := Option.isSome_iff_exists.mp (hsome hbud)
  obtain ⟨hb', _, hsl⟩ := hres
  -- the copy is handed back with its one reference pending
  have hrel : Balanced (sqfsDrop h' c) U := hb'.sqfsDrop
  obtain ⟨e1, e2⟩ := restore_of_frame hb hrel ((Frame.of_slotsOk hsl).trans (Frame.drop _ _ _))
  exact ⟨h', c, rfl, hrel.ok, e1, e2⟩

example : ∃ h' c, sqfsCopyTop desc exHX 4 = (h', some c) ∧ (sqfsDrop h' c).crash = none ∧
    (sqfsDrop h' c).objs = exHX.objs ∧ (sqfsDrop h' c).bufs = exHX.bufs := by
  obtain ⟨U, hb, _⟩ := exHX_balanced
  exact copy_then_release_restores exHX U 4 hb rfl (by decide)

/-- `no_leak`: once every reference the user held has been released, no object and no buffer is left -/
theorem no_leak (h : Heap) (U : Nat → Nat) (ds : List Nat)
    (hb : Balanced h U) (hc : ∀ x, ds.count x = U x) :
    (∀ x, (ds.foldl sqfsDrop h).objs x = none) ∧ (∀ b, (ds.foldl sqfsDrop h).bufs b = none) :=
  (release_safe h U ds hb (fun x => Nat.le_of_eq (hc x))).2.empty_of_no_refs (fun x => by simp [hc x])

/-- instance: in `exH` the user holds the file, the compressor and the directory reader; released (file first), nothing is left -/
example : (∀ x, ([0, 4, 1].foldl sqfsDrop exH).objs x = none) ∧ (∀ b, ([0, 4, 1].foldl sqfsDrop exH).bufs b = none) := by
  obtain ⟨U, hb, h0, h1, h4, hz⟩ := exH_balanced
  refine no_leak exH U [0, 4, 1] hb (count_eq_of_nodup (by decide) (by simp [h0, h1, h4]) (fun x hx => ?_))
  simp only [List.mem_cons, List.not_mem_nil, or_false, not_or] at hx
  exact hz x hx.1 hx.2.2 hx.2.1

/-- how the invariant reads (**definition-level**: this is the field `live` of the invariant `Balanced h U` projected out,
not a consequence of it): in a balanced heap an object's count is the number of references the user holds plus the number of
slots of live objects that point to it, and both hooks are set.  What is *proved* about counts is that every operation of the
library re-establishes the invariant (`copy_balanced`, `constructed_balanced`, `grab_balanced`, `release_safe`,
`ops_release_safe`) and `refcount_exact` below. -/
theorem refcount_invariant_reading (h : Heap) (U : Nat → Nat) (x : Nat) (ox : Obj) (hb : Balanced h U) (hx : h.objs x = some ox) :
    ox.rc = U x + refCount h [] x ∧ ox.destroy = true ∧ ox.copy = true := by
  obtain ⟨h1, h2, h3, _, _, _⟩ := hb.live x ox hx (by simp)
  exact ⟨by simpa using h3, h1, h2⟩

example : ∃ (U : Nat → Nat) (ox : Obj), exHX.objs 0 = some ox ∧ ox.rc = U 0 + refCount exHX [] 0 := by
  obtain ⟨U, hb, _⟩ := exHX_balanced
  exact ⟨U, _, (Option.some_get (by decide)).symm, (refcount_invariant_reading exHX U 0 _ hb (Option.some_get _).symm).1⟩

/-- an event of the user that only moves reference counts: `sqfs_grab` or `sqfs_drop` -/
def isRefEv : Ev → Bool
  | .op _ _ => false
  | _ => true

/-- `refcount_exact`: **the grabs a copy took are gone exactly when the copy is.**  Copy any live object of a balanced heap
and let the user then grab and release references in any order and interleaving — to the copy, the original, the shared file
and compressor, anything it holds (`es`, admissible: only objects held at that moment are touched).  If at the end the user
holds exactly the references it held before the copy (so every reference to the copy has been released), the heap is
**exactly** the heap there was before the copy: every object — in particular the shared file and compressor, which the copy and
the objects it owns had grabbed — is there with the reference count it had (`Obj.rc` is a field of the object), every buffer
with its contents, nothing is added, and nothing crashed on the way.  (`copy_then_release_restores` is the case `es = [drop c]`;
the statement needs no hypothesis on the kind or the shape of the object graph.) -/
theorem refcount_exact (h : Heap) (U : Nat → Nat) (o : Nat)
    (hb : Balanced h U) (hbud : h.budget = none) (hl : (h.objs o).isSome) :
    ∃ h' c, sqfsCopyTop desc h o = (h', some c) ∧ h.objs c = none ∧ U c = 0 ∧
      ∀ es : List Ev, (∀ e ∈ es, isRefEv e = true) → Admissible (fun y => if y = c then 1 else U y) es →
        userAfter (fun y => if y = c then 1 else U y) es = U →
        (runEvs h' es).crash = none ∧ (runEvs h' es).objs = h.objs ∧ (runEvs h' es).bufs = h.bufs := by
  obtain ⟨h', c, he, hnone, hU, hb'⟩ := copy_balanced h U o hb hbud hl
  refine ⟨h', c, he, hnone, hU, ?_⟩
  intro es hr ha hu
  have hb'' := runEvs_bal es hb' ha
  rw [hu] at hb''
  have f1 : Frame h h' := by
    have := Frame.sqfsCopy desc h.nobj h o
    have e : (sqfsCopy desc h.nobj h o).1 = h' := congrArg Prod.fst he
    rwa [e] at this
  have f2 : Frame h' (runEvs h' es) :=
    List.foldlRecOn (motive := Frame h') es Ev.apply (Frame.refl h') fun g hg e he => hg.trans <| by
      cases e with
      | op x w => exact absurd (hr _ he) Bool.false_ne_true
      | grab x => exact Frame.grab g x
      | drop x => exact Frame.drop g.nobj g x
  obtain ⟨e1, e2⟩ := restore_of_frame hb hb'' (f1.trans f2)
  exact ⟨hb''.ok, e1, e2⟩

/-- instance: the directory reader of `exHX` is copied (the copy is object 10; it and its two meta readers grab the file, whose
count goes from 4 to 6); the user grabs the file and the copy once more, then releases in a mixed order; at the end the heap is
the one before the copy, the file's count is 4 again -/
example : ∃ h', (sqfsCopyTop desc exHX 4) = (h', some 10) ∧ (h'.objs 0).map (·.rc) = some 6 ∧
    (runEvs h' [.grab 0, .grab 10, .drop 10, .drop 0, .drop 10]).objs = exHX.objs ∧
    (runEvs h' [.grab 0, .grab 10, .drop 10, .drop 0, .drop 10]).bufs = exHX.bufs ∧
    ((runEvs h' [.grab 0, .grab 10, .drop 10, .drop 0, .drop 10]).objs 0).map (·.rc) = some 4 := by
  obtain ⟨U, hb, h0, _, _, _, _⟩ := exHX_balanced
  obtain ⟨h', c, he, _, hUc, hall⟩ := refcount_exact exHX U 4 hb rfl (by decide)
  have hc : c = 10 := by
    have e1 : (sqfsCopyTop desc exHX 4).2 = some 10 := by decide
    rw [he] at e1; exact Option.some.inj e1
  subst hc
  have hr := hall [.grab 0, .grab 10, .drop 10, .drop 0, .drop 10] (by decide)
    (by simp [Admissible, Ev.user, Ev.target, h0])
    (by funext y
        simp only [userAfter, List.foldl_cons, List.foldl_nil, Ev.user]
        by_cases hy : y = 10
        · subst hy; simp [hUc]
        · by_cases hy0 : y = 0
          · subst hy0; simp
          · simp [hy, hy0])
  refine ⟨h', he, ?_, hr.2.1, hr.2.2, ?_⟩
  · have e2 : ((sqfsCopyTop desc exHX 4).1.objs 0).map (·.rc) = some 6 := by decide
    rw [he] at e2; exact e2
  · rw [hr.2.1]; decide

/-- `copy_equiv` (object level): right after `sqfs_copy` the copy observes through every buffer slot and every
internal pointer exactly what the original observes, and the original observes what it observed before. That every
operation of the kinds is a function of these observations (and of the immutable shared file / the stateless
compressor), so that equal observations give equal answers to every later operation sequence, is assumed here and
observed per run by the check (twins, state hashes); by `copy_independent` operations on one side never change the other
side's observations. -/
theorem copy_equiv (h : Heap) (U : Nat → Nat) (o : Nat) (ob : Obj)
    (hb : Balanced h U) (hbud : h.budget = none) (hox : h.objs o = some ob) (hsh : ShapeOk (desc ob.kind) ob) :
    ∃ h' c, sqfsCopyTop desc h o = (h', some c) ∧ view h' c = view h o ∧ view h' o = view h o := by
  obtain ⟨h', c, he, _, _, _⟩ := copy_balanced h U o hb hbud (by simp [hox])
  have hlt : o < h.nobj := hb.lt_nobj hox
  obtain ⟨v1, v2⟩ := sqfsCopy_view desc desc_wellformed h.nobj hb hox hlt hsh he
  exact ⟨h', c, he, v1, v2⟩

/-- instances in one balanced heap (`ShapeOk` and `Balanced` jointly): the xattr writer (object 7: two internal pointers into
its own buffers) and the directory reader (object 4) of `exHX` -/
example : (∃ h' c, sqfsCopyTop desc exHX 7 = (h', some c) ∧ view h' c = view exHX 7 ∧ view h' 7 = view exHX 7) ∧
    (∃ h' c, sqfsCopyTop desc exHX 4 = (h', some c) ∧ view h' c = view exHX 4 ∧ view h' 4 = view exHX 4) := by
  obtain ⟨U, hb, _⟩ := exHX_balanced
  constructor
  · exact copy_equiv exHX U 7 _ hb rfl (Option.some_get (by decide)).symm ⟨by decide, by decide, by decide⟩
  · exact copy_equiv exHX U 4 _ hb rfl (Option.some_get (by decide)).symm ⟨by decide, by decide, by decide⟩

/-- `copy_equiv_deep` — `copy_equiv` over the **reachable owned sub-object graph**: besides the copy's own slots, every object
the copy owns through a deep reference (`sqfs_copy` inside the hook: the two meta readers of a directory reader / xattr reader,
the fragment table of a data reader) is a **fresh** object (`y ≥ h.nobj`: it did not exist before the call, so it is neither the
original's sub-object nor anything else the user holds) that observes through every field, buffer and internal pointer exactly
what the original's sub-object `r` observes; and `r` observes what it observed.  No kind of the library owns objects that own
objects (meta readers and tables reference only the shared file / compressor, which are grabbed, not copied), so one level is the
whole owned graph; the shared file and compressor are the same objects on both sides (`copy_balanced`: grabbed). -/
theorem copy_equiv_deep (h : Heap) (U : Nat → Nat) (o : Nat) (ob : Obj)
    (hb : Balanced h U) (hbud : h.budget = none) (hox : h.objs o = some ob) (hsh : ShapeOk (desc ob.kind) ob)
    (hsub : ∀ r, some r ∈ ob.refs → ∃ or, h.objs r = some or ∧ ShapeOk (desc or.kind) or) :
    ∃ h' c oc, sqfsCopyTop desc h o = (h', some c) ∧ h'.objs c = some oc ∧ view h' c = view h o ∧ view h' o = view h o ∧
      ∀ (i r : Nat), ob.refs[i]? = some (some r) → (desc ob.kind).refs[i]? = some RefAct.deep →
        ∃ y, oc.refs[i]? = some (some y) ∧ h.nobj ≤ y ∧ view h' y = view h r ∧ view h' r = view h r := by
  obtain ⟨h', c, he, _, _, hb'⟩ := copy_balanced h U o hb hbud (by simp [hox])
  have hlt : o < h.nobj := hb.lt_nobj hox
  obtain ⟨v1, v2⟩ := sqfsCopy_view desc desc_wellformed h.nobj hb hox hlt hsh he
  obtain ⟨oc, hoc⟩ := hb'.user_live (x := c) (by simp)
  refine ⟨h', c, oc, he, hoc, v1, v2, ?_⟩
  intro i r hi ha
  obtain ⟨oc', y, h1, h2, h3, h4, h5⟩ := sqfsCopy_deep desc desc_wellformed h.nobj hb hox hlt hsub he i r hi ha
  rw [hoc] at h1
  cases h1
  exact ⟨y, h2, h3, h4, h5⟩

/-- instance: the directory reader (object 4) of `exHX`: both meta readers of the copy are fresh objects observing what the
original's meta readers observe; the data reader (object 6): its fragment table -/
example : (∃ h' c oc, sqfsCopyTop desc exHX 4 = (h', some c) ∧ h'.objs c = some oc ∧
      ∃ y0 y1, oc.refs = [some y0, some y1] ∧ exHX.nobj ≤ y0 ∧ exHX.nobj ≤ y1 ∧ view h' y0 = view exHX 2 ∧ view h' y1 = view exHX 3) := by
  obtain ⟨U, hb, _⟩ := exHX_balanced
  have ho : exHX.objs 4 = some ((exHX.objs 4).get (by decide)) := (Option.some_get _).symm
  obtain ⟨h', c, oc, he, hoc, _, _, hd⟩ := copy_equiv_deep exHX U 4 _ hb rfl ho (by refine ⟨by decide, by decide, by decide⟩) (by
    intro r hr
    have : r = 2 ∨ r = 3 := by
      have e : ((exHX.objs 4).get (by decide)).refs = [some 2, some 3] := by decide
      rw [e] at hr; simpa using hr
    rcases this with rfl | rfl
    · exact ⟨_, (Option.some_get (by decide)).symm, by decide, by decide, by decide⟩
    · exact ⟨_, (Option.some_get (by decide)).symm, by decide, by decide, by decide⟩)
  obtain ⟨y0, a1, a2, a3, _⟩ := hd 0 2 (by decide) (by decide)
  obtain ⟨y1, b1, b2, b3, _⟩ := hd 1 3 (by decide) (by decide)
  have hlen : oc.refs.length = 2 := by
    have e1 : ((sqfsCopyTop desc exHX 4).2.bind (sqfsCopyTop desc exHX 4).1.objs).map (·.refs.length) = some 2 := by decide
    rw [he] at e1
    simpa [hoc] using e1
  refine ⟨h', c, oc, he, hoc, y0, y1, ?_, a2, b2, a3, b3⟩
  match hr : oc.refs, hlen with
  | [p, q], _ =>
    rw [hr] at a1 b1
    simp at a1 b1
    rw [a1, b1]

/-- `copy_same_buffer_sizes`: for the kinds whose hooks duplicate every buffer at its allocated size — required
of kinds that, like the data reader, index their cached blocks up to `block_size` without recording the allocated
size — every buffer slot of the copy is allocated exactly as large as the original's: an index that is in bounds
for the original is in bounds for the copy (the `data_reader_copy` of `descCurrent` violates this:
`Sqfs.Witness.C19.dataReader_copy_overflows`). -/
theorem copy_same_buffer_sizes (h : Heap) (U : Nat → Nat) (o : Nat) (ob : Obj)
    (hb : Balanced h U) (hbud : h.budget = none) (hox : h.objs o = some ob)
    (hdup : ∀ a ∈ (desc ob.kind).bufs, a = .dup) (hlen : ob.bufs.length ≤ (desc ob.kind).bufs.length) :
    ∃ h' c oc, sqfsCopyTop desc h o = (h', some c) ∧ h'.objs c = some oc ∧
      oc.bufs.map (slotCap h') = ob.bufs.map (slotCap h) := by
  obtain ⟨h', c, he, _, _, _⟩ := copy_balanced h U o hb hbud (by simp [hox])
  obtain ⟨oc, h1, h2⟩ := sqfsCopy_caps desc desc_wellformed h.nobj hb hox (hb.lt_nobj hox) hdup hlen he
  exact ⟨h', c, oc, he, h1, h2⟩

/-- instance: the data reader (object 6) of the balanced heap `exHX`: `hdup`, `hlen` and `Balanced` jointly -/
example : ∃ h' c oc, sqfsCopyTop desc exHX 6 = (h', some c) ∧ h'.objs c = some oc ∧
    oc.bufs.map (slotCap h') = ((exHX.objs 6).get (by decide)).bufs.map (slotCap exHX) := by
  obtain ⟨U, hb, _⟩ := exHX_balanced
  exact copy_same_buffer_sizes exHX U 6 _ hb rfl (Option.some_get _).symm (by decide) (by decide)

/-- the data reader (and the dir reader, xattr reader, file) are such kinds in the repaired descriptions -/
example : ∀ k ∈ [Kind.dataReader, .dirReader, .xattrReader, .file], ∀ a ∈ (desc k).bufs, a = .dup := by decide

/-- `copy_independent`: in a balanced heap — in particular after `copy_balanced` — the owned buffers of two
different objects are disjoint, so any sequence of stores through the slots and internal pointers of one object
leaves what the other can observe of its buffers unchanged (and the heap balanced). -/
theorem copy_independent (h : Heap) (U : Nat → Nat) (x y : Nat) (ox oy : Obj) (ws : List (Nat × Nat))
    (hb : Balanced h U) (hx : h.objs x = some ox) (hy : h.objs y = some oy) (hne : x ≠ y) :
    view (writes h x ws) y = view h y ∧ Balanced (writes h x ws) U ∧ (writes h x ws).crash = none := by
  induction ws generalizing h with
  | nil => exact ⟨rfl, hb, hb.ok⟩
  | cons w t ih =>
    have ho := writeSlot_objs h x w.1 w.2
    obtain ⟨h1, h2, h3⟩ := ih (writeSlot h x w.1 w.2) (hb.writeSlot hx (by simp) w.1 w.2) (ho ▸ hx) (ho ▸ hy)
    exact ⟨h1.trans (view_of_keeps hb hy (applyOp_keeps hb hx hy hne (.store w.1 w.2))), h2, h3⟩

/-- instances: stores through the directory reader's slots do not change what the data reader observes; stores through the xattr
writer's slot 0 and internal pointer 2 do not change what the directory reader observes -/
example : view (writes exHX 4 [(0, 5), (0, 6)]) 6 = view exHX 6 ∧ view (writes exHX 7 [(0, 5), (2, 6)]) 4 = view exHX 4 := by
  obtain ⟨U, hb, _⟩ := exHX_balanced
  exact ⟨(copy_independent exHX U 4 6 _ _ [(0, 5), (0, 6)] hb (Option.some_get (by decide)).symm (Option.some_get (by decide)).symm (by decide)).1,
    (copy_independent exHX U 7 4 _ _ [(0, 5), (2, 6)] hb (Option.some_get (by decide)).symm (Option.some_get (by decide)).symm (by decide)).1⟩

/-- owned buffers of distinct live objects are disjoint -/
theorem copy_buffers_disjoint (h : Heap) (U : Nat → Nat) (x y b : Nat) (ox oy : Obj)
    (hb : Balanced h U) (hx : h.objs x = some ox) (hy : h.objs y = some oy) (hne : x ≠ y)
    (hbx : some b ∈ ox.bufs) : some b ∉ oy.bufs :=
  hb.bufs_disjoint hx hy (by simp) (by simp) hne hbx

/-- instance: buffer 2 belongs to the directory reader of `exH`, hence not to its first meta reader (object 2) -/
example : some 2 ∉ ((exH.objs 2).get (by decide)).bufs := by
  obtain ⟨U, hb, _⟩ := exH_balanced
  exact copy_buffers_disjoint exH U 4 2 2 _ _ hb (Option.some_get (by decide)).symm (Option.some_get _).symm (by decide) (by decide)

/-! non-vacuity -/
example : ∃ h h' c, sqfsCopy desc 3 h 0 = (h', some c) ∧ (h.objs 0).isSome :=
  ⟨(construct Heap.empty .idTable 0 0).1, _, _, rfl, rfl⟩
/-- the hypotheses of `copy_balanced` / `release_safe` / `copy_independent` are satisfiable: a directory reader over
the user's file and compressor (the reader is object 4 and owns the meta readers 2 and 3) -/
example : ∃ h U, Balanced h U ∧ h.budget = none ∧ (h.objs 4).map (·.refs) = some [some 2, some 3] ∧ U 4 = 1 ∧ U 0 = 1 := by
  obtain ⟨U, hb, h0, _, h4, _⟩ := exH_balanced
  exact ⟨exH, U, hb, rfl, by decide, h4, h0⟩

/-- the only kind with internal pointers, the xattr writer, is built in the shape its description expects -/
example : ∀ ob, (construct Heap.empty .xattrWriter 0 0).1.objs 0 = some ob → ShapeOk (desc ob.kind) ob := by
  intro ob hob
  have : ob = ⟨.xattrWriter, 1, true, true, [none, none, some 0, none, some 1], [none, none, some 1], []⟩ := by
    have e : (construct Heap.empty .xattrWriter 0 0).1.objs 0 = some ⟨.xattrWriter, 1, true, true, [none, none, some 0, none, some 1], [none, none, some 1], []⟩ := by decide
    rw [e] at hob; exact (Option.some.inj hob).symm
  subst this
  refine ⟨by decide, by decide, ?_⟩
  decide

/-- … and copying that reader, then releasing original and copy in either order, is covered -/
example : ∃ h' c, sqfsCopyTop desc (construct envHeap .dirReader 0 1).1 4 = (h', some c) ∧ c = 7 := by
  exact ⟨_, _, rfl, by decide⟩

example : idRun (idCopy ⟨128, [5, 7]⟩) [.add 7, .add 9, .get 2] = [(0, 1), (0, 2), (0, 9)] := by decide

/-! ### exact restoration after a failed copy; histories mixing operations, grabs and releases -/

/-- `copy_fail_restores`: when `sqfs_copy` returns NULL — whichever allocation failed, in the hook or in a nested
`sqfs_copy` — the heap is **exactly** the heap there was before the call: every object with its reference count and its
slots (the original, everything it references, the shared file and compressor), every buffer with its contents; nothing
of the half-built copy is left. -/
theorem copy_fail_restores (h : Heap) (U : Nat → Nat) (o k : Nat) (hb : Balanced h U) (hl : (h.objs o).isSome)
    (hn : (sqfsCopyTop desc { h with budget := some k } o).2 = none) :
    (sqfsCopyTop desc { h with budget := some k } o).1.crash = none ∧
    (sqfsCopyTop desc { h with budget := some k } o).1.objs = h.objs ∧
    (sqfsCopyTop desc { h with budget := some k } o).1.bufs = h.bufs := by
  obtain ⟨hc, hm⟩ := copy_fail_safe h U o k hb hl
  rw [hn] at hm
  have hf : Frame h (sqfsCopyTop desc { h with budget := some k } o).1 :=
    (Frame.sqfsCopy desc h.nobj { h with budget := some k } o).ofBudget
  obtain ⟨e1, e2⟩ := restore_of_frame hb hm hf
  exact ⟨hc, e1, e2⟩

example : (sqfsCopyTop desc { exH with budget := some 2 } 4).1.objs = exH.objs ∧
    (sqfsCopyTop desc { exH with budget := some 2 } 4).1.bufs = exH.bufs := by
  obtain ⟨U, hb, _⟩ := exH_balanced
  exact (copy_fail_restores exH U 4 2 hb (by decide) (by decide)).2

/-- `ops_release_safe`: **any history that mixes operations, grabs and releases** — operations that store through own
pointers, replace own buffers by fresh ones (realloc, cache replacement, first fill) or give them back, on any objects
the user holds at that moment (original and copy among them), interleaved in any order with `sqfs_grab` and `sqfs_drop`
— never calls a NULL hook, never touches freed memory, never frees twice, and leaves the heap balanced for exactly the
references the user still holds. -/
theorem ops_release_safe (h : Heap) (U : Nat → Nat) (es : List Ev) (hb : Balanced h U) (ha : Admissible U es) :
    (runEvs h es).crash = none ∧ Balanced (runEvs h es) (userAfter U es) :=
  have := runEvs_bal es hb ha
  ⟨this.ok, this⟩

/-- instance: the reader's cache buffer is filled, replaced and given back, the reader grabbed and released twice (the second
release destroys it and its two meta readers) -/
def exEvs : List Ev :=
  [.op 4 (.realloc 0 ⟨8, 8, 1⟩), .grab 4, .op 4 (.realloc 0 ⟨16, 9, 2⟩), .drop 4, .op 4 (.store 0 5), .op 4 (.release 0), .drop 4]
example : (runEvs exH exEvs).crash = none := by
  obtain ⟨U, hb, _, _, h4, _⟩ := exH_balanced
  exact (ops_release_safe exH U exEvs hb (by simp [exEvs, Admissible, Ev.user, Ev.target, h4])).1

/-- `copy_independent_mixed`: whatever the user does with *other* objects — operations that store, reallocate or free
their buffers, grabs, releases down to their destruction — an object `y` it keeps holding is still there with the same
slots and observes through every slot and internal pointer exactly what it observed before.  With `copy_balanced` (x =
the copy, y = the original, or the other way round) this is "operations on one never affect the other", including the
other's release. -/
theorem copy_independent_mixed (h : Heap) (U : Nat → Nat) (es : List Ev) (y : Nat) (oy : Obj)
    (hb : Balanced h U) (ha : Admissible U es) (hne : ∀ e ∈ es, e.target ≠ y) (hu : 1 ≤ U y) (hy : h.objs y = some oy) :
    view (runEvs h es) y = view h y ∧
    ∃ oy', (runEvs h es).objs y = some oy' ∧ oy'.bufs = oy.bufs ∧ oy'.views = oy.views ∧ oy'.refs = oy.refs := by
  obtain ⟨hk, _⟩ := runEvs_keeps es hb ha hne hu hy
  exact ⟨view_of_keeps hb hy hk, hk.slots⟩

/-- `copy_independent_interleaved` — **arbitrary interleavings of operations, grabs and releases on both objects** (neither side
passive), stepwise: in any admissible history, at every position, an event that is not aimed at `y` — while the user holds `y` —
leaves `y` with the slots it has *at that moment* and observing what it observes *at that moment*, whatever was done to `y` itself
before and whatever is done to it afterwards.  So what `y` observes changes only at `y`'s own events.  (`copy_independent_projection`
below is the end-to-end form.) -/
theorem copy_independent_interleaved (h : Heap) (U : Nat → Nat) (pre post : List Ev) (e : Ev) (y : Nat)
    (hb : Balanced h U) (ha : Admissible U (pre ++ e :: post)) (hne : e.target ≠ y) (hu : 1 ≤ userAfter U pre y) :
    view (runEvs h (pre ++ [e])) y = view (runEvs h pre) y ∧
    ∃ oy oy', (runEvs h pre).objs y = some oy ∧ (runEvs h (pre ++ [e])).objs y = some oy' ∧
      oy'.bufs = oy.bufs ∧ oy'.views = oy.views ∧ oy'.refs = oy.refs := by
  obtain ⟨hpre, hrest⟩ := Admissible.split pre ha
  have hbp := runEvs_bal pre hb hpre
  obtain ⟨oy, hoy⟩ := hbp.user_live hu
  have hk := Ev.apply_keeps hbp e hrest.1 hoy hne hu
  have hrun : runEvs h (pre ++ [e]) = e.apply (runEvs h pre) := by simp [runEvs, List.foldl_append]
  rw [hrun]
  obtain ⟨oy', h1, hslots⟩ := hk.slots
  exact ⟨view_of_keeps hbp hoy hk, oy, oy', hoy, h1, hslots⟩

/-- instance: in `exEvs` the file (object 0) is grabbed in the middle of the reader's history; the reader's next reallocation leaves
what the file observes at that moment unchanged, and the file's own later release is part of the same history -/
example : view (runEvs exH ([.op 4 (.realloc 0 ⟨8, 8, 1⟩), .grab 0] ++ [.op 4 (.realloc 0 ⟨16, 9, 2⟩)])) 0 =
    view (runEvs exH [.op 4 (.realloc 0 ⟨8, 8, 1⟩), .grab 0]) 0 := by
  obtain ⟨U, hb, h0, _, h4, _⟩ := exH_balanced
  exact (copy_independent_interleaved exH U [.op 4 (.realloc 0 ⟨8, 8, 1⟩), .grab 0] [.drop 0, .drop 4] (.op 4 (.realloc 0 ⟨16, 9, 2⟩)) 0 hb
    (by simp [Admissible, Ev.user, Ev.target, h4, h0]) (by decide) (by simp [userAfter, Ev.user, h0])).1

/-- `copy_independent_projection` — **"operations on one never affect the other", for every interleaving, end to end**: in any
admissible history of operations (stores through own pointers, reallocations and releases of own buffers), grabs and releases on any
objects — original and copy among them, in any order, both being operated on — an object `y` that the user holds throughout observes
at the end **exactly what it observes after its own events alone**: the events aimed at other objects (including their destruction)
can be deleted from the history without changing anything `y` can see.  With `copy_balanced` (`y` = the copy, the rest of the history
on the original, or the other way round) this is the independence clause of the property at full strength.
Proof (`Sqfs.Proofs.C19Proj`): the two runs take buffer ids from different counters, so `y`'s part of the two heaps agrees up to a
renaming of buffer ids (`Iso`); `writeSlot` / `reallocSlot` / `releaseSlot` on `y`, `sqfs_grab` and non-final `sqfs_drop` commute with
such renamings, foreign events preserve `y`'s part (`Ev.apply_keeps`), renamed objects observe the same (`view_iso`).
`Holds y U es`: the user holds a reference to `y` before and after every event (otherwise a foreign release could decide whether
`y`'s own last release destroys it). -/
theorem copy_independent_projection (h : Heap) (U : Nat → Nat) (es : List Ev) (y : Nat)
    (hb : Balanced h U) (ha : Admissible U es) (hh : Holds y U es) :
    view (runEvs h es) y = view (runEvs h (es.filter (fun e => e.target = y))) y := by
  obtain ⟨oy, hoy⟩ := hb.user_live hh.head
  obtain ⟨hi, hbf⟩ := runEvs_iso y es hb hb rfl (Iso.refl hoy) ha hh
  exact (view_iso hbf hi).symm

/-- instance: on `exH` the reader (object 4) and the file (object 0) are both operated on, grabbed and released in turn; what the
reader observes at the end is what it observes after its own four events; and the two runs really differ (the full run has allocated
and written more) -/
example : view (runEvs exH [.op 4 (.realloc 0 ⟨8, 8, 1⟩), .grab 0, .op 0 (.store 0 7), .op 4 (.realloc 0 ⟨16, 9, 2⟩), .drop 0, .grab 4, .op 4 (.store 0 5)]) 4 =
    view (runEvs exH [.op 4 (.realloc 0 ⟨8, 8, 1⟩), .op 4 (.realloc 0 ⟨16, 9, 2⟩), .grab 4, .op 4 (.store 0 5)]) 4 := by
  obtain ⟨U, hb, h0, _, h4, _⟩ := exH_balanced
  exact copy_independent_projection exH U [.op 4 (.realloc 0 ⟨8, 8, 1⟩), .grab 0, .op 0 (.store 0 7), .op 4 (.realloc 0 ⟨16, 9, 2⟩), .drop 0, .grab 4, .op 4 (.store 0 5)] 4 hb
    (by simp [Admissible, Ev.user, Ev.target, h4, h0]) (by simp [Holds, Ev.user, h4])

/-- instance: through all of `exEvs` (which ends with the destruction of the reader) the user's file keeps its slots and is
observed as before -/
example : view (runEvs exH exEvs) 0 = view exH 0 := by
  obtain ⟨U, hb, h0, _, h4, _⟩ := exH_balanced
  exact (copy_independent_mixed exH U exEvs 0 _ hb (by simp [exEvs, Admissible, Ev.user, Ev.target, h4]) (by decide) (by omega)
    (Option.some_get (by decide)).symm).1

open Sqfs.C19R in
/-- `copy_equiv_dataReader`: a data reader in any state the library can reach (created over any image `f` with any
bounded decompressor, fragment table `tbl`, any history of reads, failed ones included), copied by `data_reader_copy`
(`drCopy`: the tags and sizes, the fragment table, and of each cached block only the first `*_blk_size` bytes, into a
zero-filled `block_size` buffer), answers **every** later sequence of reads exactly as the original: same status, same
bytes.  The proof is `drCopy d = d`, which holds because every reachable state keeps `get_block`'s padding invariant. -/
theorem copy_equiv_dataReader (kw : Bool) (f : MetaReader.File) (unc : MetaReader.Codec) (hc : CodecBounded unc)
    (bs : Nat) (tbl : List (Nat × Nat)) (hist ops : List DataReader.Op) :
    drAnswers kw f unc (drCopy (DataReader.run kw f unc (DataReader.fresh bs tbl) hist)) ops =
      drAnswers kw f unc (DataReader.run kw f unc (DataReader.fresh bs tbl) hist) ops := by
  rw [drCopy_eq (cacheInv_run hc hist _ (cacheInv_fresh bs tbl))]

open Sqfs.C19R in
/-- instance: a reader whose history cached a 6-byte block in a buffer of 8; two later reads -/
example := copy_equiv_dataReader true ⟨10, fun i => UInt8.ofNat (i + 1), fun _ => false⟩ Sqfs.MetaReader.toyUnc toyUnc_bounded 8 []
  [.read ⟨6, 2, 0, 0, [16777222]⟩ 0 6] [.read ⟨6, 2, 0, 0, [16777222]⟩ 2 3, .read ⟨6, 2, 0, 0, [16777222]⟩ 0 6]

open Sqfs.C19R in
/-- `copy_equiv_dataReaderX`: the same for histories and later calls over **every entry point of `data_reader.c` that touches the
caches** (C10's `OpX`): `sqfs_data_reader_read`, `sqfs_data_reader_get_fragment`, `get_buffered_data` / `advance_buffer` of
streams created over the reader, and `sqfs_data_reader_load_fragment_table` (which drops the cached fragment block) — the copy
hands back to every later call of any of them exactly what the original would: status, bytes, stream contents. -/
theorem copy_equiv_dataReaderX (kw sfix : Bool) (f : MetaReader.File) (unc : MetaReader.Codec) (hc : CodecBounded unc)
    (bs : Nat) (tbl : List (Nat × Nat)) (hist ops : List DataReader.OpX) :
    drAnswersX kw sfix f unc (drCopy (DataReader.runX kw sfix f unc (DataReader.fresh bs tbl) hist)) ops =
      drAnswersX kw sfix f unc (DataReader.runX kw sfix f unc (DataReader.fresh bs tbl) hist) ops := by
  rw [drCopy_eq (cacheInv_runX hc hist _ (cacheInv_fresh bs tbl))]

open Sqfs.C19R in
/-- instance: a history with a read, a fragment access and a reload of the fragment table; then a fragment access and a read -/
example := copy_equiv_dataReaderX true true ⟨10, fun i => UInt8.ofNat (i + 1), fun _ => false⟩ Sqfs.MetaReader.toyUnc toyUnc_bounded 8 [(0, 16777220)]
  [.read ⟨6, 2, 0, 0, [16777222]⟩ 0 6, .frag ⟨3, 0, 0, 0, []⟩, .reload (.ok [(0, 16777220)])] [.frag ⟨3, 0, 0, 1, []⟩, .read ⟨6, 2, 0, 0, [16777222]⟩ 2 3]

open Sqfs.C19R in
/-- `copy_equiv_metaReader` — **definition-level** (`rfl`): the model `mrCopy` of `meta_reader_copy` copies every field (cursor,
cache tag, the whole inline block), i.e. it is the identity on the model's state, so "the copy answers every later sequence of
seeks, reads and position queries as the original" holds by construction and proves nothing about the C hook.  The content is
in the tie: `mrCopy` applied to the real original's dumped state is compared with the real copy's dumped state on every run.
Kept as the named place of the clause; not to be counted as a proof of equivalence. -/
theorem copy_equiv_metaReader (fix : Bool) (f : MetaReader.File) (unc : MetaReader.Codec) (m : MetaReader.MR)
    (ops : List MetaReader.Op) : mrAnswers fix f unc (mrCopy m) ops = mrAnswers fix f unc m ops := rfl

/-- `table_fill_is_adds`: the one-step set-up `fill n` of the table scenarios leaves the table that `n` calls of
`sqfs_id_table_id_to_index` leave (so the boundary `used >= 0xFFFF` is reached by a real history) -/
theorem table_fill_is_adds (n : Nat) (hn : n ≤ idLimit) : idAdds Arr.empty (List.range n) = idFill n := idFill_eq_adds n hn

example := table_fill_is_adds 300 (by decide)

/-! ### the generic containers under the hooks: `rbtree_copy`, `array_init_copy`, `str_table_copy` -/

open Sqfs.Rb in
/-- `rbtree_copy_equiv`: `rbtree_copy` (`copy_node`: fresh `calloc`ed node, `memcpy` of `sizeof(*n) + key_size_padded +
value_size` bytes, children copied recursively) of any tree whose nodes have the layout `mknode` gives them
(`value_offset = key_size_padded`, `key_size_padded + value_size` bytes of `data[]`), for every key and value size, every
tree shape and colouring, wherever the nodes live:
* succeeds and builds, in **fresh** node memory only (`[st.next, st'.next)`), a tree that is node for node, colour for
  colour, byte for byte the original (`Shape … root' t` — the same tree value `t`: key bytes, padding, every value byte);
* leaves every node of the original as it was;
* so `rbtree_lookup` of **every** key under every comparison function finds in the copy a node with the same
  `value_offset` and the same `data[]` as in the original — in particular the same `value_size` value bytes;
* afterwards the two are independent: whatever is later written to any node that existed before the copy (inserts into the
  original, rotations, recolouring, its destruction) and whatever is allocated later, the copy still represents `t` and
  answers every lookup as before; and whatever is written to the copy's nodes, the original still represents `t`. -/
theorem rbtree_copy_equiv (c : Cfg) (st : Store) (root : Option Nat) (t : Tree) (fuel : Nat)
    (hwf : WfTree c t) (hs : Shape st.cells 0 st.next root t) (hf : t.depth ≤ fuel) :
    ∃ st' root', rbCopy c fuel st root = some (st', root') ∧ st.next ≤ st'.next ∧
      Shape st'.cells st.next st'.next root' t ∧
      (∀ i, i < st.next → st'.cells i = st.cells i) ∧
      (∀ cmp key, lookupSt cmp st'.cells fuel root' key = lookupSt cmp st.cells fuel root key ∧
        (lookupSt cmp st'.cells fuel root' key).map (valueOf c) = (lookupSt cmp st.cells fuel root key).map (valueOf c)) ∧
      (∀ cells'' : Nat → Option Cell, (∀ i, st.next ≤ i → i < st'.next → cells'' i = st'.cells i) →
        Shape cells'' st.next st'.next root' t ∧ ∀ cmp key, lookupSt cmp cells'' fuel root' key = t.lookup cmp key) ∧
      (∀ cells'' : Nat → Option Cell, (∀ i, i < st.next → cells'' i = st.cells i) →
        Shape cells'' 0 st.next root t ∧ ∀ cmp key, lookupSt cmp cells'' fuel root key = t.lookup cmp key) := by
  have hmap := mapData_wf c t hwf
  obtain ⟨st', root', he, hext, hsh⟩ := rbCopy_spec c t fuel st root hs hf
  rw [hmap] at hsh
  refine ⟨st', root', he, hext.le, hsh, hext.old, ?_, ?_, ?_⟩
  · intro cmp key
    have h1 := lookupSt_shape cmp key fuel hsh hf
    have h2 := lookupSt_shape cmp key fuel hs hf
    exact ⟨by rw [h1, h2], by rw [h1, h2]⟩
  · intro cells'' hag
    have hsh' := hsh.congr hag
    exact ⟨hsh', fun cmp key => lookupSt_shape cmp key fuel hsh' hf⟩
  · intro cells'' hag
    have hs' := hs.congr (fun i _ hi => hag i hi)
    exact ⟨hs', fun cmp key => lookupSt_shape cmp key fuel hs' hf⟩

open Sqfs.Rb in
/-- `rbtree_built_wellformed`: the hypothesis of `rbtree_copy_equiv` holds of every tree the library can build — any
sequence of `rbtree_insert`s into a tree made by `rbtree_init` (any key size, value size, comparison function), and such a
tree has a representation in node memory (so the theorem is about all of them) -/
theorem rbtree_built_wellformed (ks vs : Nat) (c : Cfg) (_hc : init ks vs = some c) (lt : List UInt8 → List UInt8 → Bool)
    (kvs : List (List UInt8 × List UInt8)) (st : Store) :
    WfTree c (build c lt kvs) ∧ c.keySize ≤ c.keyPad ∧ c.keyPad % ptrSize = 0 ∧
    Shape (writeTree st (build c lt kvs)).1.cells 0 (writeTree st (build c lt kvs)).1.next (writeTree st (build c lt kvs)).2 (build c lt kvs) := by
  obtain ⟨h1, _, h3⟩ := init_some ks vs c _hc
  refine ⟨build_wf c lt kvs, by rw [h1, h3]; exact padOf_ge ks, by rw [h3]; exact padOf_aligned ks, ?_⟩
  exact ((writeTree_spec (build c lt kvs) st).2).mono (Nat.zero_le _) (Nat.le_refl _)

open Sqfs.Rb in
/-- instance: the directory cache layout with three cached inodes; the built tree is well-formed and laid out in node memory,
and both copy theorems apply to it with their hypotheses discharged by `rbtree_built_wellformed` -/
example : ∃ st' root', rbCopy ⟨4, 8, 8⟩ 5 (writeTree Store.empty (build ⟨4, 8, 8⟩ (fun a b => dcCmp a b == .lt)
      [(leBytes 4 5, leBytes 8 0x571f80d44), (leBytes 4 7, leBytes 8 0x123456789abc), (leBytes 4 2, leBytes 8 0x60)])).1
      (writeTree Store.empty (build ⟨4, 8, 8⟩ (fun a b => dcCmp a b == .lt)
      [(leBytes 4 5, leBytes 8 0x571f80d44), (leBytes 4 7, leBytes 8 0x123456789abc), (leBytes 4 2, leBytes 8 0x60)])).2 = some (st', root') := by
  obtain ⟨hwf, _, _, hs⟩ := rbtree_built_wellformed 4 8 ⟨4, 8, 8⟩ (by decide) (fun a b => dcCmp a b == .lt)
    [(leBytes 4 5, leBytes 8 0x571f80d44), (leBytes 4 7, leBytes 8 0x123456789abc), (leBytes 4 2, leBytes 8 0x60)] Store.empty
  obtain ⟨st', root', he, _⟩ := rbtree_copy_equiv ⟨4, 8, 8⟩ _ _ _ 5 hwf hs (by decide)
  exact ⟨st', root', he⟩

open Sqfs.Rb in
/-- `copy_equiv_dirCache`: the directory reader's inode-number → reference cache (`rbtree_init(4, 8, dcache_key_compare)`)
copied by `dir_reader_copy` → `rbtree_copy`: `sqfs_dir_reader_resolve_inum` answers for **every** inode number on the copy
what it answers on the original — the full 64 bit reference or `SQFS_ERROR_NO_ENTRY` — whatever directory inodes the
history loaded before the copy. -/
theorem copy_equiv_dirCache (c : Cfg) (hc : init 4 8 = some c) (st : Store) (root : Option Nat) (t : Tree) (fuel : Nat)
    (hwf : WfTree c t) (hs : Shape st.cells 0 st.next root t) (hf : t.depth ≤ fuel) :
    ∃ st' root', rbCopy c fuel st root = some (st', root') ∧
      ∀ inum, dcResolve c st'.cells fuel root' inum = dcResolve c st.cells fuel root inum := by
  have _ := hc
  obtain ⟨st', root', he, _, _, _, hl, _, _⟩ := rbtree_copy_equiv c st root t fuel hwf hs hf
  exact ⟨st', root', he, fun inum => by unfold dcResolve; rw [(hl dcCmp (leBytes 4 inum)).1]⟩

open Sqfs.Rb in
example : ∃ st' root', rbCopy ⟨4, 8, 8⟩ 5 (writeTree Store.empty (build ⟨4, 8, 8⟩ (fun a b => dcCmp a b == .lt)
      [(leBytes 4 5, leBytes 8 0x571f80d44), (leBytes 4 7, leBytes 8 0x123456789abc)])).1
      (writeTree Store.empty (build ⟨4, 8, 8⟩ (fun a b => dcCmp a b == .lt)
      [(leBytes 4 5, leBytes 8 0x571f80d44), (leBytes 4 7, leBytes 8 0x123456789abc)])).2 = some (st', root') ∧
    ∀ inum, dcResolve ⟨4, 8, 8⟩ st'.cells 5 root' inum = dcResolve ⟨4, 8, 8⟩ (writeTree Store.empty (build ⟨4, 8, 8⟩ (fun a b => dcCmp a b == .lt)
      [(leBytes 4 5, leBytes 8 0x571f80d44), (leBytes 4 7, leBytes 8 0x123456789abc)])).1.cells 5
      (writeTree Store.empty (build ⟨4, 8, 8⟩ (fun a b => dcCmp a b == .lt)
      [(leBytes 4 5, leBytes 8 0x571f80d44), (leBytes 4 7, leBytes 8 0x123456789abc)])).2 inum := by
  obtain ⟨hwf, _, _, hs⟩ := rbtree_built_wellformed 4 8 ⟨4, 8, 8⟩ (by decide) (fun a b => dcCmp a b == .lt)
    [(leBytes 4 5, leBytes 8 0x571f80d44), (leBytes 4 7, leBytes 8 0x123456789abc)] Store.empty
  exact copy_equiv_dirCache ⟨4, 8, 8⟩ (by decide) _ _ _ 5 hwf hs (by decide)

open Sqfs.Rb in
/-- `rbtree_pool_copy_independent` — **/repo's default configuration** (`NO_CUSTOM_ALLOC` not defined: nodes come from a pool
allocator, one `mem_pool_t` per tree, `rbtree_cleanup` = `mem_pool_destroy` = `munmap` of the pool's blocks; model
`Sqfs.Model.C19Pool`).  For every tree with `mknode`'s layout, wherever its nodes live and whatever pools exist:
`rbtree_copy` creates a **fresh pool** (`pool' = nextPool`, different from every existing one), on node memory does exactly
what it does in the `calloc` configuration (so everything `rbtree_copy_equiv` says holds: the copy is byte for byte the same
tree value in fresh nodes), **every node of the copy is owned by the copy's pool**, no existing node changes owner or content;
hence
* releasing **any other tree** — the original among them — (`rbtree_cleanup` of a pool `p ≠ pool'`) leaves the copy fully
  usable: it still represents `t` and answers every lookup under every comparison function as `t` does;
* releasing the copy leaves the original usable in the same sense, unmaps every node of the copy and removes exactly the
  copy's pool from the set of live pools (nothing of the copy leaks).
The seeded change "allocate the copy's nodes from the original's pool" (`rbtree.c:128 nt->pool → t->pool`) falsifies the
ownership conjunct; it is what makes the first bullet true. -/
theorem rbtree_pool_copy_independent (c : Cfg) (ps : PStore) (root : Option Nat) (t : Tree) (fuel : Nat)
    (hwf : WfTree c t) (hs : Shape ps.st.cells 0 ps.st.next root t) (hf : t.depth ≤ fuel)
    (hpools : ∀ i, i < ps.st.next → ps.owner i < ps.nextPool) (hlive : ∀ p ∈ ps.live, p < ps.nextPool) :
    ∃ ps' root' pool', rbCopyP c fuel ps root = some (ps', root', pool') ∧ pool' = ps.nextPool ∧
      ps'.live = pool' :: ps.live ∧
      rbCopy c fuel ps.st root = some (ps'.st, root') ∧
      Shape ps'.st.cells ps.st.next ps'.st.next root' t ∧
      (∀ i, ps.st.next ≤ i → i < ps'.st.next → ps'.owner i = pool') ∧
      (∀ i, i < ps.st.next → ps'.owner i = ps.owner i ∧ ps'.st.cells i = ps.st.cells i) ∧
      (∀ p, p ≠ pool' → Shape (rbCleanupP ps' p).st.cells ps.st.next ps'.st.next root' t ∧
        ∀ cmp key, lookupSt cmp (rbCleanupP ps' p).st.cells fuel root' key = t.lookup cmp key) ∧
      (Shape (rbCleanupP ps' pool').st.cells 0 ps.st.next root t ∧
        (∀ cmp key, lookupSt cmp (rbCleanupP ps' pool').st.cells fuel root key = t.lookup cmp key) ∧
        (rbCleanupP ps' pool').live = ps.live ∧
        ∀ i, ps.st.next ≤ i → i < ps'.st.next → (rbCleanupP ps' pool').st.cells i = none) := by
  obtain ⟨st', root', he, _, hsh, hfr, _, hcopy, horig⟩ := rbtree_copy_equiv c ps.st root t fuel hwf hs hf
  obtain ⟨ps', heP, rfl, ow⟩ := rbCopyP_of_rbCopy he
  refine ⟨ps', root', ps.nextPool, heP, rfl, ow.lv, he, hsh, ow.new, fun i hi => ⟨ow.old i hi, hfr i hi⟩, ?_, ?_⟩
  · intro p hp
    have hag : ∀ i, ps.st.next ≤ i → i < ps'.st.next → (rbCleanupP ps' p).st.cells i = ps'.st.cells i := by
      intro i h1 h2
      rw [rbCleanupP, destroyPool_cells, if_neg (by rw [ow.new i h1 h2]; exact fun h => hp h.symm)]
    exact hcopy _ hag
  · have hag : ∀ i, i < ps.st.next → (rbCleanupP ps' ps.nextPool).st.cells i = ps.st.cells i := by
      intro i hi
      rw [rbCleanupP, destroyPool_cells, if_neg (by rw [ow.old i hi]; exact Nat.ne_of_lt (hpools i hi)), hfr i hi]
    obtain ⟨a, b⟩ := horig _ hag
    refine ⟨a, b, ?_, ?_⟩
    · show (ps'.live.filter (· ≠ ps.nextPool)) = ps.live
      rw [show ps'.live = ps.nextPool :: ps.live from ow.lv]
      have h1 : (ps.nextPool :: ps.live).filter (· ≠ ps.nextPool) = ps.live.filter (· ≠ ps.nextPool) := by simp
      rw [h1]
      exact List.filter_eq_self.mpr (fun p hp => by simpa using Nat.ne_of_lt (hlive p hp))
    · intro i h1 h2
      rw [rbCleanupP, destroyPool_cells, if_pos (ow.new i h1 h2)]

open Sqfs.Rb in
/-- instance: the directory cache with three cached inodes, all nodes in pool 0 (the reader's own); the hypotheses are discharged
by `rbtree_built_wellformed`; after the copy the original is released (`rbtree_cleanup` of pool 0) and the copy still resolves
inode 7 to the full reference -/
example : ∃ ps' root' pool', rbCopyP ⟨4, 8, 8⟩ 5 ⟨(writeTree Store.empty (build ⟨4, 8, 8⟩ (fun a b => dcCmp a b == .lt)
      [(leBytes 4 5, leBytes 8 0x571f80d44), (leBytes 4 7, leBytes 8 0x123456789abc), (leBytes 4 2, leBytes 8 0x60)])).1, fun _ => 0, 1, [0]⟩
      (writeTree Store.empty (build ⟨4, 8, 8⟩ (fun a b => dcCmp a b == .lt)
      [(leBytes 4 5, leBytes 8 0x571f80d44), (leBytes 4 7, leBytes 8 0x123456789abc), (leBytes 4 2, leBytes 8 0x60)])).2 = some (ps', root', pool') ∧
    pool' = 1 ∧ dcResolve ⟨4, 8, 8⟩ (rbCleanupP ps' 0).st.cells 5 root' 7 = some 0x123456789abc := by
  obtain ⟨hwf, _, _, hs⟩ := rbtree_built_wellformed 4 8 ⟨4, 8, 8⟩ (by decide) (fun a b => dcCmp a b == .lt)
    [(leBytes 4 5, leBytes 8 0x571f80d44), (leBytes 4 7, leBytes 8 0x123456789abc), (leBytes 4 2, leBytes 8 0x60)] Store.empty
  obtain ⟨ps', root', pool', he, hp, _, _, _, _, _, hrel, _⟩ := rbtree_pool_copy_independent ⟨4, 8, 8⟩
    ⟨(writeTree Store.empty (build ⟨4, 8, 8⟩ (fun a b => dcCmp a b == .lt)
      [(leBytes 4 5, leBytes 8 0x571f80d44), (leBytes 4 7, leBytes 8 0x123456789abc), (leBytes 4 2, leBytes 8 0x60)])).1, fun _ => 0, 1, [0]⟩
    _ _ 5 hwf hs (by decide) (fun _ _ => Nat.zero_lt_one) (by decide)
  refine ⟨ps', root', pool', he, hp, ?_⟩
  have h0 : (0 : Nat) ≠ pool' := by rw [hp]; decide
  unfold dcResolve
  rw [(hrel 0 h0).2 dcCmp (leBytes 4 7)]
  decide

open Sqfs.C19U in
/-- `array_copy_equiv`: `array_init_copy` (allocates the used part only) of an `array_t` of any element size: every later
sequence of `array_append` / `array_get` / `array_set` / size queries is answered as on the original -/
theorem array_copy_equiv (sz : Nat) (a : ByteArr) (ops : List ArrOp) : arrRun sz a.initCopy ops = arrRun sz a ops :=
  arrRun_data sz ops _ _ rfl

open Sqfs.C19U in
example := array_copy_equiv 2 ⟨128, [[1, 2], [3, 4]]⟩ [.app [5, 6], .get 2, .set 0 [9, 9], .used, .get 0]

open Sqfs.C19U in
/-- `strtable_copy_equiv` — **definition-level**: the model keeps index, bytes and use count of every bucket, which is what
`str_table_copy` duplicates, so `strCopy t = t` (a map of a field-wise identity) and "a copied string table answers every later
sequence of index / string / use-count operations as the original" holds by construction.  The content is in the tie — every
bucket of the real copy is compared with the model's on every run.  Not to be counted as a proof of equivalence. -/
theorem strtable_copy_equiv (t : StrTable) (ops : List StrOp) : strRun (strCopy t) ops = strRun t ops := by
  rw [strCopy_eq]

open Sqfs.C19U in
example := strtable_copy_equiv [⟨[97], 1⟩, ⟨[98, 99], 2⟩] [.index [97], .str 1, .ref 0, .unref 1, .count 1]

/-! non-vacuity of the clauses on failed copies and mixed histories -/

/-- a failing allocation exists: the third allocation inside the copy of the directory reader of the example above -/
example : (sqfsCopyTop desc { (construct envHeap .dirReader 0 1).1 with budget := some 2 } 4).2 = none := by decide

/-- an admissible mixed history on that heap: the reader's cache buffer is filled, replaced and given back, the reader
grabbed and released twice (the second release destroys it and its two meta readers) -/
example : ∃ h U, Balanced h U ∧ U 4 = 1 ∧ U 0 = 1 ∧
    Admissible U [.op 4 (.realloc 0 ⟨8, 8, 1⟩), .grab 4, .op 4 (.realloc 0 ⟨16, 9, 2⟩), .drop 4, .op 4 (.store 0 5),
      .op 4 (.release 0), .drop 4] ∧
    (∀ e ∈ [Ev.op 4 (.realloc 0 ⟨8, 8, 1⟩), .grab 4, .op 4 (.realloc 0 ⟨16, 9, 2⟩), .drop 4, .op 4 (.store 0 5),
      .op 4 (.release 0), .drop 4], e.target ≠ 0) := by
  obtain ⟨U, hb, h0, _, h4, _⟩ := exH_balanced
  exact ⟨exH, U, hb, h4, h0, by simp [Admissible, Ev.user, Ev.target, h4], by decide⟩

/-- … and it really reshapes the heap: after the first three events the reader owns a 16-byte buffer, at the end nothing
of the reader is left while the user's file is untouched -/
example : ((runEvs (construct envHeap .dirReader 0 1).1 [.op 4 (.realloc 0 ⟨8, 8, 1⟩), .grab 4, .op 4 (.realloc 0 ⟨16, 9, 2⟩)]).objs 4).map
    (fun o => (o.rc, o.bufs)) = some (2, [some 4, some 2]) := by decide

open Sqfs.C19R in
/-- the data-reader theorem is about non-trivial states: a reader over a 10-byte file whose history cached a 6-byte
block in a buffer of 8 — the copy hook carries over 6 bytes and pads with zeros -/
example : ∃ d : DataReader.DR, d = DataReader.run true ⟨10, fun i => UInt8.ofNat (i + 1), fun _ => false⟩ MetaReader.toyUnc
      (DataReader.fresh 8 []) [.read ⟨6, 2, 0, 0, [16777222]⟩ 0 6] ∧
    d.dataBlock = some ([3, 4, 5, 6, 7, 8, 0, 0], 6) ∧ drCopy d = d := by
  exact ⟨_, rfl, by decide, drCopy_eq (cacheInv_run toyUnc_bounded _ _ (cacheInv_fresh 8 []))⟩

example : Sqfs.C19R.CodecBounded MetaReader.toyUnc := Sqfs.C19R.toyUnc_bounded

/-- the boundary of the id table: with 0xFFFF ids a new id is refused, with 0xFFFE it gets index 0xFFFE -/
example : (idStep (idFill 0xFFFF) (.add 70000)).2 = (Sqfs.Consts.c19ErrOverflow, 0) ∧ (idStep (idFill 0xFFFE) (.add 70000)).2 = (0, 0xFFFE) := by
  have new : ∀ n, n ≤ 70000 → 70000 ∉ (idFill n).data := fun n hn => by rw [idFill_data, List.mem_range]; omega
  constructor
  · rw [idStep_add_new _ _ (new _ (by decide)), idFill_data, List.length_range, if_pos (by decide)]
  · rw [idStep_add_new _ _ (new _ (by decide)), idFill_data, List.length_range, if_neg (by decide)]

open Sqfs.Rb in
/-- `rbtree_copy_equiv` is about non-trivial trees: the directory cache layout (4 byte key padded to 8, 8 byte value) with
three cached directory inodes whose references need more than 32 bits; the copy resolves inode 7 to the full reference -/
example : ∃ c t st root, init 4 8 = some c ∧ t = build c (fun a b => dcCmp a b == .lt)
      [(leBytes 4 5, leBytes 8 0x571f80d44), (leBytes 4 7, leBytes 8 0x123456789abc), (leBytes 4 2, leBytes 8 0x60)] ∧
    (st, root) = writeTree Store.empty t ∧ t.depth = 2 ∧ c.keyPad = 8 ∧
    (rbCopy c 5 st root).map (fun r => dcResolve c r.1.cells 5 r.2 7) = some (some 0x123456789abc) := by
  refine ⟨⟨4, 8, 8⟩, _, _, _, by decide, rfl, rfl, by decide, rfl, by decide⟩

end Sqfs.C19
