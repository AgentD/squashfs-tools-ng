/-
C05 — Reading an untrusted image never corrupts memory, hangs or aborts.

The property theorems (helper lemmas: `Sqfs/Proofs/ReaderBounds.lean`, `ReaderTables.lean`, `ReaderWalk.lean`,
`ReaderWalkV.lean`).  Models: `Sqfs/Model/ReaderBounds.lean` and `Sqfs/Model/ReaderTables.lean` (bounds-check
logic of every reader routine with the C integer widths; each routine returns the list of buffer accesses it
performs, each access carrying the capacity of its buffer — a fixed array, a caller-supplied size, or the size the
routine itself allocated) and `Sqfs/Model/ReaderWalk.lean` (the two recursive directory walks).  Shape of the
memory-safety theorems:

    ∀ field values, ∀ a ∈ accesses, a.off + a.len ≤ a.cap          (in ℕ, i.e. after un-wrapping)

with *no* hypothesis on the image-controlled values, except `file_size < 2^64 - 2^32` in `data_read_safe`.  The other
hypotheses are invariants of the reader objects that every routine re-establishes, also when it fails (`data_used ≤ 8192`,
`XattrInv`), and facts about the caller or the outside world: the codec contract ("`do_block` returns < 0 or at most
`outsize` bytes"), `block_size ≠ 0` (established by `sqfs_super_read`), `max_size ≤ block_size` (true at the three call
sites of `get_block`: twice `block_size`, once `min(filesz, block_size)`), NUL-freeness of a C string, a name buffer
that is an object in memory.

The models are the **repaired** logic for the defects D3, D4, D5, D19, D25, D17 (patches under `fixes/C05-*`, all
in /repo); the same definitions with `fixed := false` are the code before these repairs and `Sqfs/Witness/C05.lean`
proves that each of these theorems is *false* for it, with a concrete witness (replays under `corpus/C05/`).
-/
import Sqfs.Proofs.ReaderBounds
import Sqfs.Proofs.ReaderWalkV
import Sqfs.Proofs.ReaderTables
namespace Sqfs.C05
open Sqfs.ReaderBounds Sqfs.ReaderWalk Sqfs.ReaderTables
-- see `Sqfs/Proofs/ReaderBounds.lean`: the default `split` doubles its cost with every level of a nested `if`
set_option backward.split false

/-! ### instances used by the examples that follow the theorems -/

/-- a reader over blocks of 100 uncompressed bytes -/
def exCfg : MetaCfg := ⟨96, 100000, fun _ => ⟨false, 0x8064, false, none⟩⟩

/-- a valid superblock (what the checks make of single field edits: see the examples at the end) -/
def exSuper : Super where
  magic := 0x73717368
  inodeCount := 3
  modTime := 0
  blockSize := 131072
  fragCount := 1
  compId := 1
  blockLog := 17
  flags := 0
  idCount := 2
  vMajor := 4
  vMinor := 0
  rootRef := 0
  bytesUsed := 1000
  idTableStart := 900
  xattrIdTableStart := 950
  inodeTableStart := 96
  dirTableStart := 300
  fragTableStart := 500
  exportTableStart := 0xFFFFFFFFFFFFFFFF

/-- a tree, a directory listed twice (refused), and a chain one level deeper than the limit (refused) -/
def exTree : DirGraph := ⟨fun r => if r = 0 then [1, 2] else if r = 1 then [3] else [], fun _ => true, fun r => r.toUInt32⟩
def exShared : DirGraph := ⟨fun r => if r = 0 then [1, 1] else [], fun _ => true, fun r => r.toUInt32⟩
def exChain : DirGraph := ⟨fun r => [r + 1], fun r => r < 4, fun r => r.toUInt32⟩

theorem exTree_refs : ∀ r c, c ∈ exTree.entries r → exTree.isDir c = true → c ∈ [0, 1, 2, 3] := by
  intro r c h _
  simp only [exTree] at h
  split at h
  · simp at h; rcases h with rfl | rfl <;> decide
  · split at h
    · simp at h; subst h; decide
    · simp at h

/-! ## `meta_reader.c` -/

/-- `sqfs_meta_reader_seek`: from any state with `data_used ≤ 8192`, for every block position, offset, header
word and codec answer, all accesses stay inside `data[]`/`scratch[]`, `data_used ≤ 8192` is kept (also when the
call fails), and success establishes `offset < data_used`. -/
theorem meta_seek_safe (c : MetaCfg) (hc : MetaCodecOk c) (m : MetaSt) (b o : UInt64)
    (hm : m.dataUsed.toNat ≤ metaCap) :
    (∀ a ∈ (seek c m b o).acc, a.inBounds) ∧ (seek c m b o).st.dataUsed.toNat ≤ metaCap ∧
    ((seek c m b o).r = .ok () → (seek c m b o).st.offset.toNat < (seek c m b o).st.dataUsed.toNat) := by
  have h := (seekG_post true c m b o).safe hc hm
  exact ⟨h.1, h.2, fun hok => by rw [(seek_ok c m b o hok).2]; exact (seek_ok c m b o hok).1⟩

/-- `sqfs_meta_reader_read` (with the guard of `fixes/C05-meta-read-after-failed-seek.patch`): from **any** state
with `data_used ≤ 8192` — in particular the state a failed seek leaves behind, where `offset > data_used` is
possible — every copy stays inside `data[]` and inside the caller's `size` bytes. -/
theorem meta_read_safe (c : MetaCfg) (hc : MetaCodecOk c) (m : MetaSt) (size : UInt64)
    (hm : m.dataUsed.toNat ≤ metaCap) :
    (∀ a ∈ (mread true c m size).acc, a.inBounds) ∧ (mread true c m size).st.dataUsed.toNat ≤ metaCap :=
  mread_safe c hc m size hm

/-- the copy loop of `sqfs_meta_reader_read` ends after at most `size` iterations (each one delivers ≥ 1 byte or
fails), with and without the guard of `fixes/C05-meta-read-after-failed-seek.patch` -/
theorem meta_read_terminates (fixed : Bool) (c : MetaCfg) (m : MetaSt) (size : UInt64) :
    (mread fixed c m size).r ≠ .error .fuel :=
  mread_ne_fuel fixed c m size

/-- every history of `seek`/`read` calls on a fresh reader — failed calls included, the reader is used on — is
memory safe -/
theorem meta_history_safe (c : MetaCfg) (hc : MetaCodecOk c) (ops : List MetaOp) :
    ∀ a ∈ runOps true c MetaSt.init ops, a.inBounds :=
  runOps_safe c hc ops MetaSt.init (by decide)

/-! ## `data_reader.c` -/

/-- `get_block`: for every size word, given `max_size ≤ block_size` (all three call sites) and the codec contract -/
theorem get_block_safe (bs : UInt32) (out : Buf) (w maxSize : UInt32) (l : BlkLoad)
    (hmax : maxSize.toNat ≤ bs.toNat) (hcodec : ∀ n, l.dec = some n → n.toNat ≤ maxSize.toNat) :
    (∀ a ∈ (getBlock bs out w maxSize l).2, a.inBounds) ∧
    (∀ sz, (getBlock bs out w maxSize l).1 = .ok sz → sz.toNat ≤ maxSize.toNat) := by
  unfold getBlock
  split
  · exact ⟨List.forall_mem_nil _, fun sz h => by cases h; simp⟩
  split
  · exact ⟨List.forall_mem_nil _, nofun⟩
  rename_i hods
  have hods : (onDiskSize w).toNat ≤ maxSize.toNat := UInt32.le_iff_toNat_le.1 (UInt32.not_lt.1 hods)
  split
  · have ha1 : ∀ a ∈ [Access.mk .drScratch 0 (onDiskSize w).toNat bs.toNat], a.inBounds :=
      safe_front (Nat.le_trans hods hmax)
    split
    · exact ⟨ha1, nofun⟩
    · split
      · exact ⟨ha1, nofun⟩
      · rename_i ret hdec
        have := hcodec ret hdec
        split
        · exact ⟨ha1, nofun⟩
        · exact ⟨safe_append ha1 (safe_front this), fun sz h => by cases h; simpa using this⟩
  · split
    · exact ⟨safe_front hods, nofun⟩
    · exact ⟨safe_front hods, fun sz h => by cases h; simpa using hods⟩

/-- `sqfs_data_reader_get_fragment` (`frag_off + frag_sz` widened, `fixes/C05-get-fragment-wrap.patch`): for every
file size, block count and fragment offset the copy stays inside the fragment block and the result buffer -/
theorem get_fragment_safe (bs : UInt32) (filesz blockCount : UInt64) (fragOff : UInt32)
    (pre : Except Err Unit) (hbs : bs ≠ 0) (as : List Access)
    (h : getFragment true bs filesz blockCount fragOff pre = .ok as) : ∀ a ∈ as, a.inBounds := by
  unfold getFragment at h
  split at h
  · cases h
  split at h
  · cases h; exact List.forall_mem_nil _
  cases pre with
  | error e => cases h
  | ok u =>
    simp only [if_true] at h
    split at h
    · cases h
    · rename_i hnb
      cases h
      have hsz := UInt32.toNat_lt (filesz % bs.toUInt64).toUInt32
      rw [UInt64.not_lt, UInt64.le_iff_toNat_le, toNat_widen_add _ _ (by rw [UInt32.toNat_toUInt64]; omega),
        UInt32.toNat_toUInt64, UInt32.toNat_toUInt64] at hnb
      exact safe_cons (Nat.le_of_eq (Nat.zero_add _)) (safe_one hnb)

/-- `dr_stream_get_buffered_data` (on-disk size compared with `block_size`, `fixes/C05-stream-disksz.patch`): for
every block word, file size, fragment offset and fragment block size, every access stays inside `scratch`,
`buffer` (both `block_size` bytes), the block list and the fragment block; `buf_used ≤ block_size` is kept -/
theorem stream_fill_safe (bs : UInt32) (s : StreamSt) (w : UInt32) (l : BlkLoad) (fragPre : Except Err UInt64)
    (fragOff : UInt32) (hs : s.bufUsed.toNat ≤ bs.toNat)
    (hcodec : ∀ n, l.dec = some n → n.toNat ≤ (streamWant bs s).toNat) :
    (∀ a ∈ (streamFill true bs s w l fragPre fragOff).2.2, a.inBounds) ∧
    (streamFill true bs s w l fragPre fragOff).1.bufUsed.toNat ≤ bs.toNat := by
  have hw := streamWant_le bs s
  unfold streamFill
  split
  · rename_i h
    have := UInt64.lt_iff_toNat_lt.1 h
    refine ⟨safe_one ?_, hs⟩
    rw [toNat_sub_of_le (Nat.le_of_lt this)]
    omega
  split
  · exact ⟨List.forall_mem_nil _, Nat.zero_le _⟩
  simp only []
  change _ ∧ _
  rw [show (if s.filesz < bs.toUInt64 then s.filesz else bs.toUInt64) = streamWant bs s from rfl]
  generalize streamWant bs s = want at *
  -- every way out is `fail` (`buf_used = 0`) or `done` (`buf_used = want`): what is left is the accesses
  have hz : (0 : UInt64).toNat ≤ bs.toNat := Nat.zero_le _
  -- the memset of what the block did not fill: `n` bytes are there, `want` are handed out
  have hpad : ∀ n : UInt32, n.toNat ≤ bs.toNat → ∀ a ∈ (if n.toUInt64 < want then
      [Access.mk .streamBuf n.toNat (want - n.toUInt64).toNat bs.toNat] else []), a.inBounds := by
    intro n hn
    split
    · rename_i hlt
      have hlt := UInt64.lt_iff_toNat_lt.1 hlt
      refine safe_one ?_
      rw [toNat_sub_of_le (Nat.le_of_lt hlt)]
      rw [UInt32.toNat_toUInt64] at hlt ⊢
      omega
    · exact List.forall_mem_nil _
  split
  · rename_i hidx
    have hidx := UInt32.lt_iff_toNat_lt.1 hidx
    have ha0 := safe_elem .inoData 4 hidx
    split
    · exact ⟨safe_append ha0 (safe_front hw), hw⟩
    split
    · exact ⟨ha0, hz⟩
    rename_i hbig
    have hd : (onDiskSize w).toNat ≤ bs.toNat := by simpa [UInt32.le_iff_toNat_le] using hbig
    split
    · have ha1 := safe_append ha0 (safe_front (b := .drScratch) hd)
      split
      · exact ⟨ha1, hz⟩
      split
      · exact ⟨ha1, hz⟩
      rename_i ret hdec
      have hret := hcodec ret hdec
      split
      · exact ⟨ha1, hz⟩
      · exact ⟨safe_append (safe_append ha1 (safe_front hret)) (hpad ret (by omega)), hw⟩
    · have ha1 := safe_append ha0 (safe_front (b := .streamBuf) hd)
      split
      · exact ⟨ha1, hz⟩
      · exact ⟨safe_append ha1 (hpad _ hd), hw⟩
  · split
    · exact ⟨List.forall_mem_nil _, hz⟩
    · rename_i fsz
      split
      · exact ⟨List.forall_mem_nil _, hz⟩
      · rename_i hchk
        simp only [Bool.or_eq_true, decide_eq_true_eq, not_or] at hchk
        have hfit := toNat_fits (UInt64.le_iff_toNat_le.1 (UInt64.not_lt.1 hchk.1)) hchk.2
        rw [UInt32.toNat_toUInt64] at hfit
        exact ⟨safe_cons hfit (safe_front hw), hw⟩

/-- `sqfs_data_reader_read`: for every block list, file size, offset, size and fragment location, the copies stay
inside the `block_size`-byte data block, the fragment block (`frag_blk_size`) and the caller's `size` bytes.
Hypothesis `file_size < 2^64 - 2^32` excludes the one case where `frag_off + offset` wraps in 64 bits (then the
C code computes a wrapped pointer that lands inside the block again; not reachable below 16 EiB files). -/
theorem data_read_safe (bs : UInt32) (words : Nat → UInt32) (blkOk : Nat → Bool) (blockCount : Nat)
    (filesz offset : UInt64) (size0 : UInt32) (fragOff : UInt32) (fragPre : Except Err UInt64)
    (hfs : filesz.toNat + 2 ^ 32 ≤ 2 ^ 64) :
    ∀ a ∈ (dataRead bs words blkOk blockCount filesz offset size0 fragOff fragPre).2, a.inBounds := by
  unfold dataRead
  simp only []
  split
  · exact List.forall_mem_nil _
  rename_i hoff
  rw [UInt64.not_le, UInt64.lt_iff_toNat_lt] at hoff
  have hclamp : (if size0 ≥ 0x7FFFFFFF then (0x7FFFFFFE : UInt32) else size0).toNat ≤ size0.toNat := by
    split
    · exact Nat.le_trans (by decide : (0x7FFFFFFE : UInt32).toNat ≤ (0x7FFFFFFF : UInt32).toNat) (UInt32.le_iff_toNat_le.1 ‹_›)
    · exact Nat.le_refl _
  generalize (if size0 ≥ 0x7FFFFFFF then (0x7FFFFFFE : UInt32) else size0) = sz1 at hclamp
  have hsz2 : (if filesz - offset < sz1.toUInt64 then (filesz - offset).toUInt32 else sz1).toNat ≤ sz1.toNat := by
    split
    · rename_i h
      have := UInt64.lt_iff_toNat_lt.1 h
      rw [UInt32.toNat_toUInt64] at this
      rw [UInt64.toNat_toUInt32]
      have h2 := Nat.mod_le (filesz - offset).toNat (2 ^ 32)
      omega
    · exact Nat.le_refl _
  generalize (if filesz - offset < sz1.toUInt64 then (filesz - offset).toUInt32 else sz1) = sz at hsz2
  split
  · exact List.forall_mem_nil _
  have hskip := dataReadSkip_spec bs.toUInt64 blockCount 0 offset
  generalize hq : dataReadSkip bs.toUInt64 blockCount 0 offset = q at hskip
  obtain ⟨i, off1⟩ := q
  simp only [] at hskip ⊢
  obtain ⟨h1, h3, h4⟩ := hskip
  have hz : (0 : UInt32).toNat = 0 := rfl
  have hb := dataReadBlocks_safe bs words blkOk blockCount size0.toNat offset.toNat (blockCount - i) i off1 sz 0 []
    (by omega) (h3.symm.imp (fun h => by omega) fun h => by simpa using h) h4 (by rw [hz]; omega) (by simp)
  generalize hr : dataReadBlocks bs words blkOk blockCount size0.toNat (blockCount - i) i off1 sz 0 [] = r at hb
  obtain ⟨res, acc⟩ := r
  simp only [] at hb ⊢
  cases res with
  | error e => exact hb.1
  | ok v =>
    obtain ⟨o2, s2, t2⟩ := v
    obtain ⟨hts, ho2⟩ := hb.2 o2 s2 t2 rfl
    simp only []
    split
    · exact hb.1
    · cases fragPre with
      | error e => exact hb.1
      | ok fbs =>
        simp only []
        -- `frag_off + offset` does not wrap in 64 bits: `offset ≤` the caller's offset `< file_size` (`hfs`)
        have hsum := toNat_widen_add fragOff o2 (by omega)
        split
        · exact hb.1
        · rename_i hc1
          split
          · exact hb.1
          · rename_i hc2
            have hfit := toNat_fits (Nat.le_of_lt (UInt64.lt_iff_toNat_lt.1 (UInt64.not_le.1 hc1))) hc2
            rw [hsum, UInt32.toNat_toUInt64] at hfit
            exact safe_append hb.1 (safe_cons hfit (safe_one (by omega)))

/-! ## `read_table.c` -/

/-- `sqfs_read_table`: for every table size, the location index stays below `block_count` and the copies fill
exactly `table_size` bytes, whatever the seeks/reads return -/
theorem read_table_safe (ts : UInt64) (stepOk : Nat → Bool) : ∀ a ∈ (readTable ts stepOk).2, a.inBounds := by
  exact (readTable_post ts stepOk).2

/-- the copy loop of `sqfs_read_table` ends after `block_count` iterations -/
theorem read_table_terminates (ts : UInt64) (stepOk : Nat → Bool) : (readTable ts stepOk).1 ≠ .error .fuel := by
  exact (readTable_post ts stepOk).1

/-! ## `read_inode.c`: allocation size vs bytes written -/

theorem read_inode_file_safe (fileSize blockSize : UInt64) (fragIdx fragOff : UInt32) (as : List Access)
    (h : readInodeFile fileSize blockSize fragIdx fragOff = .ok as) : ∀ a ∈ as, a.inBounds := by
  revert h
  fun_cases readInodeFile fileSize blockSize fragIdx fragOff <;> intro h <;> cases h
  rename_i count alloc ha cap
  refine safe_front ?_
  simp only [cap]
  rw [allocFlex_some _ _ _ _ ha, show szInodeGeneric.toUInt64.toNat = szInodeGeneric from rfl, Nat.add_sub_cancel_left]
  exact toNat_mul_le _ _

theorem read_inode_slink_safe (targetSize : UInt32) (as : List Access)
    (h : readInodeSlink targetSize = .ok as) : ∀ a ∈ as, a.inBounds := by
  revert h
  fun_cases readInodeSlink targetSize <;> intro h <;> cases h
  rename_i s1 hs1 size hsize
  have e1 := addOv_some _ _ _ hs1
  have e2 := addOv_some _ _ _ hsize
  rw [UInt32.toNat_toUInt64, UInt64.toNat_one] at e1
  rw [show szInodeGeneric.toUInt64.toNat = 64 from rfl] at e2
  exact safe_one (by rw [szInodeGeneric_eq]; omega)

/-- `read_inode_dir_ext`: for every sequence of index-entry `size` fields (0xFFFFFFFF included, where `size + 1`
wraps to 0 in the read but not in the growth test) the header and name copies stay inside the (re)allocated
payload, and `index_used ≤ index_max` at the end -/
theorem read_inode_dir_ext_safe (dirSize : UInt32) (szs : List UInt32) (im iu : UInt64) (as : List Access)
    (h : readInodeDirExt dirSize szs = .ok (im, iu, as)) : (∀ a ∈ as, a.inBounds) ∧ iu.toNat ≤ im.toNat := by
  unfold readInodeDirExt at h
  split at h
  · simp at h; obtain ⟨rfl, rfl, rfl⟩ := h; simp
  · exact dirExtLoop_safe szs 128 0 [] im iu as (by decide) (by simp) h

/-! ## `readdir.c` -/

theorem read_dir_ent_safe (size : UInt16) : ∀ a ∈ readDirEnt size, a.inBounds := by
  unfold readDirEnt
  exact safe_front (by omega)

/-- every successful `sqfs_meta_reader_readdir` call lowers the remaining listing size by more than 8: a
directory of listing size `n` ends after at most `n / 9 + 1` calls -/
theorem readdir_progress (s s' : RdState) (hdrCount : UInt32) (nameSize : UInt16)
    (h : readdirStep s hdrCount nameSize = some s') : s'.size.toNat + 8 < s.size.toNat := by
  have e12 : szDirHeader.toUInt64.toNat = 12 := rfl
  have e8 : szDirNode.toUInt64.toNat = 8 := rfl
  revert h
  fun_cases readdirStep s hdrCount nameSize <;> intro h <;> cases h
  rename_i s1? s1 heq hgt size count
  -- the listing size after the header (if one was due) is not larger than before
  have hs1 : s1.size.toNat ≤ s.size.toNat := by
    simp only [s1?] at heq
    split at heq
    · split at heq
      · cases heq
      · rename_i hgt
        rw [UInt64.not_le, UInt64.lt_iff_toNat_lt, e12] at hgt
        cases heq
        rw [toNat_sub_of_le (by rw [e12]; omega)]; omega
    · cases heq; exact Nat.le_refl _
  rw [UInt64.not_le, UInt64.lt_iff_toNat_lt, e8] at hgt
  have hsub : size.toNat = s1.size.toNat - 8 := by rw [toNat_sub_of_le (by rw [e8]; omega), e8]
  have hns : count.toNat = nameSize.toNat + 1 := by
    have := UInt16.toNat_lt nameSize
    rw [toNat_add_of_lt (by rw [UInt16.toNat_toUInt64, UInt64.toNat_one]; omega), UInt64.toNat_one, UInt16.toNat_toUInt64]
  simp only
  split
  · rw [UInt64.toNat_zero]; omega
  · rename_i hlt
    rw [UInt64.not_le, UInt64.lt_iff_toNat_lt] at hlt
    rw [toNat_sub_of_le (by omega)]
    omega

/-! ## `inode.c` -/

/-- `sqfs_inode_unpack_dir_index_entry` (`fixes/C05-unpack-dir-index.patch`): for every payload (the `size`
fields are an arbitrary function of the offset), every `payload_bytes_used` and every index, header and name
copies stay inside the payload and inside the entry that is allocated -/
theorem unpack_dir_index_safe (used : UInt32) (szAt : UInt64 → UInt32) (index : UInt64) (fuel : Nat) :
    ∀ a ∈ (unpackIdx true used szAt fuel 0 index []).2, a.inBounds :=
  unpackIdx_safe used szAt fuel 0 index [] (by simp)

/-! ## `dir_reader.c` -/

/-- `sqfs_dir_reader_resolve_path` (`fixes/C05-resolve-path-nul.patch`): for every entry name (embedded NUL bytes
included) and every NUL-free path, only `path[0 … strlen(path)]` is read -/
theorem resolve_compare_safe (name path : List UInt8) (hp : (0 : UInt8) ∉ path) :
    ∀ a ∈ (resolveCompare true name path).2, a.inBounds := by
  unfold resolveCompare
  simp only []
  have hk := strncmpEq_examined (cstr name) path name.length
  generalize hq : strncmpEq (cstr name) path name.length = q at hk
  obtain ⟨eq, k⟩ := q
  simp only [if_true]
  split
  · rename_i hm
    simp only [Bool.and_eq_true, beq_iff_eq] at hm
    obtain ⟨he, hl⟩ := hm
    subst he
    have h1 : (strncmpEq (cstr name) path (cstr name).length).1 = true := by rw [hl, hq]
    have := strncmpEq_len (cstr name) path _ (Nat.le_refl _) (cstr_no_nul name) h1
    exact safe_append (safe_one (by omega)) (safe_one (by omega))
  · exact safe_one (by simp only [] at hk; omega)

/-! ## `read_super.c`, `id_table.c`, `frag_table.c` (models: `Sqfs/Model/ReaderTables.lean`) -/

/-- `sqfs_super_read` reads exactly `sizeof(sqfs_super_t)` bytes into its local copy, and when it succeeds the
superblock satisfies what the other theorems assume of it: magic and version, `4096 ≤ block_size ≤ 1 MiB`,
`block_size = 2^block_log` with `12 ≤ block_log ≤ 20` (so `block_size ≠ 0`), a known compressor id, `id_count ≠ 0` -/
theorem super_read_safe (io : Bool) (s : Super) :
    (∀ a ∈ (superRead io s).2, a.inBounds) ∧ ((superRead io s).1 = .ok () → io = false ∧ SuperOk s) :=
  ⟨superRead_safe io s, superRead_ok io s⟩

/-- `sqfs_id_table_read`: for every superblock the table size `id_count * 4` is computed without wrap, the meta reader's
window ends at `id_table_start` (that the table is read from there is in `idTableReq_ok`), `sqfs_read_table` fills exactly
that many bytes whatever its reads return, and the byte swap loop stays inside them -/
theorem id_table_read_safe (s : Super) (rt : Except Err Unit) (stepOk : Nat → Bool) :
    (∀ a ∈ (idTableRead s rt).2, a.inBounds) ∧
    (∀ req, idTableReq s = .ok req → req.tableSize.toNat = s.idCount.toNat * 4 ∧ req.upper = s.idTableStart ∧
      (∀ a ∈ (readTable req.tableSize stepOk).2, a.inBounds)) :=
  ⟨idTableRead_safe s rt, fun req h => ⟨(idTableReq_ok s req h).1, (idTableReq_ok s req h).2.2.1,
    read_table_safe req.tableSize stepOk⟩⟩

/-- `sqfs_id_table_index_to_id`: an index is only used below `ids.used` -/
theorem index_to_id_safe (used : UInt64) (index : UInt16) (as : List Access) (h : indexToId used index = .ok as) :
    ∀ a ∈ as, a.inBounds := by
  revert h
  fun_cases indexToId used index <;> intro h <;> cases h
  rename_i hlt
  rw [UInt64.not_le, UInt64.lt_iff_toNat_lt, UInt16.toNat_toUInt64] at hlt
  exact safe_elem _ 4 hlt

/-- instance (hypothesis discharged on the *succeeding* call): index 1 of a table of 2 ids — one access, 4 bytes at offset 4 of 8 -/
example : ∀ a ∈ [Access.mk .idTable 4 4 8], a.inBounds := index_to_id_safe 2 1 _ (by decide)

/-- `sqfs_frag_table_read`: for every superblock that gets as far as `sqfs_read_table`, the size
`fragment_entry_count * 16` is exact (no wrap), the location lies in `[lower, id_table_start)` (`lower` is
`directory_table_start`: `fragTableReq_ok`) and below `bytes_used`, the meta reader window ends at or before `id_table_start`, and the table is filled exactly -/
theorem frag_table_read_safe (s : Super) (req : TableReq) (stepOk : Nat → Bool) (h : fragTableReq s = .ok (some req)) :
    req.tableSize.toNat = s.fragCount.toNat * 16 ∧ req.lower.toNat ≤ req.location.toNat ∧
    req.location.toNat < s.idTableStart.toNat ∧ req.location.toNat < s.bytesUsed.toNat ∧
    req.upper.toNat ≤ s.idTableStart.toNat ∧ (∀ a ∈ (readTable req.tableSize stepOk).2, a.inBounds) := by
  have k := fragTableReq_ok s req h
  exact ⟨k.1, k.2.2.2.2.1, k.2.2.2.2.2.1, k.2.2.2.2.2.2.1, k.2.2.2.2.2.2.2, read_table_safe req.tableSize stepOk⟩

/-- `sqfs_frag_table_lookup` -/
theorem frag_lookup_safe (used : UInt64) (index : UInt32) (as : List Access) (h : fragLookup used index = .ok as) :
    ∀ a ∈ as, a.inBounds := by
  revert h
  fun_cases fragLookup used index <;> intro h <;> cases h
  rename_i hlt
  rw [UInt64.not_le, UInt64.lt_iff_toNat_lt, UInt32.toNat_toUInt64] at hlt
  exact safe_elem _ _ hlt

/-- instance (hypothesis discharged): fragment 1 of a table of 2 — one access of `sizeof(sqfs_fragment_t)` = 16 bytes at offset 16 of 32 -/
example : ∀ a ∈ [Access.mk .fragTable 16 16 32], a.inBounds := frag_lookup_safe 2 1 _ (by decide)

/-! ## `xattr_reader.c`

`XattrInv x`: both meta readers of the xattr reader hold at most 8192 bytes, and while a table is loaded
`num_id_blocks = ceil(num_ids * 16 / 8192)` with `num_ids < 2^32`.  It holds after `sqfs_xattr_reader_create`
(`XattrInv_init`) and every routine keeps it, also when it fails; every theorem is for **all** values found in the
image (`tblStart`, `ids`, the locations, descriptor fields, key type/size, value size, out-of-line reference) and
all outcomes of `read_at`. -/

theorem xattr_load_safe (s : Super) (x : XattrSt) (io1 : Bool) (tblStart : UInt64) (ids : UInt32) (io2 : Bool)
    (starts : Nat → UInt64) (hx : XattrInv x) :
    (∀ a ∈ (xattrLoad s x io1 tblStart ids io2 starts).acc, a.inBounds) ∧
    XattrInv (xattrLoad s x io1 tblStart ids io2 starts).st := by
  have hx' : ∀ (y : XattrSt), y.idrd = x.idrd → y.kvrd = x.kvrd → y.loaded = false → XattrInv y := by
    intro y h1 h2 h3
    refine ⟨by rw [h1]; exact hx.idrd_le, by rw [h2]; exact hx.kvrd_le, ?_⟩
    intro h; rw [h3] at h; cases h
  have ha1 : ∀ a ∈ [Access.mk .xattrIdTbl 0 szXattrIdTable szXattrIdTable], a.inBounds :=
    safe_front (Nat.le_refl _)
  unfold xattrLoad
  split
  · exact ⟨List.forall_mem_nil _, hx⟩
  split
  · exact ⟨List.forall_mem_nil _, hx⟩
  split
  · exact ⟨List.forall_mem_nil _, hx⟩
  dsimp only
  split
  · exact ⟨ha1, hx' _ rfl rfl rfl⟩
  split
  · exact ⟨ha1, hx' _ rfl rfl rfl⟩
  rename_i cap hcap
  have ha2 : ∀ a ∈ [Access.mk .xattrIdTbl 0 szXattrIdTable szXattrIdTable] ++
      [Access.mk .idBlockStarts 0 (8 * xattrIdBlocks ids.toUInt64).toNat cap.toNat], a.inBounds :=
    safe_append ha1 (safe_front (by rw [mulOv_some _ _ _ hcap]; exact toNat_mul_le _ _))
  split
  · exact ⟨ha2, hx' _ rfl rfl rfl⟩
  have hck := xattrCheckStarts_safe s.bytesUsed starts (xattrIdBlocks ids.toUInt64).toNat
    (xattrIdBlocks ids.toUInt64).toNat 0 _ (by omega) ha2
  split
  · rename_i e acc heq
    rw [heq] at hck
    exact ⟨hck, hx' _ rfl rfl rfl⟩
  · rename_i acc heq
    rw [heq] at hck
    have h0 : MetaSt.init.dataUsed.toNat ≤ metaCap := by decide
    refine ⟨hck, h0, h0, ?_⟩
    intro _
    refine ⟨rfl, ?_⟩
    simp only [UInt32.toNat_toUInt64]
    exact UInt32.toNat_lt ids

/-- `sqfs_xattr_reader_get_desc`: the index into `id_block_starts` is below `num_id_blocks` for every `idx < num_ids` -/
theorem xattr_get_desc_safe (c : MetaCfg) (hc : MetaCodecOk c) (x : XattrSt) (idx : UInt32) (hx : XattrInv x) :
    (∀ a ∈ (xattrGetDesc c x idx).acc, a.inBounds) ∧ XattrInv (xattrGetDesc c x idx).st :=
  (xattrGetDesc_post c x idx).2 hc hx

/-- instance with the invariant of a **loaded** reader (600 ids, 2 id blocks; `XattrInv` obtained from `xattr_load_safe`, so
the two theorems are applied in sequence): descriptor 512 lies in the second id block -/
example :
    let x1 := (xattrLoad exSuper XattrSt.init false 96 600 false (fun i => 100 + 10 * i.toUInt64)).st
    x1.loaded = true ∧ (∀ a ∈ (xattrGetDesc exCfg x1 512).acc, a.inBounds) ∧ XattrInv (xattrGetDesc exCfg x1 512).st := by
  intro x1
  have hinv : XattrInv x1 :=
    (xattr_load_safe exSuper XattrSt.init false 96 600 false (fun i => 100 + 10 * i.toUInt64) XattrInv_init).2
  exact ⟨by decide, xattr_get_desc_safe exCfg (by intro b n h; simp [exCfg] at h) x1 512 hinv⟩

theorem xattr_seek_kv_safe (c : MetaCfg) (hc : MetaCodecOk c) (x : XattrSt) (xattr : UInt64) (hx : XattrInv x) :
    (∀ a ∈ (xattrSeekKv c x xattr).acc, a.inBounds) ∧ XattrInv (xattrSeekKv c x xattr).st :=
  (xattrSeekKv_post c x xattr).2 hc hx

/-- instance on the loaded reader: seek to the key/value pairs at block 200, offset 5 -/
example :
    let x1 := (xattrLoad exSuper XattrSt.init false 96 600 false (fun i => 100 + 10 * i.toUInt64)).st
    (∀ a ∈ (xattrSeekKv exCfg x1 ((200 : UInt64) <<< 16 ||| 5)).acc, a.inBounds) ∧
      XattrInv (xattrSeekKv exCfg x1 ((200 : UInt64) <<< 16 ||| 5)).st ∧
      (xattrSeekKv exCfg x1 ((200 : UInt64) <<< 16 ||| 5)).acc ≠ [] := by
  intro x1
  have hinv : XattrInv x1 :=
    (xattr_load_safe exSuper XattrSt.init false 96 600 false (fun i => 100 + 10 * i.toUInt64) XattrInv_init).2
  have h := xattr_seek_kv_safe exCfg (by intro b n h; simp [exCfg] at h) x1 ((200 : UInt64) <<< 16 ||| 5) hinv
  exact ⟨h.1, h.2, by decide⟩

/-- `sqfs_xattr_reader_read_key`: header, prefix and `key.size` bytes fit the `4 + strlen(prefix) + size + 1` bytes
allocated -/
theorem xattr_read_key_safe (c : MetaCfg) (hc : MetaCodecOk c) (a : KvAns) (m : MetaSt)
    (hm : m.dataUsed.toNat ≤ metaCap) :
    (∀ x ∈ (kvReadKey c a m).acc, x.inBounds) ∧ (kvReadKey c a m).st.dataUsed.toNat ≤ metaCap :=
  (kvReadKey_post c a m).2 hc hm

/-- `sqfs_xattr_reader_read_value`, out-of-line values included (reference re-based on `xattr_start`, one level,
position restored): header and `value.size` bytes (any 32 bit value) fit the `4 + 1 + size` bytes allocated -/
theorem xattr_read_value_safe (c : MetaCfg) (hc : MetaCodecOk c) (xs xe : UInt64) (a : KvAns) (m : MetaSt)
    (hm : m.dataUsed.toNat ≤ metaCap) :
    (∀ x ∈ (kvReadValue c xs xe a m).acc, x.inBounds) ∧ (kvReadValue c xs xe a m).st.dataUsed.toNat ≤ metaCap :=
  (kvReadValue_post c xs xe a m).2 hc hm

/-- `sqfs_xattr_reader_read` (used by `read_all`): prefix, key, value and both terminators stay inside the
`sqfs_xattr_t` that is allocated and then grown -/
theorem xattr_read_safe (c : MetaCfg) (hc : MetaCodecOk c) (xs xe : UInt64) (a : KvAns) (m : MetaSt)
    (hm : m.dataUsed.toNat ≤ metaCap) :
    (∀ x ∈ (kvRead c xs xe a m).acc, x.inBounds) ∧ (kvRead c xs xe a m).st.dataUsed.toNat ≤ metaCap :=
  (kvRead_post c xs xe a m).2 hc hm

theorem xattr_read_all_safe (c : MetaCfg) (hc : MetaCodecOk c) (x : XattrSt) (idx : UInt32) (xattr : UInt64)
    (count : UInt32) (ans : Nat → KvAns) (hx : XattrInv x) :
    (∀ a ∈ (xattrReadAll c x idx xattr count ans).acc, a.inBounds) ∧
    XattrInv (xattrReadAll c x idx xattr count ans).st :=
  (xattrReadAll_post c x idx xattr count ans).2 hc hx

/-- instance on the loaded reader: `read_all` for descriptor 512 with two pairs (`user.` prefix, 3-byte keys, 7-byte values) -/
example :
    let x1 := (xattrLoad exSuper XattrSt.init false 96 600 false (fun i => 100 + 10 * i.toUInt64)).st
    (∀ a ∈ (xattrReadAll exCfg x1 512 5 2 (fun _ => ⟨1, 3, 7, 0⟩)).acc, a.inBounds) ∧
      XattrInv (xattrReadAll exCfg x1 512 5 2 (fun _ => ⟨1, 3, 7, 0⟩)).st := by
  intro x1
  have hinv : XattrInv x1 :=
    (xattr_load_safe exSuper XattrSt.init false 96 600 false (fun i => 100 + 10 * i.toUInt64) XattrInv_init).2
  exact xattr_read_all_safe exCfg (by intro b n h; simp [exCfg] at h) x1 512 5 2 (fun _ => ⟨1, 3, 7, 0⟩) hinv

/-- `sqfs_xattr_reader_read_all` ends: `count` iterations, every meta reader call in them ends -/
theorem xattr_read_all_terminates (c : MetaCfg) (x : XattrSt) (idx : UInt32) (xattr : UInt64) (count : UInt32)
    (ans : Nat → KvAns) : (xattrReadAll c x idx xattr count ans).r ≠ .error .fuel :=
  (xattrReadAll_post c x idx xattr count ans).1

/-! ## `dir_reader.c`: opening a directory, `.`/`..`, `sqfs_dir_entry_from_inode`, `it_read_link` -/

/-- `sqfs_dir_reader_open_dir`: the cursor takes `size`, `offset` unchanged and `start_block +
directory_table_start` (64 bit; every later seek checks the window); with dot entries the reader delivers `.`
(the directory's own reference, which the cache knows) and `..` exactly once each, in this order, before the
listing; the two artificial entries fit their allocations -/
theorem open_dir_states (dotEntries : Bool) (flags : UInt32) (dts rootRef : UInt64) (cache : UInt32 → Option UInt64)
    (ino : DirIno) (st : DirSt) (h : openDir dotEntries flags dts rootRef cache ino = .ok st) :
    st.size.toNat = ino.size.toNat ∧ st.offset.toNat = ino.offset.toNat ∧ st.block = ino.startBlock.toUInt64 + dts ∧
    (st.state = .entries ∨ (st.state = .opened ∧ cache ino.inum = some st.dirRef ∧
      ∃ st1 st2 a1 a2, dirReadDot st = some (.ok st1, a1) ∧ st1.entRef = st.dirRef ∧
        dirReadDot st1 = some (.ok st2, a2) ∧ st2.entRef = st.parentRef ∧ dirReadDot st2 = none ∧
        (∀ a ∈ a1 ++ a2, a.inBounds))) := by
  have k := openDir_ok dotEntries flags dts rootRef cache ino st h
  refine ⟨k.1, k.2.1, k.2.2.1, ?_⟩
  rcases k.2.2.2.1 with ho | he
  · exact .inr ⟨ho, k.2.2.2.2 ho, dirReadDot_states st ho⟩
  · exact .inl he

/-- `sqfs_dir_entry_from_inode`: both id indices are checked against the table, `strnlen`/`strlen` stay inside the
name buffer (embedded NUL bytes and any `len` included), and the copy fits `sizeof(sqfs_dir_entry_t) + len + 1`.
`hlen`: the name buffer is an object in memory, its size fits a `size_t` -/
theorem dir_entry_from_inode_safe (used : UInt64) (uidIdx gidIdx : UInt16) (name : List UInt8) (len : UInt64)
    (hlen : name.length + 1 < 2 ^ 64) : ∀ a ∈ (dirEntryFromInode used uidIdx gidIdx name len).2, a.inBounds := by
  have hn := entryNameLen_le name len
  have he := entryNameExamined_le name len
  unfold dirEntryFromInode
  split
  · exact List.forall_mem_nil _
  · rename_i a1 h1
    have s1 := index_to_id_safe used uidIdx a1 h1
    split
    · exact s1
    · rename_i a2 h2
      have s2 := index_to_id_safe used gidIdx a2 h2
      have h3 : ∀ a ∈ a1 ++ a2 ++ [Access.mk .nameIn 0 (entryNameExamined name len) (name.length + 1)], a.inBounds :=
        safe_append (safe_append s1 s2) (safe_one (by omega))
      dsimp only
      split
      · exact h3
      · rename_i alloc halloc
        have e := allocFlex_some _ _ _ _ halloc
        have hn1 : ((entryNameLen name len).toUInt64 + 1).toNat = entryNameLen name len + 1 := by
          rw [UInt64.toNat_add, UInt64.toNat_one]
          simp only [Nat.toUInt64, UInt64.toNat_ofNat']
          omega
        rw [show Consts.sizeofDirEntry.toUInt64.toNat = 64 from rfl, UInt64.toNat_one, hn1] at e
        refine safe_append h3 (safe_cons (by omega) (safe_one ?_))
        rw [show Consts.sizeofDirEntry = 64 from rfl]; omega

/-- `it_read_link`: `target_size` bytes from a payload of `target_size + 1` into `calloc(1, target_size + 1)` -/
theorem read_link_safe (targetSize : UInt32) : ∀ a ∈ readLink targetSize, a.inBounds := by
  have h1 : (targetSize.toUInt64 + 1).toNat = targetSize.toNat + 1 := toNat_widen_add _ 1 (by decide)
  simp only [readLink, h1, UInt32.toNat_toUInt64]
  exact safe_cons (by omega) (safe_one (by omega))

/-! ## termination of the directory walks -/

/-- `fill_dir` (rdsquashfs, sqfsdiff): for every directory graph — cycles included — recursion depth never exceeds
`|S|`, where `S` is any list holding the inode numbers of the root and of every listing entry that is a directory
(the shape of `dir_rec_terminates`'s `R`; nothing is asked of references that occur in no listing): with fuel `|S|` the
walk ends with a tree or `LINK_LOOP`, never out of fuel -/
theorem fill_dir_terminates (g : DirGraph) (S : List UInt32) (root : Nat) (hroot : g.inum root ∈ S)
    (hS : ∀ r c, c ∈ g.entries r → g.isDir c = true → g.inum c ∈ S) :
    readTree g S.length root ≠ .error .fuel :=
  fillDir_ne_fuel g S hS _ _ _ (Room.single hroot)

/-- instance (all hypotheses discharged) on a graph whose inode numbers are injective (`inum r = r`, so no `S` shorter
than 2³² could cover *all* references): a tree of 4 directories, `S = [0, 1, 2, 3]` -/
example : readTree ⟨fun r => if r = 0 then [1, 2] else if r = 1 then [3] else [], fun _ => true, fun r => r.toUInt32⟩
    [(0 : UInt32), 1, 2, 3].length 0 ≠ .error .fuel := by
  -- the graph is `exTree`
  refine fill_dir_terminates exTree [0, 1, 2, 3] 0 (by decide) fun r c h hd => ?_
  have := exTree_refs r c h hd
  simp only [List.mem_cons, List.not_mem_nil, or_false] at this
  rcases this with rfl | rfl | rfl | rfl <;> decide

/-- `dir_rec.c` with the ancestor check of `fixes/C05-dir-rec-loop.patch` (/repo from 3706180 up to 3d0a29e; sqfs2tar): for every directory graph
whose directory entries have inode references in a list `R`, depth never exceeds `|R|` -/
theorem dir_rec_terminates (g : DirGraph) (R : List Nat)
    (hR : ∀ r c, c ∈ g.entries r → g.isDir c = true → c ∈ R) (root : Nat) :
    tarWalk true g (R.length + 1) root ≠ .error .fuel :=
  dirRec_ne_fuel g R hR _ _ _ ⟨List.nodup_nil, nofun, by simp⟩

/-! ## the repaired walks: every directory is entered at most once; nesting limit

`fillDirV` / `dirRecV` are the code in /repo: `fill_dir` and the recursive iterator with `fixes/C05-dir-visited-set.patch` (3d0a29e; a set of
the directories entered so far, shared by the whole walk) and `fixes/C05-nesting-limit.patch`
(9724762; `SQFS_MAX_DIR_NESTING`; the theorems hold for every value `limit` of the constant).  The two theorems above are
about the walks of the tree without these patches (ancestor checks only). -/

/-- `fill_dir` with the visited set: for **every** directory graph (cycles, directories listed many times) a tree
that is delivered has at most as many nodes as the directories of the image have listing entries — `R` is any
duplicate-free list of inode references that contains the root and every entry that is a directory.  (The walk of
the unpatched tree delivers `2^(n+1) - 2` nodes for `2n` entries: `Witness.dag_blowup_exponential`.) -/
theorem fill_dir_nodes_linear (g : DirGraph) (limit fuel root n : Nat) (R : List Nat) (hn : R.Nodup)
    (hR : ∀ r c, c ∈ g.entries r → g.isDir c = true → c ∈ R) (hroot : root ∈ R)
    (h : readTreeV g limit fuel root = .ok n) : n ≤ listingEntries g R := by
  unfold readTreeV at h
  split at h
  · rename_i n' vis' hf
    simp only [Except.ok.injEq] at h; subst h
    obtain ⟨m, e, gr⟩ := fillDirV_grew g limit R hR _ _ _ _ _ _ _ hf
    have : (g.entries root).length + m ≤ listingEntries g R :=
      gr.listing_le [root] (List.pairwise_singleton _ _) (List.forall_mem_singleton.2 List.mem_cons_self)
        (List.forall_mem_singleton.2 hroot)
    omega
  · simp at h

/-- the recursive iterator (sqfs2tar) with the visited set: the entries delivered are at most the listing of the
start directory plus the listings of the directories of the image (the start directory has no recorded identity,
so its listing may be counted once more) -/
theorem dir_rec_nodes_linear (g : DirGraph) (limit fuel root n : Nat) (R : List Nat) (hn : R.Nodup)
    (hR : ∀ r c, c ∈ g.entries r → g.isDir c = true → c ∈ R)
    (h : tarWalkV g limit fuel root = .ok n) : n ≤ (g.entries root).length + listingEntries g R := by
  unfold tarWalkV at h
  split at h
  · rename_i n' vis' hf
    simp only [Except.ok.injEq] at h; subst h
    obtain ⟨m, e, gr⟩ := dirRecV_grew g limit R hR _ _ _ _ _ _ hf
    have : 0 + m ≤ listingEntries g R := gr.listing_le [] List.nodup_nil nofun nofun
    omega
  · simp at h

/-- `fill_dir` with the nesting limit: for every directory graph the recursion is at most `limit + 2` frames deep
(`limit + 2` units of fuel are always enough: the walk ends with a tree, `LINK_LOOP` or `OVERFLOW`).  The same bound
holds for `resolve_ids` and `sqfs_dir_tree_destroy`, which recurse over the tree `fill_dir` built. -/
theorem fill_dir_depth_bounded (g : DirGraph) (limit root : Nat) :
    readTreeV g limit (limit + 2) root ≠ .error .fuel :=
  readTreeV_ne_fuel (fillDirV_depth g limit (limit + 2) 0 _ _ root (by omega) (by omega))

/-- the recursive iterator with the nesting limit: at most `limit + 1` iterators are ever on the stack -/
theorem dir_rec_depth_bounded (g : DirGraph) (limit root : Nat) :
    tarWalkV g limit (limit + 1) root ≠ .error .fuel :=
  tarWalkV_ne_fuel (dirRecV_depth g limit (limit + 1) 1 [] root (by omega) (by omega))

/-- whatever the value of the nesting limit: `would_be_own_parent` still bounds the depth of the repaired `fill_dir`
by the number of inode numbers -/
theorem fill_dir_v_terminates (g : DirGraph) (limit : Nat) (S : List UInt32) (root : Nat) (hroot : g.inum root ∈ S)
    (hS : ∀ r c, c ∈ g.entries r → g.isDir c = true → g.inum c ∈ S) :
    readTreeV g limit S.length root ≠ .error .fuel :=
  readTreeV_ne_fuel (fillDirV_ne_fuel g limit S hS _ 0 _ _ root (Room.single hroot))

/-- instance (all hypotheses discharged): the same tree, a one-directory cycle below it (`3` lists itself), limit 4096 -/
example : readTreeV ⟨fun r => if r = 0 then [1, 2] else if r = 1 then [3] else if r = 3 then [3] else [], fun _ => true,
    fun r => r.toUInt32⟩ 4096 [(0 : UInt32), 1, 2, 3].length 0 ≠ .error .fuel := by
  refine fill_dir_v_terminates _ 4096 [0, 1, 2, 3] 0 (by decide) ?_
  intro r c h _
  simp only at h
  (repeat' split at h) <;> simp at h <;> (try rcases h with rfl | rfl) <;> decide

/-- whatever the value of the nesting limit: the visited set alone (it replaces the ancestor list of the unpatched
tree) bounds the depth of the recursive iterator by the number of directory inode references -/
theorem dir_rec_v_terminates (g : DirGraph) (limit : Nat) (R : List Nat)
    (hR : ∀ r c, c ∈ g.entries r → g.isDir c = true → c ∈ R) (root : Nat) :
    tarWalkV g limit (R.length + 1) root ≠ .error .fuel :=
  tarWalkV_ne_fuel (dirRecV_ne_fuel g limit R hR _ 1 _ root ⟨List.nodup_nil, nofun, by simp⟩)

/-! ## non-vacuity: the hypotheses are satisfiable and the conclusions speak about real accesses -/

example : MetaCodecOk exCfg := by intro b n h; simp [exCfg] at h
example : (mread true exCfg (seek exCfg MetaSt.init 96 10).st 150).acc.length = 5 := by decide
example : (mread true exCfg (seek exCfg MetaSt.init 96 10).st 150).r = .ok () := by decide
example : getFragment true 4096 5000 1 3000 (.ok ()) =
    .ok [⟨.fragOut, 0, 904, 904⟩, ⟨.fragBlock, 3000, 904, 4096⟩] := by decide
example : getFragment true 4096 5000 1 4000000000 (.ok ()) = .error .oob := by decide
example : (streamFill true 4096 ⟨0, 0, 10000, 0, 2, false⟩ 0x1000800 ⟨false, none⟩ (.ok 0) 0).2.1 = .data 4096 := by
  decide
example : (dataRead 4096 (fun _ => 0x1001000) (fun _ => true) 2 9000 4000 500 100 (.ok 4096)).1 = .ok 500 := by decide
example : (readInodeDirExt 10 [3, 0xFFFFFFFF, 200]).isOk = true := by decide
example : (resolveCompare true [97, 98] [97, 98, 47, 99]).1 = true := by decide
example : readTree ⟨fun r => if r = 0 then [1, 2] else [], fun _ => true, fun r => r.toUInt32⟩ 3 0 = .ok 2 := by decide
example : readTree ⟨fun _ => [0], fun _ => true, fun _ => 7⟩ 1 0 = .error .linkLoop := by decide

/-! one instance per remaining theorem: the hypotheses hold and the conclusion is about real accesses -/
example : (seek exCfg MetaSt.init 96 10).r = .ok () ∧ (seek exCfg MetaSt.init 96 10).acc = [⟨.metaData, 0, 100, 8192⟩] := by decide
/-- a seek that fails after the old block was given up leaves the cleared reader, and the reader is used on -/
example : (seek exCfg (seek exCfg MetaSt.init 96 10).st 300 100).st = MetaSt.cleared ∧
    (mread true exCfg (seek exCfg (seek exCfg MetaSt.init 96 10).st 300 100).st 5).r = .error .oob := by decide
example : (mread false exCfg (seek exCfg MetaSt.init 96 10).st 1000).r = .ok () := by decide
example : (runOps true exCfg MetaSt.init [.seek 96 99, .read 3, .seek 5 0, .read 2, .seek 96 100, .read 1]).length = 9 := by decide
example : getBlock 4096 .blockOut 0x1000800 4096 ⟨false, none⟩ = (.ok 2048, [⟨.blockOut, 0, 2048, 4096⟩]) := by decide
example : getBlock 4096 .blockOut 0x800 4096 ⟨false, some 4096⟩ =
    (.ok 4096, [⟨.drScratch, 0, 2048, 4096⟩, ⟨.blockOut, 0, 4096, 4096⟩]) := by decide
example : (readTable 10000 (fun _ => true)).1 = .ok () ∧ (readTable 10000 (fun _ => true)).2.length = 4 := by decide
example : (readTable 10000 (fun i => i == 0)).1 = .error .io := by decide
example : readInodeFile 10000 4096 0xFFFFFFFF 0 = .ok [⟨.inodeExtra, 0, 12, 12⟩] := by decide
example : readInodeFile 0xFFFFFFFFFFFFFFFF 1 0xFFFFFFFF 0 = .error .overflow := by decide
example : readInodeSlink 5 = .ok [⟨.inodeExtra, 0, 5, 6⟩] := by decide
example : readDirEnt 0xFFFF = [⟨.dirEntName, 0, 65536, 65537⟩] := by decide
example : readdirStep ⟨100, 0⟩ 2 5 = some ⟨74, 2⟩ ∧ readdirStep ⟨20, 0⟩ 0 0 = none := by decide
example : (unpackIdx true 40 (fun o => if o == 0 then 3 else 7) 5 0 1 []).1 = .ok () := by decide
example : (unpackIdx true 40 (fun _ => 0xFFFFFFFE) 5 0 0 []).1 = .error .oob := by decide
example : tarWalk true ⟨fun r => if r = 0 then [1] else [0], fun _ => true, fun _ => 1⟩ 4 0 = .error .linkLoop := by decide
example : codecContract 8192 8192 = true ∧ codecContract 8192 8193 = false ∧ codecContract 0 (-3) = true := by decide

example : readTreeV exTree 4096 5 0 = .ok 3 := by decide
example : tarWalkV exTree 4096 5 0 = .ok 3 := by decide
example : listingEntries exTree [0, 1, 2, 3] = 3 := by decide
example : readTreeV exShared 4096 5 0 = .error .linkLoop := by decide
example : tarWalkV exShared 4096 5 0 = .error .linkLoop := by decide
example : readTreeV exChain 3 5 0 = .ok 4 := by decide        -- directories at level 1..3, a file at level 4
example : readTreeV exChain 2 4 0 = .error .overflow := by decide
example : tarWalkV exChain 3 4 0 = .ok 4 := by decide
example : tarWalkV exChain 2 3 0 = .error .overflow := by decide

example : (superRead false exSuper).1 = .ok () := by decide
example : (superRead false { exSuper with blockSize := 0 }).1 = .error .superBlockSize := by decide
example : (superRead false { exSuper with blockLog := 16 }).1 = .error .corrupted := by decide
example : idTableReq exSuper = .ok ⟨8, 900, 500, 900⟩ := by decide
example : fragTableReq exSuper = .ok (some ⟨16, 500, 300, 900⟩) := by decide
example : fragTableReq { exSuper with fragTableStart := 900 } = .error .corrupted := by decide
example : indexToId 2 2 = .error .oob := by decide
/-- xattr reader: 600 descriptors need two location entries; descriptor 512 is the first one of the second block -/
example : (xattrLoad exSuper XattrSt.init false 96 600 false (fun i => 100 + 10 * i.toUInt64)).r = .ok () := by decide
example : (xattrLoad exSuper XattrSt.init false 96 600 false (fun _ => 1001)).r = .error .oob := by decide
example : (xattrGetDesc exCfg (xattrLoad exSuper XattrSt.init false 96 600 false (fun i => 100 + 10 * i.toUInt64)).st 512).acc.head? =
    some ⟨.xattrDesc, 0, 16, 16⟩ := by decide
example : (kvRead exCfg 96 100000 ⟨0x101, 3, 7, ((200 : UInt64) <<< 16) ||| 5⟩ (seek exCfg MetaSt.init 96 0).st).r = .ok () := by decide
example : (kvRead exCfg 96 100000 ⟨7, 3, 7, 0⟩ (seek exCfg MetaSt.init 96 0).st).r = .error .unsupported := by decide
example : (dirEntryFromInode 2 1 1 [97, 0, 98] 3).1 = .ok () := by decide
example : (dirEntryFromInode 2 1 2 [97] 1).1 = .error .corrupted := by decide
example : (openDir true 0 300 0 (fun i => if i = 5 then some 0 else none) ⟨1, 0, 0, 3, 5, 6⟩).map (·.state) = .ok .opened := by
  decide

/-! further theorems applied with every hypothesis discharged -/

example : tarWalk true exTree ([0, 1, 2, 3].length + 1) 0 ≠ .error .fuel := dir_rec_terminates exTree [0, 1, 2, 3] exTree_refs 0
example : tarWalkV exTree 4096 ([0, 1, 2, 3].length + 1) 0 ≠ .error .fuel := dir_rec_v_terminates exTree 4096 [0, 1, 2, 3] exTree_refs 0
example : 3 ≤ listingEntries exTree [0, 1, 2, 3] :=
  fill_dir_nodes_linear exTree 4096 5 0 3 [0, 1, 2, 3] (by decide) exTree_refs (by decide) (by decide)
example : 3 ≤ (exTree.entries 0).length + listingEntries exTree [0, 1, 2, 3] :=
  dir_rec_nodes_linear exTree 4096 5 0 3 [0, 1, 2, 3] (by decide) exTree_refs (by decide)
/-- key, value and the whole pair of an xattr with an out-of-line value, from a reader positioned by `seek` -/
example :
    let m := (seek exCfg MetaSt.init 96 0).st
    let a : KvAns := ⟨0x101, 3, 7, ((200 : UInt64) <<< 16) ||| 5⟩
    (∀ x ∈ (kvReadKey exCfg a m).acc, x.inBounds) ∧ (∀ x ∈ (kvReadValue exCfg 96 100000 a m).acc, x.inBounds) ∧
      (∀ x ∈ (kvRead exCfg 96 100000 a m).acc, x.inBounds) := by
  intro m a
  have hc : MetaCodecOk exCfg := by intro b n h; simp [exCfg] at h
  have hm : m.dataUsed.toNat ≤ metaCap := by decide
  exact ⟨(xattr_read_key_safe exCfg hc a m hm).1, (xattr_read_value_safe exCfg hc 96 100000 a m hm).1,
    (xattr_read_safe exCfg hc 96 100000 a m hm).1⟩
end Sqfs.C05
