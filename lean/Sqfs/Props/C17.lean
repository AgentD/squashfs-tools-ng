/-
C17 — Packing directives are honoured exactly in the on-disk layout.

Property theorems only.  The sort-file theorems are about the model of `sort_by_file.c` (`Sqfs/Model/Sort.lean`, and
`Sqfs/Model/C17SortTree.lean` for the whole `fstree_t`); the directive theorems about the functional specification `specPack`
(`Sqfs/Spec/PackSpec.lean`, DESIGN.md Appendix B) — that the queue/thread implementation model computes `specPack` is
proved in C02 (`Sqfs.C02.run_eq_specPack`, `threaded_eq_specPack`; `Sqfs.C02.threaded_directives` carries the directive theorems
over), here `specPack` is tied to the real tools by the byte-level image comparison of `tools/checks/c17.py`;
the export-table theorems about the table as `dir_writer.c` builds it (`Sqfs/Model/C17Export.lean`).  Every theorem quantifies
over all file lists / sort lines / contents / block sizes / codecs / checksum functions; `fnmatch` is the parameter `mt`.
-/
import Sqfs.Proofs.Sort
import Sqfs.Proofs.SelectSort
import Sqfs.Proofs.PackPos
import Sqfs.Proofs.C17Export
import Sqfs.Proofs.C17SortTree
import Sqfs.Proofs.C17Mkfs
import Sqfs.Model.C17SortTree
import Sqfs.Proofs.Numbering
import Sqfs.Proofs.PackContent
namespace Sqfs.C17
open Sqfs.Sort Sqfs.Pack

/-- the packing order is a permutation of the file list: no file is lost or duplicated -/
theorem sort_perm (fs : List FileEnt) : (sortFileList fs).Perm fs :=
  (sortBy_sel _ fs).perm

/-- the file list of the instances: three files, a tie in priority -/
def exList : List FileEnt := [{ path := [97], priority := 7 }, { path := [98], priority := -5 }, { path := [99], priority := 7, flags := 1 }]
example := sort_perm exList

/-- ascending priority -/
theorem sort_sorted (fs : List FileEnt) : (sortFileList fs).Pairwise (fun a b => a.priority ≤ b.priority) :=
  (sortBy_sel (·.priority) fs).sorted

example := sort_sorted exList

/-- stable: for every priority `p`, the files of priority `p` appear in their default (input) order -/
theorem sort_stable (fs : List FileEnt) (p : Int) :
    (sortFileList fs).filter (fun f => f.priority == p) = fs.filter (fun f => f.priority == p) :=
  (sortBy_sel (·.priority) fs).stable p

example := sort_stable exList 7

/-- **First match wins.**  With distinct paths (a tree has no two files of the same path), every file ends up with
priority and flags of the *first* line of the sort file that matches its path, and with the defaults `(0, 0)` if no
line matches — whatever later lines say, however patterns overlap. -/
theorem first_match_wins (mt : Matcher) (ls : List SortLine) (paths : List (List UInt8)) (hnd : paths.Nodup) :
    applyLines mt ls (resetFiles (paths.map (fun p => ({ path := p } : FileEnt))))
      = paths.map (fun p => match ls.find? (fun l => lineMatches mt l p) with
          | some l => ({ path := p, priority := l.priority, flags := l.dir.flags, matched := true } : FileEnt)
          | none => { path := p }) := by
  have hreset : resetFiles (paths.map (fun p => ({ path := p } : FileEnt))) = paths.map (fun p => { path := p }) := by
    simp [resetFiles, List.map_map, Function.comp_def]
  rw [hreset, applyLines_eq_map mt ls _ (by simpa [List.map_map, Function.comp_def] using hnd)]
  simp only [List.map_map, Function.comp_def]
  apply List.map_congr_left
  intro p _
  exact foldl_stepFile_fresh mt ls p

/-- instance: "*" matches everything; overlapping glob and exact lines over three distinct paths -/
def exMatcher : Matcher := fun _ pat path => pat == [42] || pat == path
example := first_match_wins exMatcher [⟨-5, {}, [98]⟩, ⟨7, { doGlob := true, flags := 1 }, [42]⟩, ⟨-9, {}, [97]⟩] [[97], [98], [99]]
  (by decide)

/-- **An exact-path line matches one file.**  A line without `glob`/`glob_no_path` changes at most one entry of the
file list: the first not yet matched file whose path equals the name (also when paths repeat). -/
theorem exact_line_matches_one (mt : Matcher) (l : SortLine) (h : l.dir.doGlob = false) (fs : List FileEnt) :
    applyLine mt l fs = fs ∨
    ∃ pre f post, fs = pre ++ f :: post ∧ f.matched = false ∧ f.path = l.pattern
      ∧ (∀ g ∈ pre, g.matched = true ∨ g.path ≠ l.pattern)
      ∧ applyLine mt l fs = pre ++ mark l f :: post := by
  induction fs with
  | nil => left; rfl
  | cons f fs ih =>
    by_cases hs : f.matched = true ∨ lineMatches mt l f.path = false
    · -- `f` is passed over: the first hit, if any, is in the rest
      have hpre : f.matched = true ∨ f.path ≠ l.pattern :=
        hs.imp_right fun hl e => by simp [lineMatches, h, e] at hl
      rw [applyLine_cons_skip mt l f fs hs]
      rcases ih with ih | ⟨pre, g, post, h1, h2, h3, h4, h5⟩
      · left; rw [ih]
      · right
        exact ⟨f :: pre, g, post, by rw [h1]; rfl, h2, h3, List.forall_mem_cons.2 ⟨hpre, h4⟩, by rw [h5]; rfl⟩
    · obtain ⟨hm, hl⟩ := not_skip hs
      right
      rw [applyLine_cons_hit mt l f fs hm hl, h]
      exact ⟨[], f, fs, rfl, hm, by simpa [lineMatches, h] using hl, fun _ hx => absurd hx List.not_mem_nil, rfl⟩

/-- instance: the path of the line occurs three times in the list, once already matched by an earlier line; the line marks
one entry (the second disjunct holds: the list changes) -/
example := exact_line_matches_one exMatcher ⟨-5, {}, [98]⟩ rfl
  [{ path := [97] }, { path := [98], matched := true }, { path := [98] }, { path := [98] }]
example : applyLine exMatcher ⟨-5, {}, [98]⟩ [{ path := [97] }, { path := [98], matched := true }, { path := [98] }, { path := [98] }]
    ≠ [{ path := [97] }, { path := [98], matched := true }, { path := [98] }, { path := [98] }] := by decide

/-- **Quoted names.**  Every name — whatever bytes it contains — can be written in a sort file between quotes
(`\"` for `"`, `\\` for `\`) and is then decoded to exactly that name (and canonicalised like an unquoted one).
This is the current decoder (/repo 3c63401); the one before it appended the stale tail of the buffer (`Witness.C17.d26_current`). -/
theorem quoted_name_decodes (n : List UInt8) :
    decodeFilename true (QUOTE :: (escapeName n ++ [QUOTE]))
      = match Sqfs.Path.canonicalize n with
        | none => .error .canon
        | some r => .ok r := by
  unfold decodeFilename
  simp only [if_true, unquote_escape n [], ne_eq, not_true_eq_false, if_false]
  cases Sqfs.Path.canonicalize n <;> rfl

/-- instance: a name with a quote, a backslash, a blank and a slash -/
example := quoted_name_decodes [97, 34, 92, 32, 47, 98]

-- non-vacuity: a concrete run with negative priorities, a tie, overlapping glob and exact lines
example :
    let mt : Matcher := fun _ pat path => pat == [42] || pat == path      -- "*" matches everything
    let ls : List SortLine := [⟨-5, {}, [98]⟩, ⟨7, { doGlob := true, flags := 1 }, [42]⟩, ⟨-9, {}, [97]⟩]
    (sortFileList (applyLines mt ls (resetFiles [{ path := [97] }, { path := [98] }, { path := [99] }]))).map
        (fun f => (f.path, f.priority, f.flags))
      = [([98], -5, 0), ([97], 7, 1), ([99], 7, 1)] := by decide

open Sqfs.C17SortTree in
open Sqfs.FsTree hiding FileEnt sortFileList sortFiles in
/-- **The sort file does not change the tree.**  `fstree_sort_files` on a whole `fstree_t` (`FsTree.Result`): the
node tree (names, modes, owners, targets, link counts) and the `fs->inodes` array (hence every inode number) are the
ones it was given, `fs->files` is a permutation of the old list, and the per-file attributes it leaves behind are
exactly what the list-level model `sortFiles` (the function compared with the real code on every run, and the subject
of the theorems above) computes for the files' paths.  The first two conjuncts hold by construction of the model —
the model writes no other field; that the *real* function writes no other field of any node is observed on every run
(harness op `sortx`, dump of the complete tree before and after), not proved. -/
theorem directives_preserve_tree (terminate : Bool) (mt : Matcher) (rawLines : List (List UInt8)) (R : Result) (s : Sorted)
    (h : fstreeSortFiles terminate mt rawLines R = .ok s) :
    s.fs.tree = R.tree ∧ s.fs.inodes = R.inodes ∧ s.fs.files.Perm R.files
      ∧ s.attrs.map (·.path) = s.fs.files.map joinPath
      ∧ sortFiles terminate mt rawLines (R.files.map joinPath) = .ok s.attrs := by
  unfold fstreeSortFiles at h
  cases hd : decodeLines terminate 0 rawLines with
  | error e => rw [hd] at h; cases h
  | ok ls =>
    rw [hd] at h
    simp only [Except.ok.injEq] at h
    subst h
    -- the marked list, one entry per file of `R.files`
    generalize hm : applyLines mt ls (resetFiles (R.files.map (fun p => ({ path := joinPath p } : FileEnt)))) = marked
    have hpaths : marked.map (·.path) = R.files.map joinPath := by
      rw [← hm, applyLines_paths]; simp [resetFiles, List.map_map, Function.comp_def]
    have hlen : marked.length = R.files.length := by simpa using congrArg List.length hpaths
    have hperm := (sortBy_sel (fun x : Path × FileEnt => x.2.priority) (R.files.zip marked)).perm
    refine ⟨rfl, rfl, ?_, ?_, ?_⟩
    · have := hperm.map (·.1)
      rwa [List.map_fst_zip (Nat.le_of_eq hlen.symm)] at this
    · simp only [List.map_map]
      apply List.map_congr_left
      intro x hx
      exact mem_zip_of_map_eq joinPath (·.path) R.files marked hpaths x (hperm.mem_iff.mp hx)
    · simp only [sortFiles, hd, sortFileList]
      have e : (R.files.map joinPath).map (fun p => ({ path := p } : FileEnt))
          = R.files.map (fun p => ({ path := joinPath p } : FileEnt)) := by simp [List.map_map, Function.comp_def]
      rw [e, hm]
      have := sortBy_map (fun x : Path × FileEnt => x.2) (fun f : FileEnt => f.priority) (R.files.zip marked)
      rw [List.map_snd_zip (Nat.le_of_eq hlen)] at this
      exact congrArg Except.ok this.symm

open Sqfs.C17SortTree in
open Sqfs.FsTree hiding FileEnt sortFileList sortFiles in
/-- instance with the hypothesis met: two files, the second is moved to the front by the line `-5 b` -/
example : ∃ s, fstreeSortFiles true (fun _ _ _ => false) [[45, 53, 32, 98]]
      { tree := default, inodes := [[[98]], [[97]], []], files := [[[97]], [[98]]] } = .ok s ∧
    s.fs.inodes = [[[98]], [[97]], []] ∧ s.fs.files.Perm [[[97]], [[98]]] := by
  have hk : (fstreeSortFiles true (fun _ _ _ => false) [[45, 53, 32, 98]]
      { tree := default, inodes := [[[98]], [[97]], []], files := [[[97]], [[98]]] }).toBool = true := by decide
  cases h : fstreeSortFiles true (fun _ _ _ => false) [[45, 53, 32, 98]]
      { tree := default, inodes := [[[98]], [[97]], []], files := [[[97]], [[98]]] } with
  | error e => rw [h] at hk; cases hk
  | ok s =>
    obtain ⟨_, hinodes, hperm, _⟩ := directives_preserve_tree true (fun _ _ _ => false) [[45, 53, 32, 98]] _ s h
    exact ⟨s, rfl, hinodes, hperm⟩

-- non-vacuity: two files, the second is moved to the front; tree and inode array are carried along
open Sqfs.C17SortTree in
open Sqfs.FsTree hiding FileEnt sortFileList sortFiles in
example :
    let R : Result := { tree := default, inodes := [[[98]], [[97]], []], files := [[[97]], [[98]]] }
    (fstreeSortFiles true (fun _ _ _ => false) [[45, 53, 32, 98]] R).toOption.map
        (fun s => (s.fs.inodes, s.fs.files, s.attrs.map (fun f => (f.path, f.priority))))
      = some ([[[98]], [[97]], []], [[[98]], [[97]]], [([98], -5), ([97], 0)]) := by decide

open Sqfs.C17Mkfs in
/-- **`sort_then_pack_flags`.**  The whole way of a directive, for every sort file (as text), every file list with distinct
paths, every `-T` setting, block size and file contents: if `fstree_sort_files` accepts the sort file, then
`decodeLines` turned its text into lines `ls` (priority, flag word, glob kind, name — `decode_priority` / `decode_flags` /
`decode_filename`), `fs->files` afterwards is the first-match marking of the default list sorted stably by priority
(so `sort_perm` / `sort_sorted` / `sort_stable` speak about it), and `pack_files` (`Sqfs/Model/C17Mkfs.lean`) hands the
files to the block processor **in exactly that order**, file `f` with its contents and with the flags
`effectiveFlags (-T) B size (flags of the first line of the sort file that matches f's path)` — `Flags.ofNat 0`, i.e. no
flag, when no line matches; never a later line's flags, never another file's.  The list on the right is what the
`specPack` theorems below (and, through `Sqfs.C02.run_eq_specPack` / `threaded_directives`, the block processor
model) take as `files`. -/
theorem sort_then_pack_flags (mt : Matcher) (rawLines : List (List UInt8)) (paths : List (List UInt8)) (hnd : paths.Nodup)
    (noTail : Bool) (B : Nat) (content : List UInt8 → List UInt8) (inputs : List InFile)
    (h : sortThenPack mt (some rawLines) paths noTail B content = .ok inputs) :
    ∃ ls sorted, decodeLines true 0 rawLines = .ok ls ∧
      sorted = sortFileList (paths.map (fun p => match ls.find? (fun l => lineMatches mt l p) with
          | some l => ({ path := p, priority := l.priority, flags := l.dir.flags, matched := true } : FileEnt)
          | none => { path := p })) ∧
      (sorted.map (·.path)).Perm paths ∧
      inputs = sorted.map (fun f => (⟨effectiveFlags noTail B (content f.path).length
          (Flags.ofNat (match ls.find? (fun l => lineMatches mt l f.path) with | some l => l.dir.flags | none => 0)),
          content f.path⟩ : InFile)) := by
  unfold sortThenPack sortFiles at h
  cases hd : decodeLines true 0 rawLines with
  | error e => simp [hd] at h
  | ok ls =>
    simp only [hd, Except.ok.injEq] at h
    rw [first_match_wins mt ls paths hnd] at h
    refine ⟨ls, _, rfl, rfl, ?_, ?_⟩
    · refine ((sort_perm _).map (·.path)).trans (List.Perm.of_eq ?_)
      rw [List.map_map]
      conv => rhs; rw [← List.map_id paths]
      apply List.map_congr_left
      intro p _
      simp only [Function.comp]
      split <;> rfl
    · rw [← h, packFiles_eq_map]
      apply List.map_congr_left
      intro f hf
      have hf' := (sort_perm _).mem_iff.mp hf
      obtain ⟨p, _, rfl⟩ := List.mem_map.mp hf'
      simp only [C17Mkfs.packFile, ofNat_packFileFlags]
      cases hfd : ls.find? (fun l => lineMatches mt l p) with
      | none => simp only [hfd]
      | some l => simp only [hfd]

open Sqfs.C17Mkfs in
/-- no sort file: default order, no flag but what `-T` adds -/
theorem no_sort_file_pack_flags (mt : Matcher) (paths : List (List UInt8)) (noTail : Bool) (B : Nat)
    (content : List UInt8 → List UInt8) :
    sortThenPack mt none paths noTail B content
      = .ok (paths.map (fun p => (⟨effectiveFlags noTail B (content p).length {}, content p⟩ : InFile))) := by
  simp only [sortThenPack, packFiles_eq_map, List.map_map]
  congr 1
  apply List.map_congr_left
  intro p _
  simp only [Function.comp, C17Mkfs.packFile, ofNat_packFileFlags, ofNat_zero]

open Sqfs.C17Mkfs in
/-- **text → flag word.**  An accepted flag list sets exactly the bits of the names it contains (each argument trimmed;
`glob` / `glob_no_path` set none): `dont_compress`, `dont_fragment`, `dont_deduplicate`, `nosparse` reach `specPack`'s
`Flags` as the fields of the same name, `DONT_HASH` is never set. -/
theorem flag_list_decodes (args : List (List UInt8)) (d : Directives) (h : applyFlagNames {} args = .ok d) :
    Flags.ofNat d.flags =
      { dontCompress := (args.map trim).any (· == nmDontCompress)
        dontHash := false
        dontFragment := (args.map trim).any (· == nmDontFragment)
        dontDedup := (args.map trim).any (· == nmDontDeduplicate)
        ignoreSparse := (args.map trim).any (· == nmNosparse) } := by
  rw [applyFlagNames_flags args {} d h]
  simp only [Flags.ofNat, testBit_foldl, testBit_nameBit_dontCompress, testBit_nameBit_dontHash, testBit_nameBit_dontFragment,
    testBit_nameBit_dontDeduplicate, testBit_nameBit_ignoreSparse]
  simp [testBit]

/-- instance: the sort file `-5 [dont_compress] b⏎ 7 [glob,nosparse] *⏎` over `a`, `b`, `c` with `-T`, block size 4:
`b` is packed first with `dont_compress` (its own line, not the later `*`), then `a` and `c` with `nosparse`; `c` is larger
than a block and gets `dont_fragment` from `-T` -/
example :
    (Sqfs.C17Mkfs.sortThenPack exMatcher
      (some [[45, 53, 32, 91, 100, 111, 110, 116, 95, 99, 111, 109, 112, 114, 101, 115, 115, 93, 32, 98],
             [55, 32, 91, 103, 108, 111, 98, 44, 110, 111, 115, 112, 97, 114, 115, 101, 93, 32, 42]])
      [[97], [98], [99]] true 4 (fun p => if p = [99] then [1, 2, 3, 4, 5] else p)).toOption.map
        (fun l => l.map (fun f => (f.flags, f.data)))
    = some [({ dontCompress := true }, [98]), ({ ignoreSparse := true }, [97]),
            ({ ignoreSparse := true, dontFragment := true }, [1, 2, 3, 4, 5])] := by decide +kernel
example := fun inputs h => sort_then_pack_flags exMatcher
      [[45, 53, 32, 91, 100, 111, 110, 116, 95, 99, 111, 109, 112, 114, 101, 115, 115, 93, 32, 98],
       [55, 32, 91, 103, 108, 111, 98, 44, 110, 111, 115, 112, 97, 114, 115, 101, 93, 32, 42]]
      [[97], [98], [99]] (by decide) true 4 (fun p => if p = [99] then [1, 2, 3, 4, 5] else p) inputs h
example := no_sort_file_pack_flags exMatcher [[97], [98], [99]] true 4 (fun p => if p = [99] then [1, 2, 3, 4, 5] else p)
/-- instance: the flag list ` nosparse,glob` (blank before the name) -/
example := flag_list_decodes [[32, 110, 111, 115, 112, 97, 114, 115, 101], [103, 108, 111, 98]]
  { doGlob := true, pathGlob := true, flags := 16 } (by rfl)

/-! the instances of the `specPack` theorems: block size 4, a codec that really compresses (`7 7 7 7 ↦ 9`) **and meets the contract
`Codec.Ok`** (`exCodec_ok`), six files — a dedup hit (files 0, 1), `dont_deduplicate` (2), `nosparse` with an all-zero tail (3),
all three layout flags on a file ending in zero blocks (4), `dont_compress` on compressible data with a tail (5) -/

def exCodec : Codec := ⟨fun x => if x = [7, 7, 7, 7] then some [9] else none, fun z => if z = [9] then [7, 7, 7, 7] else z⟩
theorem exCodec_ok : exCodec.Ok := by
  constructor
  · intro x z h; simp only [exCodec] at h; split at h
    · cases h; subst x; decide
    · cases h
  · intro x z h; simp only [exCodec] at h; split at h
    · cases h; subst x; decide
    · cases h
def exParams : Params := { B := 4, base := 96, h := fun _ => 0, codec := exCodec }
def exFlags3 : Flags := { dontCompress := true, dontFragment := true, ignoreSparse := true }
def exFiles : List InFile :=
  [⟨{}, [7, 7, 7, 7, 1, 2]⟩, ⟨{}, [7, 7, 7, 7, 1, 2]⟩, ⟨{ dontDedup := true }, [7, 7, 7, 7, 1, 2]⟩,
   ⟨{ ignoreSparse := true }, [0, 0, 0, 0, 0]⟩, ⟨exFlags3, [7, 7, 7, 7, 0, 0, 0, 0, 0, 0]⟩,
   ⟨{ dontCompress := true }, [7, 7, 7, 7, 7, 7, 7, 7, 1, 2]⟩]
/-- the codec does compress on these inputs: file 0's first block is stored as one byte -/
example : ((specPack exParams exFiles).files[0]?).map (fun r => r.words.map Word.toNat) = some [1] := by decide

/-- **`dont_compress`, block words.**  Every block word of a `dont_compress` file is a hole or carries the
"stored uncompressed" bit. -/
theorem dont_compress_words (P : Params) (files : List InFile) (i : Nat) (h : i < files.length)
    (hf : files[i].flags.dontCompress = true) :
    ∃ r, (specPack P files).files[i]? = some r ∧
      ∀ w ∈ r.words, w = .sparse ∨ ∃ n, w = .stored n true := by
  obtain ⟨σ, hσ⟩ := specPack_file P files i h
  refine ⟨_, hσ, fun w hw => ?_⟩
  rw [packFile_words, workedOf, List.map_map] at hw
  obtain ⟨d, _, rfl⟩ := List.mem_map.1 hw
  exact workData_word_dontCompress P _ d hf

example := dont_compress_words exParams exFiles 4 (by decide) rfl
example := dont_compress_words exParams exFiles 5 (by decide) rfl

/-- **`dont_fragment`.**  No fragment reference; the tail end is stored as block `k`: the inode has
`⌈size / B⌉` block words. -/
theorem dont_fragment_effect (P : Params) (files : List InFile) (i : Nat) (h : i < files.length)
    (hf : files[i].flags.dontFragment = true) :
    ∃ r, (specPack P files).files[i]? = some r ∧ r.frag = none ∧
      r.words.length = files[i].data.length / P.B + (if files[i].data.length % P.B > 0 then 1 else 0) := by
  obtain ⟨σ, hσ⟩ := specPack_file P files i h
  refine ⟨_, hσ, by rw [packFile_frag, if_neg (by simp [hasTailFrag, hf])], ?_⟩
  rw [packFile_words, workedOf, List.length_map, List.length_map, blocksOf_length, tailAsBlock_of_dontFragment hf]
  simp only [decide_eq_true_eq]

example := dont_fragment_effect exParams exFiles 4 (by decide) rfl

/-- **`nosparse`.**  No block word of the file is a hole, the sparse counter is 0 (so the inode is not made
extended on account of holes) and a tail end that is packed as a fragment does get a fragment reference —
all-zero blocks and all-zero tails included. -/
theorem nosparse_effect (P : Params) (files : List InFile) (i : Nat) (h : i < files.length)
    (hf : files[i].flags.ignoreSparse = true) :
    ∃ r, (specPack P files).files[i]? = some r ∧ (∀ w ∈ r.words, w ≠ .sparse) ∧ r.sparse = 0 ∧ r.extended = false
      ∧ (hasTailFrag P.B files[i] = true → ∃ idx off, r.frag = some (idx, off)) := by
  obtain ⟨σ, hσ⟩ := specPack_file P files i h
  have hw : ∀ w ∈ workedOf P files[i], ∃ s, w = .stored s := by
    intro w hw
    obtain ⟨d, _, rfl⟩ := List.mem_map.1 hw
    exact workData_nosparse P _ d hf
  have hsp : (packFile P σ files[i]).2.sparse = 0 := by
    rw [packFile_sparse]
    apply List.sum_eq_zero_iff_forall_eq_nat.mpr
    intro x hx
    obtain ⟨w, hwm, rfl⟩ := List.mem_map.1 hx
    obtain ⟨s, rfl⟩ := hw w hwm
    rfl
  refine ⟨_, hσ, ?_, hsp, by simp [FileResult.extended, hsp], fun ht => ?_⟩
  · rw [packFile_words]
    intro w hwm
    obtain ⟨w', hw', rfl⟩ := List.mem_map.1 hwm
    obtain ⟨s, rfl⟩ := hw w' hw'
    exact Word.noConfusion
  · -- with `nosparse` an all-zero tail end is no hole: it goes into a fragment block
    rw [packFile_frag, if_pos (by simp [ht, hf])]
    exact ⟨_, _, rfl⟩

example := nosparse_effect exParams exFiles 3 (by decide) rfl
example := nosparse_effect exParams exFiles 4 (by decide) rfl
example : hasTailFrag exParams.B exFiles[3] = true := by decide

-- non-vacuity of the three: a `nosparse, dont_fragment, dont_compress` file of zero bytes (B = 4, no compression)
example :
    let P : Params := { B := 4, base := 96, codec := ⟨fun _ => none, id⟩, h := fun _ => 0 }
    let F : Flags := { dontCompress := true, dontFragment := true, ignoreSparse := true }
    (specPack P [⟨F, [0, 0, 0, 0, 0, 0]⟩]).files
      = [⟨6, [.stored 4 true, .stored 2 true], 96, none, 0, false⟩] := by decide

/-- **`--no-tail-packing` affects only files larger than one block** — **definition-level**: this restates the one-line model
`effectiveFlags` of the option handling (`if (opt->no_tail_packing && filesize > block_size) flags |= DONT_FRAGMENT`; proof:
`simp [effectiveFlags]`) and carries no weight of its own.  The flag word that `pack_file` (`mkfs.c`) / `write_file`
(`tar2sqfs`) hands to the block processor is the sort-file flag word for every file of at most one block, and differs from it
exactly in `DONT_FRAGMENT` for larger files; without `-T` it is always the sort-file flag word.  The statement with content is
the layout consequence `no_tail_packing_layout` below; that the real option handling is this line is compared on real images. -/
theorem no_tail_packing_only_large (B size : Nat) (F : Flags) :
    (size ≤ B → effectiveFlags true B size F = F)
    ∧ (size > B → effectiveFlags true B size F = { F with dontFragment := true })
    ∧ effectiveFlags false B size F = F := by
  refine ⟨?_, ?_, ?_⟩
  · intro h; simp [effectiveFlags, Nat.not_lt.2 h]
  · intro h; simp [effectiveFlags, h]
  · simp [effectiveFlags]

example := no_tail_packing_only_large 4 6 exFlags3

/-- … and the layout consequence: with `-T`, a file of at most one block is packed exactly as without `-T`
(in every state), a larger file never gets a fragment reference. -/
theorem no_tail_packing_layout (P : Params) (σ : State) (F : Flags) (d : List UInt8) :
    (d.length ≤ P.B → packFile P σ ⟨effectiveFlags true P.B d.length F, d⟩ = packFile P σ ⟨F, d⟩)
    ∧ (d.length > P.B → (packFile P σ ⟨effectiveFlags true P.B d.length F, d⟩).2.frag = none) := by
  refine ⟨?_, ?_⟩
  · intro h; rw [(no_tail_packing_only_large P.B d.length F).1 h]
  · intro h
    rw [(no_tail_packing_only_large P.B d.length F).2.1 h]
    rw [packFile_frag, if_neg (by simp [hasTailFrag])]

example := no_tail_packing_layout exParams {} {} [7, 7, 7, 7, 1, 2]
example := (no_tail_packing_layout exParams {} {} [7, 7, 7, 7, 1, 2]).2 (by decide)
example := (no_tail_packing_layout exParams {} {} [7, 7, 1]).1 (by decide)

/-- **`dont_compress`** (full statement).  Every block word of such a file is a hole or has the "stored
uncompressed" bit, **and** the fragment block that holds its tail end is stored uncompressed — also when the tail is
deduplicated (a `dont_compress` tail is only ever shared with `dont_compress` tails; D27 was the code before /repo fcd11e4
breaking this). -/
theorem dont_compress_effect (P : Params) (files : List InFile) (i : Nat) (h : i < files.length)
    (hf : files[i].flags.dontCompress = true) :
    ∃ r, (specPack P files).files[i]? = some r
      ∧ (∀ w ∈ r.words, w = .sparse ∨ ∃ n, w = .stored n true)
      ∧ (∀ k o, r.frag = some (k, o) → ∃ e, (specPack P files).frags[k]? = some e ∧ e.raw = true) := by
  obtain ⟨r, hr, hw⟩ := dont_compress_words P files i h hf
  obtain ⟨r', hr', hfr⟩ := dont_compress_frag_raw P files i h hf
  rw [hr] at hr'; cases hr'
  exact ⟨r, hr, hw, hfr⟩

example := dont_compress_effect exParams exFiles 5 (by decide) rfl

/-- **`dont_deduplicate`.**  The file's blocks are its own (`shared = false`): they start where the data area
ended when the file was packed, i.e. behind the blocks of every earlier file; and its fragment does not overlap the
fragment of any earlier file (own fragment slot). -/
theorem dont_dedup_effect (P : Params) (files : List InFile) (i j : Nat) (hij : i < j) (hj : j < files.length)
    (hf : files[j].flags.dontDedup = true) :
    ∃ ri rj, (specPack P files).files[i]? = some ri ∧ (specPack P files).files[j]? = some rj
      ∧ rj.shared = false
      ∧ (diskBytes rj.words > 0 → ri.start + diskBytes ri.words ≤ rj.start)
      ∧ (∀ a o b o', ri.frag = some (a, o) → rj.frag = some (b, o') →
            a ≠ b ∨ o + (files[i]'(by omega)).data.length % P.B ≤ o') := by
  obtain ⟨ri, rj, h1, h2, hb, hs⟩ := blocks_before P files i j hij hj
  obtain ⟨ri', rj', h1', h2', hfr⟩ := frag_slot_disjoint P files i j hij hj
  rw [h1] at h1'; cases h1'
  rw [h2] at h2'; cases h2'
  exact ⟨ri, rj, h1, h2, hs hf, hb (hs hf), hfr hf⟩

example := dont_dedup_effect exParams exFiles 0 2 (by decide) (by decide) rfl

/-- **The layout follows the order.**  For files `i < j` of the (sorted) list that both own stored blocks, `j` not
sharing: `i`'s blocks lie entirely before `j`'s first block; in particular the start offsets ascend strictly. -/
theorem layout_follows_order (P : Params) (hB : 0 < P.B) (hc : P.codec.Ok) (files : List InFile) (i j : Nat)
    (hij : i < j) (hj : j < files.length) :
    ∃ ri rj, (specPack P files).files[i]? = some ri ∧ (specPack P files).files[j]? = some rj
      ∧ (rj.shared = false → (∃ n raw, Word.stored n raw ∈ rj.words) →
          ri.start + diskBytes ri.words ≤ rj.start
          ∧ ((∃ n raw, Word.stored n raw ∈ ri.words) → ri.start < rj.start)) := by
  obtain ⟨ri, rj, h1, h2, hb, _⟩ := blocks_before P files i j hij hj
  -- stored blocks are never empty, so a file with a stored block occupies a non-empty range
  refine ⟨ri, rj, h1, h2, fun hns hmj => ?_⟩
  have hle := hb hns (specPack_diskBytes_pos P hB hc files j hj h2 hmj)
  refine ⟨hle, fun hmi => ?_⟩
  have := specPack_diskBytes_pos P hB hc files i (Nat.lt_trans hij hj) h1 hmi
  omega

/-- instance with a codec that compresses and is proved to meet `Codec.Ok` -/
example := layout_follows_order exParams (by decide) exCodec_ok exFiles 0 2 (by decide) (by decide)

/-- **The directives do not change the contents.**  Whatever the flags, the order and the other files: reading
file `i` back from the `specPack` layout — block words in order, a hole as zeros, a stored block via `unc` unless
raw, the tail end from its fragment block — yields exactly the file's input bytes. -/
theorem directives_preserve_content (P : Params) (hB : 0 < P.B) (hc : P.codec.Ok) (files : List InFile) (i : Nat)
    (h : i < files.length) :
    ∃ r, (specPack P files).files[i]? = some r ∧ readFile P (specPack P files) r = files[i].data :=
  readFile_specPack P hB hc files i h

example : ∃ r, (specPack exParams exFiles).files[1]? = some r ∧ readFile exParams (specPack exParams exFiles) r = [7, 7, 7, 7, 1, 2] :=
  directives_preserve_content exParams (by decide) exCodec_ok exFiles 1 (by decide)
example := directives_preserve_content exParams (by decide) exCodec_ok exFiles 5 (by decide)

-- non-vacuity: dedup hit + dont_deduplicate + nosparse + a compressing codec that satisfies the contract on the inputs
example :
    let P : Params := { B := 4, base := 96, h := fun _ => 0,
                        codec := ⟨fun x => if x = [7, 7, 7, 7] then some [9] else none, fun z => if z = [9] then [7, 7, 7, 7] else z⟩ }
    let fs : List InFile := [⟨{}, [7, 7, 7, 7, 1, 2]⟩, ⟨{}, [7, 7, 7, 7, 1, 2]⟩, ⟨{ dontDedup := true }, [7, 7, 7, 7, 1, 2]⟩,
                             ⟨{ ignoreSparse := true }, [0, 0, 0, 0, 0]⟩]
    (specPack P fs).files.map (fun r => (r.start, r.frag, r.shared)) = [(96, some (0, 0), false), (96, some (0, 0), true),
        (97, some (0, 2), false), (98, some (1, 0), false)]
    ∧ (specPack P fs).files.map (readFile P (specPack P fs)) = fs.map (·.data) := by decide +kernel

/-- **The directives do not change what the inode says about the file's length.**  One result per input file, in
input order, and its size field is the input length — whatever the flags. -/
theorem directives_preserve_size (P : Params) (files : List InFile) :
    (specPack P files).files.length = files.length
    ∧ ∀ i (h : i < files.length), ∃ r, (specPack P files).files[i]? = some r ∧ r.size = files[i].data.length := by
  refine ⟨by rw [specPack_files]; exact packFiles_length P files {}, ?_⟩
  intro i h
  obtain ⟨σ, hσ⟩ := specPack_file P files i h
  exact ⟨_, hσ, packFile_size P σ _⟩

example := directives_preserve_size exParams exFiles

/-! `export_table_ok` is about the ideal table (a list that grows on demand).  `export_array_refines` and
`export_table_written` carry it to what `dir_writer.c` does: a `realloc`ed array with a capacity that doubles from 512,
a 0xFF fill of the gap, and `sqfs_write_table` cutting the `8 * N` bytes into 8 KiB metadata blocks.
`export_table_of_tree` discharges the hypothesis "every inode number occurs" from the inode numbering model. -/

/-- **Export table** (`--exportable`).  `ref m` = inode reference of inode number `m` (hard links repeat a
number with the same reference).  After `add_export_table_entry` for every directory entry (inode numbers `nums`,
in any order, with repetitions) and finally the root, where every inode number `1..N` occurs: the table has exactly
`N` entries and entry `m - 1` is the reference of inode `m`. -/
theorem export_table_ok (ref : Nat → UInt64) (nums : List Nat) (root N : Nat)
    (hrange : ∀ m ∈ nums ++ [root], 1 ≤ m ∧ m ≤ N) (hall : ∀ m, 1 ≤ m → m ≤ N → m ∈ nums ++ [root]) :
    (exportTable (nums.map (fun m => (m, ref m))) (root, ref root)).length = N
    ∧ ∀ m, 1 ≤ m → m ≤ N → (exportTable (nums.map (fun m => (m, ref m))) (root, ref root))[m - 1]? = some (ref m) := by
  rw [C17Export.exportTable_eq_map ref nums root N hrange hall]
  refine ⟨by rw [List.length_map, List.length_range'], fun m hm hmN => ?_⟩
  rw [List.getElem?_map, List.getElem?_range' (Nat.lt_of_lt_of_le (Nat.sub_lt hm Nat.one_pos) hmN), Nat.one_mul,
    Nat.add_sub_cancel' hm]; rfl

example : exportTable [(2, 100), (3, 7), (2, 100)] (1, 50) = [50, 100, 7] := by decide

/-- instance: numbers 2, 3, 2, 4 and root 1 cover 1…4 (`hall`), every number is in range (`hrange`) -/
example := export_table_ok (fun m => UInt64.ofNat (m * 10)) [2, 3, 2, 4] 1 4 (by decide) (by
  intro m h1 h2
  simp only [List.cons_append, List.nil_append, List.mem_cons, List.not_mem_nil, or_false]
  omega)

open Sqfs.C17Export in
/-- **The array of `dir_writer.c` holds the ideal table** — for every sequence of `add_export_table_entry` calls with
inode numbers ≥ 1 (any order, any gaps, beyond the initial 512 cells and beyond any later capacity): no call stores or
fills outside the allocation (`addAll` never yields `.outOfBounds`), `used` is the length of the ideal table, and the
`size * used` bytes handed to `sqfs_write_table` contain no indeterminate cell and are the little endian ideal table. -/
theorem export_array_refines (entries : List (Nat × UInt64)) (root : Nat × UInt64)
    (h : ∀ e ∈ entries ++ [root], 1 ≤ e.1) :
    ∃ a, addAll init (entries ++ [root]) = .ok a
      ∧ a.used = (exportTable entries root).length
      ∧ a.used ≤ a.cells.length
      ∧ tableBytes a = .ok ((exportTable entries root).flatMap le64) := by
  obtain ⟨a, h1, h2⟩ := addAll_inv (entries ++ [root]) init [] init_inv h
  exact ⟨a, h1, h2.used, h2.le, tableBytes_inv a _ h2⟩

open Sqfs.C17Export in
example := export_array_refines [(600, 7), (2, 9)] (1, 5) (by decide)

-- non-vacuity: entry 600 first (capacity 512 → 1024, gap filled), then two small ones
set_option maxRecDepth 16384 in
open Sqfs.C17Export in
example : (match addAll init [(600, 7), (2, 9), (1, 5)] with
    | .ok a => a.cells.length == 1024 && a.used == 600 && a.cells.take 3 == [some 5, some 9, some noRef]
    | .error _ => false) = true := by decide +kernel

open Sqfs.C17Export in
/-- **… and is written completely.**  The whole run (`add_entry` calls, root entry, `sqfs_write_table`) succeeds;
unpacking the metadata blocks in order gives back exactly the ideal table (8 bytes per inode); there are
`⌈8 N / 8192⌉` blocks — one per 1024 inodes — and as many location entries. -/
theorem export_table_written (cmp : MetaWriter.Codec) (entries : List (Nat × UInt64)) (root : Nat × UInt64)
    (h : ∀ e ∈ entries ++ [root], 1 ≤ e.1) :
    ∃ w, exportRun cmp entries root.1 root.2 = .ok w
      ∧ (w.1.map (·.raw)).flatten = (exportTable entries root).flatMap le64
      ∧ w.1.length = (8 * (exportTable entries root).length + (Consts.metaBlockSize - 1)) / Consts.metaBlockSize
      ∧ w.2.length = w.1.length := by
  have he : ∀ e ∈ entries, 1 ≤ e.1 := fun e hm => h e (List.mem_append_left _ hm)
  obtain ⟨a, h1, h2⟩ := addAll_inv entries init [] init_inv he
  obtain ⟨a', h3, h4⟩ := addEntry_inv a _ root.1 root.2 h2 (h root (by simp))
  have htb := tableBytes_inv a' _ h4
  have hfold : addExport (entries.foldl (fun t e => addExport t e.1 e.2) []) root.1 root.2 = exportTable entries root := by
    simp [exportTable, List.foldl_append]
  rw [hfold] at htb
  obtain ⟨w1, w2, w3⟩ := writeTable_spec cmp ((exportTable entries root).flatMap le64)
  refine ⟨_, by simp only [exportRun, h1, writeExport, h3, htb], w1, ?_, w3⟩
  rw [w2, flatMap_le64_length]

open Sqfs.C17Export in
example := export_table_written (fun _ => none) [(600, 7), (2, 9)] (1, 5) (by decide)

open Sqfs.Numbering Sqfs.C17Export in
/-- **Every inode of a numbered tree gets its entry.**  `cs` = the root's children (any tree shape, hard-link entries
included), numbered as `alloc_inode_num_dfs` does (`Sqfs/Model/Numbering.lean`): `N` inodes, the root is number `N`.
For every list `nums` of `add_entry` calls that covers the children of all directories (`entriesT`; extra calls — the
hard-link entries — may repeat numbers of the tree), followed by the root's entry, the table is exactly
`[ref 1, …, ref N]`. -/
theorem export_table_of_tree (cs : List Tree) (ref : Nat → UInt64) (nums : List Nat)
    (hcov : ∀ m ∈ entriesT (numberRoot cs).1, m ∈ nums)
    (hin : ∀ m ∈ nums, 1 ≤ m ∧ m ≤ (numberRoot cs).2) :
    exportTable (nums.map (fun m => (m, ref m))) ((numberRoot cs).2, ref (numberRoot cs).2)
      = (List.range' 1 (numberRoot cs).2).map ref := by
  have hall : ∀ m, 1 ≤ m → m ≤ (numberRoot cs).2 → m ∈ nums ++ [(numberRoot cs).2] := by
    intro m h1 h2
    have hm : m ∈ numsT (numberRoot cs).1 := (numberRoot_perm cs).mem_iff.mpr (List.mem_range'_1.mpr ⟨h1, Nat.lt_of_le_of_lt h2 (Nat.lt_add_of_pos_left Nat.one_pos)⟩)
    rcases numsT_covered _ m hm with hm | hm
    · exact List.mem_append_right _ hm
    · exact List.mem_append_left _ (hcov m hm)
  have hrange : ∀ m ∈ nums ++ [(numberRoot cs).2], 1 ≤ m ∧ m ≤ (numberRoot cs).2 := by
    intro m hm
    rcases List.mem_append.1 hm with hm | hm
    · exact hin m hm
    · cases List.mem_singleton.1 hm
      exact ⟨Nat.succ_pos _, Nat.le_refl _⟩
  exact exportTable_eq_map ref nums _ _ hrange hall

open Sqfs.Numbering Sqfs.C17Export in
/-- instance: five inodes, one hard link, one repeated call -/
example := export_table_of_tree [.file, .dir [.file, .hlink 0], .file] (fun m => UInt64.ofNat (m * 10)) [2, 3, 1, 4, 3] (by decide) (by decide)

-- non-vacuity: root = { file, dir { file, hard link }, file }: 5 inodes, the calls cover 1..4, the root is 5
open Sqfs.Numbering Sqfs.C17Export in
example :
    let cs : List Tree := [.file, .dir [.file, .hlink 0], .file]
    (numberRoot cs).2 = 5 ∧ entriesT (numberRoot cs).1 = [2, 3, 1, 4]
      ∧ (∀ m ∈ entriesT (numberRoot cs).1, 1 ≤ m ∧ m ≤ (numberRoot cs).2) := by decide

end Sqfs.C17
