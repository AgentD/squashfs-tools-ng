/-
C08 — Deduplication never changes data, even when checksums collide.

Property theorems only; the lemmas are in the imported `Sqfs/Proofs` modules.

Block writer.  The checksum is an *argument* of every `write_data_block` call (`Call.chk`), so each theorem
below holds for all checksum values whatsoever — in particular for every checksum *function* `h` applied to
the data, however weak (constant, 2-bit, …).  `cs` ranges over all call sequences that follow the block
processor's protocol (`wf`: each `LAST` is preceded by a `FIRST` since the previous `LAST`) with blocks
shorter than 2^24 bytes (the width of the size field); `pre` is whatever the file held before (the tools:
the provisional super block).  Files may contain sparse and empty blocks, may carry `DONT_DEDUPLICATE`, and
flag-less blocks (fragment blocks) may be written between files.
-/
import Sqfs.Proofs.BlockWriter
import Sqfs.Proofs.BlockWriterSpec
import Sqfs.Proofs.FragDedup
import Sqfs.Proofs.ToyCodec
import Sqfs.Proofs.C08Stream
import Sqfs.Proofs.C08Shift
namespace Sqfs.C08

section BlockWriterPart
open Sqfs.BlockWriter

/-! ### fixture for the instantiating examples

`AB`, `AB'`: two different two-byte blocks that get the *same* size word and the same checksum `7`.
File 1 = `[AB']`, file 2 = `[AB]` (collides with file 1, must not share), file 3 = `[AB]` (must share
with file 2, truncating its own copy), then a file `[AB, AB, AB]` right after an `AB` (overlapping match). -/

def exFirst : Nat := Sqfs.Consts.blkFirstBlock
def exLast : Nat := Sqfs.Consts.blkLastBlock

def exCalls : List Call :=
  [ ⟨7, exFirst ||| exLast, [0x41, 0x43]⟩,
    ⟨7, exFirst ||| exLast, [0x41, 0x42]⟩,
    ⟨7, exFirst ||| exLast, [0x41, 0x42]⟩,
    ⟨7, exFirst, [0x41, 0x42]⟩, ⟨7, 0, [0x41, 0x42]⟩, ⟨7, exLast, [0x41, 0x42]⟩ ]

/-- The block writer never fails and never indexes outside its history (the `Err.internal` exits of the
model — C undefined behaviour — and the out-of-bounds read of `check_file_range_equal` are unreachable):
every range it compares lies inside the file. -/
theorem bw_no_error (pre : Bytes) (cs : List Call) (hsz : sizesOk cs) (hwf : wf false cs = true) :
    ∃ s locs, run (init pre) cs = .ok (s, locs) ∧ locs.length = cs.length := by
  obtain ⟨s, locs, _, _, _, hr, _, hl, _⟩ := run_spec cs (Inv_init pre) hsz hwf
  exact ⟨s, locs, hr, hl⟩

/-- **Read-back.** After any sequence of calls, for every file written so far (every `LAST` call), the bytes
of the current output at `[location, location + Σ sizes)` are the concatenation of the file's stored blocks —
whether the location is the file's own or an older one handed out by `deduplicate_blocks`, and no matter how
many truncations happened since.  Also, the bytes in front of the data area are never touched. -/
theorem bw_readback (pre : Bytes) (cs : List Call) (hsz : sizesOk cs) (hwf : wf false cs = true)
    (s : State) (locs : List Nat) (hrun : run (init pre) cs = .ok (s, locs)) :
    readbackOk s.file (files [] cs) locs = true ∧ s.file.take pre.length = pre := by
  obtain ⟨⟨ps, _, _, hinv⟩, _, hall⟩ := run_spec_init hsz hwf hrun
  refine ⟨readbackOk_of_holdsAll _ cs false [] locs hall, ?_⟩
  rw [hinv.abs.file]; simp

/-- **Read-back of every kept location.** `process_completed_block` keeps the location of every `LAST` call (inode
block start) *and* of every fragment block (fragment table).  For every call sequence obeying `wf`: each `LAST`
location holds the file's stored bytes, and the location returned for each stored call made outside every file
(no `FIRST` since the last `LAST`, itself neither `FIRST` nor `LAST` — where the block processor writes its
fragment blocks) holds that block's bytes, after all later appends and truncations (`claimsOf`, `holdsAll`).
Locations of non-final calls *inside* a file are kept by nobody and may be cut. -/
theorem bw_readback_all (pre : Bytes) (cs : List Call) (hsz : sizesOk cs) (hwf : wf false cs = true)
    (s : State) (locs : List Nat) (hrun : run (init pre) cs = .ok (s, locs)) :
    holdsAll s.file (claimsOf false [] cs) locs = true :=
  (run_spec_init hsz hwf hrun).2.2

/-- **Fragment blocks are never truncated away.** Under the protocol the block processor follows (`wfS`: `wf`, and a
call flagged `SQFS_BLK_FRAGMENT_BLOCK` never falls between a `FIRST` and its `LAST` and carries neither — proved of
the processor's call stream in `stream_wfS` below), the location returned for every stored fragment block — the
one `sqfs_frag_table_set` records — holds the block's bytes at every later time. -/
theorem bw_fragblocks_kept (pre : Bytes) (cs : List Call) (hsz : sizesOk cs) (hwf : wfS false cs = true)
    (s : State) (locs : List Nat) (hrun : run (init pre) cs = .ok (s, locs)) :
    fragBlocksOk s.file cs locs = true :=
  fragBlocksOk_of_holdsAll _ cs false [] locs hwf (bw_readback_all pre cs hsz (wfS_wf cs false hwf) s locs hrun)

/-- **Sharing is sound.** If two files were given the same location, the shorter one's bytes are a prefix of
the longer one's; in particular two files of equal stored length that share a location are byte-identical.
Equality of sizes and checksums alone never makes one file stand in for another. -/
theorem bw_share_sound (pre : Bytes) (cs : List Call) (hsz : sizesOk cs) (hwf : wf false cs = true)
    (s : State) (locs : List Nat) (hrun : run (init pre) cs = .ok (s, locs))
    (r1 r2 : Rec) (h1 : r1 ∈ recsOf [] cs locs) (h2 : r2 ∈ recsOf [] cs locs) (hloc : r1.loc = r2.loc)
    (hlen : (blkBytes r1.blks).length ≤ (blkBytes r2.blks).length) :
    blkBytes r1.blks = (blkBytes r2.blks).take (blkBytes r1.blks).length := by
  obtain ⟨⟨ps, _, _, hinv⟩, _⟩ := run_spec_init hsz hwf hrun
  have e1 := HoldsIn_slice hinv.abs (hinv.recs r1 h1)
  have e2 := HoldsIn_slice hinv.abs (hinv.recs r2 h2)
  calc blkBytes r1.blks = slice s.file r1.loc (blkBytes r1.blks).length := e1.symm
    _ = (slice s.file r2.loc (blkBytes r2.blks).length).take (blkBytes r1.blks).length := by
      rw [hloc]; exact (List.take_take_drop _ _ hlen).symm
    _ = (blkBytes r2.blks).take (blkBytes r1.blks).length := by rw [e2]

/-- instance: in the run of `exCalls`, file 3 (`[AB]`) and the three-block file `[AB, AB, AB]` were both given
location 2; the theorem says the shorter is a prefix of the longer -/
example : ∃ s locs, run (init []) exCalls = .ok (s, locs) ∧
    ([0x41, 0x42] : Bytes) = ([0x41, 0x42, 0x41, 0x42, 0x41, 0x42] : Bytes).take 2 := by
  have hsz : sizesOk exCalls := by unfold sizesOk; decide
  obtain ⟨s, locs, hr, _⟩ := bw_no_error [] exCalls hsz (by decide)
  have hl : (run (init []) exCalls).toOption.map (·.2) = some [0, 2, 2, 4, 6, 2] := by decide +kernel
  rw [hr] at hl
  simp only [Except.toOption, Option.map_some, Option.some.injEq] at hl
  subst hl
  exact ⟨s, _, hr, bw_share_sound [] exCalls hsz (by decide) s _ hr
    ⟨2, [⟨mkWord 2 (exFirst ||| exLast), 7, [0x41, 0x42]⟩]⟩
    ⟨2, [⟨mkWord 2 exFirst, 7, [0x41, 0x42]⟩, ⟨mkWord 2 0, 7, [0x41, 0x42]⟩, ⟨mkWord 2 exLast, 7, [0x41, 0x42]⟩]⟩
    (by decide) (by decide) rfl (by decide)⟩

/-- **Sharing is complete.** Unless `DONT_DEDUPLICATE` is given, a non-empty file whose stored blocks have the
same size words, checksums and bytes as an earlier file's is given a location at or before that earlier
file's location (`deduplicate_blocks` returns the *first* run whose words and bytes match, and every earlier
file's run is still in the history): identical files share storage whatever the checksum function is. -/
theorem bw_share_complete (pre : Bytes) (cs : List Call) (hsz : sizesOk cs) (hwf : wf false cs = true)
    (s : State) (locs : List Nat) (hrun : run (init pre) cs = .ok (s, locs)) :
    shareCompleteOk [] [] cs locs = true :=
  (run_spec_init hsz hwf hrun).2.1

/-- **Refinement.** For every checksum function `h` (the checksum of a stored block is `h` of its bytes, as
`process_block` computes it) and *every* call sequence — no protocol assumption — the block writer returns
exactly the locations of the checksum-free specification `specRun` (smallest earlier run with equal size words
and equal bytes; history cut to `max (r + count) file_start`) and produces exactly its file. -/
theorem bw_refines_spec (h : Bytes → UInt32) (pre : Bytes) (cs : List (Nat × Bytes))
    (hsz : ∀ c ∈ cs, c.2.length < 2 ^ 24) :
    ∃ s, run (init pre) (withChk h cs) = .ok (s, (specRun ⟨pre, [], 0⟩ cs).2) ∧
      s.file = (specRun ⟨pre, [], 0⟩ cs).1.file := by
  obtain ⟨s, ps, hr, href⟩ := run_refines h cs (init pre) ⟨pre, [], 0⟩ [] (Ref_init h pre) hsz
  exact ⟨s, hr, href.file⟩

/-- **The checksum is only an accelerator.** Two writers that differ in nothing but the checksum function — the
real `xxh32`, a 2-bit truncation of it, a constant — hand out the same locations and produce the same bytes. -/
theorem bw_checksum_irrelevant (h1 h2 : Bytes → UInt32) (pre : Bytes) (cs : List (Nat × Bytes))
    (hsz : ∀ c ∈ cs, c.2.length < 2 ^ 24) :
    ∃ s1 s2 locs, run (init pre) (withChk h1 cs) = .ok (s1, locs) ∧ run (init pre) (withChk h2 cs) = .ok (s2, locs) ∧
      s1.file = s2.file := by
  obtain ⟨s1, hr1, hf1⟩ := bw_refines_spec h1 pre cs hsz
  obtain ⟨s2, hr2, hf2⟩ := bw_refines_spec h2 pre cs hsz
  exact ⟨s1, s2, _, hr1, hr2, by rw [hf1, hf2]⟩

/-- **Translation invariance.** Putting `pad` in front of what the file holds moves the whole run `|pad|` bytes up and
changes nothing else: same success or error, every returned location is the old one plus `|pad|` — except the literal `0`
a `LAST` call returns for a file that stored nothing (`*out = 0` in C) —, the file is `pad` followed by the old file,
the history is the old one with shifted offsets.  For **every** call sequence and checksum (no protocol assumption).
This is what lets the correspondence check drive the real writer at file offsets around 4 GiB (a harness file that
pretends to have 2^32 − k zero bytes in front) and compare with the model run at offset 0. -/
theorem bw_translate (pad pre : Bytes) (cs : List Call) :
    run (init (pad ++ pre)) cs =
      (match run (init pre) cs with
       | .error e => .error e
       | .ok (s0, locs0) => .ok (shiftState pad s0, shiftLocs pad.length (emptiesOf (init pre) cs) locs0)) := by
  rw [init_shift]; exact run_shift pad cs (init pre)

/-! ### the hypotheses are satisfiable, the conclusions are not trivial

(`exCalls`, defined at the head of this section.) -/

example : wf false exCalls = true := by decide
example : sizesOk exCalls := by unfold sizesOk; decide

/-- colliding file 2 keeps its own location 2; identical file 3 is given location 2 and its copy is cut; the
three-block file after it matches at file 2's block and overlaps its own first two blocks (location 2, two
more blocks kept, the third cut). -/
example : (run (init []) exCalls).toOption.map (fun r => (r.2, r.1.file)) =
    some ([0, 2, 2, 4, 6, 2], [0x41, 0x43, 0x41, 0x42, 0x41, 0x42, 0x41, 0x42]) := by decide +kernel

/-- the same run through the specification (no checksums) -/
example : (specRun ⟨[], [], 0⟩ (exCalls.map (fun c => (c.flags, c.data)))).2 = [0, 2, 2, 4, 6, 2] := by decide +kernel

/-- `bw_translate` on the example: three bytes in front move every location by 3 -/
example : (run (init [9, 9, 9]) exCalls).toOption.map (fun r => (r.2, r.1.file)) =
    some ([3, 5, 5, 7, 9, 5], [9, 9, 9, 0x41, 0x43, 0x41, 0x42, 0x41, 0x42, 0x41, 0x42]) := by decide +kernel

/-- `wf` is needed: a `LAST` without a `FIRST` directly after a `DONT_DEDUPLICATE` file cuts that file's own
copy away (API misuse the block processor never commits). -/
example :
    let cs : List Call := [ ⟨1, exFirst, [1]⟩, ⟨1, exLast, [2]⟩,
                            ⟨1, exFirst ||| exLast ||| Sqfs.Consts.blkDontDeduplicate, [1]⟩, ⟨1, exLast, [2]⟩ ]
    wf false cs = false ∧
    (run (init []) cs).toOption.map (fun r => (r.2, r.1.file)) = some ([0, 0, 2, 0], [1, 2]) := by decide +kernel

/-- `wfS` is needed for the fragment blocks (`wf` alone is not enough): a fragment block written *inside* a file
(second file below: `FIRST [1,1]`, fragment block `[2,2]`, `LAST [3,3]`) is part of that file's run; when the
file is found to equal the first one its three blocks are cut, the fragment block handed location 8 is gone
and the next file is written over its slot.  `wf` holds, `wfS` does not, `fragBlocksOk` fails. -/
example :
    let cs : List Call := [ ⟨0, exFirst, [1, 1]⟩, ⟨0, 0, [2, 2]⟩, ⟨0, exLast, [3, 3]⟩,
                            ⟨0, exFirst, [1, 1]⟩, ⟨0, Sqfs.Consts.blkFragmentBlock, [2, 2]⟩, ⟨0, exLast, [3, 3]⟩,
                            ⟨0, exFirst ||| exLast, [9, 9]⟩ ]
    wf false cs = true ∧ wfS false cs = false ∧
    (run (init []) cs).toOption.map (fun r => (r.2, r.1.file, fragBlocksOk r.1.file cs r.2)) =
      some ([0, 2, 0, 6, 8, 0, 6], [1, 1, 2, 2, 3, 3, 9, 9], false) := by decide +kernel

/-- non-vacuity of `bw_fragblocks_kept` / `bw_readback_all`: fragment blocks between files (the first one equal
to a block of the first file, same checksum), a file equal to the first one is shared and cut — the fragment
blocks stay where they were put. -/
def exCallsF : List Call :=
  [ ⟨7, exFirst, [1, 1]⟩, ⟨7, exLast, [2, 2]⟩,
    ⟨7, Sqfs.Consts.blkFragmentBlock, [2, 2]⟩,
    ⟨7, exFirst, [1, 1]⟩, ⟨7, exLast, [2, 2]⟩,
    ⟨7, Sqfs.Consts.blkFragmentBlock ||| Sqfs.Consts.blkIsCompressed, [5]⟩,
    ⟨7, exFirst ||| exLast, [2, 2]⟩ ]

example : wfS false exCallsF = true := by decide
example : sizesOk exCallsF := by unfold sizesOk; decide
example : (run (init [0xAA]) exCallsF).toOption.map (fun r => (r.2, r.1.file, fragBlocksOk r.1.file exCallsF r.2,
      holdsAll r.1.file (claimsOf false [] exCallsF) r.2)) =
    some ([1, 1, 5, 7, 1, 7, 3], [0xAA, 1, 1, 2, 2, 2, 2, 5], true, true) := by decide +kernel

/-- The byte comparison is what carries the property: with `SQFS_BLOCK_WRITER_HASH_COMPARE_ONLY` (documented
opt-out, never used by the tools) two different one-byte files with the same checksum are given the same location,
and the second one's byte is gone. -/
example :
    let cs : List Call := [ ⟨7, exFirst ||| exLast, [1]⟩, ⟨7, exFirst ||| exLast, [2]⟩ ]
    (run (init [] Sqfs.Consts.blockWriterHashCompareOnly) cs).toOption.map (fun r => (r.2, r.1.file)) = some ([0, 0], [1]) ∧
    (run (init []) cs).toOption.map (fun r => (r.2, r.1.file)) = some ([0, 1], [1, 2]) := by decide +kernel

end BlockWriterPart

section FragmentPart
open Sqfs.FragDedup

/-- fixture for the instantiating examples: different 3-byte fragments, block size 8 (see the non-vacuity section) -/
def exEvs : List Ev :=
  [ .frag [1, 1, 1] 0, .frag [1, 1, 2] 0, .frag [1, 1, 1] 0, .frag [9, 9, 9] 0,   -- 4th overflows block 0
    .frag [1, 1, 2] 0,                                                           -- compared with the in-flight copy
    .written 0,                                                                  -- stored compressed: 1,5,2,1
    .frag [1, 1, 1] 0,                                                           -- compared with the block re-read and expanded
    .frag [0, 0, 0] 0, .finish, .written 1 ]

/-! ## Fragments

`h` is the checksum function, `codec` any codec with the round-trip contract, `maxBlock` the block size; `evs`
ranges over all scripts: fragments (any non-empty bytes, any user flags — all-zero tail ends marked `nosparse`
included, since /repo 47f7b3d a fragment block is never taken for a hole) interleaved arbitrarily with "fragment block
`k` has reached the disk" and `finish`.  Scripts the pool cannot produce (writing a block that is not in flight) make
the model answer `badEvent`; nothing else can go wrong (`frag_no_error`).  `byteCompare = true` is how
`lib/common/src/writer/init.c` configures the processor (`file` and `uncmp` given). -/

/-- The fragment path never fails: no `SQFS_ERROR_CORRUPTED` from `chunk_info_equals`, no failed re-read or
uncompress of a written fragment block, no lookup of an unknown block — for every checksum function, every
codec with the round-trip contract, and every timing of the block writes. -/
theorem frag_no_error (codec : Codec) (hrt : codec.RoundTrip) (h : Bytes → UInt32) (maxBlock : Nat)
    (evs : List Ev) (hok : evsOk evs) (e : Err)
    (hrun : run codec h true maxBlock {} evs = .error e) : e = .badEvent := by
  rcases run_spec codec hrt h maxBlock evs {} [] (Inv_init codec) (fun p hp => by cases hp) hok with
    ⟨rs, st', hr, _⟩ | herr
  · rw [hr] at hrun; cases hrun
  · rw [herr] at hrun; cases hrun; rfl

/-- instance: a script the pool cannot produce (block 3 "written" while only block 0 exists) — the run fails, `evsOk` holds,
and the theorem says the failure is `badEvent` -/
example : ∃ e, run (Sqfs.ToyCodec.codec 8) (fun _ => 0) true 8 {} [.frag [1, 1, 1] 0, .written 3] = .error e ∧ e = .badEvent := by
  cases hr : run (Sqfs.ToyCodec.codec 8) (fun _ => 0) true 8 {} [.frag [1, 1, 1] 0, .written 3] with
  | ok r =>
    have : (run (Sqfs.ToyCodec.codec 8) (fun _ => 0) true 8 {} [.frag [1, 1, 1] 0, .written 3]).toOption.isNone = true := by
      decide
    rw [hr] at this; cases this
  | error e =>
    exact ⟨e, rfl, frag_no_error (Sqfs.ToyCodec.codec 8) (Sqfs.ToyCodec.codec_roundTrip 8) (fun _ => 0) 8 _
      (by decide) e hr⟩

/-- **Fragment sharing is sound.** Every `(index, offset)` handed to an inode addresses — in what a reader
obtains for fragment block `index` at the end — exactly that fragment's bytes, whichever of the three places
(`fblk_in_flight` copy, open block, block re-read from disk and uncompressed, through the cache) the
comparisons read from and however the checksums collide. -/
theorem frag_sound (codec : Codec) (hrt : codec.RoundTrip) (h : Bytes → UInt32) (maxBlock : Nat)
    (evs : List Ev) (hok : evsOk evs) (rs : List (Option Res)) (st : State)
    (hrun : run codec h true maxBlock {} evs = .ok (rs, st)) : fragSoundOk codec st evs rs = true := by
  obtain ⟨hinv, _, hres, _⟩ := run_spec_init codec hrt h maxBlock hok hrun
  exact fragSound_of_ResAll codec st hinv evs rs hres

/-- **Equal fragments share.** After any history, a fragment whose bytes were stored before under the same key —
same checksum (i.e. same `DONT_HASH` setting) and same `DONT_COMPRESS` flag, which is part of the lookup key
since /repo fcd11e4 so that a `dont_compress` tail end never lands in a block that gets compressed — and that
does not carry `DONT_DEDUPLICATE` is answered with a location and stores nothing: the fragment blocks are
unchanged. -/
theorem frag_share (codec : Codec) (hrt : codec.RoundTrip) (h : Bytes → UInt32) (maxBlock : Nat)
    (evs : List Ev) (hok : evsOk evs) (rs : List (Option Res)) (st : State)
    (hrun : run codec h true maxBlock {} evs = .ok (rs, st))
    (d : Bytes) (flags : Nat) (hd : fragOk d flags) (hns : isSparse d flags = false)
    (hdd : hasFlag flags Sqfs.Consts.blkDontDeduplicate = false)
    (hseen : (d, fragHash h d flags, flags &&& Sqfs.Consts.blkDontCompress) ∈ seenOf h evs) :
    ∃ i o st', processFragment codec h true maxBlock st d flags = .ok (.loc i o, st') ∧
      st'.blocks = st.blocks := by
  obtain ⟨hinv, hsi, _⟩ := run_spec_init codec hrt h maxBlock hok hrun
  obtain ⟨r, st2, hpf, _, _, _, hsp, _, hsame, _⟩ :=
    processFragment_spec codec h maxBlock st d flags (seenOf h evs) hinv hd hsi
  have hb := hsame hns hdd hseen
  cases r with
  | sparse => have := hsp.1 rfl; rw [hns] at this; cases this
  | loc i o => exact ⟨i, o, st2, hpf, hb⟩

/-- instance: after `exEvs` (constant checksum, toy RLE codec) the fragment `[1,1,2]` — seen before — is answered with a
location and stores nothing -/
example : ∃ rs st, run (Sqfs.ToyCodec.codec 8) (fun _ => 0) true 8 {} exEvs = .ok (rs, st) ∧
    ∃ i o st', processFragment (Sqfs.ToyCodec.codec 8) (fun _ => 0) true 8 st [1, 1, 2] 0 = .ok (.loc i o, st') ∧
      st'.blocks = st.blocks := by
  have hok : evsOk exEvs := by decide
  cases hr : run (Sqfs.ToyCodec.codec 8) (fun _ => 0) true 8 {} exEvs with
  | error e =>
    have : (run (Sqfs.ToyCodec.codec 8) (fun _ => 0) true 8 {} exEvs).toOption.isSome = true := by decide +kernel
    rw [hr] at this; cases this
  | ok r =>
    obtain ⟨rs, st⟩ := r
    exact ⟨rs, st, rfl, frag_share (Sqfs.ToyCodec.codec 8) (Sqfs.ToyCodec.codec_roundTrip 8) (fun _ => 0) 8 exEvs hok rs st hr
      [1, 1, 2] 0 (by simp [fragOk]) (by decide) (by decide) (by decide)⟩

/-- **The hash table's probe order does not matter.** `lib/util/src/hash_table.c` probes entries of equal hash in
an order that depends on the table size and on past rehashes; the model searches a list front to back.  At any
point of any run no two table entries hold the same bytes under the same key (checksum and `DONT_COMPRESS`
flag; inserting replaces an equal entry), so at most one entry can match a fragment, and searching any
permutation of the table gives the same answer. -/
theorem frag_lookup_unique (codec : Codec) (hrt : codec.RoundTrip) (h : Bytes → UInt32) (maxBlock : Nat)
    (evs : List Ev) (hok : evsOk evs) (rs : List (Option Res)) (st : State)
    (hrun : run codec h true maxBlock {} evs = .ok (rs, st)) (d : Bytes) (hd : UInt32) (kf : Nat) (l : List Chunk)
    (hp : l.Perm st.table) :
    ∃ r s1 s2, search codec true st d hd kf st.table = .ok (r, s1) ∧ search codec true st d hd kf l = .ok (r, s2) := by
  obtain ⟨hinv, _, _, hu⟩ := run_spec_init codec hrt h maxBlock hok hrun
  exact search_perm codec st hinv hu d hd kf l hp

/-- instance: the table after `exEvs`, searched front to back and back to front -/
example : ∃ rs st, run (Sqfs.ToyCodec.codec 8) (fun _ => 0) true 8 {} exEvs = .ok (rs, st) ∧ 1 < st.table.length ∧
    ∃ r s1 s2, search (Sqfs.ToyCodec.codec 8) true st [1, 1, 2] 0 0 st.table = .ok (r, s1) ∧
      search (Sqfs.ToyCodec.codec 8) true st [1, 1, 2] 0 0 st.table.reverse = .ok (r, s2) := by
  have hok : evsOk exEvs := by decide
  have hlen : ((run (Sqfs.ToyCodec.codec 8) (fun _ => 0) true 8 {} exEvs).toOption.map
      (fun r => decide (1 < r.2.table.length))) = some true := by decide +kernel
  cases hr : run (Sqfs.ToyCodec.codec 8) (fun _ => 0) true 8 {} exEvs with
  | error e => rw [hr] at hlen; cases hlen
  | ok r =>
    obtain ⟨rs, st⟩ := r
    rw [hr] at hlen
    simp only [Except.toOption, Option.map_some, Option.some.injEq, decide_eq_true_eq] at hlen
    exact ⟨rs, st, rfl, hlen, frag_lookup_unique (Sqfs.ToyCodec.codec 8) (Sqfs.ToyCodec.codec_roundTrip 8) (fun _ => 0) 8 exEvs hok
      rs st hr [1, 1, 2] 0 0 st.table.reverse (List.reverse_perm _)⟩

/-! ### non-vacuity: different 3-byte fragments under a *constant* checksum, block size 8, and a codec that really
compresses and provably meets the contract (the toy RLE codec of the harness) -/

example : (Sqfs.ToyCodec.codec 8).RoundTrip := Sqfs.ToyCodec.codec_roundTrip 8
example : Sqfs.ToyCodec.ident.RoundTrip := Sqfs.ToyCodec.ident_roundTrip

example : evsOk exEvs := by decide

/-- constant checksum: everything collides, yet each fragment gets its own bytes -/
example : ((run (Sqfs.ToyCodec.codec 8) (fun _ => 0) true 8 {} exEvs).toOption.map (·.1)) =
    some [some (.loc 0 0), some (.loc 0 3), some (.loc 0 0), some (.loc 1 0), some (.loc 0 3), none,
          some (.loc 0 0), some .sparse, none, none] := by decide +kernel

/-- all-zero tail ends marked `nosparse` are ordinary fragments (since /repo 47f7b3d): stored, shared, written and read back -/
example :
    let evs : List Ev := [.frag [0, 0, 0] Sqfs.Consts.blkIgnoreSparse, .frag [0, 0, 0] Sqfs.Consts.blkIgnoreSparse,
                          .finish, .written 0]
    evsOk evs ∧
    ((run (Sqfs.ToyCodec.codec 8) (fun _ => 0) true 8 {} evs).toOption.map
        (fun r => (r.1, readBlock (Sqfs.ToyCodec.codec 8) r.2 0))) =
      some ([some (.loc 0 0), some (.loc 0 0), none, none], some [0, 0, 0]) := by
  exact ⟨by decide, by decide +kernel⟩

/-- a `dont_compress` tail end does not share the slot of its compressible twin (the flag is part of the key) -/
example :
    ((run Sqfs.ToyCodec.ident (fun _ => 0) true 8 {} [.frag [1, 2, 3] 0, .frag [1, 2, 3] Sqfs.Consts.blkDontCompress,
        .frag [1, 2, 3] Sqfs.Consts.blkDontCompress]).toOption.map (·.1)) =
      some [some (.loc 0 0), some (.loc 0 3), some (.loc 0 3)] := by decide +kernel

/-- As for the block writer, the byte comparison is what carries the property: in the documented "size and hash
alone" configuration (`file`/`uncmp` = NULL, `byteCompare = false`) the second, different fragment is answered with
the first one's location. -/
example :
    ((run Sqfs.ToyCodec.ident (fun _ => 0) false 8 {} [.frag [1, 2, 3] 0, .frag [1, 2, 4] 0]).toOption.map (·.1)) =
      some [some (.loc 0 0), some (.loc 0 0)] ∧
    ((run Sqfs.ToyCodec.ident (fun _ => 0) true 8 {} [.frag [1, 2, 3] 0, .frag [1, 2, 4] 0]).toOption.map (·.1)) =
      some [some (.loc 0 0), some (.loc 0 3)] := by decide +kernel

end FragmentPart

section StreamPart
open Sqfs.BlockWriter Sqfs.C08Stream

/-! ## The block processor's call stream: composition of the two halves

`Sqfs.C08Stream` (`Model/C08Stream.lean`) wires the front end (`begin_file` / `append` / `end_file`), the worker
(`process_block`), the FIFO pool, the I/O sequence numbers and the release loop of `dequeue_block`, the fragment
path (`FragDedup`) and the block writer (`BlockWriter`) together as backend.c / frontend.c / block_processor.c do.
`evs` ranges over **all** schedules: any list of `file` (any user flags the code accepts, any bytes), `submit`,
`dequeue`, `complete` (one `process_completed_block`), `finish` events — i.e. every way the backlog accounting
could interleave the main thread's actions; events the C control flow cannot produce are refused (`badEvent`).
`h` is any checksum function, `codec` any codec; `stream_wfS` needs nothing of it, the others take the round-trip
contract, `Fits` (the compressor's output fits the block-size buffer) and `0 < B` as hypotheses, all but
`stream_frag_sound` also `B < 2^24`. -/

/-- **The call stream obeys the strengthened protocol.** Whatever the schedule, the `write_data_block` calls made so
far satisfy `wfS`: every `LAST` has its `FIRST`, and no fragment block is written between a `FIRST` and its
`LAST` (a fragment block gets its I/O sequence number when it is closed, i.e. while a tail end is being dequeued
— after the sentinel of that file and before the first block of the next — or at `finish` with everything
drained).  And the writer state is the result of `BlockWriter.run` on exactly those calls. -/
theorem stream_wfS (codec : Codec) (h : List UInt8 → UInt32) (B : Nat) (pre : List UInt8) (evs : List C08Stream.Ev)
    (s : C08Stream.State) (outs : List Out) (hrun : C08Stream.run codec h (C08Stream.init B pre) evs = .ok (s, outs)) :
    wfS false s.calls = true ∧ BlockWriter.run (BlockWriter.init pre) s.calls = .ok (s.bw, s.locs) := by
  obtain ⟨n, o, hi⟩ := Inv_of_run hrun
  exact ⟨hi.calls_wfS, hi.bwrun⟩

/-- **Read-back of everything the processor keeps.** For a block size below 2^24, a codec that fits its output into
the block-size buffer and has the round-trip contract: after any schedule, the location of every `LAST` call holds
the file's stored bytes and the location of every fragment block holds that block, in the writer's current
file (`bw_readback_all` and `bw_fragblocks_kept` applied to the processor's own call stream — their hypotheses
`wf` / `wfS` / `sizesOk` are *proved* of it here, not assumed). -/
theorem stream_readback (codec : Codec) (hrt : codec.RoundTrip) (h : List UInt8 → UInt32) (B : Nat) (hB0 : 0 < B)
    (hB : B < 2 ^ 24) (hfit : Fits codec B) (pre : List UInt8) (evs : List C08Stream.Ev) (s : C08Stream.State) (outs : List Out)
    (hrun : C08Stream.run codec h (C08Stream.init B pre) evs = .ok (s, outs)) :
    holdsAll s.bw.file (claimsOf false [] s.calls) s.locs = true ∧ fragBlocksOk s.bw.file s.calls s.locs = true := by
  obtain ⟨hwf, hbw⟩ := stream_wfS codec h B pre evs s outs hrun
  obtain ⟨n, o, hi⟩ := Inv_of_run hrun
  have hsz : sizesOk s.calls := hi.sizesOk ⟨hfit, hB0⟩ hB
  exact ⟨bw_readback_all pre s.calls hsz (wfS_wf _ _ hwf) s.bw s.locs hbw,
    bw_fragblocks_kept pre s.calls hsz hwf s.bw s.locs hbw⟩

/-- **The fragment model's ghost store is the block writer's file.** `frag_sound` speaks about what "a reader obtains
for fragment block `index`" as recorded in the ghost field `Place.written stored`.  In the composed run, for every
fragment block that is on disk (`stored` non-empty): the fragment table holds a location and a size word with
`size = |stored|` and the raw bit = "not compressed", the writer's file holds exactly `stored` there — at every later
time, through all truncations — and reading the block back from the *file* (`fileReadBlock` = `load_frag_block` /
the data reader) gives what the fragment model says a reader gets (`readBlock`). -/
theorem stream_frag_link (codec : Codec) (hrt : codec.RoundTrip) (h : List UInt8 → UInt32) (B : Nat) (hB0 : 0 < B)
    (hB : B < 2 ^ 24) (hfit : Fits codec B) (pre : List UInt8) (evs : List C08Stream.Ev) (s : C08Stream.State) (outs : List Out)
    (hrun : C08Stream.run codec h (C08Stream.init B pre) evs = .ok (s, outs))
    (i : Nat) (d stored : List UInt8) (cmp : Bool) (fl : Nat)
    (hb : s.fd.blocks[i]? = some ⟨d, .written stored cmp, fl⟩) (hne : stored ≠ []) :
    fileReadBlock codec s i = FragDedup.readBlock codec s.fd i ∧
      ∃ loc word, s.fragTbl[i]? = some (loc, word) ∧ word % 2 ^ 24 = stored.length ∧
        (word &&& (1 <<< 24) != 0) = !cmp ∧ readAt s.bw.file loc stored.length = some stored := by
  obtain ⟨n, o, hi⟩ := Inv_of_run hrun
  have hlk := hi.link i d stored cmp fl hb hne
  have hsz : stored.length < 2 ^ 24 := by
    obtain ⟨c, hc, hd⟩ := hlk.mem_calls
    exact hd ▸ hi.sizesOk ⟨hfit, hB0⟩ hB c hc
  exact fileRead_of_linked codec s i d stored cmp fl hb hsz hlk
    (stream_readback codec hrt h B hB0 hB hfit pre evs s outs hrun).2

/-- **Fragment references are sound in the composed run.** The fragment events the processor generated (`s.fevs`: one
`frag` per dequeued tail end, `written` per completed fragment block, `finish`) are a run of the fragment model from
the empty state ending in `s.fd`, all tail ends are non-empty, hence `frag_sound` applies: every `(index, offset)`
handed out addresses the tail end's bytes in what a reader obtains — which by `stream_frag_link` is what the file
holds. -/
theorem stream_frag_sound (codec : Codec) (hrt : codec.RoundTrip) (h : List UInt8 → UInt32) (B : Nat) (hB0 : 0 < B)
    (hfit : Fits codec B) (pre : List UInt8) (evs : List C08Stream.Ev) (s : C08Stream.State) (outs : List Out)
    (hrun : C08Stream.run codec h (C08Stream.init B pre) evs = .ok (s, outs)) :
    FragDedup.run codec h true B {} s.fevs = .ok (s.fres, s.fd) ∧ FragDedup.evsOk s.fevs ∧
      FragDedup.fragSoundOk codec s.fd s.fevs s.fres = true := by
  obtain ⟨n, o, hi⟩ := Inv_of_run hrun
  exact ⟨hi.frun, hi.fok, frag_sound codec hrt h B s.fevs hi.fok s.fres s.fd hi.frun⟩

/-- **The composed model only ever refuses schedules.** Whatever the schedule, the only way a run ends in an error is an
event the local C control flow cannot produce (`badEvent`: nothing to submit / dequeue, `complete` with the wrong head
of the I/O queue, `finish` before `sync` has drained everything) or `begin_file` flags the code rejects
(`unsupported`).  In particular `write_data_block` never fails on the processor's call stream, the fragment path never
reports `SQFS_ERROR_CORRUPTED` or a failed re-read, a fragment block coming back from the pool is always in flight in the
fragment model, and the model's consistency exit `Err.internal` is unreachable: the worked fragment block that reaches
`process_completed_block` is exactly what the fragment model says is stored (invariant `PInv`: every fragment block that
has an I/O sequence number and is not yet written is `process_block` applied to an in-flight block of the fragment model,
at most one per index).  So the `stream_*` theorems above are about *every* run that the schedule admits. -/
theorem stream_no_error (codec : Codec) (hrt : codec.RoundTrip) (h : List UInt8 → UInt32) (B : Nat) (hB0 : 0 < B)
    (hB : B < 2 ^ 24) (hfit : Fits codec B) (pre : List UInt8) (evs : List C08Stream.Ev) (x : C08Stream.Err)
    (hrun : C08Stream.run codec h (C08Stream.init B pre) evs = .error x) : x = .badEvent ∨ x = .unsupported := by
  have := run_Inv evs (Inv_init codec h B pre)
  rw [hrun] at this
  exact this hrt ⟨hfit, hB0⟩ hB

/-! ### non-vacuity: block size 4, constant checksum, toy RLE codec.  Three files: `1111 78`, `1111 79` (full block equal to
the first file's → shared, its copy cut), `555` (does not fit into fragment block 0 → block 0 is closed while the tail end
is dequeued, gets sequence number 4 and is written between the files; block 1 is closed by `finish`). -/

def exStream : List C08Stream.Ev :=
  [ .file 0 [1, 1, 1, 1, 7, 8], .file 0 [1, 1, 1, 1, 7, 9], .file 0 [5, 5, 5],
    .submit, .submit, .submit, .submit, .submit, .submit, .submit,
    .dequeue, .dequeue, .dequeue, .complete, .complete,
    .dequeue, .dequeue, .complete, .complete,
    .dequeue, .dequeue, .dequeue, .complete,
    .finish, .dequeue, .complete ]

example : (Sqfs.ToyCodec.codec 4).RoundTrip ∧ Fits (Sqfs.ToyCodec.codec 4) 4 :=
  ⟨Sqfs.ToyCodec.codec_roundTrip 4, Sqfs.ToyCodec.codec_fits 4⟩

/-- the run succeeds; six calls (block, sentinel, block, sentinel, fragment block 0, fragment block 1); the second file
shares location 0; the fragment blocks sit at 2 and 6 and the table says so; block 1 is stored compressed (`5 ×3`) and
reads back from the file as `555` -/
example :
    (C08Stream.run (Sqfs.ToyCodec.codec 4) (fun _ => 0) (C08Stream.init 4 []) exStream).toOption.map
      (fun r => (r.1.calls.map (fun c => (c.flags, c.data)), r.1.locs, r.1.bw.file)) =
    some ([(0x8800, [1, 4]), (0x1000, []), (0x8800, [1, 4]), (0x1000, []), (0x4000, [7, 8, 7, 9]), (0xC000, [5, 3])],
          [0, 0, 2, 0, 2, 6], [1, 4, 7, 8, 7, 9, 5, 3]) := by decide +kernel

example :
    (C08Stream.run (Sqfs.ToyCodec.codec 4) (fun _ => 0) (C08Stream.init 4 []) exStream).toOption.map
      (fun r => (r.1.fragTbl, fileReadBlock (Sqfs.ToyCodec.codec 4) r.1 0, fileReadBlock (Sqfs.ToyCodec.codec 4) r.1 1,
                 r.1.fres.filterMap id)) =
    some ([(2, 0x1000004), (6, 2)], some [7, 8, 7, 9], some [5, 5, 5], [.loc 0 0, .loc 0 2, .loc 1 0]) := by decide +kernel

/-- a schedule the C control flow cannot produce is refused: `finish` with blocks still in the pool -/
example : (C08Stream.run (Sqfs.ToyCodec.codec 4) (fun _ => 0) (C08Stream.init 4 [])
      [.file 0 [1, 1, 1, 1, 7, 8], .submit, .finish]).toOption.isNone = true := by decide +kernel

end StreamPart

end Sqfs.C08
