/-
C02 — determinism: the data area, the fragment table and every file inode do not depend on the number of worker
threads, on `max_backlog`, or on how the worker threads are scheduled; they equal what the serial pool with an
immediate drain computes.  (The environment clause: see `times_depend_only_on_source_date_epoch` below and
tools/checks/c02.py.)

Model: `Sqfs/Model/BlockProc.lean` (main-thread state machine of `lib/sqfs/src/block_processor/*.c` over an abstract
pool, block writer of `Model/BlockWriter.lean`), reference: `Sqfs/Spec/BlockProcSpec.lean` (`packRef`: no pool, no
backlog, no queue), pool: `Sqfs/Model/Pool.lean` + `Sqfs/Props/C09.lean`.

Hypotheses of the block-processor theorems, all of them about parameters:
  * `0 < P.B < 2^24` — the block size fits the 24-bit size field of a block word (the tools allow 4 KiB … 1 MiB);
  * `CodecOk P.codec` — the block codec's contract (what it compressed it uncompresses; a compressed block is shorter);
    without the round trip the *implementation* is schedule dependent: a fragment is compared against the
    in-flight copy of a fragment block or against the block re-read from disk, depending on the timing;
  * the checksum `P.h` is arbitrary; the files carry arbitrary flag words and contents of any size;
  * **the worker function is pure**: `P.codec.cmp : Bytes → Option Bytes` is a *function of the block*.  In the C code it is
    `do_block` of a compressor object (one `sqfs_copy` per worker thread) that lives as long as the processor; if its result
    depended on what the object compressed before, the image would depend on which worker got which block, i.e. on the
    schedule (`stateful_worker_schedule_dependent`).  The hypothesis is stated as `StatefulCodec.HistoryIndependent`
    (Sqfs/Model/C02Worker.lean); under it a pool whose workers carry state is the pure pool (`stateful_pool_is_pure`), and
    the block processor run on such a pool (`runS`, Sqfs/Model/BlockProcWorkers.lean: the item with ticket `t` is worked by a
    compressor copy in an arbitrary state) computes the reference's result (`schedule_independent_stateful`).  For zlib /
    liblzma / liblz4 / libzstd it is part of the trusted base and is observed on every run by harness/h_c02_comp.c (monitor
    `obsIndependent`).
-/
import Sqfs.Proofs.BPFinal
import Sqfs.Proofs.BPSpecPack
import Sqfs.Proofs.C02Worker
import Sqfs.Proofs.BlockProcWorkers
import Sqfs.Proofs.BPFailRun
import Sqfs.Proofs.BPSPDefs
import Sqfs.Props.C17
import Sqfs.Proofs.C02Env
import Sqfs.Witness.C02
import Sqfs.Props.C09
import Sqfs.Model.BuildEnv
import Sqfs.Proofs.BPFailPool
import Sqfs.Proofs.BPSPFinal
namespace Sqfs.C02
open Sqfs.BlockProc Sqfs.BuildEnv

/-- the parameters with the serial pool's behaviour (`threadpool_serial.c`) -/
def serial (P : Params) : Params := { P with ans := serialAns }

/-- the queue-free, backlog-free reference of `Sqfs/Spec/BlockProcSpec.lean` -/
abbrev runEager := packRef

/-! ### the instance the examples are about -/

/-- a codec that compresses exactly one block (`7 7 7 7 ↦ 7 4`) -/
def exCodec : Codec :=
  { cmp := fun x => if x = [7, 7, 7, 7] then some [7, 4] else none
    unc := fun z => if z = [7, 4] then some [7, 7, 7, 7] else some z }

theorem exCodec_ok : CodecOk exCodec := by
  constructor
  · intro x z h
    simp only [exCodec] at h ⊢
    split at h
    · simp only [Option.some.injEq] at h; subst h; rename_i hx; simp [hx]
    · cases h
  · intro x z h
    simp only [exCodec] at h
    split at h
    · simp only [Option.some.injEq] at h; subst h; rename_i hx; simp [hx]
    · cases h

def exP : Params := { B := 4, codec := exCodec, h := fun d => d.foldl (fun a b => a * 31 + b.toUInt32) 7 }

/-- six files, block size 4: multi-block files, a compressible file, a short file, a file with a hole, the first file
again with `DONT_DEDUPLICATE` (flag 8) and once more without -/
def exFiles : List InFile :=
  [⟨0, [1, 2, 3, 4, 5, 6, 7, 8, 9, 10]⟩, ⟨0, [7, 7, 7, 7, 7, 7, 7, 7, 1]⟩, ⟨0, [11, 12, 13]⟩, ⟨0, [0, 0, 0, 0, 9, 10]⟩,
   ⟨8, [1, 2, 3, 4, 5, 6, 7, 8, 9, 10]⟩, ⟨0, [1, 2, 3, 4, 5, 6, 7, 8, 9, 10]⟩]

/-- the side conditions of the theorems on the instance -/
theorem exP_side : 0 < exP.B ∧ exP.B < 2 ^ 24 ∧ (∀ f ∈ exFiles, f.flags &&& Consts.blkUserSettable = f.flags) ∧
    exP.byteCompare = true ∧ ∀ x z, exP.codec.cmp x = some z → 0 < z.length := by
  refine ⟨by decide, by decide, by decide, rfl, ?_⟩
  intro x z h
  simp only [exP, exCodec] at h
  split at h
  · simp only [Option.some.injEq] at h; subst h; decide
  · cases h

/-! ### backlog -/

/-- **`run_eq_spec`.**  For every `max_backlog` the block processor computes what the reference computes: the same
`write_data_block` calls in the same order, the same output file, fragment table and inodes — and the same error
(`SQFS_ERROR_UNSUPPORTED` from `begin_file`) when a file carries flags that are not user settable. -/
theorem run_eq_spec (P : Params) (hc : CodecOk P.codec) (hB0 : 0 < P.B) (hB : P.B < 2 ^ 24) (mb : Nat) (files : List InFile) :
    run (serial P) mb files = runEager (serial P) files :=
  run_eq_packRef (P := serial P) rfl hc hB0 hB mb files

/-- **`run_sync_eq_spec`.**  The same when the caller drains the processor (`sqfs_block_processor_sync`) while every
file is still open, before `end_file` — the packers never do, a library user may; this is where the third early exit
of `dequeue_block` (`backlog == 2`, open fragment block and open data block) is reached.  With `max_backlog` 3 and a
`sync` after every `append` each item is worked, taken back and written at once: the serial pool with an immediate
drain, run on the implementation model itself. -/
theorem run_sync_eq_spec (P : Params) (hc : CodecOk P.codec) (hB0 : 0 < P.B) (hB : P.B < 2 ^ 24) (mb : Nat) (files : List InFile) :
    run (serial P) mb files (sy := true) = runEager (serial P) files :=
  run_eq_packRef (P := serial P) rfl hc hB0 hB mb files true

/-- **`backlog_independent`.**  Two values of `max_backlog` (`-Q`) give the same result … -/
theorem backlog_independent (P : Params) (hc : CodecOk P.codec) (hB0 : 0 < P.B) (hB : P.B < 2 ^ 24) (mb₁ mb₂ : Nat)
    (files : List InFile) : run (serial P) mb₁ files = run (serial P) mb₂ files := by
  rw [run_eq_spec P hc hB0 hB, run_eq_spec P hc hB0 hB]

/-- … and it is not an error when every file carries user-settable flags only. -/
theorem run_ok (P : Params) (hc : CodecOk P.codec) (hB0 : 0 < P.B) (hB : P.B < 2 ^ 24) (mb : Nat) (files : List InFile)
    (hfl : ∀ f ∈ files, f.flags &&& Consts.blkUserSettable = f.flags) : ∃ out, run (serial P) mb files = .ok out := by
  rcases run_final (P := serial P) rfl hc hB0 hB mb files with ⟨s, hr, _⟩ | ⟨e, _, _, _, f, hf, hbad⟩
  · exact ⟨s.w.output, by unfold run; rw [hr]⟩
  · exact absurd (hfl f hf) hbad

/-- **`dequeue_never_internal_error`.**  The `SQFS_ERROR_INTERNAL` return of `dequeue_block` (the pool is empty although
the backlog did not shrink) is unreachable, no loop of the model runs out of fuel, the block writer never fails and no
fragment lookup ends in `SQFS_ERROR_CORRUPTED`: the only error a run can end in is `begin_file`'s refusal of a flag
word that is not user settable. -/
theorem dequeue_never_internal_error (P : Params) (hc : CodecOk P.codec) (hB0 : 0 < P.B) (hB : P.B < 2 ^ 24) (mb : Nat)
    (files : List InFile) (e : Err) (h : run (serial P) mb files = .error e) :
    e = .unsupported ∧ ∃ f ∈ files, ¬ f.flags &&& Consts.blkUserSettable = f.flags := by
  rcases run_final (P := serial P) rfl hc hB0 hB mb files with ⟨s, hr, _⟩ | ⟨e', hr, _, he, hbad⟩
  · unfold run at h; rw [hr] at h; cases h
  · unfold run at h; rw [hr] at h
    simp only [Except.error.injEq] at h
    subst h; exact ⟨he, hbad⟩

/-- **`finish_writes_everything`.**  After `finish`: `io_queue` is empty, nothing is left inside the pool, the backlog is
0, every numbered block has been written (`io_deq_seq_num = io_seq_num`) and no fragment block is open. -/
theorem finish_writes_everything (P : Params) (hc : CodecOk P.codec) (hB0 : 0 < P.B) (hB : P.B < 2 ^ 24) (mb : Nat)
    (files : List InFile) (s : Proc) (h : runProc (serial P) mb files = .ok s) :
    s.ioQueue = [] ∧ s.pool.ser.queue = [] ∧ s.backlog = 0 ∧ s.ioDeqSeqNum = s.ioSeqNum ∧ s.fragBlock = none := by
  have hf := runProc_final (P := serial P) rfl hc hB0 hB h
  exact ⟨hf.ioQueue, hf.pool, hf.backlog, hf.deq, hf.fragBlock⟩

/-- **`healthy_run_status_zero`** (the bridge to the code before 69db961).  `sqfs_block_processor_sync` ends with
`return proc->pool->get_status(proc->pool)`.  On a run in which no callback fails that call answers 0 every time it is
made (`Sqfs.BlockProc.PInv.status`: under the invariant the pool status is 0 and the call changes nothing but the pool's call
history; `sync_eq_drain`: `sync` = the drain + a status call that answers 0) — that is why `run_eq_spec`,
`schedule_independent`, … hold for `sync` as they hold for the drain alone.  Stated on the final state:
the status is 0, and asking once more answers 0. -/
theorem healthy_run_status_zero (P : Params) (hc : CodecOk P.codec) (hB0 : 0 < P.B) (hB : P.B < 2 ^ 24) (mb : Nat)
    (files : List InFile) (s : Proc) (h : runProc (serial P) mb files = .ok s) :
    s.pool.ser.status = 0 ∧ (poolStatus (serial P) s.pool).2 = 0 := by
  have hf := runProc_final (P := serial P) rfl hc hB0 hB h
  exact ⟨hf.status, (poolStatus_ok (serial P) rfl s.pool [] ⟨hf.status, by rw [hf.pool]; rfl⟩).1⟩

/-- `healthy_run_status_zero` applied to the example instance (non-vacuity: the run succeeds) -/
example : ∃ s, runProc (serial exP) 3 exFiles = .ok s ∧ s.pool.ser.status = 0 ∧ (poolStatus (serial exP) s.pool).2 = 0 := by
  rcases run_final (P := serial exP) rfl exCodec_ok exP_side.1 exP_side.2.1 3 exFiles with ⟨s, h, _⟩ | ⟨_, _, _, _, f, hf, hbad⟩
  · exact ⟨s, h, healthy_run_status_zero exP exCodec_ok exP_side.1 exP_side.2.1 3 exFiles s h⟩
  · exact absurd (exP_side.2.2.1 f hf) hbad

/-! ### `specPack` (DESIGN.md Appendix B, `Spec/PackSpec.lean`: the specification C17's directive theorems and the
read-back theorem are stated against)

`run_eq_spec` reduces "the implementation model computes `specPack`" to `packRef = specPack`, a statement about two pure
functions; it is proved in `Proofs/BPSP*.lean` (`Sqfs.BlockProc.packRef_eq_specPack`: closed form of the front end; the
writer pass against `Pack.placeBlocks` through C08's `Abs` / `dedup_explicit`; the fragment pass against `Pack.placeTail` —
`insertRef` replaces an equal key, `specPack` conses in front, every lookup answers the same; per-inode folds of the update
lists).  The two do not have the same type, so the equality is stated on the observables they share, `PackView` = the whole
output file, the fragment table, the inode fields of every file as the tools serialise them:

  * `Output.view` forgets `calls`, the log of `write_data_block` calls (it contains the size-0 sentinel blocks and the
    sparse blocks, which leave no trace in the layout);
  * `specView` forgets `shared` (a ghost field of `FileResult`) and the block boundaries of `Out.blocks` (the data area is
    the concatenation of the payloads) and encodes words / fragment references as the C values.

Hypotheses on top of `run_eq_spec`'s: `hpos` (a successful `do_block` returns a positive size — part of `Pack.Codec.Ok`),
user-settable flag words (otherwise `begin_file` refuses), and `byteCompare` (`file` and `uncmp` given to the processor, as
`lib/common/src/writer/init.c` does): without the byte comparison the implementation deduplicates a fragment against a
different one with the same size, checksum and `DONT_COMPRESS` flag, which `specPack` does not (counterexample in
`Proofs/BPSPFinal.lean`). -/

/-- **`run_eq_specPack`.**  For every `max_backlog` the implementation model on the serial pool produces the `specPack`
layout: same output file, same fragment table, same inode fields of every file. -/
theorem run_eq_specPack (P : Params) (hc : CodecOk P.codec) (hpos : ∀ x z, P.codec.cmp x = some z → 0 < z.length)
    (hbc : P.byteCompare = true) (hB0 : 0 < P.B) (hB : P.B < 2 ^ 24) (mb : Nat) (files : List InFile)
    (hfl : ∀ f ∈ files, f.flags &&& Consts.blkUserSettable = f.flags) :
    ∃ out, run (serial P) mb files = .ok out ∧
      out.view = specView P.pre (Sqfs.Pack.specPack (toPackParams P) (toPackFiles files)) :=
  Sqfs.BlockProc.run_eq_specPack (serial P) rfl hc hpos hbc hB0 hB mb files hfl false

/-- **`run_eq_specPack_partial`.**  `process_block` on a non-empty data block is `specPack`'s `workData`: the block is a
hole (nothing stored, `sparse += size`), or it is stored raw / compressed with the checksum `workData` says. -/
theorem run_eq_specPack_partial (P : Params) (hpos : ∀ x z, P.codec.cmp x = some z → 0 < z.length) (b : Blk)
    (hne : b.data ≠ []) (hnf : Sqfs.BlockWriter.hasFlag b.flags Consts.blkIsFragment = false)
    (hnb : Sqfs.BlockWriter.hasFlag b.flags Consts.blkFragmentBlock = false) :
    match Sqfs.Pack.workData (toPackParams P) (Sqfs.Pack.Flags.ofNat b.flags) b.data with
    | .sparse n => Sqfs.BlockWriter.hasFlag (processBlock P b).flags Consts.blkIsSparse = true ∧ n = b.data.length ∧
        (processBlock P b).data = b.data
    | .stored s => (processBlock P b).flags = (if s.raw then b.flags else b.flags ||| Consts.blkIsCompressed) ∧
        (processBlock P b).data = s.data ∧ (processBlock P b).chk = s.cksum :=
  worker_eq_workData P hpos b hne hnf hnb

/-! ### schedules and worker counts: composition with C09 -/

/-- **what the composition with C09 rests on**, stated without any packaging: in every state the model of `threadpool.c`
can reach — `n` workers, any schedule, spurious wake-ups, no failing callback — in which the main thread is between two API
calls (or has returned from `destroy`), the value its last call returned is the value `threadpool_serial.c` returns for the
same call history.  All the schedule-independence content of the threaded theorems below is this fact, i.e.
`Sqfs.C09.refines_serial`. -/
theorem pool_last_answer_is_serial {cfg : Pool.Cfg} {n : Nat} {s : Pool.State} (hok : ∀ d, cfg.rcOf d = 0)
    (hr : Pool.Reachable cfg n s) (hidle : s.main = .idle ∨ s.main = .finished) :
    (s.rets.getLast?).getD .destroyed = serialAnsHist s.calls := by
  have href := Sqfs.C09.refines_serial hok hr hidle
  have hrc : cfg.rcOf = rc0 := funext hok
  unfold serialAnsHist
  rw [href, hrc]

/-- `beh` (the value the pool returns for the last call of a call history) is a behaviour of the **threaded** pool with
`n` workers: for every call history, either some execution of `threadpool.c`'s model — any schedule of the `n` workers
and the main thread, spurious wake-ups included, no failing callback — made exactly these calls and returned
`beh calls` last; or `beh` answers what `threadpool_serial.c` answers (histories the block processor never produces,
e.g. calls after `destroy`).

`RealisedBy` is a **packaging device**, not a source of generality: by `pool_last_answer_is_serial` both disjuncts force
`beh calls` to be the serial pool's answer, so on every non-empty history a realised behaviour *is* `serialAnsHist`
(`realised_unique`) — "for every `beh` with `RealisedBy n beh`" ranges over one function.  `n`, the schedule and the
wake-ups enter through the executions the first disjunct quantifies over; what makes them irrelevant is C09's theorem. -/
def RealisedBy (n : Nat) (beh : List Pool.Op → Pool.Ret) : Prop :=
  ∀ calls, (∃ (cfg : Pool.Cfg) (s : Pool.State), (∀ d, cfg.rcOf d = 0) ∧ Pool.Reachable cfg n s ∧
              (s.main = .idle ∨ s.main = .finished) ∧ s.calls = calls ∧ s.rets.getLast? = some (beh calls)) ∨
           beh calls = serialAnsHist calls

/-- what `Sqfs.C09.refines_serial` says about such a behaviour -/
theorem realised_eq_serial (n : Nat) (beh : List Pool.Op → Pool.Ret) (h : RealisedBy n beh) :
    behAns beh = serialAns := by
  funext p op
  rw [serialAns_hist]
  unfold behAns
  rcases h (p.calls ++ [op]) with ⟨cfg, s, hok, hr, hidle, hcalls, hlast⟩ | hs
  · have := pool_last_answer_is_serial hok hr hidle
    rwa [hlast, hcalls] at this
  · exact hs

/-- … so a realised behaviour is the serial pool's on every non-empty call history: the quantifier over `beh` in the
theorems below ranges over exactly this function -/
theorem realised_unique (n : Nat) (beh : List Pool.Op → Pool.Ret) (h : RealisedBy n beh) (calls : List Pool.Op) (op : Pool.Op) :
    beh (calls ++ [op]) = serialAnsHist (calls ++ [op]) :=
  (congrFun (congrFun (realised_eq_serial n beh h) ⟨calls, [], _, rfl⟩) op).trans (serialAns_hist ⟨calls, [], _, rfl⟩ op)

/-- **`schedule_independent`.**  Run the block processor on top of *any* behaviour of the threaded pool — any number
of workers, any schedule, with spurious wake-ups — as long as no callback fails: the result is the serial pool's,
hence (`run_eq_spec`) the reference's, for every `max_backlog`. -/
theorem schedule_independent (P : Params) (hc : CodecOk P.codec) (hB0 : 0 < P.B) (hB : P.B < 2 ^ 24) (n : Nat)
    (beh : List Pool.Op → Pool.Ret) (h : RealisedBy n beh) (mb : Nat) (files : List InFile) :
    run { P with ans := behAns beh } mb files = run (serial P) mb files ∧
    run { P with ans := behAns beh } mb files = runEager (serial P) files := by
  have : ({ P with ans := behAns beh } : Params) = serial P := by
    unfold serial; rw [realised_eq_serial n beh h]
  rw [this]
  exact ⟨rfl, run_eq_spec P hc hB0 hB mb files⟩

/-- **`jobs_independent`.**  `-j n₁ -Q mb₁` under one schedule and `-j n₂ -Q mb₂` under another give the same result. -/
theorem jobs_independent (P : Params) (hc : CodecOk P.codec) (hB0 : 0 < P.B) (hB : P.B < 2 ^ 24) (n₁ n₂ : Nat)
    (beh₁ beh₂ : List Pool.Op → Pool.Ret) (h₁ : RealisedBy n₁ beh₁) (h₂ : RealisedBy n₂ beh₂) (mb₁ mb₂ : Nat)
    (files : List InFile) :
    run { P with ans := behAns beh₁ } mb₁ files = run { P with ans := behAns beh₂ } mb₂ files := by
  rw [(schedule_independent P hc hB0 hB n₁ beh₁ h₁ mb₁ files).2, (schedule_independent P hc hB0 hB n₂ beh₂ h₂ mb₂ files).2]

/-! ### the threaded block processor computes `specPack`: carry-over of C17's and C08's theorems -/

/-- **`threaded_eq_specPack`.**  `run_eq_specPack` for the block processor on top of *any* behaviour of the threaded pool: any
number of workers, any schedule, any backlog. -/
theorem threaded_eq_specPack (P : Params) (hc : CodecOk P.codec) (hpos : ∀ x z, P.codec.cmp x = some z → 0 < z.length)
    (hbc : P.byteCompare = true) (hB0 : 0 < P.B) (hB : P.B < 2 ^ 24) (n : Nat) (beh : List Pool.Op → Pool.Ret)
    (h : RealisedBy n beh) (mb : Nat) (files : List InFile)
    (hfl : ∀ f ∈ files, f.flags &&& Consts.blkUserSettable = f.flags) :
    ∃ out, run { P with ans := behAns beh } mb files = .ok out ∧
      out.view = specView P.pre (Sqfs.Pack.specPack (toPackParams P) (toPackFiles files)) := by
  rw [(schedule_independent P hc hB0 hB n beh h mb files).1]
  exact run_eq_specPack P hc hpos hbc hB0 hB mb files hfl

/-- **`threaded_readback`** (carry-over of C08 / C17's read-back theorem `Sqfs.C17.directives_preserve_content`).  Whatever
the number of workers, the schedule and the backlog: the image the threaded block processor writes is the `specView` of the
`specPack` layout `o`, the inode it produces for file `i` is the view of `o`'s result `r`, and reading file `i` back from
that layout — block words in order, a hole as zeros, a stored block through `unc` unless raw, the tail end from its
fragment block — yields exactly the file's input bytes. -/
theorem threaded_readback (P : Params) (hc : CodecOk P.codec) (hpos : ∀ x z, P.codec.cmp x = some z → 0 < z.length)
    (hbc : P.byteCompare = true) (hB0 : 0 < P.B) (hB : P.B < 2 ^ 24) (n : Nat) (beh : List Pool.Op → Pool.Ret)
    (h : RealisedBy n beh) (mb : Nat) (files : List InFile)
    (hfl : ∀ f ∈ files, f.flags &&& Consts.blkUserSettable = f.flags) (i : Nat) (hi : i < files.length) :
    let o := Sqfs.Pack.specPack (toPackParams P) (toPackFiles files)
    ∃ out r, run { P with ans := behAns beh } mb files = .ok out ∧ out.view = specView P.pre o ∧
      o.files[i]? = some r ∧ out.files[i]? = some (resView r) ∧
      Sqfs.Pack.readFile (toPackParams P) o r = files[i].data := by
  intro o
  obtain ⟨out, hrun, hview⟩ := threaded_eq_specPack P hc hpos hbc hB0 hB n beh h mb files hfl
  have hi' : i < (toPackFiles files).length := by simpa [toPackFiles] using hi
  obtain ⟨r, hr, hread⟩ := Sqfs.C17.directives_preserve_content (toPackParams P) hB0 (toPack_codec_ok P hc hpos)
    (toPackFiles files) i hi'
  refine ⟨out, r, hrun, hview, hr, ?_, ?_⟩
  · have hf : out.files = o.files.map resView := congrArg PackView.files hview
    rw [hf, List.getElem?_map, hr]; rfl
  · rw [hread]; simp [toPackFiles]

/-- **`threaded_directives`** (carry-over of C17's directive theorems).  Whatever the number of workers, the schedule and
the backlog, the image the threaded block processor writes is the view of a layout `o` in which every packing directive
has exactly its effect: `dont_compress` (block words raw or holes, the fragment block of the tail stored raw),
`dont_fragment` (no fragment reference, `⌈size / B⌉` block words), `nosparse` (no hole, sparse counter 0, not extended, the
tail gets a fragment reference), `dont_deduplicate` (own blocks behind every earlier file's, own fragment slot), and the
layout follows the order of the file list. -/
theorem threaded_directives (P : Params) (hc : CodecOk P.codec) (hpos : ∀ x z, P.codec.cmp x = some z → 0 < z.length)
    (hbc : P.byteCompare = true) (hB0 : 0 < P.B) (hB : P.B < 2 ^ 24) (n : Nat) (beh : List Pool.Op → Pool.Ret)
    (h : RealisedBy n beh) (mb : Nat) (files : List InFile)
    (hfl : ∀ f ∈ files, f.flags &&& Consts.blkUserSettable = f.flags) :
    let Q := toPackParams P
    let F := toPackFiles files
    let o := Sqfs.Pack.specPack Q F
    ∃ out, run { P with ans := behAns beh } mb files = .ok out ∧ out.view = specView P.pre o ∧
      (∀ i (hi : i < F.length), F[i].flags.dontCompress = true →
        ∃ r, o.files[i]? = some r ∧ (∀ w ∈ r.words, w = .sparse ∨ ∃ k, w = .stored k true) ∧
          (∀ k off, r.frag = some (k, off) → ∃ e, o.frags[k]? = some e ∧ e.raw = true)) ∧
      (∀ i (hi : i < F.length), F[i].flags.dontFragment = true →
        ∃ r, o.files[i]? = some r ∧ r.frag = none ∧
          r.words.length = F[i].data.length / Q.B + (if F[i].data.length % Q.B > 0 then 1 else 0)) ∧
      (∀ i (hi : i < F.length), F[i].flags.ignoreSparse = true →
        ∃ r, o.files[i]? = some r ∧ (∀ w ∈ r.words, w ≠ .sparse) ∧ r.sparse = 0 ∧ r.extended = false ∧
          (Sqfs.Pack.hasTailFrag Q.B F[i] = true → ∃ idx off, r.frag = some (idx, off))) ∧
      (∀ i j (hij : i < j) (hj : j < F.length), F[j].flags.dontDedup = true →
        ∃ ri rj, o.files[i]? = some ri ∧ o.files[j]? = some rj ∧ rj.shared = false ∧
          (Sqfs.Pack.diskBytes rj.words > 0 → ri.start + Sqfs.Pack.diskBytes ri.words ≤ rj.start) ∧
          (∀ a off b off', ri.frag = some (a, off) → rj.frag = some (b, off') →
            a ≠ b ∨ off + (F[i]'(by omega)).data.length % Q.B ≤ off')) ∧
      (∀ i j (hij : i < j) (hj : j < F.length),
        ∃ ri rj, o.files[i]? = some ri ∧ o.files[j]? = some rj ∧
          (rj.shared = false → (∃ k raw, Sqfs.Pack.Word.stored k raw ∈ rj.words) →
            ri.start + Sqfs.Pack.diskBytes ri.words ≤ rj.start ∧
            ((∃ k raw, Sqfs.Pack.Word.stored k raw ∈ ri.words) → ri.start < rj.start))) := by
  intro Q F o
  obtain ⟨out, hrun, hview⟩ := threaded_eq_specPack P hc hpos hbc hB0 hB n beh h mb files hfl
  have hcQ := toPack_codec_ok P hc hpos
  exact ⟨out, hrun, hview,
    fun i hi hf => Sqfs.C17.dont_compress_effect Q F i hi hf,
    fun i hi hf => Sqfs.C17.dont_fragment_effect Q F i hi hf,
    fun i hi hf => Sqfs.C17.nosparse_effect Q F i hi hf,
    fun i j hij hj hf => Sqfs.C17.dont_dedup_effect Q F i j hij hj hf,
    fun i j hij hj => Sqfs.C17.layout_follows_order Q hB0 hcQ F i j hij hj⟩

/-- **`script_schedule_independent`.**  The same for every *API script* — files, `sqfs_block_processor_submit_block`
(manual submission) and `sqfs_block_processor_sync` calls in any order (`ApiOp`, Sqfs/Model/BlockProcFail.lean) — and for
both variants of `sync`: over any behaviour of the threaded pool without failing callbacks the script computes what it
computes over the serial pool.  (Independence of `max_backlog` for scripts with manual submissions is exercised by the
check, not proved: the invariant of `Proofs/BP*.lean` covers the blocks the front end submits.) -/
theorem script_schedule_independent (v : Variant) (P : Params) (n : Nat) (beh : List Pool.Op → Pool.Ret)
    (h : RealisedBy n beh) (mb : Nat) (ops : List ApiOp) :
    runOps v { P with ans := behAns beh } mb ops = runOps v (serial P) mb ops := by
  have : ({ P with ans := behAns beh } : Params) = serial P := by
    unfold serial; rw [realised_eq_serial n beh h]
  rw [this]

/-! ### per-worker compressor state: the purity of the worker function as an explicit hypothesis -/

/-- **`stateful_pool_is_pure`.**  Workers that carry private compressor state (`StatefulCodec σ`: every worker owns a copy,
`do_block` may change it), *any* assignment `asg` of submitted items to workers (the schedule's choice) and any initial
states: if `do_block` is history independent, the worked items the pool hands back are `processBlock` with the pure codec
applied to each item — exactly what `Model/BlockProc.lean` stores in the pool's table. -/
theorem stateful_pool_is_pure {σ : Type} (P : Params) (c : StatefulCodec σ) (hi : c.HistoryIndependent) (asg : Nat → Nat)
    (st : Nat → σ) (id : Nat) (items : List Blk) :
    workItems P c asg st id items = items.map (processBlock { P with codec := c.pure }) := by
  induction items generalizing st id with
  | nil => rfl
  | cons b bs ih =>
    simp only [workItems, List.map_cons]
    rw [processBlockS_pure P c hi, ih]

/-- a history-independent compressor **with real state**: the object counts its `do_block` calls (as a `z_stream` keeps
`total_in`), the result does not look at the counter; its pure form is `exCodec` -/
def cntCodec : StatefulCodec Nat :=
  { init := 0
    doBlock := fun s x => (s + 1, if x = [7, 7, 7, 7] then some [7, 4] else none)
    unc := fun z => if z = [7, 4] then some [7, 7, 7, 7] else some z }

/-- the joint instance of the contract hypotheses: `cntCodec` is history independent, its state does change, and its pure
form meets `CodecOk` -/
example : cntCodec.HistoryIndependent ∧ (cntCodec.doBlock 0 [1]).1 ≠ cntCodec.init ∧ CodecOk cntCodec.pure :=
  ⟨fun _ _ => rfl, by decide, exCodec_ok⟩

/-- instance of `stateful_pool_is_pure` (hypothesis discharged, non-trivial state): two workers taking tickets alternately,
both starting with a counter of 5 -/
example : workItems exP cntCodec (fun t => t % 2) (fun _ => 5) 0
      [{ flags := Consts.blkFirstBlock, data := [7, 7, 7, 7], inode := some 0, index := 0 },
       { flags := Consts.blkLastBlock, data := [6, 7], inode := some 0, index := 1 }] =
    [{ flags := Consts.blkFirstBlock, data := [7, 7, 7, 7], inode := some 0, index := 0 },
     { flags := Consts.blkLastBlock, data := [6, 7], inode := some 0, index := 1 }].map
      (processBlock { exP with codec := cntCodec.pure }) :=
  stateful_pool_is_pure exP cntCodec (fun _ _ => rfl) (fun t => t % 2) (fun _ => 5) 0 _

/-- **`schedule_independent_stateful`.**  `schedule_independent` for the block processor **run on a pool whose workers carry
compressor state** (`runS`, Model/BlockProcWorkers.lean: the main-thread state machine of Model/BlockProc.lean with `submit`
storing the item as worked by a copy of the compressor object `c` in state `κ t`, `t` the item's ticket).  `κ` is arbitrary:
it stands for the number of workers, the assignment of blocks to workers, the initial states and everything a copy
compressed before — whichever copy takes a ticket, in whatever state.  If `do_block` is history independent (and the pure
form meets the codec contract), then over any behaviour of the threaded pool, for every backlog, the run is the
reference's.  (`hi` is what the proof uses: without it the statement is false, `stateful_worker_schedule_dependent`.  That
`runS` is the machine of Model/BlockProc.lean when the state is ignored is `Sqfs.BlockProc.runK_const`.) -/
theorem schedule_independent_stateful {σ : Type} (P : Params) (c : StatefulCodec σ) (hi : c.HistoryIndependent)
    (hc : CodecOk c.pure) (hB0 : 0 < P.B) (hB : P.B < 2 ^ 24) (n : Nat) (beh : List Pool.Op → Pool.Ret)
    (h : RealisedBy n beh) (κ : Nat → σ) (mb : Nat) (files : List InFile) :
    runS { P with ans := behAns beh } c κ mb files = runEager (serial { P with codec := c.pure }) files := by
  rw [runS_pure _ c hi κ mb files false]
  exact (schedule_independent { P with codec := c.pure } hc hB0 hB n beh h mb files).2

/-- instance of `schedule_independent_stateful`, all hypotheses discharged: the counting compressor, every copy in a
different state (`κ t = 3 t + 1`), 2 workers, backlog 3, the six files of the instance -/
example : runS { exP with ans := behAns serialAnsHist } cntCodec (fun t => 3 * t + 1) 3 exFiles =
    runEager (serial { exP with codec := cntCodec.pure }) exFiles :=
  schedule_independent_stateful exP cntCodec (fun _ _ => rfl) exCodec_ok exP_side.1 exP_side.2.1 2 serialAnsHist
    (fun _ => Or.inr rfl) (fun t => 3 * t + 1) 3 exFiles

/-- a compressor whose object remembers a "strategy": a block of 4 bytes or more sets it to 1 and is stored as
`[first byte, length]`; a shorter block is compressed *with whatever strategy the object was left with* (the shape of
the seeded defect C02-a2 in gzip.c: `deflateReset` does not reset the strategy) -/
def leakyCodec : StatefulCodec Nat :=
  { init := 0
    doBlock := fun s x => if x.length ≥ 4 then (1, some [x.headD 0, 4]) else (s, some [UInt8.ofNat s])
    unc := fun z => some z }

def leakyP : Params := { B := 4, codec := leakyCodec.pure, h := fun _ => 0 }

/-- the items the front end submits for one `DONT_FRAGMENT` file of 6 bytes with block size 4: a full block, a short last block -/
def leakyItems : List Blk :=
  [{ flags := Consts.blkDontFragment ||| Consts.blkFirstBlock, data := [5, 5, 5, 5], inode := some 0, index := 0 },
   { flags := Consts.blkDontFragment ||| Consts.blkLastBlock, data := [6, 7], inode := some 0, index := 1 }]

/-- the data area the block writer produces for worked items (all of them data blocks) -/
def imageOf (P : Params) (worked : List Blk) : Option (List UInt8) :=
  (wRun { wr := Sqfs.BlockWriter.init P.pre } worked).toOption.map (·.wr.file)

/-- **`stateful_worker_schedule_dependent`.**  Without history independence the image depends on the schedule: the leaky
compressor, two workers, the same two blocks — when worker 0 compresses both (what the serial pool does) the short block
is stored as `[1]`, when worker 1 takes the short block it is stored as `[0]`; the data areas differ.  (And the leaky
compressor is indeed not history independent.)  The last three conjuncts say the same about **whole runs** of the block
processor on the pool of stateful workers (`runS`; serial pool answers, backlog 3, one `DONT_FRAGMENT` file of 6 bytes): the
states the assigned copies are in at tickets 0 and 1 are `[0, 1]` under the first assignment and `[0, 0]` under the second
(`ticketStates`), and the two runs write different output files. -/
theorem stateful_worker_schedule_dependent :
    leakyItems = (feFiles 4 0 [⟨Consts.blkDontFragment, [5, 5, 5, 5, 6, 7]⟩]).toOption.getD [] ∧
    imageOf leakyP (workItems leakyP leakyCodec (fun _ => 0) (fun _ => 0) 0 leakyItems) = some [5, 4, 1] ∧
    imageOf leakyP (workItems leakyP leakyCodec (fun t => t) (fun _ => 0) 0 leakyItems) = some [5, 4, 0] ∧
    ¬ leakyCodec.HistoryIndependent ∧
    (ticketStates leakyCodec (fun _ => 0) (fun _ => 0) 0 leakyItems = [0, 1] ∧
     ticketStates leakyCodec (fun t => t) (fun _ => 0) 0 leakyItems = [0, 0]) ∧
    (runS leakyP leakyCodec (fun t => [0, 1].getD t 0) 3 [⟨Consts.blkDontFragment, [5, 5, 5, 5, 6, 7]⟩]).toOption.map (·.file) =
      some [5, 4, 1] ∧
    (runS leakyP leakyCodec (fun t => [0, 0].getD t 0) 3 [⟨Consts.blkDontFragment, [5, 5, 5, 5, 6, 7]⟩]).toOption.map (·.file) =
      some [5, 4, 0] := by
  refine ⟨by decide +kernel, by decide +kernel, by decide +kernel, ?_, by decide +kernel, by decide +kernel, by decide +kernel⟩
  intro h
  have := h 1 [6, 7]
  revert this
  decide

/-! ### a failing compressor: determinism of failure

`schedule_independent` assumes that no worker callback fails.  When the compressor fails on a block (`do_block < 0`),
`process_block` returns the error to the pool, which records it as its status and hands the item back like any other
(`Sqfs/Model/BlockProcFail.lean`).  The block processor looks at the status after a failed `submit`, after a NULL `dequeue`
and — since /repo 69db961 (= fixes/C02-report-worker-failure.patch) — at the end of every `sqfs_block_processor_sync`, which
is `return proc->pool->get_status(proc->pool)`.  `sync` / `finish` / `run` of `Sqfs/Model/BlockProc.lean` **are** that
current code; every theorem of this file is about it.  On a healthy pool the status call answers 0 and changes nothing
(`Sqfs.BlockProc.PInv.status`, `sync_eq_drain`; visible here as `healthy_run_status_zero`), which is how the theorems of
the first sections carry over.  *Before* 69db961 `sync` was the drain alone and a failure could be swallowed, depending on
`max_backlog` and on the schedule: `Sqfs.Witness.C02.failure_swallowed_before_69db961` (`runV false`; a **repaired**
defect, replayed on every run only to tell a tree that lacks the repair).  With the current `sync` the failure is reported
whatever the backlog, worker count and schedule are:

Full statement, proved in two parts (`failure_deterministic_partial`: block processor model on the serial pool, every
`max_backlog`; `failed_item_back_status_nonzero`: threaded pool, every worker count and schedule):

    theorem failure_deterministic (P fails rc) (n) (beh : behaviour of the threaded pool with `n` workers whose callback returns
        `workRc fails rc` on the items) (mb files) :
        (some callback invocation of the run is on an item the compressor fails on) → ∃ e, run { failParams P fails rc with ans := behAns beh } mb files = .error e

What is missing for the single statement: the block processor model over an *arbitrary* behaviour of a failing threaded pool
(the invariant of `Proofs/BP*.lean` is proved for the serial answers; `Sqfs.C09.refines_serial` needs failure-free callbacks).
The threaded half below is the fact about the pool that `sync` relies on; the composition is exercised on every
run (harness/h_c02.c, codec `toyf`, 10 scheduling policies × workers × backlogs: every run must end in an error). -/

/-- the run on a healthy pool in which the blocks the compressor fails on are merely declined (stored uncompressed) — what the
failing run computes as long as nobody has looked at the pool status -/
def declined (P : Params) (fails : List UInt8 → Bool) : Params := serial { P with codec := failCodec P.codec fails }

/-- **`failure_deterministic_partial`** (the current code, serial pool, every `max_backlog`).  If some callback invocation
of the run is on an item the compressor fails on (`processed`: the items the pool has worked on, `rcOfTable`: the
callback's return value), `finish` returns an error, whatever `max_backlog` is — the run never returns 0 with an image in
which the block is stored uncompressed.  (`h₀` / `hf` speak about the same run on a healthy pool that merely declines the
marked blocks: that is what the failing run computes until somebody looks at the status.  For the `sync` before 69db961
the statement is false: `Sqfs.Witness.C02.failure_swallowed_before_69db961`.) -/
theorem failure_deterministic_partial (P : Params) (fails : List UInt8 → Bool) (rc : Int) (mb : Nat) (files : List InFile)
    (s₀ : Proc) (h₀ : runProc (declined P fails) mb files = .ok s₀)
    (hf : ∃ id ∈ s₀.pool.ser.processed, rcOfTable fails rc s₀.pool.table id ≠ 0) :
    ∃ e, run (failParams P fails rc) mb files = .error e := by
  obtain ⟨id, hid, hne⟩ := hf
  exact run_error_of_not (healthy_agrees (declined P fails) rfl fails rc) mb files s₀ h₀
    fun hg => hne (hg.processed id hid)

/-- the same for every pair of backlogs at once: if the failing item is worked in the run with `mb₁` and in the run with
`mb₂`, both runs are errors — whether a compressor failure is reported does not depend on `max_backlog` -/
theorem failure_backlog_independent (P : Params) (fails : List UInt8 → Bool) (rc : Int) (mb₁ mb₂ : Nat) (files : List InFile)
    (s₁ s₂ : Proc) (h₁ : runProc (declined P fails) mb₁ files = .ok s₁) (h₂ : runProc (declined P fails) mb₂ files = .ok s₂)
    (hf₁ : ∃ id ∈ s₁.pool.ser.processed, rcOfTable fails rc s₁.pool.table id ≠ 0)
    (hf₂ : ∃ id ∈ s₂.pool.ser.processed, rcOfTable fails rc s₂.pool.table id ≠ 0) :
    (∃ e, run (failParams P fails rc) mb₁ files = .error e) ∧ (∃ e, run (failParams P fails rc) mb₂ files = .error e) :=
  ⟨failure_deterministic_partial P fails rc mb₁ files s₁ h₁ hf₁, failure_deterministic_partial P fails rc mb₂ files s₂ h₂ hf₂⟩

/-- **`failed_item_back_status_nonzero`** (threaded pool: every worker count, every schedule, spurious wake-ups).  Once an
item whose callback failed has been handed back by `dequeue`, the pool status is non-zero — and stays so
(`Sqfs.C09.failure_sticky`), so the `get_status` call at the end of `sync` reports it
(`Sqfs.C09.failure_reported_get_status`). -/
theorem failed_item_back_status_nonzero {cfg : Pool.Cfg} {n : Nat} {s : Pool.State} (hr : Pool.Reachable cfg n s) (t : Nat)
    (ht : t < s.returned.length) (d : Nat) (hd : s.submitted[t]? = some d) (hrc : cfg.rcOf d ≠ 0) : s.status ≠ 0 :=
  (Pool.invC_reachable hr).stored_failed (Pool.invA_reachable hr)
    (List.mem_append_left _ (List.mem_append_left _ (List.mem_range.2 ht))) hd hrc

/-- instance (all hypotheses discharged, `rcOf` not constantly 0): two workers, items 0 and 1, the callback fails on item 0
(`-3`), worker 1 overtakes worker 0, item 0 is dequeued — ticket 0 has been returned, it carried data 0, its callback
failed: the status is non-zero -/
example :
    let cfg : Pool.Cfg := ⟨true, fun d => if d = 0 then -3 else 0⟩
    let sched : List Pool.Choice :=
      [.main (.call (.submit 0)), .main (.cont false), .main (.call (.submit 1)), .main (.cont false),
       .worker 0 false, .worker 1 false, .worker 1 false, .worker 1 false, .worker 0 false, .worker 0 false,
       .main (.call .dequeue), .main (.cont false)]
    (Pool.run cfg (Pool.init 2) sched).returned = [0] ∧ (Pool.run cfg (Pool.init 2) sched).submitted = [0, 1] ∧
      (Pool.run cfg (Pool.init 2) sched).status ≠ 0 := by
  intro cfg sched
  exact ⟨by decide, by decide,
    failed_item_back_status_nonzero (Sqfs.C09.run_reachable cfg 2 sched) 0 (by decide) 0 (by decide) (by decide)⟩

/-- non-vacuity of `failure_deterministic_partial` and of `failure_backlog_independent` (whose hypotheses are these for `mb₁ = 3`,
`mb₂ = 40`; the conclusion on this instance is also `Sqfs.Witness.C02.failure_reported_current`): the witness instance (five blocks, the compressor fails on the first),
`max_backlog` 3 and 40 — the healthy run succeeds, its first callback invocation is on the marked block -/
example :
    let R := fun mb => runProc (declined { B := 4, codec := Sqfs.ToyCodec.codec 4, h := fun _ => 0 } Sqfs.Witness.C02.marked) mb
      [Sqfs.Witness.C02.wFile]
    ∀ mb ∈ [3, 40], ∃ s₀, R mb = .ok s₀ ∧
      ∃ id ∈ s₀.pool.ser.processed, rcOfTable Sqfs.Witness.C02.marked (-3) s₀.pool.table id ≠ 0 := by
  intro R mb hmb
  -- both runs are evaluated; the boolean says that ticket 0 was worked and its callback failed
  have h : (R mb).toOption.map (fun s => decide (0 ∈ s.pool.ser.processed) &&
      decide (rcOfTable Sqfs.Witness.C02.marked (-3) s.pool.table 0 ≠ 0)) = some true := by
    revert mb
    decide +kernel
  cases hr : R mb with
  | error e => rw [hr] at h; cases h
  | ok s₀ =>
    rw [hr] at h
    simp only [Except.toOption, Option.map_some, Option.some.injEq, Bool.and_eq_true, decide_eq_true_eq] at h
    exact ⟨s₀, rfl, 0, h.1, h.2⟩

/-! ### environment

What is **proved** about the environment clause, and what is only **exercised**:

* definition-level (no assurance beyond the model's shape): `times_depend_only_on_source_date_epoch` — in the model of
  where time stamps come from (`Model/BuildEnv.lean`) they are a function of the input, the options and
  `SOURCE_DATE_EPOCH`; the model simply has no path from the clock, `TZ`, the locale, the umask or the working directory to
  a time stamp, so the statement cannot fail for it; this part of the clause counts as exercised (below), not proved.
* proved, about a model: `tree_order_bytewise` — the order of directory entries (hence of inode numbers and of the file list) is fixed by the
  *bytes* of the names: the model of `insert_sorted` (fstree.c) compares with `strcmp` (`nameLt`, a strict total order),
  and the list it builds is the only strictly sorted arrangement (cites `Sqfs.C11.insertSorted_sorted`); no collation
  order, case folding or character class enters.
* exercised, on the real tools (tools/checks/c02.py, tool level): `TZ` × `LC_ALL` × umask × cwd × CPU affinity × a faked
  clock; and — because no locale other than C can be installed in the sandbox — a **hostile locale behind the
  locale-sensitive entry points of libc** (harness/shim_c02_locale.c: `setlocale` accepted, `strcoll`/`strxfrm` reversed and
  case folded, Turkish case mapping in `strcasecmp`/`tolower`/the ctype tables, `,` as decimal point, a UTC+13:45 zone
  behind `localtime`/`mktime`) on file names whose `strcmp` order differs from every collation (mixed case, punctuation,
  UTF-8 and Latin-1/5 letters, dotted/dotless i): the image must not change, and every call of such a function is recorded
  (currently: the `isdigit`/`isspace` macros and `fnmatch` — `glob … -name` lines of a pack file, `[glob]` lines of a sort file;
  inputs with bracket ranges / high bytes / a character class whose matching differs under case folding or collation are part of
  every run — never with an active locale: no `setlocale`; the only environment variable asked for is `SOURCE_DATE_EPOCH`).
  A packer that calls `setlocale` / `newlocale` with anything but `NULL` / `"C"` / `"POSIX"` is a violation by itself
  (`tool-setlocale:`), whether or not the image of the input at hand changes. -/

/-- **Environment clause (model level) — definition-level.**  The time stamps of an image — the super block's
`modification_time` and every inode's `mod_time` — are the same in two process environments that agree on
`SOURCE_DATE_EPOCH`, whatever the wall clock, time zone, locale, umask and working directory are.

This is **not a proof obligation that could fail**: `imageTimes` (Model/BuildEnv.lean) reads `env.sourceDateEpoch` and no
other field of `ProcessEnv`, so the statement holds by the shape of the model whatever the code does (with
`--defaults mtime=` it is `rfl` for *any* two environments).  It is kept as the precise wording of the clause; the clause
itself counts as **exercised, not proved**: that the tools consult nothing else is decided by the tool-level runs of
tools/checks/c02.py with a faked clock, a hostile locale shim and varied environments. -/
theorem times_depend_only_on_source_date_epoch (e1 e2 : ProcessEnv) (o : Options) (inputs : List Int)
    (h : e1.sourceDateEpoch = e2.sourceDateEpoch) : imageTimes e1 o inputs = imageTimes e2 o inputs := by
  simp [imageTimes, superMtime, inodeMtime, defaultMtime, h]

/-- `get_source_date_epoch` returns 0 for an unset, empty, non-numeric or too large value, so those environments
all give the image of `SOURCE_DATE_EPOCH=0` -/
theorem source_date_epoch_default (s : List UInt8) (h : sdeDigits s 0 = none) :
    sourceDateEpoch (some s) = sourceDateEpoch none := by
  cases s with
  | nil => rfl
  | cons a t => simp [sourceDateEpoch, h]

/-- instances (hypothesis discharged): `SOURCE_DATE_EPOCH=ab` (not a number) and `=4294967296` (does not fit 32 bits) give
the time stamps of an unset variable -/
example : sourceDateEpoch (some [0x61, 0x62]) = sourceDateEpoch none ∧
    sourceDateEpoch (some [52, 50, 57, 52, 57, 54, 55, 50, 57, 54]) = sourceDateEpoch none :=
  ⟨source_date_epoch_default [0x61, 0x62] (by decide),
   source_date_epoch_default [52, 50, 57, 52, 57, 54, 55, 50, 57, 54] (by decide)⟩

/-- **`tree_order_bytewise`** (environment clause, locale).  The children list `insert_sorted` (fstree.c) builds from nodes with
pairwise different names — in whatever order they arrive — is the *only* arrangement of these nodes that is strictly
sorted by `strcmp` (`nameLt`: lexicographic on unsigned bytes).  So the order of directory entries, and with it the inode
numbering and the file list (`Sqfs.C11.numbering_deterministic`), is a function of the names' bytes: a locale has no say. -/
theorem tree_order_bytewise (nodes : List Sqfs.FsTree.TNode) (hnd : (nodes.map Sqfs.FsTree.TNode.name).Nodup)
    (l : List Sqfs.FsTree.TNode) (hp : l.Perm nodes) (hs : Sqfs.FsTree.SortedNames (l.map Sqfs.FsTree.TNode.name)) :
    l = nodes.foldl (fun acc n => Sqfs.FsTree.insertSorted n acc) [] := by
  obtain ⟨h1, h2⟩ := Sqfs.FsTree.foldl_insertSorted_spec nodes [] List.Pairwise.nil (by simpa using hnd)
  have hp' : l.Perm (nodes.foldl (fun acc n => Sqfs.FsTree.insertSorted n acc) []) := hp.trans (by simpa using h2.symm)
  unfold Sqfs.FsTree.SortedNames at hs h1
  rw [List.pairwise_map] at hs h1
  exact Sqfs.FsTree.sorted_perm_unique Sqfs.FsTree.TNode.name hp' hs h1

/-- instance (all hypotheses discharged): the nodes `a`, `B`, `_x` in the order a case-folding collation would produce; the
byte-sorted arrangement `B`, `_x`, `a` is a permutation of them and strictly sorted, hence it *is* what `insert_sorted` builds -/
example :
    [Sqfs.FsTree.TNode.mk [0x42] default [], .mk [0x5f, 0x78] default [], .mk [0x61] default []] =
      [Sqfs.FsTree.TNode.mk [0x61] default [], .mk [0x42] default [], .mk [0x5f, 0x78] default []].foldl
        (fun acc n => Sqfs.FsTree.insertSorted n acc) [] :=
  tree_order_bytewise [Sqfs.FsTree.TNode.mk [0x61] default [], .mk [0x42] default [], .mk [0x5f, 0x78] default []] (by decide)
    [Sqfs.FsTree.TNode.mk [0x42] default [], .mk [0x5f, 0x78] default [], .mk [0x61] default []]
    (List.perm_append_comm (l₁ := [Sqfs.FsTree.TNode.mk [0x42] default [], .mk [0x5f, 0x78] default []])
      (l₂ := [Sqfs.FsTree.TNode.mk [0x61] default []])) (by decide)

/-- non-vacuity: `B`, `a`, `_x` arrive in the order a case-folding, punctuation-blind collation would produce
(`a`, `B`, `_x`); `insert_sorted` yields the byte order `B` (0x42) < `_x` (0x5f) < `a` (0x61) -/
example :
    ([Sqfs.FsTree.TNode.mk [0x61] default [], .mk [0x42] default [], .mk [0x5f, 0x78] default []].foldl
      (fun acc n => Sqfs.FsTree.insertSorted n acc) []).map Sqfs.FsTree.TNode.name = [[0x42], [0x5f, 0x78], [0x61]] := by decide

/-! ### non-vacuity: the hypotheses are satisfiable on a non-trivial instance -/

example : 0 < exP.B ∧ exP.B < 2 ^ 24 ∧ ∀ f ∈ exFiles, f.flags &&& Consts.blkUserSettable = f.flags := by decide

/-- the instance is not trivial: 17 `write_data_block` calls, 3 fragment blocks (two overflows), a 28 byte data area
(the last file's blocks were given up for the first file's), a sparse block, fragments shared between files (0 and 3; 4 and 5) -/
example :
    (run (serial exP) 3 exFiles).toOption.map (fun o => (o.calls.length, o.frags.length, o.file.length)) = some (17, 3, 28) ∧
    (run (serial exP) 3 exFiles).toOption.map (fun o => o.files.map (fun r => r.start)) = some [0, 8, 0, 0, 15, 0] ∧
    (run (serial exP) 3 exFiles).toOption.map (fun o => o.files.map (fun r => r.fragIdx)) = some [0, 0, 1, 0, 2, 2] ∧
    (run (serial exP) 3 exFiles).toOption.map (fun o => o.files.map (fun r => r.sparse)) = some [0, 0, 0, 4, 0, 0] := by
  decide +kernel

/-- `backlog_independent` / `run_eq_spec` on the instance: backlog 3 vs 40 vs the reference (backlog 3 is evaluated above) -/
example : (run (serial exP) 3 exFiles).toOption = (run (serial exP) 40 exFiles).toOption ∧
    (run (serial exP) 3 exFiles).toOption = (runEager (serial exP) exFiles).toOption :=
  ⟨congrArg _ (backlog_independent exP exCodec_ok exP_side.1 exP_side.2.1 3 40 exFiles),
   congrArg _ (run_eq_spec exP exCodec_ok exP_side.1 exP_side.2.1 3 exFiles)⟩

/-- `run_sync_eq_spec` on the instance -/
example : (run (serial exP) 3 exFiles (sy := true)).toOption = (runEager (serial exP) exFiles).toOption :=
  congrArg _ (run_sync_eq_spec exP exCodec_ok exP_side.1 exP_side.2.1 3 exFiles)

/-- the hypothesis of `finish_writes_everything` is satisfiable, and so is the error case of
`dequeue_never_internal_error` (flag word 32 is not user settable) -/
example : (runProc (serial exP) 3 exFiles).toOption.isSome = true ∧
    (run (serial exP) 3 [⟨32, [1, 2, 3]⟩]).toOption = none := by
  refine ⟨?_, by decide +kernel⟩
  rcases run_final (P := serial exP) rfl exCodec_ok exP_side.1 exP_side.2.1 3 exFiles with ⟨s, h, _⟩ | ⟨_, _, _, _, f, hf, hbad⟩
  · rw [h]; rfl
  · exact absurd (exP_side.2.2.1 f hf) hbad

/-- the hypotheses of `run_eq_specPack_partial` on a compressible block of the instance -/
example : (∀ x z, exP.codec.cmp x = some z → 0 < z.length) ∧
    (processBlock exP { flags := 0, data := [7, 7, 7, 7] }).data = [7, 4] ∧
    Sqfs.Pack.workData (toPackParams exP) (Sqfs.Pack.Flags.ofNat 0) [7, 7, 7, 7] =
      .stored ⟨false, exP.h [7, 7, 7, 7], [7, 4]⟩ :=
  ⟨exP_side.2.2.2.2, by decide +kernel, by decide +kernel⟩

/-- `RealisedBy` is inhabited: the serial pool itself … -/
example (n : Nat) : RealisedBy n serialAnsHist := fun _ => Or.inr rfl

/-- … and real executions of the threaded pool's model: two workers, items 0 and 1, worker 1 overtakes worker 0,
both items dequeued — the state is reachable, the main thread is idle, and the last value returned is item 1 -/
example :
    let cfg : Pool.Cfg := ⟨true, fun _ => 0⟩
    let s := Pool.run cfg (Pool.init 2)
      [.main (.call (.submit 0)), .main (.cont false), .main (.call (.submit 1)), .main (.cont false),
       .worker 0 false, .worker 1 false, .worker 1 false, .worker 1 false, .worker 0 false, .worker 0 false,
       .main (.call .dequeue), .main (.cont false), .main (.call .dequeue), .main (.cont false)]
    Pool.Reachable cfg 2 s ∧ s.main = .idle ∧ s.calls = [.submit 0, .submit 1, .dequeue, .dequeue] ∧
      s.rets.getLast? = some (.deq (some 1)) ∧ s.started.map (·.1) = [1, 0] :=
  ⟨Sqfs.C09.run_reachable _ _ _, by decide⟩

/-! ### the theorems applied to the instance, every hypothesis discharged (`exCodec_ok`, `exP_side`) -/

example : run (serial exP) 3 exFiles = runEager (serial exP) exFiles :=
  run_eq_spec exP exCodec_ok exP_side.1 exP_side.2.1 3 exFiles
example : run (serial exP) 3 exFiles (sy := true) = runEager (serial exP) exFiles :=
  run_sync_eq_spec exP exCodec_ok exP_side.1 exP_side.2.1 3 exFiles
example : run (serial exP) 3 exFiles = run (serial exP) 40 exFiles :=
  backlog_independent exP exCodec_ok exP_side.1 exP_side.2.1 3 40 exFiles
example : ∃ out, run (serial exP) 3 exFiles = .ok out :=
  run_ok exP exCodec_ok exP_side.1 exP_side.2.1 3 exFiles exP_side.2.2.1
example : ∃ out, run (serial exP) 3 exFiles = .ok out ∧
    out.view = specView exP.pre (Sqfs.Pack.specPack (toPackParams exP) (toPackFiles exFiles)) :=
  run_eq_specPack exP exCodec_ok exP_side.2.2.2.2 exP_side.2.2.2.1 exP_side.1 exP_side.2.1 3 exFiles exP_side.2.2.1
/-- the threaded theorems: 2 and 4 workers, backlogs 3 and 40, the behaviour every realised behaviour is (`realised_unique`) -/
example : run { exP with ans := behAns serialAnsHist } 3 exFiles = run { exP with ans := behAns serialAnsHist } 40 exFiles :=
  jobs_independent exP exCodec_ok exP_side.1 exP_side.2.1 2 4 serialAnsHist serialAnsHist (fun _ => Or.inr rfl)
    (fun _ => Or.inr rfl) 3 40 exFiles
example : ∃ out, run { exP with ans := behAns serialAnsHist } 3 exFiles = .ok out ∧
    out.view = specView exP.pre (Sqfs.Pack.specPack (toPackParams exP) (toPackFiles exFiles)) :=
  threaded_eq_specPack exP exCodec_ok exP_side.2.2.2.2 exP_side.2.2.2.1 exP_side.1 exP_side.2.1 2 serialAnsHist
    (fun _ => Or.inr rfl) 3 exFiles exP_side.2.2.1
example := threaded_readback exP exCodec_ok exP_side.2.2.2.2 exP_side.2.2.2.1 exP_side.1 exP_side.2.1 2 serialAnsHist
    (fun _ => Or.inr rfl) 3 exFiles exP_side.2.2.1 1 (by decide)
example := threaded_directives exP exCodec_ok exP_side.2.2.2.2 exP_side.2.2.2.1 exP_side.1 exP_side.2.1 2 serialAnsHist
    (fun _ => Or.inr rfl) 3 exFiles exP_side.2.2.1
/-- an API script: a file, a manual submission, a `sync` -/
example : runOps true { exP with ans := behAns serialAnsHist } 3 [.file ⟨0, [1, 2, 3, 4, 5]⟩, .submit 0 [1, 2], .sync] =
    runOps true (serial exP) 3 [.file ⟨0, [1, 2, 3, 4, 5]⟩, .submit 0 [1, 2], .sync] :=
  script_schedule_independent true exP 2 serialAnsHist (fun _ => Or.inr rfl) 3 _
/-- `pool_last_answer_is_serial` on a real execution of the threaded pool (the one shown above: two workers, worker 1
overtakes worker 0): its last answer, item 1, is the serial pool's answer for the same four calls -/
example :
    let cfg : Pool.Cfg := ⟨true, fun _ => 0⟩
    let s := Pool.run cfg (Pool.init 2)
      [.main (.call (.submit 0)), .main (.cont false), .main (.call (.submit 1)), .main (.cont false),
       .worker 0 false, .worker 1 false, .worker 1 false, .worker 1 false, .worker 0 false, .worker 0 false,
       .main (.call .dequeue), .main (.cont false), .main (.call .dequeue), .main (.cont false)]
    (s.rets.getLast?).getD .destroyed = serialAnsHist s.calls ∧ s.rets.getLast? = some (.deq (some 1)) := by
  intro cfg s
  exact ⟨pool_last_answer_is_serial (fun _ => rfl) (Sqfs.C09.run_reachable _ _ _) (Or.inl (by decide)), by decide⟩
/-- two process environments that differ in everything but `SOURCE_DATE_EPOCH` -/
example : imageTimes ⟨some [49, 50], 1700000000, [85, 84, 67], [67], 18, [47]⟩ {} [5, -1] =
          imageTimes ⟨some [49, 50], 42, [], [], 63, []⟩ {} [5, -1] ∧
          imageTimes ⟨some [49, 50], 42, [], [], 63, []⟩ {} [5, -1] = (12, [12, 12]) := by decide

end Sqfs.C02
