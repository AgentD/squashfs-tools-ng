/-
C15 — Stream compression of tar input/output is transparent.

Property theorems only (helpers: `Sqfs/Proofs/Xfrm*.lean`; contracts: `Sqfs/Spec/XfrmContract.lean`; model:
`Sqfs/Model/Xfrm.lean`).  Everything is stated for an **arbitrary** codec `C` that meets the written-down
contract (`EncContract` / `DecContract`), an arbitrary one-shot reference decoder `Dec` of single members,
every buffer size `bufsz > 0`, every history of operations, every chunking.  The four compression libraries
are not verified; they enter through the contracts (trusted base, exercised by the correspondence check
against reference decompressors).

"Terminates" is expressed with the models' explicit fuel: there is an amount of fuel from which on the
result no longer depends on the fuel and is not "still running".
-/
import Sqfs.Proofs.XfrmToy
import Sqfs.Proofs.XfrmWrapErr
import Sqfs.Proofs.XfrmZstdDec
import Sqfs.Proofs.XfrmIoErr
import Sqfs.Proofs.XfrmProbe
namespace Sqfs.C15
open Sqfs.Xfrm Sqfs.Xfrm.Spec

variable {σ : Type} {C : Codec σ} {Dec : Bytes → Option Bytes}

/-! ### data of the instantiating examples
One toy codec setting (takes in at most 2 bytes per call while at most 2 wait in its queue, hands out 1 byte per call), two
members, an uneven chunk script for the wrapped input, readers that take 1–4 bytes per round, a history with two closed
segments, empty appends and an open segment at the end; a tail cut off inside a member; a dead tail.  The `example`s below apply
the property theorems to these with all hypotheses discharged. -/

def exP : Toy.Params := ⟨1, 0, 2⟩
def exA : Bytes := [65, 66, 67]
def exB : Bytes := [68, 69]
theorem exMembers : Members Toy.decode [Toy.encode exA, Toy.encode exB] [exA, exB] :=
  .cons (by decide) (.cons (by decide) .nil)
def exScript : List Nat := [1, 0, 2, 1, 3]
def exReads : List (Nat × Nat) := [(4, 3), (2, 1), (4, 3), (1, 1), (4, 4), (4, 4), (3, 2)]
theorem exReads_want : ∀ op ∈ exReads, 0 < op.1 := by decide
/-- a member cut after 3 of its 5 bytes -/
def exCut : Bytes := (Toy.encode [70, 71]).take 3
def exCutRest : Bytes := (Toy.encode [70, 71]).drop 3
theorem exCut_ne : exCut ≠ [] := by decide
theorem exCutRest_ne : exCutRest ≠ [] := by decide
theorem exCut_valid : Toy.decode (exCut ++ exCutRest) = some [70, 71] := by decide
def exOps : List OOp :=
  [.append [1, 2, 3], .append [4, 5, 6, 7, 8, 9], .flush, .flush, .append [], .append [10], .flush, .append [11, 12]]
def exChunks : List Bytes := [[1, 2, 3], [], [4, 5, 6, 7, 8, 9]]

/--
**ostream_transparent.**  After any history of `append` / `flush` calls on a fresh `ostream_xfrm`, in any
chunking (an `append(NULL, n)` is `OOp.append (appendBytes none n)`, i.e. `n` zero bytes), no call fails or
hangs, and what has reached the wrapped stream is a sequence of members `ms`, one per non-empty flushed
segment, each decoding to exactly the bytes appended between the two flushes, followed by the part already
written for the still open segment — nothing at all if the history ends with a flush.  (For a history that does
*not* end with a flush the statement does not constrain `part` itself — it only says that the closed members come
first; the flushed case, which is what the tools use, is fully specified: `ostream_transparent_single`.)
-/
theorem ostream_transparent (hC : EncContract C Dec) {bufsz : Nat} (hb : 0 < bufsz) (ops : List OOp) :
    ∃ fuel st, (∀ f, fuel ≤ f → oRun C bufsz f (oInit C) ops = some (.ok st)) ∧
      ∃ ms part, Members Dec ms (opsSegs [] [] ops).1 ∧ st.sink = ms.flatten ++ part ∧
        ((opsSegs [] [] ops).2 = [] → part = [] ∧ st.inbuf = []) := by
  obtain ⟨f0, st, hI, hrun⟩ := oRun_spec hC hb ops (oInit C) [] [] (OInv_init hC)
  exact ⟨f0, st, hrun, hI.sink⟩

example := ostream_transparent (Toy.encContract exP) (bufsz := 4) (by decide) exOps
example : (opsSegs [] [] exOps).1 = [[1, 2, 3, 4, 5, 6, 7, 8, 9], [10]] ∧ (opsSegs [] [] exOps).2 = [11, 12] := by decide

/--
The plain reading of the property: the bytes written by `append*; flush` decode to the input, whatever the
chunking (`chunks`) — one member holding everything if anything was appended, nothing otherwise.
-/
theorem ostream_transparent_single (hC : EncContract C Dec) {bufsz : Nat} (hb : 0 < bufsz) (chunks : List Bytes) :
    ∃ fuel st, (∀ f, fuel ≤ f → oRun C bufsz f (oInit C) (chunks.map OOp.append ++ [OOp.flush]) = some (.ok st)) ∧
      st.inbuf = [] ∧
      (chunks.flatten ≠ [] → Dec st.sink = some chunks.flatten) ∧ (chunks.flatten = [] → st.sink = []) := by
  obtain ⟨fuel, st, hrun, ms, part, hms, hsink, hpart⟩ := ostream_transparent hC hb (chunks.map OOp.append ++ [OOp.flush])
  have hsegs : ∀ (cs : List Bytes) (cur : Bytes),
      opsSegs [] cur (cs.map OOp.append ++ [OOp.flush]) =
        if cur ++ cs.flatten = [] then ([], []) else ([cur ++ cs.flatten], []) := by
    intro cs
    induction cs with
    | nil => intro cur; by_cases h : cur = [] <;> simp [opsSegs, h]
    | cons c cs ih => intro cur; simp [opsSegs, ih, List.append_assoc]
  have hs := hsegs chunks []
  simp only [List.nil_append] at hs
  rw [hs] at hms hpart
  by_cases h : chunks.flatten = []
  · rw [if_pos h] at hms hpart
    obtain ⟨hp, hin⟩ := hpart rfl
    cases hms
    exact ⟨fuel, st, hrun, hin, fun h' => absurd h h', fun _ => by simp [hsink, hp]⟩
  · rw [if_neg h] at hms hpart
    obtain ⟨hp, hin⟩ := hpart rfl
    cases hms with
    | cons hm hrest =>
      cases hrest
      exact ⟨fuel, st, hrun, hin, fun _ => by simpa [hsink, hp] using hm, fun h' => absurd h' h⟩

example := ostream_transparent_single (Toy.encContract exP) (bufsz := 4) (by decide) exChunks

/--
**ostream_flush_terminates.**  After any history, `xfrm_flush` (whose `flush_inbuf(finish)` loop has no bound
in the C code) comes back, without error, and leaves nothing buffered.
-/
theorem ostream_flush_terminates (hC : EncContract C Dec) {bufsz : Nat} (hb : 0 < bufsz) (ops : List OOp) :
    ∃ fuel st st', (∀ f, fuel ≤ f → oRun C bufsz f (oInit C) ops = some (.ok st)) ∧
      (∀ f, fuel ≤ f → oFlush C bufsz f st = some (.ok st')) ∧ st'.inbuf = [] := by
  obtain ⟨f1, st, hI, hrun⟩ := oRun_spec hC hb ops (oInit C) [] [] (OInv_init hC)
  obtain ⟨f2, st', hI', hfl⟩ := oFlush_spec hC hb st _ _ hI
  refine ⟨max f1 f2, st, st', fun f hf => hrun f (by omega), fun f hf => hfl f (by omega), ?_⟩
  obtain ⟨_, _, _, _, hnil⟩ := hI'.sink
  exact (hnil rfl).2

example := ostream_flush_terminates (Toy.encContract exP) (bufsz := 4) (by decide) exOps

/--
**istream_transparent** (stream-level contract).  Let the wrapped stream hold any sequence of members `ms` with contents `xs`
(concatenated members; none at all is allowed), let it hand its bytes out in any chunking (`script`), and let the reader call
`get_buffered_data(want ≥ 1)` / `advance_buffer(min take size)` in any pattern (`ops`).  Then no call fails or
hangs; what the reader has taken is always a prefix of the concatenated contents; end-of-stream is reported only
when **everything** has been delivered; and a reader that takes at least one byte per round either sees the end or
has received one byte per round (so `|content| + 1` rounds always reach the end).  The buffer size is arbitrary,
so "input ending exactly at the buffer edge" is covered.  `S` is the stream-level decoder contract, met by every
per-member decoder (`DecContract`, below) and by the decompressing zstd object, which decodes across frame boundaries.
-/
theorem istream_transparent_stream (S : StreamDecContract C Dec) {bufsz : Nat} (hb : 0 < bufsz) {ms xs : List Bytes}
    (hms : Members Dec ms xs) (script : List Nat) (ops : List (Nat × Nat)) (hw : ∀ op ∈ ops, 0 < op.1) :
    ∃ fuel st acc eof, (∀ f, fuel ≤ f → iRead C bufsz f (iInit C ⟨ms.flatten, script⟩) ops [] = some (.ok (st, acc, eof))) ∧
      IsPre acc xs.flatten ∧ (eof = true → acc = xs.flatten) ∧
      ((∀ op ∈ ops, 0 < op.2) → eof = true ∨ ops.length ≤ acc.length) := by
  obtain ⟨f0, st, acc, eof, hrun, hp, he, hl⟩ := iRead_valid S hb (S.start_valid hms) script ops hw
  exact ⟨f0, st, acc, eof, hrun, hp, he, fun h => by rwa [takingRounds_all h] at hl⟩

example := istream_transparent_stream (streamOfDec (Toy.decContract exP)) (bufsz := 4) (by decide) exMembers exScript exReads
  exReads_want

/-- **istream_transparent** for every decoder meeting the per-member contract -/
theorem istream_transparent (hD : DecContract C Dec) {bufsz : Nat} (hb : 0 < bufsz) {ms xs : List Bytes}
    (hms : Members Dec ms xs) (script : List Nat) (ops : List (Nat × Nat)) (hw : ∀ op ∈ ops, 0 < op.1) :
    ∃ fuel st acc eof, (∀ f, fuel ≤ f → iRead C bufsz f (iInit C ⟨ms.flatten, script⟩) ops [] = some (.ok (st, acc, eof))) ∧
      IsPre acc xs.flatten ∧ (eof = true → acc = xs.flatten) ∧
      ((∀ op ∈ ops, 0 < op.2) → eof = true ∨ ops.length ≤ acc.length) :=
  istream_transparent_stream (streamOfDec hD) hb hms script ops hw

example := istream_transparent (Toy.decContract exP) (bufsz := 4) (by decide) exMembers exScript exReads exReads_want

/--
**truncated_is_error** (stream-level contract).  Let the wrapped stream hold complete members `ms` followed by a non-empty
proper prefix `t` of a valid member (`t ++ t'` valid, `t' ≠ []`): a compressed input cut off in mid-member.  Then, for every
chunking and every reader with `want ≥ 1`, the stream **never reports end-of-stream**: the run either ends in
`SQFS_ERROR_COMPRESSOR`, or the reader has not been told that the data is over; what was handed out before is a
prefix of the intended contents; and a reader that takes at least one byte per round for more rounds than there
are content bytes gets the error.
-/
theorem truncated_is_error_stream (S : StreamDecContract C Dec) {bufsz : Nat} (hb : 0 < bufsz) {ms xs : List Bytes}
    (hms : Members Dec ms xs) {t t' xT : Bytes} (ht : t ≠ []) (ht' : t' ≠ []) (hcut : Dec (t ++ t') = some xT)
    (script : List Nat) (ops : List (Nat × Nat)) (hw : ∀ op ∈ ops, 0 < op.1) :
    ∃ fuel r, (∀ f, fuel ≤ f → iRead C bufsz f (iInit C ⟨ms.flatten ++ t, script⟩) ops [] = some r) ∧
      (r = .error errCompressor ∨
       ∃ st acc, r = .ok (st, acc, false) ∧ IsPre acc (xs.flatten ++ xT)) ∧
      ((∀ op ∈ ops, 0 < op.2) → (xs.flatten ++ xT).length < ops.length → r = .error errCompressor) := by
  obtain ⟨f0, r, hrun, hres, hlen⟩ := iRead_bad S hb (K := Kind.truncated) (by decide)
    (S.start_truncated hms ht ht' hcut) script ops hw
  exact ⟨f0, r, hrun, hres.imp id (fun ⟨st, acc, h, hp⟩ => ⟨st, acc, h, hp.zero⟩),
    fun htake hl => hlen (by rw [takingRounds_all htake]; exact hl)⟩

example := truncated_is_error_stream (streamOfDec (Toy.decContract exP)) (bufsz := 4) (by decide) exMembers exCut_ne exCutRest_ne
  exCut_valid exScript exReads exReads_want

/-- **truncated_is_error** for every decoder meeting the per-member contract -/
theorem truncated_is_error (hD : DecContract C Dec) {bufsz : Nat} (hb : 0 < bufsz) {ms xs : List Bytes}
    (hms : Members Dec ms xs) {t t' xT : Bytes} (ht : t ≠ []) (ht' : t' ≠ []) (hcut : Dec (t ++ t') = some xT)
    (script : List Nat) (ops : List (Nat × Nat)) (hw : ∀ op ∈ ops, 0 < op.1) :
    ∃ fuel r, (∀ f, fuel ≤ f → iRead C bufsz f (iInit C ⟨ms.flatten ++ t, script⟩) ops [] = some r) ∧
      (r = .error errCompressor ∨
       ∃ st acc, r = .ok (st, acc, false) ∧ IsPre acc (xs.flatten ++ xT)) ∧
      ((∀ op ∈ ops, 0 < op.2) → (xs.flatten ++ xT).length < ops.length → r = .error errCompressor) :=
  truncated_is_error_stream (streamOfDec hD) hb hms ht ht' hcut script ops hw

example := truncated_is_error (Toy.decContract exP) (bufsz := 4) (by decide) exMembers exCut_ne exCutRest_ne exCut_valid
  exScript exReads exReads_want

/--
**corrupt_is_error.**  Let the wrapped stream hold complete members `ms` followed by **dead** bytes `c`: bytes that are
neither a prefix of any valid member nor start with one (bit flips, trailing garbage, a damaged header …), and let the decoder
meet the corrupted-input part of the stream-level contract (under an explicit convention for the libraries' error returns,
see `backend_corrupt_is_error`).  Then, for every chunking and every reader with `want ≥ 1`: no call hangs; the stream
**never reports end-of-stream**; the run ends in `SQFS_ERROR_COMPRESSOR` or has not finished; what was handed out is a prefix
of the intact members' contents, or all of it followed by at most `budget |c|` bytes of junk; and a reader that takes at least
one byte per round for more rounds than that gets the error — so a corrupted input is never accepted and never loops.
-/
theorem corrupt_is_error (S : StreamDecErrContract C Dec) {bufsz : Nat} (hb : 0 < bufsz) {ms xs : List Bytes}
    (hms : Members Dec ms xs) {c : Bytes} (hc : Dead Dec c)
    (script : List Nat) (ops : List (Nat × Nat)) (hw : ∀ op ∈ ops, 0 < op.1) :
    ∃ fuel r, (∀ f, fuel ≤ f → iRead C bufsz f (iInit C ⟨ms.flatten ++ c, script⟩) ops [] = some r) ∧
      (r = .error errCompressor ∨
       ∃ st acc, r = .ok (st, acc, false) ∧ Deliv xs.flatten (S.budget c.length) acc) ∧
      ((∀ op ∈ ops, 0 < op.2) → xs.flatten.length + S.budget c.length < ops.length → r = .error errCompressor) := by
  obtain ⟨f0, r, hrun, hres, hlen⟩ := iRead_bad S.toStreamDecContract hb (K := Kind.corrupt) (by decide)
    (S.start_corrupt hms hc) script ops hw
  exact ⟨f0, r, hrun, hres, fun htake hl => hlen (by rw [takingRounds_all htake]; exact hl)⟩

/-! ### the reader: one that reads to the end of the stream sees the error, one that stops need not

`truncated_is_error*` / `corrupt_is_error` bind a reader only as far as it reads: their conclusion is "the error, **or** the run
has not been told that the data is over".  A reader that stops calling `get_buffered_data` — a tar reader that stops at the
end-of-archive marker — is in the second case, and the error that the decoder would report on the rest (a check sum in the
stream's trailer, a missing trailer) is never raised: `Sqfs.C15.Witness.stopping_reader_misses_the_error` (`Sqfs/Witness/C15.lean`) is a
concrete run (finding `unread-tail-accepted:*`, repaired in /repo by commit `d69b61b`).  The three theorems
below are the other half: **whatever** a reader did before (`ops`), once it goes on to read the stream to its end (`drainOps`:
`get_buffered_data(1)` / `advance_buffer(size)`, `n` rounds) it gets `SQFS_ERROR_COMPRESSOR` on a truncated or corrupted input —
after at most `|contents| (+ budget) + 1` rounds — and a regular end-of-stream with exactly the contents on a valid one.  This is
what the tar iterator does behind the end-of-archive marker of a compressed input (`lib/tar/src/iterator.c: drain_compressed_stream`). -/

theorem drainOps_want (bufsz n : Nat) (ops : List (Nat × Nat)) (hw : ∀ op ∈ ops, 0 < op.1) :
    ∀ op ∈ ops ++ drainOps bufsz n, 0 < op.1 := by
  intro op hop
  rcases List.mem_append.1 hop with h | h
  · exact hw op h
  · rw [List.eq_of_mem_replicate h]; exact Nat.one_pos

/-- **truncated input, reader that reads to the end**: the error, whatever was read before. -/
theorem truncated_is_error_for_draining_reader (S : StreamDecContract C Dec) {bufsz : Nat} (hb : 0 < bufsz) {ms xs : List Bytes}
    (hms : Members Dec ms xs) {t t' xT : Bytes} (ht : t ≠ []) (ht' : t' ≠ []) (hcut : Dec (t ++ t') = some xT)
    (script : List Nat) (ops : List (Nat × Nat)) (hw : ∀ op ∈ ops, 0 < op.1) (n : Nat) (hn : (xs.flatten ++ xT).length < n) :
    ∃ fuel, ∀ f, fuel ≤ f →
      iRead C bufsz f (iInit C ⟨ms.flatten ++ t, script⟩) (ops ++ drainOps bufsz n) [] = some (.error errCompressor) := by
  obtain ⟨f0, r, hrun, _, hlen⟩ := iRead_bad S hb (K := Kind.truncated) (by decide)
    (S.start_truncated hms ht ht' hcut) script (ops ++ drainOps bufsz n) (drainOps_want bufsz n ops hw)
  exact ⟨f0, fun f hf => by rw [hrun f hf, hlen (by rw [takingRounds_drain hb]; omega)]⟩

/-- **corrupted input, reader that reads to the end**: the error, whatever was read before — in particular when everything the
reader wanted had already been delivered (damaged contents whose check sum stands in the trailer of the compressed stream). -/
theorem corrupt_is_error_for_draining_reader (S : StreamDecErrContract C Dec) {bufsz : Nat} (hb : 0 < bufsz) {ms xs : List Bytes}
    (hms : Members Dec ms xs) {c : Bytes} (hc : Dead Dec c)
    (script : List Nat) (ops : List (Nat × Nat)) (hw : ∀ op ∈ ops, 0 < op.1) (n : Nat)
    (hn : xs.flatten.length + S.budget c.length < n) :
    ∃ fuel, ∀ f, fuel ≤ f →
      iRead C bufsz f (iInit C ⟨ms.flatten ++ c, script⟩) (ops ++ drainOps bufsz n) [] = some (.error errCompressor) := by
  obtain ⟨f0, r, hrun, _, hlen⟩ := iRead_bad S.toStreamDecContract hb (K := Kind.corrupt) (by decide)
    (S.start_corrupt hms hc) script (ops ++ drainOps bufsz n) (drainOps_want bufsz n ops hw)
  exact ⟨f0, fun f hf => by rw [hrun f hf, hlen (by rw [takingRounds_drain hb]; omega)]⟩

/-- **valid input, reader that reads to the end**: no error; the regular end of the stream is reported, after exactly the
concatenated contents (so reading on after the end-of-archive marker rejects nothing that is intact). -/
theorem valid_stream_drains_to_eof (S : StreamDecContract C Dec) {bufsz : Nat} (hb : 0 < bufsz) {ms xs : List Bytes}
    (hms : Members Dec ms xs) (script : List Nat) (ops : List (Nat × Nat)) (hw : ∀ op ∈ ops, 0 < op.1) (n : Nat)
    (hn : xs.flatten.length < n) :
    ∃ fuel st, ∀ f, fuel ≤ f →
      iRead C bufsz f (iInit C ⟨ms.flatten, script⟩) (ops ++ drainOps bufsz n) [] = some (.ok (st, xs.flatten, true)) := by
  obtain ⟨f0, st, acc, eof, hrun, hp, he, hl⟩ := iRead_valid S hb (S.start_valid hms) script (ops ++ drainOps bufsz n)
    (drainOps_want bufsz n ops hw)
  rcases hl with h | h
  · subst h
    exact ⟨f0, st, fun f hf => by rw [hrun f hf, he rfl]⟩
  · have := hp.length_le
    rw [takingRounds_drain hb] at h
    omega

/-- the three applied to the toy codec: a reader that stopped after two rounds (`exReads.take 2`), then reads to the end -/
example := truncated_is_error_for_draining_reader (streamOfDec (Toy.decContract exP)) (bufsz := 4) (by decide) exMembers exCut_ne
  exCutRest_ne exCut_valid exScript (exReads.take 2) (fun op h => exReads_want op (List.mem_of_mem_take h)) 8 (by decide)
example := valid_stream_drains_to_eof (streamOfDec (Toy.decContract exP)) (bufsz := 4) (by decide) exMembers exScript (exReads.take 2)
  (fun op h => exReads_want op (List.mem_of_mem_take h)) 6 (by decide)
/-- … and the runs themselves: the two members `ABC`, `DE` followed by a malformed marker, 5-byte buffer; the reader takes the five content
bytes in two rounds and is **not** told about the damage (no error, no end-of-stream) — the same reader going on to the end gets the error -/
example : (match iRead (Toy.decoder exP) 5 1000 (iInit (Toy.decoder exP) ⟨Toy.encode exA ++ Toy.encode exB ++ [2, 9, 9], exScript⟩)
      [(3, 3), (2, 2)] [] with
    | some (.ok (_, acc, eof)) => some (acc, eof)
    | _ => none) = some ([65, 66, 67, 68, 69], false) := by decide
example : (match iRead (Toy.decoder exP) 5 1000 (iInit (Toy.decoder exP) ⟨Toy.encode exA ++ Toy.encode exB ++ [2, 9, 9], exScript⟩)
      ([(3, 3), (2, 2)] ++ drainOps 5 9) [] with
    | some (.error e) => some e
    | _ => none) = some errCompressor := by decide

/--
**process_data_meets_contract** (all four backends, both directions).

* gzip.c, xz.c, bzip2.c (the three share one loop).  For every library stream object `L` that follows the documented zlib /
  liblzma / libbz2 calling convention (`LibEncContract` for compression: answers `OK`/`STREAM_END`/`BUF_ERROR`, `OK` means at
  least one byte consumed or produced, `STREAM_END` only to `FINISH` after all input, what was produced for a member decodes to
  what was consumed; `LibDecContract` for decompression on well-formed input: nothing beyond the member is consumed, output is
  produced as input is consumed, `STREAM_END` exactly at the end of the member, `total_in == 0` exactly when nothing of the
  member has been consumed; both for the actions the wrappers pass, `fl ≠ Flush.sync` — see `library_conventions_ignore_flush_sync`),
  the backend's `process_data` loop — `while ((in_size > 0 || flush_mode == FLUSH_FULL) && out_size > 0)`,
  the accounting, the mapping of return codes, the reset at the end of a member and the end-of-input rule
  `total_in == 0 ? END : ERROR` — always leaves within `in_size + out_size + 2` rounds and, as a codec, meets `EncContract` resp.
  `DecContract`.
* zstd.c, compressing (`zstdBody` with the `pending` flag and the decision after the loop) over any library following
  `ZSTD_compressStream2`'s convention (`ZEncContract`): leaves within the same bound and meets `EncContract`.
* zstd.c, **decompressing**, over any library following `ZSTD_decompressStream`'s convention (`ZDecContract`: the return value
  is 0 exactly when the frame is completely decoded and handed out; a call with input and room does something; output is
  produced as input is consumed).  This loop keeps decoding across frame boundaries inside one call and answers `END` only at
  the end of the input (the repo's `test_unpack_zstd` requires it), which the per-member `DecContract` excludes; it always leaves
  within the bound and meets the **stream-level** contract `StreamDecContract`, which is all `istream_xfrm` needs
  (`istream_transparent_stream`, `truncated_is_error_stream`).
* every per-member decoder (`DecContract`) meets the stream-level contract, so the latter is the common statement.
-/
theorem process_data_meets_contract {τ : Type} {L : Lib τ} {b : Backend} :
    (∀ (hL : LibEncContract L b Dec),
      (∀ {s : τ} {x y : Bytes} {fin : Bool} (inp : Bytes) (room : Nat) (fl : Flush), hL.R s x y fin → Proto fin fl inp →
        (wrapProcess L b true s inp room fl).isSome = true) ∧
      Nonempty (EncContract (wrapCodec L b true) Dec)) ∧
    (∀ (hL : LibDecContract L b Dec),
      (∀ {s : τ} {u v : Bytes} (w x tail inp : Bytes) (room : Nat) (fl : Flush), fl ≠ Flush.sync → hL.R s u v → Dec (u ++ w) = some x →
        IsPre inp (w ++ tail) → (wrapProcess L b false s inp room fl).isSome = true) ∧
      Nonempty (DecContract (wrapCodec L b false) Dec)) ∧
    (∀ {ζ : Type} {Z : ZLib ζ} (hZ : ZEncContract Z Dec),
      (∀ {s : ZState ζ} {x y : Bytes} {fin : Bool} (inp : Bytes) (room : Nat) (fl : Flush), ZEncR hZ s x y fin → Proto fin fl inp →
        (zstdProcess Z true s inp room fl).isSome = true) ∧
      Nonempty (EncContract (zstdCodec Z true) Dec)) ∧
    (∀ {ζ : Type} {Z : ZLib ζ} (hZ : ZDecContract Z Dec),
      (∀ {K : Kind} {zs : ZState ζ} {rest rem : Bytes} {j : Nat} (n room : Nat) (fl : Flush),
        (zstdDecStream hZ).G K zs rest rem j → n ≤ rest.length → (fl = Flush.full → n = rest.length) →
        (zstdProcess Z false zs (rest.take n) room fl).isSome = true) ∧
      Nonempty (StreamDecContract (zstdCodec Z false) Dec)) ∧
    (∀ {σ : Type} {C : Codec σ}, DecContract C Dec → Nonempty (StreamDecContract C Dec)) := by
  refine ⟨fun hL => ⟨?_, ⟨wrapEncContract hL⟩⟩, fun hL => ⟨?_, ⟨wrapDecContract hL⟩⟩, fun hZ => ⟨?_, ⟨zstdEncContract hZ⟩⟩,
    fun hZ => ⟨?_, ⟨zstdDecStream hZ⟩⟩, fun hD => ⟨streamOfDec hD⟩⟩
  · intro s x y fin inp room fl hR hP
    obtain ⟨r, hr, _⟩ := wrapProcess_enc_spec hL inp room fl hR hP
    simp [hr]
  · intro s u v w x tail inp room fl hns hR hd hin
    obtain ⟨r, hr, _⟩ := wrapProcess_dec_spec hL w x tail inp room fl hns hR hd hin
    simp [hr]
  · intro s x y fin inp room fl hR hP
    obtain ⟨r, hr, _⟩ := zstdLoop_enc_spec hZ inp room fl hR hP
    rw [zstdProcess_of_loop hr]; rfl
  · intro K zs rest rem j n room fl hG hn hfull
    exact zstdProcess_dec_total hZ (ZDoom.none hZ) (fun h => absurd h hG.1) hG.2 n room fl hn hfull

/-- each of the five parts applied to the toy library's contracts -/
example := (process_data_meets_contract (Dec := Toy.decode) (L := Toy.encLib exP .gzip) (b := .gzip)).1 (Toy.encLibContract exP .gzip)
example := (process_data_meets_contract (Dec := Toy.decode) (L := Toy.decLib exP .bzip2) (b := .bzip2)).2.1 (Toy.decLibContract exP .bzip2)
example := (process_data_meets_contract (Dec := Toy.decode) (L := Toy.decLib exP .xz) (b := .xz)).2.2.1 (Toy.encZLibContract exP)
example := (process_data_meets_contract (Dec := Toy.decode) (L := Toy.decLib exP .xz) (b := .xz)).2.2.2.1 (Toy.decZLibContract exP)
example := (process_data_meets_contract (Dec := Toy.decode) (L := Toy.decLib exP .xz) (b := .xz)).2.2.2.2 (Toy.decContract exP)

/-- hence: reading a `.tar.zst` through `istream_xfrm` is transparent for every library meeting `ZSTD_decompressStream`'s
convention — any number of frames, any chunking, any buffer size -/
theorem zstd_istream_transparent {ζ : Type} {Z : ZLib ζ} (hZ : ZDecContract Z Dec) {bufsz : Nat}
    (hb : 0 < bufsz) {ms xs : List Bytes} (hms : Members Dec ms xs) (script : List Nat) (ops : List (Nat × Nat))
    (hw : ∀ op ∈ ops, 0 < op.1) :
    ∃ fuel st acc eof, (∀ f, fuel ≤ f → iRead (zstdCodec Z false) bufsz f (iInit (zstdCodec Z false) ⟨ms.flatten, script⟩) ops [] =
        some (.ok (st, acc, eof))) ∧
      IsPre acc xs.flatten ∧ (eof = true → acc = xs.flatten) ∧ ((∀ op ∈ ops, 0 < op.2) → eof = true ∨ ops.length ≤ acc.length) :=
  istream_transparent_stream (zstdDecStream hZ) hb hms script ops hw

example := zstd_istream_transparent (Toy.decZLibContract exP) (bufsz := 3) (by decide) exMembers exScript exReads exReads_want

/-- … and a `.tar.zst` cut off inside a frame is an error, never a regular end -/
theorem zstd_truncated_is_error {ζ : Type} {Z : ZLib ζ} (hZ : ZDecContract Z Dec) {bufsz : Nat}
    (hb : 0 < bufsz) {ms xs : List Bytes} (hms : Members Dec ms xs) {t t' xT : Bytes} (ht : t ≠ []) (ht' : t' ≠ [])
    (hcut : Dec (t ++ t') = some xT) (script : List Nat) (ops : List (Nat × Nat)) (hw : ∀ op ∈ ops, 0 < op.1) :
    ∃ fuel r, (∀ f, fuel ≤ f → iRead (zstdCodec Z false) bufsz f (iInit (zstdCodec Z false) ⟨ms.flatten ++ t, script⟩) ops [] = some r) ∧
      (r = .error errCompressor ∨ ∃ st acc, r = .ok (st, acc, false) ∧ IsPre acc (xs.flatten ++ xT)) ∧
      ((∀ op ∈ ops, 0 < op.2) → (xs.flatten ++ xT).length < ops.length → r = .error errCompressor) :=
  truncated_is_error_stream (zstdDecStream hZ) hb hms ht ht' hcut script ops hw

example := zstd_truncated_is_error (Toy.decZLibContract exP) (bufsz := 3) (by decide) exMembers exCut_ne exCutRest_ne exCut_valid
  exScript exReads exReads_want

/-- hence: reading a `.tar.gz|xz|bz2` through `istream_xfrm` is transparent, and a cut-off input is an error, for every
library meeting the decompression convention -/
theorem backend_istream_transparent {τ : Type} {L : Lib τ} {b : Backend} (hL : LibDecContract L b Dec) {bufsz : Nat}
    (hb : 0 < bufsz) {ms xs : List Bytes} (hms : Members Dec ms xs) (script : List Nat) (ops : List (Nat × Nat))
    (hw : ∀ op ∈ ops, 0 < op.1) :
    ∃ fuel st acc eof, (∀ f, fuel ≤ f → iRead (wrapCodec L b false) bufsz f (iInit (wrapCodec L b false) ⟨ms.flatten, script⟩) ops [] =
        some (.ok (st, acc, eof))) ∧
      IsPre acc xs.flatten ∧ (eof = true → acc = xs.flatten) ∧ ((∀ op ∈ ops, 0 < op.2) → eof = true ∨ ops.length ≤ acc.length) :=
  istream_transparent (wrapDecContract hL) hb hms script ops hw

theorem backend_truncated_is_error {τ : Type} {L : Lib τ} {b : Backend} (hL : LibDecContract L b Dec) {bufsz : Nat}
    (hb : 0 < bufsz) {ms xs : List Bytes} (hms : Members Dec ms xs) {t t' xT : Bytes} (ht : t ≠ []) (ht' : t' ≠ [])
    (hcut : Dec (t ++ t') = some xT) (script : List Nat) (ops : List (Nat × Nat)) (hw : ∀ op ∈ ops, 0 < op.1) :
    ∃ fuel r, (∀ f, fuel ≤ f → iRead (wrapCodec L b false) bufsz f (iInit (wrapCodec L b false) ⟨ms.flatten ++ t, script⟩) ops [] = some r) ∧
      (r = .error errCompressor ∨ ∃ st acc, r = .ok (st, acc, false) ∧ IsPre acc (xs.flatten ++ xT)) ∧
      ((∀ op ∈ ops, 0 < op.2) → (xs.flatten ++ xT).length < ops.length → r = .error errCompressor) :=
  truncated_is_error (wrapDecContract hL) hb hms ht ht' hcut script ops hw

example := backend_istream_transparent (Toy.decLibContract exP .gzip) (bufsz := 3) (by decide) exMembers exScript exReads exReads_want

example := backend_truncated_is_error (Toy.decLibContract exP .xz) (bufsz := 3) (by decide) exMembers exCut_ne exCutRest_ne
  exCut_valid exScript exReads exReads_want

/--
**backend_corrupt_is_error** (gzip.c, xz.c, bzip2.c).  Under the library's error-return convention on input that has gone
wrong (`LibDecErrContract`: an error code, or progress inside the buffers under the usual rules, never `STREAM_END`; `total_in`
positive once a bad byte has been consumed), a corrupted `.tar.gz|xz|bz2` — intact members followed by dead bytes: a flipped
bit that the format's checks catch, trailing garbage, a damaged member header — is reported as `SQFS_ERROR_COMPRESSOR`: for every
chunking and buffer size, no call hangs, end-of-stream is never reported, at most `budget |c|` bytes of junk follow the intact
contents, and a reader taking a byte per round gets the error after at most `|contents| + budget |c|` rounds.
-/
theorem backend_corrupt_is_error {τ : Type} {L : Lib τ} {b : Backend} (hL : LibDecContract L b Dec) (hE : LibDecErrContract hL)
    {bufsz : Nat} (hb : 0 < bufsz) {ms xs : List Bytes} (hms : Members Dec ms xs) {c : Bytes} (hc : Dead Dec c)
    (script : List Nat) (ops : List (Nat × Nat)) (hw : ∀ op ∈ ops, 0 < op.1) :
    ∃ fuel r, (∀ f, fuel ≤ f → iRead (wrapCodec L b false) bufsz f (iInit (wrapCodec L b false) ⟨ms.flatten ++ c, script⟩) ops [] = some r) ∧
      (r = .error errCompressor ∨ ∃ st acc, r = .ok (st, acc, false) ∧ Deliv xs.flatten (hE.budget c.length) acc) ∧
      ((∀ op ∈ ops, 0 < op.2) → xs.flatten.length + hE.budget c.length < ops.length → r = .error errCompressor) :=
  corrupt_is_error (streamOfDecErr (wrapDecContract hL) (wrapDecErrContract hL hE)) hb hms hc script ops hw

/-- **zstd_corrupt_is_error**: the same for a corrupted `.tar.zst`, under `ZSTD_decompressStream`'s error convention
(`ZDecErrContract`: an error code, or progress, and never "frame complete" on input that has gone wrong) -/
theorem zstd_corrupt_is_error {ζ : Type} {Z : ZLib ζ} (hZ : ZDecContract Z Dec) (hE : ZDecErrContract hZ)
    {bufsz : Nat} (hb : 0 < bufsz) {ms xs : List Bytes} (hms : Members Dec ms xs) {c : Bytes} (hc : Dead Dec c)
    (script : List Nat) (ops : List (Nat × Nat)) (hw : ∀ op ∈ ops, 0 < op.1) :
    ∃ fuel r, (∀ f, fuel ≤ f → iRead (zstdCodec Z false) bufsz f (iInit (zstdCodec Z false) ⟨ms.flatten ++ c, script⟩) ops [] = some r) ∧
      (r = .error errCompressor ∨ ∃ st acc, r = .ok (st, acc, false) ∧ Deliv xs.flatten (hE.budget c.length) acc) ∧
      ((∀ op ∈ ops, 0 < op.2) → xs.flatten.length + hE.budget c.length < ops.length → r = .error errCompressor) :=
  corrupt_is_error (zstdDecErrStream hZ hE) hb hms hc script ops hw

/-- Non-vacuity of the conventions for input that has gone wrong: the toy engine meets them behind all three interfaces
(codec, zlib/liblzma/libbz2 style, libzstd style), with budget `n ↦ n`. -/
theorem toy_error_conventions_satisfiable (P : Toy.Params) (b : Backend) :
    Nonempty (DecErrContract (Toy.decContract P)) ∧ Nonempty (LibDecErrContract (Toy.decLibContract P b)) ∧
    Nonempty (ZDecErrContract (Toy.decZLibContract P)) :=
  ⟨⟨Toy.decErrContract P⟩, ⟨Toy.decLibErrContract P b⟩, ⟨Toy.decZLibErrContract P⟩⟩

/-- Non-vacuity of `Dead`: in the toy format every string that starts with a malformed marker is dead. -/
theorem toy_dead_example (t : Bytes) : Dead Toy.decode (2 :: t) := by
  have h2 : ∀ r, Toy.decode (2 :: r) = none := fun r => by
    cases r with
    | nil => simp [Toy.decode]
    | cons b r => rw [Toy.decode_cons_cons]; simp
  refine ⟨by simp, fun m x hm => ⟨?_, ?_⟩⟩
  · rintro ⟨z, rfl⟩
    rw [List.cons_append, h2] at hm
    cases hm
  · rintro ⟨z, hz⟩
    cases m with
    | nil => simp [Toy.decode] at hm
    | cons a m' =>
      obtain rfl : a = 2 := by simpa using (congrArg List.head? hz).symm
      rw [h2] at hm
      cases hm

/-- the corrupted-input theorems applied: `Members`, `Dead` and the error conventions jointly, behind the codec, the
zlib/liblzma/libbz2-style and the libzstd-style interface -/
example := corrupt_is_error (streamOfDecErr (Toy.decContract exP) (Toy.decErrContract exP)) (bufsz := 4) (by decide) exMembers
  (toy_dead_example [9, 9]) exScript exReads exReads_want
example := backend_corrupt_is_error (Toy.decLibContract exP .bzip2) (Toy.decLibErrContract exP .bzip2) (bufsz := 3) (by decide)
  exMembers (toy_dead_example [9, 9]) exScript exReads exReads_want
example := zstd_corrupt_is_error (Toy.decZLibContract exP) (Toy.decZLibErrContract exP) (bufsz := 3) (by decide) exMembers
  (toy_dead_example [9, 9]) exScript exReads exReads_want

/-- the draining reader on the corrupted toy stream (5 content bytes, budget 3) -/
example := corrupt_is_error_for_draining_reader (streamOfDecErr (Toy.decContract exP) (Toy.decErrContract exP)) (bufsz := 4) (by decide)
  exMembers (toy_dead_example [9, 9]) exScript (exReads.take 2) (fun op h => exReads_want op (List.mem_of_mem_take h)) 9 (by decide)

/-- hence: `sqfs2tar -c gzip|xz|bzip2`'s output stream is transparent for every library meeting the convention -/
theorem backend_ostream_transparent {τ : Type} {L : Lib τ} {b : Backend} (hL : LibEncContract L b Dec) {bufsz : Nat}
    (hb : 0 < bufsz) (chunks : List Bytes) :
    ∃ fuel st, (∀ f, fuel ≤ f → oRun (wrapCodec L b true) bufsz f (oInit (wrapCodec L b true))
        (chunks.map OOp.append ++ [OOp.flush]) = some (.ok st)) ∧
      st.inbuf = [] ∧ (chunks.flatten ≠ [] → Dec st.sink = some chunks.flatten) ∧ (chunks.flatten = [] → st.sink = []) :=
  ostream_transparent_single (wrapEncContract hL) hb chunks

example := backend_ostream_transparent (Toy.encLibContract exP .gzip) (bufsz := 4) (by decide) exChunks

/--
The functions the correspondence check runs for `ostream_xfrm` carry the failure path of the wrapped stream
(`if (ioret) return ioret;`, `return wrapped->flush(wrapped)`); as long as the wrapped stream does not fail they **are** the
functions of the theorems above (projection: forget the call counter), so those theorems are statements about the tied model.
-/
theorem ostream_failure_model_agrees (bufsz fuel : Nat) (ops : List OOp) (s : OStateE σ) :
    (oRunE C bufsz fuel OEnv.good s ops).map projO = oRun C bufsz fuel s.st ops :=
  oRunE_good failCode_none failCode_none bufsz fuel ops s

example := ostream_failure_model_agrees (C := Toy.encoder exP) 4 1000 exOps ⟨oInit (Toy.encoder exP), 0⟩

/-- **A write error of the wrapped stream is never swallowed**: if call number `k` of `wrapped->append` fails (`e ≠ 0`), a history
of `append`/`flush` operations that comes back with 0 has not reached that call (for every codec, no contract needed). -/
theorem ostream_write_error_reported (bufsz fuel : Nat) (E : OEnv) {k : Nat} {e : Int} (hE : E.appendFail = some (k, e)) (he : e ≠ 0)
    (ops : List OOp) (s s' : OStateE σ) (h : oRunE C bufsz fuel E s ops = some (.ok s')) (hk : s.appends ≤ k) : s'.appends ≤ k :=
  (oRunE_ok bufsz fuel E ops s s' h).1 (hE ▸ NotMet.of_le hk) k e hE he

/-- instance with the hypotheses met: the history `exOps` makes 22 `wrapped->append` calls (numbered 0…21); with a failure
scheduled for call number 22 (tight) or 50 the run comes back with 0, and the theorem bounds the calls made -/
example : ∃ s', oRunE (Toy.encoder exP) 4 1000 { appendFail := some (22, -5) } ⟨oInit (Toy.encoder exP), 0⟩ exOps = some (.ok s') ∧
    s'.appends ≤ 22 := by
  refine (exists_ok_of _ (fun s' => decide (s'.appends = 22)) ?_).elim fun s' h =>
    ⟨s', h.1, ostream_write_error_reported 4 1000 _ (k := 22) (e := -5) rfl (by decide) exOps _ s' h.1 (by decide)⟩
  decide
example : ∀ s', oRunE (Toy.encoder exP) 4 1000 { appendFail := some (50, -5) } ⟨oInit (Toy.encoder exP), 0⟩ exOps = some (.ok s') →
    s'.appends ≤ 50 :=
  fun s' h => ostream_write_error_reported 4 1000 _ (k := 50) (e := -5) rfl (by decide) exOps _ s' h (by decide)
/-- … and the bound is sharp: scheduled for call number 21, the failure is hit and returned -/
example : (match oRunE (Toy.encoder exP) 4 1000 { appendFail := some (21, -5) } ⟨oInit (Toy.encoder exP), 0⟩ exOps with
    | some (.error e) => some e.1 | _ => none) = some (-5) := by decide

/-- … and neither is a failing `wrapped->flush` -/
theorem ostream_flush_error_reported (bufsz fuel : Nat) (E : OEnv) {k : Nat} {e : Int} (hE : E.flushFail = some (k, e)) (he : e ≠ 0)
    (ops : List OOp) (s s' : OStateE σ) (h : oRunE C bufsz fuel E s ops = some (.ok s')) (hk : s.st.flushed ≤ k) : s'.st.flushed ≤ k :=
  (oRunE_ok bufsz fuel E ops s s' h).2 (hE ▸ NotMet.of_le hk) k e hE he

/-- instance: `exOps` makes 3 `wrapped->flush` calls (0…2); a failure scheduled for call number 3 is not reached, one for
call number 2 is returned -/
example : ∃ s', oRunE (Toy.encoder exP) 4 1000 { flushFail := some (3, -5) } ⟨oInit (Toy.encoder exP), 0⟩ exOps = some (.ok s') ∧
    s'.st.flushed ≤ 3 := by
  refine (exists_ok_of _ (fun s' => decide (s'.st.flushed = 3)) ?_).elim fun s' h =>
    ⟨s', h.1, ostream_flush_error_reported 4 1000 _ (k := 3) (e := -5) rfl (by decide) exOps _ s' h.1 (by decide)⟩
  decide
example : (match oRunE (Toy.encoder exP) 4 1000 { flushFail := some (2, -5) } ⟨oInit (Toy.encoder exP), 0⟩ exOps with
    | some (.error e) => some e.1 | _ => none) = some (-5) := by decide

/-- the same for `istream_xfrm`: without a failing `get_buffered_data` the tied function is `iRead` … -/
theorem istream_failure_model_agrees (bufsz fuel : Nat) (ops : List (Nat × Nat)) (st : IStateE σ) (acc : Bytes)
    (hf : st.inner.fail = none) :
    (iReadE C bufsz fuel st ops acc).map projRead = iRead C bufsz fuel (projI st) ops acc :=
  iReadE_good bufsz fuel ops st acc (.of_none hf)

/-- the reader state of the examples: the two members behind the chunk script, `get_buffered_data` failing as given by `f` -/
def exIst (f : Option (Nat × Int)) : IStateE Toy.Dec :=
  ⟨Toy.decFresh, [], 0, ⟨⟨Toy.encode exA ++ Toy.encode exB, exScript⟩, 0, f⟩⟩
example := istream_failure_model_agrees (C := Toy.decoder exP) 4 1000 exReads (exIst none) [] rfl

/-- … and a **read error of the wrapped stream is never taken for data or for the end**: a reader's run that ends without an
error has not made the failing call -/
theorem istream_read_error_reported (bufsz fuel : Nat) {k : Nat} {e : Int} (he : e < 0) (ops : List (Nat × Nat)) (st : IStateE σ)
    (acc : Bytes) (r : IStateE σ × Bytes × Bool) (hf : st.inner.fail = some (k, e))
    (h : iReadE C bufsz fuel st ops acc = some (.ok r)) (hk : st.inner.calls ≤ k) : r.1.inner.calls ≤ k :=
  (iReadE_ok bufsz fuel ops st acc r h).2 k e hf he hk

/-- instance: the reads `exReads` make 10 calls of the wrapped `get_buffered_data` (0…9) and see the end; a failure scheduled
for call number 10 is not reached, one for call number 9 is returned -/
example : ∃ r, iReadE (Toy.decoder exP) 4 1000 (exIst (some (10, -3))) exReads [] = some (.ok r) ∧ r.1.inner.calls ≤ 10 := by
  refine (exists_ok_of _ (fun r => decide (r.1.inner.calls = 10)) ?_).elim fun r h =>
    ⟨r, h.1, istream_read_error_reported 4 1000 (k := 10) (e := -3) (by decide) exReads _ [] r rfl h.1 (by decide)⟩
  decide
example : (match iReadE (Toy.decoder exP) 4 1000 (exIst (some (9, -3))) exReads [] with
    | some (.error e) => some e | _ => none) = some (-3) := by decide

/-- a concrete failing write: the second `wrapped->append` of the flush returns -5; `xfrm_flush` returns -5, one byte stored -/
example : (match oRunE (Toy.encoder ⟨0, 0, 0⟩) 4 1000 { appendFail := some (1, -5) } ⟨oInit (Toy.encoder ⟨0, 0, 0⟩), 0⟩
      [OOp.append [65, 66], OOp.flush] with
    | some (.error e) => some e
    | _ => none) = some (-5, [1]) := by decide

/-- a concrete failing read: the third `get_buffered_data` of the wrapped stream returns -3 -/
example : (match iReadE (Toy.decoder ⟨0, 0, 0⟩) 4 1000 ⟨Toy.decFresh, [], 0, ⟨⟨Toy.encode [65, 66, 67], [0, 0, 0, 0, 0, 0, 0, 0]⟩, 0, some (2, -3)⟩⟩
      [(4, 3), (4, 3), (4, 3), (4, 3)] [] with
    | some (.error e) => some e
    | _ => none) = some (-3) := by decide

/--
**tarProbe_iff.**  The model of `tar_probe` answers "tar" exactly for the inputs the informal description names: `ustar` at
offset 257 of the first record, or — when the first 512-byte record is there and all zero — at offset 257 of the second.
(The two cases cannot overlap: an all-zero first record has no `ustar` in it, so the order of the two tests in the C code
does not matter.)
-/
theorem tarProbe_iff (d : Bytes) : tarProbe d = true ↔ TarLike d := by
  have hz : (decide (512 ≤ d.length) && (d.take 512).all (· == 0)) = true ↔ ZeroRecord d := by
    simp only [Bool.and_eq_true, decide_eq_true_eq, List.all_eq_true, beq_iff_eq]
    rfl
  have key : tarProbe d = true ↔
      UstarAt (if (decide (512 ≤ d.length) && (d.take 512).all (· == 0)) = true then d.drop 512 else d) := ustarAt_iff _
  rw [key]
  unfold TarLike
  by_cases h : ZeroRecord d
  · rw [if_pos (hz.2 h)]
    exact ⟨fun hu => Or.inr ⟨h, hu⟩, fun hu => hu.elim (fun h' => absurd h' (zeroRecord_not_ustarAt d h)) (·.2)⟩
  · rw [if_neg (mt hz.1 h)]
    exact ⟨Or.inl, fun hu => hu.elim id (fun h' => absurd h'.1 h)⟩

/-- the magic numbers of compress.c's table are pairwise incomparable: no input starts with two of them, so the order of the
table (and `find?`'s "first match") does not influence the decision; all ids are positive -/
theorem magic_unambiguous (d : Bytes) (i j : Nat) (m m' : Bytes) (hi : (i, m) ∈ magicTable) (hj : (j, m') ∈ magicTable)
    (hm : IsPre m d) (hm' : IsPre m' d) : i = j ∧ m = m' ∧ 0 < i := by
  cases prefix_key_unique magicTable_facts.1 hi hj hm hm'
  exact ⟨rfl, rfl, magicTable_facts.2 _ hi⟩

/--
**probe_spec** (`tar_open_stream`).  An input in which `ustar` stands at offset 257 (of the first record, or of the second
when the first is all zero — `TarLike`, a predicate on the bytes, tied to the model of `tar_probe` by `tarProbe_iff`) is read
as it is, whatever its first bytes are; and an input is handed to the decompressor `id` **exactly** when it is not tar-like
and starts with that codec's magic number from the table of compress.c (which determines `id`: `magic_unambiguous`).
-/
theorem probe_spec (data : Bytes) :
    (TarLike data → openStreamCodec data = none) ∧
    (∀ id, openStreamCodec data = some id ↔ ¬ TarLike data ∧ ∃ m, (id, m) ∈ magicTable ∧ IsPre m data) := by
  unfold openStreamCodec
  by_cases ht : TarLike data
  · simp [(tarProbe_iff data).2 ht, ht]
  · have hp : tarProbe data = false := by simpa using mt (tarProbe_iff data).1 ht
    simp only [hp, Bool.false_eq_true, if_false, ht, not_false_eq_true, true_and, false_imp_iff]
    intro id
    rcases compressorIdFromMagic_cases data with ⟨id', m, hm, hpre, hid⟩ | ⟨hno, hid⟩
    · -- the entry found is the only one whose magic number the input starts with
      have hpos : 0 < (id' : Int) := Int.natCast_pos.2 (magicTable_facts.2 _ hm)
      simp only [hid, hpos, if_true, Int.toNat_natCast, Option.some.injEq]
      constructor
      · rintro rfl; exact ⟨m, hm, hpre⟩
      · rintro ⟨m', hm', hpre'⟩
        cases prefix_key_unique magicTable_facts.1 hm hm' hpre hpre'; rfl
    · simp only [hid, show ¬ (0 : Int) < -1 by decide, if_false, reduceCtorEq, false_iff]
      rintro ⟨m, hm, hpre⟩
      exact hno _ hm hpre

set_option maxRecDepth 100000 in
/-- a tar archive whose first bytes happen to be the gzip magic is read as it is (`ustar` at 257 wins) -/
example : openStreamCodec ([0x1F, 0x8B, 0x08] ++ List.replicate 254 65 ++ ustarMagic ++ List.replicate 250 0) = none :=
  (probe_spec _).1 (Or.inl (by unfold UstarAt; decide))
set_option maxRecDepth 100000 in
/-- … so is an archive that starts with an all-zero record followed by a header record -/
example : openStreamCodec (List.replicate 512 0 ++ List.replicate 257 65 ++ ustarMagic ++ List.replicate 250 0) = none :=
  (probe_spec _).1 (Or.inr ⟨⟨by decide, by decide⟩, by unfold UstarAt; decide⟩)
set_option maxRecDepth 100000 in
/-- a gzip stream (no `ustar` at 257 or 769) goes to the gzip decompressor, a zstd frame to the zstd one -/
example : openStreamCodec ([0x1F, 0x8B, 0x08, 0] ++ List.replicate 600 7) = some Sqfs.Consts.xfrmCompGzip :=
  ((probe_spec _).2 _).2 ⟨fun h => absurd ((tarProbe_iff _).2 h) (by decide), [0x1F, 0x8B, 0x08], by simp [magicTable],
    ⟨0 :: List.replicate 600 7, rfl⟩⟩
example : openStreamCodec ([0x28, 0xB5, 0x2F, 0xFD, 1, 2, 3]) = some Sqfs.Consts.xfrmCompZstd :=
  ((probe_spec _).2 _).2 ⟨fun h => absurd ((tarProbe_iff _).2 h) (by decide), [0x28, 0xB5, 0x2F, 0xFD], by simp [magicTable],
    ⟨[1, 2, 3], rfl⟩⟩
/-- … and the other direction applied to a computed answer -/
example := ((probe_spec ([0x42, 0x5A, 0x68, 0x39] ++ List.replicate 20 1)).2 Sqfs.Consts.xfrmCompBzip2).1 (by decide)
example := tarProbe_iff (List.replicate 257 65 ++ ustarMagic ++ List.replicate 250 0)
example := magic_unambiguous [0x1F, 0x8B, 0x08, 0] Sqfs.Consts.xfrmCompGzip Sqfs.Consts.xfrmCompGzip [0x1F, 0x8B, 0x08] [0x1F, 0x8B, 0x08]
  (by simp [magicTable]) (by simp [magicTable]) ⟨[0], rfl⟩ ⟨[0], rfl⟩

/-- Non-vacuity of the library-level convention: the toy library meets it under each backend's return-code convention. -/
theorem toy_library_meets_convention (P : Toy.Params) (b : Backend) :
    Nonempty (LibEncContract (Toy.encLib P b) b Toy.decode) ∧ Nonempty (LibDecContract (Toy.decLib P b) b Toy.decode) ∧
    Nonempty (ZEncContract (Toy.encZLib P) Toy.decode) ∧ Nonempty (ZDecContract (Toy.decZLib P) Toy.decode) :=
  ⟨⟨Toy.encLibContract P b⟩, ⟨Toy.decLibContract P b⟩, ⟨Toy.encZLibContract P⟩, ⟨Toy.decZLibContract P⟩⟩

/--
**The library conventions do not constrain `FLUSH_SYNC`.**  The clauses of `LibEncContract` / `LibDecContract` (and of
the codec-level contracts) speak about the flush modes the wrappers pass — `FLUSH_NONE`, `FLUSH_FULL` — only: a library obtained from
a conforming one by replacing its behaviour on `FLUSH_SYNC` with **anything** (`Lib.withSync L f`) still conforms.  So what the real
libraries answer to the action `FLUSH_SYNC` is mapped to (liblzma: `LZMA_FULL_FLUSH` is answered `LZMA_STREAM_END` by the
encoder and `LZMA_PROG_ERROR` by the decoder; libbz2: `BZ_SEQUENCE_ERROR` after an unfinished `BZ_FLUSH`), which no clause over all
three modes would allow, is consistent with the conventions, and the `backend_*` theorems are not vacuous on its account.
-/
theorem library_conventions_ignore_flush_sync {τ : Type} {L : Lib τ} {b : Backend} (f : τ → Bytes → Nat → LibOut τ) :
    (LibEncContract L b Dec → Nonempty (LibEncContract (L.withSync f) b Dec)) ∧
    (LibDecContract L b Dec → Nonempty (LibDecContract (L.withSync f) b Dec)) :=
  ⟨fun h => ⟨h.withSync f⟩, fun h => ⟨h.withSync f⟩⟩

/-- instance: the toy libraries that answer `FLUSH_SYNC` the way liblzma does meet the conventions … -/
example := (library_conventions_ignore_flush_sync (Dec := Toy.decode) (L := Toy.encLib exP .xz) (b := .xz) Toy.lzmaSyncEnc).1
  (Toy.encLibContract exP .xz)
example := (library_conventions_ignore_flush_sync (Dec := Toy.decode) (L := Toy.decLib exP .xz) (b := .xz) Toy.lzmaSyncDec).2
  (Toy.decLibContract exP .xz)
/-- … they do behave like liblzma there … -/
example : ((Toy.lzmaLikeEnc exP).call (Toy.lzmaLikeEnc exP).init [65] 10 Flush.sync).ret = LibRet.streamEnd := by decide
example : ((Toy.lzmaLikeDec exP).call (Toy.lzmaLikeDec exP).init (Toy.encode exA) 10 Flush.sync).ret = LibRet.dataError := by decide
/-- … and the backend theorems apply to them -/
example := backend_ostream_transparent (Toy.lzmaLikeEncContract exP) (bufsz := 4) (by decide) exChunks
example := backend_istream_transparent (Toy.lzmaLikeDecContract exP) (bufsz := 3) (by decide) exMembers exScript exReads exReads_want
example := backend_truncated_is_error (Toy.lzmaLikeDecContract exP) (bufsz := 3) (by decide) exMembers exCut_ne exCutRest_ne
  exCut_valid exScript exReads exReads_want

/-- Non-vacuity: the toy codec (internal queue, limited intake and output granularity, any knob setting) meets
the encoder contract with the toy format's one-shot decoder. -/
theorem toy_encoder_meets_contract (P : Toy.Params) : Nonempty (EncContract (Toy.encoder P) Toy.decode) :=
  ⟨Toy.encContract P⟩

/-- Non-vacuity of the decoder contract: the toy decoder (queue, limited intake, limited output granularity, the
end-of-input rule of the repaired backends) meets it for every knob setting. -/
theorem toy_decoder_meets_contract (P : Toy.Params) : Nonempty (DecContract (Toy.decoder P) Toy.decode) :=
  ⟨Toy.decContract P⟩

/-- the toy format round-trips (so `Toy.decode` is a meaningful reference decoder) -/
theorem toy_decode_encode (x : Bytes) : Toy.decode (Toy.encode x) = some x := Toy.decode_encode x

example : Toy.decode (Toy.encode exA) = some exA := toy_decode_encode exA

/-- a concrete run: 5 bytes through a 4-byte buffer with the most restrictive toy codec -/
example : (match oRun (Toy.encoder ⟨0, 0, 0⟩) 4 1000 (oInit (Toy.encoder ⟨0, 0, 0⟩))
      [OOp.append [65, 66, 67, 68, 69], OOp.flush] with
    | some (.ok st) => Toy.decode st.sink
    | _ => none) = some [65, 66, 67, 68, 69] := by decide

/-- a concrete run of the reader: two members through a 4-byte buffer, one-byte chunks of input, reader takes 3 bytes a time -/
example : (match iRead (Toy.decoder ⟨0, 0, 0⟩) 4 1000 (iInit (Toy.decoder ⟨0, 0, 0⟩) ⟨Toy.encode [65, 66, 67] ++ Toy.encode [68, 69], [0, 0, 0, 0, 0, 0, 0, 0, 0, 0, 0, 0]⟩)
      [(4, 3), (4, 3), (4, 3), (4, 3), (4, 3), (4, 3), (4, 3), (4, 3)] [] with
    | some (.ok (_, acc, eof)) => some (acc, eof)
    | _ => none) = some ([65, 66, 67, 68, 69], true) := by decide

/-- a concrete truncated stream: the last byte of the second member is missing -/
example : (match iRead (Toy.decoder ⟨1, 1, 1⟩) 4 1000 (iInit (Toy.decoder ⟨1, 1, 1⟩) ⟨Toy.encode [65, 66, 67] ++ (Toy.encode [68, 69]).take 4, []⟩)
      [(4, 3), (4, 3), (4, 3), (4, 3), (4, 3), (4, 3), (4, 3), (4, 3)] [] with
    | some (.error e) => some e
    | _ => none) = some errCompressor := by decide

/-- the decompressing zstd loop over the toy library: two frames, 3-byte buffer, chunks of one and two bytes, decoded across
the frame boundary inside one call -/
example : (match iRead (zstdCodec (Toy.decZLib ⟨5, 5, 5⟩) false) 3 1000
      (iInit (zstdCodec (Toy.decZLib ⟨5, 5, 5⟩) false) ⟨Toy.encode [65, 66, 67] ++ Toy.encode [68, 69], [0, 1, 0, 1, 0, 1, 0, 1, 0, 1, 0, 1]⟩)
      [(4, 3), (4, 3), (4, 3), (4, 3), (4, 3), (4, 3), (4, 3), (4, 3)] [] with
    | some (.ok (_, acc, eof)) => some (acc, eof)
    | _ => none) = some ([65, 66, 67, 68, 69], true) := by decide

/-- … and the same stream cut inside the second frame: the error -/
example : (match iRead (zstdCodec (Toy.decZLib ⟨1, 1, 1⟩) false) 4 1000
      (iInit (zstdCodec (Toy.decZLib ⟨1, 1, 1⟩) false) ⟨Toy.encode [65, 66, 67] ++ (Toy.encode [68, 69]).take 4, []⟩)
      [(4, 3), (4, 3), (4, 3), (4, 3), (4, 3), (4, 3), (4, 3), (4, 3)] [] with
    | some (.error e) => some e
    | _ => none) = some errCompressor := by decide

/-- a concrete corrupted stream: an intact member followed by a malformed marker, through the gzip-style backend loop over
the toy library: the intact contents, then the error -/
example : (match iRead (wrapCodec (Toy.decLib ⟨1, 1, 1⟩ Backend.gzip) Backend.gzip false) 4 1000
      (iInit (wrapCodec (Toy.decLib ⟨1, 1, 1⟩ Backend.gzip) Backend.gzip false) ⟨Toy.encode [65, 66, 67] ++ [1, 68, 2, 9], [1, 0, 1]⟩)
      [(4, 3), (4, 3), (4, 3), (4, 3), (4, 3), (4, 3), (4, 3), (4, 3)] [] with
    | some (.error e) => some e
    | _ => none) = some errCompressor := by decide

/-- … and through the zstd loop -/
example : (match iRead (zstdCodec (Toy.decZLib ⟨1, 1, 1⟩) false) 4 1000
      (iInit (zstdCodec (Toy.decZLib ⟨1, 1, 1⟩) false) ⟨Toy.encode [65, 66, 67] ++ [1, 68, 2, 9], [1, 0, 1]⟩)
      [(4, 3), (4, 3), (4, 3), (4, 3), (4, 3), (4, 3), (4, 3), (4, 3)] [] with
    | some (.error e) => some e
    | _ => none) = some errCompressor := by decide

end Sqfs.C15
