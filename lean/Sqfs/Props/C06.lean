/-
C06 — unpacking any image writes only inside the chosen unpack directory.

Property theorems only (helpers: `Sqfs/Proofs/Unpack*.lean`; model: `Sqfs/Model/Unpack.lean`, `UnpackRepaired.lean`;
specification: `Sqfs/Spec/Unpack.lean`).  Everything is quantified over *all* trees `t` (arbitrary byte strings as names
and symlink targets, arbitrary order and repetition, arbitrary nesting), all option sets `fl`, every order `ord` the
file list may be filled in, every unpack root `R` and every initial file system `fs₀` — in which `R` is fresh
(`confinement`, `main_confinement`), has no symbolic link below it (`confinement_without_symlinks_below`,
`main_confinement_weak`) or, for the repaired `create_node` (the code in /repo since 9dca2a8), holds anything (`confinement_any_R`).
-/
import Sqfs.Proofs.UnpackComplete
import Sqfs.Proofs.UnpackWeak
import Sqfs.Proofs.UnpackDup
import Sqfs.Proofs.UnpackRepaired
namespace Sqfs.C06
open Sqfs.Path Sqfs.Unpack

/-- `tree_sort` succeeds only if, below every node, the children's names — compared as the C strings the unpacker
    will use — are pairwise distinct.  (A symlink and a directory/file of one name can therefore not both be unpacked.) -/
theorem treeSort_names_distinct (t t' : TNode) (h : treeSort t = .ok t') : NodupH t' :=
  treeSort_nodup t t' h

/-- **NUL-cut names are duplicates for `tree_sort`.**  Take any raw tree whose root directory (any name, any attributes, any
    other entries `l₁`, `l₂`, `l₃` around them) has two entries `x`, `y` that `fill_dir` keeps (`Kept`: not dropped by
    `-D -S -F -L`, not an empty directory under `-E`) and whose raw names have the same bytes before their first NUL —
    `a\0x` and `a\0y`, or `a` and `a\0…`: `tree_sort` on the tree the unpacker works with fails with "duplicate", so
    nothing is unpacked (`unpackTree_dup`).  (`create_node` copies the name with `strcpy`, so the two entries *are* the
    same C string; `treeSort_names_distinct` is the converse direction.) -/
theorem nul_cut_names_are_duplicates (tf : TreeFlags) (n p : Bytes) (a : Attr) (l₁ l₂ l₃ : List TNode) (x y : TNode)
    (hx : Kept tf x) (hy : Kept tf y) (h : cstr x.name = cstr y.name) :
    treeSort (decode tf (.mk n .dir p a (l₁ ++ x :: (l₂ ++ y :: l₃)))) = .error .duplicate := by
  simp only [decode, if_true]
  exact treeSort_dup_level _ _ _ _ _ (decodeL_dup tf l₁ l₂ l₃ x y hx hy h)

/-- instance: a file `a\0x` and a symbolic link `a\0y` with a directory in between, nothing pruned — refused; and with
    `-L` (symbolic links dropped) the hypothesis `Kept` fails for the link and the same tree *is* sorted -/
example : treeSort (decode {} (.mk [] .dir [] {} ([] ++ .mk [97, 0, 120] .reg [1] {} [] :: ([.mk [98] .dir [] {} []] ++
      .mk [97, 0, 121] .lnk [120] {} [] :: [])))) = .error .duplicate :=
  nul_cut_names_are_duplicates {} [] [] {} [] [.mk [98] .dir [] {} []] [] (.mk [97, 0, 120] .reg [1] {} [])
    (.mk [97, 0, 121] .lnk [120] {} []) (by decide +kernel) (by decide +kernel) (by decide +kernel)
example : ¬ Kept { noSlink := true } (.mk [97, 0, 121] .lnk [120] {} []) ∧
    (treeSort (decode { noSlink := true } (.mk [] .dir [] {} [.mk [97, 0, 120] .reg [1] {} [], .mk [98] .dir [] {} [],
      .mk [97, 0, 121] .lnk [120] {} []]))).toOption.isSome = true := by decide

/-- **Clean paths.** Every path argument in the plan is the '/'-join of components each of which is non-empty,
    passes `is_filename_sane` (is not "." or "..", contains no '/').  (The list of components is empty — the path is
    "" and every call on it fails with ENOENT — only for a non-directory root inode.) -/
theorem plan_paths_clean (ord : List FileEnt → List FileEnt) (hord : OrdOK ord) (fl : Flags) (t : TNode) :
    ∀ sc ∈ (unpackTree ord fl t).syscalls,
      ∃ comps : List Bytes, sc.path = joinSlash comps ∧ ∀ c ∈ comps, c ≠ [] ∧ isFilenameSane c = true := by
  intro sc hsc
  obtain ⟨comps, _, hg, hp, _⟩ := unpackTree_clean ord hord fl t sc hsc
  exact ⟨comps, hp, fun c hc => (goodComp_iff c).1 (hg c hc)⟩

/-- **Prefixes are directories made earlier by the same plan.**  Take any call of the plan, at any position
    (`l₁` = the events before it).  Its path is the join of a list `c` (the proof takes the call's clean components; the
    statement does not say that `c` is clean), and for every proper non-empty prefix `pre` of `c`: (1) a `mkdir` of `pre`
    occurs in `l₁`, i.e. *earlier*; (2) every creating call (`mkdir`, `symlink`, `mknod`, `open(O_CREAT|O_EXCL)`) anywhere
    in the plan whose path is `pre` is a `mkdir` — nothing in the plan puts a non-directory at a prefix.
    (From sortedness + duplicate rejection in `tree_sort`, names being the NUL-cut C strings.) -/
theorem plan_prefix_dirs (ord : List FileEnt → List FileEnt) (hord : OrdOK ord) (fl : Flags) (t : TNode)
    (l₁ : List Ev) (sc : Syscall) (l₂ : List Ev) (h : (unpackTree ord fl t).evs = l₁ ++ Ev.sys sc :: l₂) :
    ∃ c, sc.path = joinSlash c ∧ ∀ pre, pre <+: c → pre ≠ [] → pre ≠ c →
      (∃ m, Ev.sys (.mkdir (joinSlash pre) m) ∈ l₁) ∧
      (∀ sc' ∈ (unpackTree ord fl t).syscalls, sc'.isCreate = true → sc'.path = joinSlash pre →
        ∃ m, sc' = .mkdir (joinSlash pre) m) := by
  cases hs : treeSort t with
  | error e =>
    rw [unpackTree_dup ord fl hs] at h
    cases l₁ <;> simp at h
  | ok t' =>
    obtain ⟨c₀, k₀, hm₀, hg, hpath, _, hord', _⟩ := unpackTree_ordered ord hord fl t t' hs l₁ sc l₂ h
    refine ⟨c₀, hpath, fun pre hp1 hp2 hp3 => ⟨hord' pre hp1 hp2 hp3, ?_⟩⟩
    intro sc' hsc' hcr hp'
    have hd := visitRoot_prefix t' c₀ k₀ pre hm₀ hp1 hp2 hp3
    obtain ⟨c', k', hm', hg', hpath', hc'⟩ := unpackTree_ops ord hord fl t t' hs sc' hsc'
    have e1 : c' = pre := joinSlash_inj hg' (hg.prefix hp1) (hpath'.symm.trans hp')
    subst e1
    have e2 : k' = .dir := visitRoot_fun (treeSort_nodup t t' hs) c' k' .dir hm' hd
    subst e2
    obtain ⟨m, hm⟩ := create_dir_is_mkdir hcr hc'
    exact ⟨m, by rw [hm, hp']⟩

/-- **Resolution stays under R.** In any file system, a clean relative path (non-empty, good components) whose
    proper prefixes below `R` are directories or absent, handled no-follow — or whose last component is not a symlink —
    either fails to resolve or resolves to exactly `R ++ comps`: no symlink is read on the way. -/
theorem resolve_stays_under_R (fs : Fs) (R : PathC) (comps : List Bytes) (followLast : Bool)
    (hgood : ∀ c ∈ comps, c ≠ [] ∧ SL ∉ c ∧ c ≠ [DOT] ∧ c ≠ [DOT, DOT])
    (hpre : ∀ pre, pre <+: comps → pre ≠ [] → pre ≠ comps →
      fs (R ++ pre) = none ∨ ∃ a, fs (R ++ pre) = some ⟨.dir, a⟩)
    (hlast : followLast = false ∨ ∀ tgt a, fs (R ++ comps) ≠ some ⟨.symlink tgt, a⟩) :
    (∃ e, resolve fs R (joinSlash comps) followLast = .error e) ∨
      (comps ≠ [] ∧ resolve fs R (joinSlash comps) followLast = .ok (R ++ comps, fs (R ++ comps))) :=
  resolve_clean fs R comps followLast hgood (PrefDirOrNone.noLink (comps := comps) hpre) fun _ => hlast

/-- instance (all hypotheses discharged): `/R` and `/R/b` are directories, nothing else exists; the clean path `b/a`, handled
    no-follow from `/R`, resolves to `/R/b/a` (absent) — or fails — and nowhere else -/
example :
    let fs : Fs := fun q => if q = [] ∨ q = [[82]] ∨ q = [[82], [98]] then some ⟨.dir, {}⟩ else none
    (∃ e, resolve fs [[82]] (joinSlash [[98], [97]]) false = .error e) ∨
      (([[98], [97]] : List Bytes) ≠ [] ∧
        resolve fs [[82]] (joinSlash [[98], [97]]) false = .ok ([[82]] ++ [[98], [97]], fs ([[82]] ++ [[98], [97]]))) := by
  intro fs
  refine resolve_stays_under_R fs [[82]] [[98], [97]] false (by decide +kernel) ?_ (Or.inl rfl)
  -- whatever exists in `fs` is a directory
  intro pre _ _ _
  simp only [fs]
  split
  · exact Or.inr ⟨{}, rfl⟩
  · exact Or.inl rfl

/-- **Confinement.** For every tree, every option set and every fill order: executing the plan with working
    directory `R`, from any file system in which `R` is fresh, leaves everything that is not strictly below `R`
    exactly as it was (objects, kinds, contents, owners, modes, times, xattrs — including `R`'s own node). -/
theorem confinement (ord : List FileEnt → List FileEnt) (hord : OrdOK ord) (fl : Flags) (t : TNode) (R : PathC)
    (fs₀ : Fs) (hfresh : Fresh fs₀ R) :
    outside R (exec R fs₀ (unpackTree ord fl t).syscalls) = outside R fs₀ := by
  rw [← run_noFaults_fs R _ 0]
  exact unpackTree_confinedF ord hord fl t R fs₀ hfresh.noLinkBelow noFaults 0

/-- the same for the plan of a raw image tree (names cut at NUL, `-D -S -F -L -E` pruning, `--unpack-path` already applied) -/
theorem confinement_raw (raw : TNode) (fl : Flags) (tf : TreeFlags) (R : PathC) (fs₀ : Fs) (hfresh : Fresh fs₀ R) :
    Confined R fs₀ (unpackPlan raw fl tf).syscalls :=
  confinement id (fun _ _ h => h) fl (decode tf raw) R fs₀ hfresh

/-- **Inside R only tree nodes appear, as objects of their own kind**: after the run, whatever exists strictly
    below `R` sits at the path of a visited tree node and is a directory / regular file / symlink / block device /
    character device / fifo / socket exactly according to that node's inode type (`kindMatch` relates each of the seven
    kinds to its own sort of object only; so e.g. nothing is ever written *through* an unpacked symlink). -/
theorem below_R_only_tree_nodes (ord : List FileEnt → List FileEnt) (hord : OrdOK ord) (fl : Flags) (t t' : TNode)
    (hs : treeSort t = .ok t') (R : PathC) (fs₀ : Fs) (hfresh : Fresh fs₀ R) (comps : List Bytes) (hne : comps ≠ []) :
    let fs := exec R fs₀ (unpackTree ord fl t).syscalls
    fs (R ++ comps) = none ∨ ∃ n k, fs (R ++ comps) = some n ∧ (comps, k) ∈ visitRoot t' ∧ kindMatch n.kind k = true :=
  (run_noFaults_fs R _ 0 fs₀ ▸ Inv.run (visitRoot_fun (treeSort_nodup t t' hs)) (visitRoot_prefix t') noFaults _ 0 fs₀
    (Inv.fresh hfresh) (unpackTree_ops ord hord fl t t' hs)).inn comps hne

/-- **Skipped entries are reported; everything else is unpacked or the tool fails.**  If the create walk
    (`restore_fstree`) does not fail, then (1) every entry it refuses — insane name, directly below the root or a
    visited directory — has its "Found an entry named '…', skipping." event, and (2) every other reachable node
    `(c, k)` has its creating call (of the sort that fits `k`) on the clean path of `c` in the plan. -/
theorem skipped_reported_rest_unpacked (fl : Flags) (t : TNode) (h : (restoreFstree fl t).err = none) :
    (∀ n ∈ skippedRoot t, Ev.skip n ∈ (restoreFstree fl t).evs) ∧
    (∀ c k, (c, k) ∈ visitRoot t → ∃ sc, Ev.sys sc ∈ (restoreFstree fl t).evs ∧ sc.path = joinSlash c ∧
        Compat sc k ∧ sc.isCreate = true) :=
  ⟨(restoreFstree_complete fl t h).2, (restoreFstree_complete fl t h).1⟩

/-- `canonicalize_name` never fails on what `sqfs_tree_node_get_path` returns (the `assert(ret == 0)` in
    restore_fstree.c cannot fire, add_file's "Invalid file path" is dead) -/
theorem get_path_then_canonicalize_never_fails (rn : Bytes) (comps : List Bytes) :
    pathOf rn comps ≠ .error .canonFail := by
  fun_cases pathOf rn comps
  · rename_i e he
    rintro ⟨⟩
    revert he
    fun_cases getPath rn comps <;> intro he <;> cases he
  · rename_i hs hc
    obtain ⟨_, h2, rfl⟩ := getPath_ok hs
    rw [canon_pathStr h2] at hc
    cases hc
  · simp

/-- Behind an `is_filename_sane` gate, the '/', "." and ".." tests of `sqfs_tree_node_get_path` never decide
    anything: for a sane name the only live test is the one for the empty name.  (This is why removing those tests
    alone is an equivalent mutant for the unpacker; the check reports it only together with a missing gate.) -/
theorem get_path_tests_redundant_behind_gate (c : Bytes) (h : isFilenameSane c = true) :
    badComp c = true ↔ c = [] := by
  -- `badComp` refuses what is empty or not sane
  rw [← Bool.not_eq_false, badComp_false_iff, goodComp_iff]
  simp [h]

/-! ### the whole `OP_UNPACK` branch: `mkdir_p(R)`, `chdir(R)`, calls that fail -/

/-- **Confinement whatever fails.**  Like `confinement`, with any of the calls failing for reasons of the environment
    (`flt`: EPERM/EACCES of an unprivileged user, ENOSPC, EIO, … at any position): a failing call ends the run (or is a
    tolerated `mkdir`/`EEXIST`), and everything that is not strictly below `R` is still exactly as it was. -/
theorem confinement_under_faults (ord : List FileEnt → List FileEnt) (hord : OrdOK ord) (fl : Flags) (t : TNode) (R : PathC)
    (fs₀ : Fs) (hfresh : Fresh fs₀ R) : ConfinedF R fs₀ (unpackTree ord fl t).syscalls :=
  unpackTree_confinedF ord hord fl t R fs₀ hfresh.noLinkBelow

/-- **`main`, end to end.**  For every tree, option set, fill order, `--unpack-root` argument (or none), initial working
    directory and file system, and whatever calls fail: (1) when the walks start, the file system is the initial one plus
    new empty directories — those `mkdir_p` made; (2) if the directory the process then stands in (`chdir(R)` resolved,
    symbolic links followed) is fresh, the rest of the run leaves everything not strictly below it unchanged. -/
theorem main_confinement (ord : List FileEnt → List FileEnt) (hord : OrdOK ord) (fl : Flags) (t : TNode) (root : Option Bytes)
    (flt : Faults) (cwd₀ : PathC) (fs₀ : Fs) :
    OnlyNewDirs fs₀ (unpackMain ord fl t root flt cwd₀ fs₀).fsEst ∧
    (Fresh (unpackMain ord fl t root flt cwd₀ fs₀).fsEst (unpackMain ord fl t root flt cwd₀ fs₀).cwd →
      outside (unpackMain ord fl t root flt cwd₀ fs₀).cwd (unpackMain ord fl t root flt cwd₀ fs₀).fs =
        outside (unpackMain ord fl t root flt cwd₀ fs₀).cwd (unpackMain ord fl t root flt cwd₀ fs₀).fsEst) :=
  ⟨main_fsEst_onlyNewDirs,
    fun hfresh => unpackMain_confined ord hord fl t root flt cwd₀ fs₀ hfresh.noLinkBelow⟩

/-- **If establishing R fails nothing is unpacked.**  When `tree_sort`, `mkdir_p(R)` or `chdir(R)` fails, no call of any
    walk is made, the exit status is `EXIT_FAILURE`, and the file system is the initial one plus, at most, new empty
    directories made by `mkdir_p` before it failed. -/
theorem root_not_established_nothing_unpacked (ord : List FileEnt → List FileEnt) (fl : Flags) (t : TNode) (root : Option Bytes)
    (flt : Faults) (cwd₀ : PathC) (fs₀ : Fs) (h : (unpackMain ord fl t root flt cwd₀ fs₀).established = false) :
    (unpackMain ord fl t root flt cwd₀ fs₀).trace = [] ∧ (unpackMain ord fl t root flt cwd₀ fs₀).exit = 1 ∧
    OnlyNewDirs fs₀ (unpackMain ord fl t root flt cwd₀ fs₀).fs := by
  obtain ⟨h1, h2, h3⟩ := main_not_established rfl h
  exact ⟨h1, h2, h3 ▸ main_fsEst_onlyNewDirs⟩

/-- … and **nothing is written anywhere** when R was there already but cannot be entered (R is a regular file, a dangling
    symbolic link, a directory the user may not enter, …): every `mkdir` of `mkdir_p` answered with an error (`EEXIST`),
    `chdir` failed — the file system is exactly the initial one, no call of a walk is made, `EXIT_FAILURE`.
    (rdsquashfs.c: the `goto out` after `perror(opt.unpack_root)`.) -/
theorem failed_chdir_writes_nothing (ord : List FileEnt → List FileEnt) (fl : Flags) (t : TNode) (R : Bytes)
    (flt : Faults) (cwd₀ : PathC) (fs₀ : Fs) (e : Errno)
    (hc : (unpackMain ord fl t (some R) flt cwd₀ fs₀).chdirRes = some (some e))
    (hpre : ∀ x ∈ (unpackMain ord fl t (some R) flt cwd₀ fs₀).pre, x.2 ≠ none) :
    (unpackMain ord fl t (some R) flt cwd₀ fs₀).fs = fs₀ ∧ (unpackMain ord fl t (some R) flt cwd₀ fs₀).trace = [] ∧
    (unpackMain ord fl t (some R) flt cwd₀ fs₀).exit = 1 := by
  revert hc hpre
  generalize hr : some R = root
  fun_cases unpackMain ord fl t root flt cwd₀ fs₀ <;> intro hc hpre <;> cases hr <;> cases hc
  exact ⟨run_no_success_fs flt cwd₀ _ 0 fs₀ hpre, rfl, rfl⟩

/-- **A failing step ends the run with a non-zero exit status.**  A call of a walk that neither succeeds nor is a tolerated
    `mkdir`/`EEXIST` is the last call the tool makes, and the exit status is `EXIT_FAILURE`.  (That nothing outside R was
    touched up to there is `main_confinement`: its hypothesis speaks of R, not of which calls fail.) -/
theorem failing_step_ends_run (ord : List FileEnt → List FileEnt) (fl : Flags) (t : TNode) (root : Option Bytes)
    (flt : Faults) (cwd₀ : PathC) (fs₀ : Fs) (x : Syscall × Option Errno)
    (hx : x ∈ (unpackMain ord fl t root flt cwd₀ fs₀).trace) (hbad : ¬ Fine x) :
    (unpackMain ord fl t root flt cwd₀ fs₀).exit = 1 ∧ ∃ pre, (unpackMain ord fl t root flt cwd₀ fs₀).trace = pre ++ [x] := by
  cases he : (unpackMain ord fl t root flt cwd₀ fs₀).established with
  | false => rw [(main_not_established rfl he).1] at hx; cases hx
  | true =>
    obtain ⟨t', i, f, _, _, htr, hex⟩ := main_established rfl he
    obtain ⟨rfl, hlast⟩ := htr.bad_is_last hx hbad
    exact ⟨by rw [hex]; rfl, hlast⟩

/-- the same for `mkdir_p`: a `mkdir` failing with anything but `EEXIST` is the last call of the whole run -/
theorem failing_mkdir_p_ends_run (ord : List FileEnt → List FileEnt) (fl : Flags) (t : TNode) (R : Bytes)
    (flt : Faults) (cwd₀ : PathC) (fs₀ : Fs) (x : Syscall × Option Errno)
    (hx : x ∈ (unpackMain ord fl t (some R) flt cwd₀ fs₀).pre) (hbad : ¬ Fine x) :
    (unpackMain ord fl t (some R) flt cwd₀ fs₀).exit = 1 ∧ (unpackMain ord fl t (some R) flt cwd₀ fs₀).chdirRes = none ∧
    (unpackMain ord fl t (some R) flt cwd₀ fs₀).trace = [] ∧ ∃ pre, (unpackMain ord fl t (some R) flt cwd₀ fs₀).pre = pre ++ [x] := by
  revert hx
  generalize hr : some R = root
  fun_cases unpackMain ord fl t root flt cwd₀ fs₀ <;> intro hx <;> cases hr
  case case1 => cases hx
  case case3 => exact ⟨rfl, rfl, rfl, ((run_spec flt _ _ 0 _).bad_is_last hx hbad).2⟩
  all_goals exact absurd ((run_spec flt _ _ 0 _).bad_is_last hx hbad).1 ‹_›

/-- instance (all hypotheses discharged): `-p R` with `/R` absent and the very first call, `mkdir("R")`, refused with `EACCES`
    (call number 0): it is in `pre`, it is not `Fine`, so it is the last call — no `chdir`, no walk, `EXIT_FAILURE` -/
example :
    let fs : Fs := fun q => if q = [] then some ⟨.dir, {}⟩ else none
    let t : TNode := .mk [] .dir [] {} [.mk [98] .dir [] {} [.mk [97] .reg [2] {} []], .mk [97] .lnk [DOT, DOT, SL, 120] {} []]
    let flt : Faults := fun i => if i = 0 then some .EACCES else none
    (unpackMain id {} t (some [82]) flt [] fs).exit = 1 ∧ (unpackMain id {} t (some [82]) flt [] fs).chdirRes = none ∧
    (unpackMain id {} t (some [82]) flt [] fs).trace = [] ∧
    ∃ pre, (unpackMain id {} t (some [82]) flt [] fs).pre = pre ++ [(.mkdir [82] 0o755, some .EACCES)] := by
  intro fs t flt
  exact failing_mkdir_p_ends_run id {} t [82] flt [] fs (.mkdir [82] 0o755, some .EACCES) (by decide +kernel)
    (by rw [fine_some]; decide)

/-- **Exit status 0 means the whole image was unpacked** (second half of "the rest of the image is still unpacked or the
    tool fails"): if `main` returns `EXIT_SUCCESS` then the walks were reached, the plan had no error of its own, *every*
    call of the plan was made and succeeded (or was a tolerated `mkdir`/`EEXIST`), and for every node the walks reach — every
    node of the sorted tree not hidden below an entry with an insane name — the creating call, for a regular file the
    `open(O_TRUNC)` that writes its *whole* content, and each of its `lsetxattr`/`utimensat`/`fchownat`/`fchmodat` calls are
    among them.  The skip reports are exactly the refused entries, once per reporting walk (create, file list), in walk order. -/
theorem success_means_everything_unpacked (ord : List FileEnt → List FileEnt) (hall : OrdAll ord) (fl : Flags) (t : TNode)
    (hsane : isFilenameSane t.name = true) (root : Option Bytes) (flt : Faults) (cwd₀ : PathC) (fs₀ : Fs)
    (h : (unpackMain ord fl t root flt cwd₀ fs₀).exit = 0) :
    ∃ t', treeSort t = .ok t' ∧ (planSorted ord fl t').err = none ∧
      (unpackMain ord fl t root flt cwd₀ fs₀).trace.map Prod.fst = (planSorted ord fl t').syscalls ∧
      (∀ x ∈ (unpackMain ord fl t root flt cwd₀ fs₀).trace, Fine x) ∧
      (∀ c n, (c, n) ∈ visitNRoot t' →
        createNode n.kind (joinSlash c) n.payload n.attr fl ∈ (unpackMain ord fl t root flt cwd₀ fs₀).trace.map Prod.fst ∧
        (n.kind = .reg → Syscall.openTrunc (joinSlash c) n.payload ∈ (unpackMain ord fl t root flt cwd₀ fs₀).trace.map Prod.fst) ∧
        (∀ sc, Ev.sys sc ∈ (attrOps fl n.kind (joinSlash c) n.attr).evs →
          sc ∈ (unpackMain ord fl t root flt cwd₀ fs₀).trace.map Prod.fst)) ∧
      (planSorted ord fl t').skips = skippedRoot t' ++ skippedRoot t' := by
  cases he : (unpackMain ord fl t root flt cwd₀ fs₀).established with
  | false => rw [(main_not_established rfl he).2.1] at h; cases h
  | true =>
    obtain ⟨t', i, f, hs, _, htr, hex⟩ := main_established rfl he
    rw [hex] at h
    have hok : f = false ∧ (planSorted ord fl t').err = none := by
      cases f <;> cases hpe : (planSorted ord fl t').err <;> simp [hpe] at h ⊢
    obtain ⟨hmap, hfine⟩ := (hok.1 ▸ htr).ok
    have hn' : isFilenameSane t'.name = true := by rw [treeSort_name t t' hs]; exact hsane
    obtain ⟨hnodes, hskips⟩ := planSorted_complete ord hall fl t' hn' hok.2
    refine ⟨t', hs, hok.2, hmap, hfine, ?_, hskips⟩
    intro c n hm
    obtain ⟨hcr, hreg, _, hattr⟩ := hnodes c n hm
    rw [hmap]
    refine ⟨Out.mem_syscalls.2 hcr, fun hr => Out.mem_syscalls.2 (hreg hr).2, fun sc hsc => Out.mem_syscalls.2 (hattr _ hsc)⟩

/-- conversely, the plan's own errors and failing calls are the only ways to `EXIT_FAILURE` once the walks are reached:
    if no walk has an error of its own and every call made is fine, the exit status is `EXIT_SUCCESS` -/
theorem exit_zero_of_all_fine (ord : List FileEnt → List FileEnt) (fl : Flags) (t t' : TNode) (root : Option Bytes)
    (flt : Faults) (cwd₀ : PathC) (fs₀ : Fs) (hs : treeSort t = .ok t')
    (he : (unpackMain ord fl t root flt cwd₀ fs₀).established = true) (hp : (planSorted ord fl t').err = none)
    (hfine : ∀ x ∈ (unpackMain ord fl t root flt cwd₀ fs₀).trace, Fine x) :
    (unpackMain ord fl t root flt cwd₀ fs₀).exit = 0 := by
  obtain ⟨t'', i, f, hs', _, htr, hex⟩ := main_established rfl he
  obtain rfl : t'' = t' := by rw [hs] at hs'; cases hs'; rfl
  rw [hex, hp]
  cases f with
  | false => rfl
  | true =>
    obtain ⟨pre, sc, e, ha, hb, _⟩ := htr.failed
    have h2 := fine_some.1 (hfine (sc, some e) (by rw [ha]; simp))
    rw [hb] at h2; cases h2

/-- every refused entry is reported exactly once by the create walk, in walk order (multiplicity, not only membership) -/
theorem skip_reports_exact (fl : Flags) (t : TNode) (h : (restoreFstree fl t).err = none) :
    (restoreFstree fl t).skips = skippedRoot t :=
  (restoreFstreeN_complete fl t h).2

/-! ### confinement from a weaker hypothesis on R; the modelled fill order -/

/-- **Confinement without freshness.**  The unpack root may hold anything — files, directories, devices, sockets, e.g. what
    an earlier run left — as long as no *symbolic link* sits strictly below it: then, whatever fails, the run leaves
    everything that is not strictly below `R` unchanged.  (`Fresh fs₀ R` implies `NoLinkBelow fs₀ R`;
    `Witness.C06.prepopulated_symlink_escapes` shows that this hypothesis cannot be dropped.) -/
theorem confinement_without_symlinks_below (ord : List FileEnt → List FileEnt) (hord : OrdOK ord) (fl : Flags) (t : TNode)
    (R : PathC) (fs₀ : Fs) (h : NoLinkBelow fs₀ R) : ConfinedF R fs₀ (unpackTree ord fl t).syscalls :=
  unpackTree_confinedF ord hord fl t R fs₀ h

/-- `main`, end to end, from the weaker hypothesis: if the directory the process stands in after `chdir(R)` has no symbolic
    link below it, the rest of the run changes nothing that is not strictly below it -/
theorem main_confinement_weak (ord : List FileEnt → List FileEnt) (hord : OrdOK ord) (fl : Flags) (t : TNode) (root : Option Bytes)
    (flt : Faults) (cwd₀ : PathC) (fs₀ : Fs)
    (h : NoLinkBelow (unpackMain ord fl t root flt cwd₀ fs₀).fsEst (unpackMain ord fl t root flt cwd₀ fs₀).cwd) :
    outside (unpackMain ord fl t root flt cwd₀ fs₀).cwd (unpackMain ord fl t root flt cwd₀ fs₀).fs =
      outside (unpackMain ord fl t root flt cwd₀ fs₀).cwd (unpackMain ord fl t root flt cwd₀ fs₀).fsEst :=
  unpackMain_confined ord hord fl t root flt cwd₀ fs₀ h

theorem fresh_implies_no_link_below (fs : Fs) (R : PathC) (h : Fresh fs R) : NoLinkBelow fs R := h.noLinkBelow

/-- the model of `qsort(compare_files)` (images without fragments) is a fill order in the sense of the theorems: it
    invents no entry (`OrdOK`) and loses none (`OrdAll`) -/
theorem ordByLoc_is_a_fill_order : OrdOK ordByLoc ∧ OrdAll ordByLoc :=
  ⟨fun _ _ h => mem_ordByLoc.1 h, fun _ _ h => mem_ordByLoc.2 h⟩

/-! ### the repaired `create_node`, the code in /repo (fixes/C06-mkdir-eexist-lstat.patch = /repo 9dca2a8): no hypothesis on what R holds

The code before 9dca2a8 accepts `EEXIST` from `mkdir` without looking at what exists (`tolerated`); every confinement theorem
above, being about that code, therefore needs `NoLinkBelow` and `Witness.C06.prepopulated_symlink_escapes` shows that it cannot
be dropped: that is a defect of the code before 9dca2a8 against the property as stated ("for every image … only underneath R", no
hypothesis on R).  The code in /repo accepts `EEXIST` only if `lstat` says "a directory" (restore_fstree.c:82-92; `toleratedR`,
`runR`, `unpackMainR` in `Sqfs/Model/UnpackRepaired.lean`).  For it: -/

/-- **Confinement for every R.**  For every tree, option set and fill order, from **any** file system `fs₀` — R may
    hold anything, symbolic links to anywhere included — with any calls failing for reasons of the environment (`flt`; `lflt`:
    the `lstat` behind a `mkdir`/`EEXIST` fails): the walks of the repaired unpacker, run with working directory `R`, leave
    everything that is not strictly below `R` exactly as it was.  No hypothesis on `fs₀` at all. -/
theorem confinement_any_R (ord : List FileEnt → List FileEnt) (hord : OrdOK ord) (fl : Flags) (t : TNode) (R : PathC)
    (fs₀ : Fs) (flt : Faults) (lflt : Nat → Bool) (i : Nat) :
    outside R (runR flt lflt R i fs₀ (unpackTree ord fl t).syscalls).fs = outside R fs₀ := by
  obtain ⟨_, _, _, hinv⟩ := unpackTree_runR ord hord fl t R fs₀ flt lflt i
  exact outside_eq_of_out hinv.out

/-- **What remains, precisely: only what the image names is touched.**  If after the repaired run the object at an
    absolute path `p` differs in any respect from what was there before, then `p = R ++ c` where `c` is the non-empty list
    of clean components of the path of some call of the plan — a node the image itself names.  In particular a symbolic
    link (or anything else) that R held beforehand at a path the image does not name is still there, unchanged, and
    nothing was written through it; one at a path the image *does* name makes the creating call there fail (`EEXIST`, or
    for a directory node `lstat` ≠ directory) and ends the run. -/
theorem repaired_touches_only_named_paths (ord : List FileEnt → List FileEnt) (hord : OrdOK ord) (fl : Flags) (t : TNode)
    (R : PathC) (fs₀ : Fs) (flt : Faults) (lflt : Nat → Bool) (i : Nat) (p : PathC)
    (h : (runR flt lflt R i fs₀ (unpackTree ord fl t).syscalls).fs p ≠ fs₀ p) :
    ∃ sc ∈ (unpackTree ord fl t).syscalls, ∃ c : List Bytes, c ≠ [] ∧ sc.path = joinSlash c ∧ p = R ++ c ∧
      ∀ x ∈ c, x ≠ [] ∧ isFilenameSane x = true := by
  obtain ⟨_, hsub, _, hinv⟩ := unpackTree_runR ord hord fl t R fs₀ flt lflt i
  obtain ⟨sc, hm, c, k, hcf, hne, hp⟩ := hinv.chg p h
  exact ⟨sc, hsub sc hm, c, hne, hcf.path, hp, fun x hx => (goodComp_iff x).1 (hcf.good x hx)⟩

/-- **Success is a statement about the file system, not about the trace** (repaired code).  If no call of the repaired run
    failed, then for every creating call of the plan (`mkdir`, `symlink`, `mknod`, `open(O_CREAT|O_EXCL)`; by
    `skipped_reported_rest_unpacked` every reachable node has one) the object at its place `R ++ c` exists in the final file
    system and is of the sort of that node's inode type: where the image has a directory there **is a directory** — a
    `mkdir` answering `EEXIST` on a file, a device or a symbolic link does not count as "unpacked", as it does for the
    code before 9dca2a8 (`success_means_everything_unpacked` speaks about the trace only, `Fine` includes the tolerated `EEXIST`). -/
theorem repaired_success_objects_in_place (ord : List FileEnt → List FileEnt) (hord : OrdOK ord) (fl : Flags) (t : TNode)
    (R : PathC) (fs₀ : Fs) (flt : Faults) (lflt : Nat → Bool) (i : Nat)
    (hok : (runR flt lflt R i fs₀ (unpackTree ord fl t).syscalls).failed = false) :
    ∀ sc ∈ (unpackTree ord fl t).syscalls, sc.isCreate = true →
      ∃ (c : List Bytes) (k : Kind), sc.path = joinSlash c ∧ Compat sc k ∧
        (c ≠ [] → ∃ n, (runR flt lflt R i fs₀ (unpackTree ord fl t).syscalls).fs (R ++ c) = some n ∧ kindMatch n.kind k = true) := by
  intro sc hsc hcr
  obtain ⟨_, _, hall, hinv⟩ := unpackTree_runR ord hord fl t R fs₀ flt lflt i
  obtain ⟨c, k, hcf⟩ := unpackTree_clean ord hord fl t sc hsc
  exact ⟨c, k, hcf.path, hcf.compat, fun hne => hinv.est sc (hall hok sc hsc) hcr c k hcf hne⟩

/-- **`main` of the repaired unpacker, end to end**: for every tree, option set, fill order, `--unpack-root` argument
    (or none), start directory, file system and failing calls, what `main` does after `mkdir_p`/`chdir` changes nothing
    that is not strictly below the directory the process then stands in — whatever that directory holds.  (Establishing
    R is unchanged code: `unpackMainR` calls the `mkdirP` and `chdirF` that `unpackMain` calls; `OnlyNewDirs` and
    `root_not_established_nothing_unpacked` are stated of `unpackMain`.) -/
theorem main_confinement_any_R (ord : List FileEnt → List FileEnt) (hord : OrdOK ord) (fl : Flags) (t : TNode)
    (root : Option Bytes) (flt : Faults) (lflt : Nat → Bool) (cwd₀ : PathC) (fs₀ : Fs) :
    outside (unpackMainR ord fl t root flt lflt cwd₀ fs₀).cwd (unpackMainR ord fl t root flt lflt cwd₀ fs₀).fs =
      outside (unpackMainR ord fl t root flt lflt cwd₀ fs₀).cwd (unpackMainR ord fl t root flt lflt cwd₀ fs₀).fsEst := by
  fun_cases unpackMainR ord fl t root flt lflt cwd₀ fs₀
  case case2 | case5 =>
    have h := confinement_any_R ord hord fl t
    rw [unpackTree_eq ord fl ‹treeSort t = _›] at h
    exact h _ _ flt lflt _
  all_goals rfl

/-! ### non-vacuity and sanity of the model -/

section examples
-- "a", "b", "..", "x", "R"
private abbrev A : Bytes := [97]
private abbrev B : Bytes := [98]
private abbrev DD : Bytes := [DOT, DOT]
private abbrev X : Bytes := [120]
private abbrev Rn : Bytes := [82]
/-- "../x" -/
private abbrev upX : Bytes := [DOT, DOT, SL, 120]

/-- `/` and `/R` are directories, `/x` is a file: `/R` is fresh -/
private def fs0 : Fs := fun q =>
  if q = [] ∨ q = [Rn] then some ⟨.dir, {}⟩ else if q = [X] then some ⟨.file [1], {}⟩ else none

example : Fresh fs0 [Rn] := by
  refine ⟨⟨_, rfl⟩, ?_⟩
  intro p hp
  unfold fs0
  have h1 : p ≠ [] := by intro e; subst e; simp [underB] at hp
  have h2 : p ≠ [Rn] := by intro e; subst e; simp [underB] at hp
  have h3 : p ≠ [X] := by intro e; subst e; simp [underB, List.isPrefixOf] at hp
  simp [h1, h2, h3]

/-- hostile tree: symlink a → ../x, directory b holding a file named "..", and a file "a" (duplicate of the symlink) -/
private def hostile (withDup : Bool) : TNode :=
  .mk [] .dir [] {} ([.mk B .dir [] {} [.mk DD .reg [1] {} [], .mk A .reg [2] {} []], .mk A .lnk upX {} []]
    ++ if withDup then [.mk A .reg [7] {} []] else [])

-- with the duplicate: refused before any call
example : (unpackPlan (hostile true) {}).err = some .duplicate ∧ (unpackPlan (hostile true) {}).syscalls = [] := by decide
-- without: the ".." entry is skipped (reported twice: create walk and file-list walk), the rest is unpacked
example : (unpackPlan (hostile false) { chmod := true }).evs =
    [.sys (.symlink upX A), .sys (.mkdir B 0o755), .skip DD, .sys (.openExcl [98, 47, 97] 0o200),
     .skip DD, .sys (.openTrunc [98, 47, 97] [2]),
     .sys (.chmod [98, 47, 97] 0), .sys (.chmod B 0)] := by decide +kernel
-- the file system model *can* express an escape: without O_EXCL semantics (openTrunc follows) a write through the
-- symlink "a" lands on /x, outside /R …
example : (exec [Rn] fs0 [.symlink upX A, .openTrunc A [9]]) [X] = some ⟨.file [9], {}⟩ := by decide
-- … and so can a tolerated `mkdir` on top of a symlink to a directory: the child is created outside R
example : (exec [Rn] fs0 [.symlink DD A, .mkdir A 0o755, .openExcl [97, 47, 98] 0o644]) [B] = some ⟨.file [], { perm := 0o644 }⟩ := by
  decide
-- whereas the real plan leaves /x alone
example : (exec [Rn] fs0 (unpackPlan (hostile false) { chmod := true }).syscalls) [X] = some ⟨.file [1], {}⟩ := by decide +kernel
/-! non-vacuity of the `main` theorems -/

/-- `/` a directory, `/x` a file; no `/R` yet -/
private def fs1 : Fs := fun q => if q = [] then some ⟨.dir, {}⟩ else if q = [X] then some ⟨.file [1], {}⟩ else none
/-- the same with `/R` a regular file -/
private def fs2 : Fs := fun q => if q = [] then some ⟨.dir, {}⟩ else if q = [X] ∨ q = [Rn] then some ⟨.file [1], {}⟩ else none
/-- `/R` a symbolic link to `/x`… which is a file -/
private def fs3 : Fs := fun q =>
  if q = [] then some ⟨.dir, {}⟩ else if q = [X] then some ⟨.file [1], {}⟩ else if q = [Rn] then some ⟨.symlink [SL, 120], {}⟩ else none

-- `-p R` with R absent: `mkdir_p` makes it, `chdir` enters it, the image is unpacked, exit status 0
example : (unpackMain id { chmod := true } (hostile false) (some Rn) noFaults [] fs1).established = true ∧
    (unpackMain id { chmod := true } (hostile false) (some Rn) noFaults [] fs1).exit = 0 ∧
    (unpackMain id { chmod := true } (hostile false) (some Rn) noFaults [] fs1).cwd = [Rn] ∧
    (unpackMain id { chmod := true } (hostile false) (some Rn) noFaults [] fs1).pre = [(.mkdir Rn 0o755, none)] ∧
    (unpackMain id { chmod := true } (hostile false) (some Rn) noFaults [] fs1).fs [X] = some ⟨.file [1], {}⟩ := by decide +kernel
-- `-p R` with R a regular file: `mkdir` says EEXIST (tolerated), `chdir` says ENOTDIR — the hypotheses of
-- `failed_chdir_writes_nothing` hold, no call of a walk is made
example : (unpackMain id {} (hostile false) (some Rn) noFaults [] fs2).chdirRes = some (some .ENOTDIR) ∧
    (unpackMain id {} (hostile false) (some Rn) noFaults [] fs2).pre = [(.mkdir Rn 0o755, some .EEXIST)] ∧
    (unpackMain id {} (hostile false) (some Rn) noFaults [] fs2).trace = [] ∧
    (unpackMain id {} (hostile false) (some Rn) noFaults [] fs2).exit = 1 := by decide
-- … and with R a symbolic link to a file
example : (unpackMain id {} (hostile false) (some Rn) noFaults [] fs3).chdirRes = some (some .ENOTDIR) ∧
    (unpackMain id {} (hostile false) (some Rn) noFaults [] fs3).established = false := by decide
-- an unprivileged user: the 3rd call after `mkdir`, `chdir` (call number 4) is refused with EPERM — it is the last call, exit status 1
example : (unpackMain id {} (hostile false) (some Rn) (fun i => if i = 4 then some .EPERM else none) [] fs1).exit = 1 ∧
    (unpackMain id {} (hostile false) (some Rn) (fun i => if i = 4 then some .EPERM else none) [] fs1).trace =
      [(.symlink upX A, none), (.mkdir B 0o755, none), (.openExcl [98, 47, 97] 0o644, some .EPERM)] := by decide +kernel
-- a data block that cannot be read: the file is opened, 1 byte is written, the run ends (no attribute phase)
example : (unpackPlan (.mk [] .dir [] {} [.mk A .reg [1, 2, 3] { copyFail := some 1 } [], .mk B .reg [4] {} []]) { chmod := true }).evs =
      [.sys (.openExcl A 0o200), .sys (.openExcl B 0o200), .sys (.openTrunc A [1])] ∧
    (unpackPlan (.mk [] .dir [] {} [.mk A .reg [1, 2, 3] { copyFail := some 1 } [], .mk B .reg [4] {} []]) { chmod := true }).err = some .dataRead := by
  decide +kernel
-- an xattr key that cannot be read after the first pair
example : (unpackPlan (.mk [] .dir [] {} [.mk A .reg [] { xattrs := [(X, [1]), (B, [2])], xattrFail := some 1 } []]) { setXattr := true, setTimes := true }).evs =
      [.sys (.openExcl A 0o644), .sys (.openTrunc A []), .sys (.setxattr A X [1] true)] ∧
    (unpackPlan (.mk [] .dir [] {} [.mk A .reg [] { xattrs := [(X, [1]), (B, [2])], xattrFail := some 1 } []]) { setXattr := true, setTimes := true }).err = some .xattrRead := by
  decide +kernel
-- mkdir_p.c: "//a//b/" → mkdir "/a", "/a/", "/a//b", "/a//b/";  "" and "/" → nothing
example : mkdirPCuts [SL, SL, 97, SL, SL, 98, SL] = [[SL, 97], [SL, 97, SL], [SL, 97, SL, SL, 98], [SL, 97, SL, SL, 98, SL]] ∧
    mkdirPCuts [] = [] ∧ mkdirPCuts [SL] = [] ∧ mkdirPCuts [SL, SL, SL] = [] ∧ mkdirPCuts [97, SL, 98] = [[97], [97, SL, 98]] := by decide
/-- `/R` holds a file and a directory with a file (left by an earlier run), no symbolic link: not fresh, but `NoLinkBelow` -/
private def fs4 : Fs := fun q =>
  if q = [] ∨ q = [Rn] ∨ q = [Rn, B] then some ⟨.dir, {}⟩ else if q = [X] ∨ q = [Rn, A] ∨ q = [Rn, B, A] then some ⟨.file [1], {}⟩ else none

example : NoLinkBelow fs4 [Rn] ∧ ¬ Fresh fs4 [Rn] := by
  refine ⟨⟨⟨_, rfl⟩, ?_⟩, ?_⟩
  · intro p _ t a
    unfold fs4
    split
    · intro e; cases e
    · split
      · intro e; cases e
      · intro e; cases e
  · intro h
    have := h.2 [Rn, A] (by decide)
    revert this
    decide
-- unpacking into it: `symlink a` meets the old file (EEXIST), the run ends there, exit status 1, `/x` untouched
example : (unpackMain id {} (hostile false) (some Rn) noFaults [] fs4).exit = 1 ∧
    (unpackMain id {} (hostile false) (some Rn) noFaults [] fs4).trace = [(.symlink upX A, some .EEXIST)] ∧
    (unpackMain id {} (hostile false) (some Rn) noFaults [] fs4).fs [X] = some ⟨.file [1], {}⟩ := by decide +kernel
/-! the repaired unpacker into the populated `fs4`: a directory node `a` meets the old *file* `/R/a` — `mkdir` answers
    `EEXIST`, `lstat` says "not a directory", exit status 1; a directory node `b` meets the old directory `/R/b` and is
    unpacked into it (exit status 0).  (The planted symbolic link: `Witness.C06.repaired_planted_symlink_confined`.) -/
example : (unpackMainR id {} (.mk [] .dir [] {} [.mk A .dir [] {} [.mk X .reg [7] {} []]]) none noFaults (fun _ => false) [Rn] fs4).exit = 1 ∧
    (unpackMainR id {} (.mk [] .dir [] {} [.mk B .dir [] {} [.mk X .reg [7] {} []]]) none noFaults (fun _ => false) [Rn] fs4).exit = 0 ∧
    (unpackMainR id {} (.mk [] .dir [] {} [.mk B .dir [] {} [.mk X .reg [7] {} []]]) none noFaults (fun _ => false) [Rn] fs4).fs [Rn, B, X]
      = some ⟨.file [7], { perm := 0o644 }⟩ := by decide +kernel
/-! the remaining theorems with hypotheses, applied to the hostile tree with every hypothesis discharged -/
example := skipped_reported_rest_unpacked { chmod := true } (hostile false) (by decide)
example : (restoreFstree { chmod := true } (hostile false)).skips = skippedRoot (hostile false) :=
  skip_reports_exact { chmod := true } (hostile false) (by decide)
/-- `plan_prefix_dirs` at the `open("b/a", O_EXCL)` event of the plan: its proper prefix `b` was made by an earlier `mkdir` -/
example := plan_prefix_dirs id (fun _ _ h => h) { chmod := true } (hostile false) _ _ _
  (show (unpackTree id { chmod := true } (hostile false)).evs =
    [.sys (.symlink upX A), .sys (.mkdir B 0o755), .skip DD] ++ Ev.sys (.openExcl [98, 47, 97] 0o200) ::
     [.skip DD, .sys (.openTrunc [98, 47, 97] [2]), .sys (.chmod [98, 47, 97] 0), .sys (.chmod B 0)] from by decide +kernel)
end examples

end Sqfs.C06
