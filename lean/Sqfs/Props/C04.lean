/-
C04 — tar ↔ SquashFS conversion preserves the archive; byte-exact fix-point.

Property theorems only (helpers: `Sqfs/Proofs/Tar*.lean`).  Models: `Sqfs/Model/Tar*.lean`, one Lean
function per C function / loop of `lib/tar` and of the conversion code of `tar2sqfs`/`sqfs2tar`.
-/
import Sqfs.Proofs.TarNumber
import Sqfs.Proofs.TarHeader
import Sqfs.Proofs.TarHeaderRT
import Sqfs.Proofs.TarPaxRT
import Sqfs.Proofs.TarSparse
import Sqfs.Proofs.TarConv
import Sqfs.Proofs.TarHeaderFull
import Sqfs.Proofs.TarFixIter
import Sqfs.Proofs.TarFixConv
import Sqfs.Proofs.TarFixExample
import Sqfs.Proofs.TarSqfs2tar
import Sqfs.Proofs.TarPaxNum
import Sqfs.Proofs.TarPaxUrl
import Sqfs.Proofs.TarPaxB64
namespace Sqfs.C04
open Sqfs.Tar

/-! ## numeric fields (`number.c`, `write_number*` of `write_header.c`) -/

/--
**Exact or error.**  For *every* field (any length, any bytes) `read_number` returns exactly what the
field means — the value of the octal digit run, or of the base-256 number as a 64-bit two's-complement
pattern — or fails; it never returns a wrapped value.  (`specNumber` is `none` exactly when the value does
not fit: octal/positive ≥ 2^64, negative < −2^63.)  Holds for the repaired guard; the unrepaired one is
refuted in `Sqfs/Witness/C04.lean`.
-/
theorem readNumber_exact_or_error (f : Bytes) : readNumber f = specNumber f :=
  readNumber_spec f

/-- … in particular a successful read of an octal field is the unbounded value of its digits, -/
theorem readNumber_octal_exact (b0 : UInt8) (t : Bytes) (r : Nat) (h7 : b0.toNat < 128)
    (h : readNumber (b0 :: t) = some r) : r = specOctal (b0 :: t) := by
  rw [readNumber_exact_or_error] at h
  unfold specNumber at h
  have : ¬ b0.toNat ≥ 128 := by omega
  simp only [this, if_false] at h
  split at h
  · exact (Option.some.inj h).symm
  · cases h

/-- … and a successful read of a base-256 field is its signed value modulo 2^64 with the value in
    `[-2^63, 2^64)`. -/
theorem readNumber_binary_exact (b0 : UInt8) (t : Bytes) (r : Nat) (h7 : b0.toNat ≥ 128)
    (h : readNumber (b0 :: t) = some r) :
    -9223372036854775808 ≤ specBinary (b0 :: t) ∧ specBinary (b0 :: t) < (U64 : Int) ∧
    (r : Int) = specBinary (b0 :: t) % (U64 : Int) := by
  rw [readNumber_exact_or_error] at h
  unfold specNumber at h
  simp only [h7, if_true] at h
  unfold fits64 at h
  simp only [U64] at h ⊢
  split at h
  · have := Option.some.inj h; omega
  · split at h
    · have := Option.some.inj h; omega
    · cases h

/--
**Number round trip**, every field width `2 ≤ w ≤ 21` (the code uses 8 and 12) and every 64-bit value
the encoding can hold: octal with terminator (`v < 8^(w-1)`), octal without terminator (`v < 8^w`),
base-256 (any `v < 2^64` for `w ≥ 9`; for `w = 8` values below `0x7F·2^56`, since the first payload
byte shares its top bit with the marker and `0xFF` means "negative").
-/
theorem number_roundtrip (v w : Nat) (hw : 2 ≤ w ∧ w ≤ 21) (hv : v < U64)
    (hfit : v < 8 ^ w ∨ 9 ≤ w ∨ (w = 8 ∧ v < 127 * 2 ^ 56)) :
    readNumber (writeNumber v w) = some v :=
  readNumber_writeNumber v w hw hv hfit

/--
**Signed round trip** (the mtime field: `write_number_signed`, then `read_number` and `decode_header`'s
conversion): every `sqfs_s64` value, negative ones included, in every field of at least 9 bytes.
-/
theorem number_roundtrip_signed (m : Int) (w : Nat) (hw : 9 ≤ w ∧ w ≤ 21)
    (hm : -9223372036854775808 ≤ m ∧ m < 9223372036854775808) :
    (readNumber (writeNumberSigned m w)).map toSigned = some m :=
  readNumber_writeNumberSigned m w hw hm

/-! ## checksum (`checksum.c`, `update_checksum`, `is_checksum_valid`) -/

/--
**Checksum round trip.**  For every 512-byte header, `update_checksum` touches only the 8 checksum
bytes, the checksum does not depend on them, and `is_checksum_valid` accepts the result.
-/
theorem checksum_roundtrip (h : Bytes) (hl : h.length = 512) :
    isChecksumValid (updateChecksum h) = true ∧
    computeChecksum (updateChecksum h) = computeChecksum h ∧
    (updateChecksum h).take 148 = h.take 148 ∧ (updateChecksum h).drop 156 = h.drop 156 ∧
    (updateChecksum h).length = 512 := by
  exact updateChecksum_spec h hl

/-! ## PAX records written by `write_schily_xattr` -/

/--
**`prefix_digit_len` is correct** for every `len` (no bound): the number of digits it returns is the
number of digits of `len` *plus that number* — the self-referential length of a PAX record.  (The
`do … while` loop reaches its fixed point within three iterations, so the fuel of the model is exact.)
-/
theorem prefix_digit_len_correct (len : Nat) : numDigits (len + prefixDigitLen len) = prefixDigitLen len :=
  prefixDigitLen_fix len

/-- hence the length field of every emitted `SCHILY.xattr` record equals the record's actual length,
    for all keys and all (binary) values (`k` = the key as emitted, '%' and '=' escaped) -/
theorem schily_record_length (key value : Bytes) :
    let k := xattrEncodeKey key
    let len := 13 + k.length + value.length + 3
    schilyRecord key value = decStr (len + prefixDigitLen len) ++ ([32] ++ schilyPrefix ++ k ++ [61] ++ value ++ [10]) ∧
    (schilyRecord key value).length = len + prefixDigitLen len := by
  have hp : schilyPrefix.length = 13 := by decide
  refine ⟨?_, ?_⟩
  · unfold schilyRecord schilyRecordRaw
    simp only [hp, List.append_assoc]
  · unfold schilyRecord schilyRecordRaw
    simp only [hp, List.length_append, decStr_length, prefix_digit_len_correct, List.length_cons, List.length_nil]
    omega

/--
**xattr key escaping** (`xattr_encode_keyword` / `xattr_decode_keyword` of GNU tar, adopted by the repair
`fixes/C04-xattr-key-escape.patch`): decoding inverts encoding for every key, and an encoded key never contains the
PAX keyword terminator '=' (nor a NUL when the key has none).
-/
theorem xattr_key_escape (key : Bytes) :
    xattrDecodeKey (xattrEncodeKey key) = key ∧ ((∀ x ∈ key, x ≠ 0) → ∀ x ∈ xattrEncodeKey key, x ≠ 0 ∧ x ≠ 61) :=
  ⟨xattrDecode_encode key, xattrEncode_clean key⟩

/--
**PAX record round trip.**  For every NUL-free key ('=' and '%' included) and every value (arbitrary bytes: NUL, '=',
newline included), the record parser of `read_pax_header` applied to the record `write_schily_xattr` emits — followed by
anything — consumes exactly the record and delivers exactly that key/value pair (prepended to the list, as the C code does).
-/
theorem pax_record_roundtrip (st : PaxState) (key value rest : Bytes) (hk : ∀ x ∈ key, x ≠ 0) :
    paxLine {} st (schilyRecord key value ++ rest) =
      some ({ st with out := { st.out with xattr := (key, value) :: st.out.xattr } }, (schilyRecord key value).length) :=
  paxLine_schily st key value rest hk

/-- … and the whole payload of a `pax/xattrN` member, any number of xattrs, is read back completely: the header gets
    exactly the written pairs (in reverse order — the reader prepends), `set_by_pax` stays untouched. -/
theorem pax_payload_roundtrip (xs : List (Bytes × Bytes)) (out : Decoded) (mask : Nat)
    (hk : ∀ kv ∈ xs, ∀ x ∈ kv.1, x ≠ 0) :
    readPaxHeader {} ((xs.map fun kv => schilyRecord kv.1 kv.2).flatten) out mask =
      some ({ out with xattr := xs.reverse ++ out.xattr }, mask) := by
  exact readPaxHeader_payload xs out mask hk

/-! ## header round trip -/

/--
**Header round trip** (full strength).  For *every* entry `write_tar_header` accepts — every entry kind (regular file,
directory, symbolic link, character / block device, FIFO, hard link), names and link targets of any length (below 100 bytes
in the header field, from 100 bytes on through GNU 'L' / 'K' records), every numeric encoding (octal, unterminated octal,
base-256, negative mtime), any number of extended attributes with arbitrary binary values and arbitrary keys ('=' and '%'
included) through the `SCHILY.xattr` PAX record — and whatever follows in the stream, `read_header` consumes exactly the
bytes the writer emitted and returns exactly the entry (`decodedOf`, `Sqfs/Spec/TarHeader.lean`: name, link target, ids,
signed time stamp, size, device number, hard-link flag byte for byte; xattrs in reverse order since the reader prepends;
symbolic links always with mode 0777).

`Encodable` holds the calling convention (NUL-terminated strings, `ent->size` = length of the link target, integer types)
and the documented limits (ids below `0x7F·2^56` in an 8-byte base-256 field, device numbers below 2^31, GNU/PAX records
of at most 65536 bytes, beyond which `read_header` refuses); it excludes no entry kind, length class or encoding.
The writer's dialect is "ustar " + " \0" (pre-POSIX/GNU): the ustar `prefix` field is never used (`header_prefix_unused`).
-/
theorem header_roundtrip (e : WEntry) (tgt : Option Bytes) (xs : List (Bytes × Bytes)) (n : Nat) (rest w : Bytes)
    (hE : Encodable e tgt xs) (hw : writeTarHeader e tgt xs n = some w) :
    readHeader (w ++ rest) = .ok (decodedOf e tgt xs.reverse) rest := by
  exact readHeader_writeTarHeader e tgt xs n rest w hE hw

/--
**What the writer refuses** (and only that): an entry that is not a hard link and whose type is none of the six that tar
can express — sockets in particular.  The refusal happens before anything is appended to the stream (repaired order, D27),
so the archive stays well-formed; `sqfs2tar` skips the entry with a warning.
-/
theorem header_refusal (e : WEntry) (tgt : Option Bytes) (xs : List (Bytes × Bytes)) (n : Nat) :
    (writeTarHeader e tgt xs n = none ↔
      e.hardLink = false ∧ fmt e.mode ≠ S_IFREG ∧ fmt e.mode ≠ S_IFDIR ∧ fmt e.mode ≠ S_IFLNK ∧ fmt e.mode ≠ S_IFCHR ∧
        fmt e.mode ≠ S_IFBLK ∧ fmt e.mode ≠ S_IFIFO) ∧
    (e.hardLink = false → fmt e.mode = S_IFSOCK → writeTarHeader e tgt xs n = none) := by
  have key : writeTarHeader e tgt xs n = none ↔ e.hardLink = false ∧ entryType e.mode = none := by
    unfold writeTarHeader writeTarHeaderK
    cases hh : e.hardLink with
    | true => simp
    | false =>
      cases ht : entryType e.mode with
      | none => simp
      | some t => simp
  have hty := entryType_none e.mode
  refine ⟨by rw [key, hty], ?_⟩
  intro hh hs
  rw [key, hty, hs]
  exact ⟨hh, by decide, by decide, by decide, by decide, by decide, by decide⟩

/-- the writer never uses the ustar `prefix` field: it stays zero in every header block, and the block is recognised as
    pre-POSIX ("ustar " + " \0"), for which `decode_header` does not look at the prefix at all -/
theorem header_prefix_unused (name : Bytes) (mode uid gid size : Nat) (mtime : Int) (tf : UInt8) (linkname : Bytes) (maj min : Nat)
    (hn : name.length = 100) (hl : linkname.length = 100) :
    slice (hdrBlock name mode uid gid size mtime tf linkname maj min) 345 155 = zeros 155 ∧
    checkVersion (hdrBlock name mode uid gid size mtime tf linkname maj min) = some .prePosix := by
  have f := HdrFields.block_fields (a := ⟨name, mode, uid, gid, size, mtime, tf, linkname, maj, min⟩) ⟨hn, hl⟩
  exact ⟨f.pfx, f.prePosix⟩

/-! ## foreign dialects: what `read_header` makes of headers it did not write -/

/--
**`decode_header`, field by field, every dialect.**  For every 512-byte block (v7, pre-POSIX/GNU, POSIX ustar — with or
without a ustar `prefix`), whatever `set_by_pax` mask and partial header the extension records before it left behind,
`decode_header` delivers exactly the specification `specDecode` (`Sqfs/Spec/TarHeader.lean`): every numeric field is the exact
value its bytes encode (octal digit run or base-256 two's complement, `readNumber_exact_or_error`) or the header is refused;
values supplied by PAX records win; the name is `prefix/name` exactly for a POSIX block with a non-empty prefix; the type flag
selects the file type; unknown type flags are marked for skipping.
-/
theorem decode_header_spec (h : Bytes) (mask : Nat) (out : Decoded) (v : Version) :
    decodeHeader h mask out v = specDecode h mask out v :=
  decodeHeader_eq_spec h mask out v

/--
**A plain member header of any dialect through `read_header`.**  A block with one of the three recognised magic/version pairs,
a valid checksum and a type flag other than the extension records ('K', 'L', 'g', 'x') and the old GNU sparse header ('S'),
standing first in the stream: `read_header` consumes exactly the block and returns `specDecode` of it (`actual_size =
record_size`), or fails when a numeric field does not hold a number.  (`read_header_after_records` is the same statement with
the state that GNU 'L'/'K' and PAX records leave behind.)
-/
theorem read_header_plain_block (h rest : Bytes) (v : Version)
    (hl : h.length = 512) (hnz : isZeroBlock h = false) (hv : checkVersion h = some v) (hck : isChecksumValid h = true)
    (htf : (slice h 156 1).headD 0 ≠ 75 ∧ (slice h 156 1).headD 0 ≠ 76 ∧ (slice h 156 1).headD 0 ≠ 103 ∧
           (slice h 156 1).headD 0 ≠ 120 ∧ (slice h 156 1).headD 0 ≠ 83) :
    readHeader (h ++ rest) =
      match specDecode h 0 {} v with
      | none => .err
      | some d => .ok { d with actualSize := d.recordSize } rest := by
  unfold readHeader readHeaderWith
  exact loop_plain {} _ h rest false v 0 {} hl hnz hv hck htf rfl (by decide)

/-- … and the same block inside the loop, entered with whatever state (`mask`, `out`) the GNU 'L'/'K' and PAX records before it left
    behind, as long as no sparse map is pending: the values those records set win over the block's own fields (`specDecode`). -/
theorem read_header_after_records (cfg : ReadCfg) (f : Nat) (h rest : Bytes) (pz : Bool) (v : Version) (mask : Nat) (out : Decoded)
    (hl : h.length = 512) (hnz : isZeroBlock h = false) (hv : checkVersion h = some v) (hck : isChecksumValid h = true)
    (htf : (slice h 156 1).headD 0 ≠ 75 ∧ (slice h 156 1).headD 0 ≠ 76 ∧ (slice h 156 1).headD 0 ≠ 103 ∧
           (slice h 156 1).headD 0 ≠ 120 ∧ (slice h 156 1).headD 0 ≠ 83)
    (hsp : out.sparse = []) (hgnu : hasFlag mask PAX_SPARSE_GNU_1_X = false) :
    readHeaderLoop cfg (f + 1) (h ++ rest) out mask pz =
      match specDecode h mask out v with
      | none => .err
      | some d => .ok { d with actualSize := d.recordSize } rest :=
  loop_plain cfg f h rest pz v mask out hl hnz hv hck htf hsp hgnu

/--
**GNU long name / long link records and the PAX extended header, from any writer.**  A record whose header block the reader
recognises (any dialect, valid checksum) with type flag 'L' / 'K' / 'x' and a size field between 1 and 65536, followed by that
many payload bytes and the padding to the next 512-byte boundary: the loop of `read_header` takes the payload's C string as the
member's name resp. link target and sets `PAX_NAME` / `PAX_SLINK_TARGET` so that the following header's own fields lose; for
'x' it restarts from an empty header with what `read_pax_header` makes of the payload.
-/
theorem gnu_long_records (cfg : ReadCfg) (f : Nat) (H p rest : Bytes) (out : Decoded) (mask : Nat) (pz : Bool)
    (h1 : 1 ≤ p.length) (h2 : p.length ≤ 65536) :
    (IsHdr H 76 p.length →
      readHeaderLoop cfg (f + 1) (H ++ (p ++ (zeros (padding p.length) ++ rest))) out mask pz =
        readHeaderLoop cfg f rest { out with name := some (cstr p) } (setFlag mask PAX_NAME) false) ∧
    (IsHdr H 75 p.length →
      readHeaderLoop cfg (f + 1) (H ++ (p ++ (zeros (padding p.length) ++ rest))) out mask pz =
        readHeaderLoop cfg f rest { out with link := some (cstr p) } (setFlag mask PAX_SLINK_TARGET) false) ∧
    (IsHdr H 120 p.length → ∀ out' mask',
      readPaxHeader ⟨cfg.xattrKeepOrder, cfg.schilyKeyDecode⟩ p {} 0 = some (out', mask') →
      readHeaderLoop cfg (f + 1) (H ++ (p ++ (zeros (padding p.length) ++ rest))) out mask pz =
        readHeaderLoop cfg f rest out' mask' false) :=
  ⟨fun h => loop_ext cfg f H p rest out mask pz 76 (.inr (.inl rfl)) h h1 h2,
   fun h => loop_ext cfg f H p rest out mask pz 75 (.inl rfl) h h1 h2,
   fun h out' mask' hp => by
     rw [loop_ext cfg f H p rest out mask pz 120 (.inr (.inr rfl)) h h1 h2, extApply_x, hp]⟩

/-- … for instance a GNU long-name member from a foreign writer (any dialect for either block): the name is the record's
    payload, everything else is the following block's own fields -/
theorem gnu_long_name_member (HL p h rest : Bytes) (v : Version)
    (hL : IsHdr HL 76 p.length) (h1 : 1 ≤ p.length) (h2 : p.length ≤ 65536)
    (hl : h.length = 512) (hnz : isZeroBlock h = false) (hv : checkVersion h = some v) (hck : isChecksumValid h = true)
    (htf : (slice h 156 1).headD 0 ≠ 75 ∧ (slice h 156 1).headD 0 ≠ 76 ∧ (slice h 156 1).headD 0 ≠ 103 ∧
           (slice h 156 1).headD 0 ≠ 120 ∧ (slice h 156 1).headD 0 ≠ 83) :
    readHeader (HL ++ (p ++ (zeros (padding p.length) ++ (h ++ rest)))) =
      match specDecode h PAX_NAME { name := some (cstr p) } v with
      | none => .err
      | some d => .ok { d with actualSize := d.recordSize } rest := by
  exact (Reads.ext (.inr (.inl rfl)) hL h1 h2 rfl
    (Reads.plain {} h rest v PAX_NAME { name := some (cstr p) } hl hnz hv hck htf rfl (by decide))).readHeaderWith

/--
**The PAX record parser, any keyword.**  On a well-formed record `"%d %s=%s\n"` (keyword without NUL/'=' and not starting with
white space, arbitrary value bytes, the decimal length in front counting itself) the parser of `read_pax_header` — `strtol`, the
in-place NUL edits, the blank skip, the key scan — hands exactly the keyword and the value to the handler table (`paxApply`:
`find_handler`/`apply_handler` and the GNU.sparse.offset/numbytes pair) and consumes exactly the record.
In particular `path` / `linkpath` records set the member's name / link target to the value's C string and mark it as set by PAX.
-/
theorem pax_record_spec (pc : PaxCfg) (st : PaxState) (kw value rest : Bytes) (hne : kw ≠ [])
    (hk : ∀ x ∈ kw, x ≠ 0 ∧ x ≠ 61) (hsp : isSpace (kw.headD 0) = false) :
    paxLine pc st (paxRecord kw value ++ rest) = paxApply pc st kw value (paxRecord kw value).length ∧
    paxApply pc st (ascii "path") value (paxRecord (ascii "path") value).length =
      some ({ st with out := { st.out with name := some (cstr value) }, mask := setFlag st.mask PAX_NAME },
            (paxRecord (ascii "path") value).length) ∧
    paxApply pc st (ascii "linkpath") value (paxRecord (ascii "linkpath") value).length =
      some ({ st with out := { st.out with link := some (cstr value) }, mask := setFlag st.mask PAX_SLINK_TARGET },
            (paxRecord (ascii "linkpath") value).length) := by
  refine ⟨paxLine_record pc st kw value rest hne hk hsp, ?_, ?_⟩
  · exact paxApply_found pc st value _ (by decide : findHandler (ascii "path") = some .path) rfl
  · exact paxApply_found pc st value _ (by decide : findHandler (ascii "linkpath") = some .linkpath) rfl

/--
**`GNU.sparse.map` replaces the list** (pax_header.c:350-353, /repo 56b164f).  A `GNU.sparse.map` record (PAX sparse format 0.1) sets
the member's sparse map to the parsed list and makes the parser forget the tail of the list that earlier `GNU.sparse.numbytes`
records (format 0.0) were appended to; the next `GNU.sparse.numbytes` record therefore starts a new one-element list instead of
appending to the replaced (freed) one.  Whatever kind of record comes last determines the map.
-/
theorem pax_sparse_map_replaces (pc : PaxCfg) (st : PaxState) (value : Bytes) (len : Nat) (m : List (Nat × Nat))
    (hm : paxSparseMap (cstr value) = some m) :
    ∃ st1, paxApply pc st (ascii "GNU.sparse.map") value len = some (st1, len) ∧ st1.out.sparse = m ∧ st1.sparseStarted = false ∧
      ∀ (v2 : Bytes) (len2 v n : Nat), parseUint (cstr v2) = some (v, n) →
        ∃ st2, paxApply pc st1 (ascii "GNU.sparse.numbytes") v2 len2 = some (st2, len2) ∧ st2.out.sparse = [(st1.offset, v)] := by
  have h1 : findHandler (ascii "GNU.sparse.map") = some .sparseMap := by decide
  have h2 : findHandler (ascii "GNU.sparse.numbytes") = none := by decide
  have h3 : ¬ (ascii "GNU.sparse.numbytes" = ascii "GNU.sparse.offset") := by decide
  refine ⟨_, by simp only [paxApply, h1, applyHandler, hm, Option.map_some, if_true]; rfl, rfl, rfl, ?_⟩
  intro v2 len2 v n hv
  refine ⟨_, by simp only [paxApply, h2, h3, if_false, if_true, hv, Bool.false_eq_true]; rfl, rfl⟩

/--
**PAX numeric values are exact or refused** (`parse_uint` / `parse_int` of lib/util/src/parse_int.c as `pax_header.c` calls them
for `uid`, `gid`, `size`, `mtime`, `GNU.sparse.*`).  On a non-empty string of decimal digits `ds` followed by the end of the value
or by any non-digit (the '.' of a fractional `mtime`, the ',' of a sparse map): `parse_uint` returns exactly the number the digits
denote and the number of digits consumed whenever that number is below `(2^64 − 1) / 10 · 10`, and an error otherwise — the
overflow test is conservative (the six largest 64-bit values are refused too), but no value is ever wrapped or truncated, however
many leading zeros or digits there are.  `parse_int` does the same for an optional '-' and the bound `2^63 − 1`.
-/
theorem pax_number_exact_or_error (ds rest : Bytes) (hne : ds ≠ []) (hd : ∀ c ∈ ds, isDigit c = true)
    (hr : ∀ c, rest.head? = some c → isDigit c = false) :
    parseUint (ds ++ rest) = (if decVal ds < PARSE_UINT_BOUND then some (decVal ds, ds.length) else none) ∧
    parseInt (ds ++ rest) = (if decVal ds < 0x7FFFFFFFFFFFFFFF then some (decVal ds : Int) else none) ∧
    parseInt (45 :: (ds ++ rest)) = (if decVal ds < 0x7FFFFFFFFFFFFFFF then some (-(decVal ds : Int)) else none) := by
  have hu := parseUint_spec ds rest hne hd hr
  refine ⟨hu, ?_, ?_⟩
  · cases ds with
    | nil => exact absurd rfl hne
    | cons c t =>
      have hc : isDigit c = true := hd c (by simp)
      have h45 : c ≠ 45 := by intro h; subst h; revert hc; decide
      rw [List.cons_append] at hu ⊢
      rw [parseInt_pos c _ h45, hu]
      exact bound_narrows (fun v => (v : Int)) (by decide)
  · rw [parseInt_neg, hu]
    exact bound_narrows (fun v => -(v : Int)) (by decide)

/--
**LIBARCHIVE xattr names** (`urldecode`, `pax_xattr_libarchive`).  libarchive percent-encodes the bytes of an attribute name it
must escape (`esc`; at least the '%' itself) as `%XX` and writes the others literally.  For every NUL-free name and every such
choice of escaped bytes the reader's `urldecode` returns exactly the name — '=' (`%3D`), blanks, non-ASCII bytes, '%' included.
-/
theorem libarchive_key_roundtrip (esc : UInt8 → Bool) (h37 : esc 37 = true) (k : Bytes) (hk : ∀ x ∈ k, x ≠ 0) :
    cstr (urlDecode (urlEncode esc k)) = k := by
  rw [urlDecode_encode esc h37 k, cstr_clean k hk]

/--
**LIBARCHIVE xattr records** (`pax_xattr_libarchive`: `base64_decode` + `urldecode`).  `base64_decode` inverts RFC 4648 base64 — with
the '=' padding and without it (libarchive omits it) — for every byte string, of any length; hence the handler of a
`LIBARCHIVE.xattr.<percent-encoded name>=<base64 value>` record adds exactly the pair (name, value) to the member's attributes,
for every NUL-free name and every binary value.  (The record parser in front of the handler is `pax_record_spec`; the alternative
alphabet characters '-' / '_' and malformed input are exercised, not proved.)
-/
theorem libarchive_xattr_roundtrip (pc : PaxCfg) (out : Decoded) (esc : UInt8 → Bool) (h37 : esc 37 = true) (k v : Bytes)
    (hk : ∀ x ∈ k, x ≠ 0) :
    base64Decode (b64Encode v) = some v ∧ base64Decode (b64EncodeNoPad v) = some v ∧
    applyHandler pc out .libarchive (ascii "LIBARCHIVE.xattr." ++ urlEncode esc k) (b64Encode v) =
      some { out with xattr := if pc.keepOrder then out.xattr ++ [(k, v)] else (k, v) :: out.xattr } ∧
    applyHandler pc out .libarchive (ascii "LIBARCHIVE.xattr." ++ urlEncode esc k) (b64EncodeNoPad v) =
      some { out with xattr := if pc.keepOrder then out.xattr ++ [(k, v)] else (k, v) :: out.xattr } := by
  have hd : (ascii "LIBARCHIVE.xattr." ++ urlEncode esc k).drop 17 = urlEncode esc k := List.drop_left' (by decide)
  have hkey := libarchive_key_roundtrip esc h37 k hk
  refine ⟨base64Decode_encode v, base64Decode_encodeNoPad v, ?_, ?_⟩
  · simp only [applyHandler, base64Decode_encode, hd, hkey]
  · simp only [applyHandler, base64Decode_encodeNoPad, hd, hkey]

/--
**The PAX 0.1 sparse map parser** (`pax_sparse_map`, the `GNU.sparse.map` record).  For every non-empty list of pairs of decimal
numbers (each a non-empty digit string below the bound of `parse_uint`, leading zeros allowed) the value
`off,num,off,num,…` is parsed into exactly those pairs, in order — no pair lost, merged or reordered, for maps of any length.
(Malformed values — a missing number, a trailing comma, other characters — are refused; that part is exercised, not proved.)
-/
theorem pax_sparse_map_spec (l : List (Bytes × Bytes)) (hne : l ≠ []) (hd : ∀ p ∈ l, IsDec p.1 ∧ IsDec p.2) :
    paxSparseMap (renderMap l) = some (l.map fun p => (decVal p.1, decVal p.2)) := by
  unfold paxSparseMap
  have := sparseMapLoop_spec [] (fun c h => by cases h) l ((renderMap l).length + 1) [] hne (by simp) hd
  simpa using this

/-! ## sparse files (`iterator.c`) -/

/--
**Sparse expansion.**  For every non-empty well-formed map (ascending, non-overlapping, within the file size;
zero-length entries and adjacent regions allowed — every dialect delivers the map as such a list), every file
size and every archive stream holding at least the map's data bytes, reading the file stream to its end
* ends with EOF (not with "corrupted"),
* yields exactly the specified expansion: `file_size` bytes, zeros in the holes, the data regions' bytes in
  archive order at their offsets,
* consumes exactly `record_size` = Σ count bytes of the archive and leaves `record_size = 0`, so that `it_next`
  then skips exactly the padding to the next 512-byte boundary.
-/
theorem sparse_expand_spec (m : List (Nat × Nat)) (fileSize : Nat) (s : Bytes)
    (hne : m ≠ []) (hwf : WellFormedMap 0 m fileSize) (hs : dataBytes m ≤ s.length) (h64 : dataBytes m < U64) :
    expand m fileSize (dataBytes m) s =
      ⟨specExpand 0 m fileSize s, s.drop (dataBytes m), 0, .eof⟩ := by
  exact walk_wf_start (expandLoop_isWalk m fileSize) _ s hne hwf hs h64 (by omega)

/--
… and the same holds for the walk exactly as the C stream performs it for a caller that reads in calls of `want`
bytes (`sqfs_istream_read(…, want)` in the harness, `sqfs_istream_splice(…, block_size)` in tar2sqfs), for **every**
request size `want ≥ 1`: on a well-formed map the result does not depend on how the reads are split.
-/
theorem sparse_expand_spec_any_request_size (want : Nat) (hw : 1 ≤ want) (m : List (Nat × Nat)) (fileSize : Nat) (s : Bytes)
    (hne : m ≠ []) (hwf : WellFormedMap 0 m fileSize) (hs : dataBytes m ≤ s.length) (h64 : dataBytes m < U64) :
    expandC want m fileSize (dataBytes m) s =
      ⟨specExpand 0 m fileSize s, s.drop (dataBytes m), 0, .eof⟩ := by
  exact walk_wf_start (expandLoopC_isWalk m fileSize want hw) _ s hne hwf hs h64 (by omega)

/-- the specified expansion has exactly `file_size` bytes -/
theorem specExpand_length (m : List (Nat × Nat)) :
    ∀ (pos fileSize : Nat) (data : Bytes), WellFormedMap pos m fileSize → dataBytes m ≤ data.length →
      (specExpand pos m fileSize data).length = fileSize - pos := by
  induction m with
  | nil => intro pos F data h _; simp [specExpand, zeros]
  | cons e t ih =>
    obtain ⟨o, c⟩ := e
    intro pos F data h hd
    obtain ⟨h1, h2⟩ := h
    have hb := (wf_bounds (o + c) t F h2).1
    simp only [dataBytes] at hd
    simp only [specExpand, List.length_append, zeros, List.length_replicate, List.length_take]
    rw [ih (o + c) F (data.drop c) h2 (by simp; omega)]
    omega

/-! ## conversion steps of tar2sqfs (`process_tarball.c`, `fstree.c`) -/

/-- **mtime clamp**: every time stamp is brought into `[0, 2^32 − 1]`, values inside are unchanged. -/
theorem mtime_clamp (m : Int) :
    0 ≤ clampMtime m ∧ clampMtime m ≤ 4294967295 ∧ (0 ≤ m → m ≤ 4294967295 → clampMtime m = m) ∧
    (m < 0 → clampMtime m = 0) ∧ (m > 4294967295 → clampMtime m = 4294967295) := by
  unfold clampMtime
  simp only []
  refine ⟨?_, ?_, ?_, ?_, ?_⟩ <;> (intros; split_ifs <;> omega)

/-- what `process_tarball` hands to the tree is already clamped, so `mknode`'s `clamp_timestamp` and the unclamped
    copy in `fstree_add_generic`'s overwrite path (suspected defect D20) store the same value: D20 is
    unreachable from tar2sqfs -/
theorem mtime_overwrite_path_safe (m : Int) :
    ((clampMtime m % 4294967296).toNat = clampTimestamp (clampMtime m)) ∧
    (clampTimestamp (clampMtime m) : Int) = clampMtime m := by
  obtain ⟨h0, h1, _⟩ := mtime_clamp m
  unfold clampTimestamp
  have h2 : ¬ clampMtime m < 0 := by omega
  have h3 : ¬ clampMtime m > 0xFFFFFFFF := by omega
  simp only [h2, h3, if_false]
  constructor <;> omega

/-- **`--root-becomes` prefix strip**: an entry is kept exactly when its name is the root directory itself or lies
    below it; below it, the name loses exactly the prefix `root/`. -/
theorem prefix_strip (o : ConvOpts) (e : CEntry) (r : Bytes) (h : o.rootBecomes = some r) :
    (processEntry o e = .skip ↔ ¬ (e.name = r ∨ ∃ rest, e.name = r ++ Sqfs.Path.SL :: rest)) ∧
    (∀ e', processEntry o e = .node e' → r ++ Sqfs.Path.SL :: e'.name = e.name) ∧
    (∀ e', processEntry o e = .root e' → e.name = r) := by
  unfold processEntry
  rcases processEntryWith_rootBecomes retarget o e r h with ⟨hn, e1, he⟩ | ⟨rest, hn, e1, he, hr⟩ | ⟨⟨hn1, hn2⟩, he⟩ <;> rw [he]
  · exact ⟨⟨nofun, fun hno => absurd (Or.inl hn) hno⟩, nofun, fun _ _ => hn⟩
  · refine ⟨⟨nofun, fun hno => absurd (Or.inr ⟨rest, hn⟩) hno⟩, fun e' h' => ?_, nofun⟩
    cases h'; rw [hr, hn]
  · exact ⟨⟨fun _ hor => hor.elim hn1 (fun ⟨rest, h1⟩ => hn2 rest h1), fun _ => rfl⟩, nofun, nofun⟩

/-- **root handling** without `--root-becomes`: exactly the entry whose canonical name is empty ("./", "/", ".")
    sets the root's attributes; everything else becomes a node under its unchanged name. -/
theorem root_handling (o : ConvOpts) (e : CEntry) (h : o.rootBecomes = none) :
    (e.name = [] → ∃ e', processEntry o e = .root e' ∧ e'.name = [] ∧ e'.uid = e.uid ∧ e'.gid = e.gid ∧ e'.mode = e.mode) ∧
    (e.name ≠ [] → ∃ e', processEntry o e = .node e' ∧ e'.name = e.name ∧ e'.link = e.link) := by
  unfold processEntry processEntryWith
  simp only [h]
  constructor
  · intro hn
    simp only [hn, if_true]
    by_cases hk : o.keepTime = true
    · exact ⟨_, rfl, by simp [hk]⟩
    · exact ⟨_, rfl, by simp [hk]⟩
  · intro hn
    simp only [hn, if_false]
    by_cases hk : o.keepTime = true
    · exact ⟨_, rfl, by simp [hk]⟩
    · exact ⟨_, rfl, by simp [hk]⟩

/-- **implicit parents**: after a successful `fstree_add_generic` every proper prefix of the entry's path is a
    directory of the tree (created with the defaults when it did not exist), and no node was dropped. -/
theorem implicit_parents (o : ConvOpts) (t t' : List TNode) (e : CEntry) (h : addGeneric o t e = some t') :
    ∀ k, 0 < k → k < (Sqfs.Path.splitSlash e.name).length →
      ∃ n ∈ t', n.path = (Sqfs.Path.splitSlash e.name).take k ∧ isDirMode n.mode = true := by
  intro k h0 hk
  obtain ⟨t1, hp, hkeep⟩ := addGeneric_some o t t' e h
  obtain ⟨n, hn, hnp, hnd⟩ := (ensureParents_spec o _ t [] t1 hp).2 k h0 hk
  rw [List.nil_append] at hnp
  refine ⟨n, hkeep n hn ?_, hnp, hnd⟩
  -- a proper prefix is shorter than the path
  intro heq
  have := congrArg List.length (hnp.symm.trans heq)
  rw [List.length_take] at this; omega

/-- **`--root-becomes` link retarget** (repaired rule), safety and liveness: (1) a link target is either left exactly as
    it is, or — when its canonical form lies below the new root `r` — replaced by the part after `r` (which starts with
    '/'); (2) *whenever* the canonical form is `r` followed by `/rest`, the target **is** replaced by `/rest` (a function
    that never retargets does not satisfy this); (3) in every other case it is left untouched. -/
theorem retarget_spec (r l : Bytes) :
    (retarget r l = l ∨ ∃ rest, Sqfs.Path.canonicalize l = some (r ++ Sqfs.Path.SL :: rest) ∧ retarget r l = Sqfs.Path.SL :: rest) ∧
    (∀ rest, Sqfs.Path.canonicalize l = some (r ++ Sqfs.Path.SL :: rest) → retarget r l = Sqfs.Path.SL :: rest) ∧
    ((∀ rest, Sqfs.Path.canonicalize l ≠ some (r ++ Sqfs.Path.SL :: rest)) → retarget r l = l) := by
  have safety : retarget r l = l ∨
      ∃ rest, Sqfs.Path.canonicalize l = some (r ++ Sqfs.Path.SL :: rest) ∧ retarget r l = Sqfs.Path.SL :: rest := by
    unfold retarget
    cases hc : Sqfs.Path.canonicalize l with
    | none => exact Or.inl rfl
    | some c =>
      simp only
      by_cases h : c.take r.length = r ∧ (c.drop r.length).head? = some Sqfs.Path.SL
      · rw [if_pos h]
        obtain ⟨rest, hd⟩ := List.head?_eq_some_iff.1 h.2
        exact .inr ⟨rest, by rw [take_eq_split c r h.1, hd], hd⟩
      · rw [if_neg h]; exact Or.inl rfl
  refine ⟨safety, ?_, ?_⟩
  · intro rest hc
    unfold retarget
    rw [hc]
    simp only [List.take_left', List.drop_left', List.head?_cons, and_self, if_true]
  · intro hno
    rcases safety with h | ⟨rest, hc, _⟩
    · exact h
    · exact absurd hc (hno rest)

/-- instance of the liveness part: with `--root-becomes r` the hard-link target `r//y/./z` (canonical form `r/y/z`) becomes
    `/y/z`; a target outside `r` stays byte for byte what it was -/
example : retarget (ascii "r") (ascii "r//y/./z") = ascii "/y/z" ∧ retarget (ascii "r") (ascii "q//y") = ascii "q//y" :=
  ⟨(retarget_spec (ascii "r") (ascii "r//y/./z")).2.1 (ascii "y/z") (by decide),
   (retarget_spec (ascii "r") (ascii "q//y")).2.2 (by
      intro rest h
      have h2 : Sqfs.Path.canonicalize (ascii "q//y") = some (ascii "q/y") := by decide
      rw [h2] at h
      simp only [Option.some.injEq] at h
      have h3 : (ascii "r" ++ Sqfs.Path.SL :: rest).head? = some 114 := rfl
      have h4 : (ascii "q/y").head? = some 113 := by decide
      rw [← h, h4] at h3
      exact absurd h3 (by decide))⟩

/-! ## fix-point -/

/--
**Fix-point, entry level** (full strength).  Let `t` be the flat tree of an image (`FromImage`, `Sqfs/Spec/TarFix.lean`:
clean distinct paths, parents before children, 32-bit ids and times, links with targets, no sockets) and `t[i]` any of its
nodes.  Then

1. sqfs2tar writes a member for it (`write_tar_header` accepts the entry; for a regular file the data and padding follow);
2. wherever that member stands in an archive, tar2sqfs's iterator (`read_header`, `canonicalize_name`, the file stream read to
   its end) reports exactly the node: canonical name, mode, ids, time stamp, link target, the complete file content, the
   xattrs in stored order — and stands in front of whatever follows the member;
3. `process_tarball` (clamp, root handling, `fstree_add_generic`) applied to that report on the tree built from the nodes
   before it appends exactly `t[i]`: no implicit parent is created, nothing is overwritten, no attribute changes.
-/
theorem fixpoint_entry_level (img : ImgData) (t : List TNode) (h : FromImage img t) (i : Nat) (hi : i < t.length)
    (counter : Nat) (rest : Bytes) (devs : List (List Bytes × Nat × Nat)) :
    ∃ b, entryBytes img t[i] counter = some b ∧
      (∃ x s1 k1, IterEntry.view x = viewOf img t[i] ∧ istreamSkip s1 k1 = some rest ∧
        ∀ f s0 k acc, istreamSkip s0 k = some (b ++ rest) →
          iterLoop {} 512 (f + 1) s0 k acc = iterLoop {} 512 f s1 k1 (acc ++ [x])) ∧
      (∀ x, IterEntry.view x = viewOf img t[i] →
        convStep processEntry {} (some (t.take i, devs)) x =
          some (t.take (i + 1), devs ++ [(t[i].path, (viewOf img t[i]).devMajor, (viewOf img t[i]).devMinor)])) := by
  have hn := h.nodes t[i] (List.getElem_mem hi)
  obtain ⟨b, hb, _, hread⟩ := iterLoop_node img t[i] counter 512 (by omega) hn
  refine ⟨b, hb, hread rest, ?_⟩
  intro x hx
  rw [List.take_succ_eq_append_getElem hi]
  exact convStep_node img t[i] (t.take i) devs x hx hn (h.new_at i hi) (h.parents_at i hi)

/--
**Fix-point, tree level**: `tar2sqfs ∘ sqfs2tar` is the identity on the trees of images.  For every `FromImage` tree the
archive sqfs2tar writes (all members, then `terminate_archive`) is read by tar2sqfs's iterator as exactly the image's nodes
with their contents and xattrs, then end of archive; and converting it rebuilds exactly the tree (same nodes, same order, same
device numbers).  Hence converting once more changes nothing (`fixpoint_idempotent`).

Byte-exactness of the *image* (`sha256(img2) = sha256(img3)`) additionally needs that the serializer is a function of this
tree and of the file contents (C01 `serialize`, C02 determinism of the block processor) and the hard-link resolution (C07);
those are separate properties and are not composed here — the byte-level statement stays decided by execution
(`c04_tools` sub-check C).
-/
theorem fixpoint_tree_level (img : ImgData) (t : List TNode) (h : FromImage img t) :
    tar2sqfsTree {} (sqfs2tar img t) = some (t, devsOf img t) ∧
    ∃ es, iterate (sqfs2tar img t) = (es, .eof) ∧ es.map IterEntry.view = t.map (viewOf img) := by
  obtain ⟨es, hit, hv⟩ := iterate_sqfs2tar img t h.nodes
  refine ⟨?_, es, hit, hv⟩
  unfold tar2sqfsTree
  rw [hit]
  simp only [ne_eq, not_true_eq_false, if_false]
  exact convert_fromImage img t h es hv

/-- … and therefore the conversion is idempotent on trees: whatever tree the first round produced, a second round
    (`img → tar → img2 → tar → img3`) reproduces it -/
theorem fixpoint_idempotent (img : ImgData) (t t2 : List TNode) (d2 : List (List Bytes × Nat × Nat)) (h : FromImage img t)
    (h2 : tar2sqfsTree {} (sqfs2tar img t) = some (t2, d2)) :
    t2 = t ∧ tar2sqfsTree {} (sqfs2tar img t2) = some (t2, d2) := by
  have h1 := (fixpoint_tree_level img t h).1
  rw [h1] at h2
  obtain ⟨rfl, rfl⟩ := Prod.mk.inj (Option.some.inj h2)
  exact ⟨rfl, h1⟩

/-! ## archives that end inside a member (`sqfs_istream_skip`, /repo 1ef571c) -/

/--
**A cut inside an extension record's padding or inside skipped data is an error, never a clean end.**  For every stream:
(1) `record_to_memory` (GNU 'L'/'K' and PAX 'x' payloads) fails unless the payload *and* its padding to the next 512-byte
boundary are there; (2) the directory iterator's `next` fails — it does not report the end of the archive — when fewer bytes are
left than the rest of the previous member's record and padding that it has to skip (a member whose data or padding is cut, an
unknown record that is cut), whatever the bytes are and however many entries were delivered before.
-/
theorem cut_record_is_error (s : Bytes) (size : Nat) (cfg : ReadCfg) (want f skip : Nat) (acc : List IterEntry) :
    (s.length < size + padding size → recordToMemory s size = none) ∧
    (s.length < skip → iterLoop cfg want (f + 1) s skip acc = (acc, .err)) := by
  constructor
  · intro h
    unfold recordToMemory istreamSkip
    by_cases h1 : s.length < size
    · rw [if_pos h1]
    · rw [if_neg h1]
      have : (s.drop size).length < padding size := by rw [List.length_drop]; omega
      rw [if_pos this]
  · intro h
    exact iterLoop_cut cfg want f s skip acc (if_pos h)

/-! ## sqfs2tar with its options (`lib/sqfs/src/io/dir_hl.c` on top of `bin/sqfs2tar/src/iterator.c`) -/

/--
**Hard links before and after their targets.**  Let `es` be the entries sqfs2tar's iterator hands out (names as emitted: after the
`--subdir` strip and the `--root-becomes` prefix) and `hlFilter [] es` what the hard-link filter makes of them.  Entry by entry:
a directory passes unchanged; any other entry is reported as a hard link exactly when an *earlier* non-directory entry has the same
inode reference, and then it points to the emitted name of the **first** such entry (mode `S_IFLNK | 0777`, flag set, no xattrs,
no data) — otherwise it passes unchanged (and is the target of every later name of its inode).  Which name of an inode is the
"file" and which are links therefore depends only on the order of the directory listing, never on the order of the members of
the archive the image was made from.  This is the fact `NodeOK.hardTarget` (`Spec/TarFix.lean`) builds on; the model function
is compared with the real filter on every run (`s2tents` / `s2t`, generated images with links before and after their targets).
-/
theorem hardlink_filter_spec (es : List RawEnt) (i : Nat) (hi : i < es.length) :
    (hlFilter [] es).length = es.length ∧
    (hlFilter [] es)[i]'(by rw [hlFilter_length]; exact hi) =
      if fmt es[i].mode = S_IFDIR then es[i]
      else hlMark es[i] ((linkable (es.take i)).find? (·.1 = es[i].inode)) := by
  refine ⟨hlFilter_length [] es, ?_⟩
  have := hlFilter_getElem es [] i hi
  simpa using this

/--
**`sqfs2tar --subdir`** (`keep_entry`, bin/sqfs2tar/src/iterator.c).  For one `--subdir` argument `p` an entry is kept exactly when
it is `p` itself, an ancestor directory of `p`, or lies below `p` — where "below" means that the name continues with a '/' after
`p`: a sibling whose name merely *starts* with `p` (`d.y`, `dx` next to `d`) is not selected.  (With several arguments an entry is
kept when one of them keeps it: `keepEntry` is the disjunction.)  The model function is compared with the real tool on every run
on images that contain such siblings.
-/
theorem subdir_selection_spec (p name : Bytes) :
    (keepFor p name = true ↔ name = p ∨ isBelow name p = true ∨ isBelow p name = true) ∧
    (isBelow p name = true ↔ p.length < name.length ∧ name[p.length]? = some Sqfs.Path.SL ∧ name.take p.length = p) := by
  refine ⟨keepFor_iff p name, ?_⟩
  simp [isBelow]

/--
**Fix-point behind sqfs2tar's options.**  Whatever `--subdir` / `--keep-as-dir` / `--root-becomes` / `--no-hard-links` options
sqfs2tar is given (without `--no-skip`): the bytes it writes — `sqfs2tarFull`, the function that is compared with the real tool's
standard output on every run — are `sqfs2tar` applied to the entries that survive the selection, under their emitted names, with
the hard links the filter finds *among them*; and whenever those entries form a tree (`FromImage`: parents emitted before their
children — i.e. the new root is a single directory or absent —, no sockets), tar2sqfs on these bytes rebuilds exactly that tree:
every emitted entry, nothing else, same order, link targets as emitted.
-/
theorem fixpoint_sqfs2tar_options (o : S2tOpts) (root : RootInfo) (raw : List RawEnt) (hs : o.dontSkip = false)
    (h : FromImage (imgOfEnts (s2tEntries o root raw)) ((s2tEntries o root raw).map nodeOfEnt)) :
    sqfs2tarFull o root raw = some (sqfs2tar (imgOfEnts (s2tEntries o root raw)) ((s2tEntries o root raw).map nodeOfEnt)) ∧
    tar2sqfsTree {} (sqfs2tar (imgOfEnts (s2tEntries o root raw)) ((s2tEntries o root raw).map nodeOfEnt)) =
      some ((s2tEntries o root raw).map nodeOfEnt,
            devsOf (imgOfEnts (s2tEntries o root raw)) ((s2tEntries o root raw).map nodeOfEnt)) := by
  refine ⟨?_, (fixpoint_tree_level _ _ h).1⟩
  simp [sqfs2tarFull, hs]

/-! ### layout facts the models rely on, re-checked against `include/tar/format.h` on every run
(`Sqfs/Generated/Consts.lean` is regenerated from the working tree; a changed offset or width breaks this build) -/
section layout
open Sqfs.Consts
example : tarSizeofHeader = 512 ∧ tarRecordSize = 512 := by decide
example : tarOffName = 0 ∧ tarSizeofName = 100 ∧ tarOffMode = 100 ∧ tarOffUid = 108 ∧ tarOffGid = 116 ∧ tarOffSize = 124 ∧
    tarOffMtime = 136 ∧ tarOffChksum = 148 ∧ tarSizeofChksum = 8 ∧ tarOffTypeflag = 156 ∧ tarOffLinkname = 157 ∧
    tarSizeofLinkname = 100 ∧ tarOffMagic = 257 ∧ tarOffVersion = 263 ∧ tarOffUname = 265 ∧ tarOffGname = 297 ∧
    tarOffDevmajor = 329 ∧ tarOffDevminor = 337 ∧ tarOffPrefix = 345 ∧ tarSizeofPrefix = 155 ∧ tarSizeofNum8 = 8 ∧
    tarSizeofNum12 = 12 := by decide
example : tarOffGnuSparse = 386 ∧ tarSizeofOldSparse = 24 ∧ tarOffGnuIsExtended = 482 ∧ tarOffGnuRealsize = 483 ∧
    tarSizeofOldSparseRecord = 512 ∧ tarOffOldSparseRecIsExtended = 504 := by decide
example : tarMaxSymlinkLen = 65536 ∧ tarMaxPathLen = 65536 ∧ tarMaxPaxLen = 65536 ∧ tarMaxSparseEnt = 65536 := by decide
set_option maxRecDepth 100000 in
/-- the model's raw header has the struct's size -/
example : (rawHeader (field 100 []) 0 0 0 0 0 48 (zeros 100) 0 0).length = tarSizeofHeader :=
  rawHeader_length _ _ _ _ _ _ _ _ _ _ (field_length _ _) (zeros_length _)
end layout

/-! ### non-vacuity -/
example : WellFormedMap 0 [(0, 3), (3, 0), (512, 2), (1000, 0)] 1000 := by simp [WellFormedMap]
example : (expand [(2, 3), (8, 2)] 12 5 [1, 2, 3, 4, 5, 9, 9]).out = [0, 0, 1, 2, 3, 0, 0, 0, 4, 5, 0, 0] := by decide
example : prefixDigitLen 9 = 2 ∧ prefixDigitLen 98 = 3 ∧ prefixDigitLen 9996 = 5 := by decide
example : clampMtime (-5) = 0 ∧ clampMtime 8589934592 = 4294967295 := by decide
example : processEntry { rootBecomes := some (ascii "r") } ⟨ascii "r/x", 0o100644, 0, 0, 0, false, none, 0, 0⟩
    = .node ⟨ascii "x", 0o100644, 0, 0, 0, false, none, 0, 0⟩ := by decide

example : readNumber (writeNumber 420 8) = some 420 := by decide
example : writeNumber 2097152 8 = [49, 48, 48, 48, 48, 48, 48, 48] := by decide      -- 8 digits, no terminator
example : writeNumber 16777216 8 = [128, 0, 0, 0, 1, 0, 0, 0] := by decide           -- base-256
example : (readNumber (writeNumberSigned (-1) 12)).map toSigned = some (-1) := by decide
example : writeNumberSigned (-1) 12 = [128, 0, 0, 0, 255, 255, 255, 255, 255, 255, 255, 255] := by decide
/-- GNU tar's encoding of −1 is read as −1 too -/
example : (readNumber (List.replicate 12 255)).map toSigned = some (-1) := by decide
/-- the width-8 restriction of `number_roundtrip` is sharp: `0x7F·2^56` does not survive an 8-byte field -/
example : readNumber (writeNumber (127 * 2 ^ 56) 8) = some (255 * 2 ^ 56) := by decide

/-! #### header round trip: the hypotheses are satisfiable, and the theorem applied to a concrete entry
(name of exactly 100 bytes → GNU 'L' record; uid needing base-256, gid needing 8 unterminated octal digits, negative mtime;
two xattrs, one with '=' and '%' in the key and NUL, '=', newline, 0xFF in the value) -/

set_option maxRecDepth 100000 in
example : Encodable exEntry none exXs := exEntry_encodable

set_option maxRecDepth 1000000 in
set_option maxHeartbeats 2000000 in
example : (writeTarHeader exEntry none exXs 7).map (fun w => match readHeader (w ++ [1, 2, 3]) with
    | .ok d r => decide (d = decodedOf exEntry none exXs.reverse ∧ r = [1, 2, 3])
    | _ => false) = some true := by
  cases hw : writeTarHeader exEntry none exXs 7 with
  | none => exact absurd rfl ((header_refusal exEntry none exXs 7).1.1 hw).2.1
  | some w => simp [header_roundtrip exEntry none exXs 7 [1, 2, 3] w exEntry_encodable hw]

/-- a socket is refused, nothing is written -/
example : writeTarHeader ⟨ascii "s", 0o140755, 0, 0, 0, 0, 0, 0, false⟩ none [(ascii "user.x", [1])] 0 = none := by decide

/-! #### fix-point: a concrete `FromImage` tree (`Sqfs/Proofs/TarFixExample.lean`: directory, file with content and two xattrs,
symlink, device, hard link), and `fixpoint_tree_level` applied to it -/

set_option maxRecDepth 100000 in
example : FromImage exImg exTree := exTree_fromImage

set_option maxRecDepth 1000000 in
set_option maxHeartbeats 4000000 in
example : tar2sqfsTree {} (sqfs2tar exImg exTree) = some (exTree, devsOf exImg exTree) :=
  (fixpoint_tree_level exImg exTree exTree_fromImage).1

/-! #### `fixpoint_sqfs2tar_options`: a listing with a directory that is not selected, a sibling whose name extends the selected
directory's name, and two names of one inode below the selected directory; `--subdir d --root-becomes r` -/
abbrev exRaw : List RawEnt :=
  [ ⟨ascii "d", 0o040755, 0, 0, 7, 1, none, [], [], 0, 0, false⟩,
    ⟨ascii "d/a", 0o100644, 1000, 1000, 8, 2, none, [104, 105], [(ascii "user.k", [1])], 0, 0, false⟩,
    ⟨ascii "d/b", 0o100644, 1000, 1000, 8, 2, none, [104, 105], [(ascii "user.k", [1])], 0, 0, false⟩,
    ⟨ascii "d.y", 0o100600, 0, 0, 9, 3, none, [1], [], 0, 0, false⟩,
    ⟨ascii "dx", 0o040700, 0, 0, 9, 4, none, [], [], 0, 0, false⟩,
    ⟨ascii "dx/g", 0o100600, 0, 0, 9, 5, none, [2], [], 0, 0, false⟩ ]
abbrev exOpts : S2tOpts := { subdirs := [ascii "d"], rootBecomes := some (ascii "r") }

set_option maxRecDepth 100000 in
example : (s2tEntries exOpts {} exRaw).map (fun e => (e.name, e.hardLink, e.target)) =
    [(ascii "r", false, none), (ascii "r/a", false, none), (ascii "r/b", true, some (ascii "r/a"))] := by decide +kernel

abbrev exTree2 : List TNode :=
  [⟨[ascii "r"], 0o040755, 0, 0, 0, false, false, none⟩, ⟨[ascii "r", ascii "a"], 0o100644, 1000, 1000, 8, false, false, none⟩,
   ⟨[ascii "r", ascii "b"], 0o120777, 1000, 1000, 8, false, true, some (ascii "r/a")⟩]

set_option maxRecDepth 1000000 in
example : FromImage (imgOfEnts (s2tEntries exOpts {} exRaw)) ((s2tEntries exOpts {} exRaw).map nodeOfEnt) := by
  have he : (s2tEntries exOpts {} exRaw).map nodeOfEnt = exTree2 := by decide +kernel
  rw [he]
  exact fromImage_of_checks (by decide) (by decide) (by decide)

/-! #### foreign dialects: a POSIX ustar block with a `prefix` (a dialect the own writer never produces), a GNU 'L' record
header, a PAX `path` record -/
set_option maxRecDepth 1000000 in
example : posixBlock.length = 512 ∧ isZeroBlock posixBlock = false ∧ checkVersion posixBlock = some .posix ∧
    isChecksumValid posixBlock = true ∧ (slice posixBlock 156 1).headD 0 = 48 := posixBlock_eval.1

set_option maxRecDepth 1000000 in
/-- `checksum_roundtrip` applied to the POSIX block (512 bytes) -/
example := checksum_roundtrip posixBlock posixBlock_eval.1.1

set_option maxRecDepth 1000000 in
/-- `read_header_after_records` applied to the POSIX block with every hypothesis discharged: a preceding PAX record has set
the name (`PAX_NAME`, "n"); fuel 3 + 1, two bytes follow the block -/
example :=
  have pb := posixBlock_eval.1
  read_header_after_records {} 3 posixBlock [9, 9] false .posix PAX_NAME { name := some (ascii "n") } pb.1 pb.2.1 pb.2.2.1
    pb.2.2.2.1 (by rw [pb.2.2.2.2]; decide) rfl (by decide)

set_option maxRecDepth 1000000 in
example : (specDecode posixBlock 0 {} .posix).map (fun d => (d.name, d.mode, d.uid, d.gid, d.recordSize, d.mtime)) =
    some (some (ascii "some/dir/file"), 0o100644, 1000, 100, 5, 1542905892) := posixBlock_eval.2

example : IsHdr (hdrBlock (field 100 ((ascii "././@LongLink").take 99)) 0o644 0 0 (ascii "a/long/name").length 0 76 (zeros 100) 0 0) 76
    (ascii "a/long/name").length :=
  ext_isHdr ⟨[], 0, 0, 0, 0, 0, 0, 0, false⟩ (ascii "a/long/name") 76 (ascii "././@LongLink") (by decide)

example : (paxRecord (ascii "path") (ascii "x/y")) = ascii "12 path=x/y\n" := by decide
-- `pax_number_exact_or_error`: the largest accepted value, the smallest refused one, a fractional mtime, leading zeros
example : parseUint (ascii "18446744073709551609") = some (18446744073709551609, 20) ∧ parseUint (ascii "18446744073709551610") = none ∧
    parseInt (ascii "1542905892.5") = some 1542905892 ∧ parseInt (ascii "-000000000000000000000000017,") = some (-17) := by decide +kernel
-- `libarchive_xattr_roundtrip`: the encoders are base64 ("ABC" -> "QUJD", "AB" -> "QUI=" / "QUI")
example : b64Encode (ascii "ABC") = ascii "QUJD" ∧ b64Encode (ascii "AB") = ascii "QUI=" ∧ b64EncodeNoPad (ascii "AB") = ascii "QUI" ∧
    b64Encode [0xfb, 0xff] = ascii "+/8=" := by decide
-- `libarchive_key_roundtrip`: '=' and '%' escaped, the rest literal
example : urlEncode (fun c => c = 37 || c = 61) (ascii "user.a=b%") = ascii "user.a%3Db%25" ∧
    urlDecode (ascii "user.a%3Db%25") = ascii "user.a=b%" := by decide
-- `pax_sparse_map_spec`: the hypotheses hold for a real map, and `renderMap` is the record's syntax
example : renderMap [(ascii "10", ascii "3"), (ascii "020", ascii "2")] = ascii "10,3,020,2" ∧ IsDec (ascii "020") ∧ decVal (ascii "020") = 20 := by
  refine ⟨by decide, ⟨by decide, by decide, by decide⟩, by decide⟩
-- `subdir_selection_spec`: `a/d` selects its ancestor `a` and `a/d/x`, but neither `a/dx` nor `a/d.y` nor `b`
example : keepFor (ascii "a/d") (ascii "a") = true ∧ keepFor (ascii "a/d") (ascii "a/d/x") = true ∧ keepFor (ascii "a/d") (ascii "a/dx") = false ∧
    keepFor (ascii "a/d") (ascii "a/d.y") = false ∧ keepFor (ascii "a/d") (ascii "b") = false := by decide
-- `hardlink_filter_spec` on a listing with a directory, three names of inode 7 and one other file: the first name in listing
-- order stays a file, the later ones point to it
set_option maxRecDepth 100000 in
example : (hlFilter [] [⟨ascii "d", S_IFDIR + 0o755, 0, 0, 0, 7, none, [], [], 0, 0, false⟩,
      ⟨ascii "d/a", S_IFREG + 0o644, 0, 0, 0, 7, none, [1], [], 0, 0, false⟩, ⟨ascii "d/b", S_IFREG + 0o644, 0, 0, 0, 8, none, [], [], 0, 0, false⟩,
      ⟨ascii "e", S_IFREG + 0o644, 0, 0, 0, 7, none, [1], [], 0, 0, false⟩]).map (fun e => (e.name, e.hardLink, e.target)) =
    [(ascii "d", false, none), (ascii "d/a", false, none), (ascii "d/b", false, none), (ascii "e", true, some (ascii "d/a"))] := by decide
-- `pax_sparse_map_replaces`: its hypothesis holds for a real map; and the whole parser on numbytes, map, numbytes in one PAX header
-- (the input of /repo 56b164f): the record that comes last determines the map
example : paxSparseMap (cstr (ascii "10,3,20,2")) = some [(10, 3), (20, 2)] := by decide
set_option maxRecDepth 1000000 in
example : (readPaxHeader {} (paxRecord (ascii "GNU.sparse.offset") (ascii "1") ++ paxRecord (ascii "GNU.sparse.numbytes") (ascii "2") ++
      paxRecord (ascii "GNU.sparse.map") (ascii "10,3,20,2") ++ paxRecord (ascii "GNU.sparse.offset") (ascii "50") ++
      paxRecord (ascii "GNU.sparse.numbytes") (ascii "4")) {} 0).map (·.1.sparse) = some [(50, 4)] := by decide +kernel
-- `cut_record_is_error`, first part: a stream that ends one byte short of an extension record's padding (since /repo 1ef571c: error),
-- and one that holds all of it
set_option maxRecDepth 1000000 in
example : recordToMemory ([1, 2, 3] ++ zeros 508) 3 = none ∧ (recordToMemory ([1, 2, 3] ++ zeros 509 ++ [7]) 3).map (·.2) = some [7] := by
  decide +kernel

/-- `implicit_parents`: its hypothesis is satisfiable (two directories are created implicitly) -/
example : (addGeneric {} [] ⟨ascii "a/b/c", 0o100644, 0, 0, 0, false, none, 0, 0⟩).map (fun t => t.map (·.path)) =
    some [[ascii "a"], [ascii "a", ascii "b"], [ascii "a", ascii "b", ascii "c"]] := by decide

end Sqfs.C04
