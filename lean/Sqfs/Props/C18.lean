/-
C18 — Path canonicalisation yields a clean relative path or refuses, for all strings.

Property theorems only (helpers are in `Sqfs/Proofs/Path.lean` and `Sqfs/Proofs/C18InPlace.lean`).  Every theorem
quantifies over *all* byte strings `s` (a C string = its bytes before the NUL;
the statements about the functional models need no NUL-freeness hypothesis because
neither function looks at any byte value other than '/' and '.'; the three in-place
theorems — `canon_inplace_memory`, `norm_inplace_memory`, `canon_inplace_eq_model` —
are about the byte array `s ++ [0] ++ tail` and do assume `0 ∉ s`, which is what
"`s` is the C string in that array" means).
-/
import Sqfs.Proofs.Path
import Sqfs.Proofs.C18InPlace
namespace Sqfs.C18
open Sqfs.Path

/-- The model of `canonicalize_name` computes the component-level specification. -/
theorem canon_eq_spec (s : Bytes) : canonicalize s = specCanon s := by
  unfold canonicalize specCanon
  have hmem : ([DOT, DOT] : Bytes) ∈ (splitSlash s).filter isNE ↔ [DOT, DOT] ∈ splitSlash s := by
    rw [List.mem_filter, and_iff_left (show isNE [DOT, DOT] = true from rfl)]
  rw [normalizeSlashes_eq s, canonGo_join _ (norm_filter_split s), List.filter_filter,
    show (fun c => notDot c && isNE c) = keep from funext fun c => Bool.and_comm ..]
  simp only [hmem]

/-- fails exactly when some component is ".." -/
theorem canon_fails_iff_dotdot (s : Bytes) :
    canonicalize s = none ↔ [DOT, DOT] ∈ splitSlash s := by
  rw [canon_eq_spec]; unfold specCanon; simp

/-- the kept components: neither empty, "." nor ".." -/
def CleanComp (c : Bytes) : Prop := c ≠ [] ∧ c ≠ [DOT] ∧ c ≠ [DOT, DOT] ∧ SL ∉ c

/--
On success the result is the '/'-join of the input's components other than ""
and ".", in their original order ("names the same entry"), and it is *clean*:
either empty, or every one of its own components is non-empty (so there is no
leading, trailing or doubled slash), not "." and not "..".
-/
theorem canon_same_entry_and_clean (s r : Bytes) (h : canonicalize s = some r) :
    r = joinSlash ((splitSlash s).filter keep) ∧
    (r = [] ∨ (splitSlash r = (splitSlash s).filter keep ∧ ∀ c ∈ splitSlash r, CleanComp c)) := by
  rw [canon_eq_spec] at h
  unfold specCanon at h
  by_cases hdd : ([DOT, DOT] : Bytes) ∈ splitSlash s
  · simp [hdd] at h
  · simp only [hdd, if_false, Option.some.injEq] at h
    subst h
    refine ⟨rfl, ?_⟩
    have hall : ∀ c ∈ (splitSlash s).filter keep, CleanComp c := by
      intro c hc
      obtain ⟨h1, h2⟩ := List.mem_filter.1 hc
      refine ⟨(keep_iff.1 h2).1, (keep_iff.1 h2).2, ?_, (splitSlash_spec s).1 c h1⟩
      intro e; subst e; exact hdd h1
    by_cases hnil : (splitSlash s).filter keep = []
    · left; simp [hnil, joinSlash]
    · right
      have hsp := splitSlash_joinSlash _ hnil (fun c hc => (hall c hc).2.2.2)
      rw [hsp]
      exact ⟨rfl, hall⟩

/-- never grows the string -/
theorem canon_length_le (s r : Bytes) (h : canonicalize s = some r) : r.length ≤ s.length :=
  (canonicalize_sublist h).length_le

/-- the file-name sanity test accepts a name exactly when it is neither ".", ".." nor contains a slash -/
theorem sane_iff (n : Bytes) :
    isFilenameSane n = true ↔ (n ≠ [DOT] ∧ n ≠ [DOT, DOT] ∧ SL ∉ n) := by
  unfold isFilenameSane
  by_cases h1 : n = [DOT]
  · simp [h1]
  · by_cases h2 : n = [DOT, DOT]
    · simp [h2]
    · simp [h1, h2]

/-- the slash normaliser never emits more than it has consumed (in-place faithfulness, pass 1 and 3) -/
theorem norm_dst_le_src (st p : Bool) (s : Bytes) :
    (normGo st p s).length ≤ s.length + (if st && p then 1 else 0) := by
  have := (normGo_sublist st p s).length_le
  cases st <;> cases p <;> simpa using this

/-- the main loop never emits more than it has consumed (in-place faithfulness, pass 2) -/
theorem canon_dst_le_src (b : Bool) (s r : Bytes) (h : canonGo b s = some r) : r.length ≤ s.length :=
  (canonGo_sublist b h).length_le

/-! ### in-place faithfulness

The two lemmas above bound the totals only.  The theorems below remove the modelling
assumption altogether: `Sqfs.PathIP` (Model/C18InPlace.lean) executes the C statements
of `canonicalize_name.c` on *one* byte array with a read and a write cursor, every
access bounds-checked; they show that this run never leaves the array, returns -1
exactly when the functional model `canonicalize` fails, and otherwise leaves exactly
the functional model's result (then a NUL) in the array - for every NUL-free string
and whatever follows it in memory. -/

open Sqfs.PathIP in
/--
**Memory-level statement.**  The array holds `s`, a NUL, then arbitrary bytes `tl`.
With any fuel above `s.length + 1` the in-place run terminates inside the array and
* returns -1 iff `canonicalize s = none`;
* otherwise the array afterwards is `r ++ [0] ++ junk ++ tl` with `canonicalize s = some r`:
  the result, its terminator, `junk` = what is left of the old contents, and the
  bytes behind the old terminator untouched (the function writes only into the
  string's own `s.length + 1` bytes).
-/
theorem canon_inplace_memory (s : Bytes) (hs : (0 : UInt8) ∉ s) (tl : Mem) (fuel : Nat) (hf : s.length + 1 < fuel) :
    (canonicalize s = none → canonicalizeIP fuel (s ++ 0 :: tl) = some Result.fail) ∧
    (∀ r, canonicalize s = some r → ∃ junk : Mem,
      canonicalizeIP fuel (s ++ 0 :: tl) = some (Result.ok (r ++ 0 :: (junk ++ tl))) ∧
      r.length + junk.length = s.length) :=
  canonicalizeIP_spec s hs tl fuel hf

open Sqfs.PathIP in
/--
`normalize_slashes` on its own (passes 1 and 3), at memory level: on the array `s`, NUL, `tl` the in-place run
stays inside the array and leaves `normalizeSlashes s`, a NUL, leftovers, and `tl` untouched.
-/
theorem norm_inplace_memory (s : Bytes) (hs : (0 : UInt8) ∉ s) (tl : Mem) (fuel : Nat) (hf : s.length + 1 < fuel) :
    ∃ junk : Mem, normalizeIP fuel (s ++ 0 :: tl) = some (normalizeSlashes s ++ 0 :: (junk ++ tl)) ∧
      (normalizeSlashes s).length + junk.length = s.length :=
  normalizeIP_spec s hs tl fuel hf

open Sqfs.PathIP in
/-- **The in-place function is the functional model** (array = the string and its terminator, as in the harness). -/
theorem canon_inplace_eq_model (s : Bytes) (hs : (0 : UInt8) ∉ s) : canonInPlace s = some (canonicalize s) := by
  have h := canon_inplace_memory s hs [] (s.length + 1 + 2) (Nat.lt_add_of_pos_right (by decide))
  have hfuel : (s ++ [0]).length + 2 = s.length + 1 + 2 := by simp
  unfold canonInPlace
  simp only [hfuel]
  cases hc : canonicalize s with
  | none => simp [h.1 hc]
  | some r =>
    obtain ⟨junk, hrun, _⟩ := h.2 r hc
    have hcs : cstr (r ++ 0 :: (junk ++ [])) = some r := cstr_append (canonicalize_nulFree hs hc) _
    simp only [hrun, hcs, Option.map_some]

/-- **Relative, no stray slash**: a result of `canonicalize_name` does not begin with a slash (it is a relative path),
does not end with one and has no doubled slash — stated on the bytes, not on the component list. -/
theorem canon_no_stray_slash (s r : Bytes) (h : canonicalize s = some r) :
    (∀ t, r ≠ SL :: t) ∧ (∀ t, r ≠ t ++ [SL]) ∧ (∀ a b, r ≠ a ++ SL :: SL :: b) := by
  obtain ⟨_, hclean⟩ := canon_same_entry_and_clean s r h
  rcases hclean with rfl | ⟨_, hall⟩
  · simp
  · have hno : ([] : Bytes) ∉ splitSlash r := fun m => (hall _ m).1 rfl
    refine ⟨?_, ?_, ?_⟩
    · intro t ht; subst ht; exact hno (by rw [splitSlash_slash]; exact List.mem_cons_self ..)
    · intro t ht; subst ht; apply hno; rw [splitSlash_at_slash]; simp [splitSlash]
    · intro a b ht; subst ht; apply hno; rw [splitSlash_at_slash, splitSlash_slash]; simp

/-- **Every component of an accepted path is a name the file-name test accepts**: what `canonicalize_name` lets
through consists of names `is_filename_sane` lets through — the packers' path check and the readers' name check agree. -/
theorem canon_components_sane (s r : Bytes) (h : canonicalize s = some r) (hr : r ≠ []) :
    ∀ c ∈ splitSlash r, c ≠ [] ∧ isFilenameSane c = true := by
  obtain ⟨_, hclean⟩ := canon_same_entry_and_clean s r h
  rcases hclean with rfl | ⟨_, hall⟩
  · exact absurd rfl hr
  · intro c hc
    obtain ⟨h1, h2, h3, h4⟩ := hall c hc
    exact ⟨h1, (sane_iff c).2 ⟨h2, h3, h4⟩⟩

/-- … and conversely a non-empty sane name is a path `canonicalize_name` returns unchanged. -/
theorem sane_name_is_fixed (n : Bytes) (hne : n ≠ []) (hs : isFilenameSane n = true) : canonicalize n = some n := by
  obtain ⟨h2, h3, h4⟩ := (sane_iff n).1 hs
  rw [canon_eq_spec]
  refine specCanon_of_clean fun c hc => ?_
  rw [splitSlash_slashFree h4, List.mem_singleton] at hc
  subst hc
  exact ⟨hne, h2, h3⟩

/-- **Fixed points are exactly the clean paths**: `canonicalize_name` returns its argument unchanged iff the argument
is empty or all its components are non-empty, not "." and not "..". -/
theorem canon_fixed_iff_clean (s : Bytes) :
    canonicalize s = some s ↔ (s = [] ∨ ∀ c ∈ splitSlash s, CleanComp c) := by
  constructor
  · intro h
    obtain ⟨_, hclean⟩ := canon_same_entry_and_clean s s h
    rcases hclean with h0 | ⟨_, hall⟩
    · exact Or.inl h0
    · exact Or.inr hall
  · rintro (rfl | hall)
    · decide
    · rw [canon_eq_spec]
      exact specCanon_of_clean fun c hc => ⟨(hall c hc).1, (hall c hc).2.1, (hall c hc).2.2.1⟩

/-- idempotent: a result is a fixed point -/
theorem canon_idempotent (s r : Bytes) (h : canonicalize s = some r) : canonicalize r = some r :=
  (canon_fixed_iff_clean r).2 ((canon_same_entry_and_clean s r h).2.imp_right And.right)

/-- **Canonicalisation only deletes bytes**: the result is a subsequence of the input — no byte is invented,
reordered or changed (so in particular a NUL-free, or valid-UTF-8-continuation-free, … input stays so). -/
theorem canon_sublist (s r : Bytes) (h : canonicalize s = some r) : r.Sublist s :=
  canonicalize_sublist h

/-- the component-level counterpart: the kept components are a sub-list of the input's components, in order -/
theorem canon_components_sublist (s r : Bytes) (h : canonicalize s = some r) (hr : r ≠ []) :
    (splitSlash r).Sublist (splitSlash s) := by
  obtain ⟨_, hclean⟩ := canon_same_entry_and_clean s r h
  rcases hclean with rfl | ⟨hsp, _⟩
  · exact absurd rfl hr
  · rw [hsp]; exact List.filter_sublist

/-! ### non-vacuity: concrete inputs that exercise every branch -/

-- "//a/./b//c/." → "a/b/c"
example : canonicalize [47,47,97,47,46,47,98,47,47,99,47,46] = some [97,47,98,47,99] := vec_abc
-- "a/../b" refused
example : canonicalize [97,47,46,46,47,98] = none := by decide
-- "..." and "..a" are ordinary names
example : canonicalize [46,46,46,47,46,46,97] = some [46,46,46,47,46,46,97] := by decide
example : isFilenameSane [46,46,46] = true ∧ isFilenameSane [46,46] = false ∧ isFilenameSane [97,47] = false := by decide

-- in place, with bytes behind the terminator: "//a/./b" ++ NUL ++ [1,2]  ->  "a/b" NUL junk(4) 1 2
example : Sqfs.PathIP.canonicalizeIP 10 [47,47,97,47,46,47,98,0,1,2] = some (.ok [97,47,98,0,98,0,98,0,1,2]) := by decide
example : Sqfs.PathIP.canonicalizeIP 10 [97,47,46,46,0,7] = some .fail := by decide
example : Sqfs.PathIP.normalizeIP 9 [47,47,97,47,47,98,47,0,9] = some [97,47,98,0,47,98,47,0,9] := by decide
example : Sqfs.PathIP.canonInPlace [46,47,46,46,46,47,47] = some (some [46,46,46]) := by decide

/-! the theorems applied to these inputs, every hypothesis discharged -/
example := canon_eq_spec [47,47,97,47,46,47,98,47,47,99,47,46]
example := (canon_fails_iff_dotdot [97,47,46,46,47,98]).1 (by decide)
example := canon_same_entry_and_clean _ _ vec_abc
example := canon_length_le _ _ vec_abc
example := canon_idempotent _ _ vec_abc
example := (sane_iff [46,46,46]).1 (by decide)
example := norm_dst_le_src true true [47,47,97,47,46,47,98,47,47,99,47,46]
example : ∃ r, canonGo true (normalizeSlashes [47,47,97,47,46,47,98,47,47,99,47,46]) = some r ∧
    r.length ≤ (normalizeSlashes [47,47,97,47,46,47,98,47,47,99,47,46]).length := by
  have h : canonGo true (normalizeSlashes [47,47,97,47,46,47,98,47,47,99,47,46]) = some [97,47,98,47,99,47] := by decide
  exact ⟨_, h, canon_dst_le_src true _ _ h⟩
example := canon_inplace_memory _ vec_abc_nul [1, 2] 20 (by decide)
example := (canon_inplace_memory [97,47,46,46] (by decide) [7] 10 (by decide)).1 (by decide)
example := norm_inplace_memory _ vec_abc_nul [9] 20 (by decide)
example := canon_inplace_eq_model _ vec_abc_nul

example := canon_no_stray_slash _ _ vec_abc
example := canon_components_sane _ _ vec_abc vec_abc_ne
example := sane_name_is_fixed [46,46,46] (by decide) (by decide)
example := (canon_fixed_iff_clean [97,47,98,47,99]).1 (by decide)
example : ¬ (canonicalize [97,47,47,98] = some [97,47,47,98]) := by decide
example := canon_sublist _ _ vec_abc
example := canon_components_sublist _ _ vec_abc vec_abc_ne

end Sqfs.C18
