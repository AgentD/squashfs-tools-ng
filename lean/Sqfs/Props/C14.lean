/-
C14 — a killed packer never leaves a file that reads as a complete image.

Property theorems only; helpers are in `Sqfs/Proofs/Writer*.lean`, the model in `Sqfs/Model/Writer.lean`,
the specification in `Sqfs/Spec/Writer.lean`.

Two layers:

* `shape_*`: statements about *any* operation log that passes the executable predicate `shapeCheck`
  (provisional superblock exactly as `sqfs_super_init` makes it; then only calls that stay clear of bytes
  `[0,96)`; then one 96-byte write at offset 0; then at most one append of zeros).  The runner evaluates
  `shapeCheck` on the logs of the real packers, so these theorems apply to the real logs directly.
* all others (`run_shape`, `failing_run_shape` included): statements about the model `run r` of the packers' skeleton, for
  every payload `r`.

A payload `r : Run` includes the failure the run is subjected to (`r.fault`: the output call at any position
fails / the file cannot grow beyond any size; `r.inputError`: the input is damaged), so every statement below that
quantifies over `r` quantifies over failing runs too.  `commit r` is the state after `sqfs_writer_finish` has
attempted the final `sqfs_super_write`; "the run committed" = `(commit r).err = none` (it may still fail in the
padding), "the run failed before it committed" = `(commit r).err ≠ none`.
-/
import Sqfs.Proofs.WriterStep
import Sqfs.Proofs.WriterExamples
import Sqfs.Spec.Writer
namespace Sqfs.C14
open Sqfs Sqfs.Writer Sqfs.Consts Sqfs.Spec.Writer

/-- Every crash point before the second superblock write of a well-shaped log leaves a file that
`sqfs_super_read` rejects. -/
theorem shape_prefix_rejected (ops : List Op) (h : shapeCheck ops = true) (k : Nat) (hk : k < kFinalOf ops) :
    readerAccepts (image (ops.take k)) = false := by
  obtain ⟨p, mid, s, pad, rfl, sh⟩ := shape_of_check ops h
  rw [sh.kFinal] at hk
  exact (prefix_rejected_of_safe p mid (.pwrite 0 s :: pad) sh.plen sh.idCount sh.safe k (by omega)).1

/-- Every crash point from the second superblock write on leaves the complete image, up to trailing zero
padding. -/
theorem shape_suffix_complete (ops : List Op) (h : shapeCheck ops = true) (k : Nat) (hk : kFinalOf ops ≤ k) :
    CompleteUpToPadding (image (ops.take k)) (image ops) := by
  unfold CompleteUpToPadding
  obtain ⟨p, mid, s, pad, rfl, sh⟩ := shape_of_check ops h
  rw [sh.kFinal] at hk
  obtain ⟨_, pad', _, h1, h2⟩ := suffix_complete_of_safe p s mid pad sh.plen sh.slen sh.safe sh.padOk k hk
  exact ⟨pad', h1, h2⟩

/-- A well-shaped log is crash safe at every position. -/
theorem shape_crash_safe (ops : List Op) (h : shapeCheck ops = true) : CrashSafe ops := by
  intro k
  by_cases hk : k < kFinalOf ops
  · exact Or.inl (shape_prefix_rejected ops h k hk)
  · exact Or.inr (shape_suffix_complete ops h k (by omega))

/-- In a run whose `sqfs_super_init` succeeded and whose first output call was carried
out (`hne`; it is not when the injected fault hits the provisional superblock write itself), the first output call writes the
provisional superblock and every other call up to the final superblock write stays clear of bytes `[0,96)`
(writes at offsets ≥ 96, truncations to ≥ 96 bytes); hence at every crash point before the final superblock
write (and after the first call) bytes `[0,96)` of the file are exactly the provisional superblock. -/
theorem super_region_invariant (r : Run) (sup : Super) (h : superInit r.blockSize r.mtime r.compId = .ok sup)
    (hne : (run r).ops ≠ []) :
    (∃ rest, (preFinal r).1.ops = .pwrite 0 sup.encode :: rest ∧ ∀ o ∈ rest, o.Safe) ∧
    ∀ k, 1 ≤ k → k < kFinal r → (image ((run r).ops.take k)).take sizeofSuper = sup.encode := by
  rcases (preFinal_spec r).2 with ⟨h2, herr⟩ | ⟨sup', h1, g⟩
  · exact absurd (run_ops_nil r h2 herr) hne
  · obtain rfl := Except.ok.inj (h.symm.trans h1)
    exact ⟨g.ops, fun k hk1 hk => (run_prefix r sup h1 g k hk).2 hk1⟩

/-- what `sqfs_super_init` leaves in the fields the readers look at first -/
theorem provisional_fields (bs mt c : Nat) (sup : Super) (h : superInit bs mt c = .ok sup) :
    sup.idCount = 0 ∧ sup.inodeCount = 0 ∧ sup.bytesUsed = sizeofSuper ∧ sup.idStart = unset ∧ sup.xattrStart = unset ∧
    sup.inodeStart = unset ∧ sup.dirStart = unset ∧ sup.fragStart = unset ∧ sup.exportStart = unset := by
  simp only [superInit, Except.ite_error_eq_ok, Except.ok.injEq] at h
  obtain ⟨_, _, _, rfl⟩ := h
  exact ⟨rfl, rfl, rfl, rfl, rfl, rfl, rfl, rfl, rfl⟩

/-- For every run (successful or not, any payload) and every crash point before the final
superblock write, the file left behind is rejected by `sqfs_super_read` / `sqfs_id_table_read`. -/
theorem prefix_rejected (r : Run) (k : Nat) (hk : k < kFinal r) :
    readerAccepts (image ((run r).ops.take k)) = false := by
  rcases (preFinal_spec r).2 with ⟨h2, hne⟩ | ⟨sup, h1, g⟩
  · rw [run_ops_nil r h2 hne, List.take_nil]; exact image_nil_rejected
  · exact (run_prefix r sup h1 g k hk).1

/-- For every run that committed (successful, or failing only in the padding write) and every
crash point from the final superblock write on, the file is the complete image up to trailing zero padding. -/
theorem suffix_complete (r : Run) (hok : (commit r).err = none) (k : Nat) (hk : kFinal r ≤ k) :
    CompleteUpToPadding (image ((run r).ops.take k)) (image (run r).ops) := by
  obtain ⟨_, pad', _, h1, h2, _⟩ := run_suffix r hok k hk
  exact ⟨pad', h1, h2⟩

/-- … and it passes the readers' first stage (valid block size and compressor id, 1 … 65535 ids, file
smaller than 2^64 bytes). -/
theorem suffix_accepted (r : Run) (v : ValidCfg r) (hok : (commit r).err = none) (hsz : (preFinal r).1.size < 2 ^ 64)
    (k : Nat) (hk : kFinal r ≤ k) : readerAccepts (image ((run r).ops.take k)) = true := by
  have sok := finalSuper_ok r v hok hsz
  obtain ⟨z, _, hz, _, _, hge, hB⟩ := run_suffix r hok k hk
  rw [hz]
  apply accepts_of_superOk _ (finalSuper r) _ _ sok
  · rw [List.append_assoc, List.take_append_of_le_length (by rw [encode_length]; exact Nat.le_refl _)]
    rw [← encode_length (finalSuper r), List.take_length]
  · have : (finalSuper r).bytesUsed = (preFinal r).1.size := rfl
    rw [this]
    simp only [List.length_append, List.length_drop, encode_length, hB]
    omega

/-- The C14 statement for the model: a run that committed is crash safe at every position. -/
theorem crash_safe (r : Run) (hok : (commit r).err = none) : CrashSafe (run r).ops := by
  intro k
  by_cases hk : k < kFinal r
  · exact Or.inl (prefix_rejected r k hk)
  · exact Or.inr (suffix_complete r hok k (by omega))

/-- In a run that committed every call issued before `sqfs_writer_finish` writes the superblock
(data, metadata, every table) precedes that write in the log and stays clear of `[0,96)`; after it there is at
most one append of zeros at `bytes_used`; `bytes_used` is the length of the file at the time of the write, and
the id table's location list (which `sqfs_id_table_read` reads first) lies below it. -/
theorem final_super_last (r : Run) (v : ValidCfg r) (hok : (commit r).err = none) (hsz : (preFinal r).1.size < 2 ^ 64) :
    ∃ sup rest pad, superInit r.blockSize r.mtime r.compId = .ok sup ∧
      (preFinal r).1.ops = .pwrite 0 sup.encode :: rest ∧ (∀ o ∈ rest, o.Safe) ∧
      (run r).ops = .pwrite 0 sup.encode :: (rest ++ .pwrite 0 (finalSuper r).encode :: pad) ∧
      (pad = [] ∨ ∃ n, pad = [.pwrite (finalSuper r).bytesUsed (zeros n)]) ∧
      (finalSuper r).bytesUsed = (image (.pwrite 0 sup.encode :: rest)).length ∧
      (finalSuper r).idStart + 8 * tableBlocks ((finalSuper r).idCount * 4) ≤ (finalSuper r).bytesUsed := by
  obtain ⟨sup, rest, pad, hsi, _, hr, hsafe, hops, hpad, hB⟩ := run_ok_ops r hok
  change _ = (finalSuper r).bytesUsed at hB
  refine ⟨sup, rest, pad, hsi, hr, hsafe, hops, ?_, hB.symm, (finalSuper_ok r v hok hsz).idlist⟩
  rw [← hB]; exact hpad

/-- The log of a model run that committed passes `shapeCheck`, the predicate the runner evaluates on
the logged system calls of the real packers, and both layers agree on the position of the final superblock. -/
theorem run_shape (r : Run) (hok : (commit r).err = none) (hsz : (preFinal r).1.size < 2 ^ 64) :
    shapeCheck (run r).ops = true ∧ kFinalOf (run r).ops = kFinal r := by
  obtain ⟨sup, rest, pad, hsi, _, hr, hsafe, hops, hpad, hB⟩ := run_ok_ops r hok
  rw [hops, kFinal, hr]
  refine shapeCheck_of_form (isProvisional_init _ _ _ sup hsi) hsafe (encode_length _) ?_
    (hpad.imp_right fun ⟨n, h⟩ => ⟨_, h, by simp [isZeros, zeros]⟩)
  rw [decode_encode, hB]
  exact Nat.mod_eq_of_lt hsz

/-- A run that ended without error committed. -/
theorem ok_run_committed (r : Run) (hok : (run r).err = none) : (commit r).err = none :=
  (padd_step (commit r) _ _).err hok

/-- For every payload `r` — that is: every script of data blocks, metadata, tables
and xattrs, every fault position `r.fault.failAt = some j`, every size limit `r.fault.limit = some n`, every input
failure `r.inputError = some e` — : if the run fails at any step up to and including the final superblock write,
then no prefix of its operation sequence (no kill point, the state at exit before the cleanup `unlink` included) is
accepted by `sqfs_super_read` + the entry of `sqfs_id_table_read`. -/
theorem failing_run_never_commits (r : Run) (hfail : (commit r).err ≠ none) : NeverAccepted (run r).ops := by
  intro k
  by_cases hk : k < kFinal r
  · exact prefix_rejected r k hk
  · have hl : (run r).ops.length < kFinal r := by rw [failing_run_ops r hfail]; unfold kFinal; omega
    rw [List.take_of_length_le (by omega)]
    have := prefix_rejected r (run r).ops.length hl
    rwa [List.take_length] at this

/-- After the first failing step no further output operation is issued: the log of a run that fails before it
commits consists of the calls made before the failure (those of `preFinal`), and the process then unlinks the file. -/
theorem failing_run_stops (r : Run) (hfail : (commit r).err ≠ none) :
    (run r).ops = (preFinal r).1.ops ∧ (run r).err ≠ none ∧ unlinkAtExit r = true := by
  have h := run_of_commit_err r hfail
  refine ⟨failing_run_ops r hfail, by rw [h]; exact hfail, ?_⟩
  unfold unlinkAtExit
  rw [h]
  cases hx : (commit r).err with
  | none => exact absurd hx hfail
  | some e => rfl

/-- Whatever the payload, a fault at any output-call position up to and including the final
superblock write (`j < kFinal r`: the provisional superblock, any data/metadata/table call, the final superblock write
itself) makes the run fail before it commits … -/
theorem fault_position_fails (r : Run) (j : Nat) (hf : r.fault.failAt = some j) (hj : j < kFinal r) :
    (commit r).err ≠ none := by
  intro hc
  -- had the final write been carried out, it would have been the call at position `j`
  obtain ⟨_, hpe, _, hnf⟩ := fWrite_of_ok _ _ _ hc
  obtain ⟨hcfg, hsp⟩ := preFinal_spec r
  rcases hsp with ⟨_, hne⟩ | ⟨sup, _, g⟩
  · exact hne hpe
  · have hb := g.bound j (hcfg ▸ hf)
    have := faults_false_failAt _ _ j (hnf (by rw [encode_length]; decide)) (hcfg ▸ hf)
    unfold kFinal at hj
    omega

/-- … hence no kill point of such a run is accepted. -/
theorem fault_never_commits (r : Run) (j : Nat) (hf : r.fault.failAt = some j) (hj : j < kFinal r) :
    NeverAccepted (run r).ops :=
  failing_run_never_commits r (fault_position_fails r j hf hj)

/-- A failure reported by the input side (damaged or truncated tar stream, unreadable file, failed allocation in
`process_tarball`/`pack_files`/`fstree_post_process`) makes the run fail before it commits, whatever was packed
before: no kill point is accepted. -/
theorem input_error_never_commits (r : Run) (e : Nat) (h : r.inputError = some e) : NeverAccepted (run r).ops :=
  failing_run_never_commits r (inputError_fails r e h)

/-- Either no kill point is accepted (the run failed before it committed), or the run committed and is
crash safe: every kill point is rejected or leaves the complete image up to the padding (a failure *after* the
commit can only be the padding write). -/
theorem every_run_safe (r : Run) :
    ((commit r).err ≠ none ∧ NeverAccepted (run r).ops) ∨ ((commit r).err = none ∧ CrashSafe (run r).ops) := by
  by_cases h : (commit r).err = none
  · exact Or.inr ⟨h, crash_safe r h⟩
  · exact Or.inl ⟨h, failing_run_never_commits r h⟩

/-- The log-level layer for failing runs: no crash point of a log that passes `failShapeCheck` (provisional
superblock, then only calls that stay clear of `[0,96)`) is accepted.  The runner evaluates `failShapeCheck` on the
logged system calls of the real packers' failing runs. -/
theorem shape_failing_rejected (ops : List Op) (h : failShapeCheck ops = true) : NeverAccepted ops := by
  intro k
  unfold failShapeCheck at h
  split at h
  · simp only [List.take_nil]; exact image_nil_rejected
  · rename_i p rest
    simp only [Bool.and_eq_true] at h
    obtain ⟨hp, hs⟩ := h
    obtain ⟨hpl, hid⟩ := isProvisional_spec p hp
    have hsafe := (all_safe_iff rest).mp hs
    -- a crash point beyond the end of the log is the one at its end
    have := (prefix_rejected_of_safe p rest [] hpl hid hsafe (min k (rest.length + 1)) (Nat.min_le_right _ _)).1
    rwa [List.append_nil, ← List.length_cons, ← List.take_eq_take_min] at this
  · contradiction

/-- … and the log of a model run that fails before it commits passes it. -/
theorem failing_run_shape (r : Run) (hfail : (commit r).err ≠ none) : failShapeCheck (run r).ops = true := by
  rw [failing_run_ops r hfail]
  rcases (preFinal_spec r).2 with ⟨h2, _⟩ | ⟨sup, h1, g⟩
  · rw [h2]; rfl
  · obtain ⟨rest, hr, hs⟩ := g.ops
    rw [hr]
    simp only [failShapeCheck, isProvisional_init _ _ _ sup h1, (all_safe_iff rest).mpr hs, Bool.and_self]

/-! Non-vacuity: every theorem above applied to the log `exLog` and the payload `exRun` of `Proofs/WriterExamples.lean`,
where the model is evaluated on them. -/

theorem exLog_shape : shapeCheck exLog = true := exLog_eval.1
set_option maxRecDepth 100000 in
example : shapeCheck exLog = true := exLog_shape
example : kFinalOf exLog = 6 := by decide
set_option maxRecDepth 100000 in
example : readerAccepts (image exLog) = true := exLog_eval.2.1
set_option maxRecDepth 100000 in
example : readerAccepts (image (exLog.take 6)) = true := exLog_eval.2.2.1

set_option maxRecDepth 100000 in
example : (run exRun).err = none := exRun_eval.1
set_option maxRecDepth 100000 in
example : (run exRun).ops.length = 17 ∧ kFinal exRun = 16 ∧ (preFinal exRun).1.size = 203 :=
  ⟨exRun_eval.2.2.1, exRun_eval.2.2.2.1, exRun_eval.2.2.2.2.1⟩
set_option maxRecDepth 100000 in
example : (run exRun).ops.contains (.ftruncate 112) = true := exRun_eval.2.2.2.2.2
theorem exRun_valid : ValidCfg exRun := ⟨⟨12, by decide, by decide, rfl⟩, by decide, by decide⟩
example : ValidCfg exRun := exRun_valid

theorem exRun_ok : (commit exRun).err = none := exRun_eval.2.1
theorem exRun_size : (preFinal exRun).1.size < 2 ^ 64 := by rw [exRun_eval.2.2.2.2.1]; decide

set_option maxRecDepth 100000 in
example := shape_prefix_rejected exLog exLog_shape 5 (by decide +kernel)
set_option maxRecDepth 100000 in
example := shape_prefix_rejected exLog exLog_shape 3 (by decide +kernel)
set_option maxRecDepth 100000 in
example := shape_suffix_complete exLog exLog_shape 6 (by decide +kernel)
example := shape_crash_safe exLog exLog_shape
theorem exRun_ops_ne : (run exRun).ops ≠ [] := by
  obtain ⟨_, _, _, _, _, _, _, h, _⟩ := run_ok_ops exRun exRun_ok
  rw [h]; exact List.cons_ne_nil _ _
set_option maxRecDepth 100000 in
example : ∃ sup, superInit exRun.blockSize exRun.mtime exRun.compId = .ok sup := by
  obtain ⟨sup, _, _, h, _⟩ := run_ok_ops exRun exRun_ok
  have _ := super_region_invariant exRun sup h exRun_ops_ne
  have _ := provisional_fields _ _ _ sup h
  exact ⟨sup, h⟩
set_option maxRecDepth 100000 in
example := prefix_rejected exRun 15 (by rw [exRun_eval.2.2.2.1]; decide)
set_option maxRecDepth 100000 in
example := prefix_rejected exRun 7 (by rw [exRun_eval.2.2.2.1]; decide)
set_option maxRecDepth 100000 in
example := suffix_complete exRun exRun_ok 16 (Nat.le_of_eq exRun_eval.2.2.2.1)
set_option maxRecDepth 100000 in
example := suffix_accepted exRun exRun_valid exRun_ok exRun_size 16 (Nat.le_of_eq exRun_eval.2.2.2.1)
example := crash_safe exRun exRun_ok
example := final_super_last exRun exRun_valid exRun_ok exRun_size
example := run_shape exRun exRun_ok exRun_size

theorem exFailLog_shape : failShapeCheck exFailLog = true := exLog_eval.2.2.2.1
/-- … whereas a log that goes on to the final superblock after a failure (what the seeded changes C14-c1/c2 produce)
does not pass -/
example : failShapeCheck (exLog.take 6) = false :=
  exLog_eval.2.2.2.2
example := shape_failing_rejected exFailLog exFailLog_shape

-- every fault position 0 … 15 = kFinal exRun - 1 (15 is the final superblock write itself) makes `exRun` fail,
-- the log stops at the fault position, and `fault_position_fails` / `fault_never_commits` apply
theorem exFault_kFinal : ∀ j < 16, j < kFinal (exFaultAt j) ∧ (run (exFaultAt j)).ops.length = j :=
  fun j hj => ⟨(exFault_eval j hj).1, (exFault_eval j hj).2.1⟩
set_option maxRecDepth 100000 in
example : (commit (exFaultAt 0)).err = some errIo ∧ (commit (exFaultAt 11)).err = some errIo :=
  ⟨(exFault_eval 0 (by decide)).2.2.1, (exFault_eval 11 (by decide)).2.2.1⟩
set_option maxRecDepth 100000 in
example : (commit (exFaultAt 15)).err = some errIo ∧ (preFinal (exFaultAt 15)).1.err = none :=
  ⟨(exFault_eval 15 (by decide)).2.2.1, (exFault_eval 15 (by decide)).2.2.2 rfl⟩
example (j : Nat) (hj : j < 16) : NeverAccepted (run (exFaultAt j)).ops :=
  fault_never_commits (exFaultAt j) j rfl (exFault_kFinal j hj).1
example (j : Nat) (hj : j < 16) := failing_run_stops (exFaultAt j) (fault_position_fails (exFaultAt j) j rfl (exFault_kFinal j hj).1)
example (j : Nat) (hj : j < 16) := failing_run_shape (exFaultAt j) (fault_position_fails (exFaultAt j) j rfl (exFault_kFinal j hj).1)
-- a fault in the padding write (position 16) comes after the commit: the run fails, but it committed, and is crash
-- safe with the complete image (minus padding) on disk
theorem exFault16 : (commit (exFaultAt 16)).err = none ∧ (run (exFaultAt 16)).err = some errIo ∧
    (run (exFaultAt 16)).ops.length = 16 := ⟨exFault16_eval.1, exFault16_eval.2.1, exFault16_eval.2.2.1⟩
example := crash_safe (exFaultAt 16) exFault16.1
example :=
  have h : (preFinal (exFaultAt 16)).1.size < 2 ^ 64 ∧ kFinal (exFaultAt 16) ≤ 16 := exFault16_eval.2.2.2
  suffix_accepted (exFaultAt 16) ⟨exRun_valid.block, exRun_valid.comp, exRun_valid.ids⟩ exFault16.1 h.1 16 h.2

-- "disk full" at the end of the id table (157 bytes: the first xattr block cannot be written — the C14-c2 scenario):
-- the run fails with 11 calls issued; the final superblock write would have succeeded (it does not grow the file)
-- but is never reached
theorem exLimit_fails : (commit (exLimit 157)).err = some errIo := exLimit_eval.1
set_option maxRecDepth 100000 in
example : (run (exLimit 157)).ops.length = 11 := exLimit_eval.2.1
example : NeverAccepted (run (exLimit 157)).ops := failing_run_never_commits (exLimit 157) (by rw [exLimit_fails]; simp)
set_option maxRecDepth 100000 in
example : (commit (exLimit 96)).err = some errIo ∧ (commit (exLimit 202)).err = some errIo :=
  ⟨exLimit_eval.2.2.1, exLimit_eval.2.2.2.1⟩
-- disk full exactly at `bytes_used` (203): only the padding fails
set_option maxRecDepth 100000 in
example : (commit (exLimit 203)).err = none ∧ (run (exLimit 203)).err = some errIo := exLimit_eval.2.2.2.2

-- damaged input (the C14-c1 scenario): the run stops after the data blocks (5 calls), nothing is committed
theorem exDamaged_ops : (run exDamaged).ops.length = 5 ∧ unlinkAtExit exDamaged = true := by decide +kernel
example : NeverAccepted (run exDamaged).ops := input_error_never_commits exDamaged errCorrupted rfl
example := every_run_safe exDamaged
example := every_run_safe (exFaultAt 7)
example := every_run_safe exRun

end Sqfs.C14
