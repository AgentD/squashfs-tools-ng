/-
C16 — `rdsquashfs --describe` output is valid `gensquashfs --pack-file` input rebuilding the tree.

Property theorems only (helpers: `Sqfs/Proofs/Quote*.lean`).

* `Sqfs.QuoteLF.describe…` is `bin/rdsquashfs/src/describe.c` **as it is in /repo** (after 96e45c1 "quote and escape"
  and 4b35342 "refuse a line feed").  Every theorem below that mentions a printer is about it.
* `Sqfs.Quote.describe…` is the same printer without the line-feed test (the code between the two fixes).  The proofs
  factor through it (`Sim` in `Sqfs/Proofs/QuoteSim.lean`; `describe_newline_same`: the two agree wherever nothing
  contains LF), and it is what the witnesses of the repaired defect in `Sqfs/Witness/C16.lean` are about.
  `Sqfs.QuoteOld` is the printer before 96e45c1.
* The parser side (`split_line.c`, `parse_int.c`, `get_line.c`, `fstree_from_file.c` incl. the `flags` column of the
  keyword table since 99d70b1) and `lib/fstree/src/fstree.c` (`Sqfs.QuoteFs`) are the code in /repo.

The round-trip theorems end at the arguments of `fstree_add_generic` (see `Sqfs/Spec/Quote.lean`: `specEntry`);
`rebuild_fstree_partial` goes one step further, through the real `fstree_add_generic` into the tree gensquashfs
holds in memory (`Sqfs/Model/QuoteFs.lean`, `Sqfs/Spec/QuoteFs.lean`).  From that tree to the image and back
(`fstree_post_process`, the writer, the reader, `rdsquashfs -u`, file contents) nothing is modelled here.

Hard links: `rdsquashfs --describe` has no notion of them — the tree it walks has one independent node per name, and
`describe_tree` never prints the `link` keyword (`describe_prints_no_link`).  The names of a hard-link group are
described as `file` lines of their own and come back as independent regular files with equal contents; the group
(same inode, link count) is **not** rebuilt.  The property does not list link identity, so this is recorded, not a
defect; the repaired `link` keyword (99d70b1) is modelled on the parser and fstree side, where pack files use it.
-/
import Sqfs.Proofs.QuoteTree
import Sqfs.Proofs.QuoteCursor
import Sqfs.Proofs.QuoteSim
import Sqfs.Proofs.QuoteFs
namespace Sqfs.C16
open Sqfs.Path (Bytes)
open Sqfs.Quote

/-! ### data of the instantiating examples (every theorem below is followed by an `example` applying it to these with all
hypotheses discharged)

* `exComps`/`exNode`: a symlink `d q/x\ "y` → ` t\t#\r` (name with space, backslash, quote; target with leading space, tab,
  '#', trailing CR); `exUr`: the `--unpack-root` `R s`.
* `exFs`: a root 0700 7:8 with `b` (a link with mode 0755 → `x y`), `a` (a directory with a device node) and a socket of a type
  that is not described.
* `exLF`: a root with a symlink `l` → `a<LF>b` and a file (`RootOkN` admits LF; the printer refuses it).
* `exTab`: a root with a file `a<TAB>` and a symlink `b` → `c ` (`RootOkN`, and the printer prints it). -/

def exComps : List Bytes := [[100, 32, 113], [120, 92, 32, 34, 121]]
def exNode : Node := { kind := .slink, perm := 0o777, uid := 4294967295, gid := 0, target := [32, 116, 9, 35, 13] }
def exUr : Option Bytes := some [82, 32, 115]
def exFs : Tree := .mk [] { kind := .dir, perm := 0o700, uid := 7, gid := 8 }
    [.mk [98] { kind := .slink, perm := 0o755, uid := 1, gid := 2, target := [120, 32, 121] } [],
     .mk [97] { kind := .dir, perm := 0o755, uid := 0, gid := 0 }
       [.mk [110] { kind := .chr, perm := 0o600, uid := 0, gid := 0, devno := 0x0501 } []],
     .mk [111] { kind := .other, perm := 0, uid := 0, gid := 0 } []]
def exLF : Tree := .mk [] { kind := .dir, perm := 0o755, uid := 0, gid := 0 }
    [.mk [108] { kind := .slink, perm := 0o777, uid := 0, gid := 0, target := [97, 10, 98] } [],
     .mk [102, 32] { kind := .file, perm := 0o644, uid := 0, gid := 0 } []]
def exTab : Tree := .mk [] { kind := .dir, perm := 0o700, uid := 7, gid := 8 }
    [.mk [97, 9] { kind := .file, perm := 0o644, uid := 0, gid := 0 } [],
     .mk [98] { kind := .slink, perm := 0o777, uid := 0, gid := 0, target := [99, 32] } []]

theorem exComps_good : ∀ c ∈ exComps, GoodName c := by unfold exComps GoodName; decide
theorem exNode_wf : exNode.Wf := by unfold Node.Wf LineSafe exNode; decide
theorem exUr_lineSafe : ∀ r, exUr = some r → LineSafe r := by
  intro r h; cases h; unfold LineSafe; decide
theorem exFs_rootOk : RootOk exFs := by
  unfold exFs
  simp only [RootOk, ForestOk, TreeOk, GoodName, Node.Wf, LineSafe]
  -- the root's own fields, then one conjunct per child
  exact ⟨trivial, trivial, by decide, by decide, by decide, by decide, trivial⟩
theorem exLF_rootOkN : RootOkN exLF := by
  simp only [exLF, RootOkN, ForestOkN, TreeOkN, ImgName, Node.WfN]
  decide
theorem exTab_rootOkN : RootOkN exTab := by
  simp only [exTab, RootOkN, ForestOkN, TreeOkN, ImgName, Node.WfN]
  decide

/--
**Tokeniser round trip.**  For every list of fields that contain no NUL (any other byte is allowed: spaces, tabs,
quotes, backslashes, `#`, CR, LF, high bytes; empty fields too), printing each field with `print_escaped` and
joining with single spaces gives a line that `split_line` splits back into exactly those fields.
-/
theorem split_print_roundtrip (fields : List Bytes) (h : ∀ f ∈ fields, NUL ∉ f) :
    splitLine packSep (joinSp (fields.map printEscaped)) = .ok fields :=
  splitLine_join (encs_printEscaped fields h)

/-- instance: fields `a b`, empty, `\"`, `x`, tab, `#c<CR><LF>` -/
example := split_print_roundtrip [[97, 32, 98], [], [92, 34], [120], [9], [35, 99, 13, 10]] (by decide)

/--
**Printer ∘ parser = identity, node by node.**  For every node of an image — any kind that can be described, at
any path whose names are non-empty, not "."/"..", and free of '/', NUL and LF (every other byte allowed: space,
tab, `"`, `\`, `#`, CR, high bytes, leading/trailing blanks), any 12-bit mode, 32-bit uid/gid/device number, any
symlink target and any `--unpack-root` free of NUL and LF — `describe_tree` prints one line, and
`fstree_from_file_stream` with default options decodes that line — through `istream_get_line`, `split_line`,
`canonicalize_name`, `parse_uint(_oct)` and the keyword's callback — to exactly the entry the specification
demands (`specEntry`: same path, type bits | permission bits, uid, gid, device number, symlink target, and for
files the input location `path` or `<unpack-root>/<path>`), then goes on with whatever follows the line.
-/
theorem handle_print_roundtrip (ur : Option Bytes) (comps : List Bytes) (n : Node)
    (hc : ∀ c ∈ comps, GoodName c) (hn : n.Wf) (hur : ∀ r, ur = some r → LineSafe r)
    (hroot : comps = [] → n.kind = .dir) (e : Entry) (he : specEntry ur comps n = some e) :
    ∃ line, Sqfs.QuoteLF.describeNode ur comps n = .ok line ∧
      ∀ rest, fstreeFromFile {} (line ++ rest) = (e :: (fstreeFromFile {} rest).1, (fstreeFromFile {} rest).2) := by
  -- nothing that is printed contains LF: the printer is the one without the test, whose line decodes
  obtain ⟨line, h1, _, h2⟩ := (node_sim ur (fun r hr => (hur r hr).1) comps n (fun c m => (hc c m).img) hn.toN hroot).clean
    ⟨hc, hn, hur⟩
  rw [he] at h2
  exact ⟨line, h1, h2⟩

/-- instances: the symlink below `--unpack-root R s`; a regular file (its input location is `R s/<path>`); the root -/
example := handle_print_roundtrip exUr exComps exNode exComps_good exNode_wf exUr_lineSafe (by decide) _ rfl
example := handle_print_roundtrip exUr exComps { kind := .file, perm := 0o644, uid := 1, gid := 2 } exComps_good
  (by unfold Node.Wf LineSafe; decide) exUr_lineSafe (by decide) _ rfl
example := handle_print_roundtrip exUr [] { kind := .dir, perm := 0o700, uid := 7, gid := 8 } (by simp)
  (by unfold Node.Wf LineSafe; decide) exUr_lineSafe (by simp) _ rfl

/-- the same, for the line on its own: it decodes to exactly the one entry, without error -/
theorem handle_print_roundtrip_line (ur : Option Bytes) (comps : List Bytes) (n : Node)
    (hc : ∀ c ∈ comps, GoodName c) (hn : n.Wf) (hur : ∀ r, ur = some r → LineSafe r)
    (hroot : comps = [] → n.kind = .dir) (e : Entry) (he : specEntry ur comps n = some e) :
    ∃ line, Sqfs.QuoteLF.describeNode ur comps n = .ok line ∧ fstreeFromFile {} line = ([e], none) := by
  obtain ⟨line, h1, h2⟩ := handle_print_roundtrip ur comps n hc hn hur hroot e he
  exact ⟨line, h1, Decodes.whole (es := [e]) h2⟩

example := handle_print_roundtrip_line exUr exComps exNode exComps_good exNode_wf exUr_lineSafe (by decide) _ rfl

/--
**Whole listing.**  For the tree of any image (a nameless root directory; below it only good names, fields in
range; any shape, any mix of node kinds), `rdsquashfs --describe [--unpack-root R]` succeeds and
`gensquashfs --pack-file` decodes its output, without error, to exactly the specified entries of all nodes in
pre-order — the root directory's own mode and owner included.
-/
theorem describe_roundtrip (ur : Option Bytes) (hur : ∀ r, ur = some r → LineSafe r) (t : Tree) (ht : RootOk t) :
    ∃ out, Sqfs.QuoteLF.describe ur t = .ok out ∧ fstreeFromFile {} out = (specTree ur [] t, none) := by
  obtain ⟨out, hx, _, hd⟩ := (describe_sim ur (fun r hr => (hur r hr).1) t ht.toN).clean ⟨ht, hur⟩
  exact ⟨out, hx, hd⟩

example := describe_roundtrip exUr exUr_lineSafe exFs exFs_rootOk

/-!
### no assumption about LF (the line-feed test of 4b35342)

Full-strength form of the property for a printer that may refuse: over **every** tree an image can hold (`RootOkN`:
names non-empty, not "."/"..", no '/', no NUL; C-string targets; 12/32-bit fields — LF allowed everywhere) and every
NUL-free `--unpack-root`.  (`describe` without prefix is the printer without the line-feed test.)
-/

/--
**A printed listing always rebuilds the tree.**  Whenever `rdsquashfs --describe [--unpack-root R]` succeeds, its
output is byte for byte what the printer without the line-feed test prints, and `gensquashfs --pack-file` decodes
it, without error, to exactly the specified entries of all nodes in pre-order.
-/
theorem describe_newline_sound (ur : Option Bytes) (hur : ∀ r, ur = some r → NUL ∉ r) (t : Tree) (ht : RootOkN t)
    (out : Bytes) (h : Sqfs.QuoteLF.describe ur t = .ok out) :
    describe ur t = .ok out ∧ fstreeFromFile {} out = (specTree ur [] t, none) :=
  (describe_sim ur hur t ht).ok h

/-- instance, `RootOkN` and a successful print jointly: `exTab` below `--unpack-root R s` is printed, and the listing decodes
to the specified entries -/
example : ∃ out, Sqfs.QuoteLF.describe exUr exTab = .ok out ∧ describe exUr exTab = .ok out ∧
    fstreeFromFile {} out = (specTree exUr [] exTab, none) :=
  exists_ok (by decide) fun out h =>
    describe_newline_sound exUr (fun r hr => (exUr_lineSafe r hr).1) exTab exTab_rootOkN out h
/-- … and with a LF in an `--unpack-root` that is never printed (no regular file in the tree) -/
example : ∃ out, Sqfs.QuoteLF.describe (some [10]) (.mk [] { kind := .dir, perm := 0o700, uid := 7, gid := 8 }
      [.mk [98] { kind := .slink, perm := 0o777, uid := 0, gid := 0, target := [99, 32] } []]) = .ok out ∧
    fstreeFromFile {} out = (specTree (some [10]) [] (.mk [] { kind := .dir, perm := 0o700, uid := 7, gid := 8 }
      [.mk [98] { kind := .slink, perm := 0o777, uid := 0, gid := 0, target := [99, 32] } []]), none) :=
  exists_ok (by decide +kernel) fun out h =>
    (describe_newline_sound (some [10]) (by intro r h; cases h; decide) _
      (by simp only [RootOkN, ForestOkN, TreeOkN, ImgName, Node.WfN]; decide) out h).2

/--
**It refuses only what cannot be written down.**  When `describe` fails on such a tree, it fails with
the line-feed diagnostic (never with one of the path errors), and the tree or the `--unpack-root` does contain a LF
(in a name, a symlink target or the root) — on LF-free input it never fails.
-/
theorem describe_newline_refusal (ur : Option Bytes) (hur : ∀ r, ur = some r → NUL ∉ r) (t : Tree) (ht : RootOkN t)
    (e : DErr) (h : Sqfs.QuoteLF.describe ur t = .error e) :
    e = .newline ∧ ¬ (RootOk t ∧ ∀ r, ur = some r → LineSafe r) :=
  (describe_sim ur hur t ht).error h

example := describe_newline_refusal none (by simp) exLF exLF_rootOkN .newline (by decide)

/--
**The line-feed test changes nothing else.**  On every tree and `--unpack-root` without LF (the hypotheses of
`describe_roundtrip`) the printer equals the printer without the test — so it succeeds there, with the same bytes.
-/
theorem describe_newline_same (ur : Option Bytes) (hur : ∀ r, ur = some r → LineSafe r) (t : Tree) (ht : RootOk t) :
    Sqfs.QuoteLF.describe ur t = describe ur t := by
  obtain ⟨_, hx, hy, _⟩ := (describe_sim ur (fun r hr => (hur r hr).1) t ht.toN).clean ⟨ht, hur⟩
  exact hx.trans hy.symm

example := describe_newline_same exUr exUr_lineSafe exFs exFs_rootOk

/-- node level: a line the printer prints for a node (image names on the path, no assumption about LF) is the line
the printer without the line-feed test prints and decodes to exactly the node's entry, then goes on with what follows -/
theorem handle_print_newline_sound (ur : Option Bytes) (hur : ∀ r, ur = some r → NUL ∉ r) (comps : List Bytes) (n : Node)
    (hc : ∀ c ∈ comps, ImgName c) (hn : n.WfN) (hroot : comps = [] → n.kind = .dir) (line : Bytes)
    (h : Sqfs.QuoteLF.describeNode ur comps n = .ok line) :
    describeNode ur comps n = .ok line ∧
      ∀ rest, fstreeFromFile {} (line ++ rest) =
        ((specEntry ur comps n).toList ++ (fstreeFromFile {} rest).1, (fstreeFromFile {} rest).2) :=
  (node_sim ur hur comps n hc hn hroot).ok h

/-- instance with `ImgName` / `WfN` (the weaker, LF-admitting hypotheses) and a line that is printed -/
example : ∃ line, Sqfs.QuoteLF.describeNode exUr exComps exNode = .ok line ∧ describeNode exUr exComps exNode = .ok line :=
  exists_ok (by decide +kernel) fun line h =>
    (handle_print_newline_sound exUr (fun r hr => (exUr_lineSafe r hr).1) exComps exNode
      (fun c hc => (exComps_good c hc).img) (by unfold Node.WfN exNode; decide) (by decide) line h).1

/-!
### one step further: the tree gensquashfs builds from the listing

Full statement of the property's clause "yields an image with the same paths, types, permission bits, owners, symlink
targets, device numbers and file contents":  `read (write (build (describe t))) ≈ t` and the contents of the files
named by the locations equal the contents in the original image.  What is proved is the part up to `build`: the
in-memory tree.  Missing: the image writer and reader (property C01 owns that model), `rdsquashfs -u` producing the
files the locations name (C06), file contents.
-/

/--
**The listing rebuilds the tree in gensquashfs' memory.**  For the tree `t` of any image (`RootOk`) whose directories
hold pairwise different names (and fewer than 2³² − 3 entries each) and are nested at most SQFS_MAX_DIR_NESTING deep
(`Shallow`: the readers hand out nothing deeper): `rdsquashfs --describe [--unpack-root R]` succeeds and
`gensquashfs --pack-file`, reading its output with the real `fstree_add_generic` into a fresh `fstree_t`, ends
without error with exactly `normTree`: every described node at its path below its rebuilt parent, with the same type,
permission bits (a symbolic link: always 0777 — `mknode` ignores a link's mode), owner, link target, device number,
for a regular file the input location `<path>` / `R/<path>`, link count 1 or 2 + number of described children, no
directory left "created implicitly", no hard-link node, the children linked with `insert_sorted`.
-/
theorem rebuild_fstree_partial (d : Sqfs.QuoteFs.Defaults) (hd : d.mtime < 2 ^ 32) (ur : Option Bytes)
    (hur : ∀ r, ur = some r → LineSafe r) (t : Tree) (ht : RootOk t) (hdist : Sqfs.QuoteFs.Distinct t)
    (hsh : Sqfs.QuoteFs.Shallow 0 t) :
    ∃ out, Sqfs.QuoteLF.describe ur t = .ok out ∧
      Sqfs.QuoteFs.buildFromFile {} d out = (Sqfs.QuoteFs.normTree d ur [] t, none) := by
  obtain ⟨out, h1, h2⟩ := describe_roundtrip ur hur t ht
  refine ⟨out, h1, ?_⟩
  simp only [Sqfs.QuoteFs.buildFromFile, h2, Sqfs.QuoteFs.build_root d hd ur t ht.toN hdist hsh, Option.map_none]

example := rebuild_fstree_partial { mtime := 9 } (by decide) exUr exUr_lineSafe exFs exFs_rootOk
  (by simp only [exFs, Sqfs.QuoteFs.Distinct, Sqfs.QuoteFs.DistinctF, List.map, Tree.name, List.length]; decide)
  (by simp only [exFs, Sqfs.QuoteFs.Shallow, Sqfs.QuoteFs.ShallowF]; decide)

/--
**`describe` never prints a hard link.**  Every entry `gensquashfs` decodes from a listing has `flags = 0`: none is
the `link` keyword's SQFS_DIR_ENTRY_FLAG_HARD_LINK.  (The names of a hard-link group of the image are independent
nodes of the tree `describe_tree` walks and are printed as `file` lines; what is rebuilt are independent regular
files with the same contents, not the group.)
-/
theorem describe_prints_no_link (ur : Option Bytes) (hur : ∀ r, ur = some r → LineSafe r) (t : Tree) (ht : RootOk t) :
    ∃ out, Sqfs.QuoteLF.describe ur t = .ok out ∧ ∀ e ∈ (fstreeFromFile {} out).1, e.flags = 0 := by
  obtain ⟨out, h1, h2⟩ := describe_roundtrip ur hur t ht
  refine ⟨out, h1, ?_⟩
  rw [h2]
  exact Sqfs.QuoteFs.specTree_flags ur [] t

example := describe_prints_no_link exUr exUr_lineSafe exFs exFs_rootOk

/-- `split_line` never runs out of the model's fuel: every iteration of its outer loop consumes input (so the
model's `splitLine` is the C function, not a truncation of it) — for every separator set and every buffer -/
theorem split_never_fuel (sep line : Bytes) : splitLine sep line ≠ .error .fuel := by
  unfold splitLine
  exact splitLoop_fuel sep _ _ (skipSep_length sep line)

example := split_never_fuel packSep [97, 32, 34, 98, 34, 32, 99]

/-- **In-place faithfulness of `split_line`.**  At the start of every token the write cursor `dst` is not ahead
of the read cursor `src` (so modelling the in-place rewrite as read-original/emit-tokens loses nothing) — for
every separator set and every buffer, well-formed or not. -/
theorem split_dst_le_src (sep line : Bytes) (l : List (Nat × Nat))
    (h : splitPos sep line.length (skipSep sep line) 0 (line.length - (skipSep sep line).length) = .ok l) :
    ∀ p ∈ l, p.1 ≤ p.2 :=
  splitPos_le sep _ _ _ _ l h (Or.inl (Nat.zero_le _))

example := split_dst_le_src packSep [97, 32, 34, 98, 34, 32, 99] [(0, 0), (2, 2), (4, 6)] (by decide)

/-- `parse_uint` reads back what `printf("%u")` printed, for every 32-bit value (uid, gid, major, minor) -/
theorem parse_print_dec (n : Nat) (h : n < 2 ^ 32) : parseNum 10 0 0x0FFFFFFFF (printNat 10 n) = .ok n :=
  parseNum_printNat_u32 h

example := parse_print_dec 4294967295 (by decide)

/-- `parse_uint_oct` reads back what `printf("0%o")` printed, for every 12-bit mode -/
theorem parse_print_mode (n : Nat) (h : n < 0o10000) : parseNum 8 0 0o7777 (48 :: printNat 8 n) = .ok n :=
  parseNum_zero_printNat n (Nat.le_of_lt_succ h)

example := parse_print_mode 0o7777 (by decide)

/-- glibc's `makedev(major(d), minor(d)) = d` for every 32-bit device number -/
theorem device_number_roundtrip (d : Nat) (h : d < 2 ^ 32) :
    makedev (devMajor d) (devMinor d) = d ∧ devMajor d < 2 ^ 32 ∧ devMinor d < 2 ^ 32 :=
  ⟨makedev_major_minor d h, devMajor_lt d, devMinor_lt d⟩

example := device_number_roundtrip 0x12345678 (by decide)

/-! ### non-vacuity -/

-- fields: `a b`, ``, `\"`, `x`, tab, `#c<CR>`
example : splitLine packSep (joinSp ([[97,32,98], [], [92,34], [120], [9], [35,99,13]].map printEscaped))
    = .ok [[97,32,98], [], [92,34], [120], [9], [35,99,13]] := by decide +kernel
example : joinSp ([[97,32,98], [], [92,34], [120]].map printEscaped)
    = [34,97,32,98,34, 32, 34,34, 32, 34,92,92,92,34,34, 32, 120] := by decide

-- the hypotheses of `handle_print_roundtrip` hold for a symlink `d q/x\ "y` → ` t\t#\r` (name with space, backslash,
-- quote; target with leading space, tab, '#', trailing CR), and this is the line (nothing in it contains LF, so the
-- printer without the line-feed test prints the same)
example : (∀ c ∈ exComps, GoodName c) ∧ exNode.Wf := ⟨exComps_good, exNode_wf⟩
example : describeNode none exComps exNode
    = .ok [115,108,105,110,107,32, 34,100,32,113,47,120,92,92,32,92,34,121,34, 32,48,55,55,55, 32,52,50,57,52,57,54,55,50,57,53, 32,48,
           32, 34,32,116,9,35,13,34, 10] := by decide +kernel
example : fstreeFromFile {} [115,108,105,110,107,32, 34,100,32,113,47,120,92,92,32,92,34,121,34, 32,48,55,55,55, 32,52,50,57,52,57,54,55,50,57,53, 32,48,
           32, 34,32,116,9,35,13,34, 10]
    = ([{ name := [100,32,113,47,120,92,32,34,121], mode := 0o120777, uid := 4294967295, gid := 0, rdev := 0,
          extra := some [32,116,9,35,13] }], none) := by decide +kernel
-- a device node and a file with --unpack-root `R s`
example : describeNode none [[99]] { kind := .chr, perm := 0o600, uid := 0, gid := 0, devno := 0x12345678 }
    = .ok [110,111,100,32,99,32,48,54,48,48,32,48,32,48,32,99,32,49,49,49,48,32,55,52,54,49,54,10] := by decide +kernel
example : describeNode (some [82, 32, 115]) [[102]] { kind := .file, perm := 0o644, uid := 1, gid := 2 }
    = .ok [102,105,108,101,32,102,32,48,54,52,52,32,49,32,50,32,34,82,32,115,47,102,34,10] := by decide +kernel
-- `RootOk` is satisfiable: a root directory 0700 7:8 with one child
example : RootOk (.mk [] { kind := .dir, perm := 0o700, uid := 7, gid := 8 }
    [.mk [97, 9] { kind := .fifo, perm := 0o644, uid := 0, gid := 0 } []]) := by
  simp only [RootOk, ForestOk, TreeOk, GoodName, Node.Wf, LineSafe]
  decide
example : describe none (.mk [] { kind := .dir, perm := 0o700, uid := 7, gid := 8 }
    [.mk [97, 9] { kind := .fifo, perm := 0o644, uid := 0, gid := 0 } []])
    = .ok [100,105,114,32,47,32,48,55,48,48,32,55,32,56,10, 112,105,112,101,32,34,97,9,34,32,48,54,52,52,32,48,32,48,10] := by decide +kernel
-- `RootOkN` admits LF: a root with a symlink `l` → `a<LF>b` and a file; the printer refuses it with the line-feed
-- diagnostic, the printer without the test prints it (and the listing does not decode to the tree: `Sqfs/Witness/C16.lean`)
example : RootOkN exLF := exLF_rootOkN
example : Sqfs.QuoteLF.describe none exLF = .error .newline := by decide
example : (match describe none exLF with | .ok _ => true | .error _ => false) = true := by decide
-- … and trees the printer does print (`describe_newline_sound` is not vacuous): no LF, with `--unpack-root`
example : Sqfs.QuoteLF.describe (some [82, 32, 115]) (.mk [] { kind := .dir, perm := 0o700, uid := 7, gid := 8 }
    [.mk [97, 9] { kind := .file, perm := 0o644, uid := 0, gid := 0 } []])
    = .ok [100,105,114,32,47,32,48,55,48,48,32,55,32,56,10,
           102,105,108,101,32,34,97,9,34,32,48,54,52,52,32,48,32,48,32,34,82,32,115,47,97,9,34,10] := by decide +kernel
-- a LF in an `--unpack-root` that is never printed (no regular file) does not make it refuse
example : Sqfs.QuoteLF.describe (some [10]) (.mk [] { kind := .dir, perm := 0o700, uid := 7, gid := 8 } [])
    = .ok [100,105,114,32,47,32,48,55,48,48,32,55,32,56,10] := by decide
-- `rebuild_fstree_partial`: hypotheses hold for a root 0700 7:8 with `b` (a link with mode 0755 → `x y`), `a` (a directory with a
-- device node) and a socket of a type that is not described; the rebuilt tree has the children sorted, the link 0777
example : RootOk exFs := exFs_rootOk
example : Sqfs.QuoteFs.Shallow 0 exFs := by
  simp only [exFs, Sqfs.QuoteFs.Shallow, Sqfs.QuoteFs.ShallowF]
  decide
example : Sqfs.QuoteFs.Distinct exFs := by
  simp only [exFs, Sqfs.QuoteFs.Distinct, Sqfs.QuoteFs.DistinctF, List.map, Tree.name, List.length]
  decide
example : (Sqfs.QuoteLF.describe none exFs).toOption.map (fun out =>
      let r := Sqfs.QuoteFs.buildFromFile {} { mtime := 9 } out
      (r.1.flat 0, r.2))
    = some ([(0, [], { mode := 0o40700, uid := 7, gid := 8, mtime := 9, linkCount := 4, implicit := false, rdev := 0, extra := none }),
             (1, [97], { mode := 0o40755, uid := 0, gid := 0, mtime := 9, linkCount := 3, implicit := false, rdev := 0, extra := none }),
             (2, [110], { mode := 0o20600, uid := 0, gid := 0, mtime := 9, linkCount := 1, implicit := false, rdev := 0x0501, extra := none }),
             (1, [98], { mode := 0o120777, uid := 1, gid := 2, mtime := 9, linkCount := 1, implicit := false, rdev := 0, extra := some [120, 32, 121] })],
            none) := by decide +kernel
-- the cursor theorem's hypothesis is satisfiable (and tight: dst = src on the last token of `a "b" c`)
example : splitPos packSep 7 [97,32,34,98,34,32,99] 0 0 = .ok [(0, 0), (2, 2), (4, 6)] := by decide

end Sqfs.C16
