/-
C12 — results do not depend on how the OS splits reads and writes.

Property theorems only (helpers: `Sqfs/Proofs/IoLoops.lean`, `IoStream.lean`, `IoIdeal.lean`, `IoXfrm.lean`,
`C12TarStream.lean`).  Every theorem quantifies over *every* OS script `os.sc : List Ev` — each system call of the
loop is answered by the next event (`part k`: a short count of `min (k+1) possible` bytes, `eintr`, `err`, `zero`); after the last event
every call completes in full, so `EINTR` occurs only finitely often by construction and `OS.full` (the empty
script) is the run in which the OS never splits a transfer.  `noHard os.sc` = the script contains only short
counts and `EINTR`s.  Statement form: `run loop script = run loop OS.full` on everything the caller can
observe, plus "success ⇒ the whole transfer happened" for *arbitrary* scripts (hard errors included).
-/
import Sqfs.Proofs.IoIdeal
import Sqfs.Proofs.C12TarStream
namespace Sqfs.C12
open Sqfs.IoLoops Sqfs.IoLoops.Spec

/-- For every script of short counts and `EINTR`s, `stdio_read_at` returns what the file holds in the range —
the same status and bytes as when every `pread` completes in full; it fails exactly when the range reaches
past the end of the file. -/
theorem read_at_spec (file : Bytes) (off size : Nat) (os : OS) (h : noHard os.sc = true) :
    (readAt file off size os).1 = (readAt file off size OS.full).1 ∧
    (readAt file off size os).2.1 = (readAt file off size OS.full).2.1 ∧
    (readAt file off size os).1 = (if size = 0 ∨ off + size ≤ file.length then .ok else .oob) ∧
    (readAt file off size os).2.1 = slice file off size := by
  obtain ⟨_, _, _, hr, _, _, a⟩ := readAtLoop_any file _ size os (Nat.lt_succ_self _) off []
  obtain ⟨_, _, _, hf, _, _, b⟩ := readAtLoop_any file _ size OS.full (Nat.lt_succ_self _) off []
  obtain ⟨rfl, rfl⟩ := a h
  obtain ⟨rfl, rfl⟩ := b noHard_full
  simp only [readAt, hr, hf, readAtRc, slice, List.nil_append, and_self]

/-- For *every* script (hard errors and zero returns included): the loop terminates, and status 0 means that
the caller's buffer holds all `size` bytes of the range — never a silent short read. -/
theorem read_at_never_short (file : Bytes) (off size : Nat) (os : OS) :
    (readAt file off size os).1 ≠ .fuel ∧
    ((readAt file off size os).1 = .ok →
      (readAt file off size os).2.1 = slice file off size ∧ (readAt file off size os).2.1.length = size) := by
  obtain ⟨e, buf, _, hr, h1, h2, _⟩ := readAtLoop_any file _ size os (Nat.lt_succ_self _) off []
  simp only [readAt, hr]
  refine ⟨h1, fun hok => ?_⟩
  obtain ⟨rfl, h4⟩ := h2 hok
  refine ⟨rfl, ?_⟩
  simp only [List.nil_append, List.length_take, List.length_drop]
  omega

/-- For every script of short counts and `EINTR`s, `stdio_write_at` leaves the file and the size field exactly as
one complete `pwrite` would. -/
theorem write_at_spec (file : Bytes) (sizeField off : Nat) (data : Bytes) (os : OS) (h : noHard os.sc = true) :
    (writeAt file sizeField off data os).1 = .ok ∧
    (writeAt file sizeField off data os).2.1 = writeAtFile file off data ∧
    (writeAt file sizeField off data os).2.2.1 =
      (if off + data.length ≥ sizeField then off + data.length else sizeField) ∧
    (writeAt file sizeField off data os).2.1 = (writeAt file sizeField off data OS.full).2.1 ∧
    (writeAt file sizeField off data os).2.2.1 = (writeAt file sizeField off data OS.full).2.2.1 := by
  obtain ⟨os', h1⟩ := writeAtLoop_spec _ file off data os h (Nat.lt_succ_self _)
  obtain ⟨os'', h2⟩ := writeAtLoop_spec _ file off data OS.full noHard_full (Nat.lt_succ_self _)
  simp only [writeAt, h1, h2, and_self]

/-- For *every* script: the loop terminates, and status 0 means all of `data` is in the file at `off` and the
size field covers it. -/
theorem write_at_never_short (file : Bytes) (sizeField off : Nat) (data : Bytes) (os : OS) :
    (writeAt file sizeField off data os).1 ≠ .fuel ∧
    ((writeAt file sizeField off data os).1 = .ok →
      (writeAt file sizeField off data os).2.1 = writeAtFile file off data ∧
      (writeAt file sizeField off data os).2.2.1 ≥ off + data.length) := by
  obtain ⟨e, f', off', os', hr, h1, h2, _⟩ := writeAtLoop_any _ data os (Nat.lt_succ_self _) file off
  rw [writeAt, hr]
  cases e with
  | ok =>
    obtain ⟨rfl, rfl⟩ := h2 rfl
    refine ⟨nofun, fun _ => ⟨rfl, ?_⟩⟩
    simp only
    split <;> omega
  | fuel => exact absurd rfl h1
  | _ => exact ⟨nofun, nofun⟩

/-- For every script of short counts and `EINTR`s and every sequence of `append` / hole / `flush` calls, from
every state of the stream: no call fails; the complete state of the stream and of the file behind it
(`out`, `size`, `sparse_count`, descriptor position) is the one the closed form `stepRes` gives — a function of
the calls alone, so it is the state of the run in which every `write` completes in full; the bytes in the file
followed by the zeros up to the descriptor position and the pending hole (`logical`) are the concatenation of
everything appended — whether holes are realised by zero-writes (`SQFS_FILE_OPEN_NO_SPARSE`) or by
`lseek`+`ftruncate`; and when no `ftruncate` has failed before (`skew = 0`: every stream that has not seen a
hard error), after a final `flush` the file itself holds them. -/
theorem write_all_spec : ∀ (ops : List OOp) (st : OStream) (idx : Nat) (os : OS), noHard os.sc = true →
    ∃ os', runOOps idx st ops os = ((.ok, idx + ops.length), ops.foldl stepRes st, os') ∧ noHard os'.sc = true ∧
      (∃ osf, runOOps idx st ops OS.full = ((.ok, idx + ops.length), ops.foldl stepRes st, osf)) ∧
      logical (ops.foldl stepRes st) = logical st ++ (ops.map oopBytes).flatten ∧
      (ops.foldl stepRes st).noSparse = st.noSparse ∧
      (st.skew = 0 → (ops.foldl stepRes st).skew = 0) ∧
      (st.skew = 0 → ops.getLast? = some .flush →
        (ops.foldl stepRes st).out = logical st ++ (ops.map oopBytes).flatten) := by
  intro ops st idx os hn
  obtain ⟨os', h1, hn'⟩ := runOOps_det ops st idx os hn
  obtain ⟨osf, hf, _⟩ := runOOps_det ops st idx OS.full noHard_full
  obtain ⟨f1, f2, f3⟩ := foldl_stepRes_facts ops st
  exact ⟨os', h1, hn', ⟨osf, hf⟩, f1, f2, f3, foldl_stepRes_flush ops st⟩

/-- For *every* script (hard errors and zero returns included): no call runs out of fuel, and if no call reports
an error then the stream and the file are in exactly the state of the unperturbed run (`stepRes`), so everything
appended is in the file / the pending hole — a short `write` is never silently accepted. -/
theorem write_all_never_short : ∀ (ops : List OOp) (st : OStream) (idx : Nat) (os : OS),
    (runOOps idx st ops os).1.1 ≠ .fuel ∧
    ((runOOps idx st ops os).1.1 = .ok →
      (runOOps idx st ops os).2.1 = ops.foldl stepRes st ∧
      logical (runOOps idx st ops os).2.1 = logical st ++ (ops.map oopBytes).flatten) := by
  intro ops st idx os
  obtain ⟨h1, h2, _⟩ := (runOOps_any ops st idx os).1
  exact ⟨h1, fun hok => ⟨h2 hok, by rw [h2 hok]; exact (foldl_stepRes_facts ops st).1⟩⟩

/-- **`istream_bytes`.** For every buffer size `B > 0`, every file content, every client history (any mix of
`get_buffered_data(want)` with any `want`, `advance_buffer(count)` with any `count`, `sqfs_istream_read`, `skip`,
`splice`, `istream_get_line`, `record_to_memory`) and every OS script of short counts and `EINTR`s: what the
client observes — every status and every window `get_buffered_data` exposes, byte for byte — is what the *ideal
window stream* over the file content shows (`Spec.Ideal`: `pos` bytes consumed, the next `avail` bytes of the
file visible; no buffer, no OS).  The bytes delivered are therefore the file's bytes in order, whatever the
chunking. -/
theorem istream_bytes (B : Nat) (hB : 0 < B) (data : Bytes) (ops : List Op) (o : OStream) (ln : Nat) (os : OS)
    (h : noHard os.sc = true) :
    (runOps (fileStream B) ⟨IStream.init data, o, ln⟩ ops os).1 =
      (runOps (idealStream B data) ⟨⟨0, 0⟩, o, ln⟩ ops OS.full).1 ∧
    (runOps (fileStream B) ⟨IStream.init data, o, ln⟩ ops os).2.1.o =
      (runOps (idealStream B data) ⟨⟨0, 0⟩, o, ln⟩ ops OS.full).2.1.o ∧
    (runOps (fileStream B) ⟨IStream.init data, o, ln⟩ ops os).2.1.ln =
      (runOps (idealStream B data) ⟨⟨0, 0⟩, o, ln⟩ ops OS.full).2.1.ln := by
  obtain ⟨h1, _, h2, h3⟩ := (runOps_sim (file_sim B hB data) ops (c := ⟨IStream.init data, o, ln⟩) (c' := ⟨⟨0, 0⟩, o, ln⟩)
    ⟨⟨rel_init B data, rfl, rfl⟩, h, noHard_full⟩).fst_rel
  exact ⟨h1, h2, h3⟩

/-- The statement in the form "run under the script = run when every call completes in full": observations, the
spliced output and the line counter of any client history are the same. -/
theorem client_history_script_independent (B : Nat) (hB : 0 < B) (data : Bytes) (ops : List Op) (o : OStream)
    (ln : Nat) (os : OS) (h : noHard os.sc = true) :
    (runOps (fileStream B) ⟨IStream.init data, o, ln⟩ ops os).1 =
      (runOps (fileStream B) ⟨IStream.init data, o, ln⟩ ops OS.full).1 ∧
    (runOps (fileStream B) ⟨IStream.init data, o, ln⟩ ops os).2.1.o =
      (runOps (fileStream B) ⟨IStream.init data, o, ln⟩ ops OS.full).2.1.o ∧
    (runOps (fileStream B) ⟨IStream.init data, o, ln⟩ ops os).2.1.ln =
      (runOps (fileStream B) ⟨IStream.init data, o, ln⟩ ops OS.full).2.1.ln := by
  obtain ⟨a1, a2, a3⟩ := istream_bytes B hB data ops o ln os h
  obtain ⟨b1, b2, b3⟩ := istream_bytes B hB data ops o ln OS.full noHard_full
  exact ⟨a1.trans b1.symm, a2.trans b2.symm, a3.trans b3.symm⟩

/-- **`read_skip_splice_spec`.** From any stream state `s` that represents position `t.pos` of the file
(`Rel`, `Iv`: every state a client can reach), for every script of short counts and `EINTR`s, every buffer size:
`sqfs_istream_read` returns exactly the next `min size 0x7FFFFFFF` bytes of the file (fewer only at its end),
`sqfs_istream_skip` succeeds **iff** at least `size` bytes are left and otherwise fails with
`SQFS_ERROR_OUT_OF_BOUNDS` having consumed everything (`skipRc`: a function of the sizes alone, not of the script),
and `sqfs_istream_splice` reports the count of bytes it moved (`min size 0x7FFFFFFF`, fewer only at the end of the
file) and — into an output stream with no hole pending and no failed `ftruncate` behind it (`o.sparse = 0`,
`o.skew = 0`) — has appended exactly those bytes to the file; **and afterwards** the stream again represents a
position of the file — the old one plus the number of bytes consumed — so the next client call starts from a state
that depends on the script in nothing a client can observe. -/
theorem read_skip_splice_spec (B : Nat) (hB : 0 < B) (data : Bytes) (s : IStream) (t : Ideal) (hr : Rel B data s t)
    (hi : Iv data t) (o : OStream) (ho : o.sparse = 0) (hk : o.skew = 0) (size : Nat) (os : OS)
    (h : noHard os.sc = true) :
    (istreamRead (fileStream B) s size os).1 = .n (slice data t.pos (min size 0x7FFFFFFF)) ∧
    (istreamSkip (fileStream B) s size os).1 = (if size ≤ data.length - t.pos then .ok else .oob) ∧
    (istreamSplice (fileStream B) s o size os).1 = (.ok, min (min size 0x7FFFFFFF) (data.length - t.pos)) ∧
    (istreamSplice (fileStream B) s o size os).2.2.1.out = o.out ++ slice data t.pos (min size 0x7FFFFFFF) ∧
    (∃ t', Rel B data (istreamRead (fileStream B) s size os).2.1 t' ∧ Iv data t' ∧
      t'.pos = t.pos + min (min size 0x7FFFFFFF) (data.length - t.pos)) ∧
    (∃ t', Rel B data (istreamSkip (fileStream B) s size os).2.1 t' ∧ Iv data t' ∧
      t'.pos = t.pos + min size (data.length - t.pos)) ∧
    (∃ t', Rel B data (istreamSplice (fileStream B) s o size os).2.1 t' ∧ Iv data t' ∧
      t'.pos = t.pos + min (min size 0x7FFFFFFF) (data.length - t.pos)) := by
  have hsz : (if size > 0x7FFFFFFF then 0x7FFFFFFF else size) = min size 0x7FFFFFFF := by
    split <;> omega
  have hc : Conf (Rel B data) s t os OS.full := ⟨hr, h, noHard_full⟩
  obtain ⟨a1, r1⟩ := (istreamReadLoop_sim (file_sim B hB data) (min size 0x7FFFFFFF + 1) (min size 0x7FFFFFFF) [] hc).fst_rel
  obtain ⟨t1, c1, p1, i1⟩ := idealRead_closed B hB data (min size 0x7FFFFFFF + 1) (min size 0x7FFFFFFF)
    (Nat.lt_succ_self _) t [] OS.full hi
  obtain ⟨a2, r2⟩ := (istreamSkipLoop_sim (file_sim B hB data) (size + 1) size hc).fst_rel
  obtain ⟨t2, c2, p2, i2⟩ := idealSkip_closed B hB data (size + 1) size (Nat.lt_succ_self _) t OS.full hi
  obtain ⟨e3, s3, t3, o3, os3, oj3, h3, hJ3, r3, _⟩ := istreamSpliceLoop_sim (file_sim B hB data)
    (min size 0x7FFFFFFF + 1) o (min size 0x7FFFFFFF) 0 hc
  obtain ⟨t3', o', _, c3, co, ho', hk', p3, i3, _⟩ := idealSplice_logical B hB data (min size 0x7FFFFFFF + 1)
    (min size 0x7FFFFFFF) (Nat.lt_succ_self _) t o 0 OS.full hi noHard_full
  -- no hole pending before or after: what has been appended is what the file holds
  simp only [logical, ho, hk, ho' ho, hk' hk, Nat.add_zero, List.replicate_zero, List.append_nil] at co
  rw [c1] at a1 r1
  rw [c2] at a2 r2
  simp only [hJ3, Prod.mk.injEq] at c3
  obtain ⟨rfl, rfl, rfl, rfl⟩ := c3
  simp only [istreamRead, istreamSkip, istreamSplice, hsz, a1, a2, h3, List.nil_append, Nat.zero_add, co, true_and, skipRc]
  exact ⟨⟨t1, r1, i1, p1⟩, ⟨t2, r2, i2, p2⟩, ⟨t3, r3, i3, p3⟩⟩

/-- **`get_line_chunking_independent`.** From any reachable stream state, with any pending partial line `acc` and
any flags, for every script of short counts and `EINTR`s and **every buffer size**: `istream_get_line` returns
the line that the byte-at-a-time scanner `Spec.nextLineAux` finds in the bytes that are left (split at '\n',
one '\r' dropped, trimmed per the flags, empty lines counted and skipped with `SKIP_EMPTY`, an unterminated last
line returned, then end-of-file) and the same line counter, **and leaves the stream at the position behind
what the scanner consumed**.  Neither `B` nor the script occurs on the right-hand side: the lines are the same
for every chunking. -/
theorem get_line_chunking_independent (B : Nat) (hB : 0 < B) (data : Bytes) (s : IStream) (t : Ideal)
    (hr : Rel B data s t) (hi : Iv data t) (flags : Nat) (acc : Bytes) (ln : Nat) (os : OS) (h : noHard os.sc = true) :
    (getLineLoop (fileStream B) flags ((fileStream B).bound s + 2) s acc ln os).1 =
      lineRetOf (nextLineAux flags acc (data.drop t.pos) ln).1 ∧
    (getLineLoop (fileStream B) flags ((fileStream B).bound s + 2) s acc ln os).2.2.1 =
      (nextLineAux flags acc (data.drop t.pos) ln).2.2 ∧
    (∃ t', Rel B data (getLineLoop (fileStream B) flags ((fileStream B).bound s + 2) s acc ln os).2.1 t' ∧
      Iv data t' ∧ data.drop t'.pos = (nextLineAux flags acc (data.drop t.pos) ln).2.1) := by
  obtain ⟨s', t', os', h1, r1, i1, _, d1⟩ := getLine_file B hB data flags s t acc ln os hr hi h
  rw [h1]
  exact ⟨rfl, rfl, t', r1, i1, d1⟩

/-- **`record_to_memory_spec`.** For every script of short counts and `EINTR`s and every buffer size,
`record_to_memory(size)` returns exactly the next `size` bytes of the file, or NULL when fewer are left, when the
padding to the next multiple of 512 is cut short (`sqfs_istream_skip` then fails), or when `size` exceeds what
`sqfs_istream_read` transfers in one call; **and it leaves the stream behind the record and its padding**
(`recordEnd`; as far as the data reaches). -/
theorem record_to_memory_spec (B : Nat) (hB : 0 < B) (data : Bytes) (s : IStream) (t : Ideal) (hr : Rel B data s t)
    (hi : Iv data t) (size : Nat) (os : OS) (h : noHard os.sc = true) :
    (recordToMemory (fileStream B) s size os).1 =
      (if t.pos + size ≤ data.length ∧ size ≤ 0x7FFFFFFF ∧
          (size % 512 = 0 ∨ t.pos + size + (512 - size % 512) ≤ data.length)
        then some (slice data t.pos size) else none) ∧
    (∃ t', Rel B data (recordToMemory (fileStream B) s size os).2.1 t' ∧ Iv data t' ∧
      t'.pos = recordEnd data.length t.pos size) := by
  obtain ⟨h1, r1⟩ := (recordToMemory_sim (file_sim B hB data) size (⟨hr, h, noHard_full⟩ : Conf _ s t os OS.full)).fst_rel
  obtain ⟨c1, _, i1, p1⟩ := idealRecord_closed B hB data t size OS.full hi
  exact ⟨h1.trans c1, _, r1, i1, p1⟩

/-- **`xfrm_istream_chunking_independent`.** A decompressing istream (`lib/xfrm/src/istream.c`: `precache` loop
feeding an arbitrary incremental codec `C` from the wrapped stream's windows) on top of the file istream: for
every codec, all buffer sizes, every client history and every script of short counts and `EINTR`s, the client
observes exactly what it observes when the wrapped stream is the ideal window stream and the OS never splits a
call.  No assumption on the codec is needed: the OS reaches it only through the wrapped stream's windows, and
those are the same (`istream_bytes`). -/
theorem xfrm_istream_chunking_independent {κ : Type} (C : Codec κ) (k0 : κ) (BX limit B : Nat) (hB : 0 < B)
    (data : Bytes) (ops : List Op) (o : OStream) (ln : Nat) (os : OS) (h : noHard os.sc = true) :
    (runOps (xfrmStream (fileStream B) C BX limit) ⟨⟨IStream.init data, k0, 0, []⟩, o, ln⟩ ops os).1 =
      (runOps (xfrmStream (idealStream B data) C BX limit) ⟨⟨⟨0, 0⟩, k0, 0, []⟩, o, ln⟩ ops OS.full).1 ∧
    (runOps (xfrmStream (fileStream B) C BX limit) ⟨⟨IStream.init data, k0, 0, []⟩, o, ln⟩ ops os).1 =
      (runOps (xfrmStream (fileStream B) C BX limit) ⟨⟨IStream.init data, k0, 0, []⟩, o, ln⟩ ops OS.full).1 := by
  have hsim := xfrm_sim (file_sim B hB data) C BX limit
  have hrc : RC (XRel (Rel B data)) (⟨⟨IStream.init data, k0, 0, []⟩, o, ln⟩ : Client (XStream IStream κ))
      ⟨⟨⟨0, 0⟩, k0, 0, []⟩, o, ln⟩ := ⟨⟨rel_init B data, rfl, rfl, rfl⟩, rfl, rfl⟩
  have h1 := (runOps_sim hsim ops ⟨hrc, h, noHard_full⟩).fst_rel.1
  have h2 := (runOps_sim hsim ops ⟨hrc, noHard_full, noHard_full⟩).fst_rel.1
  exact ⟨h1, h1.trans h2.symm⟩

/-- **`xfrm_ostream_script_independent`.** A compressing ostream (`lib/xfrm/src/ostream.c`: `xfrm_append`,
`flush_inbuf`, `xfrm_flush` around an arbitrary codec) on top of the file ostream: for every codec and every
sequence of append / hole / flush calls, the status, the failing index, the codec state, the pending input and
the bytes in the output file are the same under every script of short counts and `EINTR`s as when every `write`
completes in full. -/
theorem xfrm_ostream_script_independent {κ : Type} (C : Codec κ) (BX limit : Nat) (ops : List OOp) (x : XOStream κ)
    (os : OS) (h : noHard os.sc = true) :
    (xRunOOps C BX limit 0 x ops os).1 = (xRunOOps C BX limit 0 x ops OS.full).1 ∧
    (xRunOOps C BX limit 0 x ops os).2.1 = (xRunOOps C BX limit 0 x ops OS.full).2.1 :=
  xRunOOps_indep C BX limit ops 0 x os OS.full h noHard_full

/-- **`tar_member_stream_chunking_independent`.** The stream tar2sqfs reads the content of an archive member
through (`tar_istream_t`: it calls `get_buffered_data`/`advance_buffer` of the archive stream directly, clamps the
window to the current data region, synthesises the holes of a GNU sparse member, keeps `record_size`/`offset`
of the iterator up to date) on top of the file istream: from every pair of related states (same iterator fields,
archive stream at the same position of the file), for every member geometry and sparse map, every buffer size,
every client history and every script of short counts and `EINTR`s, the client observes exactly what it observes
over the ideal window stream when the OS never splits a call; the spliced output and the line counter are the
same, and the two iterators stay related (same `record_size`, `offset`, `state`, …; archive streams at the same
position). -/
theorem tar_member_stream_chunking_independent (B : Nat) (hB : 0 < B) (data : Bytes) (x : TarStrm IStream)
    (y : TarStrm Ideal) (hr : TRel (Rel B data) x y) (ops : List Op) (o : OStream) (ln : Nat) (os : OS)
    (h : noHard os.sc = true) :
    (runOps (tarStream (fileStream B)) ⟨x, o, ln⟩ ops os).1 =
      (runOps (tarStream (idealStream B data)) ⟨y, o, ln⟩ ops OS.full).1 ∧
    (runOps (tarStream (fileStream B)) ⟨x, o, ln⟩ ops os).1 =
      (runOps (tarStream (fileStream B)) ⟨x, o, ln⟩ ops OS.full).1 ∧
    RC (TRel (Rel B data)) (runOps (tarStream (fileStream B)) ⟨x, o, ln⟩ ops os).2.1
      (runOps (tarStream (idealStream B data)) ⟨y, o, ln⟩ ops OS.full).2.1 := by
  have hsim := tar_sim (file_sim B hB data)
  have hrc : RC (TRel (Rel B data)) (⟨x, o, ln⟩ : Client _) ⟨y, o, ln⟩ := ⟨hr, rfl, rfl⟩
  obtain ⟨h1, h2⟩ := (runOps_sim hsim ops ⟨hrc, h, noHard_full⟩).fst_rel
  have h3 := (runOps_sim hsim ops ⟨hrc, noHard_full, noHard_full⟩).fst_rel.1
  exact ⟨h1, h1.trans h3.symm, h2⟩

/-- **`tar_member_run_chunking_independent`.** One archive member the way tar2sqfs drives the iterator, from the
first byte of the input: `tar_open_stream`'s probe, `it_next` (reads the header block), `open_file_ro`, any client
history on the member stream, dropping the stream, `it_next` (skips what is left of the record and the padding,
reads the next header block / recognises the end of the archive).  For every input, member geometry, buffer
size and script of short counts and `EINTR`s: both `it_next` results, every observation of the client, its
output and the iterator's bookkeeping are those of the run over the ideal stream, and of the run in which every
`read` completes in full. -/
theorem tar_member_run_chunking_independent (B : Nat) (hB : 0 < B) (data : Bytes) (g : MemberGeom) (o : OStream)
    (ops : List Op) (os : OS) (h : noHard os.sc = true) :
    (tarMemberRun (fileStream B) (IStream.init data) g o ops os).1 =
      (tarMemberRun (idealStream B data) ⟨0, 0⟩ g o ops OS.full).1 ∧
    (tarMemberRun (fileStream B) (IStream.init data) g o ops os).2.1 =
      (tarMemberRun (idealStream B data) ⟨0, 0⟩ g o ops OS.full).2.1 ∧
    (tarMemberRun (fileStream B) (IStream.init data) g o ops os).2.2.1 =
      (tarMemberRun (idealStream B data) ⟨0, 0⟩ g o ops OS.full).2.2.1 ∧
    TItRel (Rel B data) (tarMemberRun (fileStream B) (IStream.init data) g o ops os).2.2.2.1
      (tarMemberRun (idealStream B data) ⟨0, 0⟩ g o ops OS.full).2.2.2.1 ∧
    (tarMemberRun (fileStream B) (IStream.init data) g o ops os).2.2.2.2.1 =
      (tarMemberRun (idealStream B data) ⟨0, 0⟩ g o ops OS.full).2.2.2.2.1 ∧
    (tarMemberRun (fileStream B) (IStream.init data) g o ops os).1 =
      (tarMemberRun (fileStream B) (IStream.init data) g o ops OS.full).1 ∧
    (tarMemberRun (fileStream B) (IStream.init data) g o ops os).2.1 =
      (tarMemberRun (fileStream B) (IStream.init data) g o ops OS.full).2.1 ∧
    (tarMemberRun (fileStream B) (IStream.init data) g o ops os).2.2.1 =
      (tarMemberRun (fileStream B) (IStream.init data) g o ops OS.full).2.2.1 ∧
    (tarMemberRun (fileStream B) (IStream.init data) g o ops os).2.2.2.2.1 =
      (tarMemberRun (fileStream B) (IStream.init data) g o ops OS.full).2.2.2.2.1 := by
  obtain ⟨_, _, _, _, _, _, _, _, hI, hJ, a4⟩ := tarMemberRun_sim (file_sim B hB data) g o ops
    ⟨rel_init B data, h, noHard_full⟩
  obtain ⟨_, _, _, _, _, _, _, _, hI', hJ', _⟩ := tarMemberRun_sim (file_sim B hB data) g o ops
    ⟨rel_init B data, noHard_full, noHard_full⟩
  rw [hJ] at hJ'
  cases hJ'
  rw [hI, hJ, hI']
  exact ⟨rfl, rfl, rfl, a4, rfl, rfl, rfl, rfl, rfl⟩

/-- **`tar_member_run_decompressed_chunking_independent`.** The same member run when the archive is compressed,
the way `tar_open_stream` sets it up (iterator.c:420-449): the probe is made on the raw input, the iterator then reads
through a fresh decompressing stream around it and `tar->compressed` is set, so that `it_next`, when `read_header`
meets the end of the archive, first reads the rest of the stream to its end (`drain_compressed_stream`) and
reports an error it meets there (damaged or truncated compressed input) instead of the end of the archive.
For **every** codec, codec state, buffer sizes, input, member geometry, client history and script of short counts
and `EINTR`s: both `it_next` results — **including the error the drain reports** —, every observation of the client,
its output, and the iterator's whole bookkeeping (sticky `state`, `record_size`, `offset`, `compressed`, …; codec
state, buffer and read offset of the decompressing stream) are those of the run in which every `read` completes in
full; the raw input streams of the two runs stand at the same position of the file (both are related to the same
ideal window stream, first conjunct group). -/
theorem tar_member_run_decompressed_chunking_independent {κ : Type} (C : Codec κ) (k0 : κ) (BX limit B : Nat)
    (hB : 0 < B) (data : Bytes) (g : MemberGeom) (o : OStream) (ops : List Op) (os : OS) (h : noHard os.sc = true) :
    -- against the run over the ideal window stream (no buffer, no OS)
    ((tarMemberRunZ (fileStream B) C k0 BX limit (IStream.init data) g o ops os).1 =
      (tarMemberRunZ (idealStream B data) C k0 BX limit ⟨0, 0⟩ g o ops OS.full).1 ∧
    (tarMemberRunZ (fileStream B) C k0 BX limit (IStream.init data) g o ops os).2.1 =
      (tarMemberRunZ (idealStream B data) C k0 BX limit ⟨0, 0⟩ g o ops OS.full).2.1 ∧
    (tarMemberRunZ (fileStream B) C k0 BX limit (IStream.init data) g o ops os).2.2.1 =
      (tarMemberRunZ (idealStream B data) C k0 BX limit ⟨0, 0⟩ g o ops OS.full).2.2.1 ∧
    TItRel (XRel (Rel B data)) (tarMemberRunZ (fileStream B) C k0 BX limit (IStream.init data) g o ops os).2.2.2.1
      (tarMemberRunZ (idealStream B data) C k0 BX limit ⟨0, 0⟩ g o ops OS.full).2.2.2.1 ∧
    (tarMemberRunZ (fileStream B) C k0 BX limit (IStream.init data) g o ops os).2.2.2.2.1 =
      (tarMemberRunZ (idealStream B data) C k0 BX limit ⟨0, 0⟩ g o ops OS.full).2.2.2.2.1) ∧
    -- against the unperturbed run
    (tarMemberRunZ (fileStream B) C k0 BX limit (IStream.init data) g o ops os).1 =
      (tarMemberRunZ (fileStream B) C k0 BX limit (IStream.init data) g o ops OS.full).1 ∧
    (tarMemberRunZ (fileStream B) C k0 BX limit (IStream.init data) g o ops os).2.1 =
      (tarMemberRunZ (fileStream B) C k0 BX limit (IStream.init data) g o ops OS.full).2.1 ∧
    (tarMemberRunZ (fileStream B) C k0 BX limit (IStream.init data) g o ops os).2.2.1 =
      (tarMemberRunZ (fileStream B) C k0 BX limit (IStream.init data) g o ops OS.full).2.2.1 ∧
    (tarMemberRunZ (fileStream B) C k0 BX limit (IStream.init data) g o ops os).2.2.2.2.1 =
      (tarMemberRunZ (fileStream B) C k0 BX limit (IStream.init data) g o ops OS.full).2.2.2.2.1 ∧
    -- the sticky state of the iterator (what every later `it_next` returns), its bookkeeping and the `compressed` flag
    (tarMemberRunZ (fileStream B) C k0 BX limit (IStream.init data) g o ops os).2.2.2.1.state =
      (tarMemberRunZ (fileStream B) C k0 BX limit (IStream.init data) g o ops OS.full).2.2.2.1.state ∧
    (tarMemberRunZ (fileStream B) C k0 BX limit (IStream.init data) g o ops os).2.2.2.1.recordSize =
      (tarMemberRunZ (fileStream B) C k0 BX limit (IStream.init data) g o ops OS.full).2.2.2.1.recordSize ∧
    (tarMemberRunZ (fileStream B) C k0 BX limit (IStream.init data) g o ops os).2.2.2.1.compressed =
      (tarMemberRunZ (fileStream B) C k0 BX limit (IStream.init data) g o ops OS.full).2.2.2.1.compressed := by
  have hsim := file_sim B hB data
  obtain ⟨_, _, _, _, _, _, _, _, hI, hJ, a4⟩ := tarMemberRunZ_sim hsim C k0 BX limit g o ops
    ⟨rel_init B data, h, noHard_full⟩
  obtain ⟨_, _, _, _, _, _, _, _, hI', hJ', b4⟩ := tarMemberRunZ_sim hsim C k0 BX limit g o ops
    ⟨rel_init B data, noHard_full, noHard_full⟩
  rw [hJ] at hJ'
  cases hJ'
  rw [hI, hJ, hI']
  refine ⟨⟨rfl, rfl, rfl, a4, rfl⟩, rfl, rfl, rfl, rfl, ?_, ?_, ?_⟩
  · exact a4.state_eq.trans b4.state_eq.symm
  · exact a4.recordSize_eq.trans b4.recordSize_eq.symm
  · exact a4.compressed_eq.trans b4.compressed_eq.symm

/-- **`drain_compressed_stream_chunking_independent`.** `it_next` on an iterator whose input is compressed
(`tar->compressed`), from every pair of related states (any codec state, any buffer content of the decompressing
stream, raw input at the same position of the file): the result — end of archive, the error of a skip, of
`read_header`, or **of the drain of the rest of the compressed stream** — and the iterator afterwards are the same
under every script of short counts and `EINTR`s as over the ideal stream when the OS never splits a call. -/
theorem drain_compressed_stream_chunking_independent {κ : Type} (C : Codec κ) (BX limit B : Nat) (hB : 0 < B)
    (data : Bytes) (a : TarIt (XStream IStream κ)) (b : TarIt (XStream Ideal κ))
    (hr : TItRel (XRel (Rel B data)) a b) (os : OS) (h : noHard os.sc = true) :
    (tarNext (xfrmStream (fileStream B) C BX limit) a os).1 =
      (tarNext (xfrmStream (idealStream B data) C BX limit) b OS.full).1 ∧
    TItRel (XRel (Rel B data)) (tarNext (xfrmStream (fileStream B) C BX limit) a os).2.1
      (tarNext (xfrmStream (idealStream B data) C BX limit) b OS.full).2.1 ∧
    (tarNext (xfrmStream (fileStream B) C BX limit) a os).1 =
      (tarNext (xfrmStream (fileStream B) C BX limit) a OS.full).1 := by
  have hsim := xfrm_sim (file_sim B hB data) C BX limit
  obtain ⟨h1, r1⟩ := (tarNext_sim hsim ⟨hr, h, noHard_full⟩).fst_rel
  have h2 := (tarNext_sim hsim ⟨hr, noHard_full, noHard_full⟩).fst_rel.1
  exact ⟨h1, r1, h1.trans h2.symm⟩

/-! ### non-vacuity: concrete scripts with short counts, `EINTR` bursts and hard errors -/

-- 5 bytes at offset 2 in three pieces with EINTRs in between
example : (readAt [0,1,2,3,4,5,6,7,8] 2 5 ⟨[.part 0, .eintr, .part 1, .eintr, .eintr], []⟩).1 = .ok ∧
    (readAt [0,1,2,3,4,5,6,7,8] 2 5 ⟨[.part 0, .eintr, .part 1, .eintr, .eintr], []⟩).2.1 = [2,3,4,5,6] ∧
    (readAt [0,1,2,3,4,5,6,7,8] 2 5 ⟨[.part 0, .eintr, .part 1, .eintr, .eintr], []⟩).2.2.log.length = 6 := by decide
-- range past the end: OUT_OF_BOUNDS after the bytes that exist
example : (readAt [0,1,2,3,4] 2 5 OS.full).1 = .oob := by decide
-- a hard error is reported, not swallowed
example : (readAt [0,1,2,3,4] 2 3 ⟨[.part 0, .err], []⟩).1 = .io := by decide
-- write beyond the end zero-fills the gap
example : (writeAt [0,1,2,3,4] 5 7 [170,187,204] ⟨[.part 0, .eintr], []⟩).2.1 = [0,1,2,3,4,0,0,170,187,204] := by decide
-- a write that writes nothing is an error
example : (writeAt [0,1,2,3,4] 5 1 [170,187,204] ⟨[.part 0, .zero], []⟩).1 = .oob := by decide
-- sparse and non-sparse ostream produce the same file
example : (runOOps 0 (OStream.init false) [.data [1,2], .hole 5, .data [3], .flush] ⟨[.part 0, .eintr], []⟩).2.1.out =
    (runOOps 0 (OStream.init true) [.data [1,2], .hole 5, .data [3], .flush] ⟨[.part 0, .eintr, .part 2], []⟩).2.1.out := by decide
example : noHard [.part 0, .eintr, .part 1, .eintr, .eintr] = true := by decide
-- "ab\ncd\r\n\ne" through a 4-byte buffer fed one or two bytes at a time, with EINTRs: window, read, two lines (the empty
-- one between them skipped and counted), EOF
example : (runOps (fileStream 4) ⟨IStream.init [97,98,10,99,100,13,10,10,101], OStream.init false, 0⟩
    [.get 0, .adv 1, .get 3, .read 2, .line 7, .line 7, .line 7] ⟨[.part 0, .eintr, .part 0, .part 1], []⟩).1 =
    [.get .ok [97,98,10,99], .adv, .get .ok [98,10,99], .read (.n [98,10]), .line (.line [99,100]) 0,
     .line (.line [101]) 1, .line .eof 1] := by decide
-- the initial state is related to the ideal stream, so the `Rel` hypotheses above are satisfiable
example : Rel 4 [1,2,3] (IStream.init [1,2,3]) ⟨0, 0⟩ ∧ Iv [1,2,3] ⟨0, 0⟩ := ⟨rel_init 4 [1,2,3], by simp [Iv]⟩
-- the scanner on " ab \r\n\n x" with LTRIM|RTRIM|SKIP_EMPTY: "ab", then "x" (one empty line counted), then end
example : nextLine 7 [32,97,98,32,13,10,10,32,120] 0 = (some [97,98], [10,32,120], 0) ∧
    nextLine 7 [10,32,120] 0 = (some [120], [], 1) ∧ nextLine 7 [] 1 = (none, [], 1) := by decide
-- a sparse member (real size 9, data regions [2,5) and [7,9), record of 5 bytes + 3 unrelated bytes behind it) read
-- through a 4-byte buffer fed one byte at a time with EINTRs: holes are zeros, the data regions are the record's bytes,
-- then end-of-data; afterwards the iterator has no record bytes left
example : (runOps (tarStream (fileStream 4))
      ⟨tarOpen ⟨IStream.init [11,12,13,14,15,99,98,97], .ok, false, 5, 9, 0, 3, [⟨2,3⟩,⟨7,2⟩], false, false⟩, OStream.init false, 0⟩
      [.read 4, .get 100, .read 100, .get 1] ⟨[.part 0, .eintr, .part 0, .eintr, .eintr, .part 0], []⟩).1 =
    [.read (.n [0,0,11,12]), .get .ok [13], .read (.n [13,0,0,14,15]), .get .eof []] := by decide
example : ((runOps (tarStream (fileStream 4))
      ⟨tarOpen ⟨IStream.init [11,12,13,14,15,99,98,97], .ok, false, 5, 9, 0, 3, [⟨2,3⟩,⟨7,2⟩], false, false⟩, OStream.init false, 0⟩
      [.read 4, .get 100, .read 100, .get 1] ⟨[.part 0, .eintr, .part 0], []⟩).2.1.s.it.recordSize,
    (runOps (tarStream (fileStream 4))
      ⟨tarOpen ⟨IStream.init [11,12,13,14,15,99,98,97], .ok, false, 5, 9, 0, 3, [⟨2,3⟩,⟨7,2⟩], false, false⟩, OStream.init false, 0⟩
      [.read 4, .get 100, .read 100, .get 1] ⟨[.part 0, .eintr, .part 0], []⟩).2.1.s.alive) = (0, false) := by decide
-- the `TRel` hypothesis of `tar_member_stream_chunking_independent` is satisfiable
example : TRel (Rel 4 [1,2,3]) (tarOpen ((TarIt.init (IStream.init [1,2,3])).setMember ⟨3, 3, []⟩))
    (tarOpen ((TarIt.init (⟨0, 0⟩ : Ideal)).setMember ⟨3, 3, []⟩)) :=
  .intro (rel_init 4 [1,2,3])
-- a record that ends early is reported as corrupted, not as a short member
example : (runOps (tarStream (fileStream 4)) ⟨tarOpen ⟨IStream.init [1,2], .ok, false, 5, 5, 0, 3, [], false, false⟩, OStream.init false, 0⟩
      [.read 5] ⟨[.part 0], []⟩).1 = [.read (.fail .corrupted)] := by decide
-- after a failed `ftruncate` the descriptor stays ahead of the end of the file and the hole stays pending (unix.c:73-84)
example : (runOOpsAll (OStream.init false) [.data [1], .hole 3, .flush, .flush] ⟨[.part 0, .err], []⟩).1 = [.ok, .ok, .io, .ok] ∧
    (runOOpsAll (OStream.init false) [.data [1], .hole 3, .flush, .flush] ⟨[.part 0, .err], []⟩).2.1.out = [1,0,0,0,0,0,0] := by decide
-- skipping past the end of the input is an error (stream_api.c:56-60), whatever the chunking; skipping exactly to it is not
example : (runOps (fileStream 4) ⟨IStream.init [1,2,3,4,5,6], OStream.init false, 0⟩ [.skip 6, .skip 1]
      ⟨[.part 0, .eintr, .part 1], []⟩).1 = [.skip .ok, .skip .oob] ∧
    (runOps (fileStream 4) ⟨IStream.init [1,2,3,4,5,6], OStream.init false, 0⟩ [.skip 7] ⟨[.part 0, .eintr], []⟩).1 = [.skip .oob] := by
  decide

-- the drain reports what it meets: 1024 zero bytes (the end-of-archive marker) and one more byte through `chunkCodec`
-- (passes at most 512 bytes per call, rejects input that starts with 0xFF), file fed 600 bytes at a time with an EINTR:
-- a clean rest gives "end of archive" (1), a damaged rest the decompressor's error; without the flag the damage goes unseen
set_option maxRecDepth 20000 in
example : (tarNext (xfrmStream (fileStream 2048) chunkCodec 1024 50)
      { TarIt.init (⟨IStream.init (List.replicate 1024 0 ++ [255]), (), 0, []⟩ : XStream IStream Unit) with compressed := true }
      ⟨[.part 599, .eintr], []⟩).1 = .state (.err .compressor) ∧
    (tarNext (xfrmStream (fileStream 2048) chunkCodec 1024 50)
      { TarIt.init (⟨IStream.init (List.replicate 1024 0 ++ [7]), (), 0, []⟩ : XStream IStream Unit) with compressed := true }
      ⟨[.part 599, .eintr], []⟩).1 = .state .eof ∧
    (tarNext (xfrmStream (fileStream 2048) chunkCodec 1024 50)
      (TarIt.init (⟨IStream.init (List.replicate 1024 0 ++ [255]), (), 0, []⟩ : XStream IStream Unit))
      ⟨[.part 599, .eintr], []⟩).1 = .state .eof := by decide +kernel
-- the `TItRel` hypothesis of `drain_compressed_stream_chunking_independent` is satisfiable
example : TItRel (XRel (Rel 4 [1,2,3]))
    { TarIt.init (⟨IStream.init [1,2,3], 0, 0, []⟩ : XStream IStream Nat) with compressed := true }
    { TarIt.init (⟨⟨0, 0⟩, 0, 0, []⟩ : XStream Ideal Nat) with compressed := true } :=
  .intro ⟨rel_init 4 [1,2,3], rfl, rfl, rfl⟩

end Sqfs.C12
