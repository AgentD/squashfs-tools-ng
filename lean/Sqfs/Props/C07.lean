/-
C07 — Untrusted tar streams / description files never crash or hang the packers.

The property theorems, with instances and evaluations of the models on concrete inputs.  Four parts:
hard-link resolution (model `Sqfs/Model/HardLink.lean`: the repaired `resolve_link`, the code in /repo since 185b4ea = fixes/C07-hardlink-cycle.patch;
the loop before 185b4ea (1.2.0) is `loopCur`, refuted in `Sqfs/Witness/C07.lean`; helpers `Sqfs/Proofs/HardLink*.lean`), the parsers
(`Sqfs/Proofs/ParseTotal*.lean`, `TextParse.lean`, `C07ReadHeader.lean`), the line reader (`C07Lines.lean`) and the tar
member stream (C12's model `Sqfs/Model/C12TarStream.lean`, proved here).
-/
import Sqfs.Proofs.HardLinkTree
import Sqfs.Proofs.TextParse
import Sqfs.Proofs.C07Lines
import Sqfs.Proofs.C07ReadHeader
import Sqfs.Model.C12TarStream
namespace Sqfs.C07
open Sqfs.HardLink

/-! ## Hard-link resolution -/

/--
**`fstree_resolve_hard_links` terminates on every graph.**  For an arbitrary node list `g`
(any mixture of files, directories and hard links whose targets resolve to arbitrary nodes —
self links, cycles of any shape, chains, links to directories, dangling or out-of-range
targets), an arbitrary unresolved list `links` (any order, repetitions allowed) and arbitrary
link counts, `links.length + 2` iterations of the `for (;;)` loop are enough for every call
of the repaired `resolve_link`: the run never "is still running".
-/
theorem resolve_links_terminates (g : Graph) (links : List Nat) (counts : Nat → Nat) :
    (match resolveAllFix g (links.length + 2) (St.init counts) links with
     | .outOfFuel => False | _ => True) :=
  resolveAllWith_fix_terminates g links.length (links.length + 2) (Nat.le_refl _) links (St.init counts)
    (resOK_init g)
example := resolve_links_terminates [.dir, .hlink (.found 2), .hlink (.found 1), .hlink (.found 1)] [3, 2, 1] (fun _ => 1)

/--
**Success means every link is resolved to a real object.**  If the run succeeds, every link
on the list carries `FLAG_LINK_RESOVED` with a `target_node` that exists and is neither a
hard link nor a directory (so `serialize_fstree`/`reorder_hard_links` never dereference a
link or a dangling pointer).
-/
theorem resolve_ok_targets (g : Graph) (fuel : Nat) (links : List Nat) (counts : Nat → Nat) (st : St)
    (h : resolveAllFix g fuel (St.init counts) links = .ok st) :
    ∀ n ∈ links, ∃ t, st.resolved n = some t ∧ g[t]? = some .other := by
  have := resolveAllWith_ok g (fun res n => loopFix g res n links.length fuel n 0)
    (fun res n r hr => loopFix_brk_nonLink g res n links.length fuel n 0 r hr) links (St.init counts) st
    (by intro k t hk; cases hk) h
  obtain ⟨hres, _, hall⟩ := this
  intro n hn
  have hs := hall n hn
  cases hr : st.resolved n with
  | none => rw [hr] at hs; cases hs
  | some t => exact ⟨t, rfl, hres n t hr⟩

/-- instance: `2 -> 1`, `3 -> 2`, resolved in the order `3, 2` — the run succeeds (`decide` on its view), so the
hypothesis holds -/
example : ∃ st, resolveAllFix [.dir, .other, .hlink (.found 1), .hlink (.found 2)] 4 (St.init fun _ => 1) [3, 2] = .ok st ∧
    ∀ n ∈ [3, 2], ∃ t, st.resolved n = some t ∧
      ([.dir, .other, .hlink (.found 1), .hlink (.found 2)] : Graph)[t]? = some .other := by
  have hv : (resolveAllFix [.dir, .other, .hlink (.found 1), .hlink (.found 2)] 4 (St.init fun _ => 1) [3, 2]).view [] =
      .ok [] [] := by decide
  generalize h : resolveAllFix _ 4 _ _ = r at hv ⊢
  cases r with
  | ok st => exact ⟨st, rfl, resolve_ok_targets _ 4 [3, 2] (fun _ => 1) st h⟩
  | _ => cases hv

/--
**Exactness.**  `g` is any well-formed graph (link targets that resolve, resolve inside the graph),
`links` any list of node indices that contains every hard link of `g` (`fs->links_unresolved`, in any
order).  Then the repaired `fstree_resolve_hard_links`, run with `links.length + 2` loop iterations per
link, always finishes, and

* if it succeeds, every listed link is resolved to the node at which its chain of links *ends*
  (`EndsAt`), and that node is neither a link nor a directory;
* if it fails on link `n` with `errno = e`, every link `m` before `n` on the list has a proper end `tgt m`
  (a file), and `e` is the answer the specification `Expected` prescribes for `n` **under the link counts
  the specification itself assigns to that moment**: the initial count of a node plus the number of links in
  front of `n` (with repetitions) whose chain ends at it.  So: `EPERM` iff the chain ends at a directory,
  `ENOENT`/`ENOTDIR` iff it reaches a name that does not resolve (with that errno), `EMLINK` iff it runs into a
  cycle (through the start or not) or that count of the file it ends at is `0xFFFFFFFF`.

The counts are not existentially quantified: the only witness is `tgt`, and `EndsAt` determines it on `pre`
(`link_counts_determined`).  Together with `expected_unique` ("at most one answer meets the specification for
given counts") this is "reports `EMLINK`/`EPERM`/`ENOENT` *exactly* on cyclic or saturated/directory/dangling
targets, otherwise resolves every link to a non-link target".
-/
theorem resolve_links_exact (g : Graph) (hwf : WF g) (links : List Nat)
    (hall : ∀ k tg, g[k]? = some (.hlink tg) → k ∈ links) (hin : ∀ n ∈ links, n < g.length) (counts : Nat → Nat) :
    match resolveAllFix g (links.length + 2) (St.init counts) links with
    | .ok st => ∀ n ∈ links, ∃ t, st.resolved n = some t ∧ EndsAt g n t ∧ g[t]? = some .other
    | .err n e => ∃ (pre post : List Nat) (tgt : Nat → Nat), links = pre ++ n :: post ∧
        (∀ m ∈ pre, EndsAt g m (tgt m) ∧ g[tgt m]? = some .other) ∧
        Expected g (fun t => counts t + pre.countP (fun m => tgt m = t)) n (none, some e)
    | .outOfFuel => False
    | .badIndex => False := by
  have hc0 : Cons g links (St.init counts).resolved :=
    ⟨(fun k t h => by cases h), fun k tg hk _ => hall k tg hk⟩
  have h := resolveAll_sound g hwf links (links.length + 2) (Nat.le_refl _) links (St.init counts) hc0 hin
  unfold resolveAllFix
  cases hr : resolveAllWith g (fun res n => loopFix g res n links.length (links.length + 2) n 0) (St.init counts) links with
  | outOfFuel | badIndex => rw [hr] at h; exact h
  | err n e =>
    rw [hr] at h
    obtain ⟨pre, post, h⟩ := h
    exact ⟨pre, post, endOf g, h⟩
  | ok st =>
    rw [hr] at h
    have ht := resolve_ok_targets g (links.length + 2) links counts st hr
    intro n hn
    obtain ⟨t, h1, h2⟩ := ht n hn
    exact ⟨t, h1, h.ends n t h1, h2⟩

/-- instance: the graph `1 = file, 2 -> 1, 3 -> 4, 4 -> 3 (cycle), 5 -> 3 (runs into
the cycle), 6 dangling` with the list of all its links -/
example :=
  resolve_links_exact
    [.dir, .other, .hlink (.found 1), .hlink (.found 4), .hlink (.found 3), .hlink (.found 3), .hlink (.fail .ENOENT)]
    (.of_all (by decide))
    [2, 3, 4, 5, 6]
    (by
      intro k tg h
      match k, h with
      | 0, h => cases h
      | 1, h => cases h
      | 2, _ => simp
      | 3, _ => simp
      | 4, _ => simp
      | 5, _ => simp
      | 6, _ => simp
      | n + 7, h => simp at h)
    (by decide) (fun _ => 1)

/-- the `EMLINK` clause bites on link counts: two links to one file whose `link_count` is one below the limit — the
first is resolved, the second is refused with `EMLINK`, and `resolve_links_exact` says that is the *only* admissible
answer (`counts 1 + 1 = 0xFFFFFFFF`, no cycle) -/
example : (resolveAllFix [.dir, .other, .hlink (.found 1), .hlink (.found 1)] 4
      (St.init (fun _ => linkCountMax - 1)) [3, 2]).view [] = .err 2 .EMLINK := by decide

/-- the link counts named in the failure clause of `resolve_links_exact` are determined by the graph and the list: any
two functions `tgt`, `tgt'` that send every link of `pre` to the end of its chain count the same number of links
ending at each node (the end of a chain is unique) -/
theorem link_counts_determined (g : Graph) (pre : List Nat) (tgt tgt' : Nat → Nat)
    (h : ∀ m ∈ pre, EndsAt g m (tgt m)) (h' : ∀ m ∈ pre, EndsAt g m (tgt' m)) (t : Nat) :
    pre.countP (fun m => tgt m = t) = pre.countP (fun m => tgt' m = t) :=
  countP_ends_unique h h' t

/-- instance: `2 -> 1`, `3 -> 2` both end at the file 1; the two descriptions of that differ off the list only -/
example :=
  link_counts_determined [.dir, .other, .hlink (.found 1), .hlink (.found 2)] [3, 2] (fun _ => 1)
    (fun m => if m = 0 then 7 else 1)
    (by
      intro m hm
      simp only [List.mem_cons, List.not_mem_nil, or_false] at hm
      rcases hm with rfl | rfl
      · exact ⟨.step (j := 2) rfl (.step (j := 1) rfl (.refl 1)), Or.inl rfl⟩
      · exact ⟨.step (j := 1) rfl (.refl 1), Or.inl rfl⟩)
    (by
      intro m hm
      simp only [List.mem_cons, List.not_mem_nil, or_false] at hm
      rcases hm with rfl | rfl
      · exact ⟨.step (j := 2) rfl (.step (j := 1) rfl (.refl 1)), Or.inl rfl⟩
      · exact ⟨.step (j := 1) rfl (.refl 1), Or.inl rfl⟩)
    1

/--
The same, for exactly what the driver/harness run: any tree state of the model of
`fstree_add_generic` (`t ≠ []`: there is a root), its graph `Tree.toGraph t` and its
`links_unresolved` list `Tree.links t`, the counts being the nodes' `link_count`s or anything else.  No further
hypothesis.
-/
theorem resolve_tree_exact (t : Tree.T) (hne : t ≠ []) (counts : Nat → Nat) :
    match resolveAllFix (Tree.toGraph t) ((Tree.links t).length + 2) (St.init counts) (Tree.links t) with
    | .ok st => ∀ n ∈ Tree.links t, ∃ tg, st.resolved n = some tg ∧ EndsAt (Tree.toGraph t) n tg ∧
        (Tree.toGraph t)[tg]? = some .other
    | .err n e => ∃ (pre post : List Nat) (tgt : Nat → Nat), Tree.links t = pre ++ n :: post ∧
        (∀ m ∈ pre, EndsAt (Tree.toGraph t) m (tgt m) ∧ (Tree.toGraph t)[tgt m]? = some .other) ∧
        Expected (Tree.toGraph t) (fun k => counts k + pre.countP (fun m => tgt m = k)) n (none, some e)
    | .outOfFuel => False
    | .badIndex => False :=
  resolve_links_exact (Tree.toGraph t) (Tree.toGraph_wf t hne) (Tree.links t) (Tree.links_complete t)
    (Tree.links_lt t) counts

/-- instance: the tree `/`, file `b`, `c -> b`, `a -> c`, `d -> d` (a self link), with the tree's own link counts
(`links_unresolved` is newest first, so the self link `d` comes first and is refused: second example) -/
example :=
  resolve_tree_exact
    [⟨0, [], .dir, true, [], 2⟩, ⟨0, [98], .other, false, [], 1⟩, ⟨0, [99], .hlink, false, [98], 1⟩,
     ⟨0, [97], .hlink, false, [99], 1⟩, ⟨0, [100], .hlink, false, [100], 1⟩]
    (by decide)
    (Tree.counts [⟨0, [], .dir, true, [], 2⟩, ⟨0, [98], .other, false, [], 1⟩, ⟨0, [99], .hlink, false, [98], 1⟩,
     ⟨0, [97], .hlink, false, [99], 1⟩, ⟨0, [100], .hlink, false, [100], 1⟩])
example :
    let t : Tree.T := [⟨0, [], .dir, true, [], 2⟩, ⟨0, [98], .other, false, [], 1⟩, ⟨0, [99], .hlink, false, [98], 1⟩,
      ⟨0, [97], .hlink, false, [99], 1⟩, ⟨0, [100], .hlink, false, [100], 1⟩]
    Tree.toGraph t = [.dir, .other, .hlink (.found 1), .hlink (.found 2), .hlink (.found 4)] ∧ Tree.links t = [4, 3, 2] ∧
    (resolveAllFix (Tree.toGraph t) 5 (St.init (Tree.counts t)) (Tree.links t)).view [] = .err 4 .EMLINK := by decide
/-- … and without the self link the two remaining links are resolved to `b`, whose count goes from 1 to 3 -/
example :
    let t : Tree.T := [⟨0, [], .dir, true, [], 2⟩, ⟨0, [98], .other, false, [], 1⟩, ⟨0, [99], .hlink, false, [98], 1⟩,
      ⟨0, [97], .hlink, false, [99], 1⟩]
    (resolveAllFix (Tree.toGraph t) 4 (St.init (Tree.counts t)) (Tree.links t)).view [3, 2, 1] =
      .ok [some 1, some 1, none] [1, 1, 3] := by decide

/-- the specification admits at most one answer per link (so `resolve_links_exact` determines the answer) -/
theorem expected_unique (g : Graph) (cnt : Nat → Nat) (n : Nat) (o o' : Option Nat × Option Errno)
    (h : Expected g cnt n o) (h' : Expected g cnt n o') : o = o' := h.unique h'

/-- instance: `2 -> 1` with file 1 at the limit — success and `EMLINK` cannot both be expected -/
example :=
  expected_unique [.dir, .other, .hlink (.found 1)] (fun _ => linkCountMax) 2 (none, some .EMLINK) (none, some .EMLINK)
    (Or.inr ⟨1, ⟨.step (j := 1) rfl (.refl 1), Or.inl rfl⟩, rfl, rfl⟩)
    (Or.inr ⟨1, ⟨.step (j := 1) rfl (.refl 1), Or.inl rfl⟩, rfl, rfl⟩)

/-- the three fates of a chain of links exclude one another -/
theorem chain_fates_exclusive (g : Graph) (i : Nat) :
    (∀ t, EndsAt g i t → ¬ Cyclic g i) ∧ (∀ t e, EndsAt g i t → ¬ Dangling g i e) ∧
    (∀ e, Dangling g i e → ¬ Cyclic g i) :=
  ⟨fun _ h => h.not_cyclic, fun _ _ h => h.not_dangling, fun _ h => h.not_cyclic⟩

/--
The executable classifier `specClass` (used by the check to judge the answers of the *real* code)
decides the relational specification: following at most `|g| + 1` links from any node of a
well-formed graph tells which of the three fates holds.
-/
theorem specClass_sound (g : Graph) (hwf : WF g) (i : Nat) (hi : i < g.length) :
    match specClass g i with
    | .endsAt t => EndsAt g i t
    | .dangling e => Dangling g i e
    | .cyclic => Cyclic g i
    | .escapes => False :=
  classify_sound g hwf i (g.length + 1) i [] .nil (Nat.zero_add _) hi

/-- instance: node 3 of `1 = file, 2 -> 3, 3 -> 2` lies on a cycle -/
example := specClass_sound [.dir, .other, .hlink (.found 3), .hlink (.found 2)]
  (.of_all (by decide))
  3 (by decide)

/-! ### non-vacuity -/

-- a well-formed graph with all three fates: 1 = file, 2 -> 1, 3 -> 4, 4 -> 3 (cycle), 5 -> 3 (runs into it), 6 dangling
example : WF [.dir, .other, .hlink (.found 1), .hlink (.found 4), .hlink (.found 3), .hlink (.found 3),
    .hlink (.fail .ENOENT)] := .of_all (by decide)
example : (specClass [.dir, .other, .hlink (.found 1), .hlink (.found 4), .hlink (.found 3), .hlink (.found 3),
    .hlink (.fail .ENOENT)]) 2 = .endsAt 1 := by decide
example : (specClass [.dir, .other, .hlink (.found 1), .hlink (.found 4), .hlink (.found 3), .hlink (.found 3),
    .hlink (.fail .ENOENT)]) 5 = .cyclic := by decide


-- root, file `b`, `c -> b`, `a -> c`, dir `d`, `d/e -> a`: all three links end at `b` (link_count 4)
example : (resolveAllFix [.dir, .other, .hlink (.found 1), .hlink (.found 2), .dir, .hlink (.found 3)] 5
      (St.init (fun _ => 1)) [5, 3, 2]).view [5, 3, 2, 1] = .ok [some 1, some 1, some 1, none] [1, 1, 1, 4] := by decide
-- self link, link to a directory, dangling link, cycle away from the start (D12's graph)
example : (resolveAllFix [.dir, .hlink (.found 1)] 3 (St.init (fun _ => 1)) [1]).view [] = .err 1 .EMLINK := by decide
example : (resolveAllFix [.dir, .hlink (.found 0)] 3 (St.init (fun _ => 1)) [1]).view [] = .err 1 .EPERM := by decide
example : (resolveAllFix [.dir, .hlink (.fail .ENOENT)] 3 (St.init (fun _ => 1)) [1]).view [] = .err 1 .ENOENT := by decide
example : (resolveAllFix [.dir, .hlink (.found 2), .hlink (.found 1), .hlink (.found 1)] 5 (St.init (fun _ => 1))
      [3, 2, 1]).view [] = .err 3 .EMLINK := by decide


/-! ## Parser totality and bounds

Every model function below performs each `*p` of the C code as a checked access of the buffer it
is given and each loop with explicit fuel; `.safe` = "no access outside the buffer, and the loop
has ended".  All theorems quantify over **every** buffer content.
-/
section Parsers
open Sqfs.ParseTotal

/-- `read_number` reads only the `digits` bytes of its field, whatever they contain (octal, blanks,
base-256 with either sign, garbage).  (Model of the current `read_binary`; the 1.2.0 guard is in `Witness/C07.lean`.) -/
theorem read_number_in_bounds (buf : Bytes) (i digits : Nat) (hd : 0 < digits)
    (h : i + digits ≤ buf.length) : (readNumber buf i digits).safe :=
  readNumber_safe buf i digits hd h
example := read_number_in_bounds [0x80, 0, 0, 0, 0, 0, 1, 0] 0 8 (by decide) (by decide)

/-- the overflow guard of `read_octal` is sound: an accepted value fits `sqfs_u64` (no bit was shifted out) -/
theorem read_octal_no_wrap (buf : Bytes) (i digits v : Nat) (h : readOctal buf i digits = .ok v) : v < U64 := by
  unfold readOctal at h
  split at h
  · exact octLoop_fits buf _ _ 0 v (by simp [U64]) h
  all_goals cases h
example := read_octal_no_wrap [48, 48, 48, 49, 50, 51, 52, 0] 0 8 668 (by decide)

/-- `parse_uint`/`parse_uint_oct` with an explicit length stay inside `len` bytes; the value fits 64 bits
and `*diff ≤ len` -/
theorem parse_uint_in_bounds_len (base : Nat) (buf : Bytes) (i n : Nat) (wantDiff : Bool) (vmin vmax : Nat)
    (h : i + n ≤ buf.length) :
    (parseU base buf i (some n) wantDiff vmin vmax).safe ∧
    ∀ v d, parseU base buf i (some n) wantDiff vmin vmax = .ok (v, d) → v < U64 ∧ d ≤ n :=
  have hs := parseU_spec base buf i (some n) wantDiff vmin vmax (i + n) (.ofLen h)
  ⟨hs.1, fun v d e => ⟨(hs.2 (v, d) e).1, Nat.le_of_add_le_add_left (hs.2 (v, d) e).2⟩⟩
example := parse_uint_in_bounds_len 10 [49, 50, 51, 44, 0] 0 4 true 0 0 (by decide)

/-- … and with `len = (size_t)-1` they never pass the string's terminator -/
theorem parse_uint_in_bounds_nul (base : Nat) (buf : Bytes) (i k : Nat) (wantDiff : Bool) (vmin vmax : Nat)
    (hik : i ≤ k) (hk : buf[k]? = some 0) :
    (parseU base buf i none wantDiff vmin vmax).safe ∧
    ∀ v d, parseU base buf i none wantDiff vmin vmax = .ok (v, d) → v < U64 ∧ i + d ≤ k :=
  have hs := parseU_spec base buf i none wantDiff vmin vmax k (.ofNul hik hk)
  ⟨hs.1, fun v d e => hs.2 (v, d) e⟩
example := parse_uint_in_bounds_nul 10 [49, 50, 51, 44, 0] 0 4 true 0 0 (by decide) (by decide)

/-- `parse_int`, both calling conventions -/
theorem parse_int_in_bounds (buf : Bytes) (i : Nat) (wantDiff : Bool) :
    (∀ n, i + n ≤ buf.length → (parseI buf i (some n) wantDiff).safe) ∧
    (∀ k, i ≤ k → buf[k]? = some 0 → (parseI buf i none wantDiff).safe) :=
  ⟨fun n h => parseI_safe buf i (some n) wantDiff (i + n) (.ofLen h), fun k hik hk => parseI_safe buf i none wantDiff k (.ofNul hik hk)⟩
-- "-23," with an explicit length and NUL-terminated
example := (parse_int_in_bounds [45, 50, 51, 44, 0] 0 true).1 4 (by decide)
example := (parse_int_in_bounds [45, 50, 51, 44, 0] 0 true).2 4 (by decide) (by decide)
example : parseI [45, 50, 51, 44, 0] 0 none true = .ok (-23, 3) := by decide

/-- `hex_decode` reads only `in_sz` input bytes and writes at most `out_sz` output bytes -/
theorem hex_decode_bounds (buf : Bytes) (i inSz outSz : Nat) (h : i + inSz ≤ buf.length) :
    (hexDecode buf i inSz outSz []).safe ∧ ∀ out, hexDecode buf i inSz outSz [] = .ok out → out.length ≤ outSz :=
  have hs := hexDecode_spec buf outSz i inSz [] h
  ⟨hs.1, fun out ho => by simpa using hs.2 out ho⟩
-- "AB01" into a 2-byte buffer
example := hex_decode_bounds [65, 66, 48, 49] 0 4 2 (by decide)
example : hexDecode [65, 66, 48, 49] 0 4 2 [] = .ok [0xAB, 0x01] := by decide

/-- `base64_decode` reads only `in_len` input bytes and never writes more than `*out_len` output bytes -/
theorem base64_decode_bounds (buf : Bytes) (i inLen cap : Nat) (h : i + inLen ≤ buf.length) :
    (base64Decode buf i inLen cap).safe ∧ ∀ out, base64Decode buf i inLen cap = .ok out → out.length ≤ cap :=
  base64Decode_spec buf i inLen cap h
example := base64_decode_bounds [81, 85, 74, 68] 0 4 3 (by decide)

/--
`split_line` on **any** line content and separator set: all accesses stay inside the `len + 1` byte object
(the last terminator may land on index `len`), the write cursor never passes the read cursor (`SLInv`,
used inside the proof), the loops end, and there are at most `len` tokens.
-/
theorem split_line_total (buf : Bytes) (len : Nat) (sep : Bytes) (h : len + 1 ≤ buf.length) :
    (splitLine buf len sep).safe ∧
    ∀ s, splitLine buf len sep = .ok s → s.args.length ≤ len ∧ s.buf.length = buf.length :=
  show (splitLine buf len sep).Sat (SLDone buf.length len) by
  unfold splitLine
  refine (slSkip_spec sep buf.length len (by omega) (len + 1)
    { buf := buf, src := 0, dst := 0, len := len, args := [] } (Nat.le_refl _) ⟨Nat.zero_add _, Nat.le_refl _, rfl⟩).seq
    (fun s1 ⟨hs, ha, _, hn⟩ => ?_) (fun _ => .fail)
  have := hs.pos
  exact slOuter_spec sep buf.length len (by omega) (len + 1) s1 (by omega)
    ⟨hs.pos, hs.blen, by rw [ha, List.length_nil]; omega, .inl hs.dle, hn⟩
example := split_line_total [97, 32, 34, 98, 32, 99, 34, 0] 7 [32, 9] (by decide)

/--
`read_pax_header` (current code, i.e. with /repo 56b164f) on **any** record of any length: every access —
`strtol`, the length/terminator stores, key scan, every handler (`parse_uint`, `parse_int`, the in-place
base-64 decoder, `GNU.sparse.map`) — stays inside the `entsize + 1` bytes that `record_to_memory`
allocated, and the record loop ends.  For the 1.2.0 code this is false: `Witness.pax_use_after_free`.
-/
theorem read_pax_header_total (record : Bytes) : (readPaxHeader record).safe :=
  readPaxHeader_safe record
example := read_pax_header_total [49, 50, 32, 97, 61, 98, 10]     -- "12 a=b\n": a length field that overshoots the record

/--
`read_gnu_new_sparse` on **any** stream and record size: `decode` never reads outside the 1024-byte window
(the refill always leaves `1 ≤ diff ≤ 512`, `refill_progress`), and an accepted map has between 1 and
`TAR_MAX_SPARSE_ENT` entries.
-/
theorem sparse_map_new_bounds (stream : Bytes) (recordSize : Nat) :
    (readGnuNewSparse stream recordSize).safe ∧
    ∀ m rs rest, readGnuNewSparse stream recordSize = .ok (m, rs, rest) →
      1 ≤ m.length ∧ m.length ≤ Sqfs.Consts.tarMaxSparseEnt :=
  have hs := readGnuNewSparse_spec stream recordSize
  ⟨hs.1, fun m rs rest e => hs.2 (m, rs, rest) e⟩
example := sparse_map_new_bounds ([49, 10, 48, 10, 53, 10] ++ List.replicate 600 0) 512    -- "1\n0\n5\n": one entry

/-- `read_gnu_old_sparse`: the 4 + 21·n entries are read inside the 512-byte header / extension records, and the
extension loop ends (one record is consumed per round) -/
theorem sparse_map_old_bounds (hdr stream : Bytes) (h : hdr.length = Sqfs.Consts.sizeofTarHeader) :
    (readGnuOldSparse hdr stream).safe :=
  readGnuOldSparse_safe hdr stream h
-- a 512-byte header full of '0' digits, three bytes of stream
-- (applied at reducible transparency, under a stated type: elaborating the bare application would evaluate `.safe` on the
-- literal header, as would any term elaborated against that type other than a tactic block)
set_option maxRecDepth 100000 in
example := (by with_reducible exact sparse_map_old_bounds _ _ (List.length_replicate ..) :
  (readGnuOldSparse (List.replicate 512 48) [1, 2, 3]).safe)

/-- `decode_filename` (sort file) on any NUL-terminated line: no read and no store outside the line and its terminator, and the
loop ends (inside the proof, `dfLoop_safe`: reads stop at the terminator, stores land strictly behind the read cursor) -/
theorem decode_filename_bounds (buf : Bytes) (k : Nat) (hk : buf[k]? = some 0) : (decodeFilename buf).safe := by
  have hklt := getElem?_lt hk
  unfold decodeFilename
  refine of_get (by omega) fun c hc => iteInduction (fun hq => ?_) (fun _ => trivial)
  have := lt_nul hk (Nat.zero_le _) hc (by rintro rfl; simp at hq)
  exact dfLoop_safe k (buf.length + 1) 1 (by omega) buf 0 hk (by omega) (by omega)
-- `a\n` NUL-terminated
example := decode_filename_bounds [97, 92, 110, 0] 3 (by decide)

/-- `decode` (xattr map file: `0x…`, `0s…`, quoted text with `\\`, `\"`, octal escapes) on any NUL-terminated value:
reads stay inside `value[0 .. strlen(value)]`, and at most `strlen(value)` bytes go into the `strlen(value)+1` byte output -/
theorem xattr_decode_bounds (buf : Bytes) (hne : buf ≠ []) (hlast : buf[buf.length - 1]? = some 0) : (xattrDecode buf).safe := by
  have hlen : 0 < buf.length := List.length_pos_iff.2 hne
  unfold xattrDecode
  simp only []
  refine iteInduction (fun _ => trivial) (fun hs0 => ?_)
  refine of_get2 (by omega) (by omega) fun c0 c1 => iteInduction (fun _ => (hexDecode_spec buf _ 2 _ [] (by omega)).1) (fun _ =>
    iteInduction (fun _ => (base64Decode_spec buf 2 _ _ (by omega)).1) (fun _ => ?_))
  refine of_get (by omega) fun l _ => ?_
  -- with the quotes stripped or not, the scan ends at or in front of the terminator; where it starts does not matter
  refine (xdLoop_spec buf _ _ hlast (by split <;> omega) _ _ (by omega) []).seq
    (fun out hb => iteInduction (fun hgt => ?_) (fun _ => trivial)) (fun _ => trivial)
  simp only [List.length_nil, Nat.zero_add] at hb
  omega
example := xattr_decode_bounds [34, 97, 92, 49, 48, 49, 92, 92, 34, 0] (by decide) (by decide)

/--
**`read_header` on any byte stream.**  The `for (;;)` loop over 512-byte records (zero records, magic and checksum
test, `L` / `K` / `x` / `g` extension records, old and new GNU sparse maps, `decode_header`) has ended after
`stream.length / 512 + 2` rounds — every round consumes a record, so no sequence of extension records keeps it busy —,
no header field is read outside the 512-byte header, no `x` record outside its `size + 1` byte buffer (the name in an `L` / `K`
record is taken by `cstrOf`, which has no access to check: `cstr_record_safe`), and every size it
hands to `record_to_memory` (`malloc(size + 1)`) lies between 1 and the largest of `TAR_MAX_SYMLINK_LEN`,
`TAR_MAX_PATH_LEN`, `TAR_MAX_PAX_LEN`, whatever the size fields claim (octal, base-256, 2^64 − 1, …).
-/
theorem read_header_total (stream : Bytes) :
    (match (readHeader stream).res with | .oob => False | .spin => False | _ => True) ∧
    ∀ n ∈ (readHeader stream).allocs, 1 ≤ n ∧
      n ≤ max Sqfs.Consts.tarMaxSymlinkLen (max Sqfs.Consts.tarMaxPathLen Sqfs.Consts.tarMaxPaxLen) :=
  rhLoop_good _ (by omega) (by omega) (by omega) _ stream (by omega) {} false [] (by intro n h; cases h)

/-! ### non-vacuity -/
/-- a GNU long-name record (14 bytes, one allocation) in front of a ustar member `short` with 3 bytes of data, end marker -/
def rhExample : Bytes := [46] ++ [47] ++ [46] ++ [47] ++ [64] ++ [76] ++ [111] ++ [110] ++ [103] ++ [76] ++ [105] ++ [110] ++ [107] ++ List.replicate 87 0 ++ [48, 48, 48, 48] ++ [54] ++ [52, 52] ++ [0] ++ List.replicate 7 48 ++ [0] ++ List.replicate 7 48 ++ [0] ++ List.replicate 9 48 ++ [49] ++ [54] ++ [0] ++ List.replicate 11 48 ++ [0] ++ [48] ++ [49] ++ [48, 48] ++ [51] ++ [48] ++ [0] ++ [32] ++ [76] ++ List.replicate 100 0 ++ [117] ++ [115] ++ [116] ++ [97] ++ [114] ++ [0] ++ [48, 48] ++ List.replicate 247 0 ++ [100] ++ [105] ++ [114] ++ [47] ++ [108] ++ [111] ++ [110] ++ [103] ++ [45] ++ [110] ++ [97] ++ [109] ++ [101] ++ List.replicate 499 0 ++ [115] ++ [104] ++ [111] ++ [114] ++ [116] ++ List.replicate 95 0 ++ [48, 48, 48, 48] ++ [54] ++ [52, 52] ++ [0] ++ List.replicate 7 48 ++ [0] ++ List.replicate 7 48 ++ [0] ++ List.replicate 10 48 ++ [51] ++ [0] ++ List.replicate 11 48 ++ [0] ++ [48, 48] ++ [55] ++ [48] ++ [50] ++ [48] ++ [0] ++ [32] ++ [48] ++ List.replicate 100 0 ++ [117] ++ [115] ++ [116] ++ [97] ++ [114] ++ [0] ++ [48, 48] ++ List.replicate 247 0 ++ [97] ++ [98] ++ [99] ++ List.replicate 1533 0
example : (match (readHeader rhExample).res with
    | .ok t rest => decide (t.name = [100, 105, 114, 47, 108, 111, 110, 103, 45, 110, 97, 109, 101] ∧ t.recordSize = 3 ∧ rest.length = 1536)
    | _ => false) = true ∧ (readHeader rhExample).allocs = [14] := by
  -- `rhExample` is a left-nested chain of ninety `++`: evaluated as it stands, every byte is handed up through all the
  -- layers above it.  Nest it to the right first (on a variable: a change of `rhExample` inside the statement would
  -- have to be checked by evaluating `readHeader` once more).
  generalize hs : rhExample = s
  unfold rhExample at hs
  repeat rw [List.append_assoc] at hs
  subst hs
  decide +kernel
example : xattrDecode [34, 97, 92, 49, 48, 49, 92, 92, 34, 0] = .ok [97, 65, 92] := by decide
example : readNumber [48, 48, 48, 49, 50, 51, 52, 0] 0 8 = .ok 668 := by decide
example : readNumber [0x80, 0, 0, 0, 0, 0, 1, 0] 0 8 = .ok 256 := by decide
example : readNumber [0xff, 0xff, 0xff, 0xff, 0xff, 0xff, 0xff, 0xfe] 0 8 = .ok (U64 - 2) := by decide          -- −2
example : readNumber [0xff, 0x00, 0xff, 0x80, 0x00, 0x7f, 0x64, 0xe0, 0xff] 0 9 = .fail 1 := by decide    -- 1.2.0 let this one wrap
example : (parseU 10 [49, 50, 51, 44, 0] 0 none true 0 0) = .ok (123, 3) := by decide
example : base64Decode [81, 85, 74, 68] 0 4 3 = .ok [65, 66, 67] := by decide
example : base64Decode [81, 85, 74, 68] 0 4 2 = .fail 1 := by decide
example : (match splitLine [97, 32, 34, 98, 32, 99, 34, 0] 7 [32, 9] with | .ok s => s.args.length | _ => 99) = 2 := by decide

end Parsers

/-! ## Reading a text input line by line (`istream_get_line` and its callers' loop) -/
section Lines
open Sqfs.IoLoops Sqfs.C07Lines

/--
**Pack, sort and xattr map files of any size and shape are read to the end, the same way for every buffering.**
`readFileOS B flags data os` is the loop `for (;;) { istream_get_line(…); … ++line_num; }` of
`fstree_from_file_stream` / `xattr_open_map_file` / the sort file reader over the real buffered file stream
(`istream.c`, buffer size `B`) and the real `istream_get_line` (`get_line.c`: a line is collected from as many buffer
windows as it takes).  For **every** file content, every buffer size `B > 0`, every flag set and every script of short
reads / `EINTR`s: the loop is not still running after `data.length + 2` calls (no endless loop, whatever the
lines look like: longer than the buffer, straddling a buffer boundary, CR/LF split across two windows, no final
newline, NUL bytes), it does not fail, and the caller sees exactly the lines — with the line numbers — of the
byte-at-a-time specification `specFile`, in which neither `B` nor the script occurs.
-/
theorem read_lines_chunking_independent (B : Nat) (hB : 0 < B) (flags : Nat) (data : Bytes) (os : OS)
    (h : noHard os.sc = true) :
    readFileOS B flags data os = specFile flags data ∧ (specFile flags data).err = none :=
  ⟨readLines_file B hB data flags (data.length + 2) (IStream.init data) ⟨0, 0⟩ 1 os [] (rel_init B data) (Nat.zero_le _) h,
    specLines_no_fuel flags _ data (by omega) 1 []⟩
example := read_lines_chunking_independent 4 (by decide) 5 [32, 97, 98, 99, 100, 101, 13, 10, 10, 120]
  ⟨[.part 0, .eintr, .part 2], []⟩ (by decide)

/-! ### non-vacuity -/
-- buffer of 4 bytes, a line longer than the buffer, CR LF split across two windows, an empty line that is skipped and counted
example : readFile 4 5 [32, 97, 98, 99, 100, 101, 13, 10, 10, 120] =
    ⟨none, [([97, 98, 99, 100, 101], 1), ([120], 3)], 4⟩ := by decide
example : specFile 5 [32, 97, 98, 99, 100, 101, 13, 10, 10, 120] =
    ⟨none, [([97, 98, 99, 100, 101], 1), ([120], 3)], 4⟩ := by decide
-- a script with a short read and an EINTR satisfies the hypothesis
example : noHard (⟨[.part 0, .eintr, .part 2], []⟩ : OS).sc = true := by decide

end Lines

/-! ## What the tar member stream hands out (`strm_get_buffered_data`, lib/tar/src/iterator.c) -/
section MemberStream
open Sqfs.IoLoops Sqfs.IoLoops.Spec

/--
**Whatever size a caller asks for, the tar member stream never hands out more than its buffer holds.**
`tarGet I x want os` is `strm_get_buffered_data` of the member stream `tar2sqfs` reads the content of an archive
member through (model: `Sqfs/Model/C12TarStream.lean`, tied to the code by C12's `tarstrm` scenarios and by C07's
`ms` lines with request sizes up to 1 MiB).  For **every** archive stream `I`, every state of the iterator (any
sparse map, any offset), **every** request size `want` — `tar2sqfs -b` makes `write_file` ask for a whole data
block, up to 1 MiB — and every OS script: the window has at most `want` bytes; and when the position lies in a
hole of a sparse member (`last_sparse`), the window is at most 4096 bytes (`sizeof(tar->buffer)`, the zero-filled
array inside the stream object it is served from) and consists of zero bytes only.  Outside a hole the model's
window is `take diff` of the window of the wrapped archive stream (read off `tarGet`, not a clause of the statement), so it lies inside that
stream's buffer if the archive stream's own window does (file istream: C12 `istream` scenarios; `want` is clamped to `BUFSZ` there).
-/
theorem tar_member_window_bounded {σ : Type} (I : StreamI σ) (x : TarStrm σ) (want : Nat) (os : OS) :
    (tarGet I x want os).2.1.length ≤ want ∧
    ((tarGet I x want os).2.2.1.it.lastSparse = true →
      (tarGet I x want os).2.1.length ≤ 4096 ∧
      (tarGet I x want os).2.1 = List.replicate (tarGet I x want os).2.1.length 0) := by
  -- the early returns (cases 1–4) and the two failures of the archive stream (6, 7) hand out the empty window
  fun_cases tarGet I x want os
  · simp
  · simp
  · simp
  · simp
  · -- in a hole: zeros, served from the 4096-byte array
    rename_i r _ _ diff _
    have hd : diff ≤ want := by show (if r.2 > want then want else r.2) ≤ want; split <;> omega
    simp only [List.length_replicate]
    exact ⟨by split <;> omega, fun _ => ⟨by split <;> omega, trivial⟩⟩
  · simp
  · simp
  · -- outside a hole: a prefix of the archive stream's window, and `last_sparse` is off
    rename_i r _ _ diff hh _ _ _ _
    have hd : diff ≤ want := by show (if r.2 > want then want else r.2) ≤ want; split <;> omega
    simp only [List.length_take]
    exact ⟨by omega, fun h => absurd h hh⟩

/-! ### non-vacuity: a member of 2 MiB that is one hole, a request of 1 MiB (`tar2sqfs -b 1M`): 4096 zero bytes -/
example : (tarGet (idealStream 4096 []) (tarOpen ((TarIt.init (⟨0, 0⟩ : Ideal)).setMember ⟨0, 2097152, [⟨2097152, 0⟩]⟩))
    1048576 OS.full).2.1 = List.replicate 4096 0 := by rfl
example : (tarGet (idealStream 4096 []) (tarOpen ((TarIt.init (⟨0, 0⟩ : Ideal)).setMember ⟨0, 2097152, [⟨2097152, 0⟩]⟩))
    1048576 OS.full).2.2.1.it.lastSparse = true := by rfl
example := tar_member_window_bounded (idealStream 4096 [])
  (tarOpen ((TarIt.init (⟨0, 0⟩ : Ideal)).setMember ⟨0, 2097152, [⟨2097152, 0⟩]⟩)) 1048576 OS.full

end MemberStream

end Sqfs.C07
