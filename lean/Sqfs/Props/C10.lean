/-
C10 — Reader answers depend only on image and query, never on earlier queries.

Property theorems only (helpers: `Sqfs/Proofs/MetaView.lean`, `MetaReader.lean`, `DataReaderCache.lean`, `C10Prog.lean`, `C10Data.lean`).
-/
import Sqfs.Proofs.MetaReader
import Sqfs.Proofs.DataReaderCache
import Sqfs.Proofs.C10Prog
import Sqfs.Proofs.C10Data
namespace Sqfs.C10
open Sqfs.MetaReader Sqfs.Consts Sqfs.C10P

/-! ### fixtures for the instantiating examples that follow the theorems

The toy codec of the harness with the proof that it meets the contract `CodecOK`, and the small images the examples
run on (metadata blocks stored uncompressed; `bad` marks positions that answer with an I/O error). -/

/-- the toy codec of the harness meets the contract -/
theorem toyUnc_ok : CodecOK toyUnc := by
  -- every arm is a size test in front of an output of the tested size, or the error code
  refine ⟨fun x n out h => ?_, fun x n e h => ?_⟩
  · revert h
    fun_cases toyUnc x n <;> intro h <;> cases h
    all_goals simpa using ‹_ ≤ n›
  · revert h
    fun_cases toyUnc x n <;> intro h <;> cases h
    all_goals decide

/-- block A "abcd" at 0, block B "xy" at 6 (both stored uncompressed) -/
private def exFile : File :=
  { size := 10, byte := fun i => ([0x04, 0x80, 0x61, 0x62, 0x63, 0x64, 0x02, 0x80, 0x78, 0x79] : List UInt8).getD i 0,
    bad := fun _ => false }
/-- the same with an I/O error at byte 8 (inside block B's payload) -/
private def badFile : File := { exFile with bad := fun i => i == 8 }
private def exOps : List Op := [.seek 0 0, .seek 6 3, .read 2, .pos]

/-- inode table at 0: one raw block with a FIFO inode (reference 0) and the root directory inode (reference 20);
directory table at 54: one raw block with the listing `a -> FIFO` -/
private def exImg : File :=
  { size := 77,
    byte := fun i => ([0x34, 0x80,
      0x06, 0x00, 0xA4, 0x01, 0, 0, 0, 0, 0, 0, 0, 0, 0x02, 0, 0, 0, 0x01, 0, 0, 0,
      0x01, 0x00, 0xED, 0x01, 0, 0, 0, 0, 0, 0, 0, 0, 0x01, 0, 0, 0, 0, 0, 0, 0, 0x02, 0, 0, 0, 0x18, 0, 0, 0, 0, 0, 0, 0,
      0x15, 0x80,
      0, 0, 0, 0, 0, 0, 0, 0, 0x02, 0, 0, 0, 0, 0, 0, 0, 0x06, 0, 0, 0, 0x61] : List UInt8).getD i 0,
    bad := fun _ => false }

private def exDir : DirRd := { inodeStart := 0, dirStart := 54, rootRef := 20, blockSize := 4096 }
private def exWin : Nat → Nat × Nat := fun k => if k = 0 then (0, 54) else (54, 77)
/-- histories with failures: `meta_inode` was sent to a bad offset, `meta_dir` into the middle of the listing -/
private def exHist : Nat → List Op := fun k => if k = 0 then [.seek 0 0, .seek 0 100, .read 3] else [.seek 54 3, .read 50]

/-- key/value block at 0: the value record "vv", key `user.k` whose value is out of line (reference 0 = that
record), key `user.j` with the inline value "w" -/
private def exKv : File :=
  { size := 35,
    byte := fun i => ([0x21, 0x80,
      0x02, 0, 0, 0, 0x76, 0x76,
      0x00, 0x01, 0x01, 0x00, 0x6b,  0x08, 0, 0, 0,  0, 0, 0, 0, 0, 0, 0, 0,
      0x00, 0x00, 0x01, 0x00, 0x6a,  0x01, 0, 0, 0, 0x77] : List UInt8).getD i 0,
    bad := fun _ => false }

private def exXr : XR := { loaded := true, xattrStart := 0, xattrEnd := 35, numIds := 0, idBlockStarts := [] }
/-- both readers over the whole image; the key/value reader stands right behind the key `user.k` -/
private def exS : Readers := fun k => if k = 1 then (seek true exKv toyUnc (fresh 0 35) 0 11).2 else fresh 0 35

/-- a written file of 19 bytes with block size 8: a raw block at 0, a compressed block at 8 (`03 08 00 55`: eight
times `55`), and a 3-byte tail at offset 1 of the raw 5-byte fragment block at 12 -/
private def exData : File :=
  { size := 17, byte := fun i => ([1, 2, 3, 4, 5, 6, 7, 8, 3, 8, 0, 0x55, 0xa0, 0xa1, 0xa2, 0xa3, 0xa4] : List UInt8).getD i 0,
    bad := fun _ => false }
private def exIno : DataReader.Inode := { fileSize := 19, blocksStart := 0, fragIdx := 0, fragOff := 1, blocks := [16777224, 4] }
private def exTbl : List (Nat × Nat) := [(12, 16777221)]
/-- the same with an I/O error inside the first data block / inside the fragment block -/
private def badData : File := { exData with bad := fun i => i == 2 }
private def badFrag : File := { exData with bad := fun i => i == 13 }
private def inoFragOnly : DataReader.Inode := { fileSize := 3, blocksStart := 0, fragIdx := 0, fragOff := 1, blocks := [] }
private def ino2 : DataReader.Inode := { fileSize := 8, blocksStart := 0, fragIdx := 4294967295, fragOff := 0, blocks := [16777224] }
/-- a history with positional reads, `get_fragment`, a stream call and a fragment-table reload -/
private def exDOps : List DataReader.OpX :=
  [.read exIno 0 19, .frag exIno, .sget (DataReader.streamOpen 8 exIno) 3, .reload (.ok exTbl), .read ino2 3 20]

/-! ### Part 1: the metadata reader (`lib/sqfs/src/meta_reader.c`)

Model `Sqfs/Model/MetaReader.lean` with `fix = true`,
i.e. the code in /repo since 8bf8edc = `fixes/C10-meta-seek-invalidate.patch`; the model of the code before it violates
the property, see `Sqfs/Witness/C10.lean`.  Quantifiers: every file `f` (any size, any bytes, any set of
positions that answer with an I/O error), every block decompressor `unc` that satisfies `CodecOK` (bounded
output, failures are error codes — *nothing* about what it computes), every window `start/limit`, every
history `h` of `seek`/`read`/`get_position` calls with arbitrary arguments, successful or not, every query. -/

/-- a freshly created reader is coherent -/
theorem coherent_init (f : File) (unc : Codec) (start limit : Nat) (hl : limit ≤ NONE) :
    Coherent f unc (fresh start limit) := fresh_coherent f unc start limit hl
example := coherent_init exFile toyUnc 0 10 (by decide)

/-- `sqfs_meta_reader_seek` keeps the cache coherent — when it succeeds and on **every** failure path
(window check, cache hit with a bad offset, header read error, bad size word, block past the limit, payload
read error, decompression failure, offset beyond the freshly loaded block) -/
theorem coherent_seek (f : File) (unc : Codec) (hc : CodecOK unc) (m : MR) (hm : Coherent f unc m) (b o : Nat) :
    Coherent f unc (seek true f unc m b o).2 := seek_coherent hc hm b o
-- a seek that fails with an I/O error in the payload of block B
example := coherent_seek badFile toyUnc toyUnc_ok _ (coherent_init badFile toyUnc 0 10 (by decide)) 6 0

/-- `sqfs_meta_reader_read` keeps the cache coherent (whether or not it crosses into following blocks, and
whether or not one of the implied seeks fails) -/
theorem coherent_read (f : File) (unc : Codec) (hc : CodecOK unc) (m : MR) (hm : Coherent f unc m) (n : Nat) :
    Coherent f unc (read true f unc m n).2.2 := read_coherent hc hm n
-- a read that crosses from block A into block B
example := coherent_read exFile toyUnc toyUnc_ok _
  (coherent_seek exFile toyUnc toyUnc_ok _ (coherent_init exFile toyUnc 0 10 (by decide)) 0 2) 4

/-- every object reachable from a fresh reader by any history of calls is coherent -/
theorem coherent_run (f : File) (unc : Codec) (hc : CodecOK unc) (start limit : Nat) (hl : limit ≤ NONE)
    (h : List Op) : Coherent f unc (run true f unc (fresh start limit) h) :=
  (CohW.of_run hc h _ (CohW.fresh f unc (w := (start, limit)) hl)).coherent
example := coherent_run badFile toyUnc toyUnc_ok 0 10 (by decide) exOps

/-- **Main theorem (metadata reader).**  After *any* history the answer to a query — `seek(b,o)`, the reads
`ns` in order up to the first failure, the final position — is the answer a freshly created reader gives:
statuses, delivered bytes and position all agree. -/
theorem meta_history_independent (f : File) (unc : Codec) (hc : CodecOK unc) (start limit : Nat)
    (hl : limit ≤ NONE) (h : List Op) (b o : Nat) (ns : List Nat) :
    answer true f unc (run true f unc (fresh start limit) h) b o ns =
    answer true f unc (fresh start limit) b o ns := by
  -- the used reader and the fresh one are coherent over the same window: they answer the seek alike and then stand at `(b, o)`
  have hfr := CohW.fresh f unc (w := (start, limit)) hl
  exact (CohW.of_run hc h _ hfr).answer_eq hc hfr b o ns

-- on the damaged file: the answer contains a failing read
example := meta_history_independent badFile toyUnc toyUnc_ok 0 10 (by decide) exOps 0 0 [2, 2, 1]
example : (answer true badFile toyUnc (fresh 0 10) 0 0 [2, 2, 1]).reads.length = 3 ∧
    ((answer true badFile toyUnc (fresh 0 10) 0 0 [2, 2, 1]).reads.map (·.1 == 0)) = [true, true, false] := by
  rw [view_answer, view_fresh]
  decide +kernel

/-- two histories, same query: same answer (the form in which the property is usually quoted) -/
theorem meta_answer_depends_on_image_and_query_only (f : File) (unc : Codec) (hc : CodecOK unc)
    (start limit : Nat) (hl : limit ≤ NONE) (h₁ h₂ : List Op) (b o : Nat) (ns : List Nat) :
    answer true f unc (run true f unc (fresh start limit) h₁) b o ns =
    answer true f unc (run true f unc (fresh start limit) h₂) b o ns := by
  rw [meta_history_independent f unc hc start limit hl h₁, meta_history_independent f unc hc start limit hl h₂]
example := meta_answer_depends_on_image_and_query_only exFile toyUnc toyUnc_ok 0 10 (by decide) exOps [.seek 6 0] 0 0 [2, 2, 1]

/-- In the repaired code `data_used - offset` never wraps and no copy leaves `m->data` (D3 is closed by the
repair of D2): whatever the history, a `read` returns a real status, never the model's "out of the buffer"
or "out of fuel" outcome. -/
theorem read_no_crash (f : File) (unc : Codec) (hc : CodecOK unc) (start limit : Nat) (hl : limit ≤ NONE)
    (h : List Op) (n : Nat) :
    (read true f unc (run true f unc (fresh start limit) h) n).1 < crashSt :=
  read_status_lt hc (coherent_run f unc hc start limit hl h) n
example := read_no_crash exFile toyUnc toyUnc_ok 0 10 (by decide) exOps 5

/-- a failed cache-miss seek leaves the reader unpositioned: nothing is readable until the next successful
seek (`data_used = offset = 0`, both block numbers invalid) -/
theorem failed_miss_unpositions (f : File) (unc : Codec) (m : MR) (b o : Nat)
    (hw : ¬ (b < m.start ∨ b ≥ m.limit)) (hmiss : b ≠ m.tag) (hfail : (seek true f unc m b o).1 ≠ 0) :
    let m' := (seek true f unc m b o).2
    m'.tag = NONE ∧ m'.nextBlock = NONE ∧ m'.dataUsed = 0 ∧ m'.offset = 0 := by
  unfold seek at hfail ⊢
  simp only [hw, hmiss, if_false, if_true] at hfail ⊢
  cases hl : loadBlock f unc m.limit b with
  | early e => exact ⟨rfl, rfl, rfl, rfl⟩
  | uncErr e raw => exact ⟨rfl, rfl, rfl, rfl⟩
  | done raw blk size =>
    simp only [hl] at hfail ⊢
    by_cases ho : o ≥ blk.length
    · simp only [ho, if_true]; exact ⟨trivial, trivial, trivial, trivial⟩
    · simp only [ho, if_false] at hfail; exact absurd rfl hfail

/-- instances: (1) cache miss on block B whose payload answers with an I/O error, from a fresh reader; (2) cache miss on
block B from a reader positioned in block A, with an offset beyond the freshly loaded block -/
example := failed_miss_unpositions badFile toyUnc (fresh 0 10) 6 0 (by decide) (by decide) (by decide +kernel)
example := failed_miss_unpositions exFile toyUnc (seek true exFile toyUnc (fresh 0 10) 0 0).2 6 3
  (by decide +kernel) (by decide +kernel) (by decide +kernel)

/-- after a successful seek, `get_position` reports the position asked for -/
theorem seek_then_position (f : File) (unc : Codec) (hc : CodecOK unc) (m : MR) (b o : Nat)
    (h : (seek true f unc m b o).1 = 0) : getPos (seek true f unc m b o).2 = (b, o) := seek_getPos hc h
example := seek_then_position exFile toyUnc toyUnc_ok (fresh 0 10) 6 1 (by decide +kernel)

/-! ### Part 2: the data reader (`lib/sqfs/src/data_reader.c`)

`kw = true` is the code as it is (data-block cache keyed by location *and* size word, 36fa767); `kw = false` the code
before that commit, for which `sw`/`ConsIno` describe the images on which it was sound (`ConsIno` is *no condition
at all* when `kw = true`).  `sfix` selects the stream code: `false` as it was in /repo before 8447a61 (D33, see
`Sqfs/Witness/C10.lean`), `true` the code in /repo (8447a61 = `fixes/C10-stream-frag-fail.patch`); the theorems below hold for both, because
D33 lives in the stream object, not in the reader's caches.  A history (`DataReader.OpX`, run by `runX`; the read-only
`Op`/`run` that C19 uses embed into it: `DataReader.runX_embed`) is any sequence of
`sqfs_data_reader_read`, `sqfs_data_reader_get_fragment`, stream `get_buffered_data` calls (on streams in any
state) and `sqfs_data_reader_load_fragment_table` reloads.  `sqfs_data_reader_get_block` does not use the reader
object beyond `block_size`: `DataReader.getBlockApi` has no reader argument. -/

/-- a freshly created data reader (after `load_fragment_table`) is coherent -/
theorem data_coherent_init (kw : Bool) (f : File) (unc : Codec) (sw : Nat → Nat) (bs : Nat) (tbl : List (Nat × Nat)) :
    DataReader.DCoh kw f unc sw (DataReader.fresh bs tbl) := DataReader.fresh_dcoh kw f unc sw bs tbl
example := data_coherent_init true exData toyUnc (fun _ => 0) 8 exTbl

/-- `sqfs_data_reader_read` keeps both caches coherent, on success and on every failure path, and its answer
is the answer of the cacheless reference reader -/
theorem data_coherent_read (kw : Bool) (f : File) (unc : Codec) (sw : Nat → Nat) (hc : CodecOK unc) (d : DataReader.DR)
    (hd : DataReader.DCoh kw f unc sw d) (ino : DataReader.Inode) (hi : DataReader.ConsIno kw sw ino) (o n : Nat) :
    DataReader.DCoh kw f unc sw (DataReader.read kw f unc d ino o n).2 ∧
    (DataReader.read kw f unc d ino o n).1 = DataReader.readSpec f unc d.blockSize d.tbl ino o n :=
  ⟨(DataReader.read_spec hc hd ino hi o n).2.1, (DataReader.read_spec hc hd ino hi o n).1⟩
example := data_coherent_read true exData toyUnc (fun _ => 0) toyUnc_ok _
  (data_coherent_init true exData toyUnc (fun _ => 0) 8 exTbl) exIno (DataReader.consIno_true _ _) 3 12

/-- every data reader reachable by a history is coherent -/
theorem data_coherent_run (kw sfix : Bool) (f : File) (unc : Codec) (sw : Nat → Nat) (hc : CodecOK unc) (bs : Nat)
    (tbl : List (Nat × Nat)) (h : List DataReader.OpX) (hh : DataReader.OpsCons kw sw h) :
    DataReader.DCoh kw f unc sw (DataReader.runX kw sfix f unc (DataReader.fresh bs tbl) h) :=
  (DataReader.run_dcoh hc sfix h _ (DataReader.fresh_dcoh kw f unc sw bs tbl) hh).1
-- `OpsCons` discharged for a five-call history (for `kw = true` every inode is consistent)
example := data_coherent_run true false exData toyUnc (fun _ => 0) toyUnc_ok 8 exTbl exDOps
  (DataReader.opsCons_true _ _)

/-- **Main theorem (data reader).**  After any history, each entry point that goes through a cache answers
what its cacheless reference computes from the image, the fragment table currently loaded and the query alone:
positional read, `get_fragment`, and a stream's `get_buffered_data` (answer and new stream state). -/
theorem data_api_eq_cacheless (kw sfix : Bool) (f : File) (unc : Codec) (sw : Nat → Nat) (hc : CodecOK unc)
    (bs : Nat) (tbl : List (Nat × Nat)) (h : List DataReader.OpX) (hh : DataReader.OpsCons kw sw h) :
    let D := DataReader.runX kw sfix f unc (DataReader.fresh bs tbl) h
    D.blockSize = bs ∧
    (∀ ino o n, DataReader.ConsIno kw sw ino → (DataReader.read kw f unc D ino o n).1 = DataReader.readSpec f unc bs D.tbl ino o n) ∧
    (∀ ino, (DataReader.getFragment f unc D ino).1 = DataReader.getFragmentSpec f unc bs D.tbl ino) ∧
    (∀ s, ((DataReader.streamGet sfix f unc D s).1, (DataReader.streamGet sfix f unc D s).2.1) =
            DataReader.streamGetSpec sfix f unc bs D.tbl s) := by
  obtain ⟨hd, hb⟩ := DataReader.run_dcoh hc sfix h _ (DataReader.fresh_dcoh kw f unc sw bs tbl) hh
  have hb' : (DataReader.runX kw sfix f unc (DataReader.fresh bs tbl) h).blockSize = bs := hb
  refine ⟨hb', fun ino o n hi => ?_, fun ino => ?_, fun s => ?_⟩
  · have := (DataReader.read_spec hc hd ino hi o n).1
    rw [hb'] at this; exact this
  · have := (DataReader.getFragment_spec hc hd ino).1
    rw [hb'] at this; exact this
  · have := (DataReader.streamGet_spec hc sfix hd s).1
    rw [hb'] at this; exact this

example := data_api_eq_cacheless true false exData toyUnc (fun _ => 0) toyUnc_ok 8 exTbl exDOps
  (DataReader.opsCons_true _ _)

/-- the code as it is (cache keyed by location and size word): **history independence on every image**, damaged
ones included, for arbitrary inodes and streams: a used reader answers like a reader created now (which loads the
fragment table the used reader has loaded last) -/
theorem data_history_independent (sfix : Bool) (f : File) (unc : Codec) (hc : CodecOK unc)
    (bs : Nat) (tbl : List (Nat × Nat)) (h : List DataReader.OpX) :
    let D := DataReader.runX true sfix f unc (DataReader.fresh bs tbl) h
    let F := DataReader.fresh bs D.tbl
    (∀ ino o n, (DataReader.read true f unc D ino o n).1 = (DataReader.read true f unc F ino o n).1) ∧
    (∀ ino, (DataReader.getFragment f unc D ino).1 = (DataReader.getFragment f unc F ino).1) ∧
    (∀ s, ((DataReader.streamGet sfix f unc D s).1, (DataReader.streamGet sfix f unc D s).2.1) =
          ((DataReader.streamGet sfix f unc F s).1, (DataReader.streamGet sfix f unc F s).2.1)) := by
  intro D F
  obtain ⟨hd, hb⟩ := DataReader.run_dcoh hc sfix h _ (DataReader.fresh_dcoh true f unc (fun _ => 0) bs tbl)
    (DataReader.opsCons_true _ h)
  obtain ⟨h1, h23⟩ := DataReader.answers_eq hc sfix hd (DataReader.fresh_dcoh true f unc (fun _ => 0) bs D.tbl) hb rfl
  exact ⟨fun ino o n => h1 ino o n (DataReader.consIno_true _ ino), h23⟩

example := data_history_independent false exData toyUnc toyUnc_ok 8 exTbl exDOps

/-- the code before 36fa767 (cache keyed by location only), on images whose inodes are consistent with one
location ↦ size word function (kept for the record: D21) -/
theorem data_history_independent_written (f : File) (unc : Codec) (sw : Nat → Nat) (hc : CodecOK unc)
    (bs : Nat) (tbl : List (Nat × Nat)) (h : List DataReader.OpX) (hh : DataReader.OpsCons false sw h)
    (ino : DataReader.Inode) (hi : DataReader.ConsIno false sw ino) (o n : Nat) :
    let D := DataReader.runX false false f unc (DataReader.fresh bs tbl) h
    (DataReader.read false f unc D ino o n).1 = (DataReader.read false f unc (DataReader.fresh bs D.tbl) ino o n).1 := by
  intro D
  obtain ⟨hd, hb⟩ := DataReader.run_dcoh hc false h _ (DataReader.fresh_dcoh false f unc sw bs tbl) hh
  exact (DataReader.answers_eq hc false hd (DataReader.fresh_dcoh false f unc sw bs D.tbl) hb rfl).1 ino o n hi

-- old code (`kw = false`): every inode of the history names location 0 with the size word `sw 0`
example := data_history_independent_written exData toyUnc (fun _ => 16777224) toyUnc_ok 8 exTbl
  [.read ino2 0 8, .frag exIno, .read ino2 3 2]
  (by
    have c2 : DataReader.ConsIno false (fun _ => 16777224) ino2 := by unfold DataReader.ConsIno DataReader.Cons; decide
    intro op h
    simp only [List.mem_cons, List.not_mem_nil, or_false] at h
    rcases h with rfl | rfl | rfl <;> first | exact c2 | trivial)
  ino2 (by unfold DataReader.ConsIno DataReader.Cons; decide) 1 5

/-- the stream in /repo (since 8447a61 = `fixes/C10-stream-frag-fail.patch`): a `get_buffered_data` that fails leaves the stream at its
end — whatever is asked afterwards, on whatever reader state, the answer is "end of file" (D33 closed) -/
theorem stream_fail_stops (f : File) (unc : Codec) (d d' : DataReader.DR) (s : DataReader.Stream) (e : Status)
    (h : (DataReader.streamGet true f unc d s).1 = .err e) :
    (DataReader.streamGet true f unc d' (DataReader.streamGet true f unc d s).2.1).1 = .eof := by
  have key : ∀ s0 : DataReader.Stream, (DataReader.streamGet true f unc d' s0.failed).1 = .eof := by
    intro s0; unfold DataReader.streamGet DataReader.Stream.failed; simp
  -- by the paths of the first call: those that report an error hand back a reset stream, the others contradict `h`
  revert h
  fun_cases DataReader.streamGet true f unc d s <;> intro h
  all_goals first | exact key _ | cases h

/-- instances, one per failure path of `get_buffered_data`: (1) the first data block is unreadable (`goto fail`);
(2) a file that is only a tail end whose fragment block is unreadable (the `early` return) -/
example : (DataReader.streamGet true badData toyUnc (DataReader.fresh 8 exTbl) (DataReader.streamOpen 8 exIno)).1 = .err errIo ∧
    (DataReader.streamGet true badFrag toyUnc (DataReader.fresh 8 exTbl) (DataReader.streamOpen 8 inoFragOnly)).1 = .err errIo := by
  decide +kernel
example := stream_fail_stops badData toyUnc (DataReader.fresh 8 exTbl) (DataReader.fresh 8 exTbl)
  (DataReader.streamOpen 8 exIno) errIo (by decide +kernel)
example := stream_fail_stops badFrag toyUnc (DataReader.fresh 8 exTbl) (DataReader.fresh 8 exTbl)
  (DataReader.streamOpen 8 inoFragOnly) errIo (by decide +kernel)

/-! #### the alternative APIs for reading file data agree on every file the library itself wrote

`DataReader.Written f unc bs tbl ino datas tail` (`Sqfs/Spec/DataReaderCache.lean`) describes an inode and its data
as the block processor and the fragment table writer leave them: full blocks (sparse, raw, or compressed and then
smaller than unpacked), at most one short last block or else a tail in the fragment block the inode names.  The
statements are about the cacheless references; by `data_api_eq_cacheless` the cached reader computes those after
any history. -/

/-- positional read of the whole file = `get_block` for every index followed by `get_fragment`: both succeed
and deliver the same bytes -/
theorem read_eq_blocks_plus_fragment (f : File) (unc : Codec) (bs : Nat) (tbl : List (Nat × Nat)) (ino : DataReader.Inode)
    (datas : List Bytes) (tail : Bytes) (h : DataReader.Written f unc bs tbl ino datas tail) :
    (DataReader.readSpec f unc bs tbl ino 0 ino.fileSize).1 = 0 ∧
    DataReader.viaBlocks f unc bs tbl ino = .ok (DataReader.readSpec f unc bs tbl ino 0 ino.fileSize).2 := by
  rw [DataReader.readSpec_written h, DataReader.viaBlocks_written h]
  exact ⟨rfl, rfl⟩

/-- the stream (`get_buffered_data`/`advance_buffer` until the end) delivers what the positional read delivers -/
theorem stream_eq_read (f : File) (unc : Codec) (bs : Nat) (tbl : List (Nat × Nat)) (ino : DataReader.Inode)
    (datas : List Bytes) (tail : Bytes) (h : DataReader.Written f unc bs tbl ino datas tail) :
    DataReader.viaStream f unc bs tbl ino = .ok (DataReader.readSpec f unc bs tbl ino 0 ino.fileSize).2 := by
  rw [DataReader.readSpec_written h, DataReader.viaStream_written h]

/-- and all three are the file: the blocks' bytes followed by the tail -/
theorem written_file_content (f : File) (unc : Codec) (bs : Nat) (tbl : List (Nat × Nat)) (ino : DataReader.Inode)
    (datas : List Bytes) (tail : Bytes) (h : DataReader.Written f unc bs tbl ino datas tail) :
    DataReader.readSpec f unc bs tbl ino 0 ino.fileSize = (0, datas.flatten ++ tail) := DataReader.readSpec_written h

/-! ### Part 3: the decoders on top of the metadata reader

`Sqfs/Model/C10Dec.lean` models `sqfs_meta_reader_read_inode`, `sqfs_meta_reader_readdir`, the dir reader's
`get_inode`/`open_dir`/`read`/`resolve_path`, the xattr reader's `get_desc`/`seek_kv`/`read_key`/`read_value`/
`read`/`read_all` and `sqfs_read_table` as *programs* (`Prog`): trees of `seek`/`read`/`get_position` calls on the
reader objects the API object owns, returning at the first failing call.  `WF noneYet p` ("seek first") says that
`p` reads a reader only after positioning it itself.  `usedFam f unc w h` is any family of reader objects reachable
from freshly created ones (reader `k` created with window `w k`) by arbitrary histories `h k` of raw calls —
which includes everything earlier programs did to them, successful or not, because every program only ever
issues such calls; `freshFam w` are the freshly created ones. -/

/-- **Lifting theorem.**  Every seek-first program — whatever it computes from the bytes it reads — returns on
used reader objects what it returns on freshly created ones, and leaves every reader object coherent. -/
theorem prog_history_independent {α : Type} (f : File) (unc : Codec) (hc : CodecOK unc) (w : Nat → Nat × Nat)
    (hw : ∀ k, (w k).2 ≤ NONE) (h : Nat → List Op) (p : Prog α) (hp : WF noneYet p) :
    (exec true f unc p (usedFam f unc w h)).1 = (exec true f unc p (freshFam w)).1 ∧
    ∀ k, Coherent f unc ((exec true f unc p (usedFam f unc w h)).2 k) := by
  obtain ⟨e1, e2⟩ := exec_obs hc p noneYet _ _ (rel_used_fresh hc w hw h) hp
  exact ⟨e1, fun k => let ⟨_, c, _⟩ := e2 k; c.coherent⟩

-- a three-call seek-first program on readers with failing histories
example := prog_history_independent (α := Bytes) exImg toyUnc toyUnc_ok exWin (by intro k; unfold exWin; split <;> decide)
  exHist (.seek 0 0 0 (.read 0 4 fun b => .pos 0 fun _ => .ret b)) (by simp [C10P.WF])

/-- **Clients.**  A chain of seek-first calls — each chosen from the answers to the earlier ones — has the same
outcome on used readers with arbitrary foreign histories `hs` happening on the same objects *between* its calls
as on fresh readers without any interleaving. -/
theorem session_history_independent {α β : Type} (f : File) (unc : Codec) (hc : CodecOK unc) (w : Nat → Nat × Nat)
    (hw : ∀ k, (w k).2 ≤ NONE) (h : Nat → List Op) (s : Session α β) (hs : s.WF) (between : List (Nat → List Op)) :
    (s.runI true f unc (usedFam f unc w h) between).1 = (s.runI true f unc (freshFam w) []).1 :=
  session_obs hc s _ _ _ _ (rel_used_fresh hc w hw h) hs

/-- instance: a hand-made two-call session (`s.WF` discharged), two foreign histories interleaved between its calls -/
example := session_history_independent (α := Bytes) (β := Nat) exImg toyUnc toyUnc_ok exWin
  (by intro k; unfold exWin; split <;> decide) exHist
  (.call (.seek 0 0 0 (.read 0 4 fun b => .pos 0 fun _ => .ret b)) fun _ =>
    .call (.seek 1 54 0 (.read 1 8 fun b => .ret b)) fun _ => .done 1)
  (by simp [Session.WF, C10P.WF]) [exHist, exHist]

/-- inode by reference: `sqfs_dir_reader_get_inode` (= `sqfs_meta_reader_read_inode` on `meta_inode`) -/
theorem inode_by_ref_history_independent (f : File) (unc : Codec) (hc : CodecOK unc) (w : Nat → Nat × Nat)
    (hw : ∀ k, (w k).2 ≤ NONE) (h : Nat → List Op) (d : DirRd) (ref : Nat) :
    (exec true f unc (d.getInodeP ref) (usedFam f unc w h)).1 = (exec true f unc (d.getInodeP ref) (freshFam w)).1 :=
  (prog_history_independent f unc hc w hw h _ (readInodeP_wf _ _ _ _ _)).1

/-- one `sqfs_dir_reader_read` call with the caller's cursor `it` -/
theorem readdir_call_history_independent (f : File) (unc : Codec) (hc : CodecOK unc) (w : Nat → Nat × Nat)
    (hw : ∀ k, (w k).2 ≤ NONE) (h : Nat → List Op) (d : DirRd) (it : Rd) :
    (exec true f unc (d.readP it) (usedFam f unc w h)).1 = (exec true f unc (d.readP it) (freshFam w)).1 :=
  (prog_history_independent f unc hc w hw h _ (readdirP_wf 1 it)).1

/-- directory listing: the entries (and their inode references) a listing delivers do not depend on what the dir
reader was used for before **nor on what it is used for between the `read` calls of the listing** (the cursor
lives in the caller's `sqfs_dir_reader_state_t`, not in the reader) -/
theorem dir_listing_history_independent (f : File) (unc : Codec) (hc : CodecOK unc) (w : Nat → Nat × Nat)
    (hw : ∀ k, (w k).2 ≤ NONE) (h : Nat → List Op) (d : DirRd) (fuel : Nat) (it : Rd) (between : List (Nat → List Op)) :
    ((listSession d fuel it []).runI true f unc (usedFam f unc w h) between).1 =
    ((listSession d fuel it []).runI true f unc (freshFam w) []).1 :=
  session_history_independent f unc hc w hw h _ (listSession_wf d fuel it []) between

/-- the same for the listing done in one go (`get_inode`, `open_dir`, all `read` calls) -/
theorem dir_list_history_independent (f : File) (unc : Codec) (hc : CodecOK unc) (w : Nat → Nat × Nat)
    (hw : ∀ k, (w k).2 ≤ NONE) (h : Nat → List Op) (d : DirRd) (ref : Nat) :
    (exec true f unc (d.listP ref) (usedFam f unc w h)).1 = (exec true f unc (d.listP ref) (freshFam w)).1 :=
  (prog_history_independent f unc hc w hw h _ (listP_wf d ref)).1

/-- path resolution: `sqfs_dir_reader_resolve_path(rd, path, NULL, &ref)` — alternating `get_inode` on `meta_inode`
and listings on `meta_dir`, for every path -/
theorem path_resolution_history_independent (f : File) (unc : Codec) (hc : CodecOK unc) (w : Nat → Nat × Nat)
    (hw : ∀ k, (w k).2 ≤ NONE) (h : Nat → List Op) (d : DirRd) (path : Bytes) :
    (exec true f unc (d.resolveP path) (usedFam f unc w h)).1 = (exec true f unc (d.resolveP path) (freshFam w)).1 :=
  (prog_history_independent f unc hc w hw h _ (resolveP_wf d path)).1

/-- the model-only outcome "loop fuel exhausted" of the listing model cannot happen (every entry consumes at least 9
bytes of the cursor's `size`) … -/
theorem listing_fuel_suffices (f : File) (unc : Codec) (hc : CodecOK unc) (S : Readers) (hS : ∀ k, Coherent f unc (S k))
    (d : DirRd) (ref : Nat) : (exec true f unc (d.listP ref) S).1 ≠ .error loopFuelSt :=
  exec_ends hc _ (by decide) _ S hS (listP_walk d ref noneYet)

-- `hS` discharged by `coherent_run`: the used readers of the Part 3 image
example := listing_fuel_suffices exImg toyUnc toyUnc_ok (usedFam exImg toyUnc exWin exHist)
  (fun k => coherent_run exImg toyUnc toyUnc_ok _ _ (by unfold exWin; split <;> decide) _) exDir 20

/-- … nor that of the path resolution model (every component consumes at least one byte of the path) -/
theorem path_fuel_suffices (f : File) (unc : Codec) (hc : CodecOK unc) (S : Readers) (hS : ∀ k, Coherent f unc (S k))
    (d : DirRd) (path : Bytes) : (exec true f unc (d.resolveP path) S).1 ≠ .error loopFuelSt :=
  exec_ends hc _ (by decide) _ S hS (resolveGoP_walk d _ path (by omega) d.rootRef noneYet)

example := path_fuel_suffices exImg toyUnc toyUnc_ok (usedFam exImg toyUnc exWin exHist)
  (fun k => coherent_run exImg toyUnc toyUnc_ok _ _ (by unfold exWin; split <;> decide) _) exDir [0x2f, 0x61]

/-- xattr descriptor: `sqfs_xattr_reader_get_desc` -/
theorem xattr_desc_history_independent (f : File) (unc : Codec) (hc : CodecOK unc) (w : Nat → Nat × Nat)
    (hw : ∀ k, (w k).2 ≤ NONE) (h : Nat → List Op) (x : XR) (idx : Nat) :
    (exec true f unc (x.getDescP idx) (usedFam f unc w h)).1 = (exec true f unc (x.getDescP idx) (freshFam w)).1 :=
  (prog_history_independent f unc hc w hw h _ (getDescP_wf x idx)).1

/-- xattr set: `sqfs_xattr_reader_read_all` — descriptor, `seek_kv`, then key after key, value after value,
out-of-line detours included; in particular whatever an earlier request left behind when it failed half way
(inside a key, inside an out-of-line value, before seeking back) has no effect -/
theorem xattr_set_history_independent (f : File) (unc : Codec) (hc : CodecOK unc) (w : Nat → Nat × Nat)
    (hw : ∀ k, (w k).2 ≤ NONE) (h : Nat → List Op) (x : XR) (idx : Nat) :
    (exec true f unc (x.readAllP idx) (usedFam f unc w h)).1 = (exec true f unc (x.readAllP idx) (freshFam w)).1 :=
  (prog_history_independent f unc hc w hw h _ (readAllP_wf x idx)).1

/-- the low-level walk: `seek_kv` with any descriptor, then `n` times `read_key` + `read_value` -/
theorem xattr_walk_history_independent (f : File) (unc : Codec) (hc : CodecOK unc) (w : Nat → Nat × Nat)
    (hw : ∀ k, (w k).2 ≤ NONE) (h : Nat → List Op) (x : XR) (desc : XDesc) (n : Nat) :
    (exec true f unc (x.seekKvP desc (x.readPairsP n [])) (usedFam f unc w h)).1 =
    (exec true f unc (x.seekKvP desc (x.readPairsP n [])) (freshFam w)).1 :=
  (prog_history_independent f unc hc w hw h _ (seekKv_pairs_wf x desc n _)).1

/-- **xattr reader, out-of-line values** (`read_value_hdr` / `sqfs_xattr_reader_read_value`): remember
`get_position`, seek to the referenced value, read it, seek back.  If that succeeds, the key/value reader reports
the position right behind the value's 4-byte header and 8-byte reference, and *every* continuation that goes on
reading there (the following keys and values) gets exactly what it would get had the value been skipped without
the detour — also when that position is the end of a block, where `get_position` names the next block instead. -/
theorem ool_position_restored {β : Type} (f : File) (unc : Codec) (hc : CodecOK unc) (x : XR) (keyType : Nat)
    (hool : keyType / xattrFlagOol % 2 = 1) (S : Readers) (hS : ∀ k, Coherent f unc (S k)) (v : Bytes)
    (hok : (exec true f unc (x.readValueApiP keyType) S).1 = .ok v) :
    let after := (exec true f unc (x.readValueApiP keyType) S).2
    let skipped := (exec true f unc valueHeaderP S).2
    getPos (after 1) = getPos (skipped 1) ∧
    ∀ (q : Prog β), WF (fun k => k == 1) q → (exec true f unc q after).1 = (exec true f unc q skipped).1 := by
  have hR := readValue_ool_obs hc x keyType hool S hS v hok
  obtain ⟨_, _, _, ho⟩ := hR 1
  exact ⟨(obs_getPos hc (ho rfl)).symm, fun q hq => ((exec_obs hc q _ _ _ hR hq).1).symm⟩

/-- instance with **all** hypotheses discharged: `hS` from `coherent_seek`/`coherent_init`, `hool`, and `hok` (the
out-of-line value `vv` is delivered) -/
example := ool_position_restored (β := Nat) exKv toyUnc toyUnc_ok exXr 0x100 (by decide) exS
  (by
    intro k; unfold exS; split
    · exact coherent_seek _ _ toyUnc_ok _ (coherent_init _ _ _ _ (by decide)) _ _
    · exact coherent_init _ _ _ _ (by decide))
  [0x76, 0x76]
  (by
    rw [exec_eq_view, show (fun k => view (exS k)) = _ from view_ite (· = 1) _ _, view_seek_state, view_fresh]
    decide +kernel)

/-! ### the hypotheses are satisfiable, the statements are not vacuous -/

/-- an instance of `meta_history_independent` with a failing seek in the history and data in the answer -/
example : answer true exFile toyUnc (run true exFile toyUnc (fresh 0 10) [.seek 0 0, .seek 6 3]) 0 0 [2, 2, 1]
    = { seekSt := 0, reads := [(0, [0x61, 0x62]), (0, [0x63, 0x64]), (0, [0x78])], endPos := some (6, 1) } := by
  rw [view_answer, view_run, view_fresh]
  decide +kernel

example : (10 : Nat) ≤ NONE := by decide

/-! #### Part 3 instances -/

example : ∀ k, (exWin k).2 ≤ NONE := by
  intro k; unfold exWin; split <;> decide

/-- `resolve_path("/a")` on the used readers finds the FIFO inode (reference 0) -/
example : (match (exec true exImg toyUnc (exDir.resolveP [0x2f, 0x61]) (usedFam exImg toyUnc exWin exHist)).1 with
    | .ok r => decide (r = 0) | .error _ => false) = true := by
  rw [exec_eq_view, view_usedFam]
  decide +kernel

/-- and `get_inode(0)` decodes it: type 6, mode 0644 | S_IFIFO, inode number 2, nlink 1 -/
example : (match (exec true exImg toyUnc (exDir.getInodeP 0) (usedFam exImg toyUnc exWin exHist)).1 with
    | .ok i => decide (i = { typ := 6, mode := 0o010644, uid := 0, gid := 0, mtime := 0, inum := 2, fields := [1], extra := [] })
    | .error _ => false) = true := by
  rw [exec_eq_view, view_usedFam]
  decide +kernel

/-- the hypothesis of `ool_position_restored` is satisfiable: the out-of-line value is delivered … -/
example : (match (exec true exKv toyUnc (exXr.readValueApiP 0x100) exS).1 with
    | .ok v => decide (v = [0x76, 0x76]) | .error _ => false) = true := by
  rw [exec_eq_view, show (fun k => view (exS k)) = _ from view_ite (· = 1) _ _, view_seek_state, view_fresh]
  decide +kernel

/-- … and the next pair is read from the right place afterwards -/
example : (match (exec true exKv toyUnc (exXr.readPairsP 1 []) (exec true exKv toyUnc (exXr.readValueApiP 0x100) exS).2).1 with
    | .ok l => decide (l = [("user.j".toUTF8.toList, [0x77])]) | .error _ => false) = true := by
  rw [exec_eq_view, view_exec_state, show (fun k => view (exS k)) = _ from view_ite (· = 1) _ _, view_seek_state, view_fresh]
  decide +kernel

example : (0x100 : Nat) / xattrFlagOol % 2 = 1 := by decide

/-- `Written` is satisfiable (so `read_eq_blocks_plus_fragment` and `stream_eq_read` are not vacuous) -/
example : DataReader.Written exData toyUnc 8 exTbl exIno [[1, 2, 3, 4, 5, 6, 7, 8], List.replicate 8 0x55] [0xa1, 0xa2, 0xa3] where
  bsPos := by decide
  bsU32 := by decide
  small := by decide
  blocks := by
    refine ⟨_, _, rfl, by decide, Or.inr ⟨by decide, by decide, [1, 2, 3, 4, 5, 6, 7, 8], by decide +kernel, Or.inr ⟨by decide, by decide, rfl⟩⟩, ?_⟩
    refine ⟨_, _, rfl, by decide, Or.inr ⟨by decide, by decide, [3, 8, 0, 0x55], by decide +kernel, Or.inl ⟨by decide, by decide, by decide, ?_⟩⟩, rfl⟩
    intro room hr
    have h8 : (8 : Nat) ≤ room := hr
    simp [toyUnc, h8]
  covered := by decide
  tailLen := by decide
  tailShort := by decide
  frag := fun _ => ⟨(12, 16777221), ([0xa0, 0xa1, 0xa2, 0xa3, 0xa4, 0, 0, 0], 5), by decide, by decide +kernel, by decide, by decide, by decide⟩

/-- and the three APIs do deliver the 19 bytes -/
example : DataReader.viaStream exData toyUnc 8 exTbl exIno = .ok [1, 2, 3, 4, 5, 6, 7, 8, 0x55, 0x55, 0x55, 0x55, 0x55, 0x55, 0x55, 0x55, 0xa1, 0xa2, 0xa3] ∧
    DataReader.viaBlocks exData toyUnc 8 exTbl exIno = DataReader.viaStream exData toyUnc 8 exTbl exIno ∧
    DataReader.readSpec exData toyUnc 8 exTbl exIno 0 19 = (0, [1, 2, 3, 4, 5, 6, 7, 8, 0x55, 0x55, 0x55, 0x55, 0x55, 0x55, 0x55, 0x55, 0xa1, 0xa2, 0xa3]) := by
  decide +kernel

/-- `ConsIno` for the code before 36fa767 is satisfiable by a non-trivial inode (one raw 8-byte block at location 0) -/
example : DataReader.ConsIno false (fun _ => 16777224)
    { fileSize := 8, blocksStart := 0, fragIdx := 4294967295, fragOff := 0, blocks := [16777224] } := by
  unfold DataReader.ConsIno DataReader.Cons
  decide

end Sqfs.C10
