/-
C13 — fail-stop: property theorems about the tools' skeleton (Sqfs/Model/FailStop.lean) and the block
processor with fallible primitives (Sqfs/Model/FailStopBlockProc.lean).

`Variant.current` is /repo at d69b61b, before 65a1d35 (the realpath repair b5ce20d and the three result-checking repairs
are part of the source; standard output of rdsquashfs is *not* checked); `Variant.fixed` is the code in /repo (since 65a1d35
= fixes/C13-check-stdout-errors.patch); `Variant.beforeRealpath` (before b5ce20d) and `Variant.snapshot` (the first
snapshot of the source) exist for the regression witnesses in Sqfs/Witness/C13.lean only.
`AllChecked v` (every result of the skeleton is tested) holds for `current`, `fixed` and `beforeRealpath`.
All theorems quantify over every configuration `c` and every fault script `fs : List Bool`.

What these theorems are and are not: they are statements about the *model*.  Their C-specific content is the
order of the sites, the reaction to each failure, the phase structure of `main`, and what `unlink` is applied
to.  That content is compared with the real tools on every run of the check: the ordered list of calls each
real run makes (recorded by instrumentation) must equal `Trace.ran` of `run` for the same fault position, and
exit status, presence of the output, diagnostic, progress messages and the outcome of `unlink` must equal the
corresponding fields of `Result` (tools/checks/c13.py).
-/
import Sqfs.Proofs.FailStop
import Sqfs.Proofs.FailStopBlockProc
namespace Sqfs.C13
open Sqfs.FailStop

/-! the two configurations used by the instantiating examples below -/

/-- a gensquashfs run with a pack file, a pack directory, a relative output name, three files, an export table -/
def exCfg : Cfg := { tool := .gensquashfs, packFile := true, packDir := true, relOut := true, nfiles := 3, exportable := true }
/-- a tar2sqfs run: directory, file, symbolic link, an entry outside the new root -/
def exTar : Cfg := { tool := .tar2sqfs, entries := [{}, {}, { link := true }, { skipped := true }] }

/-- When every result is checked the phases compose: the run is one walk over the whole program. -/
theorem run_checked {v : Variant} (hA : AllChecked v) (c : Cfg) (fs : List Bool) :
    (run v c fs).trace = (runSites v c 0 (program v c) fs {}).2.2 ∧
    ((run v c fs).status = 0 ↔ (runSites v c 0 (program v c) fs {}).1 = true) := by
  obtain ⟨ht, ⟨hs, hw⟩ | ⟨hs, hw⟩⟩ := run_walk hA c fs <;> simp [ht, hs, hw]

example := run_checked current_allChecked exCfg (single 24)
example := run_checked fixed_allChecked exTar (single 5)

/-- **Exit status 0 is assigned only at the end** (every variant, every script): a run that exits 0 went through
    `sqfs_writer_finish` returning 0, reached `sqfs_writer_cleanup` with `EXIT_SUCCESS`, no call site reported a
    failure, no `unlink` was attempted and the output file is in place. -/
theorem status_success_only_at_end (v : Variant) (c : Cfg) (fs : List Bool) :
    (run v c fs).status = 0 →
      (run v c fs).finishOk = true ∧ (run v c fs).cleanupReached = true ∧
      (run v c fs).trace.failed = none ∧ (run v c fs).out = .present ∧ (run v c fs).unlinkHit = none := by
  rcases run_cases v c fs with ⟨t, s, hf, hl, ⟨hs, hr⟩ | ⟨hs, hr⟩ | ⟨hs, hr⟩⟩ | ⟨t, h, hr⟩ <;> rw [hr]
  · intro h; cases h
  · intro h; cases h
  · intro h; cases h
  · exact fun _ => ⟨rfl, rfl, h, rfl, rfl⟩

example := status_success_only_at_end .current exCfg [] (by decide)
example := status_success_only_at_end .snapshot exTar [false, false] (by decide)

/-- With every result checked (`Variant.current` and `Variant.fixed`), exit 0 means that **no modelled step
    failed**: the script has no fault at any position of the program, and every site of the program ran. -/
theorem status_success_no_fault {v : Variant} (hA : AllChecked v) (c : Cfg) (fs : List Bool) :
    (run v c fs).status = 0 →
      allFalse (program v c).length fs ∧ (run v c fs).trace.ran = program v c := by
  intro h
  have hff := allFalse_of_runSites_ok hA c _ fs {} ((run_checked hA c fs).2.1 h)
  exact ⟨hff, by rw [run_clean hA c fs hff, okAll_ran]; rfl⟩

example := status_success_no_fault current_allChecked exCfg [] (by decide)
example := status_success_no_fault fixed_allChecked exTar [false] (by decide)

/-- **What `sqfs_writer_cleanup(status)` does** (every variant): reached with a non-zero status it calls
    `unlink` on the stored name; the output file is gone afterwards exactly when that name, resolved against the
    directory the process is in *at that moment*, designates the output file. -/
theorem cleanup_unlinks_the_stored_name (v : Variant) (c : Cfg) (fs : List Bool) :
    (run v c fs).status ≠ 0 → (run v c fs).cleanupReached = true →
      (run v c fs).unlinkHit = some (nameResolves c (run v c fs).trace) ∧
      ((run v c fs).out = .unlinked ↔ nameResolves c (run v c fs).trace = true) ∧
      ((run v c fs).out = .present ↔ nameResolves c (run v c fs).trace = false) := by
  rcases run_cases v c fs with ⟨t, s, hf, hl, ⟨hs, hr⟩ | ⟨hs, hr⟩ | ⟨hs, hr⟩⟩ | ⟨t, h, hr⟩ <;> rw [hr]
  · intro _ h; cases h
  · intro _ h; cases h
  · intro _ _; cases hn : nameResolves c t <;> simp [cleanup, unlinkOut, hn]
  · intro h; exact absurd rfl h

/-- a failure while packing, after `chdir`: the source before b5ce20d left the file, /repo since b5ce20d removes it -/
example := cleanup_unlinks_the_stored_name .beforeRealpath exCfg (single 24) (by decide) (by decide)
example := cleanup_unlinks_the_stored_name .current exCfg (single 25) (by decide) (by decide)
example : (run .beforeRealpath exCfg (single 24)).out = .present ∧ (run .current exCfg (single 25)).out = .unlinked
    ∧ (run .current exCfg (single 25)).trace.failed = some (.packFile 2) := by decide +kernel

/-- The paths on which the cleanup is **not** reached, precisely: a failure reported by a site that runs before
    the writer exists (tar2sqfs.c:20-34) or inside `sqfs_writer_init`; `main` then returns `EXIT_FAILURE`
    directly (mkfs.c:114) or jumps past the cleanup (tar2sqfs.c:38 `goto out_it`). -/
theorem cleanup_not_reached_only_in_init (v : Variant) (c : Cfg) (fs : List Bool) :
    (run v c fs).cleanupReached = false →
      (run v c fs).status = 1 ∧ ∃ s, s ∈ preSites c ++ initSites c ∧ (run v c fs).trace.failed = some s := by
  rcases run_cases v c fs with ⟨t, s, hf, hl, ⟨hs, hr⟩ | ⟨hs, hr⟩ | ⟨hs, hr⟩⟩ | ⟨t, h, hr⟩ <;> rw [hr]
  · exact fun _ => ⟨rfl, s, List.mem_append_left _ hs, hf⟩
  · exact fun _ => ⟨rfl, s, List.mem_append_right _ hs, hf⟩
  · intro h; cases h
  · intro h; cases h

example := cleanup_not_reached_only_in_init .fixed exCfg (single 7) (by decide)
example := cleanup_not_reached_only_in_init .current exTar (single 1) (by decide)

/-- **A failing run of the packers never leaves the output file behind**, whichever site fails, whatever the output
    name looks like and wherever `pack_files` went — for every source in which a failed `sqfs_writer_init` removes
    the file and `main` resolves the output name before `pack_files` changes directory: /repo since b5ce20d
    (`Variant.current` and `Variant.fixed`).  For the source before b5ce20d the statement is false:
    `Witness.C13.relative_output_left_behind`. -/
theorem failure_never_leaves_output (v : Variant) (hi : v.initUnlinks = true) (ha : v.outPathAbsolute = true)
    (c : Cfg) (fs : List Bool) :
    (run v c fs).status ≠ 0 → (run v c fs).out ≠ .present :=
  out_removed hi (nameResolves_of_safe c _ (run_safe (Or.inl ha) fs))

/-- /repo since b5ce20d: a fault while packing (behind the `chdir`), a fault inside `sqfs_writer_init` -/
example := failure_never_leaves_output .current rfl rfl exCfg (single 25) (by decide)
example := failure_never_leaves_output .current rfl rfl exCfg (single 7) (by decide)
example := failure_never_leaves_output .fixed rfl rfl exTar (single 20) (by decide)

/-- The same for every source in which a failed init removes the file (so also the one before b5ce20d),
    **provided** the output name is absolute or no pack directory is given — the command lines on which the
    working directory cannot matter.  This is what holds of the source before b5ce20d, where the full statement is
    false (`Witness.C13.not_failure_never_leaves_output_beforeRealpath`); for /repo since b5ce20d the full statement
    above covers it. -/
theorem failure_never_leaves_output_partial (v : Variant) (hv : v.initUnlinks = true) (c : Cfg) (fs : List Bool) :
    (c.relOut = false ∨ c.packDir = false) →
    (run v c fs).status ≠ 0 → (run v c fs).out ≠ .present := by
  intro hc
  refine out_removed hv ?_
  rcases hc with hc | hc
  · simp [nameResolves, hc]
  · exact nameResolves_of_safe c _ (run_safe (Or.inr hc) fs)

/-- both disjuncts of the side condition: absolute output name; no pack directory -/
example := failure_never_leaves_output_partial .beforeRealpath rfl { exCfg with relOut := false } (single 24) (Or.inl rfl) (by decide)
example := failure_never_leaves_output_partial .beforeRealpath rfl { exCfg with packDir := false } (single 24) (Or.inr rfl) (by decide)

/-- **A failing run reports a site of the program, and stops there** (every variant, every configuration, every
    script): a run that does not exit 0 has recorded exactly one failing site `s`; `s` is a site of the program of
    that configuration, and it is the *last* site the run executed (nothing runs after the reported failure —
    this is the control-flow half of "a failing run says why"). -/
theorem failure_reports_site (v : Variant) (c : Cfg) (fs : List Bool) :
    (run v c fs).status ≠ 0 →
      ∃ s, s ∈ program v c ∧ (run v c fs).trace.failed = some s ∧ (run v c fs).trace.ran.getLast? = some s := by
  rcases run_cases v c fs with ⟨t, s, hf, hl, ⟨hs, hr⟩ | ⟨hs, hr⟩ | ⟨hs, hr⟩⟩ | ⟨t, h, hr⟩ <;> rw [hr]
  · exact fun _ => ⟨s, by simp [program, hs], hf, hl⟩
  · exact fun _ => ⟨s, by simp [program, hs], hf, hl⟩
  · exact fun _ => ⟨s, by rw [program, List.append_assoc]; exact List.mem_append_right _ hs, hf, hl⟩
  · intro h; exact absurd rfl h

/-- instance: the 32nd site of the example run fails (`sqfs_id_table_write`); it is reported and is the last one run -/
example : ∃ s, s ∈ program .current exCfg ∧ (run .current exCfg (single 31)).trace.failed = some s ∧
    (run .current exCfg (single 31)).trace.ran.getLast? = some s :=
  failure_reports_site .current exCfg (single 31) (by decide)
example : (run .current exCfg (single 31)).trace.failed = some .idTable := by decide

/-- **Every modelled site prints a diagnostic when it fails** — *definition-level*: this is a fact about the
    hand-written table `diagOnFail` (one line per site of the C sources; all-true once the export-table repair is
    in, i.e. for `Variant.current` and `Variant.fixed`), not about the control flow.  Its tie to the C code is the
    per-run comparison of the real tools' stderr with the table (tools/checks/c13.py). -/
theorem all_sites_have_diagnostic (v : Variant) (hv : v.exportChecked = true) : ∀ s, diagOnFail v s = true := by
  intro s; unfold diagOnFail; split <;> simp [hv]

example : ∀ s, diagOnFail .current s = true := all_sites_have_diagnostic .current rfl
/-- … and the table is not constant: the snapshot returned -1 silently for the export table -/
example : diagOnFail .snapshot .exportWrite = false ∧ diagOnFail .snapshot .idTable = true := by decide

/-- **A failing run says why**: the run reports a site of the program, that site is the last one executed
    (`failure_reports_site` — the part that depends on the run), and the reported site prints a diagnostic
    (`all_sites_have_diagnostic` — a property of the table `diagOnFail` alone, the same for every run; every
    variant with the export-table repair, i.e. `Variant.current` and `Variant.fixed`). -/
theorem failure_has_diagnostic (v : Variant) (hv : v.exportChecked = true) (c : Cfg) (fs : List Bool) :
    (run v c fs).status ≠ 0 →
      ∃ s, s ∈ program v c ∧ (run v c fs).trace.failed = some s ∧ (run v c fs).trace.ran.getLast? = some s ∧
        diagOnFail v s = true := by
  intro h
  obtain ⟨s, hs, hf, hl⟩ := failure_reports_site v c fs h
  exact ⟨s, hs, hf, hl, all_sites_have_diagnostic v hv s⟩

example := failure_has_diagnostic .current rfl exCfg (single 31) (by decide)

/-- **A run with exit 0 performed exactly the fault-free sequence**: same output-producing steps in the same
    order, same progress messages, same sites — the whole result equals the fault-free one (every variant in
    which every result is checked).  This is about the *step sequence*; that the bytes written are the same is
    established per run by the enumeration only. -/
theorem exit0_output_eq_fault_free {v : Variant} (hA : AllChecked v) (c : Cfg) (fs : List Bool) :
    (run v c fs).status = 0 → run v c fs = faultFree v c := by
  intro h
  rw [run_clean hA c fs (status_success_no_fault hA c fs h).1, faultFree, run_clean hA c [] (allFalse_nil _)]

/-- non-degenerate scripts (for `fs = []` the statement is `rfl`): explicit "no fault" entries, and a fault scheduled
    past the end of the program -/
example : run .current exCfg [false, false] = faultFree .current exCfg :=
  exit0_output_eq_fault_free current_allChecked exCfg [false, false] (by decide)
example : run .current exCfg (single 100) = faultFree .current exCfg :=
  exit0_output_eq_fault_free current_allChecked exCfg (single 100) (by decide)

/-- **The first failure stops the run**: if the first fault of the script is at position `k` of the program, the
    run exits 1, the sites executed are exactly the first `k+1` of the program (the failing one last), the
    output-producing steps performed are exactly those of the first `k` sites, and the reported site is the
    `k`-th.  No later site runs, in particular no output-producing one.  (Every variant in which every result is
    checked: `Variant.current` and `Variant.fixed`.) -/
theorem first_failure_stops {v : Variant} (hA : AllChecked v) (c : Cfg) (fs : List Bool) (k : Nat) :
    k < (program v c).length → allFalse k fs → fs.getD k false = true →
      (run v c fs).status = 1 ∧
      (run v c fs).trace.ran = (program v c).take (k + 1) ∧
      (run v c fs).trace.ops = ((program v c).take k).flatMap emits ∧
      (run v c fs).trace.failed = (program v c)[k]? := by
  intro hk haf hf
  obtain ⟨fs', t', hw, hran, hops, hfl⟩ := runSites_first_fault hA c (program v c) fs {} hk haf hf
  obtain ⟨ht, hs⟩ := run_walk hA c fs
  rw [hw] at ht hs
  rw [ht]
  exact ⟨by simpa using hs, hran, hops, hfl⟩

example := first_failure_stops current_allChecked exCfg (single 25) 25 (by decide) (allFalse_single 25) (single_getD 25)
example := first_failure_stops current_allChecked exTar (single 3) 3 (by decide) (allFalse_single 3) (single_getD 3)

/-! ### the readers: sqfs2tar and rdsquashfs -/

/-- **sqfs2tar / rdsquashfs exit 0 only when no call of `main` failed**: the script has no fault at any site of
    `main` and every site ran (every source in which every result is tested: `Variant.current` and `Variant.fixed`). -/
theorem reader_status_success_no_fault {v : Variant} (hA : AllChecked v) (c : RCfg) (fs : List Bool) :
    (runReader v c fs).status = 0 →
      allFalse (readerSites v c).length fs ∧ (runReader v c fs).trace.ran = readerSites v c ∧
      (runReader v c fs).trace.failed = none := by
  unfold runReader
  rcases hw : runSites v {} 0 (readerSites v c) fs {} with ⟨_ | _, fs', t⟩
  · intro h; cases h
  · intro _
    have hff := allFalse_of_runSites_ok hA {} _ fs {} (by rw [hw])
    rw [runSites_clean {} _ fs {} hff] at hw
    cases hw
    exact ⟨hff, by rw [okAll_ran]; rfl, okAll_failed ..⟩

example := reader_status_success_no_fault current_allChecked { sqfs2tar := true, compressed := true, nentries := 3 } [] (by decide)
example := reader_status_success_no_fault fixed_allChecked { sqfs2tar := false, op := .describe } [false] (by decide)

/-- **The first failure stops sqfs2tar / rdsquashfs**: exit 1, the sites executed are the first `k+1`, the
    `k`-th is the one reported. -/
theorem reader_first_failure_stops {v : Variant} (hA : AllChecked v) (c : RCfg) (fs : List Bool) (k : Nat) :
    k < (readerSites v c).length → allFalse k fs → fs.getD k false = true →
      (runReader v c fs).status = 1 ∧
      (runReader v c fs).trace.ran = (readerSites v c).take (k + 1) ∧
      (runReader v c fs).trace.failed = (readerSites v c)[k]? := by
  intro hk haf hf
  obtain ⟨fs', t', hw, hran, _, hfl⟩ := runSites_first_fault hA {} (readerSites v c) fs {} hk haf hf
  unfold runReader
  rw [hw]
  exact ⟨rfl, hran, hfl⟩

example := reader_first_failure_stops current_allChecked { sqfs2tar := false, op := .cat, nsplice := 3 } (single 14) 14 (by decide)
  (allFalse_single 14) (single_getD 14)
/-- the repaired rdsquashfs -d: the 13th site is the test of `fflush(stdout)`; when it fails the run exits 1 there -/
example : (readerSites .fixed { sqfs2tar := false, op := .describe })[12]? = some .rStdoutFlush := by decide
example := reader_first_failure_stops fixed_allChecked { sqfs2tar := false, op := .describe } (single 12) 12 (by decide)
  (allFalse_single 12) (single_getD 12)

/-- **Exit 0 ⇒ the results reached standard output** (clause "a run that exits with status 0 has produced exactly
    the output of a fault-free run", for what rdsquashfs -l, -s, -d, -x print through stdio): in every source that
    tests `fflush(stdout)` / `ferror(stdout)` before `status = EXIT_SUCCESS`, for every configuration and every fault
    script — including a write error on standard output at any time — a run that exits 0 lost nothing.
    Holds for `Variant.fixed` (/repo since 65a1d35 = fixes/C13-check-stdout-errors.patch). -/
theorem reader_exit0_results_delivered (v : Variant) (hs : v.stdoutChecked = true) (c : RCfg) (fs : List Bool) :
    (runReader v c fs).status = 0 → (runReader v c fs).stdoutLost = false := by
  unfold runReader
  rcases runSites v {} 0 (readerSites v c) fs {} with ⟨ok, fs', t⟩
  cases ok <;> simp [hs]

example := reader_exit0_results_delivered .fixed rfl { sqfs2tar := false, op := .describe } (single 12)
/-- non-vacuous: the repaired source does exit 0 (fault-free), and a failing flush makes it exit 1 -/
example : (runReader .fixed { sqfs2tar := false, op := .describe } []).status = 0 ∧
    (runReader .fixed { sqfs2tar := false, op := .describe } (single 12)).status = 1 ∧
    (runReader .fixed { sqfs2tar := false, op := .describe } (single 12)).trace.failed = some .rStdoutFlush := by decide

/-  Full statement for /repo before 65a1d35 — FALSE (Witness.C13.not_reader_exit0_results_delivered_current; on the
    real tool of that tree `rdsquashfs -d img >/dev/full` exits 0; known_findings.d/C13.json: fixed by 65a1d35):
      theorem reader_exit0_results_delivered_current (c : RCfg) (fs : List Bool) :
          (runReader .current c fs).status = 0 → (runReader .current c fs).stdoutLost = false
    What does hold of the source before 65a1d35: -/
/-- /repo before 65a1d35: exit 0 ⇒ nothing was lost **provided** the operation does not hand its results to stdio
    (sqfs2tar, rdsquashfs -c and -u: their output goes through `write(2)`, every result tested), *or* standard
    output accepted the exit-time flush.  Missing for the full statement: rdsquashfs -l / -s / -d / -x with a write
    error on standard output, where it is false. -/
theorem reader_exit0_results_delivered_partial {v : Variant} (hA : AllChecked v) (c : RCfg) (fs : List Bool) :
    (printsResults c = false ∨ fs.getD (readerSites v c).length false = false) →
    (runReader v c fs).status = 0 → (runReader v c fs).stdoutLost = false := by
  intro hc h
  obtain ⟨hff, _⟩ := reader_status_success_no_fault hA c fs h
  rw [runReader_clean c hff]
  rcases hc with hc | hc
  · simp [hc]
  · rw [List.getD_eq_getElem?_getD] at hc
    simp [List.headD_eq_head?_getD, List.head?_drop, hc]

/-- both disjuncts: rdsquashfs -c with a failing exit-time flush (nothing is in the stdio buffer); -d without one -/
example := reader_exit0_results_delivered_partial current_allChecked { sqfs2tar := false, op := .cat, nsplice := 2 }
  (single 15) (Or.inl rfl) (by decide)
example := reader_exit0_results_delivered_partial current_allChecked { sqfs2tar := false, op := .describe } [] (Or.inr rfl) (by decide)

/-! ### the specification, evaluated on the model

`Spec.failStopOk` is the predicate the check evaluates on what it observes of every real run.  The two theorems
below say that the *model* of the repaired tools satisfies it on every run — they are the composition of the
clause theorems above (status, diagnostic, output removed, exit 0 = fault-free), with "same output" read as
"same step sequence" (`observed`, `observedReader` in Sqfs/Proofs/FailStop.lean).  No crash clause: a Lean
function cannot crash (`crashed := false` by construction). -/

/-- **The packers' skeleton is fail-stop** in the sense of `Spec.failStopOk`, for every configuration and every
    fault script, in every source with all results checked, init removing the file, the output name resolved and
    the export-table diagnostic: `Variant.current` and `Variant.fixed`. -/
theorem packer_meets_spec {v : Variant} (hA : AllChecked v) (hi : v.initUnlinks = true) (ha : v.outPathAbsolute = true)
    (he : v.exportChecked = true) (c : Cfg) (fs : List Bool) :
    Spec.failStopOk (observed v c fs) = true := by
  refine failStopOk_of rfl (fun h => ?_) (fun h => ?_)
  · exact beq_iff_eq.2 (exit0_output_eq_fault_free hA c fs (beq_iff_eq.1 h))
  · have h : (run v c fs).status ≠ 0 := ne_of_beq_false h
    obtain ⟨s, _, hf, _, hd⟩ := failure_has_diagnostic v he c fs h
    exact ⟨by simp only [observed, hf, hd], fun _ => beq_false_of_ne (failure_never_leaves_output v hi ha c fs h)⟩

example : Spec.failStopOk (observed .current exCfg (single 25)) = true :=
  packer_meets_spec current_allChecked rfl rfl rfl exCfg (single 25)
/-- the predicate is not constant on model runs: the source before b5ce20d fails it on the same run -/
example : Spec.failStopOk (observed .beforeRealpath exCfg (single 24)) = false := by decide
example : Spec.verdict (observed .beforeRealpath exCfg (single 24)) = "failure-output-left" := by decide +kernel

/-- **The readers' skeleton is fail-stop** in the sense of `Spec.failStopOk` once standard output is checked
    (`Variant.fixed`, the code in /repo); for /repo before 65a1d35 see `Witness.C13.current_reader_violates_spec`. -/
theorem reader_meets_spec {v : Variant} (hA : AllChecked v) (hs : v.stdoutChecked = true) (c : RCfg) (fs : List Bool) :
    Spec.failStopOk (observedReader v c fs) = true := by
  refine failStopOk_of rfl (fun h => ?_) (fun h => ?_)
  · have h : (runReader v c fs).status = 0 := beq_iff_eq.1 h
    have hff := (reader_status_success_no_fault hA c fs h).1
    have ht : (runReader v c fs).trace = (runReader v c []).trace := by
      rw [runReader_clean c hff, runReader_clean c (allFalse_nil _)]
    simp only [observedReader, ht, beq_self_eq_true, reader_exit0_results_delivered v hs c fs h, Bool.not_false, Bool.and_self]
  · obtain ⟨s, _, hf, _⟩ := runReader_reports_site (ne_of_beq_false h)
    exact ⟨by simp only [observedReader, hf, Option.isSome_some], nofun⟩

example : Spec.failStopOk (observedReader .fixed { sqfs2tar := false, op := .describe } (single 12)) = true :=
  reader_meets_spec fixed_allChecked rfl _ _

/-! ### second layer: the block processor with fallible primitives -/

open Sqfs.FailStop.BP in
/-- **Errors propagate out of the block processor**: from *every* processor state and for every fault script, if
    any primitive (block allocation, in-flight copy, pool submit, pool dequeue / worker, `write_data_block` with
    its read-back and truncate, inode growth, fragment-table and hash-table updates) fails while an API call
    (`begin_file`, `append`, `end_file`, `sync`, `finish`) runs, that call returns an error.  Holds for every
    variant in which `set_block_size`'s result for an all-zero tail is tested — /repo as it is; for the snapshot
    see `Witness.C13.sparse_tail_fault_unreported`. -/
theorem blockproc_error_propagates {v : Variant} (hv : ∀ p, BP.checked v p = true) (fuel : Nat) (a : BP.Api) (p : BP.Proc)
    (fs : List Bool) :
    (BP.runCall v fuel a p fs).1.faulted = true → (BP.runCall v fuel a p fs).1.ok = false := by
  have hs := (sound_call hv fuel a).prop { script := fs, proc := p } rfl
  unfold runCall
  rcases hc : call v fuel a { script := fs, proc := p } with ⟨r, c⟩
  rw [hc] at hs
  cases r with
  | ok u => intro h; have := hs h; simp [isErr] at this
  | error e => intro _; rfl

open Sqfs.FailStop.BP in
/-- The same for a whole session driven the way the tools drive it (stop at the first error): a call during
    which a primitive failed is an erroring call, hence the last one. -/
theorem blockproc_session_propagates {v : Variant} (hv : ∀ p, BP.checked v p = true) (fuel : Nat) (calls : List BP.Api)
    (p : BP.Proc) (fs : List Bool) :
    ∀ r ∈ BP.session v fuel calls p fs, r.faulted = true → r.ok = false := by
  intro r hr
  obtain ⟨a, p', fs', rfl⟩ := mem_session hr
  exact blockproc_error_propagates hv fuel a p' fs'

/-- a four-call session `begin_file; append 5; end_file; sync` in which the fourth primitive drawn fails (the block
    allocation inside `append`): the session has two results, the second one faulted, is an error and is the last -/
example : (BP.session .current 4 [.beginFile true false false false, .append 5 false false, .endFile, .sync] {}
      [false, false, false, true]).map (fun r => (r.faulted, r.ok)) = [(false, true), (true, false)] := by decide +kernel
example : ∀ r ∈ BP.session .current 4 [.beginFile true false false false, .append 5 false false, .endFile, .sync] {}
      [false, false, false, true], r.faulted = true → r.ok = false :=
  blockproc_session_propagates BP.current_checked 4 _ {} _
/-- `blockproc_error_propagates` applied: the inode allocation of `begin_file` fails; a failing truncate in `sync` -/
example := blockproc_error_propagates BP.current_checked 4 (.beginFile true false false false) {} [true] (by decide)
example := blockproc_error_propagates BP.current_checked 4 .sync
    { backlog := 1, pool := [{ size := 0, last := true, dupBlocks := true }] } [false, false, true] (by decide)

/-! ### non-vacuity: the hypotheses above are satisfiable on non-trivial instances -/

example : (run .fixed exCfg []).status = 0 ∧ (run .current exCfg []).status = 0 := by decide
example : (run .fixed exCfg []).trace.ops.length = 14 := by decide
example : (program .fixed exCfg).length = 35 ∧ (program .current exCfg).length = 35 ∧ (program .beforeRealpath exCfg).length = 34 := by decide
example : (run .current exTar []).trace.ran.length = 37 := by decide
-- init failure: cleanup not reached
example : (run .fixed exCfg (single 7)).status ≠ 0 ∧ (run .fixed exCfg (single 7)).cleanupReached = false
    ∧ (run .fixed exCfg (single 7)).out = .unlinked := by decide
-- failure while packing: cleanup reached after `chdir`; the absolute name still hits the file
example : (run .current exCfg (single 24)).status ≠ 0 ∧ (run .current exCfg (single 24)).cleanupReached = true
    ∧ (run .current exCfg (single 24)).trace.cwd = .pack ∧ (run .current exCfg (single 24)).unlinkHit = some true := by decide
example : 25 < (program .fixed exCfg).length ∧ allFalse 25 (single 25) ∧ (single 25).getD 25 false = true :=
  ⟨by decide, allFalse_single 25, single_getD 25⟩
example : (run .current { exCfg with tool := .tar2sqfs } (single 0)).out = .never := by decide
-- hypothesis of the partial theorem: absolute name, pack directory given
example : (run .beforeRealpath { exCfg with relOut := false } (single 24)).out = .unlinked := by decide
example : (runReader .current { sqfs2tar := true, compressed := true, nentries := 3 } []).status = 0 := by decide
example : (readerSites .current { sqfs2tar := false, op := .unpack, unpackRoot := true }).length = 17 ∧
    (readerSites .fixed { sqfs2tar := false, op := .unpack, unpackRoot := true }).length = 18 := by decide
example : (runReader .current { sqfs2tar := false, op := .cat, nsplice := 3 } (single 14)).trace.failed = some (.rSplice 1) := by decide

/-- hypothesis of `blockproc_error_propagates` is satisfiable: the inode allocation of `begin_file` fails -/
example : (BP.runCall .current 4 (.beginFile true false false false) {} [true]).1.faulted = true := by decide
/-- … and with a processor that already holds a full block, the pool submit inside `append` fails -/
example : (BP.runCall .current 4 (.append 1 false false)
    { beginCalled := true, cur := some { size := 4 }, backlog := 1 } [true]).1 =
    ⟨false, some .fault, true, false, [.submit]⟩ := by decide
/-- the last block of a file whose blocks duplicate earlier ones: read-back compare and truncate are primitives
    of the call that dequeues it; a failing truncate is reported -/
example : (BP.runCall .current 4 .sync
    { backlog := 1, pool := [{ size := 0, last := true, dupBlocks := true }] } [false, false, true]).1 =
    ⟨false, some .fault, true, false, [.poolDequeue, .dedupRead, .dedupTruncate]⟩ := by decide
/-- `append` of 0 bytes without a current block: the C code dereferences NULL (frontend.c:171); the model says so -/
example : (BP.runCall .current 4 (.append 0 false false) { beginCalled := true } []).1.err = some .nullDeref := by decide

end Sqfs.C13
