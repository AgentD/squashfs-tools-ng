/-
C01 — packing fidelity: what the writer half of libsquashfs stores, the reader half reads back.

Property theorems (all ∀, no bound on sizes) about the models `Sqfs/Model/Enc*.lean` (+ the C03 writer-piece models
they build on) and non-vacuity examples.  The models are tied to `/repo` by the unit correspondence
(`harness/h_c01u.c` vs `sqfsmodel c01`, `tools/checks/c01_units.py`) and, for whole images, by `tools/checks/c01.py`.
Defects of the code before the repairs `fixes/C01-*.patch`: `Sqfs/Witness/C01.lean`.
-/
import Sqfs.Proofs.EncInodeRT
import Sqfs.Proofs.EncWf
import Sqfs.Proofs.EncDirIndex
import Sqfs.Proofs.EncTables
import Sqfs.Proofs.EncMeta
import Sqfs.Proofs.EncXattr
import Sqfs.Proofs.EncXattrRec
import Sqfs.Proofs.EncXattrRef
import Sqfs.Proofs.EncXattrLoc
import Sqfs.Proofs.EncXattrRecAll
import Sqfs.Proofs.EncXattrFlush
import Sqfs.Proofs.EncTree
import Sqfs.Proofs.EncTreeWalk
import Sqfs.Proofs.PackContent
import Sqfs.Proofs.FsTreeOrder
import Sqfs.Proofs.WriterAccept
namespace Sqfs.C01
open Sqfs.Enc Sqfs.Consts
open Sqfs.MetaWriter (Codec)

/-! ## inodes -/

/-- **Inode round trip**, all 14 kinds: whatever `sqfs_meta_writer_write_inode` appends for a well-formed inode,
`sqfs_meta_reader_read_inode` standing at its first byte returns the same inode and leaves the stream at the byte
behind it (so inodes compose inside a stream). -/
theorem inode_roundtrip (bs : Nat) (i : Inode) (rest : Bytes) (h : WfInode bs i) :
    decInode bs (encInode i ++ rest) = .ok (i, rest) :=
  decInode_encInode bs i rest h

theorem exWfFile : WfInode 1048576 (.fileExt ⟨0o100644, 3, 65535, 0xFFFFFFFF, 7⟩ (2 ^ 32) (2 ^ 32 + 5) 4096 2 0xFFFFFFFF 0xFFFFFFFF 5
    (List.replicate 4097 0)) := by
  refine ⟨by decide, by decide, by decide, by decide, by decide, by decide, by decide, by decide, ?_, ?_⟩
  · rw [List.length_replicate]; decide
  · intro w hw; rw [List.eq_of_mem_replicate hw]; decide
theorem exWfDir : WfInode 4096 (.dirExt ⟨0o40755, 0, 0, 1, 9⟩ 3 70000 8194 1 2 100 NONE32 [⟨0, 0, [0x61]⟩, ⟨8000, 8194, [0xff, 0x62]⟩]) := by decide
theorem exWfSlink : WfInode 131072 (.slink ⟨0o120777, 1, 2, 3, 4⟩ 1 5 [0x2f, 0x80, 0xff, 0x20, 0x22]) := by decide
-- the theorem applied: a 4 GiB+ file inode with 4097 block words, an extended directory with an index, a symlink
example := inode_roundtrip _ _ [0xAA] exWfFile
example := inode_roundtrip _ _ [] exWfDir
example := inode_roundtrip _ _ [1, 2] exWfSlink

/-- `serialize_tree_node` **establishes** the well-formedness the round trip needs: from an inode that is well
formed (as produced by the directory writer / block processor / `tree_node_to_inode`), node attributes within their
C types and 16-bit id-table indices.  Only the per-kind part (`WfBody`) is asked of the incoming inode: its base is
calloc'ed zeros in C and is overwritten here. -/
theorem serialize_establishes_wf (bs : Nat) (isDir isReg : Bool) (a : NodeAttr) (uid gid : Nat) (i0 : Inode) (h0 : WfBody bs i0)
    (hm : a.mode < 65536 ∧ a.mode / 4096 * 4096 = i0.typeBits) (ht : a.mtime < 2 ^ 32) (hn : a.inum < 2 ^ 32)
    (hl : a.linkCount < 2 ^ 32) (hx : a.xattrIdx < 2 ^ 32) (hu : uid < 65536) (hg : gid < 65536) :
    WfInode bs (setIds uid gid (serializeInode isDir isReg a i0)) :=
  wfInode_serializeInode bs isDir isReg a uid gid i0 h0 hm ht hn hl hx hu hg

-- the theorem applied: a two-block file with three links and xattr index 0 (so it is promoted), ids 65535 and 0
example := serialize_establishes_wf 4096 false true ⟨0o100600, 17, 12, 3, 0⟩ 65535 0
  (.file ⟨0, 0, 0, 0, 0⟩ 96 NONE32 NONE32 5000 [4096, 904]) (by decide) ⟨by decide, by decide⟩ (by decide) (by decide)
  (by decide) (by decide) (by decide) (by decide)

/-- **basic ↔ extended are inverse where both apply** (`sqfs_inode_make_extended` repaired, see `Witness`):
(1) basic → extended → basic is the identity on every well-formed basic inode; (2) extended → basic → extended is the
identity on every extended inode whose fields fit the basic layout and that carries nothing beyond it (no directory
index, one link); (3) neither conversion changes what a reader sees (`make_basic`: of an inode with at least one
link). -/
theorem make_extended_basic_inverse :
    (∀ bs (i : Inode), i.isExt = false → WfInode bs i → makeBasic (makeExtended i) = i)
    ∧ (∀ i : Inode, i.isExt = true → i.fitsBasic = true →
        (∀ b nl sz sb par ic off x idx, i = .dirExt b nl sz sb par ic off x idx → ic = 0 ∧ idx = []) →
        (∀ b st sz sp nl fi fo x blks, i = .fileExt b st sz sp nl fi fo x blks → nl = 1) →
        makeExtended (makeBasic i) = i)
    ∧ (∀ i : Inode, (makeExtended i).view = i.view) ∧ (∀ i : Inode, 1 ≤ i.nlink → (makeBasic i).view = i.view) := by
  refine ⟨fun bs i hb hw => ?_, fun i hext hfit hidx hnl => ?_, makeExtended_view, makeBasic_view⟩
  · have hfit : (makeExtended i).fitsBasic = true := by
      obtain ⟨_, hw⟩ := hw
      cases i with
      | dir b sb nl sz off par =>
        obtain ⟨_, _, h3, _⟩ := hw
        simp only [makeExtended, Inode.fitsBasic, beq_self_eq_true, Bool.true_and, decide_eq_true_eq]
        exact Nat.le_of_lt_succ h3
      | file b st fi fo sz blks =>
        obtain ⟨h1, _, _, h4, _⟩ := hw
        exact fitsBasic_fileExt.mpr ⟨rfl, Nat.le_of_lt_succ h1, Nat.le_of_lt_succ h4, rfl, Nat.le_refl 1⟩
      | _ => first | rfl | cases hb
    rw [makeBasic_eq, if_pos hfit, demote_makeExtended i hb]
  · rw [makeBasic_eq, if_pos hfit]
    have hx := fitsBasic_xattr hfit hext
    cases i with
    | dirExt b nl sz sb par ic off x idx =>
      obtain ⟨rfl, rfl⟩ := hidx _ _ _ _ _ _ _ _ _ rfl
      obtain rfl : x = NONE32 := hx
      rfl
    | fileExt b st sz sp nl fi fo x blks =>
      obtain rfl := hnl _ _ _ _ _ _ _ _ _ rfl
      obtain ⟨rfl, _, _, rfl, _⟩ := fitsBasic_fileExt.mp hfit
      rfl
    | slinkExt b nl ts t x => obtain rfl : x = NONE32 := hx; rfl
    | devExt b c nl d x => obtain rfl : x = NONE32 := hx; rfl
    | ipcExt b c nl x => obtain rfl : x = NONE32 := hx; rfl
    | _ => cases hext

-- (1) applied to a basic fifo, (2) applied to an extended one-link file without xattrs
example := make_extended_basic_inverse.1 4096 (Inode.ipc ⟨0o10644, 0, 0, 0, 1⟩ false 1) (by decide) (by decide)
example := make_extended_basic_inverse.2.1 (.fileExt ⟨0o100644, 1, 2, 3, 4⟩ 96 100 0 1 NONE32 NONE32 NONE32 [100])
  (by decide) (by decide) (fun _ _ _ _ _ _ _ _ _ h => by cases h) (fun _ _ _ _ _ _ _ _ _ h => by cases h; rfl)

-- clauses 3 and 4, and clause 2 on a directory (where its first side condition is a real obligation)
example := make_extended_basic_inverse.2.2.1 (Inode.ipc ⟨0o10644, 0, 0, 0, 1⟩ false 1)
example := make_extended_basic_inverse.2.2.2 (.fileExt ⟨0o100644, 1, 2, 3, 4⟩ 96 100 0 1 NONE32 NONE32 NONE32 [100]) (by decide)
example := make_extended_basic_inverse.2.1 (.dirExt ⟨0o40755, 0, 0, 1, 9⟩ 3 100 0 1 0 100 NONE32 [])
  (by decide) (by decide) (fun _ _ _ _ _ _ _ _ _ h => by cases h; exact ⟨rfl, rfl⟩) (fun _ _ _ _ _ _ _ _ _ h => by cases h)

/-- **The basic/extended selection is safe and minimal.**
* regular files: the inode written carries exactly the wanted link count, xattr index, mode, time stamp, inode number
  on top of the block processor's payload (size, start, sparse, fragment, block words) — choosing the basic layout
  truncates nothing — and it is basic exactly when everything fits (no xattr index, start and size below 2³², not
  sparse, one link);
* symlinks, devices, fifos, sockets: same, basic exactly when there is no xattr index;
* directories: the layout chosen by `sqfs_dir_writer_create_inode` is kept, link count and xattr index stored. -/
theorem selection_minimal_and_safe (a : NodeAttr) :
    (∀ i0 : Inode, 1 ≤ a.linkCount → i0.view.typeBits = sIFREG →
      (∀ b st fi fo sz blks, i0 = .file b st fi fo sz blks → st ≤ 0xFFFFFFFF ∧ sz ≤ 0xFFFFFFFF) →
      (serializeInode false true a i0).view = wanted a i0.view
      ∧ (serializeInode false true a i0).isExt = !fitsWanted a i0.view)
    ∧ (∀ devno target i0, treeNodeToInode a.mode a.linkCount devno target = some i0 →
      (serializeInode false false a i0).view = wanted a i0.view
      ∧ (serializeInode false false a i0).isExt = !(a.xattrIdx == NONE32))
    ∧ (∀ i0 : Inode, i0.view.typeBits = sIFDIR → (i0.isExt = false → a.xattrIdx = NONE32) →
      (serializeInode true false a (setDirNlink a.linkCount i0)).view = wanted a i0.view
      ∧ (serializeInode true false a (setDirNlink a.linkCount i0)).isExt = i0.isExt) := by
  refine ⟨fun i0 hl hf hu32 => ⟨serialize_file_view a i0 hl hf, ?_⟩, fun devno target i0 h0 => serialize_other a devno target i0 h0,
    fun i0 hd hx => ?_⟩
  · -- what `make_basic` tests, on the link count just stored, is what `fitsWanted` says of the view
    rw [serializeInode_reg, serializeInode_isExt]
    rcases view_reg_cases hf with ⟨b, st, fi, fo, sz, blks, rfl⟩ | ⟨b, st, sz, sp, nl, fi, fo, x, blks, rfl⟩
    · obtain ⟨h2, h3⟩ := hu32 _ _ _ _ _ _ rfl
      by_cases h1 : a.linkCount > 1
      · -- a basic one with more than one link is promoted by `setFileNlink` first
        simp [setFileNlink, h1, makeExtended, putXattr, Inode.fitsBasic, fitsWanted, Inode.view, Nat.not_le.mpr h1]
      · -- with one link it stays basic, and fits: both fields are below 2³²
        simp [setFileNlink, h1, putXattr, Inode.fitsBasic, fitsWanted, Inode.view, h2, h3, Nat.le_of_not_lt h1]
    · simp [setFileNlink, putXattr, Inode.fitsBasic, fitsWanted, Inode.view]
  · refine ⟨?_, ?_⟩
    · rw [serializeInode_view _ _ _ (fun h => by rw [setDirNlink_view hd, hd] at h; exact absurd h (by decide)), setDirNlink_view hd]
      rfl
    · rw [serializeInode_isExt, setDirNlink_isExt]
      cases he : i0.isExt
      · rw [hx he]; rfl
      · exact Bool.or_true _

-- a 5 GiB sparse file with two links and no xattrs must stay extended and keep every field
example : (serializeInode false true ⟨0o100644, 9, 4, 2, NONE32⟩
      (.fileExt ⟨0, 0, 0, 0, 0⟩ 96 (5 * 2 ^ 30) 4096 1 NONE32 NONE32 NONE32 [])).view
    = ⟨sIFREG, ⟨0o100644, 0, 0, 9, 4⟩, 2, NONE32, [96, 5 * 2 ^ 30, 4096, NONE32, NONE32], [], []⟩ := by decide
-- clause 1 applied to that file, and to a basic one (where the 32-bit premise is a real obligation)
example := (selection_minimal_and_safe ⟨0o100644, 9, 4, 2, NONE32⟩).1
  (.fileExt ⟨0, 0, 0, 0, 0⟩ 96 (5 * 2 ^ 30) 4096 1 NONE32 NONE32 NONE32 []) (by decide) (by decide) (fun _ _ _ _ _ _ h => by cases h)
example := (selection_minimal_and_safe ⟨0o100644, 9, 4, 1, NONE32⟩).1
  (.file ⟨0, 0, 0, 0, 0⟩ 96 NONE32 NONE32 5000 [4096, 904]) (by decide) (by decide)
  (fun _ _ _ _ _ _ h => by cases h; exact ⟨by decide, by decide⟩)
-- clause 2 applied: a symlink with an xattr index (extended), a character device without (basic)
example := (selection_minimal_and_safe ⟨0o120777, 9, 4, 2, 3⟩).2.1 0 [0x2f, 0x61] _ rfl
example := (selection_minimal_and_safe ⟨0o20600, 9, 4, 1, NONE32⟩).2.1 0x501 [] _ rfl
-- clause 3 applied: an extended directory that gets an xattr index, a basic directory without one
example := (selection_minimal_and_safe ⟨0o40755, 9, 4, 3, 5⟩).2.2 (.dirExt ⟨0, 0, 0, 0, 0⟩ 1 100 0 1 0 100 NONE32 []) (by decide) (by decide)
example := (selection_minimal_and_safe ⟨0o40755, 9, 4, 3, NONE32⟩).2.2 (.dir ⟨0, 0, 0, 0, 0⟩ 0 1 100 100 1) (by decide) (fun _ => rfl)

/-- **`sqfs_inode_set_file_size` / `sqfs_inode_set_file_block_start` never truncate** (inode.c:241-298, the two stores
the block processor makes into a file inode).  Whatever the inode was — basic or extended — and whatever 64-bit value
is stored: the reader-visible size (resp. block start) afterwards is exactly that value and nothing else a reader sees
changes (for an inode with at least one link); a value of 2³² or more **makes the inode extended**; and a basic file
inode has both fields within 32 bits afterwards if it had before (`FileFits`) — which is the premise
`selection_minimal_and_safe` takes for basic file inodes, here established from the code that produces them. -/
theorem file_size_start_no_truncation (v : Nat) (i i' : Inode) :
    (setFileSize v i = some i' →
      i'.view.nums = i.view.nums.set 1 v
      ∧ i'.view.typeBits = i.view.typeBits ∧ i'.view.base = i.view.base ∧ i'.view.xattr = i.view.xattr
      ∧ i'.view.words = i.view.words ∧ i'.view.bytes = i.view.bytes
      ∧ (1 ≤ i.view.nlink → i'.view.nlink = i.view.nlink)
      ∧ (v > 0xFFFFFFFF → i'.isExt = true) ∧ (FileFits i → FileFits i'))
    ∧ (setFileBlockStart v i = some i' →
      i'.view.nums = i.view.nums.set 0 v
      ∧ i'.view.typeBits = i.view.typeBits ∧ i'.view.base = i.view.base ∧ i'.view.xattr = i.view.xattr
      ∧ i'.view.words = i.view.words ∧ i'.view.bytes = i.view.bytes
      ∧ (1 ≤ i.view.nlink → i'.view.nlink = i.view.nlink)
      ∧ (v > 0xFFFFFFFF → i'.isExt = true) ∧ (FileFits i → FileFits i')) := by
  refine ⟨fun h => ?_, fun h => ?_⟩
  · cases i with
    | fileExt b st sz sp nl fi fo x blks =>
      simp only [setFileSize, putFileSize, Option.some.injEq] at h
      subst h
      by_cases hs : v < 0xFFFFFFFF
      · -- `make_basic` demotes only an inode that shows the same to a reader
        rw [if_pos hs, makeBasic_eq]
        split
        · next hfit =>
          obtain ⟨rfl, f1, f2, rfl, f4⟩ := fitsBasic_fileExt.mp hfit
          exact ⟨rfl, rfl, rfl, rfl, rfl, rfl, fun h1 => Nat.le_antisymm h1 f4, fun h1 => absurd h1 (Nat.lt_asymm hs),
            fun _ b' st' fi' fo' sz' blks' he => by cases he; exact ⟨f1, f2⟩⟩
        · exact ⟨rfl, rfl, rfl, rfl, rfl, rfl, fun _ => rfl, fun _ => rfl, fun _ => fileFits_of_ext rfl⟩
      · rw [if_neg hs]
        exact ⟨rfl, rfl, rfl, rfl, rfl, rfl, fun _ => rfl, fun _ => rfl, fun _ => fileFits_of_ext rfl⟩
    | file b st fi fo sz blks =>
      simp only [setFileSize] at h
      by_cases hs : v > 0xFFFFFFFF
      · rw [if_pos hs] at h
        simp only [makeExtended, putFileSize, Option.some.injEq] at h
        subst h
        exact ⟨rfl, rfl, rfl, rfl, rfl, rfl, fun _ => rfl, fun _ => rfl, fun _ => fileFits_of_ext rfl⟩
      · rw [if_neg hs] at h
        simp only [putFileSize, Option.some.injEq] at h
        subst h
        refine ⟨rfl, rfl, rfl, rfl, rfl, rfl, fun _ => rfl, fun h1 => absurd h1 hs, ?_⟩
        intro hf b' st' fi' fo' sz' blks' he
        cases he
        exact ⟨(hf _ _ _ _ _ _ rfl).1, Nat.le_of_not_lt hs⟩
    | _ => cases h
  · cases i with
    | fileExt b st sz sp nl fi fo x blks =>
      simp only [setFileBlockStart, putBlockStart, Option.some.injEq] at h
      subst h
      by_cases hs : v < 0xFFFFFFFF
      · -- `make_basic` demotes only an inode that shows the same to a reader
        rw [if_pos hs, makeBasic_eq]
        split
        · next hfit =>
          obtain ⟨rfl, f1, f2, rfl, f4⟩ := fitsBasic_fileExt.mp hfit
          exact ⟨rfl, rfl, rfl, rfl, rfl, rfl, fun h1 => Nat.le_antisymm h1 f4, fun h1 => absurd h1 (Nat.lt_asymm hs),
            fun _ b' st' fi' fo' sz' blks' he => by cases he; exact ⟨f1, f2⟩⟩
        · exact ⟨rfl, rfl, rfl, rfl, rfl, rfl, fun _ => rfl, fun _ => rfl, fun _ => fileFits_of_ext rfl⟩
      · rw [if_neg hs]
        exact ⟨rfl, rfl, rfl, rfl, rfl, rfl, fun _ => rfl, fun _ => rfl, fun _ => fileFits_of_ext rfl⟩
    | file b st fi fo sz blks =>
      simp only [setFileBlockStart] at h
      by_cases hs : v > 0xFFFFFFFF
      · rw [if_pos hs] at h
        simp only [makeExtended, putBlockStart, Option.some.injEq] at h
        subst h
        exact ⟨rfl, rfl, rfl, rfl, rfl, rfl, fun _ => rfl, fun _ => rfl, fun _ => fileFits_of_ext rfl⟩
      · rw [if_neg hs] at h
        simp only [putBlockStart, Option.some.injEq] at h
        subst h
        refine ⟨rfl, rfl, rfl, rfl, rfl, rfl, fun _ => rfl, fun h1 => absurd h1 hs, ?_⟩
        intro hf b' st' fi' fo' sz' blks' he
        cases he
        exact ⟨Nat.le_of_not_lt hs, (hf _ _ _ _ _ _ rfl).2⟩
    | _ => cases h

-- applied: a basic file inode given a 5 GiB size is promoted; an extended one given a data start beyond 4 GiB stays
-- extended; an extended one whose size drops to 10 bytes (and that has nothing else to keep it extended) is demoted
example := (file_size_start_no_truncation (5 * 2 ^ 30) (.file ⟨0o100644, 1, 2, 3, 4⟩ 96 NONE32 NONE32 100 [100]) _).1 rfl
example := (file_size_start_no_truncation (2 ^ 32 + 96) (.fileExt ⟨0o100644, 1, 2, 3, 4⟩ 96 100 0 1 NONE32 NONE32 NONE32 [100]) _).2 rfl
example : setFileSize 10 (.fileExt ⟨0o100644, 1, 2, 3, 4⟩ 96 (5 * 2 ^ 30) 0 1 NONE32 NONE32 NONE32 [])
    = some (.file ⟨0o100644, 1, 2, 3, 4⟩ 96 NONE32 NONE32 10 []) := by decide
example : setFileSize (5 * 2 ^ 30) (.file ⟨0o100644, 1, 2, 3, 4⟩ 96 NONE32 NONE32 100 [100])
    = some (.fileExt ⟨0o100644, 1, 2, 3, 4⟩ 96 (5 * 2 ^ 30) 0 1 NONE32 NONE32 NONE32 [100]) := by decide

/-! ## directory listings -/

open Sqfs.DirWriter (DEnt Run dirEnd encodeRun runBytes advance) in
/-- **Directory listing round trip**, any number of entries: for entries within their C types (names of 1..65536
bytes — the repaired `add_entry` admits 1..256 —, 32-bit inode numbers, 48-bit inode references) the reader's
`readdir` state machine, started with the size stored in the inode (`dir_size + 3`), returns name, inode number, type
and inode reference of every entry in order — across the 256-entries-per-header rule, the ±32767 inode-number-delta
rule, the same-inode-block rule and the 8 KiB rule (all in `get_conseq_entry_count`, C03), wherever in the directory
table the listing starts.  (Sortedness is not needed for reading back; it is C03's `listing_strictly_sorted`.) -/
theorem dir_listing_roundtrip (c blk off : Nat) (ents : List DEnt) (rest : Bytes) (hwf : ∀ e ∈ ents, WfDEnt e) :
    readListing ⟨encListing c blk off ents ++ rest, listingSize c blk off ents + 3, 0, 0, 0⟩
      = .ok (ents.map DEnt.toEntry) :=
  readListing_encListing c blk off ents rest hwf

-- the theorem applied: three entries that need three headers (other inode block; inode-number delta > 32767)
example := dir_listing_roundtrip 8194 0 8000
  [(⟨(8194 <<< 16) ||| 40, 70000, 2, [0x61, 0xff]⟩ : Sqfs.DirWriter.DEnt), ⟨32, 5, 1, [0x62]⟩, ⟨64, 40000, 7, [0x63]⟩] [0xEE] (by decide)

open Sqfs.DirWriter (DEnt Run dirEnd encodeRun runBytes advance) in
/-- **The directory index points at headers**: every index entry built by `sqfs_dir_writer_create_inode` (one per
run of `sqfs_dir_writer_end`) names the byte offset of a header inside the listing (`index`), the metadata block that
header starts in (`start_block`, relative to the directory table, for a block cost `c`) and the first name under it. -/
theorem dir_index_points_at_headers (c blk off : Nat) (ents : List DEnt) (k : Nat) (r : Run) (hoff : off < metaBlockSize)
    (h : (dirEnd c blk off ents)[k]? = some r) :
    ((encListing c blk off ents).drop r.index).take (runBytes r.ents) = encodeRun r
    ∧ r.block = (advance c blk off r.index).1
    ∧ ∃ first rest, r.ents = first :: rest := by
  unfold dirEnd at h
  obtain ⟨h1, h2, h3⟩ := dirEndGo_index c _ _ _ _ ents k r hoff h
  simp only [Nat.zero_add] at h1
  refine ⟨?_, by rw [h2, h1], h3⟩
  unfold encListing dirEnd
  have hk : ((Sqfs.DirWriter.dirEndGo c (ents.length + 1) blk off 0 ents).map encodeRun)[k]? = some (encodeRun r) := by
    simp [List.getElem?_map, h]
  have := List.take_drop_flatten _ hk
  rw [Sqfs.DirWriter.encodeRun_length] at this
  rw [← this, h1]
  congr 2
  simp only [Sqfs.DirWriter.dirSizeOf, List.map_take, List.map_map]
  congr 2
  apply List.map_congr_left
  intro x _
  simp [Sqfs.DirWriter.encodeRun_length]

example : (Sqfs.DirWriter.dirEnd 8194 0 8000 [⟨0, 1, 2, [0x61]⟩, ⟨8194 <<< 16, 2, 2, [0x62]⟩]).map
      (fun r => (r.ents.length, r.startBlock, r.inodeNumber, r.index, r.block)) = [(1, 0, 1, 0, 0), (1, 8194, 2, 21, 0)] := by decide
-- the theorem applied to the second run of that listing (the hypothesis `h` is met: there is a run 1)
example (r : Sqfs.DirWriter.Run) (h : (Sqfs.DirWriter.dirEnd 8194 0 8000 [⟨0, 1, 2, [0x61]⟩, ⟨8194 <<< 16, 2, 2, [0x62]⟩])[1]? = some r) :=
  dir_index_points_at_headers 8194 0 8000 _ 1 r (by decide) h
example : ((Sqfs.DirWriter.dirEnd 8194 0 8000 [⟨0, 1, 2, [0x61]⟩, ⟨8194 <<< 16, 2, 2, [0x62]⟩])[1]?).isSome = true := by decide

/-! ## metadata streams -/

/-- **Metadata stream round trip** for an arbitrary codec pair with `unc (cmp x) = x` (and answers that fit the
buffer): the blocks written for any sequence of appends read back, front to back, as the bytes appended. -/
theorem meta_stream_roundtrip {cmp : Codec} {unc : Unc} (hc : CodecOk cmp unc) (chunks : List Bytes) :
    metaReadAll unc (encBlocks (Sqfs.MetaWriter.run cmp chunks).out) = .ok chunks.flatten := by
  obtain ⟨hok, hraw⟩ := run_blocksOk cmp chunks
  unfold metaReadAll
  rw [metaReadAllGo_spec hc _ _ hok (Nat.lt_succ_of_le (encBlocks_length_ge _)), hraw]

theorem exCodecOk : CodecOk (fun x => if x = [1, 1, 1, 1] then some [9] else none) (fun y => if y = [9] then some [1, 1, 1, 1] else none) := by
  constructor
  · intro x c h
    by_cases hx : x = [1, 1, 1, 1]
    · simp only [hx, if_true, Option.some.injEq] at h; subst h; decide
    · simp [hx] at h
  · intro x c h _
    by_cases hx : x = [1, 1, 1, 1]
    · simp only [hx, if_true, Option.some.injEq] at h; subst h; simp [hx]
    · simp [hx] at h

theorem codecOk_none : CodecOk (fun _ => none) (fun _ => none) := ⟨fun _ _ h => (by cases h), fun _ _ h _ => (by cases h)⟩

-- the theorem applied: a compressing codec meeting the contract, and the never-shrinking one
example := meta_stream_roundtrip exCodecOk [[1, 1, 1, 1], [2, 3]]
example := meta_stream_roundtrip codecOk_none [List.replicate 8000 7, List.replicate 400 8]

/-- **A reference produced by the writer reads back the bytes written there.**  For any run of appends and any codec
pair meeting the contract: (1) the position `sqfs_meta_writer_get_position` reports after the first `k` appends is the
reference `refOfPos` computes from the finished run's blocks and the number `p` of bytes appended so far (every flushed
block holds 8 KiB: `(Σ on-disk sizes of the first p / 8192 blocks, p % 8192)`); (2) `sqfs_meta_reader_seek` to the
reference of **any** stream position `p` followed by a read of `n` bytes yields bytes `[p, p + n)` of the stream, across
block boundaries, whatever the compressed sizes.  Together: what is appended right after the writer reported a reference
is what a reader finds at that reference. -/
theorem meta_ref_roundtrip {cmp : Codec} {unc : Unc} (hc : CodecOk cmp unc) (chunks : List Bytes) :
    let blocks := (Sqfs.MetaWriter.run cmp chunks).out
    (∀ k, Sqfs.MetaWriter.position ((chunks.take k).foldl (Sqfs.MetaWriter.append cmp) {})
        = refOfPos blocks ((chunks.take k).flatten.length))
    ∧ (∀ p n, p < chunks.flatten.length → p + n ≤ chunks.flatten.length →
        metaReadAt unc (encBlocks blocks) (refOfPos blocks p).1 (refOfPos blocks p).2 n = .ok ((chunks.flatten.drop p).take n)) := by
  refine ⟨fun k => writer_position cmp chunks k, ?_⟩
  intro p n hp hn
  obtain ⟨hok, hraw⟩ := run_blocksOk cmp chunks
  have := metaReadAt_refOfPos hc _ hok (run_full cmp chunks) p n (by rw [hraw]; exact hp) (by rw [hraw]; exact hn)
  rw [hraw] at this
  exact this

example := meta_ref_roundtrip exCodecOk [[1, 1, 1, 1], [2, 3]]

/-! ## tables and super block -/

/-- **Table round trip** (`sqfs_read_table ∘ sqfs_write_table`), any size, any codec meeting the contract; `hsz`: the file
stays below 2⁶⁴ bytes, so every block location fits its `sqfs_u64` slot. -/
theorem table_roundtrip {cmp : Codec} {unc : Unc} (hc : CodecOk cmp unc) (file data : Bytes)
    (hsz : (writeTableAt cmp file data).1.length < 2 ^ 64) :
    readTableAt unc (writeTableAt cmp file data).1 data.length (writeTableAt cmp file data).2 file.length
      (writeTableAt cmp file data).2 = .ok data :=
  readTableAt_writeTableAt hc file data hsz

/-- **Id table round trip**: 1..65535 ids of 32 bits read back in table order, so every 16-bit index stored in an
inode still names its id. -/
theorem id_table_roundtrip {cmp : Codec} {unc : Unc} (hc : CodecOk cmp unc) (file : Bytes) (ids : List Nat)
    (hne : ids ≠ []) (h32 : ∀ v ∈ ids, v < 2 ^ 32) (hsz : (idTableWrite cmp file ids).1.length < 2 ^ 64) :
    idTableRead unc (idTableWrite cmp file ids).1 ids.length (idTableWrite cmp file ids).2 file.length
      (idTableWrite cmp file ids).2 (idTableWrite cmp file ids).1.length = .ok ids := by
  unfold idTableRead idTableWrite at *
  have hlen : ids.length ≠ 0 := by intro h; exact hne (List.eq_nil_of_length_eq_zero h)
  have hloc := writeTableAt_start_lt cmp file (encWords 4 ids) (fun h => hlen (by
    have := congrArg List.length h
    rw [encWords_length] at this
    exact (Nat.mul_eq_zero.mp this).resolve_left (by decide)))
  rw [if_neg (not_or.mpr ⟨hlen, Nat.not_le.mpr hloc⟩)]
  have hrt := readTableAt_writeTableAt hc file (encWords 4 ids) hsz
  rw [encWords_length, Nat.mul_comm] at hrt
  rw [hrt]
  simp only
  rw [decWords_encWords' 4 ids (by intro v hv; have := h32 v hv; simpa using this)]

/-- **Fragment table round trip**. -/
theorem frag_table_roundtrip {cmp : Codec} {unc : Unc} (hc : CodecOk cmp unc) (file : Bytes) (frags : List (Nat × Nat))
    (h : ∀ f ∈ frags, f.1 < 2 ^ 64 ∧ f.2 < 2 ^ 32) (hsz : (fragTableWrite cmp file frags).1.length < 2 ^ 64) :
    fragTableRead unc (fragTableWrite cmp file frags).1 frags.length (fragTableWrite cmp file frags).2 file.length
      (fragTableWrite cmp file frags).2 = .ok frags := by
  unfold fragTableRead fragTableWrite at *
  have hrt := readTableAt_writeTableAt hc file (encFrags frags) hsz
  rw [encFrags_length] at hrt
  rw [hrt]
  simp only
  rw [decFrags_encFrags frags h]

/-- **Export table round trip** (which references it must hold is C17's `export_table_ok`). -/
theorem export_table_roundtrip {cmp : Codec} {unc : Unc} (hc : CodecOk cmp unc) (file : Bytes) (refs : List Nat)
    (h : ∀ v ∈ refs, v < 2 ^ 64) (hsz : (exportTableWrite cmp file refs).1.length < 2 ^ 64) :
    exportTableRead unc (exportTableWrite cmp file refs).1 refs.length (exportTableWrite cmp file refs).2 file.length
      (exportTableWrite cmp file refs).2 = .ok refs := by
  unfold exportTableRead exportTableWrite at *
  have hrt := readTableAt_writeTableAt hc file (encWords 8 refs) hsz
  rw [encWords_length, Nat.mul_comm] at hrt
  rw [hrt]
  simp only
  rw [decWords_encWords' 8 refs (by intro v hv; have := h v hv; simpa using this)]

example : (writeTableAt (fun _ => none) [0xEE, 0xEE] [1, 2, 3]).1 = [0xEE, 0xEE, 3, 0x80, 1, 2, 3, 2, 0, 0, 0, 0, 0, 0, 0]
    ∧ (writeTableAt (fun _ => none) [0xEE, 0xEE] [1, 2, 3]).2 = 7 := by decide
-- the four table theorems applied (every hypothesis discharged)
example := table_roundtrip codecOk_none [0xEE, 0xEE] [1, 2, 3] (by decide)
example := table_roundtrip exCodecOk [0xEE, 0xEE] [1, 1, 1, 1] (by decide)   -- a block that is stored compressed
example := id_table_roundtrip codecOk_none [0xEE] [0, 1000, 4294967295] (by decide) (by decide) (by decide)
example := frag_table_roundtrip codecOk_none [] [(96, 0x1000123), (5000, 77)] (by decide) (by decide)
example := export_table_roundtrip codecOk_none [0xEE] [0x20, (8194 <<< 16) ||| 40] (by decide) (by decide)

open Sqfs.Writer in
/-- **Super block round trip**: `sqfs_super_read` returns the super block `sqfs_super_write` stored, for every super
block that passes the reader's own checks (magic, version, block size = 2^log in range, compressor id, id count ≠ 0)
and whose fields fit their widths. -/
theorem super_roundtrip (s : Super) (rest : List UInt8) (h : SuperValid s) : superRead (s.encode ++ rest) = .ok s := by
  have hl : sizeofSuper ≤ (s.encode ++ rest).length := by rw [List.length_append, encode_length]; omega
  have ht : (s.encode ++ rest).take sizeofSuper = s.encode := by rw [← encode_length s, List.take_left]
  have hd : Super.decode ((s.encode ++ rest).take sizeofSuper) = s := by rw [ht, decode_encode, h.fits]
  exact superRead_of_checks _ hl s hd h.magic h.vmaj h.vmin h.log h.bs h.comp h.ids

/-- a super block as `sqfs_writer_finish` leaves it for a small gzip image with fragments and an export table -/
def exampleSuper : Sqfs.Writer.Super where
  magic := Consts.magic
  inodeCount := 3
  mtime := 5
  blockSize := 131072
  fragCount := 1
  compId := 1
  blockLog := 17
  flags := 0x1c0
  idCount := 2
  vMajor := 4
  vMinor := 0
  rootRef := 64
  bytesUsed := 4000
  idStart := 3000
  xattrStart := Sqfs.Writer.unset
  inodeStart := 96
  dirStart := 200
  fragStart := 2000
  exportStart := 2500

theorem exSuperValid : SuperValid exampleSuper := ⟨by decide, by decide, by decide, by decide, by decide, by decide, by decide, by decide⟩
example := super_roundtrip exampleSuper [0xEE] exSuperValid

/-! ## extended attributes -/

/-- **xattr round trip (flush → read, through the id table's location array).**  `w` is any state of the xattr writer
in which every recorded pair is representable (known prefix, key remainder < 64 KiB, value < 4 GiB) — every state
`recordAll` reaches (`xattr_input_roundtrip` derives `hp`, `hcount` instead of assuming them); `(refOf, posOf)` any
reference encoding in which the reader's seek undoes the writer's `get_position` **on the positions below the finished
stream's length** (`xattr_refs_ok`: the real arithmetic satisfies this).  `xattrFlush` writes the key/value stream, the
descriptors into metadata blocks (any codec meeting the contract) and the array of block start offsets; the reader
(`XFlush.reader`, the algorithm of `sqfs_xattr_reader_get_desc`/`read_key`/`read_value`) finds descriptor `j` through
`locations[j * 16 / 8192]`, seeks, and reads exactly the pairs of set `j` as the writer stores them: keys with their
prefix, values byte for byte, in line or **out of line**, for **any number of sets** (multiples of 512 included). -/
theorem xattr_roundtrip {cmp : Codec} {unc : Unc} (hc : CodecOk cmp unc) (refOf : Nat → Nat) (posOf : Nat → Option Nat)
    (bound : Nat) (hr : RefOk refOf posOf bound) (w : XWriter)
    (hbound : (flushKv refOf w).1.length ≤ bound) (hkv32 : (flushKv refOf w).1.length < 2 ^ 32)
    (hpairs32 : w.pairs.length < 2 ^ 32)
    (hp : ∀ b ∈ w.blocks, ∀ p ∈ blockPairs w.pairs b, PairOk w p)
    (hcount : ∀ b ∈ w.blocks, (blockPairs w.pairs b).length = b.2)
    (j : Nat) (hj : j < w.blocks.length) (hj32 : j ≠ NONE32) :
    readSet ((xattrFlush cmp refOf w).reader unc posOf) j = .ok (w.setOf j) := by
  obtain ⟨r, hrdef⟩ : ∃ r : XReader, r = (xattrFlush cmp refOf w).reader unc posOf := ⟨_, rfl⟩
  have hkv : r.kv = (flushKv refOf w).1 := by rw [hrdef]; rfl
  have hpo : r.posOf = posOf := by rw [hrdef]; rfl
  obtain ⟨d, e, l, rd⟩ := writeBlocks_spec r (hpo ▸ hr.mono (hkv ▸ hbound)) w w.blocks
    { out := [], ool := List.replicate w.values.length NONE64 } (oolInv_init refOf w _) hp
  have hfk1 : (flushKv refOf w).1 = d := e
  have hfk2 : (flushKv refOf w).2 = (writeBlocks refOf w { out := [], ool := List.replicate w.values.length NONE64 } w.blocks).2 := rfl
  obtain ⟨b, hb⟩ : ∃ b, w.blocks[j]? = some b := ⟨w.blocks[j], List.getElem?_eq_getElem hj⟩
  obtain ⟨ds, hds⟩ : ∃ ds, (flushKv refOf w).2[j]? = some ds := ⟨_, List.getElem?_eq_getElem (by rw [hfk2, l]; exact hj)⟩
  obtain ⟨hcnt, hsize, pos, hposle, hpos, hread⟩ := rd [] (by rw [hkv, hfk1]; simp) j b ds hb hds
  have hbm : b ∈ w.blocks := List.mem_of_getElem? hb
  have hb2 : b.2 ≤ w.pairs.length := by
    rw [← hcount b hbm, blockPairs, List.length_take, List.length_drop]
    exact Nat.le_trans (Nat.min_le_right _ _) (Nat.sub_le _ _)
  rw [hkv] at hposle
  have hg := getDesc_flush hc refOf posOf w j ds hds (hpos ▸ hr.lt _ (Nat.le_trans hposle hbound))
    (hcnt ▸ Nat.lt_of_le_of_lt hb2 hpairs32) (Nat.lt_of_le_of_lt (hfk1 ▸ hsize) hkv32)
  rw [← hrdef] at hg ⊢
  unfold readSet
  simp only [hj32, if_false, hg, hpo, hpos, hr.inv pos (Nat.le_trans hposle hbound)]
  rw [hcnt, ← hcount b hbm, hread, XWriter.setOf, List.getD_eq_getElem?_getD, hb]
  rfl

/-- **The reference contract of `xattr_roundtrip` holds for the real arithmetic**: (1) uncompressed metadata
(`rawRef`/`rawPos`, what the unit correspondence runs), any stream below 2⁴⁷ bytes; (2) the blocks of **any** meta
writer run, whatever the compressed sizes: `refOfPos` packed into a 64-bit reference, undone by searching the position
(`posOfBlocks`), for every position up to the stream's length. -/
theorem xattr_refs_ok :
    (∀ bound, bound < 2 ^ 47 → RefOk rawRef rawPos bound)
    ∧ (∀ (cmp : Codec) (blocks : List Sqfs.MetaWriter.Block), BlocksOk cmp blocks → startOf blocks blocks.length < 2 ^ 48 →
        RefOk (refOfBlocks blocks) (posOfBlocks blocks (rawOf blocks).length) (rawOf blocks).length) :=
  ⟨refOk_raw, refOk_blocks⟩

-- clause 1 applied (bound 44), and clause 2 applied to the blocks of a run whose first chunk is stored compressed
example := xattr_refs_ok.1 44 (by decide)
example := xattr_refs_ok.2 _ _ (Sqfs.Enc.run_blocksOk (fun x => if x = [1, 1, 1, 1] then some [9] else none) [[1, 1, 1, 1], [2, 3]]).1
  (by decide)

/-- **The xattr clause from the input to the read-back.**  `sets` are the key/value strings handed to
`begin`/`add_kv`…/`end`, one list per inode.  If every key has a known prefix and a remainder < 64 KiB and every value
is < 4 GiB, the writer accepts them all (interning keys and values, replacing the value of a key added twice, sorting
each set, storing equal sets once); and if the finished key/value stream, the pair array and the number of distinct
sets fit their 32-bit fields, then reading the index handed out for the k-th inode — descriptor through the location
array, key/value pairs, out-of-line values — returns the k-th input set with later values of a key replacing earlier
ones (`canonSet`) in the writer's order, a permutation of it; an inode whose set is empty gets `0xFFFFFFFF`. -/
theorem xattr_input_roundtrip {cmp : Codec} {unc : Unc} (hc : CodecOk cmp unc) (refOf : Nat → Nat) (posOf : Nat → Option Nat)
    (bound : Nat) (hr : RefOk refOf posOf bound) (sets : List (List (Bytes × Bytes)))
    (hs : ∀ s ∈ sets, ∀ kv ∈ s, KvOk kv) :
    ∃ wF idxs, recordAll {} sets = .ok (wF, idxs) ∧ idxs.length = sets.length ∧
      ((flushKv refOf wF).1.length ≤ bound → (flushKv refOf wF).1.length < 2 ^ 32 → wF.pairs.length < 2 ^ 32 →
        wF.blocks.length ≤ NONE32 →
        ∀ k, k < sets.length →
          (canonSet (sets.getD k []) = [] ∧ idxs.getD k 0 = NONE32) ∨
          (canonSet (sets.getD k []) ≠ [] ∧ idxs.getD k 0 ≠ NONE32 ∧
            ∃ out, readSet ((xattrFlush cmp refOf wF).reader unc posOf) (idxs.getD k 0) = .ok out
              ∧ out = (sortPairs ((canonSet (sets.getD k [])).map (idxPair wF))).map (strPair wF)
              ∧ out.Perm (canonSet (sets.getD k [])))) := by
  obtain ⟨wF, idxs, h1, hi, _, hl, hst⟩ := recordAll_spec sets {} xinv_empty hs
  refine ⟨wF, idxs, h1, hl, ?_⟩
  intro hb h32 hp32 hbl k hk
  rcases hst k hk with h | ⟨h0, hlt, P, hbp, hstr, hrng⟩
  · exact Or.inl h
  · have hne : idxs.getD k 0 ≠ NONE32 := Nat.ne_of_lt (Nat.lt_of_lt_of_le hlt hbl)
    -- the index pairs of the set's strings are the pairs of the block: an index is determined by its string
    have hP : (canonSet (sets.getD k [])).map (idxPair wF) = P := by
      rw [← hstr, List.map_map]
      exact (List.map_congr_left fun p hp => idxPair_strPair wF hi.kN hi.vN p (hrng p hp).1 (hrng p hp).2).trans (List.map_id P)
    have hset : wF.setOf (idxs.getD k 0) = (sortPairs ((canonSet (sets.getD k [])).map (idxPair wF))).map (strPair wF) := by
      simp only [XWriter.setOf, hbp, hP]; rfl
    exact Or.inr ⟨h0, hne, _, xattr_roundtrip hc refOf posOf bound hr wF hb h32 hp32 hi.pairOk hi.count _ hlt hne, hset,
      by rw [hset, hP, ← hstr]; exact (sortPairs_perm P).map (strPair wF)⟩

/-- four inodes: one value shared by three sets (stored out of line from its second use on), an empty set, a key set
twice, and a last set equal to the first after replacement -/
def exampleSets : List (List (Bytes × Bytes)) :=
  let k1 : List UInt8 := prefixUser ++ [0x61]; let k2 : List UInt8 := prefixTrusted ++ [0x62]
  let v : List UInt8 := [1, 2, 3, 4, 5, 6, 7, 8, 9]
  [[(k1, v)], [], [(k2, v), (k1, []), (k2, v)], [(k1, [5]), (k1, v)]]

-- `xattr_input_roundtrip` instantiated: every hypothesis discharged for `exampleSets`, uncompressed metadata and
-- the real reference arithmetic; the conclusion, evaluated, is the four sets read back (the third one with its
-- shared value stored **out of line**: the stream holds a reference to position 5 at offset 27)
example :
    ∃ wF, recordAll {} exampleSets = .ok (wF, [0, NONE32, 1, 0])
      ∧ (flushKv rawRef wF).1.drop 27 = encKey (prefixTrusted ++ [0x62]) true ++ encValueOol (rawRef 5)
      ∧ [0, 1].map (readSet ((xattrFlush (fun _ => none) rawRef wF).reader (fun _ => none) rawPos))
          = [.ok [(prefixUser ++ [0x61], [1, 2, 3, 4, 5, 6, 7, 8, 9])],
             .ok [(prefixUser ++ [0x61], []), (prefixTrusted ++ [0x62], [1, 2, 3, 4, 5, 6, 7, 8, 9])]] := by
  obtain ⟨wF, idxs, hrec, _, hread⟩ := xattr_input_roundtrip codecOk_none rawRef rawPos 44 (refOk_raw 44 (by decide))
    exampleSets (by decide)
  have hval : recordAll {} exampleSets = .ok (⟨[prefixUser ++ [0x61], prefixTrusted ++ [0x62]],
      [([1, 2, 3, 4, 5, 6, 7, 8, 9], 4), ([], 1), ([5], 0)], [(0, 0), (0, 1), (1, 0)], 3, [(0, 1), (1, 2)]⟩, [0, NONE32, 1, 0]) := by
    decide
  cases hrec.symm.trans hval
  have h := hread (by decide) (by decide) (by decide) (by decide)
  refine ⟨_, hval, by decide, ?_⟩
  have h0 := h 0 (by decide)
  have h2 := h 2 (by decide)
  rcases h0 with ⟨_, h0⟩ | ⟨_, _, out0, r0, e0, _⟩
  · exact absurd h0 (by decide)
  rcases h2 with ⟨_, h2⟩ | ⟨_, _, out2, r2, e2, _⟩
  · exact absurd h2 (by decide)
  simp only [List.map_cons, List.map_nil]
  have i0 : [0, NONE32, 1, 0].getD 0 0 = 0 := rfl
  have i2 : [0, NONE32, 1, 0].getD 2 0 = 1 := rfl
  rw [i0] at r0; rw [i2] at r2
  rw [r0, r2, e0, e2]
  decide

-- and `xattr_roundtrip` itself for that writer state, with the invariant's facts (`hp`, `hcount`) supplied by
-- `recordAll_spec` rather than assumed
example (wF : XWriter) (idxs : List Nat) (h : recordAll {} exampleSets = .ok (wF, idxs)) :
    readSet ((xattrFlush (fun _ => none) rawRef wF).reader (fun _ => none) rawPos) 1 = .ok (wF.setOf 1) := by
  obtain ⟨wF', idxs', hrec, hinv, _⟩ := recordAll_spec exampleSets {} xinv_empty (by decide)
  cases hrec.symm.trans h
  have hval : recordAll {} exampleSets = .ok (⟨[prefixUser ++ [0x61], prefixTrusted ++ [0x62]],
      [([1, 2, 3, 4, 5, 6, 7, 8, 9], 4), ([], 1), ([5], 0)], [(0, 0), (0, 1), (1, 0)], 3, [(0, 1), (1, 2)]⟩, [0, NONE32, 1, 0]) := by
    decide
  cases h.symm.trans hval
  exact xattr_roundtrip codecOk_none rawRef rawPos 44 (refOk_raw 44 (by decide)) _ (by decide) (by decide) (by decide)
    hinv.pairOk hinv.count 1 (by decide) (by decide)

/-- **Which index `sqfs_xattr_writer_end` hands out** (set dedup, sorting).  With the blocks recorded so far lying in
front of `kv_start` (true from the empty writer on, and re-established here): an empty set gets `0xFFFFFFFF`; a
non-empty set gets the index of a block whose pairs are exactly the set's (key index, value index) pairs, sorted — a new
block or an existing equal one (equal sets are stored once) —, no earlier block changes, keys and values are untouched.
Together with `xattr_roundtrip` (`setOf j` = those pairs with the interned strings put back): the index stored in an
inode reads back as the set recorded for it. -/
theorem xattr_record_index (w : XWriter) (hk : w.kvStart ≤ w.pairs.length) (hb : ∀ b ∈ w.blocks, b.1 + b.2 ≤ w.kvStart) :
    (w.pairs.length = w.kvStart → endSet w = (w, NONE32))
    ∧ (w.kvStart < w.pairs.length →
        (endSet w).2 < (endSet w).1.blocks.length
        ∧ blockPairs (endSet w).1.pairs ((endSet w).1.blocks.getD (endSet w).2 (0, 0)) = sortPairs (w.pairs.drop w.kvStart)
        ∧ (∀ i, i < w.blocks.length → (endSet w).1.blocks.getD i (0, 0) = w.blocks.getD i (0, 0)
              ∧ blockPairs (endSet w).1.pairs (w.blocks.getD i (0, 0)) = blockPairs w.pairs (w.blocks.getD i (0, 0)))
        ∧ (∀ b ∈ (endSet w).1.blocks, b.1 + b.2 ≤ (endSet w).1.pairs.length)
        ∧ (endSet w).1.keys = w.keys ∧ (endSet w).1.values = w.values) :=
  endSet_spec w hk hb

/-- a writer in the middle of its second set: the same two pairs as block 0, added in the other order -/
def exampleXWriter : XWriter where
  keys := [[1], [2]]
  values := [([7], 2), ([8], 2)]
  pairs := [(0, 0), (1, 1), (1, 1), (0, 0)]
  kvStart := 2
  blocks := [(0, 2)]

-- sorted, found equal to block 0, stored once: index 0, the pair array shrinks back
example : (endSet exampleXWriter).2 = 0 ∧ (endSet exampleXWriter).1.pairs = [(0, 0), (1, 1)]
    ∧ (endSet exampleXWriter).1.blocks = [(0, 2)] := by decide
example := xattr_record_index exampleXWriter (by decide) (by decide)

/-- **`locations[]` of the xattr id table: every store in range, and the table complete.**  (1) In the (repaired)
`write_id_table` every store has an index below the number of slots `alloc_location_table` provided — for every number
of sets, multiples of 512 included, and every block layout (`blockAfter`); the code before the repair violated this:
`Witness.xattr_locations_overflow`.  (2) For every writer state with at least one set and every codec, the array
written has exactly one entry per descriptor metadata block — `locCount n` of them — and entry `k` is the start offset
of block `k`: nothing the reader's `locations[idx * 16 / 8192]` can ask for is missing or stale. -/
theorem xattr_loc_index_lt_count :
    (∀ (blockAfter : Nat → Nat) (n : Nat), 0 < n → ∀ s ∈ locStores (some (locCount n)) blockAfter n, s.1 < locCount n)
    ∧ (∀ (cmp : Codec) (refOf : Nat → Nat) (w : XWriter), 0 < (flushKv refOf w).2.length →
        (xattrFlush cmp refOf w).locs
            = (List.range (xattrFlush cmp refOf w).idBlocks.length).map (startOf (xattrFlush cmp refOf w).idBlocks)
        ∧ (xattrFlush cmp refOf w).idBlocks.length = locCount (xattrFlush cmp refOf w).descs.length) :=
  ⟨locStores_lt, fun cmp refOf w hn => xattrFlush_locs cmp refOf w hn⟩

-- 1025 sets need three slots; the stores of the repaired code are exactly slots 0, 1, 2 (instantiates (1) with n = 1025)
example : (locStores (some (locCount 1025)) (fun k => k / 512 * 8194) 1025).map (·.1) = [0, 1, 2] ∧ locCount 1025 = 3
    ∧ 0 < 1025 := by
  have hc : locCount 1025 = 3 := by decide
  rw [hc, (locStores_eq (· * 8194) _ 1025 rfl (fun _ _ _ => rfl) (fun a _ => by omega)).2 3 (by decide)]
  decide

-- (1) applied to 1025 sets; (2) applied to a writer state with two distinct sets
example := xattr_loc_index_lt_count.1 (fun k => k / 512 * 8194) 1025 (by decide)
example := xattr_loc_index_lt_count.2 (fun _ => none) rawRef
  ⟨[prefixUser ++ [0x61], prefixTrusted ++ [0x62]], [([1, 2, 3, 4, 5, 6, 7, 8, 9], 4), ([], 1), ([5], 0)], [(0, 0), (0, 1), (1, 0)], 3,
    [(0, 1), (1, 2)]⟩ (by decide)

/-! ## file contents -/

open Sqfs.Pack in
/-- **File contents read back — at specification level** (re-export of C17/C08's theorem under the C01 name): for every
block size, flag set, order and codec meeting the contract, reading file `i` from the `specPack` layout — block list,
holes, tail in a fragment block, deduplicated or not — with the *specification* reader `readFile` yields exactly the
file's bytes.  What this is **not**: a statement about the models of the code.  Those are, on the writer's side, C02/C08's
block processor (`Sqfs.C02.run_eq_spec`: for every backlog the real processor computes `packRef`; `Sqfs.C08.stream_readback`,
`stream_frag_link`: the output file holds every file's stored blocks and every fragment block at the recorded places) and,
on the reader's side, C10's `DataReader.readSpec` = `sqfs_data_reader_read` (`Sqfs.C10.written_file_content`: for an inode
and data satisfying `DataReader.Written` it returns the blocks' bytes followed by the tail;
`read_eq_blocks_plus_fragment`, `stream_eq_read`: the other two reading APIs agree).  **Missing links**, neither proved
here nor elsewhere: `packRef = specPack` (C02 `run_eq_specPack_partial` states what is missing) and `DataReader.Written`
for the inodes/file/fragment table of `specPack` (or of `packRef`).  They are exercised on every run: C02/C17's ties
compare the real processor with `packRef` and `specPack`; C01's tool paths (a), (d), (e) read every file's bytes back. -/
theorem file_content_roundtrip (P : Params) (hB : 0 < P.B) (hc : P.codec.Ok) (files : List InFile) (i : Nat)
    (h : i < files.length) :
    ∃ r, (specPack P files).files[i]? = some r ∧ readFile P (specPack P files) r = files[i].data :=
  readFile_specPack P hB hc files i h

-- the theorem applied: block size 4, a file with a hole block and a tail, a duplicate of it, a never-shrinking codec
example := file_content_roundtrip ⟨4, 96, ⟨fun _ => none, id⟩, fun _ => 0⟩ (by decide)
  ⟨fun _ _ h => (by cases h), fun _ _ h => (by cases h)⟩
  [⟨{}, [1, 2, 3, 4, 0, 0, 0, 0, 5]⟩, ⟨{}, [1, 2, 3, 4, 0, 0, 0, 0, 5]⟩] 1 (by decide)

open Sqfs.Pack in
/-- a codec that really compresses (`7 7 7 7 ↦ 9`) meets the contract `Pack.Codec.Ok` (for the never-shrinking codec above both
clauses hold for lack of a compressed block) -/
theorem exPackCodec_ok : (⟨fun x => if x = [7, 7, 7, 7] then some [9] else none, fun z => if z = [9] then [7, 7, 7, 7] else z⟩ :
    Sqfs.Pack.Codec).Ok := by
  constructor
  · intro x z h; simp only at h; split at h
    · cases h; subst x; decide
    · cases h
  · intro x z h; simp only at h; split at h
    · cases h; subst x; decide
    · cases h
open Sqfs.Pack in
-- … and the theorem applied to it: a compressed block, a hole block, a tail; a duplicate; a `dont_deduplicate` file
example := file_content_roundtrip ⟨4, 96, _, fun _ => 0⟩ (by decide) exPackCodec_ok
  [⟨{}, [7, 7, 7, 7, 0, 0, 0, 0, 5]⟩, ⟨{}, [7, 7, 7, 7, 0, 0, 0, 0, 5]⟩, ⟨{ dontDedup := true }, [7, 7, 7, 7, 1]⟩] 2 (by decide)

/-! ## refusing what the format cannot represent -/

open Sqfs.IdTable Sqfs.DirWriter in
/-- **Unrepresentable input is refused, not stored altered**: more than 65535 distinct ids (`SQFS_ERROR_OVERFLOW`
from `sqfs_id_table_id_to_index`, so that the 16-bit id count cannot wrap — C03 `id_count_fits`), directory entry
names of 0 or more than 256 bytes and inode number 0 (`SQFS_ERROR_ARG_INVALID` from `add_entry` — C03
`add_entry_name_fits`), xattr keys without a known prefix (`SQFS_ERROR_UNSUPPORTED` from `add_kv`). -/
theorem refuse_unrepresentable :
    (∀ ids : List Nat, ¬ IdsRepresentable ids → addAll limit [] ids = none)
    ∧ (∀ (name : List UInt8) (num ref mode : Nat), name.length = 0 ∨ name.length > 256 ∨ num = 0 →
        ∀ e, addEntry name num ref mode ≠ .ok e)
    ∧ (∀ (w : XWriter) (key value : List UInt8), prefixId key = none → addKv w key value = .error errUnsupported) := by
  refine ⟨ids_refused, ?_, ?_⟩
  · intro name num ref mode h e he
    obtain ⟨h1, h2, h3, _, h5, _⟩ := Sqfs.C03.add_entry_name_fits name num ref mode e he
    rw [h1] at h2 h3
    rw [(addEntry_fields he).2.1] at h5
    rcases h with h | h | h
    · exact Nat.ne_of_gt h2 h
    · exact Nat.not_lt.mpr h3 h
    · exact Nat.ne_of_gt h5 h
  · intro w key value h
    simp [addKv, h]

open Sqfs.IdTable Sqfs.DirWriter in
/-- **Representable input is accepted**: at most 65535 distinct ids never overflow the id table; a name of 1..256
bytes with a non-zero inode number and a file-type mode is accepted by `add_entry`; a key with a known prefix and a
non-empty remainder is accepted by `add_kv`. -/
theorem representable_accepted :
    (∀ ids : List Nat, IdsRepresentable ids → ∃ r, addAll limit [] ids = some r)
    ∧ (∀ (name : List UInt8) (num ref mode : Nat) (t : Nat), 1 ≤ name.length → name.length ≤ 256 → 1 ≤ num → getType mode = some t →
        addEntry name num ref mode = .ok ⟨ref, num, t, name⟩)
    ∧ (∀ (w : XWriter) (key value : List UInt8) (t : Nat), prefixId key = some t → ∃ w', addKv w key value = .ok w') := by
  refine ⟨fun ids h => addAll_accepts ids h ids [] (by simp) (by simp) (fun x hx => hx), ?_, ?_⟩
  · intro name num ref mode t h1 h2 h3 ht
    have c1 : ¬ (name = [] ∨ num < 1) := fun h => h.elim (fun h => by rw [h] at h1; exact absurd h1 (by decide)) (Nat.not_lt.mpr h3)
    have c2 : ¬ (name.length > maxNameLen) := Nat.not_lt.mpr h2
    simp only [addEntry, ht, if_neg c1, if_neg c2]
  · intro w key value t h
    simp only [addKv, h]
    split <;> exact ⟨_, rfl⟩

example : ¬ IdsRepresentable (List.range 65536) :=
  not_idsRepresentable_of_nodup List.nodup_range (by rw [List.length_range]; decide)
example : IdsRepresentable [0, 1000, 0, 1000, 4294967295] :=
  idsRepresentable_of_length (by decide)

open Sqfs.IdTable Sqfs.DirWriter in
-- `refuse_unrepresentable` applied: 65536 distinct ids; a 257-byte name; the key `foo`
example : addAll limit [] (List.range 65536) = none :=
  refuse_unrepresentable.1 _ (not_idsRepresentable_of_nodup List.nodup_range (by rw [List.length_range]; decide))
open Sqfs.IdTable Sqfs.DirWriter in
example := refuse_unrepresentable.2.1 (List.replicate 257 0x61) 5 0 0o100644
  (Or.inr (Or.inl (by simp only [List.length_replicate]; omega)))
open Sqfs.IdTable Sqfs.DirWriter in
example := refuse_unrepresentable.2.2 {} [0x66, 0x6f, 0x6f] [1] (by decide)
open Sqfs.IdTable Sqfs.DirWriter in
-- `representable_accepted` applied: five ids, three distinct; a 256-byte name; the key `user.a`
example : ∃ r, addAll limit [] [0, 1000, 0, 1000, 4294967295] = some r :=
  representable_accepted.1 _ (idsRepresentable_of_length (by decide))
open Sqfs.IdTable Sqfs.DirWriter in
example := representable_accepted.2.1 (List.replicate 256 0x61) 5 0 0o100644 2 (by simp only [List.length_replicate]; omega)
  (by simp only [List.length_replicate]; omega) (by decide) (by decide)
open Sqfs.IdTable Sqfs.DirWriter in
example := representable_accepted.2.2 {} (prefixUser ++ [0x61]) [1] 0 (by decide)

/-! ## the tree -/

/-- **One step of `sqfs_serialize_fstree` reads back.**  For any writer state `st` (streams and id table so far) and
any node `n` within its C types (`NodeInOk`) that the serializer accepts: the inode stream grows by exactly `encInode`
of a well-formed inode; that inode is read back by `decInode` from the reference the node was given (`rawRef` of the
position it was written at), from the finished stream or any extension of it; its reader-visible attributes are the
node's (mode, time stamp, inode number, link count, xattr index); **owner ids through the id table**: the inode's
whole view is the node's attributes on top of the payload of `preInode` with two indices `ui`, `gi`, and the id table
afterwards holds the node's uid at `ui` and its gid at `gi` (and is an extension of the table before, so this stays
true to the end); and for a directory the listing appended to the directory stream reads back, from the position
stored in the inode and with the size stored in the inode, as the entries `(name, inode number, type, reference)` of
its children in order.  The composition over the whole inode list is `parse_serialize`. -/
theorem parse_serialize_partial (bs : Nat) (st st' : TreeSt) (n : NodeIn) (later : Bytes)
    (hn : NodeInOk bs st n) (h : serializeNode st n = .ok st') :
    ∃ i, WfInode bs i ∧ st'.inodes = st.inodes ++ encInode i
      ∧ decInode bs ((st'.inodes ++ later).drop st.inodes.length) = .ok (i, later)
      ∧ rawPos (rawRef st.inodes.length) = some st.inodes.length
      ∧ i.view.base.mode = n.attr.mode ∧ i.view.base.mtime = n.attr.mtime ∧ i.view.base.inum = n.attr.inum
      ∧ (1 ≤ n.attr.linkCount → i.view.nlink = n.attr.linkCount ∧ i.view.xattr = n.attr.xattrIdx)
      ∧ (∀ ents, n.kind = .dir ents → ∃ des, addAllEntries ents = .ok des ∧
          st'.dirs = st.dirs ++ encListing rawCost (st.dirs.length / metaBlockSize * rawCost) (st.dirs.length % metaBlockSize) des
          ∧ ∀ s, openDir i ((st'.dirs ++ later).drop st.dirs.length) = some s → readListing s = .ok (des.map DEnt.toEntry))
      ∧ (1 ≤ n.attr.linkCount → ∃ i0 ui gi, preInode st n = some i0 ∧ i.view = withIds ui gi (wanted n.attr i0.view)
          ∧ st'.ids[ui]? = some n.uid ∧ st'.ids[gi]? = some n.gid ∧ ∃ e, st'.ids = st.ids ++ e) := by
  obtain ⟨i, i0, ui, gi, w⟩ := serializeNode_full bs st st' n hn h
  have hb : i.view.base = ⟨n.attr.mode, ui, gi, n.attr.mtime, n.attr.inum⟩ := by rw [view_base, w.base]
  refine ⟨i, w.wf, w.inodes, ?_, rawPos_rawRef _, by rw [hb], by rw [hb], by rw [hb], fun hl => ?_, fun ents hk => ?_,
    fun hl => ⟨i0, ui, gi, w.pre, w.view (fun _ => hl), w.uid, w.gid, w.idsExt⟩⟩
  · rw [w.inodes, List.append_assoc, List.drop_left]
    exact decInode_encInode bs i later w.wf
  · rw [w.view (fun _ => hl)]; exact ⟨rfl, rfl⟩
  · obtain ⟨des, d⟩ := w.dir ents hk
    refine ⟨des, d.accepted, d.dirs, fun s hs => ?_⟩
    rw [d.dirs, List.append_assoc, List.drop_left, d.openDir] at hs
    cases hs
    exact readListing_encListing _ _ _ des later d.wf

/-- the node of the example below: a directory with a file entry and a hard-link entry to the same inode, written
behind 100 bytes of directory stream, owner 1000:0 with only id 0 in the table so far -/
def exampleNodeSt : TreeSt := { inodes := List.replicate 40 0, dirs := List.replicate 100 0, ids := [0] }
def exampleNode : NodeIn :=
  ⟨⟨0o40755, 7, 3, 3, NONE32⟩, 1000, 0, 0, .dir [([0x61], 1, 0, 0o100644), ([0x62, 0xff], 1, 0, 0o100644)]⟩

theorem exampleNode_ok : NodeInOk 4096 exampleNodeSt exampleNode := by
  refine ⟨by decide, by decide, by decide, by decide, by decide, by decide, ?_⟩
  refine ⟨by decide, by decide, by decide, ?_⟩
  intro des h
  have h' : addAllEntries [([0x61], 1, 0, 0o100644), ([0x62, 0xff], 1, 0, 0o100644)]
      = .ok [⟨0, 1, 2, [0x61]⟩, ⟨0, 1, 2, [0x62, 0xff]⟩] := by decide
  rw [h'] at h
  cases h
  decide +kernel

-- the theorem applied: the node is accepted (new id 1000 appended), and everything above holds for the result
example (st' : TreeSt) (h : serializeNode exampleNodeSt exampleNode = .ok st') :=
  parse_serialize_partial 4096 exampleNodeSt st' exampleNode [] exampleNode_ok h
example : (serializeNode exampleNodeSt exampleNode).toOption.map (fun s => (s.ids, s.dirs.length, s.inodes.length))
    = some ([0, 1000], 100 + 12 + 9 + 10, 40 + 32) := by decide +kernel

open Sqfs.FsTree (Result lookup) in
/-- **The whole tree reads back** (`sqfs_serialize_fstree` after `fstree_post_process`, metadata uncompressed,
then `sqfs_dir_reader_get_root_inode` and recursively `open_dir`/`read`/`get_inode`).  `r` is the post-processed tree
(`fs->inodes` in write order, link counts and inode numbers assigned, hard links resolved), `x` the xattr indices and
the file inodes of the block processor.  If the input is `Representable` — `fs->inodes` lists every node once, the
root included, children and hard-link targets before the directory naming them; every attribute within its C type;
link counts ≥ 1; the two tables within the reach of a 32-bit `start_block` — and the serializer succeeds, then the walk
from the root reference, with any amount of fuel that suffices to expand the input tree, succeeds and returns, entry by
entry, exactly `normalise r x`: the same names in the same order under every directory; behind each name the inode with
the node's type, permissions, modification time, inode number, link count, xattr index, device number / symlink target /
file payload; **uid and gid resolved through the id table** (`Inode.resolve`: `ids[uid_idx]?` is `some` of the node's
uid); a hard link as a further name of its target's inode (the same inode number; its subtree if a directory).
By induction over `fs->inodes`: the reference stored in each directory entry is the position the child's inode was
written at — `lookupRef`'s calloc default is never used —, the inode decodes from there (`inode_roundtrip`), the
listing decodes from the position and with the size in the directory inode (`dir_listing_roundtrip`).

**Not covered by this statement** (see `docs/design/C01-units.md`): that `fstree_post_process` establishes
`orderOkB` (C03 `children_before_parent`/`link_targets_before_linking_dirs` prove it for C03's own numbering model;
the unit correspondence evaluates `Representable` for every tree it generates); compressed metadata (the flat streams
cut into blocks are `meta_stream_roundtrip`/`meta_ref_roundtrip`; their composition with this walk is exercised, not
proved); super block and tables around the streams (`super_roundtrip`, `id_table_roundtrip`, …); the front ends. -/
theorem parse_serialize (bs : Nat) (r : Result) (x : TreeExtra) (out : TreeOut)
    (hrep : Representable bs r x out) (hser : serializeTree r x = .ok out) :
    ∀ fuel v, normalise r x fuel = some v →
      ∃ rn, readTree bs out fuel = .ok rn ∧ rn.resolve out.st.ids = v := by
  obtain ⟨hord, hattr, hlen, hI, hD1, hD2⟩ := hrep
  replace hattr : ∀ p ∈ r.inodes, ∀ n, lookup r.tree p = some n → AttrOk bs x p n := fun p hp n hn => hattr p hp n hn
  obtain ⟨o1, o2, o3⟩ := orderOk_spec r hord
  unfold serializeTree at hser
  cases hgo : serializeGo r.tree r.inodes x r.inodes {} [] with
  | error e => rw [hgo] at hser; cases hser
  | ok res =>
    obtain ⟨stF, refsF⟩ := res
    rw [hgo] at hser
    simp only [Except.ok.injEq] at hser
    subst hser
    have hinv := serializeGo_inv bs r.tree r.inodes x hattr hlen o1 o3 stF refsF hI hD1 hD2 r.inodes [] {} []
      (by simp) (ginv_empty bs r.tree r.inodes x) hgo
    intro fuel v hv
    unfold normalise at hv
    split at hv
    · next v0 hn =>
      cases hv
      obtain ⟨rns, hr, hres⟩ := readNodes_normNodes bs r.tree r.inodes x stF refsF hinv.keys hinv.stored fuel [([], [])]
        [⟨[], 0, 0, lookupRef refsF []⟩] [v] rfl (by intro t ht; cases List.mem_singleton.mp ht; exact o2) hn
      match rns, hres with
      | [r0], hres => exact ⟨r0, by simp only [readTree, hr], (List.cons.inj hres).1⟩
    · cases hv

open Sqfs.FsTree in
/-- `/a` (file, two links, xattr set 0), `/d/s` (symlink), `/d` (directory), `/h` (hard link to `/a`), owners 1000:100
and 0:0, as `fstree_post_process` leaves them -/
def exampleTree : Result where
  tree := .mk [] ⟨0o40755, 0, 0, 5, 3, 0, false, false, .none⟩
    [.mk [0x61] ⟨0o100644, 1000, 100, 7, 2, 0, false, false, .str [0x2f, 0x78]⟩ [],
     .mk [0x64] ⟨0o40750, 1000, 0, 8, 2, 0, false, false, .none⟩
       [.mk [0x73] ⟨0o120777, 0, 0, 9, 1, 0, false, false, .str [0x2e, 0x2e, 0x2f, 0x61]⟩ []],
     .mk [0x68] ⟨0o120777, 0, 0, 0, 1, 0, false, true, .link [[0x61]] (some [[0x61]])⟩ []]
  inodes := [[[0x61]], [[0x64], [0x73]], [[0x64]], []]
  files := [[[0x61]]]

def exampleExtra : TreeExtra where
  xattrOf := fun p => if p = [[0x61]] then 0 else NONE32
  fileInode := fun _ => .file ⟨0, 0, 0, 0, 0⟩ 96 NONE32 NONE32 5000 [4096, 904]

-- `parse_serialize` applied: the serializer accepts the tree, the result is `Representable` (decided), `normalise`
-- is defined with fuel 6, and the walk returns it
theorem exampleTree_reads_back :
    ∃ out v rn, serializeTree exampleTree exampleExtra = .ok out ∧ normalise exampleTree exampleExtra 6 = some v
      ∧ readTree 4096 out 6 = .ok rn ∧ rn.resolve out.st.ids = v := by
  have hrep : (match serializeTree exampleTree exampleExtra with
      | .ok o => decide (Representable 4096 exampleTree exampleExtra o) | .error _ => false) = true := by
    decide +kernel
  have hnorm : (normalise exampleTree exampleExtra 6).isSome = true := by decide +kernel
  cases hs : serializeTree exampleTree exampleExtra with
  | error e => rw [hs] at hrep; cases hrep
  | ok out =>
    rw [hs] at hrep
    obtain ⟨v, hv⟩ := Option.isSome_iff_exists.mp hnorm
    obtain ⟨rn, h1, h2⟩ := parse_serialize 4096 exampleTree exampleExtra out (of_decide_eq_true hrep) hs 6 v hv
    exact ⟨out, v, rn, rfl, hv, h1, h2⟩

/-! ## what `fstree_post_process` hands the serialiser -/

open Sqfs.FsTree in
/-- **`fstree_post_process` establishes the first two clauses of `orderOkB` and the inode count bound** — for every
tree whose directories keep their children under pairwise different names in `strcmp` order (`AllSorted`: what
`insert_sorted` maintains; C11 `scan_tree_sorted`/`glob_tree_sorted` prove it of everything `--pack-dir` and glob lines
build) and every list of unresolved hard links: when it succeeds, `fs->inodes` is a permutation of the DFS numbering
order of the resolved tree (`reorder_hard_links` only moves slots), holds no node twice, contains the root, and has at
most 2³² − 1 entries.

*Partial*: the third clause of `orderOkB` — every child and every hard-link target stands before the directory naming
it — is proved for C03's numbering model (`children_before_parent`, `link_targets_before_linking_dirs`) and evaluated
per generated tree by the unit correspondence, not proved about this model of `reorder_hard_links`; the full statement
would be `postProcess tree links = some r → orderOkB r = true`. -/
theorem post_process_order_partial (tree : TNode) (links : List Path) (r : Result) (ht : tree.AllSorted)
    (h : postProcess tree links = some r) :
    r.tree.AllSorted ∧ r.inodes.Perm (allocOrder r.tree) ∧ r.inodes.Nodup ∧ r.inodes.contains [] = true ∧
      r.inodes.length ≤ 0xFFFFFFFF := by
  unfold postProcess at h
  split at h
  · cases h
  · rename_i t hres
    have hts : t.AllSorted := resolveHardLinks_allSorted _ _ _ _ ht hres
    simp only at h
    split at h
    · cases h
    · rename_i hlen
      cases h
      have hp := reorderHardLinks_perm t (allocOrder t)
      refine ⟨hts, hp, hp.nodup_iff.2 (allocOrder_nodup t hts), ?_, ?_⟩
      · rw [List.contains_iff_mem]
        exact hp.mem_iff.2 (by simp [allocOrder])
      · rw [hp.length_eq]; omega

/-- non-vacuous: `/a`, `/d/s`, `/h` → `/a` (unresolved) post-processes, and the example tree is sorted -/
example : ∃ r, Sqfs.FsTree.postProcess exampleTree.tree [] = some r ∧ r.inodes.length = 4 := by decide
theorem exampleTree_allSorted : exampleTree.tree.AllSorted := by
  simp only [exampleTree, Sqfs.FsTree.TNode.AllSorted, Sqfs.FsTree.AllSortedList, List.map_cons, List.map_nil, and_true,
    Sqfs.FsTree.TNode.name]
  decide
example : ∀ r, Sqfs.FsTree.postProcess exampleTree.tree [] = some r → r.inodes.Nodup ∧ r.inodes.contains [] = true :=
  fun r h => ⟨(post_process_order_partial _ _ r exampleTree_allSorted h).2.2.1,
    (post_process_order_partial _ _ r exampleTree_allSorted h).2.2.2.1⟩

end Sqfs.C01
