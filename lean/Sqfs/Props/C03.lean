/-
C03 — every produced image satisfies the on-disk invariants other readers rely on.

Property theorems about the models of the writer's pieces
(`Sqfs/Model/{DirWriter,MetaWriter,IdTable,Finish,Numbering,C03FsDir,C03Inode}.lean`); each quantifies over *all* inputs
(entry lists, byte streams, codecs, meta writer states, id sequences, name sequences).  Every model function named in
a theorem is run against the real C function on every invocation of the check (harness/h_c03.c, h_c03n.c, h_c03f.c).  The validator that
states the invariants on whole images (`Sqfs/Model/ImageValidate.lean`) is executable and runs on every image
the check produces; the full statement `validate (serialize t c) = []` for a model of the whole writer is
**not** proved — what is proved are the invariants each piece establishes (see docs/design/C03.md).
-/
import Sqfs.Proofs.DirWriter
import Sqfs.Proofs.MetaWriter
import Sqfs.Proofs.MetaWriterKeep
import Sqfs.Proofs.IdTable
import Sqfs.Proofs.Finish
import Sqfs.Proofs.Numbering
import Sqfs.Proofs.C03FsDir
import Sqfs.Proofs.C03Inode
import Sqfs.Proofs.Bits
namespace Sqfs.C03
open Sqfs.Consts

/-! ### codecs used by the examples that follow the theorems -/

/-- a codec that never shrinks anything -/
def toyCodec0 : Sqfs.MetaWriter.Codec := fun _ => none

/-- a codec meeting the contract: "drop the last byte of anything longer than 3 bytes" -/
def toyCodec : Sqfs.MetaWriter.Codec := fun x => if x.length > 3 then some x.dropLast else none

section Dir
open Sqfs.DirWriter

/--
`get_conseq_entry_count`, for every offset and every non-empty entry list: the header covers at least one and at
most 256 entries (never more than there are), all of which live in the head's inode block and whose inode numbers
differ from the head's by at most ±32767; and unless it is a single entry, the header plus its entries do not
cross a metadata block boundary.
-/
theorem conseq_count_ok (offset : Nat) (head : DEnt) (rest : List DEnt) :
    1 ≤ conseqCount offset (head :: rest) ∧ conseqCount offset (head :: rest) ≤ 256 ∧
    conseqCount offset (head :: rest) ≤ (head :: rest).length ∧
    (∀ e ∈ (head :: rest).take (conseqCount offset (head :: rest)),
        e.inodeRef >>> 16 = head.inodeRef >>> 16 ∧
        -32767 ≤ sdiff32 e.inodeNum head.inodeNum ∧ sdiff32 e.inodeNum head.inodeNum ≤ 32767) ∧
    (conseqCount offset (head :: rest) = 1 ∨
      (offset + 12) % 8192 + (((head :: rest).take (conseqCount offset (head :: rest))).map entSize).sum ≤ 8192) :=
  conseqCount_spec offset head rest

/--
`sqfs_dir_writer_end`, for every entry list, every codec and every state of the meta writer it appends to: the
emitted runs, concatenated, are exactly the entries in order (nothing lost, duplicated or reordered); every header is
followed by 1..256 entries that share the header's inode block, and for each of them the 16-bit delta field, read back
as s16 and added to the header's inode number in 32-bit arithmetic, gives the entry's inode number.
-/
theorem dir_end_headers_ok (cmp : MetaWriter.Codec) (st : MetaWriter.St) (ents : List DEnt)
    (hnum : ∀ e ∈ ents, e.inodeNum < 4294967296) :
    ((dirEndM cmp st ents).1.map (·.ents)).flatten = ents ∧
    ∀ r ∈ (dirEndM cmp st ents).1,
      1 ≤ r.ents.length ∧ r.ents.length ≤ 256 ∧
      ∀ e ∈ r.ents, (e.inodeRef >>> 16) % 4294967296 = r.startBlock ∧
        ((r.inodeNumber : Int) + (let d16 := (e.inodeNum + 4294967296 - r.inodeNumber % 4294967296) % 65536
                                   if d16 < 32768 then (d16 : Int) else (d16 : Int) - 65536)) % 4294967296 = e.inodeNum := by
  have hflat := dirEndGoM_flatten cmp (ents.length + 1) ents (by omega) st 0
  refine ⟨hflat, ?_⟩
  intro r hr
  obtain ⟨first, tl, h1, h2, h3, h4, h5⟩ := dirEndGoM_runs_ok cmp _ _ _ _ r hr
  have hsub : ∀ e ∈ r.ents, e ∈ ents := by
    intro e he
    rw [← hflat]
    simp only [List.mem_flatten, List.mem_map]
    exact ⟨r.ents, ⟨r, hr, rfl⟩, he⟩
  refine ⟨by rw [h1]; simp, h2, ?_⟩
  intro e he
  obtain ⟨e1, e2, e3⟩ := h5 e he
  refine ⟨by rw [h3, e1], ?_⟩
  have hfirst : first ∈ ents := hsub first (by rw [h1]; simp)
  exact delta_roundtrip e.inodeNum r.inodeNumber (hnum e (hsub e he)) (by rw [h4]; exact hnum first hfirst) e2 e3

/-- the repaired `sqfs_dir_writer_add_entry` only lets through names whose length the on-disk `size` field (stored
off by one, at most 255 for the kernel) can carry, so the field written at dir_writer.c:310 is exact -/
theorem add_entry_name_fits (name : Bytes) (num ref mode : Nat) (e : DEnt) (h : addEntry name num ref mode = .ok e) :
    e.name = name ∧ 1 ≤ e.name.length ∧ e.name.length ≤ 256 ∧ (e.name.length - 1) % 65536 + 1 = e.name.length ∧
    1 ≤ e.inodeNum ∧ 1 ≤ e.typ ∧ e.typ ≤ 7 := by
  -- only the accepting branch of `add_entry` returns an entry
  revert h
  fun_cases addEntry name num ref mode <;> intro h <;> cases h
  rename_i t ht h1 h2
  have hlen : 1 ≤ name.length := Nat.pos_of_ne_zero fun h0 => h1 (Or.inl (List.length_eq_zero_iff.mp h0))
  have htyp : 1 ≤ t ∧ t ≤ 7 := by
    unfold getType at ht
    split at ht <;> simp at ht <;> subst ht <;> decide
  simp only [maxNameLen] at h2
  exact ⟨rfl, hlen, Nat.le_of_not_lt h2, by simp only; omega, Nat.le_of_not_lt fun h => h1 (Or.inr h), htyp.1, htyp.2⟩

/-- the repaired `sqfs_dir_writer_create_inode`: the 16-bit index count of an extended directory inode is the number
of index entries that follow it (no wrap), for every number of headers -/
theorem dir_index_count_exact (dirRef : Nat) (runs : List Run) (n h x p : Nat) :
    (createInode dirRef runs n h x p).indexCount = (createInode dirRef runs n h x p).index.length :=
  -- an entry in slot `maxIndex` would contradict `createInode_index`
  Nat.mod_eq_of_lt (Nat.lt_succ_of_le (Nat.le_of_not_lt fun hlt =>
    Nat.lt_irrefl _ (createInode_index (List.getElem?_eq_getElem hlt)).1))

/--
"Directory indexes point at headers".  `sqfs_dir_writer_end` + `sqfs_dir_writer_create_inode` on a **real meta
writer** (any codec, any well-formed state `st` — every state a fresh writer reaches is one, i.e. any amount of earlier
directory data, compressed or not), for every entry list: the `k`-th index entry of the extended directory inode is made from
the `k`-th header `r` (index entries and headers correspond one to one, in order, up to the 65535 the u16 count can
announce) and

* its `index` field is the number of listing bytes in front of that header (the encoded runs before it), so the
  listing has a header at exactly that offset;
* the bytes the meta writer received are the encoded runs, appended to what was there before;
* its `start_block` field is the on-disk size of exactly the metadata blocks that precede the block holding the
  header's first byte — the offset, relative to the start of the directory table, at which that block's 2-byte
  header lies — in the finished table `fin` (any later state of the same writer: blocks flushed earlier never
  change; this is also the order `sqfs_meta_write_write_to_file` puts them into the file);
* inside that block the header sits at `(offset field of the inode + index) mod 8192`, which is what a reader
  computes;
* its name is the name of the first entry behind that header.

The fields are u32 (`% 2^32`): exact for listings and directory tables below 4 GiB.
-/
theorem dir_index_points_at_headers (cmp : MetaWriter.Codec) (st : MetaWriter.St) (hst : MetaWriter.WF cmp st)
    (ents : List DEnt) (fin : MetaWriter.St) (hfin : MetaWriter.Ext (dirEndM cmp st ents).2 fin)
    (hl x p k : Nat) (ie : Nat × Nat × Bytes)
    (hk : (createInode (dirRefOf st) (dirEndM cmp st ents).1 ents.length hl x p).index[k]? = some ie) :
    ∃ r first tl, (dirEndM cmp st ents).1[k]? = some r ∧ r.ents = first :: tl ∧
      ie = (r.index % 4294967296, r.block % 4294967296, first.name) ∧
      r.index = ((((dirEndM cmp st ents).1.take k).map encodeRun).flatten).length ∧
      MetaWriter.stream (dirEndM cmp st ents).2 = MetaWriter.stream st ++ ((dirEndM cmp st ents).1.map encodeRun).flatten ∧
      r.block = MetaWriter.outBytes (fin.out.take (((MetaWriter.stream st).length + r.index) / 8192)) ∧
      ((MetaWriter.stream st).length + r.index) % 8192 = ((dirRefOf st) % 65536 + r.index) % 8192 := by
  unfold dirEndM at hk hfin ⊢
  obtain ⟨_, _, p3, p4⟩ := dirEndGoM_pos cmp (ents.length + 1) ents (by omega) st 0 hst
  obtain ⟨-, r, hr, hie⟩ := createInode_index hk
  obtain ⟨first, tl, q1, _⟩ := dirEndGoM_runs_ok cmp _ _ _ _ r (List.mem_of_getElem? hr)
  obtain ⟨stk, s1, s2, s3, s4, s5⟩ := p4 k r hr
  rw [Nat.zero_add] at s4
  refine ⟨r, first, tl, hr, q1, by rw [hie, q1], s4, p3, ?_, ?_⟩
  · -- the header was added in state `stk`, whose flushed blocks are a prefix of those of `fin`
    have hlen : (MetaWriter.stream stk).length = (MetaWriter.stream st).length + r.index := by
      rw [s3, List.length_append, s4]
    rw [s5, ← hlen]
    exact congrArg Prod.fst (s1.position_in (s2.trans hfin))
  · have hlt : st.cur.length < 2 ^ 16 := Nat.lt_trans hst.curLt (by decide)
    have hoff : dirRefOf st % 2 ^ 16 = st.cur.length := by
      rw [dirRefOf, Nat.shiftLeft_eq, Nat.mul_comm, ← Nat.two_pow_add_eq_or_of_lt hlt, Nat.mul_add_mod,
        Nat.mod_eq_of_lt hlt]
    rw [show (65536 : Nat) = 2 ^ 16 from rfl, hoff, hst.offset]
    exact (Nat.mod_add_mod _ _ _).symm

set_option maxRecDepth 100000 in
/-- instance (all hypotheses discharged) on a meta writer that **already holds data**: 100 bytes appended before (`WF` from
`foldl_append_wf`), three entries in two inode blocks → two headers; `k = 1`: the second index entry is `(30, 0, "c")`, made
from the second header, which sits 30 listing bytes in; `fin` = the state right after `sqfs_dir_writer_end` -/
example :
    let st0 : MetaWriter.St := [List.replicate 100 (1 : UInt8)].foldl (MetaWriter.append toyCodec) {}
    let ents : List DEnt := [⟨0x10020, 5, 2, [97]⟩, ⟨0x10040, 6, 2, [98]⟩, ⟨0x20000, 7, 2, [99]⟩]
    ∃ r first tl, (dirEndM toyCodec st0 ents).1[1]? = some r ∧ r.ents = first :: tl ∧
      ((30, 0, [99]) : Nat × Nat × Bytes) = (r.index % 4294967296, r.block % 4294967296, first.name) ∧
      r.block = MetaWriter.outBytes ((dirEndM toyCodec st0 ents).2.out.take (((MetaWriter.stream st0).length + r.index) / 8192)) ∧
      ((MetaWriter.stream st0).length + r.index) % 8192 = ((dirRefOf st0) % 65536 + r.index) % 8192 := by
  intro st0 ents
  have hwf : MetaWriter.WF toyCodec st0 := (MetaWriter.foldl_append_wf toyCodec _ {} (MetaWriter.wf_init _)).1
  obtain ⟨r, first, tl, h1, h2, h3, _, _, h6, h7⟩ :=
    dir_index_points_at_headers toyCodec st0 hwf ents (dirEndM toyCodec st0 ents).2 (MetaWriter.Ext.refl _) 0 0 1 1
      (30, 0, [99]) (by decide +kernel)
  exact ⟨r, first, tl, h1, h2, h3, h6, h7⟩

/--
Export table (`add_export_table_entry` from every accepted `add_entry`, then the root in
`sqfs_dir_writer_write_export_table`), for every sequence of `(inode number, inode reference)` pairs in which a
number always comes with the same reference (`ref`; the serializer passes the node's own `inode_num`/`inode_ref`)
and no number is 0 (`add_entry` refuses it): the table has exactly as many slots as the largest inode number, slot
`ino - 1` holds the reference of inode `ino` for every inode that was added, every other slot is the 0xFF… filler.
With the numbers being exactly 1..N (`inode_numbers_bijective`) there are N slots and no filler.
-/
theorem export_table_resolves (ref : Nat → Nat) (adds : List (Nat × Nat)) (rootNum : Nat)
    (hadds : ∀ a ∈ adds, 1 ≤ a.1 ∧ a.2 = ref a.1) (hroot : 1 ≤ rootNum) :
    (exportTable adds rootNum (ref rootNum)).length = maxNum (adds ++ [(rootNum, ref rootNum)]) ∧
    ∀ i, i < (exportTable adds rootNum (ref rootNum)).length →
      (exportTable adds rootNum (ref rootNum))[i]? =
        some (if i + 1 ∈ (adds ++ [(rootNum, ref rootNum)]).map (·.1) then ref (i + 1) else exportUnset) := by
  have h := ((ExportTable.Ok.nil exportUnset ref).fold exportUnset adds [] [] hadds).step exportUnset (rootNum, ref rootNum) hroot rfl
  rw [exportTable, addExport_eq, maxNum_eq]
  exact h

end Dir

section Meta
open Sqfs.MetaWriter

/--
The meta writer's chunking, for **every** codec and every sequence of appends followed by the final flush:
nothing is left unwritten; the blocks are full 8 KiB chunks followed by at most one shorter, non-empty chunk
(so every block unpacks to 1..8192 bytes and only the last of a run is short); their concatenation is the
appended stream; a block flagged compressed carries exactly what the codec returned for its chunk, a block
flagged uncompressed carries the chunk itself.
-/
theorem meta_block_le_8k (cmp : Codec) (chunks : List Bytes) :
    ∃ (fullBlocks last : List Block), (run cmp chunks).out = fullBlocks ++ last ∧ (run cmp chunks).cur = [] ∧
      (∀ b ∈ fullBlocks, b.raw.length = 8192) ∧ last.length ≤ 1 ∧
      (∀ b ∈ last, 1 ≤ b.raw.length ∧ b.raw.length < 8192) ∧
      (∀ b ∈ fullBlocks ++ last, (b.compressed = true → cmp b.raw = some b.stored ∧ 0 < b.stored.length) ∧
                                   (b.compressed = false → b.stored = b.raw)) ∧
      ((fullBlocks ++ last).map (·.raw)).flatten = chunks.flatten :=
  run_shape cmp chunks

/--
With the `do_block` contract as hypothesis: no metadata block is stored larger than it unpacks, none exceeds
8 KiB on disk, it is flagged compressed exactly when it is strictly smaller, and the 16-bit header decodes to
(stored size, flag) without the size running into the flag bit.
-/
theorem meta_stored_le_unpacked (cmp : Codec) (hc : cmp.Shrinks) (chunks : List Bytes) :
    ∀ b ∈ (run cmp chunks).out,
      b.stored.length ≤ b.raw.length ∧ b.stored.length ≤ 8192 ∧
      (b.compressed = true ↔ b.stored.length < b.raw.length) ∧
      b.header % 32768 = b.stored.length ∧ (b.header / 32768 = 1 ↔ b.compressed = false) := by
  obtain ⟨fb, last, h1, _, h3, _, h5, h6, _⟩ := run_shape cmp chunks
  intro b hb
  rw [h1] at hb
  refine Made.header hc (h6 b hb) ?_
  rcases List.mem_append.mp hb with hb | hb
  · exact Nat.le_of_eq (h3 b hb)
  · exact Nat.le_of_lt (h5 b hb).2

/--
The block processor's worker (`process_block`) with the `do_block` contract as hypothesis, for every block that does
not already carry the internal IS_COMPRESSED flag: the stored size never exceeds the input size; the block is flagged
compressed iff it is strictly smaller; a block not flagged compressed is stored byte for byte; a block flagged
compressed is what the codec returned.  The size word `process_completed_block` builds from it (for blocks below
2^24 bytes — the block size limit is 2^20) carries the stored size in its low 24 bits and has bit 24 (uncompressed)
clear exactly when the block is flagged compressed.
-/
theorem data_block_size_rule (cmp : Codec) (hc : cmp.Shrinks) (b : DataBlock)
    (hin : hasFlag b.flags blkIsCompressed = false) :
    (processBlock cmp b).data.length ≤ b.data.length ∧
    (hasFlag (processBlock cmp b).flags blkIsCompressed = true ↔ (processBlock cmp b).data.length < b.data.length) ∧
    (hasFlag (processBlock cmp b).flags blkIsCompressed = false → (processBlock cmp b).data = b.data) ∧
    (hasFlag (processBlock cmp b).flags blkIsCompressed = true → cmp b.data = some (processBlock cmp b).data) ∧
    (b.data.length < 16777216 →
      sizeWord (processBlock cmp b) % 16777216 = (processBlock cmp b).data.length ∧
      (sizeWord (processBlock cmp b) / 16777216 = 0 ↔ hasFlag (processBlock cmp b).flags blkIsCompressed = true)) := by
  -- the first four parts together, by cases along `process_block`; the last follows from the first
  suffices main : _ ∧ _ ∧ _ ∧ _ from ⟨main.1, main.2.1, main.2.2.1, main.2.2.2, fun hb => sizeWord_spec _ (Nat.lt_of_le_of_lt main.1 hb)⟩
  · have hsp : hasFlag (b.flags ||| blkIsSparse) blkIsCompressed = false := by
      unfold hasFlag at hin ⊢
      rw [Nat.and_or_distrib_right, show blkIsSparse &&& blkIsCompressed = 0 by decide, Nat.or_zero]; exact hin
    have hcp : hasFlag (b.flags ||| blkIsCompressed) blkIsCompressed = true := by
      unfold hasFlag
      rw [Nat.and_or_distrib_right, Nat.and_self, bne_iff_ne]
      exact fun h => absurd (Nat.or_eq_zero_iff.mp h).2 (by decide)
    -- along `process_block`: marked sparse, compressed, or (the other four ways out) left as it is
    fun_cases processBlock cmp b
    case case2 => simp [hsp]
    case case4 c hcmp _ =>
      have hlt := hc _ _ hcmp
      simp only [hcp]
      exact ⟨Nat.le_of_lt hlt, by simp [hlt], by simp, fun _ => hcmp⟩
    all_goals simp [hin]

/--
`sqfs_write_table` (id, fragment and export table), for every codec, every table and every file size `base` at
which it is called: the location list has one u64 per metadata block and there are `ceil(size / 8192)` of them;
location `i` is the file offset of the 2-byte header of block `i` (`base` plus everything blocks `0..i-1` occupy);
`*start`, which the superblock records, is the offset directly behind the last block, where the list is written;
the blocks unpack to the table, and all but the last hold exactly 8192 bytes, so entry `k` of a table of `e`-byte
entries (`e` divides 8192) is found in block `k·e / 8192` at offset `k·e mod 8192`.
-/
theorem write_table_locations (cmp : Codec) (base : Nat) (data : Bytes) :
    (writeTableM cmp base data).locs.length = (writeTableM cmp base data).blocks.length ∧
    (writeTableM cmp base data).blocks.length = (data.length + 8191) / 8192 ∧
    (∀ i, i < (writeTableM cmp base data).locs.length →
      (writeTableM cmp base data).locs[i]? = some (base + outBytes ((writeTableM cmp base data).blocks.take i))) ∧
    (writeTableM cmp base data).start = base + outBytes (writeTableM cmp base data).blocks ∧
    (((writeTableM cmp base data).blocks.map (·.raw)).flatten = data) ∧
    (∀ i, i + 1 < (writeTableM cmp base data).blocks.length →
      ((writeTableM cmp base data).blocks[i]?.map (·.raw.length)) = some 8192) := by
  obtain ⟨h1, h2, h3, h4⟩ := writeTableM_spec cmp base data
  have hl : (writeTableM cmp base data).locs.length = (writeTableM cmp base data).blocks.length := by
    rw [h1, List.length_map, List.length_range]
  refine ⟨hl, h2, fun i hi => ?_, rfl, h3, h4⟩
  rw [h1, List.getElem?_map, List.getElem?_range (hl ▸ hi)]; rfl

/--
The meta writer **with its flag word** (`FSt`: `sqfs_meta_writer_flush` branches on `SQFS_META_WRITER_KEEP_IN_MEMORY` —
link the block into `m->list`, or `write_block` it; meta_writer.c:134-144), for every codec, every sequence of appends
and every flag word `fl`, compared with the flag-less machine `St` the other theorems are stated for:

* the position `sqfs_meta_writer_get_position` reports after the appends, and after the final flush, is the position of
  the flag-less writer (so the block offsets handed out while the data was still in memory are the offsets the blocks
  end up at, relative to where the table starts);
* with `KEEP_IN_MEMORY` (the directory table): nothing reaches the file before `sqfs_meta_write_write_to_file`, the list
  holds exactly the blocks `run` produces, in order; afterwards the file holds exactly these blocks and the list is empty;
* without the flag: every block is in the file as soon as it is flushed, the list stays empty, and
  `sqfs_meta_write_write_to_file` changes nothing.

(`FSt.flush` is written out branch by branch as in the C code; the proof is a simulation: every operation commutes
with `FSt.ofSt fl`, `Proofs/MetaWriterKeep.lean`.  The driver's `metak` / `dirx` operations run `FSt` against the real writer.)
-/
theorem keep_in_memory_same_blocks (cmp : Codec) (chunks : List Bytes) (fl : Nat) :
    let w := chunks.foldl (FSt.append cmp) { flags := fl }
    let fin := w.flush cmp
    w.position = position (chunks.foldl (append cmp) {}) ∧
    fin.position = position (run cmp chunks) ∧
    (hasFlag fl metaWriterKeepInMemory = true →
      fin.file = [] ∧ fin.list = (run cmp chunks).out ∧
      fin.writeToFile.file = (run cmp chunks).out ∧ fin.writeToFile.list = []) ∧
    (hasFlag fl metaWriterKeepInMemory = false →
      fin.file = (run cmp chunks).out ∧ fin.list = [] ∧ fin.writeToFile.file = fin.file ∧ fin.writeToFile.list = []) := by
  intro w fin
  have hw : w = FSt.ofSt fl (chunks.foldl (append cmp) {}) := by rw [← FSt.ofSt_foldl, FSt.ofSt_init]
  have hfin : fin = FSt.ofSt fl (run cmp chunks) := by
    show w.flush cmp = _
    rw [hw, FSt.ofSt_flush]; rfl
  rw [hw, hfin]
  unfold FSt.ofSt
  refine ⟨by split <;> rfl, by split <;> rfl, fun hk => ?_, fun hk => ?_⟩
  · rw [if_pos hk]; exact ⟨rfl, rfl, List.nil_append _, rfl⟩
  · rw [if_neg (by simp [hk])]; exact ⟨rfl, rfl, List.append_nil _, rfl⟩

/-- instance, both branches: 9000 + 2 bytes — more than one metadata block — through a shrinking codec ("drop the last
byte", as `toyCodec` above); with `KEEP_IN_MEMORY` the file is empty before `write_to_file`, without it the list is never used -/
example :
    let c : Codec := fun x => if x.length > 3 then some x.dropLast else none
    let ch : List Bytes := [List.replicate 9000 7, [1, 2]]
    ((ch.foldl (FSt.append c) { flags := metaWriterKeepInMemory }).flush c).file = [] ∧
    ((ch.foldl (FSt.append c) { flags := metaWriterKeepInMemory }).flush c).writeToFile.file = (run c ch).out ∧
    ((ch.foldl (FSt.append c) { flags := 0 }).flush c).file = (run c ch).out ∧
    ((ch.foldl (FSt.append c) { flags := 0 }).flush c).list = [] := by
  intro c ch
  have h1 := (keep_in_memory_same_blocks c ch metaWriterKeepInMemory).2.2.1 (by decide)
  have h0 := (keep_in_memory_same_blocks c ch 0).2.2.2 (by decide)
  exact ⟨h1.1, h1.2.2.1, h0.1, h0.2.1⟩

end Meta

section Ids
open Sqfs.IdTable

/--
`sqfs_id_table_id_to_index` with the repaired limit, for every sequence of ids starting from the empty table:
if all calls succeed the table holds at most 65535 distinct ids, so the u16 `id_count` written to the superblock
is the true number of entries (no wrap to 0), and every index handed to an inode is in bounds and survives the
u16 store unchanged.
-/
theorem id_count_fits (ids t is : List Nat) (h : addAll limit [] ids = some (t, is)) :
    superIdCount t = t.length ∧ t.Nodup ∧ is.length = ids.length ∧
    ∀ i ∈ is, storedIndex i = i ∧ i < superIdCount t := by
  obtain ⟨h1, _, h3, h4, h5, _⟩ := addAll_spec limit ids [] t is (by simp) (by simp) h
  have hl : t.length < 65536 := by simp only [limit] at h1; omega
  have hc : superIdCount t = t.length := by unfold superIdCount; omega
  refine ⟨hc, h3, h4, ?_⟩
  intro i hi
  have := h5 i hi
  exact ⟨by unfold storedIndex; omega, by omega⟩

end Ids

section Fin
open Sqfs.Finish

/-- `padd_sqfs`: the padded size is a multiple of the device block size and fewer than one block is added -/
theorem pad_multiple (size bs : Nat) (h : 0 < bs) : (size + padSize size bs) % bs = 0 ∧ padSize size bs < bs := by
  unfold padSize
  by_cases h0 : size % bs = 0
  · simp [h0, h]
  · rw [if_neg h0]
    have hlt : size % bs < bs := Nat.mod_lt _ h
    refine ⟨?_, by omega⟩
    have h1 : size + (bs - size % bs) = size / bs * bs + bs := by
      have := Nat.div_add_mod size bs
      have hm : bs * (size / bs) = size / bs * bs := Nat.mul_comm _ _
      omega
    rw [h1]
    simp

/--
`sqfs_writer_finish`, for every combination of present/absent optional tables and every size: the table starts it
records come in the order readers insist on (inode table, directory table, fragment, export, id, xattr — absent
tables skipped) and all lie below `bytes_used`; `bytes_used` is the data end plus exactly the bytes the tables
occupy (no gap, nothing counted twice); the file is padded with fewer than one device block to a multiple of it.
-/
theorem finish_order (i : Input) (hd : 0 < i.devblk) :
    (finish i).inodeTable = i.dataEnd ∧ (finish i).inodeTable ≤ (finish i).dirTable ∧
    (∀ t, i.frag = some t → (finish i).dirTable ≤ (finish i).fragTable) ∧
    (∀ t, i.exportTbl = some t → (finish i).dirTable ≤ (finish i).exportTable ∧
        (∀ f, i.frag = some f → (finish i).fragTable < (finish i).exportTable ∨ (f.blocks = 0 ∧ t.blockBytes = 0))) ∧
    (finish i).dirTable ≤ (finish i).idTable ∧
    (∀ t, i.frag = some t → (finish i).fragTable ≤ (finish i).idTable) ∧
    (∀ t, i.exportTbl = some t → (finish i).exportTable ≤ (finish i).idTable) ∧
    (∀ x, i.xattr = some x → (finish i).idTable ≤ (finish i).xattrTable ∧ (finish i).xattrTable < (finish i).bytesUsed) ∧
    (finish i).idTable ≤ (finish i).bytesUsed ∧
    (finish i).bytesUsed = i.dataEnd + i.inodeBytes + i.dirBytes + tblBytes i.frag + tblBytes i.exportTbl
                            + tblBytes (some i.id) + xBytes i.xattr ∧
    (finish i).bytesUsed ≤ (finish i).fileSize ∧ (finish i).fileSize % i.devblk = 0 ∧
    (finish i).fileSize < (finish i).bytesUsed + i.devblk := by
  rw [finish_eq]
  simp only
  have hid : tblBytes (some i.id) = i.id.blockBytes + 8 * i.id.blocks := rfl
  -- a table that is present starts at the size reached so far plus its blocks, and adds its bytes to that size
  refine ⟨trivial, Nat.le_add_right _ _, fun t ht => ?_, fun t ht => ⟨?_, fun f hf => ?_⟩, by omega, fun t ht => ?_,
    fun t ht => ?_, fun x hx => ?_, by omega, trivial, Nat.le_add_right _ _, (pad_multiple _ _ hd).1,
    Nat.add_lt_add_left (pad_multiple _ _ hd).2 _⟩
  · simp only [ht, tblStart]; omega
  · simp only [ht, tblStart]; omega
  · simp only [ht, hf, tblStart, tblBytes]; omega
  · simp only [ht, tblStart, tblBytes]; omega
  · simp only [ht, tblStart, tblBytes]; omega
  · simp only [hx, hid, xBytes]; omega

end Fin

section Num
open Sqfs.Numbering

/--
For every tree: the numbers `alloc_inode_num_dfs` + `fstree_post_process` hand out (every node except hard-link
entries, the root last) are a permutation of `1, …, N` where `N` is the count stored in `unique_inode_count` —
"inode numbers are exactly 1..N for the N inodes the superblock announces" — and numbering changes nothing else
(forgetting the numbers gives back the input tree).
-/
theorem inode_numbers_bijective (cs : List Tree) :
    (numsT (numberRoot cs).1).Perm (List.range' 1 (numberRoot cs).2) ∧ eraseT (numberRoot cs).1 = .dir cs :=
  ⟨numberRoot_perm cs, numberRoot_shape cs⟩

/--
`fstree_post_process` as a whole — `alloc_inode_num_dfs`, the root, `map_inodes_dfs`, then `reorder_hard_links`
(which rotates the target of a hard link in front of the first directory that links it, renumbering everything in
between) — for every tree with any hard links between its non-directory nodes: slot `k` of `fs->inodes`, the order
in which the inodes are serialised, carries inode number `k + 1`; the slots hold exactly the nodes the DFS numbered,
each once.  So also with hard links the inode numbers are exactly `1..N` for the `N` inodes the superblock announces,
no number is used twice, and inodes appear in the inode table in the order of their numbers.
-/
theorem inode_numbers_dense_after_reorder (cs : List Tree) :
    (postProcess cs).map (·.num) = List.range' 1 (numberRoot cs).2 ∧
    ((postProcess cs).map (·.id)).Perm (numsT (numberRoot cs).1) ∧
    (numsT (numberRoot cs).1).Perm (List.range' 1 (numberRoot cs).2) :=
  ⟨(postProcess_spec cs).1, (postProcess_spec cs).2, numberRoot_perm cs⟩

/--
The order in which inodes are serialised makes every `inode_ref` a listing stores known when the listing is written:
for every tree whose hard links name existing non-directory nodes (`resolve_link` refuses anything else), in the final
order of `fs->inodes` (`Before`: sits in an earlier slot)
* every node with a smaller DFS number than a directory — in particular everything inside it (`children_before_parent`) —
  still comes before that directory (`reorder_hard_links` never moves a directory and never moves anything behind one
  that was in front of it), and
* every directory comes after the target of each of its hard-link entries.
-/
theorem link_targets_before_linking_dirs (cs : List Tree)
    (hv : ValidT (filesT (numberRoot cs).1).length (numberRoot cs).1) :
    (∀ a b, 1 ≤ a → a < b → b ∈ dirNumsT (numberRoot cs).1 → Before (postProcess cs) a b) ∧
    (∀ d ∈ dirsT (filesT (numberRoot cs).1) (numberRoot cs).1, ∀ x ∈ d.2, Before (postProcess cs) x d.1) :=
  links_before_dirs (numberRoot cs).1 (numberRoot cs).2 (numberRoot_perm cs) hv

/-- every directory's number is larger than every number inside its subtree (children are serialised, and their
inode references known, before the parent's listing is written) -/
theorem children_before_parent (cs : List Tree) : OrdT (numberRoot cs).1 := by
  obtain ⟨c, hc, hp, ho, -⟩ := allocDir_spec cs (alloc_spec.2 cs) 0
  refine ⟨fun k hk => ?_, ho⟩
  have := List.mem_range'_1.mp (hp.mem_iff.mp hk)
  omega

end Num

section Sorted
open Sqfs.C03FsDir

/--
For every sequence of names handed to `fstree_add_generic` for entries of one directory (in any order, with
repetitions): the directory's children list — the order in which `write_dir_entries` passes them to the dir writer,
which `dir_end_headers_ok` shows to be the order of the listing — is **strictly** sorted by `strcmp` (bytes as
`unsigned char`), hence free of duplicates; it contains only names that were added and, unless the 2^32-1 link count
limit refused one, all of them; and the directory's link count is 2 + the number of entries.
-/
theorem listing_strictly_sorted (names : List C03FsDir.Bytes) :
    (addAll {} names).children.Pairwise (fun a b => strLt a b = true) ∧
    (addAll {} names).children.Nodup ∧
    (∀ x, x ∈ (addAll {} names).children → x ∈ names) ∧
    ((addAll {} names).linkCount < 0xFFFFFFFF → ∀ x, x ∈ names → x ∈ (addAll {} names).children) ∧
    (addAll {} names).linkCount = 2 + (addAll {} names).children.length := by
  obtain ⟨g, h2, h3, _⟩ := addAll_good names {} good_init
  refine ⟨g.sorted, ?_, ?_, ?_, g.links⟩
  · exact g.sorted.imp (fun {a b} hab => by
      intro he; subst he; rw [strLt_irrefl] at hab; exact absurd hab (by simp))
  · intro x hx
    rcases h2 x hx with h | h
    · simp at h
    · exact h
  · intro hlt x hx
    exact h3 hlt x (Or.inr hx)

end Sorted

section Inode
open Sqfs.C03Inode

/--
The thresholds of `sqfs_inode_make_basic` / `sqfs_inode_set_file_size` / `sqfs_inode_set_file_block_start` /
`sqfs_inode_set_xattr_index` and the sparse accounting of `process_completed_block`, for **every** sequence of these
operations on a file inode starting from a fresh one, with arguments of any size the C types admit: each operation
changes exactly the value it is meant to change, as a reader of the written inode sees it (`view`: a basic inode means
sparse 0, one link, no xattr) — no value is ever narrowed by the switch to the basic, all-u32 layout (a size or start of
4 GiB or more, a sparse count, an xattr index keep the inode extended).
-/
theorem file_inode_values_exact (i : FileInode) (h : WF i) (size loc idx off x n : Nat) :
    (WF (setFileSize i size) ∧ view (setFileSize i size) = ((view i).1, size, (view i).2.2)) ∧
    (WF (setBlockStart i loc) ∧ view (setBlockStart i loc) = (loc, (view i).2)) ∧
    (WF (setFragLocation i idx off) ∧ view (setFragLocation i idx off) =
      ((view i).1, (view i).2.1, (view i).2.2.1, (view i).2.2.2.1, idx, off, (view i).2.2.2.2.2.2)) ∧
    (WF (setXattr i x) ∧ view (setXattr i x) =
      ((view i).1, (view i).2.1, (view i).2.2.1, (view i).2.2.2.1, (view i).2.2.2.2.1, (view i).2.2.2.2.2.1, x)) ∧
    (WF (addSparse i n) ∧ view (addSparse i n) =
      ((view i).1, (view i).2.1, ((view i).2.2.1 + n) % 18446744073709551616, (view i).2.2.2)) ∧
    (WF (makeBasic i) ∧ view (makeBasic i) = view i) ∧ (WF (makeExtended i) ∧ view (makeExtended i) = view i) :=
  ⟨setFileSize_spec i size h, setBlockStart_spec i loc h, setFragLocation_spec i idx off h, setXattr_spec i x h,
   addSparse_spec i n h, makeBasic_spec i h, makeExtended_spec i h⟩

end Inode

section Examples
open Sqfs.DirWriter Sqfs.MetaWriter Sqfs.IdTable

/-- two entries in one inode block, then one in another block → two headers (2 + 1), indexed at listing offsets 0 and 30 -/
example : (dirEndM (fun _ => none) {} [⟨0x10020, 5, 2, [97]⟩, ⟨0x10040, 6, 2, [98]⟩, ⟨0x20000, 7, 2, [99]⟩]).1.map
    (fun r => (r.ents.length, r.index, r.block)) = [(2, 0, 0), (1, 30, 0)] := by
  decide

example : WF toyCodec0 {} := wf_init _

/-- an inode-number jump of more than 32767 splits the run -/
example : conseqCount 0 [⟨0, 1, 2, [97]⟩, ⟨32, 40000, 2, [98]⟩] = 1 := by decide

example : addEntry [97, 98] 3 0x10020 0o100644 = .ok ⟨0x10020, 3, 2, [97, 98]⟩ := by decide

example : toyCodec.Shrinks := by
  intro x c h
  unfold toyCodec at h
  split at h
  · simp only [Option.some.injEq] at h; subst h; simp; omega
  · simp at h

example : (run toyCodec [[1, 2, 3, 4, 5]]).out = [⟨true, [1, 2, 3, 4], [1, 2, 3, 4, 5]⟩] := by decide

example : processBlock toyCodec ⟨0, [1, 2, 3, 4, 5]⟩ = ⟨32768, [1, 2, 3, 4]⟩ := by decide

example : IdTable.addAll limit [] [1000, 0, 1000, 7] = some ([1000, 0, 7], [0, 1, 0, 2]) := by decide

/-- a fragment block of zero bytes is not sparse (block_processor.c:21-22), a plain block is -/
example : processBlock toyCodec ⟨blkFragmentBlock, [0, 0, 0]⟩ = ⟨blkFragmentBlock, [0, 0, 0]⟩ ∧
    processBlock toyCodec ⟨0, [0, 0, 0]⟩ = ⟨blkIsSparse, [0, 0, 0]⟩ := by decide

/-- export table: inodes 1 and 3 added, root = 4 → four slots, slot 1 (inode 2) is the filler -/
example : exportTable [(3, 0x20040), (1, 0x20), (3, 0x20040)] 4 0x30000 = [0x20, exportUnset, 0x20040, 0x30000] := by decide

/-- names arrive unsorted, one twice: sorted, unique, link count 2 + 3 -/
example : C03FsDir.addAll {} [[98], [97, 0xC3], [97], [98]] = ⟨[[97], [97, 0xC3], [98]], 5⟩ := by decide

/-- a fresh inode is well formed; 4 GiB does not fit the basic inode, 4 GiB - 2 does -/
example : C03Inode.WF C03Inode.fresh ∧
    C03Inode.setFileSize C03Inode.fresh 4294967296 = .ext 0 4294967296 0 1 0 0 0xFFFFFFFF ∧
    C03Inode.setFileSize (.ext 0 4294967296 0 1 0 0 0xFFFFFFFF) 4294967294 = .basic 0 0 0 4294967294 :=
  ⟨C03Inode.wf_fresh, by decide, by decide⟩

/-- a 5-byte table at file offset 100: one block of 4 + 2 bytes (`toyCodec` drops a byte), its location 100, the list starts at 106 -/
example : (writeTableM toyCodec 100 [1, 2, 3, 4, 5]).locs = [100] ∧ (writeTableM toyCodec 100 [1, 2, 3, 4, 5]).start = 106 := by
  decide

-- the DFS gives out 1 … 7, each directory after everything below it, a hard link nothing
example : Sqfs.Numbering.numberRoot [.file, .dir [.file, .hlink 0, .dir [.file]], .file] =
    (.dir 7 [.file 4, .dir 5 [.file 2, .hlink 0, .dir 3 [.file 1]], .file 6], 7) := by rfl

/-- its link is valid (file 1 exists), so `link_targets_before_linking_dirs` applies -/
example : Sqfs.Numbering.ValidT (Sqfs.Numbering.filesT (Sqfs.Numbering.numberRoot [.dir [.hlink 1], .dir [.file], .file]).1).length
    (Sqfs.Numbering.numberRoot [.dir [.hlink 1], .dir [.file], .file]).1 := by
  simp [Sqfs.Numbering.numberRoot, Sqfs.Numbering.allocL, Sqfs.Numbering.allocT, Sqfs.Numbering.step2, Sqfs.Numbering.filesT,
    Sqfs.Numbering.filesL, Sqfs.Numbering.ValidT, Sqfs.Numbering.ValidL]

/-- the DFS numbers the first directory 2 and the file it links 4: the file is rotated in front of the directory
(slot order 1,4,2,3,5) and everything gets the number of its slot -/
example : Sqfs.Numbering.postProcess [.dir [.hlink 1], .dir [.file], .file] =
    [⟨1, 1⟩, ⟨4, 2⟩, ⟨2, 3⟩, ⟨3, 4⟩, ⟨5, 5⟩] := by decide

/-- the layout of the first image of the design notes (gzip, 5 inodes, one fragment, one id) -/
example : Sqfs.Finish.finish ⟨512455, 93, 55, some ⟨18, 1⟩, none, ⟨6, 1⟩, none, 4096⟩ =
    ⟨512455, 512548, 512621, Sqfs.Finish.NOTBL, 512635, Sqfs.Finish.NOTBL, 512643, 516096⟩ := by decide

end Examples

end Sqfs.C03
