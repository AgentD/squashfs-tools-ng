/-
C09 — Worker pool: FIFO, exactly-once, deadlock-free under every interleaving.

Property theorems only (helpers: `Sqfs/Proofs/Pool.lean`, `C09PoolX.lean`, `C09PoolFine.lean`; model:
`Sqfs/Model/Pool.lean`, the small-step machine of `lib/util/src/threadpool.c`).  Every theorem quantifies over

* any number `n` of workers, any number of submitted items, any callback-result function `cfg.rcOf`
  (so: any set of failing items), both variants of `dequeue` (`cfg.repaired`) unless stated otherwise;
* every execution: `Reachable cfg n s` is "some finite list of scheduler choices leads from
  `init n` to `s`", where a choice names the thread that runs to its next blocking point, the API call
  the main thread makes next, or a *spurious* wake-up of an unsignalled waiter (`run_reachable`: the state a
  literal list of choices leads to is reachable).

There is no bound anywhere: the obligations are inductions over the length of the execution.
-/
import Sqfs.Proofs.Pool
import Sqfs.Proofs.C09PoolX
import Sqfs.Proofs.C09PoolFine
namespace Sqfs.C09
open Sqfs.Pool List

/-! ### fixtures for the instantiating examples that follow the theorems -/

/-- no callback fails / the callback of item `0` returns −5; both with the repaired `dequeue` -/
private abbrev cfgOk : Cfg := ⟨true, fun _ => 0⟩
private abbrev cfgF : Cfg := ⟨true, fun d => if d = 0 then -5 else 0⟩
/-- 2 workers, items 7 and 9 submitted, both workers have taken one: `workers = [working ⟨0,7⟩, working ⟨1,9⟩]` -/
private abbrev schB : List Choice :=
  [.main (.call (.submit 7)), .main (.cont false), .main (.call (.submit 9)), .main (.cont false),
   .worker 0 false, .worker 1 false]
/-- 1 worker, item 0 fails (status −5), then the main thread enters `submit 1` / `get_status`: it stands at the lock -/
private abbrev schFS : List Choice :=
  [.main (.call (.submit 0)), .main (.cont false), .worker 0 false, .worker 0 false, .worker 0 false,
   .main (.call (.submit 1))]
private abbrev schFG : List Choice :=
  [.main (.call (.submit 0)), .main (.cont false), .worker 0 false, .worker 0 false, .worker 0 false,
   .main (.call .getStatus)]
/-- main waits unsignalled in `dequeue` while worker 1 holds the awaited ticket -/
private abbrev schW : List Choice :=
  [.main (.call (.submit 3)), .main (.cont false), .worker 1 false, .main (.call .dequeue), .main (.cont false)]
/-- extended model: pointers 11 / 22 set, two items submitted (nothing taken yet) -/
private abbrev xschP : List XChoice :=
  [.setPtr 0 11, .base (.main (.cont false)), .setPtr 1 22, .base (.main (.cont false)),
   .base (.main (.call (.submit 5))), .base (.main (.cont false)),
   .base (.main (.call (.submit 6))), .base (.main (.cont false))]

/-- the initial state satisfies the ticket-accounting invariant -/
theorem inv_init (n : Nat) : InvA (init n) := invA_init n

/-- every step — of any thread, including spurious wake-ups — preserves it -/
theorem inv_step (cfg : Cfg) {s s' : State} (c : Choice) (h : InvA s) (hs : step cfg s c = some s') :
    InvA s' := invA_step cfg c h hs

theorem inv_reachable {cfg : Cfg} {n : Nat} {s : State} (hr : Reachable cfg n s) : InvA s :=
  invA_reachable hr

theorem run_reachable (cfg : Cfg) (n : Nat) (cs : List Choice) : Reachable cfg n (run cfg (init n) cs) :=
  reachable_run .init cs

/-- instance of `inv_step` (placed here because it uses `inv_reachable` and `run_reachable`): worker 0 finishes its
callback in the state where both workers hold an item -/
example : ∃ s', step cfgOk (run cfgOk (init 2) schB) (.worker 0 false) = some s' ∧ InvA s' := by
  obtain ⟨s', h⟩ := Option.isSome_iff_exists.1
    (show (step cfgOk (run cfgOk (init 2) schB) (.worker 0 false)).isSome = true by decide)
  exact ⟨s', h, inv_step cfgOk (.worker 0 false) (inv_reachable (run_reachable cfgOk 2 schB)) h⟩

/-- the strict relation (no spurious wake-ups) only reaches states the general one reaches -/
theorem strict_reachable {cfg : Cfg} {n : Nat} {s : State} (hr : ReachableStrict cfg n s) : Reachable cfg n s := by
  induction hr with
  | init => exact .init
  | step c _ hs ih => exact .step c ih (stepStrict_eq_some.1 hs).2

/-- instance: one strict step (a `submit` call) from the initial state -/
example : Reachable cfgOk 2 (run cfgOk (init 2) [.main (.call (.submit 3))]) :=
  strict_reachable (ReachableStrict.step (.main (.call (.submit 3))) .init (by decide))

/-- **FIFO.** What `dequeue` has handed back so far is a prefix of what was submitted, in submission order. -/
theorem fifo {cfg : Cfg} {n : Nat} {s : State} (hr : Reachable cfg n s) : s.returned <+: s.submitted := by
  have h := (inv_reachable hr).ret
  rw [h]; exact take_prefix _ _

theorem fifo_run (cfg : Cfg) (n : Nat) (cs : List Choice) :
    (run cfg (init n) cs).returned <+: (run cfg (init n) cs).submitted :=
  fifo (run_reachable cfg n cs)

/-- **At most once.** No ticket's callback runs twice; every callback invocation was on an item that was
submitted (ticket ↦ the data submitted under it); and no ticket is in two places at once (queue, a worker's
hands, `done`, `safe_done`, handed back), in particular never held by two workers. -/
theorem at_most_once {cfg : Cfg} {n : Nat} {s : State} (hr : Reachable cfg n s) :
    (s.started.map (·.2.ticket)).Nodup ∧
    (∀ p ∈ s.started, s.submitted[p.2.ticket]? = some p.2.data) ∧
    (range s.returned.length ++ tks s.safeDone ++ tks s.done ++ tkF s ++ tkW s ++ tks s.queue).Nodup := by
  have h := inv_reachable hr
  have hall : (range s.returned.length ++ tks s.safeDone ++ tks s.done ++ tkF s ++ tkW s ++ tks s.queue).Nodup :=
    (h.perm.nodup_iff).2 nodup_range
  refine ⟨?_, h.startedData, hall⟩
  rw [h.startedPerm.nodup_iff]
  have : (range s.returned.length ++ tks s.safeDone ++ tks s.done ++ tkF s ++ (tkW s ++ tks s.queue)).Nodup := by
    simpa [append_assoc] using hall
  exact (nodup_append.1 this).1

/-- … and handed back at most once: the `k`-th value returned by `dequeue` is the `k`-th submitted item, so a
ticket is handed back exactly when its turn comes and never again. -/
theorem returned_at_most_once {cfg : Cfg} {n : Nat} {s : State} (hr : Reachable cfg n s) (k : Nat)
    (hk : k < s.returned.length) : s.returned[k]? = s.submitted[k]? := by
  have h := (inv_reachable hr).ret
  rw [h, getElem?_take]; simp [hk]

/-- nothing is lost either: every ticket issued is somewhere -/
theorem no_item_lost {cfg : Cfg} {n : Nat} {s : State} (hr : Reachable cfg n s) (t : Nat)
    (ht : t < s.submitted.length) :
    t < s.returned.length ∨ t ∈ tks s.safeDone ∨ t ∈ tks s.done ∨ t ∈ tkF s ∨ t ∈ tkW s ∨ t ∈ tks s.queue :=
  (inv_reachable hr).somewhere ht

/-- instance: ticket 1 in the state where both workers hold an item (it is in `tkW`) -/
example := no_item_lost (run_reachable cfgOk 2 schB) 1 (by decide)

/-- **Exactly once.** Once everything submitted has been handed back, `returned = submitted`, every ticket's
callback has run exactly once (the started tickets are a permutation of `0 … #submitted-1`) on the data
submitted under that ticket, and the pool is empty. -/
theorem exactly_once {cfg : Cfg} {n : Nat} {s : State} (hr : Reachable cfg n s)
    (hall : s.returned.length = s.submitted.length) :
    s.returned = s.submitted ∧
    (s.started.map (·.2.ticket)).Perm (range s.submitted.length) ∧
    (∀ p ∈ s.started, s.submitted[p.2.ticket]? = some p.2.data) ∧
    s.queue = [] ∧ s.done = [] ∧ s.safeDone = [] ∧ heldItems s = [] := by
  have h := inv_reachable hr
  have hret : s.returned = s.submitted := by
    have := h.ret; rw [hall, take_length] at this; exact this
  have hlen := h.perm.length_eq
  simp only [length_append, length_range, h.nt, hall, tks, length_map, Nat.add_assoc, Nat.add_eq_left,
    Nat.add_eq_zero_iff, length_eq_zero_iff] at hlen
  -- `submitted.length` tickets are accounted for by the returned ones alone: every other place is empty
  obtain ⟨hsd, hd, hf, hw, hq⟩ := hlen
  refine ⟨hret, ?_, h.startedData, hq, hd, hsd, ?_⟩
  · have := h.startedPerm
    rw [hsd, hd, hf, hall] at this
    simpa [tks] using this
  · unfold heldItems
    rw [flatMap_eq_nil_iff]
    intro pc hpc
    exact held_eq_nil_iff.2 ⟨flatMap_eq_nil_iff.1 hw pc hpc, flatMap_eq_nil_iff.1 hf pc hpc⟩

/-- **Context exclusivity / one worker per item.** The per-worker context of worker `i` is used only by `i`'s
own callback invocations (in the model the context *is* the index `i`: `worker_proc` passes `worker->user` of
its own `worker_t`; that the real code hands each thread its own `worker_t` is asserted by the harness on every
callback).  What the pool has to guarantee on top of that is that two distinct workers never hold the same
work item — neither while running the callback nor while carrying the result to `store_completed`. -/
theorem ctx_exclusive {cfg : Cfg} {n : Nat} {s : State} (hr : Reachable cfg n s) (i j : Nat) (pi pj : WPc)
    (hi : s.workers[i]? = some pi) (hj : s.workers[j]? = some pj) (hij : i ≠ j) :
    ∀ a ∈ pi.held, ∀ b ∈ pj.held, a.ticket ≠ b.ticket := by
  intro a ha b hb
  exact (inv_reachable hr).held_disjoint hi hj hij ha hb

/-- instance: two workers, each inside the callback of a different item -/
example : (run cfgOk (init 2) schB).workers = [.working ⟨0, 7⟩, .working ⟨1, 9⟩] := by decide
example := ctx_exclusive (run_reachable cfgOk 2 schB) 0 1 (.working ⟨0, 7⟩) (.working ⟨1, 9⟩) (by decide) (by decide)
  (by decide)

/-- every callback invocation was made by the worker that had taken that item from the queue, on that worker's
own context: a `started` entry `(w, it)` is only ever appended by worker `w`'s own step from `working it` -/
theorem ctx_owner {cfg : Cfg} {s s' : State} (c : Choice) (hs : step cfg s c = some s') :
    s'.started = s.started ∨
    ∃ w it, c = .worker w false ∧ s.workers[w]? = some (.working it) ∧ s'.started = s.started ++ [(w, it)] := by
  cases c with
  | worker i spur =>
    cases stepWorker_iff.1 hs with
    | next pc _ hi hpc => exact .inl (getNextWork_started _ _)
    | run it hi => exact .inr ⟨i, it, rfl, hi, rfl⟩
    | store it rc hi => exact .inl (getNextWork_started _ _)
  | main mc => exact .inl (stepMain_iff.1 hs).shared.started

/-- instance of `ctx_owner`: worker 0's callback step appends `(0, ⟨0, 7⟩)` to `started` -/
example : ∃ s', step cfgOk (run cfgOk (init 2) schB) (.worker 0 false) = some s' ∧
    s'.started = (run cfgOk (init 2) schB).started ++ [(0, ⟨0, 7⟩)] := by
  obtain ⟨s', h⟩ := Option.isSome_iff_exists.1
    (show (step cfgOk (run cfgOk (init 2) schB) (.worker 0 false)).isSome = true by decide)
  refine ⟨s', h, ?_⟩
  rcases ctx_owner (.worker 0 false) h with h1 | ⟨w, it, hc, hw, hst⟩
  · have : ((step cfgOk (run cfgOk (init 2) schB) (.worker 0 false)).map
        (fun t => decide (t.started = (run cfgOk (init 2) schB).started))) = some false := by decide
    rw [h] at this; simp [h1] at this
  · cases hc
    have hw0 : (run cfgOk (init 2) schB).workers[0]? = some (.working ⟨0, 7⟩) := by decide
    rw [hw0] at hw; cases hw; exact hst

/-- **No lost wake-up** (holds with and without spurious wake-ups, for both variants of `dequeue`).
* A worker that waits on `queue_cond` *unsignalled* has nothing to do: the queue is empty and `destroy` has not
  taken the lock yet.  (The status may already be non-zero — the worker is then woken by the next `submit` or
  by `destroy`; DESIGN.md §4 claims `status = 0` here, which the code does not guarantee and does not need.)
* When the main thread waits on `done_cond` *unsignalled*, nothing is dequeuable, and the ticket it waits for
  is still queued or in the hands of a worker (which will broadcast when it stores it); with the repaired
  `dequeue` moreover `status = 0`. -/
theorem no_lost_wakeup {cfg : Cfg} {n : Nat} {s : State} (hr : Reachable cfg n s) :
    (∀ i : Nat, s.workers[i]? = some (WPc.waitQ false) → s.queue = [] ∧ ¬ s.main.inJoin) ∧
    (s.main = .deqWait false →
      (∀ it r, s.done = it :: r → it.ticket ≠ s.nextDeq) ∧
      (cfg.repaired = true → s.status = 0) ∧
      (s.nextDeq ∈ tks s.queue ∨ s.nextDeq ∈ tkW s ∨ s.nextDeq ∈ tkF s)) := by
  have hB := invB_reachable hr
  refine ⟨hB.waitQ, fun hm => ?_⟩
  obtain ⟨hnd, hst⟩ := hB.deqWait hm
  exact ⟨hnd, hst, (inv_reachable hr).awaited (by rw [hm]; trivial) hnd⟩

example := (no_lost_wakeup (run_reachable cfgOk 2 schW)).2 (by decide)

/-- **No dead-lock** (repaired `dequeue`, at least one worker, strict relation — a waiter runs only after a
broadcast).  In every reachable state in which the main thread is inside an API call, some thread can take a
strict step: `submit`, `dequeue`, `get_status` and `destroy` never hang with nothing left to run. -/
theorem no_deadlock {cfg : Cfg} {n : Nat} {s : State} (hrep : cfg.repaired = true) (hn : 0 < n)
    (hr : Reachable cfg n s) (hcall : mainInCall s = true) :
    ∃ c s', (∀ op, c ≠ .main (.call op)) ∧ stepStrict cfg s c = some s' :=
  (isDeadlock_eq_false_iff cfg s).1
    (not_deadlock_of_inv (inv_reachable hr) (invB_reachable hr) hrep ((workers_length_reachable hr).symm ▸ hn)) hcall

/-- the same as a statement about the flag both the model driver and the harness print after every step
(`dl=`): it is never set in a reachable state of the repaired pool -/
theorem no_deadlock_flag {cfg : Cfg} {n : Nat} {s : State} (hrep : cfg.repaired = true) (hn : 0 < n)
    (hr : Reachable cfg n s) : isDeadlock s = false :=
  (isDeadlock_eq_false_iff cfg s).2 (no_deadlock hrep hn hr)

/-- **Every API call returns** (repaired `dequeue`, at least one worker, strict relation).  Let the main thread be
inside `submit`, `dequeue`, `get_status` or `destroy` in a reachable state `s`.  Then *every* strict execution
from `s` during which the call does not return (i) is at most `mu s` steps long (`mu`: 6 per queued item + 2 per
step a worker can still take + the main thread's remaining steps — it strictly decreases with every step of
any thread), and (ii) can be extended by a further step: so the only way it can end is by the call returning.
No fairness assumption is needed: while the call has not returned there is simply no infinite schedule. -/
theorem api_returns {cfg : Cfg} {n : Nat} {s s' : State} {cs : List Choice} (hrep : cfg.repaired = true)
    (hn : 0 < n) (hr : Reachable cfg n s) (hcall : mainInCall s = true) (hx : StaysInCall cfg s cs s') :
    cs.length + mu s' ≤ mu s ∧
    ∃ c s'', (∀ op, c ≠ .main (.call op)) ∧ stepStrict cfg s' c = some s'' := by
  obtain ⟨hmu, hr', hcall'⟩ := hx.bound hr hcall
  exact ⟨hmu, no_deadlock hrep hn hr' hcall'⟩

/-- **Failure recorded.** In every reachable state: a non-zero status is the value some callback that ran
returned (or the −1 `destroy` sets once it holds the lock); and a failure is never lost — once a callback has
returned non-zero, either its worker is still on its way to `store_completed` or the status is non-zero. -/
theorem failure_recorded {cfg : Cfg} {n : Nat} {s : State} (hr : Reachable cfg n s) :
    (s.status ≠ 0 → s.main.inJoin ∨ ∃ p ∈ s.started, cfg.rcOf p.2.data = s.status) ∧
    (∀ p ∈ s.started, cfg.rcOf p.2.data ≠ 0 → s.status ≠ 0 ∨ p.2.ticket ∈ tkF s) :=
  ⟨(invC_reachable hr).statusFrom, (invC_reachable hr).failSeen⟩

/-- **Failure is sticky and stops the pool.** Once the status is non-zero, every further step (of any thread)
leaves it non-zero — and unchanged, except for `destroy` overwriting it with −1 —, takes nothing out of the
work queue and accepts no new submission. -/
theorem failure_sticky {cfg : Cfg} {s s' : State} (c : Choice) (hs : step cfg s c = some s') (h0 : s.status ≠ 0) :
    s'.status ≠ 0 ∧ (s'.status = s.status ∨ s.main = .destroyLock) ∧ s'.queue = s.queue ∧
    s'.submitted = s.submitted := by
  cases c with
  | worker i spur =>
    cases stepWorker_iff.1 hs with
    | next pc _ hi hpc => rw [getNextWork_of_failed i h0]; exact ⟨h0, .inl rfl, rfl, rfl⟩
    | run it hi => exact ⟨h0, .inl rfl, rfl, rfl⟩
    | store it rc hi =>
      rw [getNextWork_of_failed i (stored_status_ne_zero i it (.inl h0))]
      exact ⟨stored_status_ne_zero i it (.inl h0), .inl ((stored_status s i it rc).resolve_right fun h => h0 h.1), rfl, rfl⟩
  | main mc =>
    have hsh := (stepMain_iff.1 hs).shared
    rcases hsh.status with e | ⟨hm, e, _⟩
    · exact ⟨e ▸ h0, .inl e, hsh.failed h0⟩
    · exact ⟨by rw [e]; decide, .inr hm, hsh.failed h0⟩

/-- **`submit` reports the failure**: it returns the current status; if that is non-zero nothing is enqueued. -/
theorem failure_reported_submit {cfg : Cfg} {s s' : State} {d : Nat} (hm : s.main = .submitLock d)
    (hs : step cfg s (.main (.cont false)) = some s') :
    s'.rets = s.rets ++ [.submit s.status] ∧ s'.main = .idle ∧
    (s.status ≠ 0 → s'.queue = s.queue ∧ s'.submitted = s.submitted ∧ s'.itemCount = s.itemCount) := by
  cases hs.symm.trans (stepMain_iff.2 (.submit d hm))
  obtain ⟨_, _, hmain, _, hrets⟩ := submitBody_frame s d
  exact ⟨hrets, hmain, fun h0 => by simp [submitBody, h0]⟩

/-- instance: at the lock of `submit 1` with status −5 — the call returns −5 and enqueues nothing -/
example : (run cfgF (init 1) schFS).main = .submitLock 1 ∧ (run cfgF (init 1) schFS).status = -5 := by decide
example : ∃ s', step cfgF (run cfgF (init 1) schFS) (.main (.cont false)) = some s' ∧
    s'.rets = (run cfgF (init 1) schFS).rets ++ [.submit (-5)] ∧ s'.queue = (run cfgF (init 1) schFS).queue := by
  obtain ⟨s', h⟩ := Option.isSome_iff_exists.1
    (show (step cfgF (run cfgF (init 1) schFS) (.main (.cont false))).isSome = true by decide)
  have h1 := failure_reported_submit (d := 1) (by decide) h
  have hst : (run cfgF (init 1) schFS).status = -5 := by decide
  rw [hst] at h1
  exact ⟨s', h, h1.1, (h1.2.2 (by decide)).1⟩

/-- **`get_status` reports it.** -/
theorem failure_reported_get_status {cfg : Cfg} {s s' : State} (hm : s.main = .statusLock)
    (hs : step cfg s (.main (.cont false)) = some s') :
    s'.rets = s.rets ++ [.status s.status] ∧ s'.main = .idle := by
  cases hs.symm.trans (stepMain_iff.2 (.status hm))
  exact ⟨rfl, rfl⟩

/-- instance: `get_status` after the failure returns −5 -/
example : ∃ s', step cfgF (run cfgF (init 1) schFG) (.main (.cont false)) = some s' ∧
    s'.rets = (run cfgF (init 1) schFG).rets ++ [.status (-5)] := by
  obtain ⟨s', h⟩ := Option.isSome_iff_exists.1
    (show (step cfgF (run cfgF (init 1) schFG) (.main (.cont false))).isSome = true by decide)
  have h1 := failure_reported_get_status (by decide) h
  have hst : (run cfgF (init 1) schFG).status = -5 := by decide
  rw [hst] at h1
  exact ⟨s', h, h1.1⟩

/-- **`dequeue` after a failure does not wait** (repaired code): holding the lock with a non-zero status it
returns at once — the next item in submission order if that one is already done, otherwise NULL (after which
the caller finds the failure with `get_status`, as `dequeue_block` in the block processor does). -/
theorem failure_reported_dequeue {cfg : Cfg} {n : Nat} {s s' : State} (hrep : cfg.repaired = true)
    (hr : Reachable cfg n s) (h0 : s.status ≠ 0) (spur : Bool)
    (hm : s.main = .deqLock ∨ ∃ sig, s.main = .deqWait sig)
    (hs : step cfg s (.main (.cont spur)) = some s') :
    s'.main = .idle ∧
    (s'.rets = s.rets ++ [.deq none] ∨
     ∃ d, s'.rets = s.rets ++ [.deq (some d)] ∧ s.submitted[s.returned.length]? = some d ∧
          s'.returned = s.returned ++ [d]) := by
  have hA := inv_reachable hr
  have hin : s.main.inDeq := by
    rcases hm with hm | ⟨sig, hm⟩ <;> (rw [hm]; trivial)
  have key : s' = deqTry cfg s := by
    cases stepMain_iff.1 hs with
    | deq => rfl
    | _ => rw [‹s.main = _›] at hin; cases hin  -- every other rule starts from another program counter
  subst key
  rcases deqTry_cases cfg s with ⟨it, r, hd, ht, e⟩ | ⟨_, ⟨_, e⟩ | ⟨hst, _⟩⟩
  · rw [e]
    exact ⟨rfl, .inr ⟨it.data, rfl, hA.done_head_data hin hd ht, rfl⟩⟩
  · rw [e]; exact ⟨rfl, .inl rfl⟩
  · exact absurd (hst hrep) h0

/-- **A healthy pool's status stays 0.**  If no callback ever fails, then as long as
`destroy` has not taken the lock the status is 0 in every reachable state: `submit` returns 0 and enqueues,
`get_status` returns 0 (`failure_reported_submit`, `failure_reported_get_status` give the values), exactly as
`threadpool_serial.c` does. -/
theorem healthy_status_zero {cfg : Cfg} {n : Nat} {s : State} (hok : ∀ d, cfg.rcOf d = 0)
    (hr : Reachable cfg n s) (hj : ¬ s.main.inJoin) : s.status = 0 :=
  (invC_reachable hr).status_zero hok hj

/-- … and `dequeue` answers NULL only when the pool is empty (every submitted item has been handed back) or —
repaired code — after a failure.  Together with `fifo` (the `k`-th non-NULL answer is the `k`-th submitted item)
this is the serial pool's `dequeue`. -/
theorem dequeue_null_only_if {cfg : Cfg} {s s' : State} (c : Choice) (hs : step cfg s c = some s')
    (hret : s'.rets = s.rets ++ [.deq none]) :
    s.itemCount = 0 ∨ (cfg.repaired = true ∧ s.status ≠ 0) := by
  cases c with
  | worker i spur =>
    -- no worker step returns anything
    have hsame : s'.rets = s.rets := by
      cases stepWorker_iff.1 hs with
      | next pc _ hi hpc => exact getNextWork_rets _ _
      | run it hi => rfl
      | store it rc hi => exact getNextWork_rets _ _
    exact absurd (hsame ▸ hret) (ne_append_singleton _ _)
  | main mc =>
    cases stepMain_iff.1 hs with
    | deqEmpty _ h0 => exact .inl h0
    | deq spur _ =>
      rcases deqTry_cases cfg s with ⟨it, r, _, _, e⟩ | ⟨_, ⟨hc, _⟩ | ⟨_, e⟩⟩
      · rw [e] at hret; cases append_cancel_left hret
      · exact .inr hc
      · rw [e] at hret; exact absurd hret (ne_append_singleton _ _)
    | submit d _ =>
      obtain ⟨_, _, _, _, hrets⟩ := submitBody_frame s d
      rw [hrets] at hret; cases append_cancel_left hret
    | deqFast it r _ _ _ => cases append_cancel_left hret
    | destroy =>
      dsimp only at hret
      split at hret
      · cases append_cancel_left hret
      · exact absurd hret (ne_append_singleton _ _)
    | status | joinLast => cases append_cancel_left hret
    | callSubmit | deqSlow | callStatus | callDestroy | joinNext =>
      exact absurd hret (ne_append_singleton _ _)

/-- **A failure-free threaded pool refines the serial pool.**  If no callback fails then, under every schedule
(any number of workers, spurious wake-ups included), whenever the main thread is between two API calls — or has
returned from `destroy` — the values its calls have returned so far are exactly the values
`threadpool_serial.c` returns for the same sequence of calls. -/
theorem refines_serial {cfg : Cfg} {n : Nat} {s : State} (hok : ∀ d, cfg.rcOf d = 0) (hr : Reachable cfg n s)
    (hidle : s.main = .idle ∨ s.main = .finished) :
    s.rets = (Serial.run cfg.rcOf Serial.init s.calls).rets := by
  obtain ⟨cdone, h1, h2, _⟩ := invR_reachable hok hr
  have : (mainPending s.main).toList = [] := by
    rcases hidle with h | h <;> (rw [h]; rfl)
  rw [this, append_nil] at h1
  rw [h1, h2]

/-- … and while a call is in progress, for the calls that have returned -/
theorem refines_serial_prefix {cfg : Cfg} {n : Nat} {s : State} (hok : ∀ d, cfg.rcOf d = 0)
    (hr : Reachable cfg n s) :
    ∃ cdone, s.calls = cdone ++ (mainPending s.main).toList ∧
      s.rets = (Serial.run cfg.rcOf Serial.init cdone).rets := by
  obtain ⟨cdone, h1, h2, _⟩ := invR_reachable hok hr
  exact ⟨cdone, h1, h2.symm⟩

/-- instance: a `dequeue` call is pending (main waits on `done_cond`) -/
example := refines_serial_prefix (cfg := cfgOk) (fun _ => rfl) (run_reachable cfgOk 2 schW)

/-! ### beyond the base model: the per-worker user pointer, `set_worker_ptr`, `calloc` failure in `submit`

`Model/C09PoolX.lean` adds `pool->workers[i].user`, `set_worker_ptr`, the pointer `worker_proc` hands to the
callback and the allocation-failure return of `submit` on top of the base model.  `XReachable cfg n xs` = some
finite list of extended scheduler choices leads from `xinit n` to `xs`. -/

/-- **Extended executions are base executions.**  The base component of every state an extended execution
reaches is reachable in the base model — so every theorem above (`fifo`, `at_most_once`, `no_deadlock`, …) holds
of it, whatever `set_worker_ptr` calls and failed allocations are interleaved. -/
theorem x_projects {cfg : Cfg} {n : Nat} {xs : XState} (hr : XReachable cfg n xs) : Reachable cfg n xs.base :=
  xreachable_base hr

theorem xrun_reachable (cfg : Cfg) (n : Nat) (cs : List XChoice) : XReachable cfg n (xrun cfg (xinit n) cs) :=
  run_closed (fun _ => rfl) (fun xs c cs => by rw [xrun]; cases xstep cfg xs c <;> rfl) (fun _ c _ h hc => .step c h hc) cs _ .init

/-- **No two workers use the same per-worker context at the same time.**  Usage discipline (what the block
processor does, block_processor.c `set_worker_ptr(i, worker_i)` with one `worker_data_t` per worker): every
non-NULL pointer ever passed to `set_worker_ptr` belongs to one worker (`own p`).  Then in every state of every
execution — `set_worker_ptr` may be called at any time, also while callbacks run, any number of times — a
non-NULL context that one worker's running callback is using is not the context of any other worker's running
callback (two workers whose pointer was never set both use NULL).  (`ctxInUse xs i` is the pointer
worker `i` read from its own `user` field when it entered the callback it is in.) -/
theorem ctx_exclusive_users {cfg : Cfg} {n : Nat} {xs : XState} (own : Nat → Nat) (hr : XReachable cfg n xs)
    (hd : ∀ i p, XEvent.setPtr i p ∈ xs.log → p ≠ 0 → own p = i) (i j p q : Nat) (hij : i ≠ j)
    (hi : ctxInUse xs i = some p) (hj : ctxInUse xs j = some q) (hp : p ≠ 0) : p ≠ q := by
  intro hpq
  subst hpq
  -- both pointers were passed by logged `set_worker_ptr` calls, for `i` and for `j`
  exact hij ((hd i p (ctxInUse_logged hr hi hp) hp).symm.trans (hd j p (ctxInUse_logged hr hj hp) hp))

/-- instance with the usage discipline `hd` discharged from the literal log: pointers 11 and 33 belong to worker 0, 22 to
worker 1; worker 0 is re-pointed to 33 while its callback runs on 11 -/
example : (11 : Nat) ≠ 22 :=
  ctx_exclusive_users (cfg := cfgOk) (n := 2)
    (xs := xrun cfgOk (xinit 2) (xschP ++ [.base (.worker 0 false), .setPtr 0 33, .base (.worker 1 false),
      .base (.main (.cont false))]))
    (fun p => if p = 22 then 1 else 0) (xrun_reachable cfgOk 2 _)
    (by
      have hlog : (xrun cfgOk (xinit 2) (xschP ++ [.base (.worker 0 false), .setPtr 0 33, .base (.worker 1 false),
          .base (.main (.cont false))])).log = [.setPtr 0 11, .setPtr 1 22, .enter 0 11 5, .setPtr 0 33, .enter 1 22 6] := by
        decide
      intro i p h hp
      rw [hlog] at h
      simp at h
      rcases h with ⟨rfl, rfl⟩ | ⟨rfl, rfl⟩ | ⟨rfl, rfl⟩ <;> simp)
    0 1 11 22 (by decide) (by decide) (by decide) (by decide)

/-- a context is in use exactly while its worker is inside the callback, and it is the value the worker's
`user` field had when the callback was entered: entering the callback (the step in which worker `i` takes an
item from the queue) reads `users[i]`, logs the `enter` event with it, and leaves every other worker's context
alone -/
theorem ctx_read_at_entry {cfg : Cfg} {n : Nat} {xs xs' : XState} (hr : XReachable cfg n xs) (i : Nat) (spur : Bool)
    (it : Item) (hs : xstep cfg xs (.base (.worker i spur)) = some xs')
    (hold : ∀ it', xs.base.workers[i]? ≠ some (.working it'))
    (hnew : xs'.base.workers[i]? = some (.working it)) :
    ctxInUse xs' i = some (xs.users.getD i 0) ∧
    xs'.log = xs.log ++ [.enter i (xs.users.getD i 0) it.data] ∧
    xs'.users = xs.users ∧ ∀ j, j ≠ i → xs'.ctxAt[j]? = xs.ctxAt[j]? := by
  cases xstep_iff.1 hs with
  | leave _ _ _ it' _ hw => exact absurd hw (hold it')
  | worker _ _ _ _ _ hnw => exact absurd hnew (hnw it)
  | enter _ _ b' it2 hb _ hw2 =>
    have hi : i < xs.ctxAt.length := by
      rw [xreachable_ctxAt_length hr, ← workers_length_reachable (x_projects hr), ← step_length cfg (.worker i spur) hb]
      exact (List.getElem?_eq_some_iff.1 hw2).1
    cases hw2.symm.trans hnew
    refine ⟨?_, rfl, rfl, fun j hj => getElem?_set_ne (Ne.symm hj)⟩
    unfold ctxInUse
    simp only [hw2]
    exact getElem?_set_self hi

/-- instance: worker 0 (pointer 11 set before) takes item 5 from the queue and enters the callback with context 11 -/
example : ∃ xs', xstep cfgOk (xrun cfgOk (xinit 2) xschP) (.base (.worker 0 false)) = some xs' ∧
    ctxInUse xs' 0 = some 11 := by
  obtain ⟨xs', h⟩ := Option.isSome_iff_exists.1
    (show (xstep cfgOk (xrun cfgOk (xinit 2) xschP) (.base (.worker 0 false))).isSome = true by decide)
  have hw : ((xstep cfgOk (xrun cfgOk (xinit 2) xschP) (.base (.worker 0 false))).map
      (fun t => decide (t.base.workers[0]? = some (.working ⟨0, 5⟩)))) = some true := by decide
  rw [h] at hw
  simp only [Option.map_some, Option.some.injEq, decide_eq_true_eq] at hw
  have hw0 : (xrun cfgOk (xinit 2) xschP).base.workers[0]? = some .start := by decide
  have hu : (xrun cfgOk (xinit 2) xschP).users.getD 0 0 = 11 := by decide
  have := ctx_read_at_entry (xrun_reachable cfgOk 2 xschP) 0 false ⟨0, 5⟩ h (by intro it'; rw [hw0]; simp) hw
  rw [hu] at this
  exact ⟨xs', h, this.1⟩

/-- **`set_worker_ptr` returns at once and does not disturb a running callback**: at its lock the main thread is
always enabled; the step stores the pointer and changes nothing else — in particular not the context any running
callback is using. -/
theorem set_worker_ptr_returns (cfg : Cfg) (xs : XState) (i p : Nat) (h : xs.setPtr = some (i, p)) :
    ∃ xs', xstep cfg xs (.base (.main (.cont false))) = some xs' ∧ xs'.setPtr = none ∧
      xs'.users = xs.users.set i p ∧ xs'.base = xs.base ∧ xs'.log = xs.log ∧ ∀ w, ctxInUse xs' w = ctxInUse xs w := by
  exact ⟨_, xstep_iff.2 (.store i p h), rfl, rfl, rfl, rfl, fun w => rfl⟩

/-- **`submit` with a failing `calloc`**: if the `recycle` list is empty the call returns −1 (the `oom` event) and
nothing else changes — no ticket is consumed, nothing is enqueued, no thread is woken; if `recycle` is not empty
`calloc` is not called and the call is an ordinary `submit`. -/
theorem submit_oom (cfg : Cfg) (xs : XState) (d : Nat) (hm : xs.base.main = .idle) (hp : xs.setPtr = none) :
    (xs.base.recycle = 0 → xstep cfg xs (.submitOom d) = some { xs with log := xs.log ++ [.oom d] }) ∧
    (xs.base.recycle ≠ 0 → xstep cfg xs (.submitOom d) = xstep cfg xs (.base (.main (.call (.submit d))))) := by
  constructor
  · exact fun h0 => xstep_iff.2 (.oom d hm hp h0)
  · intro h0; simp [xstep, hm, hp, h0]

/-- **No dead-lock in the extended model** (repaired `dequeue`, at least one worker): whenever the main thread is
inside a call — `set_worker_ptr` included — some thread can take a strict step that is not a new API call. -/
theorem x_no_deadlock {cfg : Cfg} {n : Nat} {xs : XState} (hrep : cfg.repaired = true) (hn : 0 < n)
    (hr : XReachable cfg n xs) (hcall : xmainInCall xs = true) :
    ∃ bc xs', bc.strict = true ∧ (∀ op, bc ≠ .main (.call op)) ∧ xstep cfg xs (.base bc) = some xs' := by
  cases hsp : xs.setPtr with
  | some ip =>
    obtain ⟨i, p⟩ := ip
    obtain ⟨xs', h, _⟩ := set_worker_ptr_returns cfg xs i p hsp
    exact ⟨.main (.cont false), xs', rfl, nofun, h⟩
  | none =>
    have hb : mainInCall xs.base = true := by
      simpa [xmainInCall, hsp] using hcall
    obtain ⟨c, s', hc, hs⟩ := no_deadlock hrep hn (x_projects hr) hb
    obtain ⟨hstrict, hs⟩ := stepStrict_eq_some.1 hs
    obtain ⟨xs', hx, _⟩ := xstep_of_base cfg hsp hs
    exact ⟨c, xs', hstrict, hc, hx⟩

/-- instances: the main thread inside `set_worker_ptr`; and inside `dequeue` while both workers hold an item -/
example := x_no_deadlock (cfg := cfgOk) rfl (by decide) (xrun_reachable cfgOk 2 [.setPtr 0 11]) (by decide)
example := x_no_deadlock (cfg := cfgOk) rfl (by decide)
  (xrun_reachable cfgOk 2 (xschP ++ [.base (.worker 0 false), .base (.worker 1 false), .base (.main (.call .dequeue)),
    .base (.main (.cont false))])) (by decide)

/-- … as a statement about the `dl=` flag the driver and the harness print -/
theorem x_no_deadlock_flag {cfg : Cfg} {n : Nat} {xs : XState} (hrep : cfg.repaired = true) (hn : 0 < n)
    (hr : XReachable cfg n xs) : xisDeadlock xs = false := by
  cases hsp : xs.setPtr with
  | some ip => simp [xisDeadlock, xmainContEnabled, hsp]
  | none =>
    have := no_deadlock_flag hrep hn (x_projects hr)
    simpa [xisDeadlock, xmainInCall, xmainContEnabled, hsp, isDeadlock] using this

example := x_no_deadlock_flag (cfg := cfgOk) rfl (by decide) (xrun_reachable cfgOk 2 xschP)

/-! ### the granularity of the base model is sound: lock/unlock granularity refines it -/

/-- **Refinement.**  Every execution of the model at lock/unlock granularity (`Model/C09PoolFine.lean`: every step that
passes through the mutex split into lock granted / critical section / lock-free tail, with lock-free segments of other
threads interleaved anywhere, the tails' effects happening late) reaches only states whose abstraction `fabs` —
complete the main thread's pending tail, read a worker that has unlocked as being where its tail takes it — is reachable
in the base model.  So each base-model step is atomic *in effect*: nothing a thread does between its unlock and its next
blocking point can be observed by, or depends on, what other threads do meanwhile. -/
theorem fine_refines_coarse {cfg : Cfg} {n : Nat} {fs : FState} (hr : FReachable cfg n fs) :
    Reachable cfg n (fabs fs) := by
  induction hr with
  | init => rw [fabs_finit]; exact .init
  | step c hr' hs ih =>
    rcases fstep_sim cfg c (mx_reachable hr') hs with h | ⟨c', h⟩
    · rw [h]; exact ih
    · exact .step c' ih h

theorem frun_reachable (cfg : Cfg) (n : Nat) (cs : List Choice) : FReachable cfg n (frun cfg (finit n) cs) :=
  run_closed (fun _ => rfl) (fun fs c cs => by rw [frun]; cases fstep cfg fs c <;> rfl) (fun _ c _ h hc => .step c h hc) cs _ .init

/-- **Mutual exclusion** at fine granularity, for every pair of threads: while the main thread holds the mutex no
worker does, and two workers never hold it together (two worker slots in phase `locked` are the same slot). -/
theorem fine_mutex {cfg : Cfg} {n : Nat} {fs : FState} (hr : FReachable cfg n fs) :
    (fs.fm.isLocked = true → ∀ (j : Nat) (w : FW), fs.fw[j]? = some w → w.isLocked = false) ∧
    (∀ (j k : Nat) (w w' : FW), fs.fw[j]? = some w → fs.fw[k]? = some w' → w.isLocked = true → w'.isLocked = true →
      j = k) :=
  ⟨mx_reachable hr, mxw_reachable hr⟩

/-- instances: (1) the main thread holds the mutex inside `destroy` while worker 0 sleeps in `pthread_cond_wait`;
(2) worker 1 holds the mutex, worker 0 and the main thread (inside `submit`) are queued behind it — the lock is not
granted to either (their steps are disabled) -/
example :
    let fs := frun ⟨true, fun _ => 0⟩ (finit 1)
      [.worker 0 false, .worker 0 false, .main (.call .destroy), .main (.cont false)]
    fs.fm = .locked .destroy ∧ fs.fw = [.at (.waitQ false)] := by decide
example := (fine_mutex (frun_reachable ⟨true, fun _ => 0⟩ 1
    [.worker 0 false, .worker 0 false, .main (.call .destroy), .main (.cont false)])).1 (by decide) 0 _ rfl
example :
    let fs := frun ⟨true, fun _ => 0⟩ (finit 2) [.main (.call (.submit 3)), .worker 1 false, .worker 0 false, .main (.cont false)]
    fs.fm = .at (.submitLock 3) ∧ fs.fw = [.at .start, .locked .start] ∧
    fstep ⟨true, fun _ => 0⟩ fs (.worker 0 false) = none ∧ fstep ⟨true, fun _ => 0⟩ fs (.main (.cont false)) = none := by
  decide
example := (fine_mutex (frun_reachable ⟨true, fun _ => 0⟩ 2
    [.main (.call (.submit 3)), .worker 1 false, .worker 0 false, .main (.cont false)])).2 1 1 _ _ rfl rfl rfl rfl

/-- **Safety at fine granularity**, on the fine state's own history: FIFO, and no ticket's callback runs twice. -/
theorem fine_safety {cfg : Cfg} {n : Nat} {fs : FState} (hr : FReachable cfg n fs) :
    fs.returned <+: fs.submitted ∧ (fs.started.map (·.2.ticket)).Nodup := by
  have hR := fine_refines_coarse hr
  obtain ⟨hsub, hst, hret⟩ := fabs_history fs
  exact ⟨hret.trans (hsub ▸ fifo hR), hst ▸ (at_most_once hR).1⟩

example := fine_safety (frun_reachable cfgOk 1
  [.worker 0 false, .worker 0 false, .main (.call .destroy), .main (.cont false), .main (.cont false),
   .worker 0 false, .worker 0 false])

/-- **No dead-lock at fine granularity** (repaired `dequeue`, at least one worker, no spurious wake-ups needed): whenever the
main thread is inside an API call — at a blocking point, holding the mutex, or in a lock-free tail — some thread can take a
step that is not a new API call. -/
theorem fine_no_deadlock {cfg : Cfg} {n : Nat} {fs : FState} (hrep : cfg.repaired = true) (hn : 0 < n)
    (hr : FReachable cfg n fs) (hcall : fmainInCall fs = true) :
    ∃ c fs', c.strict = true ∧ (∀ op, c ≠ .main (.call op)) ∧ fstep cfg fs c = some fs' :=
  fine_progress cfg fs hcall fun pc hfm => no_deadlock_flag hrep hn (fabs_of_at fs pc hfm ▸ fine_refines_coarse hr)

/-- instance: the main thread holds the mutex inside `destroy` (worker 0 sleeps on `queue_cond`) -/
example := fine_no_deadlock (cfg := cfgOk) rfl (by decide)
  (frun_reachable cfgOk 1 [.worker 0 false, .worker 0 false, .main (.call .destroy), .main (.cont false)]) (by decide)

/-- a concrete execution (2 workers, items 7 and 9, worker 1 overtakes worker 0) that reaches a state where
everything submitted has been handed back — the hypothesis of `exactly_once` is satisfiable -/
example :
    let s := run ⟨true, fun _ => 0⟩ (init 2)
      [.main (.call (.submit 7)), .main (.cont false), .main (.call (.submit 9)), .main (.cont false),
       .worker 0 false, .worker 1 false, .worker 1 false, .worker 1 false, .worker 0 false, .worker 0 false,
       .main (.call .dequeue), .main (.cont false), .main (.call .dequeue), .main (.cont false)]
    s.returned = [7, 9] ∧ s.submitted = [7, 9] ∧ s.started.map (·.1) = [1, 0] := by decide

/-- the hypotheses of `failure_reported_dequeue` and `no_deadlock` are satisfiable: the D1 schedule on the
repaired pool reaches `deqLock` with status −5 and a ticket still queued; the next step returns NULL -/
example :
    let cfg : Cfg := ⟨true, fun d => if d = 0 then -5 else 0⟩
    let s := run cfg (init 1)
      [.main (.call (.submit 0)), .main (.cont false), .main (.call (.submit 1)), .main (.cont false),
       .worker 0 false, .worker 0 false, .worker 0 false,
       .main (.call .dequeue), .main (.cont false), .main (.call .dequeue)]
    s.main = .deqLock ∧ s.status = -5 ∧ s.queue = [⟨1, 1⟩] ∧ mainInCall s = true ∧
    ((step cfg s (.main (.cont false))).map (·.rets.getLast?)) = some (some (.deq none)) := by decide

/-- a state in which the main thread really waits unsignalled while a worker holds the awaited ticket
(the hypothesis `s.main = .deqWait false` of `no_lost_wakeup` is satisfiable) -/
example :
    let s := run ⟨true, fun _ => 0⟩ (init 2)
      [.main (.call (.submit 3)), .main (.cont false), .worker 1 false, .main (.call .dequeue), .main (.cont false)]
    s.main = .deqWait false ∧ s.nextDeq ∈ tkW s ∧ s.workers = [.start, .working ⟨0, 3⟩] := by decide

/-- `StaysInCall` is inhabited non-trivially: main waits in `dequeue` while worker 1 takes the item and runs the
callback (two steps inside the call) -/
example :
    let cfg : Cfg := ⟨true, fun _ => 0⟩
    let pre : List Choice := [.main (.call (.submit 3)), .main (.cont false), .main (.call .dequeue), .main (.cont false)]
    mainInCall (run cfg (init 2) pre) = true ∧
    StaysInCall cfg (run cfg (init 2) pre) [.worker 1 false, .worker 1 false]
      (run cfg (init 2) (pre ++ [.worker 1 false, .worker 1 false])) :=
  ⟨by decide,
   .cons (s1 := run ⟨true, fun _ => 0⟩ (init 2)
            [.main (.call (.submit 3)), .main (.cont false), .main (.call .dequeue), .main (.cont false), .worker 1 false])
     (by decide) (by decide) (.cons (by decide) (by decide) (.nil _))⟩

/-- `refines_serial` on a concrete out-of-order execution -/
example :
    let cfg : Cfg := ⟨true, fun _ => 0⟩
    let s := run cfg (init 2)
      [.main (.call (.submit 7)), .main (.cont false), .main (.call (.submit 9)), .main (.cont false),
       .worker 0 false, .worker 1 false, .worker 1 false, .worker 1 false, .worker 0 false, .worker 0 false,
       .main (.call .dequeue), .main (.cont false), .main (.call .getStatus), .main (.cont false)]
    s.main = .idle ∧ s.calls = [.submit 7, .submit 9, .dequeue, .getStatus] ∧
    s.rets = [.submit 0, .submit 0, .deq (some 7), .status 0] := by decide

/-- the hypotheses of `ctx_exclusive_users` are satisfiable non-trivially: two workers, pointers 11 and 22,
worker 0 is re-pointed to 33 *while its callback runs* — it keeps using 11, worker 1 uses 22 -/
example :
    let cfg : Cfg := ⟨true, fun _ => 0⟩
    let xs := xrun cfg (xinit 2)
      [.setPtr 0 11, .base (.main (.cont false)), .setPtr 1 22, .base (.main (.cont false)),
       .base (.main (.call (.submit 5))), .base (.main (.cont false)),
       .base (.main (.call (.submit 6))), .base (.main (.cont false)),
       .base (.worker 0 false), .setPtr 0 33, .base (.worker 1 false), .base (.main (.cont false))]
    ctxInUse xs 0 = some 11 ∧ ctxInUse xs 1 = some 22 ∧ xs.users = [33, 22] ∧
    xs.log = [.setPtr 0 11, .setPtr 1 22, .enter 0 11 5, .setPtr 0 33, .enter 1 22 6] := by decide

/-- `submit_oom`: first call on a fresh pool (empty `recycle`) fails and leaves the pool untouched -/
example :
    let cfg : Cfg := ⟨true, fun _ => 0⟩
    let xs := xrun cfg (xinit 1) [.submitOom 4]
    xs.base = init 1 ∧ xs.log = [.oom 4] := by decide

/-- a fine execution in which main's `destroy` tail is still pending while a worker, woken by the broadcast, already
re-checks the status: 1 worker; `destroy` call, lock granted, critical section (status −1, broadcast, unlock); then the
worker wakes, takes the lock and leaves its loop *before* the main thread has run the tail that brings it to
`pthread_join` — the hypotheses of `fine_refines_coarse` cover schedules the base model's granularity cannot express -/
example :
    let cfg : Cfg := ⟨true, fun _ => 0⟩
    let fs := frun cfg (finit 1)
      [.worker 0 false, .worker 0 false,                                  -- lock granted, queue empty: cond_wait
       .main (.call .destroy), .main (.cont false), .main (.cont false),  -- call, lock granted, critical section
       .worker 0 false, .worker 0 false]                                  -- woken: lock granted, critical section
    fs.fm = .unlocked .destroy ∧ fs.fw = [.unlocked none] ∧ fs.status = -1 ∧
    (fabs fs).main = .join 0 ∧ (fabs fs).workers = [.exited] := by decide

end Sqfs.C09
