import Sqfs.Proofs.MemPool
/-!
Property theorems about `lib/util/src/mempool.c` (model `Sqfs/Model/MemPool.lean`; tied to the working tree by
`tools/checks/mempool_units.py` inside the C19 check).  `Inv p e live` (Sqfs/Proofs/MemPool.lean) is the consistency of a
pool with the list of objects handed out and not yet returned.
-/
namespace Sqfs.MemPool

theorem BlockWf.congr {p p' : Pool} {x : Block} (w : BlockWf p x) (h1 : p'.objSize = p.objSize) (h2 : p'.bitmapCount = p.bitmapCount) :
    BlockWf p' x :=
  ⟨by rw [h2]; exact w.len, w.free, by rw [h1, h2]; exact w.lim, by rw [h2]; exact w.hdr, by rw [h1]; exact w.align, by rw [h1, h2]; exact w.doff⟩

/-- setting the (clear) bit `k` of block `b`: the invariant holds with the slot's address added, and that address was not live -/
theorem inv_set {p : Pool} {e : Env} {live : List (Nat × Nat)} {pre post : List Block} {b b' : Block} {k : Nat}
    (h : Inv p e live) (hb : p.blocks = pre ++ b :: post) (t : Taken p b b' k) :
    Inv { p with blocks := pre ++ b' :: post } e (slotAddr p.objSize b k :: live) ∧ slotAddr p.objSize b k ∉ live := by
  have hnot : slotAddr p.objSize b k ∉ live := fun hin => by
    have := liveIn_slot h.ids h.osz (hb ▸ List.mem_append_right _ List.mem_cons_self) ((h.live_iff _).mp hin)
    rw [t.clr] at this; cases this
  refine ⟨h.replace hb t.id t.wf (fun a => ?_) (List.nodup_cons.mpr ⟨hnot, h.nodup⟩), hnot⟩
  rw [liveIn_set (p := p) (p' := { p with blocks := pre ++ b' :: post }) rfl rfl hb rfl t.id t.dataOff t.lt t.bits, List.mem_cons,
    h.live_iff a]

/-- clearing the (set) bit `k` of block `b` -/
theorem inv_clear {p : Pool} {e : Env} {live : List (Nat × Nat)} {pre post : List Block} {b b' : Block} {k : Nat}
    (h : Inv p e live) (hb : p.blocks = pre ++ b :: post) (hid : b'.id = b.id) (hd : b'.dataOff = b.dataOff)
    (hk : k < 32 * p.bitmapCount) (hwf : BlockWf p b')
    (hbits : ∀ k', bitAt b'.bitmap k' = if k' = k then false else bitAt b.bitmap k') (hold : bitAt b.bitmap k = true) :
    Inv { p with blocks := pre ++ b' :: post } e (live.erase (slotAddr p.objSize b k)) := by
  refine h.replace hb hid hwf (fun a => ?_) (h.nodup.erase _)
  rw [liveIn_clear h.osz h.ids hb hid hd hk hbits hold, h.nodup.mem_erase_iff, h.live_iff a]

theorem padTo_spec (x : Nat) {o : Nat} (ho : 0 < o) : padTo x o < o ∧ (x + padTo x o) % o = 0 :=
  ⟨padTo_lt x ho, add_padTo_mod x ho⟩

/-- `create_pool` puts the data area exactly where `pool_size_from_bitmap_count` budgets it, whatever address mmap returned -/
theorem createPool_dataOff (p : Pool) (ho : 0 < p.objSize) (id base : Nat) :
    (createPool p id base).dataOff = HDR + 4 * p.bitmapCount + padTo (HDR + 4 * p.bitmapCount) p.objSize :=
  padTo_eq _ ho

/-- the block `create_pool` makes is well formed and has no set bit -/
theorem createPool_wf {p : Pool} (ho : 0 < p.objSize) (hc : p.bitmapCount ≤ 16384) (id base : Nat) :
    BlockWf p (createPool p id base) ∧ (∀ k, bitAt (createPool p id base).bitmap k = false) ∧
    (createPool p id base).objFree = 32 * p.bitmapCount ∧ (createPool p id base).id = id := by
  have hfree : (createPool p id base).objFree = 32 * p.bitmapCount := by
    show w64 (w64 (p.bitmapCount * 4) * 8) = _
    rw [Nat.mul_comm _ 4, w64_small (Nat.lt_of_le_of_lt (Nat.mul_le_mul_left 4 hc) (by decide)), Nat.mul_right_comm 4 _ 8]
    exact w64_small (Nat.lt_of_le_of_lt (Nat.mul_le_mul_left 32 hc) (by decide))
  have hdoff := createPool_dataOff p ho id base
  have hlim : (createPool p id base).limitOff =
      (createPool p id base).dataOff + (createPool p id base).objFree * p.objSize - 1 := rfl
  refine ⟨⟨List.length_replicate, ?_, ?_, ?_, ?_, hdoff⟩, bitAt_replicate_zero _, hfree, rfl⟩
  · rw [hfree]; exact (clearBits_replicate _).symm
  · rw [hlim, hfree, hdoff]
    exact Nat.sub_add_cancel (Nat.le_trans (by decide : 1 ≤ HDR) (Nat.le_trans (Nat.le_add_right _ _) (Nat.le_trans (Nat.le_add_right _ _) (Nat.le_add_right _ _))))
  · rw [hdoff]; exact Nat.le_add_right _ _
  · rw [hdoff]; exact add_padTo_mod _ ho

/-- linking a fresh block (no bit set) into the pool keeps the invariant -/
theorem inv_link {p : Pool} {e : Env} {live : List (Nat × Nat)} (h : Inv p e live) (base : Nat) (q : List (Option Nat)) :
    Inv { p with blocks := createPool p e.nextId base :: p.blocks } ⟨q, e.nextId + 1⟩ live := by
  obtain ⟨hwf, hclr, _, hid⟩ := createPool_wf h.osz h.cnt e.nextId base
  refine ⟨h.osz, h.cnt, ?_, ?_, ?_, ?_, h.nodup⟩
  · intro x hx
    rcases List.mem_cons.mp hx with rfl | hx
    · exact hwf.congr rfl rfl
    · exact (h.wf x hx).congr rfl rfl
  · exact ids_cons.mpr ⟨fun x hx => hid ▸ Nat.ne_of_gt (h.fresh x hx), h.ids⟩
  · intro x hx
    rcases List.mem_cons.mp hx with rfl | hx
    · exact hid ▸ Nat.lt_succ_self _
    · exact Nat.lt_succ_of_lt (h.fresh x hx)
  · intro a
    rw [h.live_iff a]
    constructor
    · rintro ⟨b, hb, rest⟩; exact ⟨b, List.mem_cons_of_mem _ hb, rest⟩
    · rintro ⟨b, hb, k, hk, hbit, ha⟩
      rcases List.mem_cons.mp hb with rfl | hb
      · rw [hclr] at hbit; cases hbit
      · exact ⟨b, hb, k, hk, hbit, ha⟩

/-- One call of `mem_pool_allocate` from a consistent state, whatever the fuel: an object is handed out that was not live, lies
in the data area of a block of the pool, aligned; or NULL with the invariant intact; or the fuel ran out, which needs a fuel not above the number of pending mmap answers. -/
theorem alloc_step : ∀ (fuel : Nat) {p : Pool} {e : Env} {live : List (Nat × Nat)}, Inv p e live →
    match allocate fuel p e with
    | (.ptr bid off, p', e') => Inv p' e' ((bid, off) :: live) ∧ (bid, off) ∉ live ∧
        ∃ b ∈ p'.blocks, b.id = bid ∧ b.dataOff ≤ off ∧ off + p.objSize ≤ b.limitOff + 1 ∧ (off - b.dataOff) % p.objSize = 0 ∧
          HDR + 4 * p.bitmapCount ≤ off ∧ off % p.objSize = 0
    | (.null, p', e') => Inv p' e' live ∧ (0 < p.bitmapCount → p' = p)
    | (.fuel, _, _) => fuel ≤ e.q.length := by
  intro fuel
  induction fuel with
  | zero => exact fun _ => Nat.zero_le _
  | succ fuel ih =>
    intro p e live h
    unfold allocate
    have hw := walk_spec h.cnt p.blocks h.wf
    revert hw
    cases walk p.objSize p.blocks with
    | got bid off bs =>
      rintro ⟨pre, b, post, b', k, e1, rfl, rfl, rfl, t⟩
      have := inv_set h e1 t
      exact ⟨this.1, this.2, b', List.mem_append_right _ List.mem_cons_self, t.slot⟩
    | stale bs => exact False.elim
    | none =>
      intro _
      dsimp only
      cases hq : e.q with
      | nil => exact ⟨h, fun _ => rfl⟩
      | cons x q =>
        cases x with
        | none => exact ⟨h.env rfl, fun _ => rfl⟩
        | some base =>
          dsimp only
          have hlink := inv_link h base q
          obtain ⟨hwf, hclr, hfree, hid⟩ := createPool_wf h.osz h.cnt e.nextId base
          by_cases hc0 : 0 < p.bitmapCount
          · obtain ⟨k, b', ht, t⟩ := takeSlot_spec hwf (hfree ▸ Nat.mul_pos (by decide) hc0) h.cnt
            rw [ht]
            dsimp only
            have := inv_set (pre := []) (post := p.blocks) hlink rfl ⟨t.lt, t.clr, t.id, t.dataOff, t.wf.congr rfl rfl, t.bits⟩
            exact ⟨this.1, this.2, b', List.mem_cons_self, t.slot⟩
          · -- a pool without bitmap words: the fresh block has no object to give, the loop goes round
            have hz : p.bitmapCount = 0 := Nat.eq_zero_of_not_pos hc0
            have hts : takeSlot p.objSize (createPool p e.nextId base) = none := by
              simp [takeSlot, createPool, hz, scanWords]
            have hsame : ({ createPool p e.nextId base with objFree := 0 } : Block) = createPool p e.nextId base := by
              simp [createPool, hz, w64]
            rw [hts]
            dsimp only
            rw [hsame]
            have ih := ih hlink
            revert ih
            generalize allocate fuel _ _ = r
            obtain ⟨r1, p', e'⟩ := r
            cases r1 with
            | ptr bid off => exact id
            | null => exact fun ih => ⟨ih.1, fun h0 => absurd h0 hc0⟩
            | fuel => exact fun ih => Nat.succ_le_succ ih

/-- (a) every object handed out lies in the data area `[data, limit]` of a block of the pool (behind header and bitmap),
at a multiple of `obj_size` from `data` and from the start of the block -/
theorem alloc_in_bounds {fuel : Nat} {p p' : Pool} {e e' : Env} {live : List (Nat × Nat)} {bid off : Nat} (h : Inv p e live)
    (ha : allocate fuel p e = (.ptr bid off, p', e')) :
    ∃ b ∈ p'.blocks, b.id = bid ∧ b.dataOff ≤ off ∧ off + p.objSize ≤ b.limitOff + 1 ∧ (off - b.dataOff) % p.objSize = 0 ∧
      HDR + 4 * p.bitmapCount ≤ off ∧ off % p.objSize = 0 := by
  have := alloc_step fuel h
  rw [ha] at this
  exact this.2.2

/-- (d) `mem_pool_allocate` never hands out a live object, and the state stays consistent with the object added -/
theorem alloc_fresh {fuel : Nat} {p p' : Pool} {e e' : Env} {live : List (Nat × Nat)} {bid off : Nat} (h : Inv p e live)
    (ha : allocate fuel p e = (.ptr bid off, p', e')) : (bid, off) ∉ live ∧ Inv p' e' ((bid, off) :: live) := by
  have := alloc_step fuel h
  rw [ha] at this
  exact ⟨this.2.1, this.1⟩

/-- a failed `mem_pool_allocate` (mmap failed) leaves a pool with `bitmap_count > 0` exactly as it was -/
theorem null_unchanged {fuel : Nat} {p p' : Pool} {e e' : Env} {live : List (Nat × Nat)} (h : Inv p e live)
    (hc : 0 < p.bitmapCount) (ha : allocate fuel p e = (.null, p', e')) : p' = p ∧ Inv p' e' live := by
  have := alloc_step fuel h
  rw [ha] at this
  exact ⟨this.2 hc, this.1⟩

/-- (b) two live objects never overlap -/
theorem live_disjoint {p : Pool} {e : Env} {live : List (Nat × Nat)} (h : Inv p e live) {a₁ a₂ : Nat × Nat}
    (h1 : a₁ ∈ live) (h2 : a₂ ∈ live) (hne : a₁ ≠ a₂) :
    a₁.1 ≠ a₂.1 ∨ a₁.2 + p.objSize ≤ a₂.2 ∨ a₂.2 + p.objSize ≤ a₁.2 := by
  obtain ⟨b1, hb1, k1, _, _, rfl⟩ := (h.live_iff _).mp h1
  obtain ⟨b2, hb2, k2, _, _, rfl⟩ := (h.live_iff _).mp h2
  by_cases hid : b1.id = b2.id
  · right
    have := List.inj_of_nodup_map h.ids hb1 hb2 hid
    subst this
    simp only [slotAddr]
    have hk : k1 ≠ k2 := fun hk => hne (by rw [hk])
    exact (Nat.lt_or_gt_of_ne hk).imp (slot_step _) (slot_step _)
  · left; exact hid

/-- (c) the bitmap bit of a live object is set, that of every other slot is clear, and `obj_free` is the number of clear bits -/
theorem bitmap_exact {p : Pool} {e : Env} {live : List (Nat × Nat)} (h : Inv p e live) {b : Block} (hb : b ∈ p.blocks) :
    (∀ k, k < 32 * p.bitmapCount → (slotAddr p.objSize b k ∈ live ↔ bitAt b.bitmap k = true)) ∧
    b.objFree = clearBits b.bitmap ∧ b.bitmap.length = p.bitmapCount := by
  refine ⟨fun k hk => ?_, (h.wf b hb).free, (h.wf b hb).len⟩
  rw [h.live_iff]
  exact ⟨liveIn_slot h.ids h.osz hb, fun hbit => ⟨b, hb, k, hk, hbit, rfl⟩⟩

/-- (f) `mem_pool_free` of a pointer that lies in no block's `[data, limit)` is detected (`assert(it != NULL)`) -/
theorem free_outside_detected {p : Pool} {bid off : Nat}
    (h : ∀ b ∈ p.blocks, ¬ (b.id = bid ∧ b.dataOff ≤ off ∧ off < b.limitOff)) : free p bid off = .error .noBlock := by
  unfold free
  rw [locate_none.mpr h]

/-- a pool without blocks (what `mem_pool_create` returns) is consistent with "nothing handed out" -/
theorem inv_empty {p : Pool} (e : Env) (ho : 0 < p.objSize) (hc : p.bitmapCount ≤ 16384) (hb : p.blocks = []) : Inv p e [] := by
  refine ⟨ho, hc, by simp [hb], by simp [hb], by simp [hb], ?_, List.nodup_nil⟩
  intro a
  simp only [List.not_mem_nil, false_iff]
  rintro ⟨b, hb', _⟩
  simp [hb] at hb'

/-- `mem_pool_free` of a live object succeeds (no assertion) and keeps the invariant with the object removed -/
theorem free_step {p : Pool} {e : Env} {live : List (Nat × Nat)} (h : Inv p e live) (h2 : 2 ≤ p.objSize) {a : Nat × Nat}
    (ha : a ∈ live) : ∃ p', free p a.1 a.2 = .ok p' ∧ Inv p' e (live.erase a) := by
  obtain ⟨b, hb, k, hk, hbit, rfl⟩ := (h.live_iff _).mp ha
  obtain ⟨pre, post, b', hdec, hf, hid, hd, hwf, hbits⟩ := free_spec h2 h.cnt h.ids hb (h.wf b hb) hk hbit
  exact ⟨_, hf, inv_clear h hdec hid hd hk hwf hbits hbit⟩

theorem allocate_objSize (fuel : Nat) (p : Pool) (e : Env) : (allocate fuel p e).2.1.objSize = p.objSize :=
  allocate_frame (·.objSize) (fun _ _ => rfl) fuel p e

theorem allocate_bitmapCount (fuel : Nat) (p : Pool) (e : Env) : (allocate fuel p e).2.1.bitmapCount = p.bitmapCount :=
  allocate_frame (·.bitmapCount) (fun _ _ => rfl) fuel p e

theorem free_objSize {p p' : Pool} {bid off : Nat} (h : free p bid off = .ok p') : p'.objSize = p.objSize := by
  revert h
  fun_cases free p bid off <;> intro h <;> cases h
  rfl

/-- Every history of `mem_pool_allocate` / `mem_pool_free` calls that respects the API (free only what was handed out and not yet
freed), from any consistent state - in particular from a fresh pool (`inv_empty`) -, keeps the pool consistent with the list of
live objects: (a)-(d) (`alloc_in_bounds`, `live_disjoint`, `bitmap_exact`, `alloc_fresh`) hold at every point of it, and no
`mem_pool_free` of a live object runs into an assertion. -/
theorem history_inv : ∀ (ops : List Op) {p p' : Pool} {e e' : Env} {live live' : List (Nat × Nat)}, Inv p e live → 2 ≤ p.objSize →
    runOps p e live ops = some (p', e', live') → Inv p' e' live' := by
  intro ops
  induction ops with
  | nil =>
    intro p p' e e' live live' h _ hr
    simp only [runOps, Option.some.injEq, Prod.mk.injEq] at hr
    obtain ⟨rfl, rfl, rfl⟩ := hr; exact h
  | cons op ops ih =>
    intro p p' e e' live live' h h2 hr
    cases op with
    | alloc =>
      unfold runOps at hr
      have hs := alloc_step (allocFuel p e) h
      have ho := allocate_objSize (allocFuel p e) p e
      revert hs ho hr
      generalize allocate (allocFuel p e) p e = r
      obtain ⟨r1, p1, e1⟩ := r
      cases r1 with
      | ptr bid off => exact fun hr hs ho => ih hs.1 (ho ▸ h2) hr
      | null => exact fun hr hs ho => ih hs.1 (ho ▸ h2) hr
      | fuel => exact fun hr _ _ => by simp at hr
    | free a =>
      unfold runOps at hr
      by_cases ha : a ∈ live
      · obtain ⟨p1, hf, hinv⟩ := free_step h h2 ha
        simp only [ha, if_true, hf] at hr
        exact ih hinv (by rw [free_objSize hf]; exact h2) hr
      · simp [ha] at hr

/-- the fuel `allocFuel` the histories (and the driver) use always suffices -/
theorem allocate_fuel_enough {p : Pool} {e : Env} {live : List (Nat × Nat)} (h : Inv p e live) :
    (allocate (allocFuel p e) p e).1 ≠ .fuel := by
  have hs := alloc_step (allocFuel p e) h
  revert hs
  generalize allocate (allocFuel p e) p e = r
  obtain ⟨r1, p1, e1⟩ := r
  cases r1 with
  | ptr bid off => exact fun _ => by simp
  | null => exact fun _ => by simp
  | fuel => exact fun hs => by simp only [allocFuel] at hs; omega

/-- (e) the size arithmetic of `pool_size_from_bitmap_count` in closed form (no `size_t` wrap-around for obj_size < 2^32 and the
counts `mem_pool_create` can reach): header | `count` bitmap words | padding `< obj_size` up to a multiple of `obj_size` |
`32 * count` objects - bitmap and data do not overlap and the objects fit exactly -/
theorem size_layout {c o : Nat} (ho : 0 < o) (ho2 : o < 4294967296) (hc : c ≤ 16400) :
    poolSizeFromBitmapCount c o = some (HDR + 4 * c + padTo (HDR + 4 * c) o + 32 * c * o) := by
  have hpad := padTo_lt (HDR + 4 * c) ho
  have hco : 32 * c * o ≤ 32 * 16400 * 4294967296 := Nat.mul_le_mul (Nat.mul_le_mul_left 32 hc) (Nat.le_of_lt ho2)
  have hH : HDR = 40 := rfl
  have h32 : 4 * c * 8 = 32 * c := Nat.mul_right_comm 4 c 8
  -- nothing wraps: bitmap bytes, bitmap bits, header + bitmap with its padding, the objects, the total
  have ⟨b1, b2, b3, b4, b5⟩ : 4 * c < 18446744073709551616 ∧ 32 * c < 18446744073709551616 ∧ HDR + 4 * c + o ≤ 18446744073709551616 ∧
      32 * c * o < 18446744073709551616 ∧ HDR + 4 * c + padTo (HDR + 4 * c) o + 32 * c * o < 18446744073709551616 := by omega
  unfold poolSizeFromBitmapCount
  simp only [if_neg (Nat.ne_of_gt ho), show ¬ HDR % 4 ≠ 0 by decide, if_false, Nat.mul_comm c 4, w64_small b1, h32, w64_small b2,
    w64_small (Nat.lt_of_lt_of_le (Nat.lt_add_of_pos_right ho) b3), w64_pad _ ho b3, w64_small b4, w64_small b5]

/-- the `for (;;)` of `mem_pool_create`: the count it stops at is the first whose total exceeds `DEF_POOL_SIZE` -/
theorem searchCount_spec {o : Nat} : ∀ (fuel c0 c : Nat), searchCount o fuel c0 = some c → c0 + fuel < 18446744073709551616 →
    c0 ≤ c ∧ c < c0 + fuel ∧ (∃ t, poolSizeFromBitmapCount c o = some t ∧ t > DEF_POOL_SIZE) ∧
    (∀ c', c0 ≤ c' → c' < c → ∃ t, poolSizeFromBitmapCount c' o = some t ∧ t ≤ DEF_POOL_SIZE) := by
  intro fuel c0 c h hb
  fun_induction searchCount o fuel c0 with
  | case1 => cases h
  | case2 => cases h
  | case3 fuel c0 total ht hgt =>
    cases h
    exact ⟨Nat.le_refl _, Nat.lt_add_of_pos_right (Nat.succ_pos _), ⟨total, ht, hgt⟩, fun c' h1 h2 => absurd h2 (Nat.not_lt.mpr h1)⟩
  | case4 fuel c0 total ht hle ih =>
    have e : c0 + 1 + fuel = c0 + (fuel + 1) := by rw [Nat.add_assoc, Nat.add_comm 1]
    rw [w64_small (Nat.lt_of_le_of_lt (Nat.add_le_add_left (Nat.le_add_left 1 fuel) c0) hb)] at h ih
    obtain ⟨h1, h2, h3, h4⟩ := ih h (e ▸ hb)
    refine ⟨Nat.le_of_succ_le h1, e ▸ h2, h3, fun c' hc1 hc2 => ?_⟩
    by_cases hc : c' = c0
    · subst hc; exact ⟨total, ht, Nat.not_lt.mp hle⟩
    · exact h4 c' (Nat.lt_of_le_of_ne hc1 (Ne.symm hc)) hc2

/-- What `mem_pool_create(n)` returns, for every `n` it accepts (`n ≥ 1`; sizes below 2^32 - 8, where no `size_t` arithmetic
wraps): obj_size is `n` rounded up to `MEM_ALIGN`; there is AT LEAST ONE bitmap word (before the repair: 0 for obj_size > 1984);
header, bitmap, padding and the `32 * bitmap_count` objects fit into `pool_size` -/
theorem create_spec {n : Nat} {p : Pool} (hn : n + 8 ≤ 4294967296) (h : create n = .ok p) :
    8 ≤ p.objSize ∧ p.objSize % 8 = 0 ∧ n ≤ p.objSize ∧ p.objSize < n + 8 ∧ 1 ≤ p.bitmapCount ∧ p.bitmapCount ≤ 16384 ∧ p.blocks = [] ∧
    HDR + 4 * p.bitmapCount + padTo (HDR + 4 * p.bitmapCount) p.objSize + 32 * p.bitmapCount * p.objSize ≤ p.poolSize := by
  obtain ⟨hmod, hle, hlt⟩ := alignUp_spec (Nat.le_trans hn (by decide))
  unfold create at h
  simp only [Bool.not_true, Bool.false_eq_true, if_false] at h
  generalize alignUp n = o at h hmod hle hlt
  unfold createSized at h
  by_cases ho0 : o = 0
  · rw [if_pos ho0] at h; cases h
  rw [if_neg ho0] at h
  have hpos : 0 < o := Nat.pos_of_ne_zero ho0
  have ho8 : 8 ≤ o := Nat.le_of_dvd hpos (Nat.dvd_of_mod_eq_zero hmod)
  have ho32 : o < 4294967296 := Nat.lt_of_lt_of_le hlt hn
  cases hs : searchCount o SEARCH_FUEL 1 with
  | none => rw [hs] at h; cases h
  | some count =>
    rw [hs] at h
    obtain ⟨h1, h2, _, h4⟩ := searchCount_spec SEARCH_FUEL 1 count hs (by decide)
    have hcnt : count ≤ 16400 := Nat.le_of_lt_succ (Nat.lt_of_lt_of_eq h2 (Nat.add_comm 1 SEARCH_FUEL))
    dsimp only at h
    rw [w64_pred h1 (Nat.lt_of_le_of_lt hcnt (by decide))] at h
    clear hs h2
    by_cases hc1 : count - 1 = 0
    · rw [if_pos hc1, size_layout hpos ho32 (by decide)] at h
      cases h
      exact ⟨ho8, hmod, hle, hlt, Nat.le_refl _, (by decide : 1 ≤ 16384), rfl, Nat.le_refl _⟩
    · rw [if_neg hc1] at h
      cases h
      obtain ⟨t, ht, hfit⟩ := h4 (count - 1) (Nat.pos_of_ne_zero hc1) (Nat.sub_lt h1 Nat.one_pos)
      rw [size_layout hpos ho32 (Nat.le_trans (Nat.sub_le _ _) hcnt)] at ht
      cases ht
      -- the bitmap alone must fit into `DEF_POOL_SIZE`
      have hb : 4 * (count - 1) ≤ 4 * 16384 :=
        Nat.le_trans (Nat.le_trans (Nat.le_add_left _ _) (Nat.le_trans (Nat.le_add_right _ _) (Nat.le_add_right _ _))) hfit
      exact ⟨ho8, hmod, hle, hlt, Nat.pos_of_ne_zero hc1, Nat.le_of_mul_le_mul_left hb (by decide), rfl, hfit⟩

/-- positive counterpart of `witness_bitmap_count_zero`: every pool `mem_pool_create` returns has at least one bitmap word -/
theorem create_count_pos {n : Nat} {p : Pool} (hn : n + 8 ≤ 4294967296) (h : create n = .ok p) : 1 ≤ p.bitmapCount :=
  (create_spec hn h).2.2.2.2.1

/-- the pool `mem_pool_create` returns is consistent with "nothing handed out" -/
theorem create_inv {n : Nat} {p : Pool} (hn : n + 8 ≤ 4294967296) (h : create n = .ok p) (e : Env) : Inv p e [] ∧ 2 ≤ p.objSize := by
  obtain ⟨h1, _, _, _, _, h6, h7, _⟩ := create_spec hn h
  exact ⟨inv_empty e (Nat.lt_of_lt_of_le (by decide) h1) h6 h7, Nat.le_trans (by decide) h1⟩

/-- positive counterpart of `witness_data_area_overrun`: for EVERY address mmap returns, the block `create_pool` lays out has its
data area behind header and bitmap and ending inside the `pool_size` bytes that were mapped -/
theorem data_inside_mapping {n : Nat} {p : Pool} (hn : n + 8 ≤ 4294967296) (h : create n = .ok p) (id base : Nat) :
    HDR + 4 * p.bitmapCount ≤ (createPool p id base).dataOff ∧
    (createPool p id base).dataOff + 32 * p.bitmapCount * p.objSize ≤ p.poolSize := by
  obtain ⟨h1, _, _, _, _, _, _, h8⟩ := create_spec hn h
  rw [createPool_dataOff p (Nat.lt_of_lt_of_le (by decide) h1)]
  exact ⟨Nat.le_add_right _ _, h8⟩

/-- every object handed out in a consistent pool whose layout fits `pool_size` (as `create_spec` establishes; the three
parameters never change) ends inside the mapped block -/
theorem alloc_inside_mapping {fuel : Nat} {p p' : Pool} {e e' : Env} {live : List (Nat × Nat)} {bid off : Nat} (h : Inv p e live)
    (hfit : HDR + 4 * p.bitmapCount + padTo (HDR + 4 * p.bitmapCount) p.objSize + 32 * p.bitmapCount * p.objSize ≤ p.poolSize)
    (ha : allocate fuel p e = (.ptr bid off, p', e')) : off + p.objSize ≤ p.poolSize := by
  have hs := alloc_step fuel h
  rw [ha] at hs
  obtain ⟨hinv, _, b, hb, _, _, hlim, _⟩ := hs
  have hwf := hinv.wf b hb
  have e1 : p'.objSize = p.objSize := by have := allocate_objSize fuel p e; rwa [ha] at this
  have e2 : p'.bitmapCount = p.bitmapCount := by have := allocate_bitmapCount fuel p e; rwa [ha] at this
  refine Nat.le_trans hlim ?_
  rw [hwf.lim, hwf.doff, e1, e2]
  exact hfit

/-- positive counterpart of `witness_bitmap_count_zero`, second half: with at least one bitmap word an allocation succeeds
whenever mmap has an address to give (NULL only when mmap fails) -/
theorem alloc_succeeds {fuel : Nat} {p : Pool} {e : Env} {live : List (Nat × Nat)} {base : Nat} {q : List (Option Nat)}
    (h : Inv p e live) (hc : 1 ≤ p.bitmapCount) (hq : e.q = some base :: q) :
    ∃ bid off, (allocate (fuel + 1) p e).1 = .ptr bid off := by
  unfold allocate
  have hw := walk_spec h.cnt p.blocks h.wf
  cases hwk : walk p.objSize p.blocks with
  | got bid off bs => exact ⟨bid, off, rfl⟩
  | stale bs => rw [hwk] at hw; exact hw.elim
  | none =>
    simp only [hq]
    obtain ⟨hwf, _, hfree, _⟩ := createPool_wf h.osz h.cnt e.nextId base
    obtain ⟨k, b', ht, _⟩ := takeSlot_spec hwf (hfree ▸ Nat.mul_pos (by decide) hc) h.cnt
    rw [ht]
    exact ⟨_, _, rfl⟩

/-! ### instances (the hypotheses are satisfiable, the functions compute) -/

/-- `mem_pool_create(33)` as the real code answers it: obj_size 40, 50 bitmap words -/
def exPool : Pool := ⟨40, 65536, 50, []⟩
def exEnv : Env := ⟨[some 35184372092928, none], 0⟩

example : create 33 = .ok exPool := by decide
example : Inv exPool exEnv [] := inv_empty _ (by decide) (by decide) rfl
/-- first allocation: block 0 is mapped, the object is slot 0 at offset 240 (= data: header 40 + bitmap 200, a multiple of 40) -/
example : (allocate 3 exPool exEnv).1 = .ptr 0 240 := by decide
/-- alloc, alloc, free of the first, alloc: the freed slot is handed out again (d: "may reuse") -/
example : (match allocate 3 exPool exEnv with
    | (_, p1, e1) => match allocate 3 p1 e1 with
      | (_, p2, e2) => match free p2 0 240 with
        | .ok p3 => (allocate 3 p3 e2).1
        | .error _ => .null) = .ptr 0 240 := by decide
/-- double free and a pointer outside every block are detected -/
example : (match allocate 3 exPool exEnv with
    | (_, p1, _) => match free p1 0 240 with
      | .ok p2 => (match free p2 0 240 with | .error x => some x | .ok _ => none, match free p2 1 240 with | .error x => some x | .ok _ => none,
                   match free p2 0 241 with | .error x => some x | .ok _ => none)
      | .error _ => (none, none, none)) = (some .notAllocated, some .noBlock, some .misaligned) := by decide
/-- a history that respects the API runs to its end (so `history_inv` is not vacuous): two objects, the first freed, handed out again -/
example : (runOps exPool exEnv [] [.alloc, .alloc, .free (0, 240), .alloc, .free (0, 280)]).map (fun r => r.2.2) = some [(0, 240)] := by decide
/-- an mmap failure: NULL, pool unchanged -/
example : allocate 3 exPool ⟨[none], 0⟩ = (.null, exPool, ⟨[], 0⟩) := by decide

/-! ### the code BEFORE the repair `fixes/C19-mempool-latent.patch` violated three intended properties (former known findings of C19) -/

/-- before: obj_size 2048 gave `bitmap_count` 0, and on such a pool `mem_pool_allocate` (unchanged by the repair) maps every block
mmap will give and returns NULL -/
theorem witness_bitmap_count_zero :
    createOld 2048 = .ok ⟨2048, 65536, 0, []⟩ ∧
    (match allocate 9 ⟨2048, 65536, 0, []⟩ ⟨[some 4096, some 135168, some 266240], 0⟩ with
     | (r, p', e') => (r, p'.blocks.map (·.id), e')) = (.null, [2, 1, 0], ⟨[], 3⟩) := by decide

/-- before: obj_size 1008 (bitmap_count 2, 64 objects) at a page-aligned mmap address = 976 mod 1008: the data area ended 16 bytes
behind the 65536-byte mapping (`create_pool` padded by the absolute address, `pool_size_from_bitmap_count` by the offset) -/
theorem witness_data_area_overrun :
    createOld 1008 = .ok ⟨1008, 65536, 2, []⟩ ∧ 35184372183040 % 4096 = 0 ∧
    (createPoolOld ⟨1008, 65536, 2, []⟩ 0 35184372183040).dataOff + 64 * 1008 = 65552 := by decide

/-- before: `1 << 31` in type `int` is undefined; repaired: `1U << j` is defined for every bit of a word -/
theorem witness_free_shift_31 : shiftIntOld 31 = none ∧ ∀ j, j < 32 → shiftUnsigned j = some (BitVec.twoPow 32 j) := by
  refine ⟨by decide, fun j hj => by simp [shiftUnsigned, hj]⟩

end Sqfs.MemPool
