/-
C11 — packing a directory is independent of the host's enumeration order.

The theorems are about `Sqfs.FsTree` (Sqfs/Model/FsTree.lean), the model of
dir_unix.c → dir_rec.c → dir_tree_iterator.c → dir_hl.c → glob.c:scan_directory → fstree.c → post_process.c.
`sorted = true` is the code in /repo (the native iterator collects the names of a directory and `qsort`s them with
`strcmp`, /repo 7ff9210); `sorted = false` is the iterator without that `qsort` call, for which the full statement is
false (Sqfs/Witness/C11.lean) — the theorems about that older code are a frozen record in Sqfs/Proofs/C11Pinned/.
-/
import Sqfs.Proofs.FsTreeSorted
import Sqfs.Proofs.FsTreeSortFile
import Sqfs.Proofs.SelectSort
import Sqfs.Proofs.FsTreeScanLinks

namespace Sqfs.C11
open Sqfs.FsTree

/-! ### fixtures for the instantiating examples: files `a`, `b`, `c` (= second name of `a`), `e`, a directory `d`,
an option set that keeps owner and mode, bare names -/

private def st (mode ino : Nat) : Stat := { mode := mode, uid := 0, gid := 0, mtime := 0, dev := 1, ino := ino, rdev := 0 }
private def fa : HNode := .mk [0x61] (st 0o100644 10) [] []
private def fb : HNode := .mk [0x62] (st 0o100644 11) [] []
private def fc : HNode := .mk [0x63] (st 0o100644 10) [] []           -- second name of `a`
private def fe : HNode := .mk [0x65] (st 0o100644 13) [] []
private def dd (c : List HNode) : HNode := .mk [0x64] (st 0o040755 12) [] c
private def wcfg : Cfg :=
  { flags := Consts.dirScanKeepUid ||| Consts.dirScanKeepGid ||| Consts.dirScanKeepMode, defUid := 0,
    defGid := 0, defMode := 0, defMtime := 0, pfx := [], filePrefix := none, pattern := none }
private def wd : Defaults := { uid := 0, gid := 0, mtime := 0, mode := 0o755 }
private def fe' : HNode := .mk [0x65] (st 0o100644 10) [] []
private def nm (n : Name) : HNode := .mk n default [] []

/-- `insert_sorted` (fstree.c): inserting nodes with pairwise different names into **any** child list gives the same
list whatever the order of insertion — for all lists, via `List.Perm`. -/
theorem insertSorted_perm {l₁ l₂ : List TNode} (hp : l₁.Perm l₂) (hnd : (l₁.map TNode.name).Nodup)
    (init : List TNode) :
    l₁.foldl (fun acc n => insertSorted n acc) init = l₂.foldl (fun acc n => insertSorted n acc) init :=
  foldl_insertBy_perm TNode.name hp hnd init

/-- instance: `c, a, b` and `a, b, c` inserted into a non-empty child list give the same list -/
example := insertSorted_perm (l₁ := [.mk [0x63] default [], .mk [0x61] default [], .mk [0x62] default []])
  (l₂ := [.mk [0x61] default [], .mk [0x62] default [], .mk [0x63] default []])
  ((List.Perm.swap _ _ _).trans (List.Perm.cons _ (List.Perm.swap _ _ _))) (by decide) [.mk [0x60] default []]

/-- `insert_sorted` keeps the children strictly sorted by `strcmp` and neither loses nor duplicates a node. -/
theorem insertSorted_sorted (n : TNode) (cs : List TNode) (hs : SortedNames (cs.map TNode.name))
    (hnew : ∀ c ∈ cs, c.name ≠ n.name) :
    SortedNames ((insertSorted n cs).map TNode.name) ∧ (insertSorted n cs).Perm (n :: cs) :=
  ⟨insertBy_sorted TNode.name n cs hs hnew, insertBy_perm TNode.name n cs⟩

/-- instance: `b` into the sorted list `a, c` -/
example := insertSorted_sorted (.mk [0x62] default []) [.mk [0x61] default [], .mk [0x63] default []] (by decide) (by decide)

/-- `compare_names` (= `strcmp` on the unsigned bytes of the two names) is a consistent strict total order — what ISO C
requires of a `qsort` comparison function for the result to be defined: antisymmetric, zero exactly on equal names,
transitive. -/
theorem compare_names_total_order (a b c : HNode) :
    (0 < compareNames a b ↔ compareNames b a < 0) ∧ (compareNames a b = 0 ↔ a.name = b.name) ∧
    (compareNames a b < 0 → compareNames b c < 0 → compareNames a c < 0) := by
  refine ⟨strcmpC_swap _ _, strcmpC_eq_zero_iff _ _, ?_⟩
  intro h1 h2
  exact (strcmpC_neg_iff _ _).mpr (nameLt_trans ((strcmpC_neg_iff _ _).mp h1) ((strcmpC_neg_iff _ _).mp h2))
example := compare_names_total_order (nm [0x61]) (nm [0x61, 0x80]) (nm [0x62])

/-- `strcmp` as modelled is the lexicographic order of the byte lists (core Lean's `<` on `List UInt8`, bytes compared
unsigned) -/
theorem strcmpC_neg_iff_lt (a b : Name) : strcmpC a b < 0 ↔ a < b := by
  rw [strcmpC_neg_iff, nameLt_eq]
  exact NameOrder.lt_iff a b

/-- **`compare_names` is the lexicographic order on unsigned bytes**, stated with core Lean's order on `List UInt8`
instead of the model's own `nameLt`: negative iff the first name is smaller, zero iff equal, positive iff larger.  This
is the order every layer above relies on (and the one the check's third oracle, Python's `bytes` order, implements). -/
theorem compare_names_is_lex (a b : HNode) :
    (compareNames a b < 0 ↔ a.name < b.name) ∧ (compareNames a b = 0 ↔ a.name = b.name) ∧
    (0 < compareNames a b ↔ b.name < a.name) := by
  refine ⟨strcmpC_neg_iff_lt _ _, strcmpC_eq_zero_iff _ _, ?_⟩
  unfold compareNames
  rw [strcmpC_swap, strcmpC_neg_iff_lt]
example := compare_names_is_lex (.mk [0x61, 0x80] default [] []) (.mk [0x61, 0x7f] default [] [])
example : compareNames (.mk [0x61, 0x80] default [] []) (.mk [0x61, 0x7f] default [] []) > 0 ∧
    ([0x61, 0x7f] : List UInt8) < [0x61, 0x80] := by decide

/-- `read_names` leaves `it->names` a permutation of what `readdir` returned, strictly ascending under
`compare_names` — for a stream of any length (no bound, no batches), names of any length. -/
theorem read_names_sorted (stream : List HNode) (hnd : (stream.map HNode.name).Nodup) :
    (readNames true stream).Perm stream ∧ (readNames true stream).Pairwise (fun a b => compareNames a b < 0) := by
  rw [readNames_true]
  exact ⟨sortByName_perm_self stream, (sortByName_sorted stream hnd).imp fun hab => (strcmpC_neg_iff _ _).mpr hab⟩
example := read_names_sorted [nm [0x63], nm [0x2e, 0x2e], nm [0x61, 0xff], nm [0x2e], nm [0x61]] (by decide)

/-- `read_names` serves the entries in strictly ascending lexicographic order of their names (core `<` on `List UInt8`). -/
theorem read_names_sorted_lex (stream : List HNode) (hnd : (stream.map HNode.name).Nodup) :
    (readNames true stream).Pairwise (fun a b => a.name < b.name) :=
  (read_names_sorted stream hnd).2.imp (fun h => (compare_names_is_lex _ _).1.mp h)
example := read_names_sorted_lex [nm [0x63], nm [0x2e, 0x2e], nm [0x61, 0xff], nm [0x2e], nm [0x61]] (by decide)

/-- The order `read_names` serves does not depend on the order in which `readdir` returned the entries. -/
theorem read_names_perm {s₁ s₂ : List HNode} (hp : s₁.Perm s₂) (hnd : (s₁.map HNode.name).Nodup) :
    readNames true s₁ = readNames true s₂ := by
  rw [readNames_true, readNames_true]
  exact sortByName_perm hp hnd

/-- instance: two `readdir` orders of one directory -/
example := read_names_perm (s₁ := [nm [0x63], nm [0x61], nm [0x62]]) (s₂ := [nm [0x61], nm [0x63], nm [0x62]])
  (List.Perm.swap _ _ _) (by decide)

/-- The model's choice of sorting algorithm is immaterial: **every** `qsort` that conforms to ISO C (returns a
permutation that is non-descending under the comparison function) leaves exactly the list the model computes. -/
theorem qsort_any_conforming (stream r : List HNode) (hnd : (stream.map HNode.name).Nodup) (hperm : r.Perm stream)
    (hsorted : r.Pairwise (fun a b => compareNames a b ≤ 0)) : r = readNames true stream := by
  rw [readNames_true]
  have hndr : (r.map HNode.name).Nodup := (hperm.map HNode.name).nodup_iff.mpr hnd
  have hr : r.Pairwise (fun a b => nameLt a.name b.name = true) := by
    have hne : r.Pairwise (fun a b => a.name ≠ b.name) := by
      rw [List.Nodup, List.pairwise_map] at hndr; exact hndr
    refine (hsorted.and hne).imp ?_
    rintro a b ⟨hle, hne⟩
    apply (strcmpC_neg_iff _ _).mp
    have : compareNames a b ≠ 0 := fun h0 => hne ((strcmpC_eq_zero_iff _ _).mp h0)
    simp only [compareNames] at hle this
    omega
  exact sorted_perm_unique HNode.name (hperm.trans (sortByName_perm_self stream).symm) hr (sortByName_sorted stream hnd)

/-- **Full statement.**  For two enumerations of one directory forest that differ by a permutation inside each
directory (`FPerm`, any depth, any number of entries, names of any length), the model of `gensquashfs --pack-dir` —
`read_names` with `compare_names` in every directory, the recursive iterator, the `dir_tree_iterator` filters, the
hard-link filter, `scan_directory` with `fstree_add_generic`, `fstree_post_process` — computes the same tree,
the same inode numbering and the same file list, for every forest (multiply-linked files included), every option set
(`-H`, `-o`, `-k`, forced ids, type masks, name patterns) and every `fnmatch`.
How the proof goes: `read_names` makes the enumeration that reaches the layers above a function of the *set* of entries
of each directory (`read_names_perm`, lifted to forests by `nativeOrder_sorted_fperm`); everything above is a function of
that enumeration. -/
theorem scan_perm_invariant {e₁ e₂ : List HNode} (h : FPerm e₁ e₂) (hwf : WFList e₁)
    (d : Defaults) (cfg : Cfg) (fnm : Fnm) (rootDev : Nat) :
    packDir true d cfg fnm rootDev e₁ = packDir true d cfg fnm rootDev e₂ := by
  unfold packDir scanInto
  rw [nativeOrder_sorted_fperm h hwf]

/-- The same for a `glob` line of a pack file: any tree built so far, any pending hard links, any target
directory (prefix), file prefix and filter options. -/
theorem scan_perm_invariant_glob {e₁ e₂ : List HNode} (h : FPerm e₁ e₂) (hwf : WFList e₁)
    (d : Defaults) (cfg : Cfg) (fnm : Fnm) (rootDev : Nat) (target : Path) (tree : TNode) (links : List Path) :
    globInto true d cfg fnm rootDev e₁ target tree links = globInto true d cfg fnm rootDev e₂ target tree links := by
  unfold globInto scanInto
  rw [nativeOrder_sorted_fperm h hwf]

/-- Data placement: the sequence in which `pack_files` hands the regular files (with their block-processor flags) to
the block processor — the file list, after `fstree_sort_files` when a sort file (`-S`) is given — is the same for both
enumerations, for every sort file. -/
theorem pack_order_invariant {e₁ e₂ : List HNode} (h : FPerm e₁ e₂) (hwf : WFList e₁)
    (d : Defaults) (cfg : Cfg) (fnm : Fnm) (rootDev : Nat) (sortfile : Option (List SortRule)) :
    packOrder true d cfg fnm rootDev e₁ sortfile = packOrder true d cfg fnm rootDev e₂ sortfile := by
  unfold packOrder
  rw [scan_perm_invariant h hwf]

/-- `fstree_sort_files` (gensquashfs `-S`) hands `pack_files` exactly the files of the file list (none lost, none twice), in
non-descending priority, and the files of one priority in the order they have in the file list (the sort is stable) —
whatever the sort file says and whatever `fnmatch` does.  Together with `pack_order_invariant`: the order of the file
data is fixed by file list + sort file. -/
theorem sort_files_perm_sorted_stable (fnm : Fnm) (rules : List SortRule) (files : List Path) :
    ((sortFiles fnm rules files).map (·.path)).Perm files ∧
      (sortFiles fnm rules files).Pairwise (fun a b => a.prio ≤ b.prio) ∧
      ∀ q : Int, List.Sublist (((sortFiles fnm rules files).filter (fun f => f.prio = q)).map (·.path)) files := by
  simp only [sortFiles]
  -- all that matters of the list the rules have marked: it has the paths of the file list
  generalize hm : List.foldl (fun acc r => applySortRule fnm r acc) _ rules = marked
  have hpaths : marked.map (·.path) = files := by
    rw [← hm, foldl_applySortRule_paths]
    simp [List.map_map, Function.comp_def]
  have hsel := sortFileList_sel _ marked (Nat.le_refl _)
  have hstable : ∀ q : Int, (sortFileList _ marked).filter (fun f => f.prio = q) = marked.filter (fun f => f.prio = q) :=
    hsel.stable
  subst hpaths
  exact ⟨hsel.perm.map _, hsel.sorted, fun q => by rw [hstable q]; exact List.filter_sublist.map _⟩

/-- Inode numbers and the file list are functions of the (sorted) tree alone: `fstree_post_process` — hard-link
resolution with its link counts, `alloc_inode_num_dfs`, `reorder_hard_links`, `file_list_dfs` — gives the same result
for every order of the `links_unresolved` list, the one piece of state next to the tree that records the order in which
entries arrived.  Hypothesis `FlatLinks`: every pending link names an existing node that is neither a directory nor a
link itself.  `pack_dir_links_order_free` below discharges it for what a `--pack-dir` scan produces. -/
theorem numbering_deterministic {links₁ links₂ : List Path} (hp : links₁.Perm links₂) (tree : TNode)
    (hflat : FlatLinks tree links₁) : postProcess tree links₁ = postProcess tree links₂ :=
  postProcess_perm' hp tree fun p hp => (hflat p hp).imp fun _ => FlatAt.pending

/-- `FlatLinks` discharged for the scan: whatever `gensquashfs --pack-dir` (no prefix, fresh tree) leaves in
`links_unresolved` — for every forest, every enumeration, every option set, with or without the `qsort` in the native
iterator — post-processing gives the same tree, inode numbers and file list for **every** order of that list.  (Every
pending link points at the path the hard-link filter recorded for the first name of the file; at that path there is the
node made from that first name, or — when `scan_directory` dropped that name because its parent directory is not in the
tree — nothing, in which case `fstree_post_process` fails for every order: `Sqfs.FsTree.scanInto_links`,
`postProcess_perm'`.)  So the only way the readdir order can reach inode numbers and file list is through the *tree*
(which name of a file became the real one) — the part `read_names` fixes. -/
theorem pack_dir_links_order_free {sorted : Bool} {d : Defaults} {cfg : Cfg} {fnm : Fnm} {rootDev : Nat} {e : List HNode}
    {t : TNode} {links links' : List Path} (hpfx : cfg.pfx = []) (hwf : WFList e)
    (h : scanInto sorted d cfg fnm rootDev e (initRoot d) [] = some (t, links)) (hp : links.Perm links') :
    postProcess t links = postProcess t links' :=
  postProcess_perm' hp t (scanInto_links hpfx hwf h)

/-- Whatever the enumeration order, the options and the iterator (with or without its `qsort`): the tree `--pack-dir`
hands to the serialiser has **every** directory strictly sorted by `strcmp` (so names are pairwise different and the
order of directory entries, of the DFS numbering and of the file list is fixed by the names alone). -/
theorem scan_tree_sorted (sorted : Bool) (d : Defaults) (cfg : Cfg) (fnm : Fnm) (rootDev : Nat) (e : List HNode)
    (r : Result) (h : packDir sorted d cfg fnm rootDev e = some r) : r.tree.AllSorted := by
  revert h; fun_cases packDir sorted d cfg fnm rootDev e <;> intro h
  · cases h
  · rename_i t links hs
    revert h; fun_cases postProcess t links <;> intro h <;> cases h
    exact resolveHardLinks_allSorted _ _ _ _ (scanInto_allSorted (initRoot_allSorted d) hs) ‹_›

/-- instance: the un-sorted iterator on `c, b, a` -/
example : ∃ r, packDir false wd wcfg (fun _ _ _ => true) 1 [fc, fb, fa] = some r ∧ r.tree.AllSorted := by
  obtain ⟨r, h⟩ := Option.isSome_iff_exists.1
    (show (packDir false wd wcfg (fun _ _ _ => true) 1 [fc, fb, fa]).isSome = true by decide +kernel)
  exact ⟨r, h, scan_tree_sorted false wd wcfg (fun _ _ _ => true) 1 [fc, fb, fa] r h⟩

/-- … and a `glob` line keeps a sorted tree sorted. -/
theorem glob_tree_sorted (sorted : Bool) (d : Defaults) (cfg : Cfg) (fnm : Fnm) (rootDev : Nat) (e : List HNode)
    (target : Path) (tree : TNode) (links : List Path) (ht : tree.AllSorted) (t' : TNode) (l' : List Path)
    (h : globInto sorted d cfg fnm rootDev e target tree links = some (t', l')) : t'.AllSorted := by
  revert h; fun_cases globInto sorted d cfg fnm rootDev e target tree links <;> intro h <;> first | cases h | skip
  exact scanInto_allSorted (mkdirImplicit_allSorted d target tree _ ht ‹_›).1 h

/-- instance: a `glob` line with target `x` on the fresh tree, entries enumerated as `c, b, a` -/
example : ∃ t l, globInto true wd wcfg (fun _ _ _ => true) 1 [fc, fb, fa] [[0x78]] (initRoot wd) [] = some (t, l) ∧
    t.AllSorted := by
  obtain ⟨⟨t, l⟩, h⟩ := Option.isSome_iff_exists.1
    (show (globInto true wd wcfg (fun _ _ _ => true) 1 [fc, fb, fa] [[0x78]] (initRoot wd) []).isSome = true by decide +kernel)
  exact ⟨t, l, h, glob_tree_sorted true wd wcfg (fun _ _ _ => true) 1 [fc, fb, fa] [[0x78]] (initRoot wd) []
    (initRoot_allSorted wd) t l h⟩

/-! ### the hypotheses are satisfiable, the conclusion is not trivial -/

/-- `{a, b, c, d/{a, b}}` enumerated in two different orders (also inside `d`) -/
example : FPerm [fa, fb, fc, dd [fa, fb]] [dd [fb, fa], fc, fb, fa] :=
  -- the top directory reversed, then the two entries of `d` swapped
  FPerm.trans (fperm_of_perm (List.reverse_perm [dd [fa, fb], fc, fb, fa]))
    (FPerm.cons (FPerm.swap _ _ _) (fperm_refl _))

example : WFList [fa, fb, fc, dd [fa, fb]] := by
  simp [WFList, WFNode, HNode.name, fa, fb, fc, dd]

/-- what the scan of `{a, b, c, e | a = c = e}` leaves behind: two pending links, both to `a`; `FlatLinks` holds of it -/
private def wscan : TNode × List Path :=
  (scanInto true wd wcfg (fun _ _ _ => true) 1 [fa, fb, fc, fe'] (initRoot wd) []).getD (initRoot wd, [])

example : wscan.2 = [[[0x65]], [[0x63]]] := by decide +kernel
example : FlatLinks wscan.1 wscan.2 := fun p hp =>
  -- both pending links point to `a`; one evaluation of the scan
  ⟨[[0x61]], flatAt_of_flatAtB (List.all_eq_true.1
    (show (wscan.2.all fun p => flatAtB wscan.1 p [[0x61]]) = true by decide +kernel) p hp)⟩

/-- the hypotheses of `pack_dir_links_order_free` are satisfiable (the scan above: two pending links) … -/
example : wcfg.pfx = [] ∧ WFList [fa, fb, fc, fe'] ∧
    (scanInto true wd wcfg (fun _ _ _ => true) 1 [fa, fb, fc, fe'] (initRoot wd) []).isSome = true := by
  refine ⟨rfl, ?_, by decide +kernel⟩
  simp [WFList, WFNode, HNode.name, fa, fb, fc, fe']

/-- … and its "dangling" branch is real: with directories filtered out (`DIR_SCAN_NO_DIR`, recursion goes on) `d/a` passes
the filters and is remembered by the hard-link filter, but `scan_directory` drops it (its parent is not in the tree); the
second name `e` then points at nothing and post-processing fails (for every order) -/
example : (scanInto true wd { wcfg with flags := wcfg.flags ||| Consts.dirScanNoDir } (fun _ _ _ => true) 1 [dd [fa], fe']
        (initRoot wd) []).isSome = true ∧
    (packDir true wd { wcfg with flags := wcfg.flags ||| Consts.dirScanNoDir } (fun _ _ _ => true) 1 [dd [fa], fe']).isNone = true := by
  decide +kernel

/-- the scan of the witness forest succeeds (hypothesis of `scan_tree_sorted`), with either iterator -/
example : (packDir true wd wcfg (fun _ _ _ => true) 1 [fc, fb, fa]).isSome = true := by decide +kernel
example : (packDir false wd wcfg (fun _ _ _ => true) 1 [fc, fb, fa]).isSome = true := by decide +kernel

example : (insertSorted (.mk [0x62] default []) [.mk [0x61] default [], .mk [0x63] default []]).map TNode.name
    = [[0x61], [0x62], [0x63]] := by decide

/-- `compare_names` compares unsigned bytes (0x80 sorts behind 0x7f) and a proper prefix sorts first -/
example : compareNames (.mk [0x61, 0x80] default [] []) (.mk [0x61, 0x7f] default [] []) > 0 ∧
    compareNames (.mk [0x61] default [] []) (.mk [0x61, 0x01] default [] []) < 0 := by decide

/-- `read_names` on a stream with ".", ".." and three names in some order; its hypotheses are satisfiable -/
example : (readNames true [nm [0x63], nm [0x2e, 0x2e], nm [0x61, 0xff], nm [0x2e], nm [0x61]]).map HNode.name
    = [[0x2e], [0x2e, 0x2e], [0x61], [0x61, 0xff], [0x63]] := by decide
example : ([nm [0x63], nm [0x2e, 0x2e], nm [0x61, 0xff], nm [0x2e], nm [0x61]].map HNode.name).Nodup := by decide
/-- a conforming `qsort` result in the sense of `qsort_any_conforming` -/
example : [nm [0x61], nm [0x62]].Perm [nm [0x62], nm [0x61]] ∧
    [nm [0x61], nm [0x62]].Pairwise (fun a b => compareNames a b ≤ 0) := by
  refine ⟨List.Perm.swap _ _ _, ?_⟩
  simp only [List.pairwise_cons, List.mem_cons, List.not_mem_nil, or_false, forall_eq, List.Pairwise.nil, and_true,
    false_imp_iff, implies_true]
  decide

/-- `fstree_sort_files`: a literal line, a glob line, files of equal priority keep their order -/
example : (sortFiles (fun p s _ => p == s || p == [0x2a]) [⟨5, 4, false, false, [0x62]⟩, ⟨-1, 0, true, true, [0x2a]⟩]
    [[[0x61]], [[0x62]], [[0x63]]]).map (fun f => (f.path, f.prio, f.flags))
    = [([[0x61]], -1, 0), ([[0x63]], -1, 0), ([[0x62]], 5, 4)] := by decide

end Sqfs.C11
