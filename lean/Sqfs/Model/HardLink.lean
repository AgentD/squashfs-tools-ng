/-
Model of hard-link resolution: `lib/fstree/src/hardlink.c`
(`resolve_link`, `fstree_resolve_hard_links`) over an *arbitrary* finite graph
of tree nodes.

A node is, as far as `resolve_link` can tell, one of
  * `other` – not a directory and not a hard link (file, symlink, device, …);
  * `dir`   – `S_ISDIR(mode)`;
  * `hlink l` – `S_ISLNK(mode) && (flags & FLAG_LINK_IS_HARD)`, where `l` is what
    `fstree_get_node_by_path(fs, fs->root, node->data.target, false, false)`
    answers for this node's target string: another node (by index) or `NULL`
    with `errno` = `ENOENT`/`ENOTDIR`.  The lookup never creates nodes
    (`create_implicitly = false`) and `resolve_link` never changes a mode, so
    the answer is a fixed attribute of the node for the whole resolution.

The mutable state is exactly what the C code mutates: `FLAG_LINK_RESOVED` +
`data.target_node` per link (`resolved`) and `link_count` per node.

Two loops are modelled, each with explicit fuel (`outOfFuel` is *not* a C
result; it means "the C loop is still running"):

  * `loopCur`  – the loop of the code as shipped in 1.2.0: the only cycle test
    is `node == start`;
  * `loopFix`  – the repaired loop, the code in /repo (fixes/C07-hardlink-cycle.patch = /repo 185b4ea): in
    addition the number of *unresolved* links that were followed is bounded
    by `maxHops`, the length of `fs->links_unresolved` when
    `fstree_resolve_hard_links` was entered.

Everything else (`resolve_link`'s tail, the driver loop over
`links_unresolved`) is shared and parameterised by the loop.
-/
import Sqfs.Generated.Consts
namespace Sqfs.HardLink

inductive Errno
  | ENOENT | ENOTDIR | EMLINK | EPERM
  deriving DecidableEq, Repr

/-- the two ways `fstree_get_node_by_path` fails when it does not create nodes -/
inductive LErr
  | ENOENT | ENOTDIR
  deriving DecidableEq, Repr

def LErr.toErrno : LErr → Errno
  | .ENOENT => .ENOENT
  | .ENOTDIR => .ENOTDIR

/-- result of `fstree_get_node_by_path(..., create_implicitly = false, stop_at_parent = false)` -/
inductive Lookup
  | found (i : Nat)
  | fail (e : LErr)
  deriving DecidableEq, Repr

inductive Node
  | other
  | dir
  | hlink (tgt : Lookup)
  deriving DecidableEq, Repr

abbrev Graph := List Node

/-- `link_count == 0xFFFFFFFF` guard of `resolve_link` -/
def linkCountMax : Nat := 0xFFFFFFFF

structure St where
  /-- `some t` ⇔ `FLAG_LINK_RESOVED` is set and `data.target_node == t` -/
  resolved : Nat → Option Nat
  /-- `link_count` -/
  linkCount : Nat → Nat

/-- result of the `for (;;)` loop of `resolve_link` -/
inductive LoopRes
  | brk (node : Nat)          -- `break`: `node` is not a hard link
  | err (e : Errno)           -- `return -1` with this errno
  | outOfFuel                 -- the loop has not returned yet
  | badIndex                  -- a node index outside the graph (unreachable for well-formed graphs)
  deriving DecidableEq, Repr

/--
`for (;;)` of `resolve_link` in the code **as shipped** (hardlink.c lines 19–37).
-/
def loopCur (g : Graph) (res : Nat → Option Nat) (start : Nat) : Nat → Nat → LoopRes
  | 0, _ => .outOfFuel
  | fuel + 1, node =>
    match g[node]? with
    | none => .badIndex
    | some (.hlink tgt) =>
      -- `if (node->flags & FLAG_LINK_RESOVED) node = node->data.target_node; else node = lookup(...)`
      match (match res node with | some t => Lookup.found t | none => tgt) with
      | .fail e => .err e.toErrno                           -- `if (node == NULL) return -1;`
      | .found nx =>
        if nx = start then .err .EMLINK                     -- `if (node == start) { errno = EMLINK; ...`
        else loopCur g res start fuel nx
    | some _ => .brk node                                   -- `if (!S_ISLNK(...) || !(flags & FLAG_LINK_IS_HARD)) break;`

/--
The repaired loop: `hops` counts the unresolved links followed so far; following
one more when `hops ≥ maxHops` is reported as `EMLINK`.
-/
def loopFix (g : Graph) (res : Nat → Option Nat) (start maxHops : Nat) : Nat → Nat → Nat → LoopRes
  | 0, _, _ => .outOfFuel
  | fuel + 1, node, hops =>
    match g[node]? with
    | none => .badIndex
    | some (.hlink tgt) =>
      match res node with
      | some t =>
        if t = start then .err .EMLINK else loopFix g res start maxHops fuel t hops
      | none =>
        if hops ≥ maxHops then .err .EMLINK                 -- `if (hops++ >= max_hops) { errno = EMLINK; return -1; }`
        else match tgt with
          | .fail e => .err e.toErrno
          | .found nx =>
            if nx = start then .err .EMLINK
            else loopFix g res start maxHops fuel nx (hops + 1)
    | some _ => .brk node

inductive LinkRes
  | ok (st : St)
  | err (e : Errno)
  | outOfFuel
  | badIndex

/-- `resolve_link` after the loop (hardlink.c lines 39–54), given the loop's result. -/
def finishLink (g : Graph) (st : St) (start : Nat) : LoopRes → LinkRes
  | .outOfFuel => .outOfFuel
  | .badIndex => .badIndex
  | .err e => .err e
  | .brk node =>
    if g[node]? = some .dir then .err .EPERM                          -- `S_ISDIR(node->mode)`
    else if st.linkCount node = linkCountMax then .err .EMLINK        -- `node->link_count == 0xFFFFFFFF`
    else .ok { resolved := fun k => if k = start then some node else st.resolved k,
               linkCount := fun k => if k = node then st.linkCount k + 1 else st.linkCount k }

inductive AllRes
  | ok (st : St)
  /-- `fstree_resolve_hard_links` returned -1 while resolving link `link` with this errno -/
  | err (link : Nat) (e : Errno)
  | outOfFuel
  | badIndex

/--
`fstree_resolve_hard_links`: `links` is `fs->links_unresolved` from its head.
`loop` is the `for (;;)` of `resolve_link` applied to (state, start).
-/
def resolveAllWith (g : Graph) (loop : (Nat → Option Nat) → Nat → LoopRes) : St → List Nat → AllRes
  | st, [] => .ok st
  | st, n :: rest =>
    match finishLink g st n (loop st.resolved n) with
    | .ok st' => resolveAllWith g loop st' rest
    | .err e => .err n e
    | .outOfFuel => .outOfFuel
    | .badIndex => .badIndex

/-- the code as shipped, every `resolve_link` call given `fuel` loop iterations -/
def resolveAllCur (g : Graph) (fuel : Nat) (st : St) (links : List Nat) : AllRes :=
  resolveAllWith g (fun res n => loopCur g res n fuel n) st links

/--
The repaired code.  `max_hops` is computed once on entry as the length of the
unresolved list; the theorem `resolve_links_terminates` shows that
`links.length + 2` iterations always suffice, so the driver and the check use
exactly that fuel.
-/
def resolveAllFix (g : Graph) (fuel : Nat) (st : St) (links : List Nat) : AllRes :=
  resolveAllWith g (fun res n => loopFix g res n links.length fuel n 0) st links

/-- decidable summary of a run: the state is reported at the node indices `ks` -/
inductive View
  | ok (resolved : List (Option Nat)) (linkCount : List Nat)
  | err (link : Nat) (e : Errno)
  | outOfFuel
  | badIndex
  deriving DecidableEq, Repr

def AllRes.view (ks : List Nat) : AllRes → View
  | .ok st => .ok (ks.map st.resolved) (ks.map st.linkCount)
  | .err n e => .err n e
  | .outOfFuel => .outOfFuel
  | .badIndex => .badIndex

/-- state before resolution: nothing resolved, `link_count` as built by `mknode` -/
def St.init (counts : Nat → Nat) : St := { resolved := fun _ => none, linkCount := counts }


/-!
## Building the graph from tree entries

Model of the part of `lib/fstree/src/fstree.c` that decides what
`resolve_link` sees: `fstree_add_generic` / `mknode` /
`fstree_get_node_by_path` / `child_by_name`, for **canonical** entry names
(the callers — `tar/src/iterator.c: it_next`, `gensquashfs: handle_line` —
pass every name through `canonicalize_name` first; `mknode` canonicalises a
hard link's target itself).  Nodes live in a flat list in creation order
(index 0 = root); the sorted sibling order of the C list is irrelevant for
look-ups because sibling names are unique (the `EEXIST` rule).
-/
namespace Tree

abbrev Bytes := List UInt8

inductive Kind
  | dir | other | hlink
  deriving DecidableEq, Repr

structure TNode where
  parent : Nat
  name : Bytes
  kind : Kind
  /-- `FLAG_DIR_CREATED_IMPLICITLY` -/
  implicit : Bool
  /-- `data.target` of a hard link (already canonical) -/
  target : Bytes
  /-- `link_count` -/
  nlink : Nat
  deriving Repr

abbrev T := List TNode

/-- `fstree_init`: the root is an implicitly created directory with `link_count = 2` -/
def init : T := [{ parent := 0, name := [], kind := .dir, implicit := true, target := [], nlink := 2 }]

/-- `child_by_name`: index of the child of `p` called `nm` (the root, index 0, is nobody's child) -/
def childGo (p : Nat) (nm : Bytes) : Nat → List TNode → Option Nat
  | _, [] => none
  | i, n :: rest => if i ≠ 0 ∧ n.parent = p ∧ n.name = nm then some i else childGo p nm (i + 1) rest

def childByName (t : T) (p : Nat) (nm : Bytes) : Option Nat := childGo p nm 0 t

def isDir (t : T) (i : Nat) : Bool :=
  match t[i]? with
  | some n => n.kind == .dir
  | none => false

/-- split a canonical path at its slashes (`""` has no components) -/
def compsGo : Bytes → Bytes → List Bytes
  | acc, [] => [acc.reverse]
  | acc, c :: t => if c = 47 then acc.reverse :: compsGo [] t else compsGo (c :: acc) t

def comps (p : Bytes) : List Bytes := if p.isEmpty then [] else compsGo [] p

/-- `fstree_get_node_by_path(fs, root, path, false, false)` on a canonical path -/
def walk (t : T) : Nat → List Bytes → Lookup
  | cur, [] => .found cur
  | cur, c :: cs =>
    if !isDir t cur then .fail .ENOTDIR
    else match childByName t cur c with
      | none => .fail .ENOENT
      | some n => walk t n cs

def lookup (t : T) (path : Bytes) : Lookup := walk t 0 (comps path)

inductive AddErr
  | EINVAL | ENOTDIR | EEXIST | ENAMETOOLONG | EMLINK | ENOENT
  deriving DecidableEq, Repr

/-- number of `parent` hops from node `i` up to the root: what `for (n = parent; n->parent != NULL; n = n->parent)
++size;` of `mknode` counts.  Parents are created before their children, so `t.length` hops of fuel always suffice.
(`a` is the node list as an array, only so that the native driver follows a parent pointer in constant time.) -/
def depthGo (a : Array TNode) : Nat → Nat → Nat
  | 0, _ => 0
  | fuel + 1, i =>
    if i = 0 then 0
    else match a[i]? with
      | none => 0
      | some n => depthGo a fuel n.parent + 1

def depth (t : T) (i : Nat) : Nat := depthGo t.toArray t.length i

def counts (t : T) (i : Nat) : Nat :=
  match t[i]? with
  | some n => n.nlink
  | none => 0

def bump (t : T) (p : Nat) : T :=
  t.mapIdx (fun i n => if i = p then { n with nlink := n.nlink + 1 } else n)

/--
`mknode` + `insert_sorted` + `parent->link_count++` (fstree.c).  In the order of the C code:
a directory that would be nested deeper than `SQFS_MAX_DIR_NESTING` is refused with `ENAMETOOLONG`
(`size = 1 + depth(parent) > SQFS_MAX_DIR_NESTING`, /repo 9724762); [a hard link's target is canonicalised by the
caller of this function, `EINVAL`]; a parent whose `link_count` is saturated refuses the child with `EMLINK`.
-/
def mknode (t : T) (p : Nat) (nm : Bytes) (k : Kind) (implicit : Bool) (target : Bytes) : Except AddErr T :=
  if k = .dir ∧ depth t p + 1 > Sqfs.Consts.sqfsMaxDirNesting then .error .ENAMETOOLONG
  else if counts t p = linkCountMax then .error .EMLINK
  else
    let n : TNode := { parent := p, name := nm, kind := k, implicit := implicit, target := target,
                       nlink := if k = .dir then 2 else 1 }
    .ok (bump t p ++ [n])

/-- `fstree_get_node_by_path(fs, root, path, true, true)`: walk/create all but the last component -/
def mkdirP : T → Nat → List Bytes → Except AddErr (T × Nat)
  | t, cur, [] => .ok (t, cur)
  | t, cur, [_] => if !isDir t cur then .error .ENOTDIR else .ok (t, cur)
  | t, cur, c :: d :: cs =>
    if !isDir t cur then .error .ENOTDIR
    else match childByName t cur c with
      | some n => mkdirP t n (d :: cs)
      | none =>
        match mknode t cur c .dir true [] with
        | .error e => .error e
        | .ok t' => mkdirP t' t.length (d :: cs)

/--
`fstree_add_generic` for an entry of kind `k` (`dir` = `S_ISDIR(ent->mode)`,
`hlink` = `SQFS_DIR_ENTRY_FLAG_HARD_LINK`, with its target string).
`canon` is `canonicalize_name` (passed in to keep this file independent of `Path`).
-/
def addGeneric (canon : Bytes → Option Bytes) (t : T) (name : Bytes) (k : Kind) (target : Bytes) : Except AddErr T :=
  let overwrite (t : T) (child : Nat) : Except AddErr T :=
    match t[child]? with
    | some c =>
      if c.kind = .dir ∧ k = .dir ∧ c.implicit then
        .ok (t.mapIdx (fun i n => if i = child then { n with implicit := false } else n))
      else .error .EEXIST
    | none => .error .EEXIST
  if name.isEmpty then overwrite t 0
  else match mkdirP t 0 (comps name) with
    | .error e => .error e
    | .ok (t', parent) =>
      let nm := (comps name).getLast?.getD []
      match childByName t' parent nm with
      | some child => overwrite t' child
      | none =>
        if k = .hlink then
          match canon target with
          | none => .error .EINVAL
          | some tg => mknode t' parent nm .hlink false tg
        else mknode t' parent nm k false target

/--
Harness-only set-up step (no C function): `node->link_count = v` on the node a path names, so that the
`link_count == 0xFFFFFFFF` guards of `resolve_link` and `mknode` can be reached without four thousand million
entries.  `ENOENT`/`ENOTDIR` when the path does not resolve.
-/
def setCount (t : T) (path : Bytes) (v : Nat) : Except AddErr T :=
  match lookup t path with
  | .fail .ENOENT => .error .ENOENT
  | .fail .ENOTDIR => .error .ENOTDIR
  | .found i => .ok (t.mapIdx (fun j n => if j = i then { n with nlink := v } else n))

/-- what `resolve_link` sees of the tree -/
def toGraph (t : T) : Graph :=
  t.map (fun n => match n.kind with
    | .dir => Node.dir
    | .other => Node.other
    | .hlink => Node.hlink (lookup t n.target))

/-- `fs->links_unresolved`: hard-link nodes, most recently created first -/
def linksGo : Nat → List TNode → List Nat → List Nat
  | _, [], acc => acc
  | i, n :: rest, acc => linksGo (i + 1) rest (if n.kind = .hlink then i :: acc else acc)

def links (t : T) : List Nat := linksGo 0 t []


/-- path of node `i` (names joined by '/', no leading slash), by walking `parent` at most `fuel` times -/
def pathOf (t : T) : Nat → Nat → Bytes
  | 0, _ => []
  | fuel + 1, i =>
    if i = 0 then [] else
    match t[i]? with
    | none => []
    | some n => if n.parent = 0 then n.name else pathOf t fuel n.parent ++ 47 :: n.name

end Tree
end Sqfs.HardLink
