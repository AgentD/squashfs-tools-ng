/-
`Pool` — small-step model of `lib/util/src/threadpool.c` (DESIGN.md §3.2, Appendix C).

Granularity: one step = the code one thread executes between two *blocking points*
(`pthread_mutex_lock`, `pthread_cond_wait`, entry of the worker callback, `pthread_join`,
and — for the main thread — the gap between two API calls).  No critical section of
`threadpool.c` contains a blocking point other than `pthread_cond_wait` (which releases the
mutex), so the mutex is free between steps and needs no state; the scheduler shim asserts
this on the real code at every scheduling point.

The two condition variables are represented by the program counters of their only possible
waiters (`queue_cond`: workers in `waitQ`; `done_cond`: the main thread in `deqWait`) with a
*signalled* bit per waiter.  `pthread_cond_broadcast` sets the bit of every current waiter.

A scheduler `Choice` names the thread to run.  `spur = true` is a spurious wake-up of an
unsignalled waiter; the *strict* step relation is the one with `spur = false` only.

`Cfg.repaired` selects between the code before /repo dbf866f
(`repaired = false`: `dequeue` never looks at `status`) and the code in /repo since dbf866f =
`fixes/C09-dequeue-after-failure.patch` (`repaired = true`: the wait loop of `dequeue` is
left with NULL when `status != 0` and nothing is dequeuable).  Everything else is shared.
-/
namespace Sqfs.Pool

/-- `work_item_t` (the `next` pointer is the list structure; `data` is the identity of the
submitted pointer). -/
structure Item where
  ticket : Nat
  data : Nat
deriving DecidableEq, Repr, Inhabited

/-- program counter of a worker thread (`worker_proc`) -/
inductive WPc where
  /-- at `pthread_mutex_lock` at the top of the loop with `item == NULL` (thread just created) -/
  | start
  /-- inside `pthread_cond_wait(&queue_cond)` in `get_next_work_item` -/
  | waitQ (sig : Bool)
  /-- mutex released, at the entry of `worker->fun(worker->user, item->data)` -/
  | working (it : Item)
  /-- callback returned `rc`, at `pthread_mutex_lock` at the top of the loop with `item != NULL` -/
  | finishing (it : Item) (rc : Int)
  /-- `worker_proc` returned -/
  | exited
deriving DecidableEq, Repr, Inhabited

/-- API calls the main thread can make -/
inductive Op where
  | submit (d : Nat)
  | dequeue
  | getStatus
  | destroy
deriving DecidableEq, Repr

/-- program counter of the main (submitting) thread -/
inductive MPc where
  /-- between two API calls -/
  | idle
  /-- in `submit`, item obtained from `recycle`/`calloc`, at `pthread_mutex_lock` -/
  | submitLock (d : Nat)
  /-- in `dequeue` (slow path: `item_count != 0`, `safe_done == NULL`), at `pthread_mutex_lock` -/
  | deqLock
  /-- in `dequeue`, inside `pthread_cond_wait(&done_cond)` -/
  | deqWait (sig : Bool)
  /-- in `get_status`, at `pthread_mutex_lock` -/
  | statusLock
  /-- in `destroy`, at `pthread_mutex_lock` -/
  | destroyLock
  /-- in `destroy`, at `pthread_join(workers[i])` -/
  | join (i : Nat)
  /-- `destroy` returned (pool freed) -/
  | finished
deriving DecidableEq, Repr, Inhabited

/-- value an API call returned -/
inductive Ret where
  | submit (rc : Int)
  | deq (r : Option Nat)
  | status (rc : Int)
  | destroyed
deriving DecidableEq, Repr

structure Cfg where
  /-- `false`: the code before /repo dbf866f; `true`: the code in /repo (D1 fix, dbf866f) -/
  repaired : Bool
  /-- return value of the worker callback, by work item -/
  rcOf : Nat → Int

structure State where
  /-- `pool->queue` … `queue_last` -/
  queue : List Item
  /-- `pool->done`, kept sorted by ticket by `store_completed` -/
  done : List Item
  /-- `pool->safe_done` … `safe_done_last` (main thread only) -/
  safeDone : List Item
  /-- length of `pool->recycle` (main thread only) -/
  recycle : Nat
  nextTicket : Nat
  nextDeq : Nat
  itemCount : Nat
  status : Int
  workers : List WPc
  main : MPc
  /- ghost history -/
  /-- data of every successfully submitted item, in submission order -/
  submitted : List Nat
  /-- callback invocations `(worker, item)` in the order they happened -/
  started : List (Nat × Item)
  /-- data handed back by `dequeue`, in order -/
  returned : List Nat
  /-- values returned by the API calls, in order -/
  rets : List Ret
  /-- the API calls made so far, in order (the last one may still be in progress) -/
  calls : List Op
deriving Repr, DecidableEq

/-- state after `thread_pool_create(n, cb)` (and every worker having reached its first lock) -/
def init (n : Nat) : State :=
  { queue := [], done := [], safeDone := [], recycle := 0, nextTicket := 0, nextDeq := 0,
    itemCount := 0, status := 0, workers := List.replicate n .start, main := .idle,
    submitted := [], started := [], returned := [], rets := [], calls := [] }

/-- `store_completed`: insert before the first element whose ticket is `>=` the new one -/
def insertDone (it : Item) : List Item → List Item
  | [] => [it]
  | h :: t => if h.ticket ≥ it.ticket then it :: h :: t else h :: insertDone it t

/-- `pthread_cond_broadcast(&pool->done_cond)` -/
def wakeMain : MPc → MPc
  | .deqWait _ => .deqWait true
  | pc => pc

/-- effect of `pthread_cond_broadcast(&pool->queue_cond)` on one worker -/
def wakeW : WPc → WPc
  | .waitQ _ => .waitQ true
  | pc => pc

/-- `pthread_cond_broadcast(&pool->queue_cond)` -/
def wakeAll (ws : List WPc) : List WPc := ws.map wakeW

/-- `get_next_work_item` followed by the rest of the loop body of `worker_proc` up to the next
blocking point, for worker `i` holding the mutex. -/
def getNextWork (s : State) (i : Nat) : State :=
  if s.status ≠ 0 then
    -- loop not entered / left with status != 0; item = NULL; unlock; break; return
    { s with workers := s.workers.set i .exited }
  else match s.queue with
    | [] => { s with workers := s.workers.set i (.waitQ false) }     -- pthread_cond_wait(queue_cond)
    | it :: q => { s with queue := q, workers := s.workers.set i (.working it) }

/-- one step of worker `i` -/
def stepWorker (cfg : Cfg) (s : State) (i : Nat) (spur : Bool) : Option State :=
  match s.workers[i]? with
  | none => none
  | some .start => if spur then none else some (getNextWork s i)
  | some (.waitQ sig) => if sig != spur then some (getNextWork s i) else none
  | some (.working it) =>
      if spur then none else
      -- the callback runs (no blocking point inside), then the loop reaches pthread_mutex_lock
      some { s with workers := s.workers.set i (.finishing it (cfg.rcOf it.data)),
                    started := s.started ++ [(i, it)] }
  | some (.finishing it rc) =>
      if spur then none else
      -- lock; store_completed(pool, item, status); get_next_work_item
      some (getNextWork
        { s with done := insertDone it s.done,
                 status := if rc ≠ 0 ∧ s.status = 0 then rc else s.status,
                 main := wakeMain s.main,
                 workers := s.workers.set i .start } i)
  | some .exited => none

/-- the `for (;;) try_dequeue_done → append to safe_done` loop of `submit`:
`(moved, rest of done, new next_dequeue_ticket)` -/
def drain : List Item → Nat → List Item × List Item × Nat
  | [], nd => ([], [], nd)
  | it :: r, nd =>
      if it.ticket = nd then
        let x := drain r (nd + 1)
        (it :: x.1, x.2.1, x.2.2)
      else ([], it :: r, nd)

/-- `submit` from the lock to the return -/
def submitBody (s : State) (d : Nat) : State :=
  let st := s.status
  let s1 : State :=
    if st = 0 then
      { s with queue := s.queue ++ [⟨s.nextTicket, d⟩], nextTicket := s.nextTicket + 1,
               itemCount := s.itemCount + 1, submitted := s.submitted ++ [d] }
    else s
  let x := drain s1.done s1.nextDeq
  { s1 with done := x.2.1, safeDone := s1.safeDone ++ x.1, nextDeq := x.2.2,
            workers := wakeAll s1.workers,
            recycle := if st = 0 then s1.recycle else s1.recycle + 1,
            main := .idle, rets := s1.rets ++ [.submit st] }

/-- hand `it` back from `dequeue` (common tail of both paths) -/
def deqReturn (s : State) (it : Item) : State :=
  { s with recycle := s.recycle + 1, itemCount := s.itemCount - 1,
           returned := s.returned ++ [it.data], main := .idle,
           rets := s.rets ++ [.deq (some it.data)] }

/-- `try_dequeue_done` found nothing.  Pinned code: `pthread_cond_wait(&pool->done_cond)`.
Repaired code: first `if (pool->status != 0) break;` — unlock and return NULL. -/
def deqWaitOrNull (cfg : Cfg) (s : State) : State :=
  if cfg.repaired && decide (s.status ≠ 0) then
    { s with main := .idle, rets := s.rets ++ [.deq none] }
  else { s with main := .deqWait false }

/-- body of the `for (;;)` loop of `dequeue`, holding the mutex -/
def deqTry (cfg : Cfg) (s : State) : State :=
  match s.done with
  | [] => deqWaitOrNull cfg s
  | it :: r =>
      if it.ticket = s.nextDeq then
        deqReturn { s with done := r, nextDeq := s.nextDeq + 1 } it
      else deqWaitOrNull cfg s

/-- what the scheduler lets the main thread do -/
inductive MChoice where
  /-- the main thread is between two calls and makes this one (runs to its first blocking point) -/
  | call (op : Op)
  /-- the main thread continues from a blocking point -/
  | cont (spur : Bool)
deriving DecidableEq, Repr

def stepMain (cfg : Cfg) (s : State) (c : MChoice) : Option State :=
  match s.main, c with
  | .idle, .call (.submit d) =>
      -- take an item from `recycle` or calloc one; then pthread_mutex_lock
      some { s with recycle := s.recycle - 1, main := .submitLock d, calls := s.calls ++ [.submit d] }
  | .idle, .call .dequeue =>
      if s.itemCount = 0 then some { s with rets := s.rets ++ [.deq none], calls := s.calls ++ [.dequeue] }
      else match s.safeDone with
        | it :: r => some (deqReturn { s with safeDone := r, calls := s.calls ++ [.dequeue] } it)
        | [] => some { s with main := .deqLock, calls := s.calls ++ [.dequeue] }
  | .idle, .call .getStatus => some { s with main := .statusLock, calls := s.calls ++ [.getStatus] }
  | .idle, .call .destroy => some { s with main := .destroyLock, calls := s.calls ++ [.destroy] }
  | .submitLock d, .cont false => some (submitBody s d)
  | .deqLock, .cont false => some (deqTry cfg s)
  | .deqWait sig, .cont spur => if sig != spur then some (deqTry cfg s) else none
  | .statusLock, .cont false => some { s with main := .idle, rets := s.rets ++ [.status s.status] }
  | .destroyLock, .cont false =>
      some { s with status := -1, workers := wakeAll s.workers,
                    main := if s.workers.length = 0 then .finished else .join 0,
                    rets := if s.workers.length = 0 then s.rets ++ [.destroyed] else s.rets }
  | .join i, .cont false =>
      if s.workers[i]? = some .exited then
        if i + 1 < s.workers.length then some { s with main := .join (i + 1) }
        else some { s with main := .finished, rets := s.rets ++ [.destroyed] }
      else none
  | _, _ => none

/-- scheduler choice -/
inductive Choice where
  | main (c : MChoice)
  | worker (i : Nat) (spur : Bool)
deriving DecidableEq, Repr

def Choice.strict : Choice → Bool
  | .main (.call _) => true
  | .main (.cont spur) => !spur
  | .worker _ spur => !spur

/-- the step relation that admits spurious wake-ups, as a partial function of the choice -/
def step (cfg : Cfg) (s : State) : Choice → Option State
  | .main c => stepMain cfg s c
  | .worker i spur => stepWorker cfg s i spur

/-- the strict step relation: a waiter runs only after a broadcast -/
def stepStrict (cfg : Cfg) (s : State) (c : Choice) : Option State :=
  if c.strict then step cfg s c else none

/-- run a whole schedule; choices that are not enabled are skipped -/
def run (cfg : Cfg) (s : State) : List Choice → State
  | [] => s
  | c :: cs => match step cfg s c with
      | some s' => run cfg s' cs
      | none => run cfg s cs

/-- every state an execution (any list of scheduler choices) can reach from `init n` -/
inductive Reachable (cfg : Cfg) (n : Nat) : State → Prop where
  | init : Reachable cfg n (init n)
  | step {s s' : State} (c : Choice) : Reachable cfg n s → step cfg s c = some s' → Reachable cfg n s'

/-- the same for the strict relation -/
inductive ReachableStrict (cfg : Cfg) (n : Nat) : State → Prop where
  | init : ReachableStrict cfg n (init n)
  | step {s s' : State} (c : Choice) : ReachableStrict cfg n s → stepStrict cfg s c = some s' →
      ReachableStrict cfg n s'

/-- can worker `i` take a strict step? -/
def workerEnabled (s : State) (i : Nat) : Bool :=
  match s.workers[i]? with
  | some .start | some (.working _) | some (.finishing _ _) | some (.waitQ true) => true
  | _ => false

/-- can the main thread continue from its blocking point (strictly)? -/
def mainContEnabled (s : State) : Bool :=
  match s.main with
  | .submitLock _ | .deqLock | .statusLock | .destroyLock | .deqWait true => true
  | .join i => s.workers[i]? == some .exited
  | _ => false

/-- the main thread is inside an API call -/
def mainInCall (s : State) : Bool :=
  match s.main with
  | .idle | .finished => false
  | _ => true

/-- no thread can take a strict step although the main thread is inside an API call -/
def isDeadlock (s : State) : Bool :=
  mainInCall s && !mainContEnabled s && (List.range s.workers.length).all (fun i => !workerEnabled s i)

end Sqfs.Pool
