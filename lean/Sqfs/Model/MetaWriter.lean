/-
Model of `lib/sqfs/src/meta_writer.c` (`sqfs_meta_writer_append`, `sqfs_meta_writer_flush`,
`sqfs_meta_writer_get_position`), of the block-processor worker `process_block`
(`lib/sqfs/src/block_processor/block_processor.c`) together with the size word built in
`process_completed_block` (`backend.c`), and of `sqfs_write_table` (`write_table.c`).

The compressor is a parameter: `Codec` is `do_block` seen as a function from the input block to
`none` (returned 0: "could not shrink") or `some c` (returned `c.length`, wrote `c`).  Negative
returns (errors) abort the writer and are not modelled.  The contract every backend is meant to
satisfy (`include/sqfs/compressor.h`: "returns 0 if the output buffer was too small [or the result
is not smaller]") is `Codec.Shrinks`; theorems that need it take it as a hypothesis, and the check
probes the real backends against it on every run.
-/
import Sqfs.Generated.Consts
namespace Sqfs.MetaWriter
open Sqfs.Consts

abbrev Bytes := List UInt8

abbrev Codec := Bytes → Option Bytes

/-- the `do_block` contract: a positive return value is strictly smaller than the input size -/
def Codec.Shrinks (cmp : Codec) : Prop := ∀ x c, cmp x = some c → c.length < x.length

/-- one block handed to `write_block` / appended to the in-memory list -/
structure Block where
  compressed : Bool        -- header MSB clear
  stored : Bytes           -- the bytes after the 2-byte header
  raw : Bytes              -- the chunk it was made from (what a reader unpacks)
  deriving Repr, DecidableEq

/-- the 16-bit header `sqfs_meta_writer_flush` puts in front (meta_writer.c:121-128) -/
def Block.header (b : Block) : Nat :=
  if b.compressed then b.stored.length % 65536 else (b.raw.length ||| 0x8000) % 65536

structure St where
  cur : Bytes := []          -- m->data[0 .. m->offset)
  blockOffset : Nat := 0     -- m->block_offset
  out : List Block := []     -- blocks written so far, oldest first
  deriving Repr

/-- `sqfs_meta_writer_flush` (meta_writer.c:100-150) -/
def flush (cmp : Codec) (st : St) : St :=
  if st.cur = [] then st                                     -- :107 offset == 0
  else
    match cmp st.cur with
    | some c =>
      if c.length > 0 then                                   -- :121 ret > 0
        { cur := [], blockOffset := st.blockOffset + c.length + 2, out := st.out ++ [⟨true, c, st.cur⟩] }
      else
        { cur := [], blockOffset := st.blockOffset + st.cur.length + 2, out := st.out ++ [⟨false, st.cur, st.cur⟩] }
    | none =>                                                -- :124 stored raw, flag 0x8000
      { cur := [], blockOffset := st.blockOffset + st.cur.length + 2, out := st.out ++ [⟨false, st.cur, st.cur⟩] }

/-- the `while (size != 0)` loop of `sqfs_meta_writer_append` (meta_writer.c:158-175); fuel ≥ size + 1 -/
def appendGo (cmp : Codec) : Nat → St → Bytes → St
  | 0, st, _ => st
  | f + 1, st, data =>
    if data = [] then st
    else
      let st := if st.cur.length = metaBlockSize then flush cmp st else st          -- :161 diff == 0
      let diff := min (metaBlockSize - st.cur.length) data.length                    -- :159, :168
      appendGo cmp f { st with cur := st.cur ++ data.take diff } (data.drop diff)

/-- `sqfs_meta_writer_append` -/
def append (cmp : Codec) (st : St) (data : Bytes) : St :=
  let st := appendGo cmp (data.length + 1) st data
  if st.cur.length = metaBlockSize then flush cmp st else st                          -- :177

/-- `sqfs_meta_writer_get_position` -/
def position (st : St) : Nat × Nat := (st.blockOffset, st.cur.length)

/-- a whole table: appends, then the final `sqfs_meta_writer_flush` -/
def run (cmp : Codec) (chunks : List Bytes) : St :=
  flush cmp (chunks.foldl (append cmp) {})

/-- the uncompressed stream a reader sees -/
def stream (st : St) : Bytes := (st.out.map (·.raw)).flatten ++ st.cur

/-! ### data blocks: `process_block` + size word -/

structure DataBlock where
  flags : Nat
  data : Bytes
  deriving Repr, DecidableEq

def hasFlag (flags f : Nat) : Bool := flags &&& f != 0

/-- `process_block` (block_processor.c:10-48); the checksum is not modelled.  Since /repo 47f7b3d a block that
carries `SQFS_BLK_FRAGMENT_BLOCK` is exempt from the sparse test just like one that carries `IGNORE_SPARSE`. -/
def processBlock (cmp : Codec) (b : DataBlock) : DataBlock :=
  if b.data = [] then b                                                                  -- :16
  else if !hasFlag b.flags (blkIgnoreSparse ||| blkFragmentBlock) && b.data.all (· == 0) then   -- :21-23
    { b with flags := b.flags ||| blkIsSparse }
  else if hasFlag b.flags (blkIsFragment ||| blkDontCompress) then b                    -- :34
  else
    match cmp b.data with
    | some c => if c.length > 0 then ⟨b.flags ||| blkIsCompressed, c⟩ else b             -- :42-46
    | none => b

/-- the size word stored in the inode's block list / the fragment table (`process_completed_block`,
backend.c:99-101; the block writer builds the same word, block_writer.c:139-141): the stored size with bit 24
set when the block is *not* compressed -/
def sizeWord (b : DataBlock) : Nat :=
  if hasFlag b.flags blkIsCompressed then b.data.length else b.data.length ||| (1 <<< 24)

/-- what `process_completed_block` (backend.c:55-128) records for a finished block, as (word stored at the block's
index in the inode's block list, word stored in the fragment table), `none` = untouched: a sparse block puts 0 into
the inode's list (:88-97); a non-empty block gets `sizeWord` — in the fragment table if it carries
`SQFS_BLK_FRAGMENT_BLOCK`, else in the inode (:98-121); an empty block records nothing -/
def completedWords (b : DataBlock) : Option Nat × Option Nat :=
  if hasFlag b.flags blkIsSparse then (some 0, none)
  else if b.data.length ≠ 0 then
    (if hasFlag b.flags blkFragmentBlock then (none, some (sizeWord b)) else (some (sizeWord b), none))
  else (none, none)

/-! ### `sqfs_write_table` -/

/-- bytes a list of metadata blocks occupies on disk (2-byte header + stored bytes each, meta_writer.c:60) -/
def outBytes (bs : List Block) : Nat := (bs.map (fun b => b.stored.length + 2)).sum

/-- chunks of at most 8 KiB, as the `while (table_size > 0)` loop of write_table.c:44-57 hands them over -/
def chunksOf : Nat → Bytes → List Bytes
  | 0, _ => []
  | f + 1, data => if data = [] then [] else data.take metaBlockSize :: chunksOf f (data.drop metaBlockSize)

/-- the loop of write_table.c:44-57: `locations[blkidx++] = file->get_size(file)` *before* the chunk is appended.
`base` = size of the file when `sqfs_write_table` is entered; the meta writer is created with flags 0, so every
flushed block is in the file and `get_size` = `base + outBytes st.out`. -/
def writeTableGo (cmp : Codec) (base : Nat) : List Bytes → St → List Nat → St × List Nat
  | [], st, locs => (st, locs)
  | c :: cs, st, locs => writeTableGo cmp base cs (append cmp st c) (locs ++ [base + outBytes st.out])

structure Table where
  blocks : List Block       -- the metadata blocks written at `base`
  locs : List Nat           -- the u64 location list written at `start`
  start : Nat               -- `*start`: where the location list begins (what the superblock records)
  deriving Repr

/-- the blocks and (relative) locations `sqfs_write_table` produces for a table — the first, coarser model (locations
recomputed from the finished block list), kept for its users (C01 `Enc*`, C17 `C17Export`);
`Sqfs.MetaWriter.writeTable_eq_writeTableM` shows it is `writeTableM` at base 0 -/
def writeTable (cmp : Codec) (data : Bytes) : List Block × List Nat :=
  let st := run cmp (chunksOf (data.length + 1) data)
  let locs := (st.out.foldl (fun (acc : List Nat × Nat) b => (acc.1 ++ [acc.2], acc.2 + 2 + b.stored.length)) ([], 0)).1
  (st.out, locs)

/-- `sqfs_write_table` (write_table.c:20-81) for a table of `data.length` bytes written to a file of `base` bytes,
with the locations taken where the C code takes them (`get_size` before every chunk) -/
def writeTableM (cmp : Codec) (base : Nat) (data : Bytes) : Table :=
  let r := writeTableGo cmp base (chunksOf (data.length + 1) data) {} []
  let st := flush cmp r.1                                              -- :59
  { blocks := st.out, locs := r.2, start := base + outBytes st.out }  -- :64

/-! ### `SQFS_META_WRITER_KEEP_IN_MEMORY` + `sqfs_meta_write_write_to_file`

The directory table is written through a meta writer created with `KEEP_IN_MEMORY` (init.c).  `FSt` is the writer **with
its flag word and both sinks**: `sqfs_meta_writer_flush` tests the flag and either links the finished block into
`m->list` or hands it to `write_block` (meta_writer.c:134-144) — two branches of one function, written out here as in
the C code, not derived from `St`.  `sqfs_meta_write_write_to_file` (meta_writer.c:197-215) writes the list to the file
in order and empties it.  That the two branches yield the same blocks, offsets and positions as the flag-less machine
`St` above is a theorem (`Sqfs.C03.keep_in_memory_same_blocks`), not a definition. -/

/-- `sqfs_meta_writer_t` with `flags`, the in-memory list and the file -/
structure FSt where
  flags : Nat := 0             -- m->flags
  cur : Bytes := []            -- m->data[0 .. m->offset)
  blockOffset : Nat := 0       -- m->block_offset
  list : List Block := []      -- m->list … m->list_end, oldest first
  file : List Block := []      -- what `write_block` has appended to the file so far
  deriving Repr

/-- `sqfs_meta_writer_flush` (meta_writer.c:100-150) with the `KEEP_IN_MEMORY` branch -/
def FSt.flush (cmp : Codec) (w : FSt) : FSt :=
  if w.cur = [] then w                                                          -- :107
  else
    let outblk : Block :=
      match cmp w.cur with
      | some c => if c.length > 0 then ⟨true, c, w.cur⟩ else ⟨false, w.cur, w.cur⟩    -- :121-128
      | none => ⟨false, w.cur, w.cur⟩
    let count := outblk.stored.length + 2
    if hasFlag w.flags metaWriterKeepInMemory then                              -- :134
      { w with cur := [], blockOffset := w.blockOffset + count, list := w.list ++ [outblk] }
    else                                                                        -- :142 write_block
      { w with cur := [], blockOffset := w.blockOffset + count, file := w.file ++ [outblk] }

/-- the loop of `sqfs_meta_writer_append` on the flagged writer -/
def FSt.appendGo (cmp : Codec) : Nat → FSt → Bytes → FSt
  | 0, w, _ => w
  | f + 1, w, data =>
    if data = [] then w
    else
      let w := if w.cur.length = metaBlockSize then w.flush cmp else w
      let diff := min (metaBlockSize - w.cur.length) data.length
      FSt.appendGo cmp f { w with cur := w.cur ++ data.take diff } (data.drop diff)

/-- `sqfs_meta_writer_append` on the flagged writer -/
def FSt.append (cmp : Codec) (w : FSt) (data : Bytes) : FSt :=
  let w := FSt.appendGo cmp (data.length + 1) w data
  if w.cur.length = metaBlockSize then w.flush cmp else w

/-- `sqfs_meta_writer_get_position` -/
def FSt.position (w : FSt) : Nat × Nat := (w.blockOffset, w.cur.length)

/-- `sqfs_meta_write_write_to_file`: every listed block goes through `write_block`, in list order; the list is emptied -/
def FSt.writeToFile (w : FSt) : FSt := { w with list := [], file := w.file ++ w.list }

/-- a flagged writer that continues from a state of the flag-less machine (what has been flushed so far sits in the
sink the flag selects) -/
def FSt.ofSt (flags : Nat) (st : St) : FSt :=
  if hasFlag flags metaWriterKeepInMemory then { flags := flags, cur := st.cur, blockOffset := st.blockOffset, list := st.out }
  else { flags := flags, cur := st.cur, blockOffset := st.blockOffset, file := st.out }

end Sqfs.MetaWriter
