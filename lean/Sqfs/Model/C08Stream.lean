/-
C08 — the **call stream** of the block processor: which `write_data_block` calls the main thread makes, in
which order, and how the fragment path and the block writer are wired together.

`Model/BlockWriter.lean` is about one writer fed an arbitrary call sequence, `Model/FragDedup.lean` about the
fragment table with the content of a written fragment block as a *ghost* (`Place.written stored`).  This module
composes them the way `lib/sqfs/src/block_processor/{frontend.c, backend.c, block_processor.c}` does, so that
`Sqfs.C08` can prove
* the call stream obeys `BlockWriter.wfS` (a fragment block is never written between a `FIRST` and its `LAST`),
* the location recorded in the fragment table for a written fragment block holds, in the block writer's file,
  exactly the ghost `stored` bytes, at every later time.

What is modelled, and how
* **Front end** (`fileBlocks`): the blocks `sqfs_block_processor_begin_file` / `append` / `end_file` hand to
  `enqueue_block`, in order, with their flags: full blocks (the first carries `FIRST`), then — when the length is
  a multiple of the block size — the sentinel (`LAST`, empty, only if there was a block), else the tail end:
  with `DONT_FRAGMENT` a last block carrying `LAST`, otherwise the sentinel (if there was a full block) followed
  by the tail end flagged `IS_FRAGMENT`.  How `append` is called (chunking) does not change this list.
* **Worker** (`processBlock` = `process_block`, block_processor.c:10-48): pure function of the block;
  checksum `h` and codec are parameters; `Codec.cmp x = some z` ⇔ `do_block` returned `|z| > 0`.
* **Pool**: FIFO (`pool->dequeue` returns the items in submission order — `include/util/threadpool.h`, proved
  for both implementations by C09); items are stored already worked.
* **Schedule**: *when* the main thread submits, dequeues and releases is decided in C by the backlog accounting
  (`get_new_block`, the exits of `dequeue_block`, `sync`).  Here it is the **input**: a run is a list of events
  `file / submit / dequeue / complete / finish`, and every theorem holds for every such list.  The only
  guards are the ones the C control flow enforces locally: `complete` (one iteration of the release loop of
  `dequeue_block`) needs the head of `io_queue` to carry `io_deq_seq_num`; `finish` (the second half of
  `sqfs_block_processor_finish`) runs after `sqfs_block_processor_sync`, i.e. with pool and I/O queue empty.
  A refused event is `Err.badEvent`; the correspondence check replays the real processor's event order on
  every run and the model never refuses it.
* **Back end**: `dequeue` = `pool->dequeue` + backend.c:324-335 (fragment → `process_completed_fragment`, i.e.
  `FragDedup.processFragment`; when that closes the open fragment block the block gets `io_seq_num` **now**
  (backend.c:187) and goes to the pool; a data block gets its number at dequeue (backend.c:331); a fragment
  block coming back from the pool keeps the number it has); `store_io_block`.  `complete` =
  `process_completed_block`: `write_data_block` on the `BlockWriter` state with `flags & ~BLK_FLAG_INTERNAL`,
  then for a fragment block `sqfs_frag_table_set(index, location, size word)` and the `FragDedup` transition
  `blockWritten`.
* `BLK_FLAG_INTERNAL` / `BLK_FLAG_MANUAL_SUBMISSION` (internal.h, both 0x10000000) come from the generated constants
  (`tools/consts.d/C08.list`).
* Not modelled: inodes (block sizes, `block start`, fragment reference are the `W`/`D` answers of the driver
  and are compared by the check), `sqfs_block_processor_submit_block` (manual submission), allocation and I/O
  failures, the backlog counters.  `byteCompare` is `true` (how `lib/common/src/writer/init.c` configures the
  processor).
* `Err.internal`: the worked fragment block that reaches `process_completed_block` differs from what
  `FragDedup.blockWritten` says is stored (other bytes, other compressed bit, or marked sparse).  The two are computed
  from the same bytes by the same rule (`processBlock` vs. `blockWritten`); `Sqfs.C08.stream_no_error` proves this exit —
  like `Err.writer` and `Err.frag` — unreachable: a run can only end in `badEvent` or `unsupported`.
-/
import Sqfs.Generated.Consts
import Sqfs.Model.BlockWriter
import Sqfs.Model.FragDedup
namespace Sqfs.C08Stream
open Sqfs.Consts
open Sqfs.BlockWriter (hasFlag)

abbrev Bytes := List UInt8
abbrev Codec := Sqfs.FragDedup.Codec

/-- `flags & ~c` on a `sqfs_u32` -/
def clearFlag (flags c : Nat) : Nat := flags &&& (0xFFFFFFFF ^^^ c)

inductive Err where
  | unsupported                      -- SQFS_ERROR_UNSUPPORTED: `begin_file` with flags outside `SQFS_BLK_USER_SETTABLE_FLAGS`
  | badEvent                         -- the event is not possible in this state (see the header)
  | frag (e : FragDedup.Err)         -- `process_completed_fragment` failed
  | writer (e : BlockWriter.Err)     -- `write_data_block` failed
  | internal                         -- worked fragment block ≠ what `FragDedup.blockWritten` stores; proved unreachable
deriving DecidableEq, Repr

/-- `sqfs_block_t` as the main thread sees it -/
structure Blk where
  seq   : Nat := 0
  flags : Nat := 0
  data  : Bytes := []
  chk   : UInt32 := 0
  index : Nat := 0          -- fragment blocks: fragment-table index
deriving DecidableEq, Repr

/-! ### front end -/

/-- the `k` full blocks of `data` from offset `off` on (`k` = number of blocks) -/
def fullBlocks (B : Nat) (uflags : Nat) (data : Bytes) : (k : Nat) → (off : Nat) → (first : Bool) → List Blk
  | 0, _, _ => []
  | k + 1, off, first =>
    { flags := if first then uflags ||| blkFirstBlock else uflags, data := BlockWriter.slice data off B }
      :: fullBlocks B uflags data k (off + B) false

/-- what `begin_file(flags)`, `append(data)`…, `end_file` hand to `enqueue_block`, in order (frontend.c) -/
def fileBlocks (B : Nat) (uflags : Nat) (data : Bytes) : List Blk :=
  let n := data.length / B
  let tail := data.drop (n * B)
  let full := fullBlocks B uflags data n 0 true
  -- `blk_flags` after the full blocks: `FIRST` is still set iff there was none
  let bf := if n = 0 then uflags ||| blkFirstBlock else uflags
  let sentinel : List Blk := if n = 0 then [] else [{ flags := uflags ||| blkLastBlock }]
  if tail.length = 0 then full ++ sentinel                                        -- frontend.c:189-194
  else if hasFlag uflags blkDontFragment then
    full ++ [{ flags := bf ||| blkLastBlock, data := tail }]                      -- frontend.c:196-197
  else full ++ sentinel ++ [{ flags := bf ||| blkIsFragment, data := tail }]      -- frontend.c:199-206

/-! ### the worker: `process_block` -/

def allZero (d : Bytes) : Bool := d.all (· == 0)

def processBlock (codec : Codec) (h : Bytes → UInt32) (b : Blk) : Blk :=
  if b.data.length = 0 then b
  else if !hasFlag b.flags (blkIgnoreSparse ||| blkFragmentBlock) && allZero b.data then
    { b with flags := b.flags ||| blkIsSparse }
  else
    let b1 : Blk := { b with chk := if hasFlag b.flags blkDontHash then 0 else h b.data }
    if hasFlag b1.flags (blkIsFragment ||| blkDontCompress) then b1
    else match codec.cmp b1.data with
      | some z => { b1 with data := z, flags := b1.flags ||| blkIsCompressed }
      | none => b1

/-! ### state -/

structure State where
  B        : Nat
  /-- blocks the front end is going to enqueue (filled by `file` events, consumed by `submit`) -/
  pending  : List Blk := []
  /-- `proc->pool`: submitted items in order, already worked -/
  pool     : List Blk := []
  ioQueue  : List Blk := []
  ioSeq    : Nat := 0
  deqSeq   : Nat := 0
  fd       : FragDedup.State := {}
  bw       : BlockWriter.State
  /-- `sqfs_frag_table_t`: `(start_offset, size word)` -/
  fragTbl  : List (Nat × Nat) := []
  /-- ghost: the `write_data_block` calls made so far and the locations returned -/
  calls    : List BlockWriter.Call := []
  locs     : List Nat := []
  /-- ghost: the events the fragment model has seen -/
  fevs     : List FragDedup.Ev := []
  fres     : List (Option FragDedup.Res) := []

def init (B : Nat) (pre : Bytes) : State := { B := B, bw := BlockWriter.init pre }

/-! ### back end -/

/-- `store_io_block`: insert before the first element whose sequence number is not smaller -/
def storeIo (b : Blk) : List Blk → List Blk
  | [] => [b]
  | x :: t => if x.seq < b.seq then x :: storeIo b t else b :: x :: t

/-- the fragment block that `process_completed_fragment` handed to `enqueue_block`, if any: the block that was
open before and is not the open block any more -/
def closedIdx (st st' : FragDedup.State) : Option Nat :=
  match FragDedup.openIndex st with
  | some i => if FragDedup.openIndex st' = some i then none else some i
  | none => none

/-- backend.c:187-190 / block_processor.c:245-252: fragment block `i` (closed in `fd`) gets the next I/O sequence
number and is enqueued: the worker runs, the pool holds it -/
def enqueueFragBlock (codec : Codec) (h : Bytes → UInt32) (s : State) (i : Nat) : State :=
  match s.fd.blocks[i]? with
  | none => s
  | some fb =>
    let blk : Blk := { seq := s.ioSeq, flags := fb.flags, data := fb.data, index := i }
    { s with ioSeq := s.ioSeq + 1, pool := s.pool ++ [processBlock codec h blk] }

/-- new fragment blocks get a `(0, 0)` entry (`sqfs_frag_table_append`, backend.c:201) -/
def growTbl (tbl : List (Nat × Nat)) (n : Nat) : List (Nat × Nat) := tbl ++ List.replicate (n - tbl.length) (0, 0)

/-- what an event answers (compared with the real processor's event log by the check) -/
inductive Out where
  | blocks (n : Nat)                                         -- `file`
  | submitted (b : Blk)                                      -- `submit`: the block before the worker ran
  | fragment (b : Blk) (r : FragDedup.Res) (closed : Option (Nat × Nat))   -- `dequeue` of a tail end; closed = (index, seq)
  | numbered (b : Blk)                                       -- `dequeue` of a data block (with its new number)
  | fragBlock (b : Blk)                                      -- `dequeue` of a fragment block
  | written (c : BlockWriter.Call) (loc size nblocks : Nat)  -- `complete`
  | finished (closed : Option (Nat × Nat))                   -- `finish`
deriving Repr

inductive Ev where
  | file (uflags : Nat) (data : Bytes)
  | submit
  | dequeue
  | complete
  | finish
deriving Repr

/-- `process_completed_fragment(proc, frag)` (backend.c:130-264) -/
def handleFragment (codec : Codec) (h : Bytes → UInt32) (s : State) (frag : Blk) : Except Err (State × Out) :=
  match FragDedup.processFragment codec h true s.B s.fd frag.data frag.flags with
  | .error e => .error (.frag e)
  | .ok (r, fd') =>
    let s1 : State := { s with fd := fd', fragTbl := growTbl s.fragTbl fd'.blocks.length,
                               fevs := s.fevs ++ [.frag frag.data frag.flags], fres := s.fres ++ [some r] }
    match closedIdx s.fd fd' with
    | none => .ok (s1, .fragment frag r none)
    | some i => .ok (enqueueFragBlock codec h s1 i, .fragment frag r (some (i, s1.ioSeq)))

/-- `process_completed_block(proc, blk)` (backend.c:55-128) -/
def completeBlock (codec : Codec) (s : State) (b : Blk) : Except Err (State × Out) :=
  let fl := clearFlag b.flags blkFlagInternal
  match BlockWriter.writeDataBlock s.bw b.chk fl b.data with
  | .error e => .error (.writer e)
  | .ok (bw', loc) =>
    let s1 : State := { s with bw := bw', calls := s.calls ++ [⟨b.chk, fl, b.data⟩], locs := s.locs ++ [loc] }
    let out := Out.written ⟨b.chk, fl, b.data⟩ loc bw'.file.length bw'.blocks.length
    if hasFlag b.flags blkFragmentBlock then
      -- backend.c:61-77: the in-flight copy is dropped; the block is on disk
      match FragDedup.blockWritten codec s.fd b.index with
      | .error e => .error (.frag e)
      | .ok fd' =>
        match fd'.blocks[b.index]? with
        | some ⟨_, .written stored cmp, _⟩ =>
          if stored = b.data ∧ cmp = hasFlag b.flags blkIsCompressed ∧ hasFlag b.flags blkIsSparse = false then
            let s2 : State := { s1 with fd := fd', fevs := s.fevs ++ [.written b.index], fres := s.fres ++ [none] }
            -- backend.c:98-111: `sqfs_frag_table_set(tbl, index, location, size | raw-bit)`
            if b.data.length != 0 then
              .ok ({ s2 with fragTbl := s2.fragTbl.set b.index (loc, BlockWriter.mkWord b.data.length b.flags) }, out)
            else .ok (s2, out)
          else .error .internal
        | _ => .error .internal
    else .ok (s1, out)

def step (codec : Codec) (h : Bytes → UInt32) (s : State) : Ev → Except Err (State × Out)
  | .file uflags data =>
    if uflags &&& blkUserSettable != uflags then .error .unsupported        -- frontend.c:91
    else
      let bs := fileBlocks s.B uflags data
      .ok ({ s with pending := s.pending ++ bs }, .blocks bs.length)
  | .submit =>
    match s.pending with
    | [] => .error .badEvent
    | b :: rest => .ok ({ s with pending := rest, pool := s.pool ++ [processBlock codec h b] }, .submitted b)
  | .dequeue =>
    match s.pool with
    | [] => .error .badEvent
    | blk :: rest =>
      let s0 := { s with pool := rest }
      if hasFlag blk.flags blkIsFragment then handleFragment codec h s0 blk
      else if !hasFlag blk.flags blkFragmentBlock || hasFlag blk.flags blkFlagManualSubmission then
        let b' := { blk with seq := s0.ioSeq }
        .ok ({ s0 with ioSeq := s0.ioSeq + 1, ioQueue := storeIo b' s0.ioQueue }, .numbered b')
      else .ok ({ s0 with ioQueue := storeIo blk s0.ioQueue }, .fragBlock blk)
  | .complete =>
    match s.ioQueue with
    | [] => .error .badEvent
    | b :: rest =>
      if b.seq != s.deqSeq then .error .badEvent
      else completeBlock codec { s with ioQueue := rest, deqSeq := s.deqSeq + 1 } b
  | .finish =>
    -- block_processor.c:241: `sync` has drained the pool and the I/O queue
    if !(s.pending.isEmpty && s.pool.isEmpty && s.ioQueue.isEmpty) then .error .badEvent
    else
      match FragDedup.openIndex s.fd with
      | none => .ok ({ s with fevs := s.fevs ++ [.finish], fres := s.fres ++ [none] }, .finished none)
      | some i =>
        let s1 : State := { s with fd := FragDedup.closeOpen s.fd, fevs := s.fevs ++ [.finish], fres := s.fres ++ [none] }
        .ok (enqueueFragBlock codec h s1 i, .finished (some (i, s1.ioSeq)))

def run (codec : Codec) (h : Bytes → UInt32) (s : State) : List Ev → Except Err (State × List Out)
  | [] => .ok (s, [])
  | e :: es =>
    match step codec h s e with
    | .error x => .error x
    | .ok (s', o) =>
      match run codec h s' es with
      | .error x => .error x
      | .ok (s'', os) => .ok (s'', o :: os)

/-! ### what a reader gets from the *file* -/

/-- `load_frag_block` / `precache_fragment_block` on the block writer's file: read `size` bytes at the table's
`start_offset`, uncompress unless the raw bit is set -/
def fileReadBlock (codec : Codec) (s : State) (idx : Nat) : Option Bytes :=
  match s.fragTbl[idx]? with
  | none => none
  | some (loc, word) =>
    match BlockWriter.readAt s.bw.file loc (word % 2 ^ 24) with
    | none => none
    | some raw => if word &&& (1 <<< 24) != 0 then some raw else codec.unc raw

end Sqfs.C08Stream
