/-
`BlockProc` — the **main-thread state machine** of the block processor
(`lib/sqfs/src/block_processor/{frontend.c, backend.c, block_processor.c}`, `internal.h`), one Lean function per
C function, over an abstract thread pool.  Shared by C02 (determinism); C08/C17 state their theorems against the
pieces `Model/BlockWriter.lean`, `Model/FragDedup.lean`, `Spec/PackSpec.lean`.

What is modelled, and how

* **State** (`Proc`) mirrors `sqfs_block_processor_t`: `frag_block`, `blk_current`, `blk_flags`, `blk_index`,
  `inode`, `begin_called`, `backlog`, `max_backlog` (clamped to ≥ 3 as in `sqfs_block_processor_create_ex`),
  `io_queue` (kept sorted by `io_seq_num` by `store_io_block`), `io_seq_num`, `io_deq_seq_num`, `fblk_in_flight`,
  `cached_frag_blk`, the fragment hash table `frag_ht`, and — in `W` — everything the completed-block path
  writes: the block writer (`Model/BlockWriter.lean`, reused unchanged), the fragment table, the file inodes and
  a ghost log of the `write_data_block` calls.  `free_list`, `stats` and `user` carry no behaviour and are left
  out.
* **Pool.**  The block processor talks to the pool through `submit`, `dequeue`, `get_status` only.  `PoolSt`
  records the calls made so far (`calls`, with the work item identified by its position in `table`), and runs the
  model of `threadpool_serial.c` (`Sqfs.Pool.Serial`, `Spec/Pool.lean`) next to them (`ser`; the field `tracks`
  says `ser = Serial.run … calls`, by construction).  The value a call returns is decided by the *pool behaviour*
  `Params.ans : PoolSt → Op → Ret`: `serialAns` answers what `threadpool_serial.c` answers, `behAns beh` answers
  `beh (calls ++ [op])` for an arbitrary function of the call history (this is how C02 composes with
  `Sqfs.C09.refines_serial`).  The work the pool does on an item, `process_block`, is a pure function of the item
  (nobody else touches a block between `submit` and `dequeue`), so `table` stores the item *already worked*:
  under `serialAns` the pool is a FIFO list of worked items.
  `process_block`: size 0 passes through; all-zero ⇒ `IS_SPARSE` unless `IGNORE_SPARSE`/`FRAGMENT_BLOCK`;
  checksum unless `DONT_HASH`; compressed unless `IS_FRAGMENT`/`DONT_COMPRESS`.  The checksum `h` and the codec
  are parameters.  A failing compressor (`do_block < 0`) is outside this file: `Model/BlockProcFail.lean` adds it (`failCodec`,
  `failSerialAns`), and `sync` below reports it (C09/C13 treat worker failure).
* **Loops** carry explicit fuel and return `Err.fuel` when it runs out; `Sqfs.C02.run_ok` shows that never
  happens.  `dequeue_block` keeps its three early exits and the `SQFS_ERROR_INTERNAL` return exactly as written.
* `proc->frag_ht` is a list searched front to back (`hash_table.c` probes in an order that can differ; at most one
  entry can answer "equal" — `Sqfs.C08.frag_lookup_unique` — so the result is the same).
* `extra[]` of an inode is a function `Nat → Nat` plus `used` (= `payload_bytes_used / 4`); entries never written
  read as 0 (uninitialised memory in C, never inside `used` at the end of a run).
* Counters that are `sqfs_u32`/`size_t` in C (`io_seq_num`, `backlog`, `blk_index`) are `Nat`: no wrap below 2^32
  blocks.
* `sqfs_block_processor_submit_block` (manual submission) is not modelled here (`Model/BlockProcFail.lean`: `submitBlock`); `BLK_FLAG_MANUAL_SUBMISSION` is still
  tested in `dequeueBlock` as the code does.  `begin_file` is always given an inode pointer (the tools do).
-/
import Sqfs.Generated.Consts
import Sqfs.Model.BlockWriter
import Sqfs.Model.FragDedup
import Sqfs.Spec.Pool
namespace Sqfs.BlockProc
open Sqfs.Consts
open Sqfs.BlockWriter (hasFlag)

abbrev Bytes := List UInt8

/-- the block compressor and the matching uncompressor (`sqfs_compressor_t::do_block`), shared with
`Model/FragDedup.lean` and `Model/ToyCodec.lean`.
`cmp x = some z`: returned `|z| > 0`, `z` replaces the data; `none`: returned 0 (keep the input).
`unc z = none`: the uncompressor failed. -/
abbrev Codec := Sqfs.FragDedup.Codec

inductive Err where
  | sequence                       -- SQFS_ERROR_SEQUENCE
  | unsupported                    -- SQFS_ERROR_UNSUPPORTED
  | internal                       -- SQFS_ERROR_INTERNAL: `dequeue_block` found the pool empty (backend.c:315)
  | pool (rc : Int)                -- non-zero pool status
  | alloc                          -- `submit` failed although the status is 0 (frontend.c:73)
  | corrupted                      -- SQFS_ERROR_CORRUPTED (`chunk_info_equals`, `load_frag_block`)
  | outOfBounds                    -- SQFS_ERROR_OUT_OF_BOUNDS (fragment table index / `read_at`)
  | overflow                       -- SQFS_ERROR_OVERFLOW (`uncmp->do_block` returned 0)
  | compressor                     -- `uncmp->do_block` failed
  | writer (e : BlockWriter.Err)   -- `write_data_block` failed
  | nullDeref                      -- `append` of 0 bytes with no open block: NULL dereference in C (frontend.c:171)
  | fuel                           -- artefact of the model: loop fuel exhausted (proved unreachable)
deriving DecidableEq, Repr

/-- `flags & ~c` on a `sqfs_u32` -/
def clearFlag (flags c : Nat) : Nat := flags &&& (0xFFFFFFFF ^^^ c)

def allZero (d : Bytes) : Bool := d.all (· == 0)

/-- `sqfs_block_t` (`size` is `data.length`; `inode` is the position of the file's inode in `W.inodes`) -/
structure Blk where
  seq : Nat := 0
  flags : Nat := 0
  data : Bytes := []
  chk : UInt32 := 0
  index : Nat := 0
  inode : Option Nat := none
deriving DecidableEq, Repr

/-- `chunk_info_t` -/
structure Chunk where
  index : Nat
  offset : Nat
  size : Nat
  hash : UInt32
  flags : Nat
deriving DecidableEq, Repr

/-- the fields of `sqfs_inode_generic_t` the block processor touches -/
structure Inode where
  size : Nat := 0
  extra : Nat → Nat := fun _ => 0
  used : Nat := 0
  start : Nat := 0
  fragIdx : Nat := 0xFFFFFFFF
  fragOff : Nat := 0xFFFFFFFF
  sparse : Nat := 0
  extended : Bool := false

/-- `set_block_size(inode, index, size)` (the `realloc` cannot fail in the model) -/
def Inode.setBlockSize (i : Inode) (index size : Nat) : Inode :=
  { i with extra := fun k => if k = index then size else i.extra k, used := max i.used (index + 1) }

/-- one `write_data_block` call as the writer sees it (`user` is always the pointer given to `begin_file`) -/
structure WrCall where
  chk : UInt32
  flags : Nat
  data : Bytes
deriving DecidableEq, Repr

/-- what `process_completed_block` writes to -/
structure W where
  wr : BlockWriter.State
  fragTbl : List (Nat × Nat) := []          -- `sqfs_frag_table_t`: (start_offset, size word)
  inodes : List Inode := []
  calls : List WrCall := []                 -- ghost: the `write_data_block` calls, in order

/-! ### the pool interface -/

abbrev rc0 : Nat → Int := fun _ => 0

structure PoolSt where
  calls : List Pool.Op := []
  /-- work item `id` = `table[id]`, stored already worked (`processBlock` applied) -/
  table : List Blk := []
  ser : Pool.Serial := Pool.Serial.init
  tracks : ser = Pool.Serial.run rc0 Pool.Serial.init calls := by rfl

def PoolSt.record (p : PoolSt) (op : Pool.Op) (table : List Blk) : PoolSt :=
  { calls := p.calls ++ [op], table := table, ser := Pool.Serial.call rc0 p.ser op,
    tracks := by rw [Pool.Serial.run_append, ← p.tracks]; rfl }

/-- what `threadpool_serial.c` returns for `op` after the calls made so far -/
def serialAns (p : PoolSt) (op : Pool.Op) : Pool.Ret :=
  ((Pool.Serial.call rc0 p.ser op).rets.getLast?).getD .destroyed

/-- the same as a function of the whole call history -/
def serialAnsHist (calls : List Pool.Op) : Pool.Ret :=
  ((Pool.Serial.run rc0 Pool.Serial.init calls).rets.getLast?).getD .destroyed

/-- an arbitrary pool behaviour: the value of the last call of a call history -/
def behAns (beh : List Pool.Op → Pool.Ret) (p : PoolSt) (op : Pool.Op) : Pool.Ret := beh (p.calls ++ [op])

structure Params where
  B : Nat                                   -- `max_block_size`
  codec : Codec
  h : Bytes → UInt32                        -- block checksum (xxh32 in the implementation)
  ans : PoolSt → Pool.Op → Pool.Ret := serialAns
  /-- `desc->file != NULL && desc->uncmp != NULL` (`sqfs_writer_init` passes both) -/
  byteCompare : Bool := true
  /-- what the output file holds when the block writer is created (super block, compressor options) -/
  pre : Bytes := []

/-! ### `process_block` (block_processor.c:10-50), run by the pool on every submitted item -/

def processBlock (P : Params) (b : Blk) : Blk :=
  if b.data.length = 0 then b
  else if !hasFlag b.flags (blkIgnoreSparse ||| blkFragmentBlock) && allZero b.data then
    { b with flags := b.flags ||| blkIsSparse }
  else
    let b1 : Blk := { b with chk := if hasFlag b.flags blkDontHash then 0 else P.h b.data }
    if hasFlag b1.flags (blkIsFragment ||| blkDontCompress) then b1
    else match P.codec.cmp b1.data with
      | some z => if z.length > 0 then { b1 with data := z, flags := b1.flags ||| blkIsCompressed } else b1
      | none => b1

def poolSubmit (P : Params) (p : PoolSt) (b : Blk) : PoolSt × Int :=
  let op := Pool.Op.submit p.table.length
  (p.record op (p.table ++ [processBlock P b]),
    match P.ans p op with
    | .submit rc => rc
    | _ => -1)

def poolDequeue (P : Params) (p : PoolSt) : PoolSt × Option Blk :=
  (p.record .dequeue p.table,
    match P.ans p .dequeue with
    | .deq (some id) => p.table[id]?
    | _ => none)

def poolStatus (P : Params) (p : PoolSt) : PoolSt × Int :=
  (p.record .getStatus p.table,
    match P.ans p .getStatus with
    | .status rc => rc
    | _ => -1)

/-! ### the processor -/

structure Proc where
  maxBacklog : Nat
  -- front end
  beginCalled : Bool := false
  inode : Option Nat := none
  blkFlags : Nat := 0
  blkIndex : Nat := 0
  blkCurrent : Option Blk := none
  -- queues
  backlog : Nat := 0
  fragBlock : Option Blk := none
  pool : PoolSt := {}
  ioQueue : List Blk := []
  ioSeqNum : Nat := 0
  ioDeqSeqNum : Nat := 0
  -- fragment bookkeeping
  fblkInFlight : List (Nat × Bytes) := []
  cachedFragBlk : Option (Nat × Bytes) := none
  fragHt : List Chunk := []
  w : W

/-- `sqfs_block_processor_create_ex`: "we need at least one current data block + one fragment block" -/
def create (P : Params) (maxBacklog : Nat) : Proc :=
  { maxBacklog := if maxBacklog < 3 then 3 else maxBacklog, w := { wr := BlockWriter.init P.pre } }

/-- `release_old_block` -/
def releaseOldBlock (s : Proc) : Proc := { s with backlog := s.backlog - 1 }

def modInode (w : W) (i : Option Nat) (f : Inode → Inode) : W :=
  match i with
  | none => w
  | some i => { w with inodes := w.inodes.modify i f }

/-! #### frontend.c -/

/-- `enqueue_block`: a fragment block leaves a copy of its bytes in `fblk_in_flight` (when the processor can read
blocks back), then the block goes to the pool -/
def enqueueBlock (P : Params) (s : Proc) (b : Blk) : Except Err Proc :=
  if (poolSubmit P s.pool b).2 ≠ 0 then
    .error (if (poolStatus P (poolSubmit P s.pool b).1).2 = 0 then .alloc else .pool (poolStatus P (poolSubmit P s.pool b).1).2)
  else
    .ok { s with fblkInFlight := if hasFlag b.flags blkFragmentBlock && P.byteCompare
                                 then (b.index, b.data) :: s.fblkInFlight else s.fblkInFlight,
                 pool := (poolSubmit P s.pool b).1 }

/-! #### block_processor.c: `load_frag_block`, `chunk_info_equals`; the hash table -/

/-- `proc->frag_block != NULL && proc->frag_block->index == idx`: the open block's bytes -/
def openBytes (o : Option Blk) (idx : Nat) : Option Bytes :=
  match o with
  | some fb => if fb.index = idx then some fb.data else none
  | none => none

/-- `proc->cached_frag_blk != NULL && proc->cached_frag_blk->index == idx` -/
def cacheHit (c : Option (Nat × Bytes)) (idx : Nat) : Option Bytes :=
  match c with
  | some (ci, cd) => if ci = idx then some cd else none
  | none => none

/-- `load_frag_block(proc, index)`: the uncompressed block and the new `cached_frag_blk` -/
def loadFragBlock (P : Params) (s : Proc) (idx : Nat) : Except Err (Bytes × Option (Nat × Bytes)) :=
  match cacheHit s.cachedFragBlk idx with
  | some cd => .ok (cd, s.cachedFragBlk)
  | none =>
    match s.w.fragTbl[idx]? with
    | none => .error .outOfBounds
    | some (start, word) =>
      let size := word % 2 ^ 24                                    -- SQFS_ON_DISK_BLOCK_SIZE
      if size > P.B then .error .corrupted
      else
        match BlockWriter.readAt s.w.wr.file start size with
        | none => .error .outOfBounds
        | some raw =>
          if word &&& (1 <<< 24) = 0 then                          -- SQFS_IS_BLOCK_COMPRESSED
            match P.codec.unc raw with
            | none => .error .compressor
            | some x => if x.isEmpty then .error .overflow else .ok (x, some (idx, x))
          else .ok (raw, some (idx, raw))

/-- the block `it` that `chunk_info_equals` compares against: the in-flight copy, else the open block, else the
block re-read from the output file (through the one-entry cache) -/
def fragBytes (P : Params) (s : Proc) (idx : Nat) : Except Err (Bytes × Option (Nat × Bytes)) :=
  match s.fblkInFlight.find? (fun e => e.1 == idx) with
  | some e => .ok (e.2, s.cachedFragBlk)
  | none =>
    match openBytes s.fragBlock idx with
    | some d => .ok (d, s.cachedFragBlk)
    | none => loadFragBlock P s idx

/-- `chunk_info_equals(proc, key, cmp)` with `proc->current_frag->data = d`; key = `(d.length, hd, kf)`.
Returns the answer and the new cache. -/
def chunkEquals (P : Params) (s : Proc) (d : Bytes) (hd : UInt32) (kf : Nat) (c : Chunk) :
    Except Err (Bool × Option (Nat × Bytes)) :=
  if c.size != d.length || c.hash != hd || c.flags != kf then .ok (false, s.cachedFragBlk)
  else if !P.byteCompare then .ok (true, s.cachedFragBlk)
  else
    match fragBytes P s c.index with
    | .error e => .error e
    | .ok (blk, cache') =>
      if c.offset ≥ blk.length || blk.length - c.offset < c.size then .error .corrupted
      else .ok (BlockWriter.slice blk c.offset c.size == d, cache')

/-- `hash_table_search_pre_hashed`: the first entry the callback calls equal -/
def search (P : Params) (s : Proc) (d : Bytes) (hd : UInt32) (kf : Nat) : List Chunk → Except Err (Option Chunk × Proc)
  | [] => .ok (none, s)
  | c :: rest =>
    match chunkEquals P s d hd kf c with
    | .error e => .error e
    | .ok (true, cache') => .ok (some c, { s with cachedFragBlk := cache' })
    | .ok (false, cache') => search P { s with cachedFragBlk := cache' } d hd kf rest

/-- `hash_table_insert_pre_hashed(ht, hash, chunk, chunk)`: replaces the first entry the callback calls equal, else
adds the new one (`done` = entries already passed) -/
def insert (P : Params) (s : Proc) (d : Bytes) (new : Chunk) (done : List Chunk) : List Chunk → Except Err Proc
  | [] => .ok { s with fragHt := done ++ [new] }
  | c :: rest =>
    match chunkEquals P s d new.hash new.flags c with
    | .error e => .error e
    | .ok (true, cache') => .ok { s with fragHt := done ++ new :: rest, cachedFragBlk := cache' }
    | .ok (false, cache') => insert P { s with cachedFragBlk := cache' } d new (done ++ [c]) rest

/-! #### backend.c -/

/-- `size | (compressed ? 0 : 1 << 24)`: the block size word stored in inodes and in the fragment table -/
def sizeWord (b : Blk) : Nat :=
  if hasFlag b.flags blkIsCompressed then b.data.length else b.data.length ||| (1 <<< 24)

/-- backend.c:88-123: what `process_completed_block` records about a block that was written at `loc` -/
def recordBlock (w : W) (b : Blk) (loc : Nat) : Except Err W :=
  if hasFlag b.flags blkIsSparse then
    .ok (modInode w b.inode (fun i =>
      ({ i with extended := true, sparse := i.sparse + b.data.length } : Inode).setBlockSize b.index 0))
  else if b.data.length != 0 then
    if hasFlag b.flags blkFragmentBlock then
      if b.index < w.fragTbl.length then .ok { w with fragTbl := w.fragTbl.set b.index (loc, sizeWord b) }
      else .error .outOfBounds                                      -- `array_set` beyond `used`
    else .ok (modInode w b.inode (fun i => i.setBlockSize b.index (sizeWord b)))
  else .ok w

/-- the part of `process_completed_block` after the in-flight copy is dropped: everything it does to `W` -/
def completeBlock (w : W) (b : Blk) : Except Err W :=
  match BlockWriter.writeDataBlock w.wr b.chk (clearFlag b.flags blkFlagInternal) b.data with
  | .error e => .error (.writer e)
  | .ok (wr', loc) =>
    match recordBlock { w with wr := wr', calls := w.calls ++ [⟨b.chk, clearFlag b.flags blkFlagInternal, b.data⟩] } b loc with
    | .error e => .error e
    | .ok w2 =>
      .ok (if hasFlag b.flags blkLastBlock then modInode w2 b.inode (fun i => { i with start := loc }) else w2)

/-- `process_completed_block`: the in-flight copy of a fragment block is dropped, the block is written and recorded,
and — whatever the outcome — released -/
def processCompletedBlock (s : Proc) (b : Blk) : Except Err Proc :=
  match completeBlock s.w b with
  | .error e => .error e
  | .ok w' =>
    .ok (releaseOldBlock
      { s with fblkInFlight := if hasFlag b.flags blkFragmentBlock then s.fblkInFlight.eraseP (fun e => e.1 == b.index)
                               else s.fblkInFlight,
               w := w' })

/-- backend.c:151-176: the table lookup of `process_completed_fragment` (skipped under `DONT_DEDUPLICATE`) -/
def lookupFrag (P : Params) (s : Proc) (frag : Blk) : Except Err (Option Chunk × Proc) :=
  if !hasFlag frag.flags blkDontDeduplicate then
    search P s frag.data frag.chk (frag.flags &&& blkDontCompress) s.fragHt
  else .ok (none, s)

/-- backend.c:178-190: the fragment does not fit — the open block gets the next I/O sequence number **now** and goes
to the pool -/
def makeRoom (P : Params) (s : Proc) (len : Nat) : Except Err Proc :=
  match s.fragBlock with
  | some fb =>
    if fb.data.length + len > P.B then
      enqueueBlock P { s with fragBlock := none, ioSeqNum := s.ioSeqNum + 1 } { fb with seq := s.ioSeqNum }
    else .ok s
  | none => .ok s

/-- backend.c:192-217: the fragment becomes the new open block (next table index, offset 0) or is appended to the open
one; result: new state, index, offset -/
def placeFrag (s : Proc) (frag : Blk) : Proc × Nat × Nat :=
  match s.fragBlock with
  | none =>
    ({ s with w := { s.w with fragTbl := s.w.fragTbl ++ [(0, 0)] },
              fragBlock := some { frag with index := s.w.fragTbl.length,
                                            flags := (frag.flags &&& blkDontCompress) ||| blkFragmentBlock } },
     s.w.fragTbl.length, 0)
  | some fb =>
    ({ s with fragBlock := some { fb with data := fb.data ++ frag.data,
                                          flags := fb.flags ||| (frag.flags &&& blkDontCompress) } },
     fb.index, fb.data.length)

/-- backend.c:178-259: a fragment that was not found in the table is stored and recorded -/
def storeFrag (P : Params) (s : Proc) (frag : Blk) : Except Err Proc :=
  match makeRoom P s frag.data.length with
  | .error e => .error e
  | .ok s2 =>
    let r := placeFrag s2 frag
    match insert P r.1 frag.data ⟨r.2.1, r.2.2, frag.data.length, frag.chk, frag.flags &&& blkDontCompress⟩ [] r.1.fragHt with
    | .error e => .error e
    | .ok s4 =>
      let s5 : Proc := { s4 with w := modInode s4.w frag.inode (fun i => { i with fragIdx := r.2.1, fragOff := r.2.2 }) }
      -- `if (frag != proc->frag_block) release_old_block(proc, frag);`
      .ok (match s2.fragBlock with
           | none => s5
           | some _ => releaseOldBlock s5)

/-- `process_completed_fragment` -/
def processCompletedFragment (P : Params) (s : Proc) (frag : Blk) : Except Err Proc :=
  if hasFlag frag.flags blkIsSparse then
    .ok (releaseOldBlock { s with w := modInode s.w frag.inode (fun i =>
      let i1 := ({ i with extended := true } : Inode).setBlockSize frag.index 0
      { i1 with sparse := i1.sparse + frag.data.length }) })
  else
    match lookupFrag P s frag with
    | .error e => .error e
    | .ok (some c, s1) =>
      .ok (releaseOldBlock { s1 with w := modInode s1.w frag.inode (fun i => { i with fragIdx := c.index, fragOff := c.offset }) })
    | .ok (none, s1) => storeFrag P s1 frag

/-- `store_io_block`: insert before the first element whose sequence number is not smaller -/
def storeIo (b : Blk) : List Blk → List Blk
  | [] => [b]
  | x :: t => if x.seq < b.seq then x :: storeIo b t else b :: x :: t

/-- the `while (proc->io_queue != NULL)` loop of `dequeue_block` -/
def releaseGo : Nat → Proc → Except Err Proc
  | 0, s =>
    match s.ioQueue with
    | [] => .ok s
    | b :: _ => if b.seq != s.ioDeqSeqNum then .ok s else .error .fuel
  | fuel + 1, s =>
    match s.ioQueue with
    | [] => .ok s
    | b :: rest =>
      if b.seq != s.ioDeqSeqNum then .ok s
      else
        match processCompletedBlock { s with ioQueue := rest, ioDeqSeqNum := s.ioDeqSeqNum + 1 } b with
        | .error e => .error e
        | .ok s' => releaseGo fuel s'

def release (s : Proc) : Except Err Proc := releaseGo s.ioQueue.length s

/-- does this block get its I/O sequence number when it is dequeued (backend.c:324)? -/
def numberedAtDequeue (b : Blk) : Bool :=
  !hasFlag b.flags blkFragmentBlock || hasFlag b.flags blkFlagManualSubmission

/-- the three early exits shared by `dequeue_block` and `sqfs_block_processor_sync` do not apply -/
def mustWait (s : Proc) : Bool :=
  !(s.backlog == 1 && (s.fragBlock.isSome || s.blkCurrent.isSome)) &&
  !(s.backlog == 2 && s.fragBlock.isSome && s.blkCurrent.isSome)

/-- what `dequeue_block` does with an item the pool handed back -/
def handleDequeued (P : Params) (s : Proc) (blk : Blk) : Except Err Proc :=
  if hasFlag blk.flags blkIsFragment then processCompletedFragment P s blk
  else if numberedAtDequeue blk then
    .ok { s with ioSeqNum := s.ioSeqNum + 1, ioQueue := storeIo { blk with seq := s.ioSeqNum } s.ioQueue }
  else .ok { s with ioQueue := storeIo blk s.ioQueue }

/-- the `do { … } while (proc->backlog >= backlog_old)` loop of `dequeue_block` -/
def dequeueGo (P : Params) (backlogOld : Nat) : Nat → Proc → Except Err Proc
  | 0, _ => .error .fuel
  | fuel + 1, s =>
    match release s with
    | .error e => .error e
    | .ok s1 =>
      if s1.backlog < backlogOld then .ok s1
      else if !mustWait s1 then .ok s1
      else
        let r := poolDequeue P s1.pool
        match r.2 with
        | none =>
          let st := poolStatus P r.1
          .error (if st.2 ≠ 0 then .pool st.2 else .internal)
        | some blk =>
          match handleDequeued P { s1 with pool := r.1 } blk with
          | .error e => .error e
          | .ok s2 => if s2.backlog ≥ backlogOld then dequeueGo P backlogOld fuel s2 else .ok s2

/-- `dequeue_block` -/
def dequeueBlock (P : Params) (s : Proc) : Except Err Proc := dequeueGo P s.backlog (2 * s.backlog + 1) s

/-- the `while (proc->backlog >= proc->max_backlog)` loop of `get_new_block` -/
def getNewBlockGo (P : Params) : Nat → Proc → Except Err Proc
  | 0, _ => .error .fuel
  | fuel + 1, s =>
    if s.backlog ≥ s.maxBacklog then
      match dequeueBlock P s with
      | .error e => .error e
      | .ok s' => getNewBlockGo P fuel s'
    else .ok { s with backlog := s.backlog + 1 }

/-- `get_new_block`; the block itself is all zero (`memset`), i.e. `({} : Blk)` -/
def getNewBlock (P : Params) (s : Proc) : Except Err Proc := getNewBlockGo P (s.backlog + 1) s

/-- `add_sentinel_block` -/
def addSentinelBlock (P : Params) (s : Proc) : Except Err Proc :=
  match getNewBlock P s with
  | .error e => .error e
  | .ok s1 => enqueueBlock P s1 { inode := s1.inode, flags := s1.blkFlags ||| blkLastBlock }

/-- `sqfs_block_processor_begin_file(proc, &inode, user, flags)` -/
def beginFile (s : Proc) (flags : Nat) : Except Err Proc :=
  if s.beginCalled then .error .sequence
  else if flags &&& blkUserSettable != flags then .error .unsupported           -- `flags & ~USER_SETTABLE`
  else
    .ok { s with w := { s.w with inodes := s.w.inodes ++ [{}] }, beginCalled := true,
                 inode := some s.w.inodes.length, blkFlags := flags ||| blkFirstBlock, blkIndex := 0 }

/-- the `while (size > 0)` loop of `sqfs_block_processor_append` and the test after it -/
def appendGo (P : Params) : Nat → Proc → Bytes → Except Err Proc
  | 0, _, _ => .error .fuel
  | fuel + 1, s, data =>
    if data.length = 0 then
      match s.blkCurrent with
      | none => .error .nullDeref
      | some cur =>
        if cur.data.length = P.B then enqueueBlock P { s with blkCurrent := none } cur
        else .ok s
    else
      match s.blkCurrent with
      | none =>
        match getNewBlock P s with
        | .error e => .error e
        | .ok s1 =>
          appendGo P fuel
            { s1 with blkCurrent := some { flags := s1.blkFlags, inode := s1.inode, index := s1.blkIndex },
                      blkIndex := s1.blkIndex + 1, blkFlags := clearFlag s1.blkFlags blkFirstBlock } data
      | some cur =>
        let diff := P.B - cur.data.length
        if diff = 0 then
          match enqueueBlock P { s with blkCurrent := none } cur with
          | .error e => .error e
          | .ok s1 => appendGo P fuel s1 data
        else
          let n := min diff data.length
          appendGo P fuel { s with blkCurrent := some { cur with data := cur.data ++ data.take n } } (data.drop n)

/-- `sqfs_block_processor_append(proc, data, size)` -/
def append (P : Params) (s : Proc) (data : Bytes) : Except Err Proc :=
  if !s.beginCalled then .error .sequence
  else
    appendGo P (3 * data.length + 3)
      { s with w := modInode s.w s.inode (fun i => { i with size := i.size + data.length }) } data

/-- `sqfs_block_processor_end_file` -/
def endFile (P : Params) (s : Proc) : Except Err Proc :=
  if !s.beginCalled then .error .sequence
  else
    match (match s.blkCurrent with
           | none =>
             if !hasFlag s.blkFlags blkFirstBlock then addSentinelBlock P s else .ok s
           | some cur =>
             if hasFlag s.blkFlags blkDontFragment then
               enqueueBlock P { s with blkCurrent := none } { cur with flags := cur.flags ||| blkLastBlock }
             else
               match (if !hasFlag cur.flags blkFirstBlock then addSentinelBlock P s else .ok s) with
               | .error e => .error e
               | .ok s1 => enqueueBlock P { s1 with blkCurrent := none } { cur with flags := cur.flags ||| blkIsFragment }) with
    | .error e => .error e
    | .ok s2 => .ok { s2 with beginCalled := false, inode := none, blkFlags := 0 }

/-! #### block_processor.c: `sync`, `finish` -/

/-- the `for (;;)` loop of `sqfs_block_processor_sync` -/
def syncGo (P : Params) : Nat → Proc → Except Err Proc
  | 0, _ => .error .fuel
  | fuel + 1, s =>
    if s.backlog = 0 then .ok s
    else if !mustWait s then .ok s
    else
      match dequeueBlock P s with
      | .error e => .error e
      | .ok s' => syncGo P fuel s'

/-- the `for (;;)` loop of `sqfs_block_processor_sync` with its fuel: everything the main thread need not hold
itself is dequeued.  (Before /repo 69db961 this was the whole of `sync`.) -/
def syncDrain (P : Params) (s : Proc) : Except Err Proc := syncGo P (s.backlog + 1) s

/-- `sqfs_block_processor_sync` (block_processor.c:205-234): the drain, then
`return proc->pool->get_status(proc->pool);` — a worker failure nobody has looked at yet is reported here -/
def sync (P : Params) (s : Proc) : Except Err Proc :=
  match syncDrain P s with
  | .error e => .error e
  | .ok s1 =>
    if (poolStatus P s1.pool).2 ≠ 0 then .error (.pool (poolStatus P s1.pool).2)
    else .ok { s1 with pool := (poolStatus P s1.pool).1 }

/-- `sqfs_block_processor_finish` -/
def finish (P : Params) (s : Proc) : Except Err Proc :=
  match sync P s with
  | .error e => .error e
  | .ok s1 =>
    match s1.fragBlock with
    | none => .ok s1
    | some fb =>
      match enqueueBlock P { s1 with fragBlock := none, ioSeqNum := s1.ioSeqNum + 1 } { fb with seq := s1.ioSeqNum } with
      | .error e => .error e
      | .ok s2 => sync P s2

/-! ### a whole run: what the packers do (through `lib/sqfs/src/block_processor/ostream.c`; `bin/*/`) -/

/-- one input file: user flags (`SQFS_BLK_*`, after `-T` handling) and content -/
structure InFile where
  flags : Nat
  data : Bytes
deriving DecidableEq, Repr

/-- `begin_file`, `append` (not called for an empty file), `end_file`.  With `sy` the caller also calls the public
`sqfs_block_processor_sync` before `end_file`, i.e. while the file is still open (the packers never do; a library
user may) -/
def packFile (P : Params) (s : Proc) (f : InFile) (sy : Bool := false) : Except Err Proc :=
  match beginFile s f.flags with
  | .error e => .error e
  | .ok s1 =>
    match (if f.data.length = 0 then .ok s1 else append P s1 f.data) with
    | .error e => .error e
    | .ok s2 =>
      match (if sy then sync P s2 else .ok s2) with
      | .error e => .error e
      | .ok s3 => endFile P s3

def packFiles (P : Params) (s : Proc) (files : List InFile) (sy : Bool := false) : Except Err Proc :=
  match files with
  | [] => .ok s
  | f :: fs =>
    match packFile P s f sy with
    | .error e => .error e
    | .ok s' => packFiles P s' fs sy

/-- the inode fields the tools serialise for a file -/
structure FileRes where
  size : Nat
  words : List Nat
  start : Nat
  fragIdx : Nat
  fragOff : Nat
  sparse : Nat
  extended : Bool
deriving DecidableEq, Repr

def Inode.res (i : Inode) : FileRes :=
  ⟨i.size, (List.range i.used).map i.extra, i.start, i.fragIdx, i.fragOff, i.sparse, i.extended⟩

/-- the observables: the `write_data_block` calls in order, the output file, the fragment table, the inodes -/
structure Output where
  calls : List WrCall
  file : Bytes
  frags : List (Nat × Nat)
  files : List FileRes
deriving DecidableEq, Repr

def W.output (w : W) : Output := ⟨w.calls, w.wr.file, w.fragTbl, w.inodes.map Inode.res⟩

/-- **the run**: create the processor with `max_backlog = mb`, pack the files in order, `finish` -/
def runProc (P : Params) (mb : Nat) (files : List InFile) (sy : Bool := false) : Except Err Proc :=
  match packFiles P (create P mb) files sy with
  | .error e => .error e
  | .ok s => finish P s

def run (P : Params) (mb : Nat) (files : List InFile) (sy : Bool := false) : Except Err Output :=
  match runProc P mb files sy with
  | .error e => .error e
  | .ok s => .ok s.w.output

end Sqfs.BlockProc
