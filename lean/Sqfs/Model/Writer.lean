/-
Model of the packers' output-file protocol (C14; `Model/EncBytes` of C01 builds on it).

What is modelled, function by function (all under /repo):

* `lib/sqfs/src/io/file.c`   `stdio_write_at`, `stdio_truncate`, `stdio_get_size`, `stdio_read_at`
                             → `fWrite`, `fTrunc`, `WState.size`, `readAt`; the file itself is a byte list
                             under the two system calls the code issues on it (`pwrite`, `ftruncate`) → `Op`.
* `lib/sqfs/src/super.c`, `write_super.c`, `read_super.c` → `superInit`, `Super.encode`, `superRead`.
* `lib/sqfs/src/id_table.c`  `sqfs_id_table_read` up to and including the location-list read of
                             `sqfs_read_table` → `idTableStage`;  `sqfs_id_table_write` → `idTableWrite`.
* `lib/sqfs/src/comp/compressor.c` `sqfs_generic_write_options` → `writeOptions`.
* `lib/sqfs/src/block_writer.c` `write_data_block`, `deduplicate_blocks`,
  `lib/util/src/file_cmp.c` `check_file_range_equal` → `writeDataBlock`, `dedup`, `rangeCmp`.
* `lib/sqfs/src/meta_writer.c` `flush`, `append`, `write_block`, `write_to_file`, `reset` → `metaFlush`, …
* `lib/sqfs/src/write_table.c` → `writeTable`;  `frag_table.c: sqfs_frag_table_write` → `fragTableWrite`;
  `dir_writer.c: sqfs_dir_writer_write_export_table` → `exportTableWrite`.
* `lib/sqfs/src/xattr/xattr_writer_flush.c` `sqfs_xattr_writer_flush` (file operations and location table;
  the key/value records are an abstract payload) → `xattrFlush`.
* `lib/common/src/writer/init.c`, `serialize_fstree.c`, `finish.c` → `wInit`, `serialize`, `tables` / `preFinal` / `finalSuper` / `commit` / `padd` (`sqfs_writer_finish`), `run`.

Abstract payloads (`Run`): what the data blocks, inode/directory records, tables and xattr records *contain*
is input; the compressor is an arbitrary function `cmp`.  What the model fixes is every offset, length and
order of the system calls on the output file, and every byte of the two superblock writes.

Errors are sticky (`WState.err`): once a primitive or a modelled check fails the C code returns the error up
to `main`, which issues no further output-file call; in the model `fWrite`/`fTrunc` become no-ops.

Failing runs (`Fault`, `Run.fault`, `Run.inputError`): a run may be subjected to a failure at any step — the
output call that would be the `k`-th fails (ENOSPC/EIO, or any other failure detected at that point: allocation,
read error), the file cannot grow beyond `n` bytes, or the input turns out to be damaged/truncated while the data
is being packed.  `stdio_write_at`/`stdio_truncate` then return `SQFS_ERROR_IO` without having changed the file,
every caller returns the error (`if (ret) return ret;` … `goto out`), `main` calls `sqfs_writer_cleanup` with
`EXIT_FAILURE`, which issues exactly one more call on the output path: `unlink` (`unlinkAtExit`).  In
particular `sqfs_writer_finish` reaches the final `sqfs_super_write` only if every earlier step succeeded.
-/
import Sqfs.Generated.Consts
namespace Sqfs.Writer
open Sqfs.Consts

abbrev Bytes := List UInt8

def zeros (n : Nat) : Bytes := List.replicate n 0

/-! ## The output file under the two system calls issued on it -/

inductive Op where
  | pwrite (off : Nat) (data : Bytes)
  | ftruncate (len : Nat)
deriving Repr, DecidableEq

/-- POSIX `pwrite` of all of `d` at `off` (a gap beyond EOF reads as zeros). -/
def filePwrite (f : Bytes) (off : Nat) (d : Bytes) : Bytes :=
  f.take off ++ zeros (off - f.length) ++ d ++ f.drop (off + d.length)

/-- POSIX `ftruncate` (extension reads as zeros). -/
def fileTrunc (f : Bytes) (n : Nat) : Bytes := f.take n ++ zeros (n - f.length)

def Op.apply : Op → Bytes → Bytes
  | .pwrite off d, f => filePwrite f off d
  | .ftruncate n, f => fileTrunc f n

def applyOps (f : Bytes) (ops : List Op) : Bytes := ops.foldl (fun f o => o.apply f) f

/-- The file left behind by a process that created the (empty) output file and then issued `ops`. -/
def image (ops : List Op) : Bytes := applyOps [] ops

/-- An operation that cannot touch the superblock region `[0, sizeof(sqfs_super_t))`. -/
def Op.Safe : Op → Prop
  | .pwrite off _ => sizeofSuper ≤ off
  | .ftruncate n => sizeofSuper ≤ n

instance : DecidablePred Op.Safe := fun o => by
  cases o <;> simp only [Op.Safe] <;> exact inferInstance

/-! ## Little-endian fields -/

def le : Nat → Nat → Bytes
  | 0, _ => []
  | n + 1, v => UInt8.ofNat (v % 256) :: le n (v / 256)

def leVal : Bytes → Nat
  | [] => 0
  | b :: r => b.toNat + 256 * leVal r

/-- `n`-byte little-endian field at offset `off`. -/
def field (b : Bytes) (off n : Nat) : Nat := leVal ((b.drop off).take n)

/-! ## Superblock (`sqfs_super_t`) -/

structure Super where
  magic : Nat := 0
  inodeCount : Nat := 0
  mtime : Nat := 0
  blockSize : Nat := 0
  fragCount : Nat := 0
  compId : Nat := 0
  blockLog : Nat := 0
  flags : Nat := 0
  idCount : Nat := 0
  vMajor : Nat := 0
  vMinor : Nat := 0
  rootRef : Nat := 0
  bytesUsed : Nat := 0
  idStart : Nat := 0
  xattrStart : Nat := 0
  inodeStart : Nat := 0
  dirStart : Nat := 0
  fragStart : Nat := 0
  exportStart : Nat := 0
deriving Repr, DecidableEq, Inhabited

/-- `0xFFFFFFFFFFFFFFFF`, "table not present". -/
def unset : Nat := 0xFFFFFFFFFFFFFFFF

/-- `sqfs_super_write`: the struct's fields in declaration order, each `htoleNN`. -/
def Super.encode (s : Super) : Bytes :=
  le 4 s.magic ++ le 4 s.inodeCount ++ le 4 s.mtime ++ le 4 s.blockSize ++ le 4 s.fragCount ++
  le 2 s.compId ++ le 2 s.blockLog ++ le 2 s.flags ++ le 2 s.idCount ++ le 2 s.vMajor ++ le 2 s.vMinor ++
  le 8 s.rootRef ++ le 8 s.bytesUsed ++ le 8 s.idStart ++ le 8 s.xattrStart ++ le 8 s.inodeStart ++
  le 8 s.dirStart ++ le 8 s.fragStart ++ le 8 s.exportStart

/-- the `leNNtoh` block of `sqfs_super_read`, fields located by the generated `offsetof` constants -/
def Super.decode (b : Bytes) : Super where
  magic := field b offSuperMagic 4
  inodeCount := field b offSuperInodeCount 4
  mtime := field b offSuperMtime 4
  blockSize := field b offSuperBlockSize 4
  fragCount := field b offSuperFragCount 4
  compId := field b offSuperCompId 2
  blockLog := field b offSuperBlockLog 2
  flags := field b offSuperFlags 2
  idCount := field b offSuperIdCount 2
  vMajor := field b offSuperVersionMajor 2
  vMinor := field b offSuperVersionMinor 2
  rootRef := field b offSuperRootInode 8
  bytesUsed := field b offSuperBytesUsed 8
  idStart := field b offSuperIdTable 8
  xattrStart := field b offSuperXattrTable 8
  inodeStart := field b offSuperInodeTable 8
  dirStart := field b offSuperDirTable 8
  fragStart := field b offSuperFragTable 8
  exportStart := field b offSuperExportTable 8

/-- `for (i = block_size; i != 0x01; i >>= 1) super->block_log += 1;` (fuel 64 ≥ bit width of `unsigned int`;
`i = 0` would not terminate in C and is excluded by the range checks before the loop). -/
def blockLogLoop : Nat → Nat → Nat → Nat
  | 0, _, acc => acc
  | fuel + 1, i, acc => if i = 1 then acc else blockLogLoop fuel (i / 2) (acc + 1)

/-- `sqfs_super_init`; `.error` carries `-SQFS_ERROR_*`. -/
def superInit (blockSize mtime compId : Nat) : Except Nat Super :=
  if blockSize &&& (blockSize - 1) ≠ 0 then .error errSuperBlockSize
  else if blockSize < minBlockSize then .error errSuperBlockSize
  else if blockSize > maxBlockSize then .error errSuperBlockSize
  else .ok {
    magic := magic
    mtime := mtime % 2 ^ 32
    blockSize := blockSize
    compId := compId % 2 ^ 16
    flags := flagNoFragments ||| flagNoXattrs ||| flagNoDuplicates
    vMajor := versionMajor
    vMinor := versionMinor
    bytesUsed := sizeofSuper
    idStart := unset, xattrStart := unset, inodeStart := unset
    dirStart := unset, fragStart := unset, exportStart := unset
    blockLog := blockLogLoop 64 blockSize 0 }

/-- `stdio_read_at` on the byte list: all `n` bytes from `off`, or `SQFS_ERROR_OUT_OF_BOUNDS` (pread returned 0). -/
def readAt (f : Bytes) (off n : Nat) : Except Nat Bytes :=
  if n = 0 then .ok []                                       -- `while (size > 0)` never runs
  else if off + n ≤ f.length then .ok ((f.drop off).take n) else .error errOutOfBounds

/-- `sqfs_super_read`, checks in source order. -/
def superRead (f : Bytes) : Except Nat Super :=
  match readAt f 0 sizeofSuper with
  | .error e => .error e
  | .ok raw =>
    let t := Super.decode raw
    if t.magic ≠ magic then .error errSuperMagic
    else if t.vMajor ≠ versionMajor ∨ t.vMinor ≠ versionMinor then .error errSuperVersion
    else if ((t.blockSize + 2 ^ 32 - 1) % 2 ^ 32) &&& t.blockSize ≠ 0 then .error errSuperBlockSize
    else if t.blockSize < minBlockSize then .error errSuperBlockSize
    else if t.blockSize > maxBlockSize then .error errSuperBlockSize
    else if t.blockLog < 12 ∨ t.blockLog > 20 then .error errCorrupted
    else if t.blockSize ≠ 2 ^ t.blockLog then .error errCorrupted
    else if t.compId < compMin ∨ t.compId > compMax then .error errUnsupported
    else if t.idCount = 0 then .error errCorrupted
    else .ok t

/-- number of metadata blocks of a table of `size` bytes (`sqfs_write_table`, `sqfs_read_table`) -/
def tableBlocks (size : Nat) : Nat :=
  size / metaBlockSize + (if size % metaBlockSize ≠ 0 then 1 else 0)

/-- `sqfs_id_table_read` as far as it does not depend on decompression: the entry check and the read of the
location list by `sqfs_read_table`.  (The metadata blocks themselves are read after this.) -/
def idTableStage (f : Bytes) (s : Super) : Except Nat Unit :=
  if s.idCount = 0 ∨ s.idStart ≥ s.bytesUsed then .error errCorrupted
  else match readAt f s.idStart (8 * tableBlocks (s.idCount * 4)) with
    | .error e => .error e
    | .ok _ => .ok ()

/-- What every reader (`rdsquashfs`, `sqfs2tar`, `sqfsdiff`) evaluates before it decodes anything:
`sqfs_super_read` and the entry of `sqfs_id_table_read`. -/
def readerVerdict (f : Bytes) : Except Nat Unit :=
  match superRead f with
  | .error e => .error e
  | .ok s => idTableStage f s

def readerAccepts (f : Bytes) : Bool :=
  match readerVerdict f with
  | .ok _ => true
  | .error _ => false

/-! ## Writer state and the two file primitives -/

/-- The failure a run is subjected to (none by default).

* `failAt = some k`: the run fails when `k` output calls have been issued — the output call that would be the
  `k`-th (0-based) returns an error (ENOSPC, EIO, …; `pwrite`/`ftruncate` return -1 without changing the file), or a
  failure of another kind (allocation, read error) is reported by the step that would issue it.
* `limit = some n`: "disk full" — every call that would make the file longer than it is *and* longer than `n`
  bytes fails; calls that stay within the bytes already there (such as the final superblock write) succeed. -/
structure Fault where
  failAt : Option Nat := none
  limit : Option Nat := none
deriving Repr, DecidableEq

structure WState where
  ops : List Op := []
  /-- contents of the output file (ghost: `image ops` in every state of the invariant `Good`, its field `file`, Proofs/WriterStep.lean) -/
  file : Bytes := []
  /-- `sqfs_file_stdio_t.size` -/
  size : Nat := 0
  /-- sticky error, `-SQFS_ERROR_*` -/
  err : Option Nat := none
  /-- the injected failure (constant during a run) -/
  fault : Fault := {}
deriving Repr, DecidableEq

/-- does the output call that is about to be issued, and that would leave the file `newLen` bytes long if that is
more than it has now, fail? -/
def WState.faults (s : WState) (newLen : Nat) : Bool :=
  s.fault.failAt == some s.ops.length ||
  (match s.fault.limit with
   | some l => decide (l < newLen ∧ s.file.length < newLen)
   | none => false)

def WState.fail (s : WState) (e : Nat) : WState :=
  if s.err.isSome then s else { s with err := some e }

/-- `stdio_write_at`: no system call for an empty buffer, but `file->size` is still raised to `offset`.
A failing `pwrite` (`ret < 0`, not EINTR): `return SQFS_ERROR_IO`, nothing else changes. -/
def fWrite (s : WState) (off : Nat) (d : Bytes) : WState :=
  if s.err.isSome then s else
  if d.length ≠ 0 ∧ s.faults (off + d.length) = true then { s with err := some errIo } else
  { s with
    ops := if d.length = 0 then s.ops else s.ops ++ [.pwrite off d]
    file := if d.length = 0 then s.file else filePwrite s.file off d
    size := if off + d.length ≥ s.size then off + d.length else s.size }

/-- `stdio_truncate` (`sqfs_native_file_seek(…TRUNCATE)`: a failing `ftruncate` gives `SQFS_ERROR_IO`) -/
def fTrunc (s : WState) (n : Nat) : WState :=
  if s.err.isSome then s else
  if s.faults n = true then { s with err := some errIo } else
  { s with ops := s.ops ++ [.ftruncate n], file := fileTrunc s.file n, size := n }

/-! ## Compressor options (`sqfs_generic_write_options`) -/

/-- returns the new state and whether `SQFS_FLAG_COMPRESSOR_OPTIONS` is to be set (`ret > 0`).  An empty `opts`
models a compressor whose `write_options` returns 0 without writing. -/
def writeOptions (s : WState) (opts : Bytes) : WState × Bool :=
  if opts.length = 0 then (s, false)
  else if opts.length ≥ 64 - 2 then (s.fail errInternal, false)
  else (fWrite s sizeofSuper (le 2 (0x8000 ||| opts.length) ++ opts), true)

/-! ## Metadata writer -/

abbrev Cmp := Bytes → Option Bytes

structure MetaW where
  /-- `m->data[0 .. m->offset)` -/
  data : Bytes := []
  blockOffset : Nat := 0
  /-- `SQFS_META_WRITER_KEEP_IN_MEMORY` -/
  keep : Bool := false
  /-- queued `outblk->data` buffers -/
  list : List Bytes := []
deriving Repr

/-- `outblk->data` (2-byte header + payload, `calloc`ed to `SQFS_META_BLOCK_SIZE + 2`) and `count`. -/
def metaOutBlk (cmp : Cmp) (d : Bytes) : Bytes × Nat :=
  let body : Bytes × Nat := match cmp d with
    | some c => if c.length = 0 then (d, d.length ||| 0x8000) else (c, c.length)
    | none => (d, d.length ||| 0x8000)
  let buf := le 2 body.2 ++ body.1
  (buf ++ zeros (metaBlockSize + 2 - buf.length), body.1.length + 2)

/-- `write_block`: `count = header & 0x7FFF`, `count + 2` bytes at `get_size` -/
def metaWriteBlock (s : WState) (buf : Bytes) : WState :=
  let count := field buf 0 2 &&& 0x7FFF
  fWrite s s.size (buf.take (count + 2))

/-- `sqfs_meta_writer_flush` -/
def metaFlush (cmp : Cmp) (s : WState) (m : MetaW) : WState × MetaW :=
  if m.data.length = 0 then (s, m) else
  let (buf, count) := metaOutBlk cmp m.data
  if m.keep then (s, { m with list := m.list ++ [buf], data := [], blockOffset := m.blockOffset + count })
  else (metaWriteBlock s buf, { m with data := [], blockOffset := m.blockOffset + count })

/-- `sqfs_meta_writer_append`; fuel = number of bytes still to copy (each round copies at least one) -/
def metaAppendLoop (cmp : Cmp) : Nat → WState → MetaW → Bytes → WState × MetaW
  | 0, s, m, _ => (s, m)
  | fuel + 1, s, m, d =>
    if d.length = 0 then (s, m) else
    let sm := if metaBlockSize - m.data.length = 0 then metaFlush cmp s m else (s, m)
    let diff := min (metaBlockSize - sm.2.data.length) d.length
    metaAppendLoop cmp fuel sm.1 { sm.2 with data := sm.2.data ++ d.take diff } (d.drop diff)

def metaAppend (cmp : Cmp) (s : WState) (m : MetaW) (d : Bytes) : WState × MetaW :=
  let sm := metaAppendLoop cmp d.length s m d
  if sm.2.data.length = metaBlockSize then metaFlush cmp sm.1 sm.2 else sm

def metaAppendAll (cmp : Cmp) (s : WState) (m : MetaW) : List Bytes → WState × MetaW
  | [] => (s, m)
  | d :: r => let sm := metaAppend cmp s m d; metaAppendAll cmp sm.1 sm.2 r

/-- `sqfs_meta_write_write_to_file` -/
def metaWriteList (s : WState) : List Bytes → WState
  | [] => s
  | b :: r => metaWriteList (metaWriteBlock s b) r

/-! ## Block writer -/

structure Blk where
  offset : Nat
  hash : Nat
deriving Repr, DecidableEq, Inhabited

structure BlockW where
  /-- `wr->blocks.data[0 .. used)` -/
  blocks : List Blk := []
  fileStart : Nat := 0
deriving Repr

/-- one `write_data_block` call: payload, `SQFS_BLK_*` flags, checksum -/
structure BlkCall where
  data : Bytes
  flags : Nat
  chksum : Nat
deriving Repr

def hasFlag (flags bit : Nat) : Bool := flags &&& bit ≠ 0

/-- `MK_BLK_HASH` -/
def mkBlkHash (chksum size : Nat) : Nat := ((size % 2 ^ 32) <<< 32) ||| (chksum % 2 ^ 32)
/-- `SIZE_FROM_HASH` -/
def sizeFromHash (h : Nat) : Nat := (h >>> 32) &&& (2 ^ 24 - 1)

/-- `check_file_range_equal` with `scratch_sz / 2`-byte chunks: `.ok true` = 0 (equal), `.ok false` = 1,
`.error` = a read beyond EOF.  Fuel = bytes left. -/
def rangeCmp (f : Bytes) : Nat → Nat → Nat → Nat → Except Nat Bool
  | 0, _, _, _ => .ok true
  | fuel + 1, a, b, sz =>
    if sz = 0 then .ok true else
    let diff := min (blockWriterScratch / 2) sz
    match readAt f a diff, readAt f b diff with
    | .error e, _ => .error e
    | _, .error e => .error e
    | .ok x, .ok y => if x ≠ y then .ok false else rangeCmp f fuel (a + diff) (b + diff) (sz - diff)

def hashAt (blocks : List Blk) (i : Nat) : Nat := (blocks.getD i ⟨0, 0⟩).hash
def offsetAt (blocks : List Blk) (i : Nat) : Nat := (blocks.getD i ⟨0, 0⟩).offset

/-- the inner `for (j …)` of `deduplicate_blocks`: all `count` hashes equal -/
def hashesMatch (blocks : List Blk) (i fileStart : Nat) : Nat → Bool
  | 0 => true
  | j + 1 => hashesMatch blocks i fileStart j && (hashAt blocks (i + j) == hashAt blocks (fileStart + j))

/-- the outer `for (i …)`: first `i < file_start` whose hashes match and whose bytes are equal; `fileStart` if none -/
def dedupSearch (f : Bytes) (blocks : List Blk) (fileStart count locA sz : Nat) : Nat → Nat → Except Nat Nat
  | 0, i => .ok i
  | fuel + 1, i =>
    if hashesMatch blocks i fileStart count then
      match rangeCmp f sz locA (offsetAt blocks i) sz with
      | .error e => .error e
      | .ok true => .ok i
      | .ok false => dedupSearch f blocks fileStart count locA sz fuel (i + 1)
    else dedupSearch f blocks fileStart count locA sz fuel (i + 1)

def sumSizes (blocks : List Blk) (start : Nat) : Nat → Nat
  | 0 => 0
  | n + 1 => sumSizes blocks start n + sizeFromHash (hashAt blocks (start + n))

/-- `deduplicate_blocks` (block writer created with flags 0, as `sqfs_writer_init` does); returns `*out` too -/
def dedup (s : WState) (w : BlockW) (flags : Nat) : WState × BlockW × Nat :=
  let count := w.blocks.length - w.fileStart
  if count = 0 then (s, w, 0)
  else if hasFlag flags blkDontDeduplicate then (s, w, offsetAt w.blocks w.fileStart)
  else
    let sz := sumSizes w.blocks w.fileStart count
    let locA := offsetAt w.blocks w.fileStart
    match dedupSearch s.file w.blocks w.fileStart count locA sz w.fileStart 0 with
    | .error e => (s.fail e, w, 0)
    | .ok i =>
      if i ≥ w.fileStart then (s, w, offsetAt w.blocks i)
      else
        let used := if count ≥ w.fileStart - i then i + count else w.fileStart
        let kept := w.blocks.take used
        match kept.getLast? with
        | none => (s.fail errInternal, w, 0)          -- unreachable (`used ≥ 1`): C would index `blocks[-1]`
        | some b => (fTrunc s (b.offset + sizeFromHash b.hash), { w with blocks := kept }, offsetAt w.blocks i)

/-- `write_data_block` -/
def writeDataBlock (s : WState) (w : BlockW) (c : BlkCall) : WState × BlockW × Nat :=
  let w := if hasFlag c.flags blkFirstBlock then { w with fileStart := w.blocks.length } else w
  let loc := s.size
  let sw : WState × BlockW :=
    if c.data.length ≠ 0 ∧ ¬ hasFlag c.flags blkIsSparse then
      let out := c.data.length ||| (if hasFlag c.flags blkIsCompressed then 0 else 2 ^ 24)
      (fWrite s loc c.data, { w with blocks := w.blocks ++ [⟨loc, mkBlkHash c.chksum out⟩] })
    else (s, w)
  if hasFlag c.flags blkLastBlock then
    if sw.1.err.isSome then (sw.1, sw.2, loc) else dedup sw.1 sw.2 c.flags
  else (sw.1, sw.2, loc)

def writeDataBlocks (s : WState) (w : BlockW) : List BlkCall → WState × BlockW
  | [] => (s, w)
  | c :: r => let x := writeDataBlock s w c; writeDataBlocks x.1 x.2.1 r

/-! ## Tables -/

/-- the `while (table_size > 0)` loop of `sqfs_write_table`; fuel = bytes left -/
def writeTableLoop (cmp : Cmp) : Nat → WState → MetaW → List Nat → Bytes → WState × MetaW × List Nat
  | 0, s, m, locs, _ => (s, m, locs)
  | fuel + 1, s, m, locs, d =>
    if d.length = 0 then (s, m, locs) else
    let locs := locs ++ [s.size]
    let diff := min metaBlockSize d.length
    let sm := metaAppend cmp s m (d.take diff)
    writeTableLoop cmp fuel sm.1 sm.2 locs (d.drop diff)

def leList (n : Nat) : List Nat → Bytes
  | [] => []
  | v :: r => le n v ++ leList n r

/-- `sqfs_write_table`: returns the state and `*start` -/
def writeTable (cmp : Cmp) (s : WState) (payload : Bytes) : WState × Nat :=
  let r := writeTableLoop cmp payload.length s {} [] payload
  let sm := metaFlush cmp r.1 r.2.1
  let s := sm.1
  (fWrite s s.size (leList 8 r.2.2), s.size)

/-- `sqfs_frag_table_write` (`anyCompressed`: some entry has the compressed bit clear in its size word) -/
def fragTableWrite (cmp : Cmp) (s : WState) (sup : Super) (table : Bytes) (anyCompressed : Bool) : WState × Super :=
  if table.length / sizeofFragment = 0 then
    (s, { sup with fragStart := unset,
                   flags := ((sup.flags ||| flagNoFragments) &&& (0xFFFF - flagAlwaysFragments)) &&& (0xFFFF - flagUncompressedFragments) })
  else
    let r := writeTable cmp s table
    let fl := ((sup.flags &&& (0xFFFF - flagNoFragments)) ||| flagAlwaysFragments) ||| flagUncompressedFragments
    let fl := if anyCompressed then fl &&& (0xFFFF - flagUncompressedFragments) else fl
    (r.1, { sup with fragStart := r.2, fragCount := (table.length / sizeofFragment) % 2 ^ 32, flags := fl })

/-- `sqfs_dir_writer_write_export_table` (`none`: `export_tbl.data == NULL`) -/
def exportTableWrite (cmp : Cmp) (s : WState) (sup : Super) : Option Bytes → WState × Super
  | none => (s, sup)
  | some t =>
    let r := writeTable cmp s t
    (r.1, { sup with exportStart := r.2, flags := sup.flags ||| flagExportable })

/-- `sqfs_id_table_write` -/
def idTableWrite (cmp : Cmp) (s : WState) (sup : Super) (ids : List Nat) : WState × Super :=
  let r := writeTable cmp s (leList 4 ids)
  (r.1, { sup with idCount := ids.length % 2 ^ 16, idStart := r.2 })

/-- abstract xattr payload: the byte strings appended to the key/value stream and the 16-byte id entries -/
structure XattrIn where
  kv : List Bytes
  idEntries : List Bytes
deriving Repr

/-- `write_id_table` of xattr_writer_flush.c: `locations[]` bookkeeping around each append -/
def xattrIdLoop (cmp : Cmp) (s : WState) (m : MetaW) (locs : List Nat) : List Bytes → WState × MetaW × List Nat
  | [] => (s, m, locs)
  | e :: r =>
    let sm := metaAppend cmp s m e
    let locs := if sm.2.blockOffset ≠ locs.getLastD 0 then locs ++ [sm.2.blockOffset] else locs
    xattrIdLoop cmp sm.1 sm.2 locs r

/-- `write_kv_pairs`: the key/value records, then `sqfs_meta_writer_flush` -/
def xattrKv (cmp : Cmp) (s : WState) (x : XattrIn) : WState × MetaW :=
  let sm := metaAppendAll cmp s {} x.kv
  metaFlush cmp sm.1 sm.2

/-- `sqfs_meta_writer_reset`, `write_id_table` -/
def xattrIds (cmp : Cmp) (s : WState) (m : MetaW) (x : XattrIn) : WState × List Nat :=
  let r := xattrIdLoop cmp s { m with blockOffset := 0, data := [] } [0] x.idEntries
  ((metaFlush cmp r.1 r.2.1).1, r.2.2)

/-- `write_location_table`: 16-byte `sqfs_xattr_id_table_t` at `xattr_id_table_start`, then the locations -/
def xattrLocTable (s : WState) (kvStart nIds : Nat) (locs : List Nat) : WState :=
  let start := s.size
  let s1 := fWrite s start (le 8 kvStart ++ le 4 nIds ++ le 4 0)
  fWrite s1 (start + sizeofXattrIdTable) (leList 8 locs)

/-- `sqfs_xattr_writer_flush` -/
def xattrFlush (cmp : Cmp) (s : WState) (sup : Super) (x : XattrIn) : WState × Super :=
  if x.kv.length = 0 ∨ x.idEntries.length = 0 then
    (s, { sup with xattrStart := unset, flags := sup.flags ||| flagNoXattrs })
  else
    let kvStart := s.size
    let kv := xattrKv cmp s x
    let idStart := kv.1.size
    let count := tableBlocks (x.idEntries.length * sizeofXattrId)          -- alloc_location_table
    let ids := xattrIds cmp kv.1 kv.2 x
    let start := ids.1.size
    let locs := (ids.2.take count).map (· + idStart)
    (xattrLocTable ids.1 kvStart x.idEntries.length locs,
     { sup with xattrStart := start, flags := sup.flags &&& (0xFFFF - flagNoXattrs) })

/-! ## The packers' skeleton: `sqfs_writer_init`, data, `sqfs_writer_finish` -/

structure Run where
  blockSize : Nat
  mtime : Nat
  compId : Nat
  /-- compressor option payload (empty: `write_options` returns 0) -/
  opts : Bytes
  cmp : Cmp
  /-- the `write_data_block` calls the block processor makes, in order -/
  blocks : List BlkCall
  /-- `fs.unique_inode_count` -/
  inodeCount : Nat
  /-- byte strings appended to the inode metadata writer by `sqfs_serialize_fstree` -/
  inodeData : List Bytes
  /-- byte strings appended to the (in-memory) directory metadata writer -/
  dirData : List Bytes
  rootRef : Nat
  /-- raw fragment table (`sqfs_fragment_t[]`) -/
  fragTable : Bytes
  fragAnyCompressed : Bool
  /-- `cfg->exportable` and the raw export table -/
  exportTable : Option (Option Bytes)
  ids : List Nat
  /-- `!cfg->no_xattr` and what the xattr writer holds -/
  xattr : Option XattrIn
  devblksize : Nat
  /-- the failure injected into the run's output calls (none: a fault-free run) -/
  fault : Fault := {}
  /-- `process_tarball` / `pack_files` / `fstree_post_process` report a failure after having made the
  `write_data_block` calls in `blocks` (damaged or truncated tar stream, unreadable input file, failed
  allocation): `main` does `goto out` -/
  inputError : Option Nat := none

/-- `sqfs_writer_init` as far as the output file is concerned -/
def wInit (r : Run) : WState × Super :=
  match superInit r.blockSize r.mtime r.compId with
  | .error e => ({ err := some e, fault := r.fault }, default)
  | .ok sup =>
    let s := fWrite { fault := r.fault } 0 sup.encode       -- sqfs_super_write (provisional)
    let so := writeOptions s r.opts                          -- cmp->write_options
    (so.1, if so.2 then { sup with flags := sup.flags ||| flagCompressorOptions } else sup)

/-- `sqfs_serialize_fstree` -/
def serialize (r : Run) (s : WState) (sup : Super) : WState × Super :=
  let sup := { sup with inodeStart := s.size }
  let im := metaAppendAll r.cmp s {} r.inodeData
  let dm := metaAppendAll r.cmp im.1 { keep := true } r.dirData
  let im := metaFlush r.cmp dm.1 im.2
  let dm := metaFlush r.cmp im.1 dm.2
  let s := dm.1
  let sup := { sup with rootRef := r.rootRef, dirStart := s.size }
  (metaWriteList s dm.2.list, sup)

/-- `sqfs_writer_finish` from `sqfs_serialize_fstree` up to, not including, the final `sqfs_super_write` -/
def tables (r : Run) (s : WState) (sup : Super) : WState × Super :=
  let x := serialize r s sup
  let x := fragTableWrite r.cmp x.1 x.2 r.fragTable r.fragAnyCompressed
  let x := match r.exportTable with
    | none => x
    | some t => exportTableWrite r.cmp x.1 x.2 t
  let x := idTableWrite r.cmp x.1 x.2 r.ids
  match r.xattr with
  | none => x
  | some xa => xattrFlush r.cmp x.1 x.2 xa

/-- `if (process_tarball(tar, &sqfs)) goto out;` (tar2sqfs), `if (pack_files(…)) goto out;` (gensquashfs),
`if (fstree_post_process(&sqfs.fs)) goto out;`: a failure reported by the input side ends the run -/
def inputCheck (r : Run) (s : WState) : WState :=
  match r.inputError with
  | none => s
  | some e => s.fail e

/-- everything up to, not including, the final `sqfs_super_write` of `sqfs_writer_finish` -/
def preFinal (r : Run) : WState × Super :=
  let i := wInit r
  let d := writeDataBlocks i.1 {} r.blocks                  -- pack_files … sqfs_block_processor_finish
  tables r (inputCheck r d.1) { i.2 with inodeCount := r.inodeCount % 2 ^ 32 }

/-- the superblock `sqfs_writer_finish` writes last -/
def finalSuper (r : Run) : Super :=
  let p := preFinal r
  { p.2 with bytesUsed := p.1.size }

/-- `padd_sqfs` -/
def padd (s : WState) (size blocksize : Nat) : WState :=
  if size % blocksize = 0 then s
  else fWrite s s.size (zeros (blocksize - size % blocksize))

/-- the state after `sqfs_writer_finish` has attempted the final `sqfs_super_write` — reached with `err = none`
only if every earlier step succeeded -/
def commit (r : Run) : WState :=
  fWrite (preFinal r).1 0 (finalSuper r).encode             -- sqfs_super_write (final)

/-- `sqfs_writer_init` … `sqfs_writer_finish`: the complete run -/
def run (r : Run) : WState :=
  padd (commit r) (finalSuper r).bytesUsed r.devblksize

/-- `sqfs_writer_cleanup(&sqfs, status)`: after a failed run (`status != EXIT_SUCCESS`) the one further call on
the output path is `unlink(sqfs->filename)`; the file is absent from then on -/
def unlinkAtExit (r : Run) : Bool := (run r).err.isSome

/-- the same payload subjected to the output fault `f` -/
def Run.withFault (r : Run) (f : Fault) : Run := { r with fault := f }

/-- number of output-file operations up to and including the final superblock write -/
def kFinal (r : Run) : Nat := (preFinal r).1.ops.length + 1

/-! ## Shape of an operation log (checked on the logs of the real packers) -/

/-- `p` is exactly what `sqfs_super_init` + `sqfs_super_write` produce for the parameters it carries -/
def isProvisional (p : Bytes) : Bool :=
  let t := Super.decode p
  match superInit t.blockSize t.mtime t.compId with
  | .error _ => false
  | .ok s => s.encode == p

def isZeros (d : Bytes) : Bool := d.all (· == 0)

/-- split `rest` at the first operation that can touch `[0, sizeof super)` -/
def splitSafe : List Op → List Op × List Op
  | [] => ([], [])
  | o :: r => if o.Safe then let x := splitSafe r; (o :: x.1, x.2) else ([], o :: r)

/-- The log is: provisional superblock; operations that stay clear of the superblock region; one 96-byte
write at offset 0; then nothing, or one append of zeros at `bytes_used`. -/
def shapeCheck (ops : List Op) : Bool :=
  match ops with
  | .pwrite 0 p :: rest =>
    isProvisional p &&
    (match splitSafe rest with
     | (mid, .pwrite 0 s :: pad) =>
       let before := image (.pwrite 0 p :: mid)
       s.length == sizeofSuper &&
       (Super.decode s).bytesUsed == before.length &&
       (match pad with
        | [] => true
        | [.pwrite off z] => off == before.length && isZeros z
        | _ => false)
     | _ => false)
  | _ => false

/-- position just after the second superblock write of a log of that shape -/
def kFinalOf (ops : List Op) : Nat := (splitSafe ops.tail).1.length + 2

/-- Shape of the log of a run that failed before it committed: nothing at all, or the provisional superblock
followed only by operations that stay clear of the superblock region — no second write at offset 0 (checked on
the logs of the real packers' *failing* runs). -/
def failShapeCheck (ops : List Op) : Bool :=
  match ops with
  | [] => true
  | .pwrite 0 p :: rest => isProvisional p && rest.all (fun o => decide o.Safe)
  | _ => false

end Sqfs.Writer
