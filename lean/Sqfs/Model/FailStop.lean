/-
C13 — fail-stop.  Control-flow / error-propagation skeleton of the four tools.

What is modelled (C anchors in brackets; line numbers are those of /repo at the time of writing — the
correspondence check does not rely on them, it compares the *ordered list of calls* made by these functions,
recorded at run time, with `Trace.ran`):

* `main` of gensquashfs [bin/gensquashfs/src/mkfs.c:96-212] and of tar2sqfs [bin/tar2sqfs/src/tar2sqfs.c:9-55]:
  `int status = EXIT_FAILURE` [mkfs.c:98, tar2sqfs.c:14], the sequence of fallible calls each followed by
  `goto out` / `return EXIT_FAILURE`, the single assignment `status = EXIT_SUCCESS` [mkfs.c:202, tar2sqfs.c:49]
  and `out: sqfs_writer_cleanup(&sqfs, status)` [mkfs.c:204, tar2sqfs.c:51].
* `pack_files` [mkfs.c:55-94] (chdir into the pack directory, then per file: path reconstruction, `pack_file`)
  and `process_tarball` [bin/tar2sqfs/src/process_tarball.c:147-246] (per entry: `it->next`, `it->read_link` for
  links, `set_root_attribs` / `create_node_and_repack_data` unless the entry is filtered out by --root-becomes).
* `sqfs_writer_init` [lib/common/src/writer/init.c:59-246] with its `fail_*` chain ending in
  `remove_output_file`, `sqfs_writer_finish` [lib/common/src/writer/finish.c:100-194],
  `sqfs_dir_writer_write_export_table` [lib/sqfs/src/dir_writer.c:440-468] and `sqfs_writer_cleanup`
  [lib/common/src/writer/cleanup.c:11-38] (`unlink(sqfs->filename)` unless `status == EXIT_SUCCESS`).
* the *working directory* of the process: `unlink` resolves a relative name against the directory the process
  is in when it is called, and `pack_files` changes it [mkfs.c:61].
* `main` of sqfs2tar [bin/sqfs2tar/src/sqfs2tar.c:100-195] and of rdsquashfs
  [bin/rdsquashfs/src/rdsquashfs.c:108-285] as flat lists of fallible calls with one `goto out` each
  (`readerSites`, `runReader`).

A run is a walk over the *fallible call sites* (`Site`) in program order.  A fault script (`List Bool`, one
entry per executed site, missing entries = no fault) says which sites report failure.  What a site does when
it fails is its `Reaction`.  `Variant` selects the source that is modelled:

  `Variant.current`  = /repo at d69b61b, before 65a1d35.  Every result of the skeleton is tested, a failing
                       `sqfs_writer_init` removes the output file, and — since b5ce20d — `main` of gensquashfs
                       resolves the output name with `realpath` right after `sqfs_writer_init` when a pack
                       directory is given (fallible site `realpathOut`) and the cleanup unlinks that absolute
                       name [mkfs.c:110-127].
                       DEFECT (repaired by 65a1d35): rdsquashfs prints the results of -l / -s / -d / -x through stdio and never
                       looks at `fflush` / `ferror`: what the exit-time flush of libc cannot write is lost and
                       the exit status is 0 (`Variant.stdoutChecked = false`, `RResult.stdoutLost`).
  `Variant.fixed`    = the code in /repo (since 65a1d35 = fixes/C13-check-stdout-errors.patch): `main` of rdsquashfs tests
                       `fflush(stdout)` / `ferror(stdout)` before `status = EXIT_SUCCESS` (new fallible site
                       `rStdoutFlush`).
  `Variant.beforeRealpath` = the source before b5ce20d: `sqfs_writer_cleanup` unlinks `sqfs->filename` *as given
                       on the command line*; after `chdir(opt->packdir)` a relative name no longer designates the
                       output file.  Kept for the regression witnesses in Sqfs/Witness/C13.lean.
  `Variant.snapshot` = the source as first pinned (before the three result-checking repairs); regression
                       witnesses only.

  IGNORED RESULTS THAT EXIST IN THE SOURCE (skeleton level)
  * lib/sqfs/src/block_processor/ostream.c:52-55 (`stream_destroy`) ignores `sqfs_block_processor_end_file`;
      only reached when the stream is dropped un-flushed, i.e. on a path whose status is already failure
      [mkfs.c:45-50, process_tarball.c:25-38]
  * lib/sqfs/src/io/file.c, ostream.c, istream.c  `sqfs_native_file_close` has no result
      (`close` errors are never reported; the data were written by `pwrite` before)
  * cleanup.c:35 / init.c:45  the result of `unlink` is ignored (nothing could be done about it)
  * mkfs.c:78  `ret = canonicalize_name(node_path); assert(ret == 0);` — not a fallible site
  (snapshot only) dir_writer.c `ret = add_export_table_entry(...); if (ret) return 0;`, init.c `fail_file:`
  without unlink.
-/
namespace Sqfs.FailStop

inductive Tool | gensquashfs | tar2sqfs
  deriving DecidableEq, Repr, Inhabited

/-- Fallible call sites, in the vocabulary of the C sources.  The comment names the callee whose entry the
    run-time call log shows (caller → callee). -/
inductive Site
  -- tar2sqfs.c main, before the writer exists
  | openStdin                 -- main → istream_open_stdin
  | tarOpen                   -- main → tar_open_stream
  -- init.c sqfs_writer_init
  | compCfg                   -- → compressor_cfg_init_options   (before the output file exists)
  | openOut                   -- → sqfs_native_file_open: creates the output file
  | openHandle                -- → sqfs_file_open_handle (calloc, fstat, dup); on failure the file is removed at once
  | fsDefaults                -- → parse_fstree_defaults
  | fstreeInit                -- → fstree_init
  | cmpCreate                 -- → sqfs_compressor_create (1st)
  | uncmpCreate               -- → sqfs_compressor_create (2nd, SQFS_COMP_FLAG_UNCOMPRESS)
  | superInit                 -- → sqfs_super_init
  | superWrite                -- → sqfs_super_write  (provisional super block)
  | cmpOptions                -- → cmp->write_options (`*_write_options`)
  | blkwrCreate               -- → sqfs_block_writer_create
  | fragtblCreate             -- → sqfs_frag_table_create
  | procCreate                -- → sqfs_block_processor_create_ex
  | idtblCreate               -- → sqfs_id_table_create
  | xwrCreate                 -- → sqfs_xattr_writer_create   (unless no_xattr)
  | imCreate                  -- → sqfs_meta_writer_create (1st, inodes)
  | dmCreate                  -- → sqfs_meta_writer_create (2nd, directories)
  | dirwrCreate               -- → sqfs_dir_writer_create
  -- mkfs.c main
  | realpathOut               -- main → realpath(opt.cfg.filename)   (when a pack directory is given; mkfs.c:118, since b5ce20d)
  | selinuxOpen               -- main → selinux_open_context_file
  | xattrMapOpen              -- main → xattr_open_map_file
  | sortfileOpen              -- main → sqfs_istream_open_file
  | dirIterCreate             -- main → dir_tree_iterator_create
  | scanDir                   -- main → scan_directory
  | fstreeFromFile            -- main → fstree_from_file
  | postProcess               -- main → fstree_post_process   (both packers)
  | applyXattrs               -- main → apply_xattrs
  | sortFiles                 -- main → fstree_sort_files
  -- mkfs.c pack_files
  | chdirPack                 -- pack_files → chdir(opt->packdir)
  | nodePath (i : Nat)        -- pack_files → fstree_get_path for the i-th file (directory scan: no input path stored)
  | packFile (i : Nat)        -- pack_files → pack_file of the i-th regular file
  -- process_tarball.c
  | tarNext (i : Nat)         -- process_tarball → it->next (`it_next`)
  | tarReadLink (i : Nat)     -- process_tarball → it->read_link (`it_read_link`), symbolic and hard links
  | tarEntry (i : Nat)        -- process_tarball → set_root_attribs / create_node_and_repack_data
  -- finish.c sqfs_writer_finish
  | procFinish                -- → sqfs_block_processor_finish
  | serialize                 -- → sqfs_serialize_fstree
  | fragTable                 -- → sqfs_frag_table_write
  | exportAddRoot             -- sqfs_dir_writer_write_export_table → add_export_table_entry (root)
  | exportWrite               -- sqfs_dir_writer_write_export_table → sqfs_write_table
  | idTable                   -- → sqfs_id_table_write
  | xattrFlush                -- → sqfs_xattr_writer_flush
  | superRewrite              -- → sqfs_super_write (final super block)
  | pad                       -- → padd_sqfs
  -- sqfs2tar.c main
  | sOpenStdout               -- main → ostream_open_stdout
  | sXfrmCreate               -- main → compressor_stream_create        (with -c)
  | sXfrmWrap                 -- main → ostream_xfrm_create             (with -c)
  | sIterCreate               -- main → tar_compat_iterator_create
  | sHlFilter                 -- main → sqfs_hard_link_filter_create    (unless --no-hard-links)
  | sNext (i : Nat)           -- main → it->next
  | sEntry (i : Nat)          -- main → write_entry
  | sTerminate                -- main → terminate_archive
  | sFlush                    -- main → out_file->flush
  -- rdsquashfs.c main
  | rOpen                     -- main → sqfs_file_open
  | rSuper                    -- main → sqfs_super_read
  | rCmpCreate                -- main → sqfs_compressor_create
  | rXattrCreate              -- main → sqfs_xattr_reader_create       (unless the image has no xattrs)
  | rXattrLoad                -- main → sqfs_xattr_reader_load
  | rIdCreate                 -- main → sqfs_id_table_create
  | rIdRead                   -- main → sqfs_id_table_read
  | rDirReader                -- main → sqfs_dir_reader_create
  | rDataReader               -- main → sqfs_data_reader_create
  | rFragTable                -- main → sqfs_data_reader_load_fragment_table
  | rHierarchy                -- main → sqfs_dir_reader_get_full_hierarchy
  | rStat                     -- main → stat_file                      (-s)
  | rCatStream                -- main → sqfs_data_reader_create_stream (-c)
  | rCatStdout                -- main → ostream_open_stdout            (-c)
  | rSplice (i : Nat)         -- main → sqfs_istream_splice            (-c, one call per block and one for end-of-file)
  | rTreeSort                 -- main → tree_sort                      (-u)
  | rMkdirP                   -- main → mkdir_p                        (-u -p)
  | rChdir                    -- main → chdir(opt.unpack_root)         (-u -p)
  | rRestore                  -- main → restore_fstree                 (-u)
  | rFill                     -- main → fill_unpacked_files            (-u)
  | rAttribs                  -- main → update_tree_attribs            (-u)
  | rDescribe                 -- main → describe_tree                  (-d)
  | rDumpXattrs               -- main → dump_xattrs                    (-x)
  | rStdoutFlush              -- main → fflush(stdout) / ferror(stdout)  (since 65a1d35 = fixes/C13-check-stdout-errors.patch)
  deriving DecidableEq, Repr, Inhabited

/-- Progress messages on stdout (`!cfg->quiet`), finish.c:105,114,122,133,149,160. -/
inductive Msg | waiting | inodes | fragtbl | exporttbl | idtbl | xattrs
  deriving DecidableEq, Repr

/-- One entry of the tar archive as `process_tarball` treats it. -/
structure TarEnt where
  link : Bool := false          -- S_ISLNK(ent->mode): symbolic link or hard link → `it->read_link` is called
  skipped : Bool := false       -- --root-becomes: the name is not below the new root → `continue` before the node is made
  deriving Repr, DecidableEq

structure Cfg where
  tool : Tool := .gensquashfs
  selinux : Bool := false       -- opt.selinux != NULL
  xattrFile : Bool := false     -- opt.xattr_file != NULL
  sortFile : Bool := false      -- opt.sortfile != NULL
  packFile : Bool := false      -- opt.infile != NULL (otherwise a directory is scanned)
  packDir : Bool := false       -- opt.packdir != NULL
  packDirIsCwd : Bool := false  -- the pack directory *is* the directory the process starts in (`-D .`)
  relOut : Bool := false        -- the output file name on the command line is a relative path
  nfiles : Nat := 0             -- regular files packed by gensquashfs
  entries : List TarEnt := []   -- tar2sqfs: the entries of the archive
  exportable : Bool := false
  noXattr : Bool := false
  quiet : Bool := false
  deriving Repr, DecidableEq

/-- Which source is modelled (see the header). -/
structure Variant where
  initUnlinks : Bool        -- a failing sqfs_writer_init removes the output file        (in /repo since C13-init-unlink)
  exportChecked : Bool      -- the result of add_export_table_entry(root) is returned    (in /repo since C13-export-table-result)
  sparseTailChecked : Bool  -- backend.c: set_block_size result for an all-zero tail     (in /repo since C13-sparse-tail-result; block processor layer)
  outPathAbsolute : Bool    -- mkfs.c:110-127 realpath of the output name                (in /repo since b5ce20d)
  stdoutChecked : Bool      -- rdsquashfs.c: fflush/ferror of stdout tested before exit 0 (in /repo since 65a1d35)
  deriving Repr, DecidableEq

def Variant.snapshot : Variant := ⟨false, false, false, false, false⟩
def Variant.beforeRealpath : Variant := ⟨true, true, true, false, false⟩
def Variant.current : Variant := ⟨true, true, true, true, false⟩
def Variant.fixed : Variant := ⟨true, true, true, true, true⟩

inductive Reaction
  | abort                  -- the failure is returned and the caller leaves the phase
  | swallow (skip : Nat)   -- the result is ignored; the next `skip` sites are not executed
  deriving Repr, DecidableEq

def reaction (v : Variant) : Site → Reaction
  | .exportAddRoot => if v.exportChecked then .abort else .swallow 1       -- dir_writer.c `if (ret) return ret;` (snapshot: `return 0`)
  | _ => .abort

/-- Does the site perform operations on the output file when it succeeds? -/
def writes : Site → Bool
  | .openOut | .superWrite | .cmpOptions | .packFile _ | .tarEntry _ | .procFinish | .serialize | .fragTable
  | .exportWrite | .idTable | .xattrFlush | .superRewrite | .pad => true
  | _ => false

/-- Message printed immediately before the call (finish.c), when not quiet. -/
def announce : Site → Option Msg
  | .procFinish => some .waiting
  | .serialize => some .inodes
  | .fragTable => some .fragtbl
  | .exportAddRoot => some .exporttbl
  | .idTable => some .idtbl
  | .xattrFlush => some .xattrs
  | _ => none

/-- Is a diagnostic printed on stderr when the site fails?  In /repo every modelled site does
    (`sqfs_perror` / `perror` / `fputs(…, stderr)` next to the test, or inside the callee); the snapshot returned -1
    silently for the export table [finish.c:136-142 before C13-missing-diagnostics]. -/
def diagOnFail (v : Variant) : Site → Bool
  | .exportWrite | .exportAddRoot => v.exportChecked
  | _ => true

inductive Op | done (s : Site) | damaged (s : Site)
  deriving DecidableEq, Repr

/-- The directory the process is in: the one it was started in, or the pack directory. -/
inductive Dir | start | pack
  deriving DecidableEq, Repr

structure Trace where
  ops : List Op := []            -- output-producing steps performed, in order
  msgs : List Msg := []
  ran : List Site := []          -- sites executed, in order (the failing one included)
  failed : Option Site := none   -- the site whose failure was *reported*
  swallowed : List Site := []    -- sites whose failure was ignored
  cwd : Dir := .start            -- working directory of the process
  absName : Bool := false        -- `sqfs.filename` has been replaced by the absolute name (realpathOut succeeded)
  deriving Repr, DecidableEq

def emits (s : Site) : List Op := if writes s then [.done s] else []
def says (quiet : Bool) (s : Site) : List Msg :=
  if quiet then [] else match announce s with | some m => [m] | none => []

/-- State change of a site that succeeds, besides the bookkeeping: mkfs.c:61 `chdir(opt->packdir)` moves the
    process; `main` remembers the absolute output name [mkfs.c:126 `sqfs.filename = abs_filename`]. -/
def effect (c : Cfg) (s : Site) (t : Trace) : Trace :=
  match s with
  | .chdirPack => { t with cwd := if c.packDirIsCwd then t.cwd else .pack }
  | .realpathOut => { t with absName := true }
  | _ => t

/-- Walk the sites of one phase.  `skip` = sites still to be skipped because a swallowed failure returned early.
    Returns (phase succeeded, rest of the script, trace). -/
def runSites (v : Variant) (c : Cfg) : Nat → List Site → List Bool → Trace → Bool × List Bool × Trace
  | _, [], fs, t => (true, fs, t)
  | skip + 1, _ :: rest, fs, t => runSites v c skip rest fs t
  | 0, s :: rest, fs, t =>
    let t := { t with msgs := t.msgs ++ says c.quiet s, ran := t.ran ++ [s] }
    if fs.headD false then
      match reaction v s with
      | .abort => (false, fs.tail, { t with failed := some s })
      | .swallow k => runSites v c k rest fs.tail { t with ops := t.ops ++ [.damaged s], swallowed := t.swallowed ++ [s] }
    else
      runSites v c 0 rest fs.tail (effect c s { t with ops := t.ops ++ emits s })

/-! ### The phases -/

/-- tar2sqfs.c:20-34 -/
def preSites (c : Cfg) : List Site :=
  match c.tool with
  | .tar2sqfs => [.openStdin, .tarOpen]
  | .gensquashfs => []

/-- init.c:69-219 in order -/
def initSites (c : Cfg) : List Site :=
  [.compCfg, .openOut, .openHandle, .fsDefaults, .fstreeInit, .cmpCreate, .uncmpCreate, .superInit, .superWrite, .cmpOptions,
   .blkwrCreate, .fragtblCreate, .procCreate, .idtblCreate]
  ++ (if c.noXattr then [] else [.xwrCreate]) ++ [.imCreate, .dmCreate, .dirwrCreate]

/-- mkfs.c:66-91: per file, the path is reconstructed from the tree when no input path is stored (directory
    scan), then `pack_file`. -/
def packSites (fromTree : Bool) : Nat → Nat → List Site
  | 0, _ => []
  | n + 1, i => (if fromTree then [.nodePath i] else []) ++ .packFile i :: packSites fromTree n (i + 1)

/-- process_tarball.c:151-243 -/
def tarSites : List TarEnt → Nat → List Site
  | [], i => [.tarNext i]                                   -- the call that reports end of archive
  | e :: rest, i =>
    .tarNext i :: ((if e.link then [.tarReadLink i] else []) ++ (if e.skipped then [] else [.tarEntry i]) ++ tarSites rest (i + 1))

/-- mkfs.c:110-197 / tar2sqfs.c:40-44 -/
def bodySites (v : Variant) (c : Cfg) : List Site :=
  match c.tool with
  | .gensquashfs =>
    (if v.outPathAbsolute && c.packDir then [.realpathOut] else [])
    ++ (if c.selinux then [.selinuxOpen] else []) ++ (if c.xattrFile then [.xattrMapOpen] else [])
    ++ (if c.sortFile then [.sortfileOpen] else [])
    ++ (if c.packFile then [.fstreeFromFile] else [.dirIterCreate, .scanDir])
    ++ [.postProcess, .applyXattrs] ++ (if c.sortFile then [.sortFiles] else [])
    ++ (if c.packDir then [.chdirPack] else []) ++ packSites (!c.packFile) c.nfiles 0
  | .tar2sqfs => tarSites c.entries 0 ++ [.postProcess]

/-- finish.c:107-180 -/
def finishSites (c : Cfg) : List Site :=
  [.procFinish, .serialize, .fragTable]
  ++ (if c.exportable then [.exportAddRoot, .exportWrite] else []) ++ [.idTable]
  ++ (if c.noXattr then [] else [.xattrFlush]) ++ [.superRewrite, .pad]

def program (v : Variant) (c : Cfg) : List Site := preSites c ++ initSites c ++ bodySites v c ++ finishSites c

inductive OutFile
  | never       -- the run did not create the output file
  | present     -- created and still there
  | unlinked    -- created and removed again
  deriving DecidableEq, Repr

structure Result where
  status : Nat              -- exit status of the process: 0 = EXIT_SUCCESS, 1 = EXIT_FAILURE
  out : OutFile
  cleanupReached : Bool     -- was sqfs_writer_cleanup called
  finishOk : Bool           -- did sqfs_writer_finish return 0
  unlinkHit : Option Bool   -- `unlink` of the output name: not called / called and the name designated the output file / did not
  trace : Trace
  deriving Repr, DecidableEq

/-- Does the name handed to `unlink` designate the output file *now*?  An absolute name always does; a relative
    one only while the process is still in the directory it was started in. -/
def nameResolves (c : Cfg) (t : Trace) : Bool := !c.relOut || t.absName || t.cwd == .start

/-- cleanup.c:26-37 and init.c:34-47 (`remove_output_file`): `unlink(filename)`, result ignored. -/
def unlinkOut (c : Cfg) (t : Trace) : OutFile := if nameResolves c t then .unlinked else .present

/-- cleanup.c:11-38 -/
def cleanup (c : Cfg) (status : Nat) (t : Trace) : OutFile × Option Bool :=
  if status != 0 then (unlinkOut c t, some (nameResolves c t)) else (.present, none)

/-- State of the output file after a failed `sqfs_writer_init`: it exists iff `sqfs_native_file_open` had
    succeeded [init.c:75]; `remove_output_file` [init.c:86, 244] removes it (snapshot: nothing does). -/
def afterFailedInit (v : Variant) (c : Cfg) (t : Trace) : OutFile × Option Bool :=
  if t.failed = some .compCfg ∨ t.failed = some .openOut then (.never, none)
  else if v.initUnlinks then (unlinkOut c t, some (nameResolves c t)) else (.present, none)

/-- `main` of both packers. -/
def run (v : Variant) (c : Cfg) (fs : List Bool) : Result :=
  -- int status = EXIT_FAILURE;                                       mkfs.c:98   tar2sqfs.c:14
  let status := 1
  -- tar2sqfs.c:20-34: failures before the writer exists `return EXIT_FAILURE`
  match runSites v c 0 (preSites c) fs {} with
  | (false, _, t) => ⟨status, .never, false, false, none, t⟩
  | (true, fs, t) =>
  -- if (sqfs_writer_init(&sqfs, &cfg)) return EXIT_FAILURE / goto out_it;   mkfs.c:108  tar2sqfs.c:37
  match runSites v c 0 (initSites c) fs t with
  | (false, _, t) => ⟨status, (afterFailedInit v c t).1, false, false, (afterFailedInit v c t).2, t⟩
  | (true, fs, t) =>
  -- every failing call of the body does `goto out`                          mkfs.c:110-197  tar2sqfs.c:40-44
  match runSites v c 0 (bodySites v c) fs t with
  | (false, _, t) => ⟨status, (cleanup c status t).1, true, false, (cleanup c status t).2, t⟩
  | (true, fs, t) =>
  -- if (sqfs_writer_finish(&sqfs, &cfg)) goto out;                          mkfs.c:199  tar2sqfs.c:46
  match runSites v c 0 (finishSites c) fs t with
  | (false, _, t) => ⟨status, (cleanup c status t).1, true, false, (cleanup c status t).2, t⟩
  | (true, _, t) =>
  -- status = EXIT_SUCCESS;  out: sqfs_writer_cleanup(&sqfs, status);        mkfs.c:202-204  tar2sqfs.c:49-51
  let status := 0
  ⟨status, (cleanup c status t).1, true, true, (cleanup c status t).2, t⟩

/-- The fault-free run. -/
def faultFree (v : Variant) (c : Cfg) : Result := run v c []

/-- Script with a single fault at position `k`. -/
def single (k : Nat) : List Bool := List.replicate k false ++ [true]

/-- Position of a site in the program (for the driver: fault "at site s"). -/
def sitePos (v : Variant) (c : Cfg) (s : Site) : Option Nat :=
  let p := program v c
  let i := p.findIdx (· == s)
  if i < p.length then some i else none

/-! ### The readers: sqfs2tar and rdsquashfs

`main` of both is one flat list of fallible calls, each followed by `goto out`; `status = EXIT_SUCCESS` is
assigned in one place, after the last of them [sqfs2tar.c:187, rdsquashfs.c:274].  Nothing is removed on failure
(the output is standard output, or an unpacked tree that is left as far as it got).

Standard output.  sqfs2tar and `rdsquashfs -c` write their result with `write(2)` on a duplicate of descriptor 1
(`ostream_open_stdout`): every result is tested (sites `sEntry`, `sTerminate`, `sFlush`, `rSplice`).
`rdsquashfs -l / -s / -d / -x` print through stdio [list_files.c, stat.c, describe.c, dump_xattrs.c: printf / fputs /
fwrite, no result looked at]: the bytes reach the descriptor when the buffer fills up or, at the latest, when libc
flushes at exit — after `main` has returned its status.  /repo before 65a1d35 never calls `fflush` / `ferror`
(`Variant.stdoutChecked = false`): a write error on standard output (no space, closed descriptor, EPIPE with SIGPIPE
ignored) is lost, the exit status stays 0 (`RResult.stdoutLost`).  The repaired `main` tests
`fflush(stdout) != 0 || ferror(stdout)` in front of `status = EXIT_SUCCESS` — one more site, `rStdoutFlush`. -/

inductive RdOp | ls | stat | cat | unpack | describe | rdattr
  deriving DecidableEq, Repr

structure RCfg where
  sqfs2tar : Bool := true        -- otherwise rdsquashfs
  compressed : Bool := false     -- sqfs2tar -c
  noLinks : Bool := false        -- sqfs2tar --no-hard-links
  nentries : Nat := 0            -- sqfs2tar: entries the iterator yields
  hasXattrs : Bool := true       -- rdsquashfs: !(super.flags & SQFS_FLAG_NO_XATTRS)
  op : RdOp := .ls
  unpackRoot : Bool := false     -- rdsquashfs -u -p
  nsplice : Nat := 0             -- rdsquashfs -c: calls of sqfs_istream_splice (the last one returns 0)
  deriving DecidableEq, Repr

def sEntrySites : Nat → Nat → List Site
  | 0, i => [.sNext i]
  | n + 1, i => .sNext i :: .sEntry i :: sEntrySites n (i + 1)

def spliceSites : Nat → Nat → List Site
  | 0, _ => []
  | n + 1, i => .rSplice i :: spliceSites n (i + 1)

/-- Does the operation hand its *result* to stdio (`printf` & co. on `stdout`)?  rdsquashfs -l, -s, -d, -x.
    (`-c` and sqfs2tar use `write(2)` through an ostream; `-u` prints progress lines only.) -/
def printsResults (c : RCfg) : Bool :=
  !c.sqfs2tar && (c.op == .ls || c.op == .stat || c.op == .describe || c.op == .rdattr)

def readerSites (v : Variant) (c : RCfg) : List Site :=
  if c.sqfs2tar then
    [.sOpenStdout] ++ (if c.compressed then [.sXfrmCreate, .sXfrmWrap] else []) ++ [.sIterCreate]
    ++ (if c.noLinks then [] else [.sHlFilter]) ++ sEntrySites c.nentries 0 ++ [.sTerminate, .sFlush]
  else
    [.rOpen, .rSuper, .rCmpCreate] ++ (if c.hasXattrs then [.rXattrCreate, .rXattrLoad] else [])
    ++ [.rIdCreate, .rIdRead, .rDirReader, .rDataReader, .rFragTable, .rHierarchy]
    ++ (match c.op with
        | .ls => []
        | .stat => [.rStat]
        | .cat => [.rCatStream, .rCatStdout] ++ spliceSites c.nsplice 0
        | .unpack => [.rTreeSort] ++ (if c.unpackRoot then [.rMkdirP, .rChdir] else []) ++ [.rRestore, .rFill, .rAttribs]
        | .describe => [.rDescribe]
        | .rdattr => [.rDumpXattrs])
    -- fixes/C13-check-stdout-errors.patch: `if (fflush(stdout) != 0 || ferror(stdout)) { perror("stdout"); goto out; }`
    ++ (if v.stdoutChecked then [.rStdoutFlush] else [])

structure RResult where
  status : Nat
  trace : Trace
  stdoutLost : Bool    -- results handed to stdio could not be written and nobody noticed (exit-time flush of libc)
  deriving Repr, DecidableEq

/-- `main` of sqfs2tar / rdsquashfs: `status = EXIT_FAILURE`, the calls in order, `status = EXIT_SUCCESS` behind
    the last one.  After `main` has returned libc flushes `stdout`; the script entry behind the last site says
    whether that write fails.  In the repaired source the buffer is empty by then (`rStdoutFlush` succeeded). -/
def runReader (v : Variant) (c : RCfg) (fs : List Bool) : RResult :=
  match runSites v {} 0 (readerSites v c) fs {} with
  | (false, _, t) => ⟨1, t, false⟩
  | (true, fs', t) => ⟨0, t, printsResults c && !v.stdoutChecked && fs'.headD false⟩

end Sqfs.FailStop
