/-
Model of `lib/sqfs/src/meta_reader.c` (C10; also used by C19, `Model/C19Readers`).

* the image is an abstract random-access file `File` (`read_at` = `File.readAt`):
  a size, a byte function and a set of scripted "bad" positions (I/O error) —
  the only thing the proofs use is that `readAt` is a function of `(file, off, n)`;
* the block decompressor is a *parameter* `unc : Codec` (the compressor object the
  reader was created with: `cmp->do_block`); a toy instance `toyUnc` is mirrored
  byte for byte by `harness/h_c10.c` so that decompression failure is scriptable;
* the reader object is the record `MR` = `struct sqfs_meta_reader_t` without `base`, the
  two object pointers and `scratch[]`: `start`, `limit`, the one-block cache
  `(block_offset, data[], data_used, next_block)` and the cursor `offset`;
  `data` is the *whole* 8 KiB array (bytes beyond `data_used` are stale bytes of
  earlier loads, exactly as in C), so that the model of the code **before /repo 8bf8edc**
  (`fix = false`, used by `Sqfs/Witness/C10.lean`) and of the **repaired** code, the code in /repo
  (`fix = true`, the main model; repair = `fixes/C10-meta-seek-invalidate.patch` = 8bf8edc)
  are one definition that differs in two marked places.

Statuses are the negated `SQFS_ERROR_*` codes (`0` = success), taken from the
generated constants.  `crashSt`/`fuelSt` are model-only outcomes: a `memcpy`
source range that leaves `m->data`, and exhausted loop fuel (neither can happen
in the repaired model: `Sqfs.C10.read_no_crash`).
-/
import Sqfs.Generated.Consts
namespace Sqfs.MetaReader
open Sqfs.Consts

abbrev Bytes := List UInt8

/-- 2^64: `sqfs_u64` / `size_t` arithmetic wraps at this modulus -/
abbrev U64 : Nat := 18446744073709551616
/-- `0xFFFFFFFFFFFFFFFF`, the "no block cached" tag -/
abbrev NONE : Nat := U64 - 1

/-- `x mod 2^64` for a sum of `sqfs_u64` values that can wrap at most once (`x < 2^65`).  Written with a
comparison instead of `%`: `Nat.mod` by a 20-digit literal on an open term sends Lean's definitional
unfolding (equation lemmas, `decide`) into the weeds. -/
def wrap64 (x : Nat) : Nat := if x < U64 then x else x - U64

/-- `a - b` in `size_t` (wraps) for `a, b < 2^64` -/
def subWrap (a b : Nat) : Nat := if b ≤ a then a - b else U64 - (b - a)

abbrev Status := Nat
/-- model-only: the copy in `sqfs_meta_reader_read` would leave `m->data` -/
def crashSt : Status := 1000
/-- model-only: loop fuel exhausted -/
def fuelSt : Status := 1001

/-! ### the file -/

structure File where
  size : Nat
  byte : Nat → UInt8
  bad : Nat → Bool

/-- `file->read_at(file, off, buf, n)` of the in-memory file of the harness: scripted I/O error if the range
touches a bad position, `SQFS_ERROR_OUT_OF_BOUNDS` if it leaves the file, else exactly `n` bytes
(the buffer is untouched on failure). -/
def File.readAt (f : File) (off n : Nat) : Except Status Bytes :=
  if (List.range n).any (fun i => f.bad (off + i)) then .error errIo
  else if off + n > f.size then .error errOutOfBounds
  else .ok ((List.range n).map (fun i => f.byte (off + i)))

/-- `cmp->do_block(cmp, in, size, out, outsize)` of an *uncompressor*: error status or the output bytes -/
abbrev Codec := Bytes → Nat → Except Status Bytes

/-- the toy block codec of the harness (`toy_do_block` in `harness/h_c10.c`): first input byte selects
`00` identity of the rest · `01 k` rest XOR k · `03 lo hi b` = `lo+256*hi` copies of `b` · anything else
(and empty input, and output larger than `outsize`) fails with `SQFS_ERROR_COMPRESSOR`. -/
def toyUnc : Codec := fun inp outsize =>
  match inp with
  | 0 :: rest => if rest.length ≤ outsize then .ok rest else .error errCompressor
  | 1 :: k :: rest => if rest.length ≤ outsize then .ok (rest.map (· ^^^ k)) else .error errCompressor
  | [3, lo, hi, b] =>
    let n := lo.toNat + 256 * hi.toNat
    if n ≤ outsize then .ok (List.replicate n b) else .error errCompressor
  | _ => .error errCompressor

/-! ### the reader object -/

structure MR where
  start : Nat
  limit : Nat
  /-- `block_offset` -/
  tag : Nat
  nextBlock : Nat
  dataUsed : Nat
  offset : Nat
  /-- `data[SQFS_META_BLOCK_SIZE]`, all of it -/
  data : Bytes
deriving DecidableEq, Repr

/-- `sqfs_meta_reader_create` (calloc + `block_offset = 0xFFFF…`) -/
def fresh (start limit : Nat) : MR :=
  { start := start, limit := limit, tag := NONE, nextBlock := 0, dataUsed := 0, offset := 0,
    data := List.replicate metaBlockSize 0 }

/-- `memcpy(buf, new, |new|)` / `read_at(.., buf, |new|)` into the front of a buffer -/
def overwrite (buf new : Bytes) : Bytes := new ++ buf.drop new.length

/-- What the cache-miss part of `sqfs_meta_reader_seek` finds at `block_start`, up to the point where the
caller's `offset` is looked at.  `early`: nothing was written to `m->data`; `uncErr`: the raw block was
read into `m->data`, `do_block` failed; `done raw blk size`: `m->data` received `raw`, then (compressed
blocks) `blk` on top of it, `data_used = |blk|`, on-disk payload size `size`. -/
inductive Load where
  | early (e : Status)
  | uncErr (e : Status) (raw : Bytes)
  | done (raw blk : Bytes) (size : Nat)
deriving DecidableEq, Repr

def loadBlock (f : File) (unc : Codec) (limit b : Nat) : Load :=
  match f.readAt b 2 with                                   -- read_at(file, block_start, &header, 2)
  | .error e => .early e
  | .ok hdr =>
    let header := (hdr.getD 0 0).toNat + 256 * (hdr.getD 1 0).toNat   -- le16toh
    let compressed := header / 32768 = 0                   -- (header & 0x8000) == 0
    let size := header % 32768                             -- header & 0x7FFF
    if size > metaBlockSize then .early errCorrupted       -- size > sizeof(m->data)
    else if wrap64 (b + 2 + size) > limit then .early errOutOfBounds
    else match f.readAt (wrap64 (b + 2)) size with          -- read_at(file, block_start + 2, m->data, size)
      | .error e => .early e
      | .ok raw =>
        if compressed then
          match unc raw metaBlockSize with                 -- do_block(cmp, m->data, size, m->scratch, 8192)
          | .error e => .uncErr e raw                      -- ret < 0
          | .ok out => .done raw out size                  -- memcpy(m->data, m->scratch, ret); data_used = ret
        else .done raw raw size                            -- data_used = size

/-- `sqfs_meta_reader_seek(m, block_start, offset)`.  `fix = false`: the code before /repo 8bf8edc (failure
paths return with `data`/`data_used` already overwritten and the old `block_offset` still in place — D2).
`fix = true`: the repaired code: the cached block is forgotten before anything is loaded (**[F1]**) and
`data_used` is cleared again when the final offset check fails (**[F2]**). -/
def seek (fix : Bool) (f : File) (unc : Codec) (m : MR) (b o : Nat) : Status × MR :=
  if b < m.start ∨ b ≥ m.limit then (errOutOfBounds, m)
  else if b = m.tag then                                    -- cache hit
    if o ≥ m.dataUsed then (errOutOfBounds, m) else (0, { m with offset := o })
  else
    let m0 := if fix then { m with tag := NONE, nextBlock := NONE, dataUsed := 0, offset := 0 } else m   -- [F1]
    match loadBlock f unc m.limit b with
    | .early e => (e, m0)
    | .uncErr e raw => (e, { m0 with data := overwrite m0.data raw })
    | .done raw blk size =>
      let m1 := { m0 with data := overwrite (overwrite m0.data raw) blk, dataUsed := blk.length }
      if o ≥ m1.dataUsed then
        (errOutOfBounds, if fix then { m1 with dataUsed := 0 } else m1)                                  -- [F2]
      else (0, { m1 with tag := b, nextBlock := wrap64 (b + size + 2), offset := o })

/-- `sqfs_meta_reader_get_position` -/
def getPos (m : MR) : Nat × Nat :=
  if m.offset = m.dataUsed then (m.nextBlock, 0) else (m.tag, m.offset)

/-- top of one iteration of the `while (size != 0)` loop of `sqfs_meta_reader_read`:
`diff = data_used - offset` computed in `size_t` (wraps); `if (diff == 0) { seek(next_block, 0); diff = data_used; }`.
Result: status of the seek (0 if none was needed), state, `diff`. -/
def refill (fix : Bool) (f : File) (unc : Codec) (m : MR) : Status × MR × Nat :=
  let diff0 := subWrap m.dataUsed m.offset
  if diff0 = 0 then
    let r := seek fix f unc m m.nextBlock 0
    (r.1, r.2, r.2.dataUsed)
  else (0, m, diff0)

/-- outcome of one iteration of the loop: the function returns (`done`), or `chunk` was copied out and the
loop continues with `size` bytes still wanted -/
inductive StepR where
  | done (st : Status) (m : MR)
  | more (m : MR) (size : Nat) (chunk : Bytes)

/-- body of the `while (size != 0)` loop of `sqfs_meta_reader_read` (entered with `size ≠ 0`) below the
position guard -/
def readStepBody (fix : Bool) (f : File) (unc : Codec) (m : MR) (size : Nat) : StepR :=
  let r := refill fix f unc m
  if r.1 ≠ 0 then .done r.1 r.2.1                                          -- if (ret) return ret;
  else
    let m1 := r.2.1
    let diff := if r.2.2 > size then size else r.2.2                       -- if (diff > size) diff = size
    if m1.offset + diff > m1.data.length then .done crashSt m1            -- memcpy source leaves m->data
    else .more { m1 with offset := m1.offset + diff } (size - diff) ((m1.data.drop m1.offset).take diff)

/-- one iteration of the `while (size != 0)` loop of `sqfs_meta_reader_read`.  The code in /repo (since
442364d, which came after the seek repair 8bf8edc) first rejects a read position beyond the loaded data:
`if (m->offset > m->data_used) return SQFS_ERROR_OUT_OF_BOUNDS;` — modelled for `fix = true` (= the code as it
is); `fix = false` is the code before both commits.  Under `Inv` the guard is dead (`readStep_of_le`). -/
def readStep (fix : Bool) (f : File) (unc : Codec) (m : MR) (size : Nat) : StepR :=
  if fix = true ∧ m.offset > m.dataUsed then .done errOutOfBounds m
  else readStepBody fix f unc m size

/-- the `while (size != 0)` loop of `sqfs_meta_reader_read`; one unit of fuel per iteration, `acc` = bytes
delivered so far. -/
def readLoop (fix : Bool) (f : File) (unc : Codec) : Nat → MR → Nat → Bytes → Status × Bytes × MR
  | 0, m, size, acc => if size = 0 then (0, acc, m) else (fuelSt, acc, m)
  | k + 1, m, size, acc =>
    if size = 0 then (0, acc, m) else
    match readStep fix f unc m size with
    | .done st m' => (st, acc, m')
    | .more m' size' chunk => readLoop fix f unc k m' size' (acc ++ chunk)

/-- `sqfs_meta_reader_read(m, buf, size)`: status, bytes delivered (meaningful when status = 0), new state -/
def read (fix : Bool) (f : File) (unc : Codec) (m : MR) (size : Nat) : Status × Bytes × MR :=
  readLoop fix f unc size m size []

/-! ### histories and queries -/

inductive Op where
  | seek (b o : Nat)
  | read (n : Nat)
  | pos
deriving DecidableEq, Repr

def step (fix : Bool) (f : File) (unc : Codec) (m : MR) : Op → MR
  | .seek b o => (seek fix f unc m b o).2
  | .read n => (read fix f unc m n).2.2
  | .pos => m

/-- state of the reader object after a history of API calls (results ignored, failures included) -/
def run (fix : Bool) (f : File) (unc : Codec) (m : MR) (h : List Op) : MR :=
  h.foldl (step fix f unc) m

/-- answers to the reads of a query, in order, stopping after the first failure; `endPos` = `get_position`
after the last read when everything succeeded -/
structure Answer where
  seekSt : Status
  reads : List (Status × Bytes)
  endPos : Option (Nat × Nat)
deriving DecidableEq, Repr

def answerReads (fix : Bool) (f : File) (unc : Codec) : MR → List Nat → List (Status × Bytes) × Option (Nat × Nat)
  | m, [] => ([], some (getPos m))
  | m, n :: ns =>
    let r := read fix f unc m n
    if r.1 ≠ 0 then ([(r.1, [])], none)
    else
      let rest := answerReads fix f unc r.2.2 ns
      ((0, r.2.1) :: rest.1, rest.2)

/-- A *query*: `seek(b, o)`, then `read(n)` for each `n ∈ ns` as long as everything succeeds, then
`get_position` — the shape of every use of the meta reader inside libsquashfs (`read_inode`, `readdir`,
`read_table`, the xattr reader). -/
def answer (fix : Bool) (f : File) (unc : Codec) (m : MR) (b o : Nat) (ns : List Nat) : Answer :=
  let s := seek fix f unc m b o
  if s.1 ≠ 0 then { seekSt := s.1, reads := [], endPos := none }
  else
    let r := answerReads fix f unc s.2 ns
    { seekSt := 0, reads := r.1, endPos := r.2 }

end Sqfs.MetaReader
