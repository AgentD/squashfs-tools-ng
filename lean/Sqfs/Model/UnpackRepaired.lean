/-
C06, the *repaired* unpacker, the code in /repo (fixes/C06-mkdir-eexist-lstat.patch = /repo 9dca2a8): `create_node` in
restore_fstree.c no longer accepts `EEXIST` from `mkdir` blindly —

    if (mkdir(name, 0755)) {
        if (errno != EEXIST) fail;
        if (lstat(name, &sb)) fail;            /* does not follow a link in the last component */
        if (!S_ISDIR(sb.st_mode)) fail;        /* "exists and is not a directory" */
    }

Everything else (`mkdir_p`, `chdir`, the three walks, what the other calls do) is as before 9dca2a8: only the rule
"which failing call is tolerated" changes, and it looks at the file system.  The model of the code before 9dca2a8
is `tolerated`, `run`, `unpackMain` in `Sqfs/Model/Unpack.lean`.
-/
import Sqfs.Model.Unpack
namespace Sqfs.Unpack
open Sqfs.Path

/-- `lstat(name, &sb) == 0 && S_ISDIR(sb.st_mode)`: the name resolves — the last component *not* followed — to a
    directory -/
def lstatIsDir (fs : Fs) (cwd : PathC) (p : Bytes) : Bool :=
  match resolve fs cwd p false with
  | .ok (_, some ⟨.dir, _⟩) => true
  | _ => false

/-- errors the repaired caller ignores: `mkdir` answering `EEXIST` **and** `lstat` saying "a directory".
    `lf` = the environment makes that `lstat` fail (EACCES on the way, EIO, …): then nothing is tolerated. -/
def toleratedR (lf : Bool) (fs : Fs) (cwd : PathC) : Syscall → Errno → Bool
  | .mkdir p _, .EEXIST => !lf && lstatIsDir fs cwd p
  | _, _ => false

/-- `run` with the repaired tolerance rule; `lflt i` = the `lstat` behind the `i`-th call fails -/
def runR (flt : Faults) (lflt : Nat → Bool) (cwd : PathC) : Nat → Fs → List Syscall → Run
  | _, fs, [] => ⟨fs, [], false⟩
  | i, fs, sc :: r =>
    match stepF (flt i) fs cwd sc with
    | .ok fs' => let x := runR flt lflt cwd (i + 1) fs' r; ⟨x.fs, (sc, none) :: x.trace, x.failed⟩
    | .error e =>
      if toleratedR (lflt i) fs cwd sc e then
        let x := runR flt lflt cwd (i + 1) fs r; ⟨x.fs, (sc, some e) :: x.trace, x.failed⟩
      else ⟨fs, [(sc, some e)], true⟩

/-- `main`, `case OP_UNPACK`, with the repaired `create_node`: `mkdir_p` and `chdir` as before (lib/util/mkdir_p.c is
    not changed: the unpack root itself may be reached through links, that is the user's choice), the walks under `runR` -/
def unpackMainR (ord : List FileEnt → List FileEnt) (fl : Flags) (t : TNode) (root : Option Bytes) (flt : Faults)
    (lflt : Nat → Bool) (cwd₀ : PathC) (fs₀ : Fs) : MainRun :=
  match treeSort t with
  | .error _ => { fs := fs₀, fsEst := fs₀, cwd := cwd₀ }
  | .ok t' =>
    let plan := planSorted ord fl t'
    match root with
    | none =>
      let r := runR flt lflt cwd₀ 0 fs₀ plan.syscalls
      { fs := r.fs, fsEst := fs₀, cwd := cwd₀, trace := r.trace, established := true,
        exit := if r.failed || plan.err.isSome then 1 else 0 }
    | some R =>
      let m := mkdirP flt cwd₀ fs₀ R
      if m.failed then { fs := m.fs, fsEst := m.fs, cwd := cwd₀, pre := m.trace }
      else
        let n := (mkdirPCuts R).length
        match chdirF (flt n) m.fs cwd₀ R with
        | .error e => { fs := m.fs, fsEst := m.fs, cwd := cwd₀, pre := m.trace, chdirRes := some (some e) }
        | .ok c =>
          let r := runR flt lflt c (n + 1) m.fs plan.syscalls
          { fs := r.fs, fsEst := m.fs, cwd := c, pre := m.trace, chdirRes := some none, trace := r.trace,
            established := true, exit := if r.failed || plan.err.isSome then 1 else 0 }

end Sqfs.Unpack
