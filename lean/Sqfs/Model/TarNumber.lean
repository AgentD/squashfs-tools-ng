/-
Model of the numeric field codec of `lib/tar`:

* reader: `lib/tar/src/number.c` (`read_number`, `read_octal`, `read_binary`),
* writer: the static helpers `write_number`, `write_binary`, `write_number_signed`
  of `lib/tar/src/write_header.c`.

A header field is the list of its `digits` bytes.  `sqfs_u64` quantities are
`Nat`s below `2^64`; every place where the C code relies on 64-bit wrap-around
(`result << 8` in `read_binary`, `~neg + 1` in `write_number_signed`) has an
explicit `% 2^64`.

`read_binary` exists twice: `readBinary` mirrors the **repaired** overflow
guard, the code in /repo (`fixes/C04-read-binary-overflow.patch` = /repo 9ba238f: the sign decides which top byte
is acceptable before a shift, and a negative result must keep its sign bit);
`Sqfs/Witness/C04.lean` keeps the guard of the unrepaired code
(`ov != 0 && ov != 0xFF`, sign-blind), which wraps silently.
-/
namespace Sqfs.Tar

abbrev Bytes := List UInt8

/-- `2^64` -/
abbrev U64 : Nat := 18446744073709551616

/-- the bytes of an ASCII string literal (reduces in the kernel, unlike `String.toUTF8`) -/
def ascii (s : String) : Bytes := s.toList.map fun c => UInt8.ofNat c.toNat

/-- `isspace` in the "C" locale -/
def isSpace (c : UInt8) : Bool := c.toNat = 32 || (9 ≤ c.toNat && c.toNat ≤ 13)

/-- `*str >= '0' && *str <= '7'` -/
def isOctDigit (c : UInt8) : Bool := 48 ≤ c.toNat && c.toNat ≤ 55

/-- first loop of `read_octal`: `while (digits > 0 && isspace(*str))` -/
def skipSpaces : Bytes → Bytes
  | [] => []
  | c :: t => if isSpace c then skipSpaces t else c :: t

/-- second loop of `read_octal`; `none` = "numeric overflow parsing tar header" -/
def octLoop (result : Nat) : Bytes → Option Nat
  | [] => some result
  | c :: t =>
    if isOctDigit c then
      if result > 0x1FFFFFFFFFFFFFFF then none
      else octLoop (result * 8 + (c.toNat - 48)) t      -- `(result << 3) | (c - '0')`
    else some result

def readOctal (f : Bytes) : Option Nat := octLoop 0 (skipSpaces f)

/--
Loop of `read_binary` after the first byte.  `neg` = the first byte was 0xFF.
Repaired guard: before a shift the top byte must be 0 for a non-negative and
0xFF for a negative number.
-/
def binLoop (neg : Bool) (result : Nat) : Bytes → Option Nat
  | [] => some result
  | x :: t =>
    let ov := result / 72057594037927936                -- `(result >> 56) & 0xFF`
    if (if neg then ov ≠ 255 else ov ≠ 0) then none
    else binLoop neg ((result * 256 + x.toNat) % U64) t -- `(result << 8) | x` in 64 bits

/--
`read_binary`.  First byte 0xFF: negative, `result` starts as all-ones (and is
still all-ones after the first iteration).  Otherwise the low 7 bits are the
most significant digit, which must be zero when more than 7 bytes follow.
Repaired code: a negative number whose sign bit got shifted out is an overflow.
-/
def readBinary : Bytes → Option Nat
  | [] => some 0
  | b0 :: t =>
    if b0.toNat = 255 then
      match binLoop true (U64 - 1) t with
      | some r => if r < 9223372036854775808 then none else some r
      | none => none
    else
      let x := b0.toNat % 128
      if t.length > 7 ∧ x ≠ 0 then none
      else binLoop false x t

/-- `read_number`: dispatch on the top bit of the first byte. (Never called with `digits = 0`.) -/
def readNumber : Bytes → Option Nat
  | [] => some 0
  | b0 :: t => if b0.toNat ≥ 128 then readBinary (b0 :: t) else readOctal (b0 :: t)

/-! ### the unrepaired `read_binary` (the code before /repo 9ba238f = `fixes/C04-read-binary-overflow.patch`)
Kept executable so that the check can recognise the known finding; `Sqfs/Witness/C04.lean` proves that it
wraps silently. -/

/-- loop of the unrepaired `read_binary`: sign-blind guard `ov != 0 && ov != 0xFF` -/
def binLoopCur (result : Nat) : Bytes → Option Nat
  | [] => some result
  | x :: t =>
    let ov := result / 72057594037927936
    if ov ≠ 0 ∧ ov ≠ 255 then none
    else binLoopCur ((result * 256 + x.toNat) % U64) t

def readBinaryCur : Bytes → Option Nat
  | [] => some 0
  | b0 :: t =>
    if b0.toNat = 255 then binLoopCur (U64 - 1) t
    else
      let x := b0.toNat % 128
      if t.length > 7 ∧ x ≠ 0 then none else binLoopCur x t

def readNumberCur : Bytes → Option Nat
  | [] => some 0
  | b0 :: t => if b0.toNat ≥ 128 then readBinaryCur (b0 :: t) else readOctal (b0 :: t)

/-! ### writer (`write_header.c`) -/

/-- `n` octal digits of `v`, most significant first (`"%0*lo"` for `v < 8^n`) -/
def octDigits : Nat → Nat → Bytes
  | 0, _ => []
  | n + 1, v => UInt8.ofNat (48 + v / 8 ^ n % 8) :: octDigits n v

/-- `n` base-256 digits of `v`, most significant first (the `while (digits > 0)` loop of `write_binary`) -/
def beBytes : Nat → Nat → Bytes
  | 0, _ => []
  | n + 1, v => UInt8.ofNat (v / 256 ^ n % 256) :: beBytes n v

/-- `write_binary`: big endian, then `dst[0] |= 0x80`. `value < 2^64`. -/
def writeBinary (v w : Nat) : Bytes :=
  match beBytes w v with
  | [] => []
  | b0 :: t => (b0 ||| 128) :: t

/--
`write_number` for field widths `2 ≤ w ≤ 21` (the callers use 8 and 12; for these
widths `mask = 8^(w-1) - 1` and `(mask << 3) | 7 = 8^w - 1` do not overflow 64 bits).
-/
def writeNumber (v w : Nat) : Bytes :=
  if v ≤ 8 ^ (w - 1) - 1 then octDigits (w - 1) v ++ [32]     -- `"%0*lo "`, w-1 digits and a blank
  else if v ≤ 8 ^ w - 1 then octDigits w v                     -- `"%0*lo"`, no terminator
  else writeBinary v w

/-- `write_number_signed` (`value : sqfs_s64`): negative values always go to `write_binary(~neg + 1)`. -/
def writeNumberSigned (v : Int) (w : Nat) : Bytes :=
  if v < 0 then writeBinary ((v + (U64 : Int)).toNat % U64) w
  else writeNumber v.toNat w

/-- `decode_header`'s conversion of the mtime field to `sqfs_s64`. -/
def toSigned (field : Nat) : Int :=
  if field ≥ 9223372036854775808 then (field : Int) - (U64 : Int) else (field : Int)

/-! ### checksum (`checksum.c`, `update_checksum`, `is_checksum_valid`) -/

def sumBytes : Bytes → Nat
  | [] => 0
  | b :: t => b.toNat + sumBytes t

/-- `tar_compute_checksum` on a 512-byte header: the 8 checksum bytes at offset 148 count as blanks. -/
def computeChecksum (h : Bytes) : Nat :=
  sumBytes (h.take 148) + 8 * 32 + sumBytes (h.drop 156)

/-- `sprintf(hdr->chksum, "%06o", sum); chksum[6] = 0; chksum[7] = ' '` (sum < 8^6: 512·255 = 130560 < 262144) -/
def chksumField (sum : Nat) : Bytes := octDigits 6 sum ++ [0, 32]

/-- `update_checksum` -/
def updateChecksum (h : Bytes) : Bytes :=
  h.take 148 ++ chksumField (computeChecksum h) ++ h.drop 156

/-- `is_checksum_valid` -/
def isChecksumValid (h : Bytes) : Bool :=
  match readNumber ((h.drop 148).take 8) with
  | some c => c == computeChecksum h
  | none => false

end Sqfs.Tar
