/-
C01 — extended attributes.

* recording: `sqfs_xattr_writer_begin/add_kv/end` (`lib/sqfs/src/xattr/xattr_writer_record.c`) with the two string
  tables (`lib/util/src/str_table.c`: index = order of first insertion, reference counts), the pair array and the
  list of distinct key/value blocks (`kv_block_tree` is only the lookup structure for "is there an equal block");
* flushing: `write_kv_pairs`, `write_block_pairs`, `write_key`, `write_value`, `write_value_ool`, `should_store_ool`,
  `write_id_table`, `alloc_location_table` (`xattr_writer_flush.c`);
* reading: `sqfs_xattr_reader_get_desc`, `seek_kv`, `read_key_hdr`, `read_value_hdr`, `sqfs_xattr_reader_read`,
  `read_all` (`xattr_reader.c`).

The key/value stream is modelled flat (`Sqfs.EncMeta` relates flat positions and `(block, offset)` references);
`refOf p` is the packed reference the kv meta writer reports at flat position `p`, `posOf ref` what a seek to that
reference reaches.
-/
import Sqfs.Model.EncMeta
namespace Sqfs.Enc
open Sqfs.Consts

/-! ### keys -/

def prefixUser : Bytes := [0x75, 0x73, 0x65, 0x72, 0x2e]                                   -- "user."
def prefixTrusted : Bytes := [0x74, 0x72, 0x75, 0x73, 0x74, 0x65, 0x64, 0x2e]              -- "trusted."
def prefixSecurity : Bytes := [0x73, 0x65, 0x63, 0x75, 0x72, 0x69, 0x74, 0x79, 0x2e]       -- "security."

/-- `xattr_types[]` (xattr.c:17-24) -/
def xattrTypes : List (Bytes × Nat) := [(prefixUser, xattrUser), (prefixTrusted, xattrTrusted), (prefixSecurity, xattrSecurity)]

/-- `sqfs_get_xattr_prefix_id` (xattr.c:26-40): the prefix must be followed by at least one byte -/
def prefixId (key : Bytes) : Option Nat :=
  (xattrTypes.find? (fun t => t.1.isPrefixOf key && key.length > t.1.length)).map (·.2)

/-- `sqfs_get_xattr_prefix` (xattr.c:42-52) -/
def prefixOf (id : Nat) : Option Bytes := (xattrTypes.find? (fun t => t.2 == id)).map (·.1)

/-- `strchr(key, '.') + 1` (xattr_writer_flush.c:45-47): what follows the first dot -/
def afterDot : Bytes → Bytes
  | [] => []
  | c :: r => if c = 0x2e then r else afterDot r

/-! ### recording -/

/-- `sqfs_xattr_writer_t`: `keys`/`values` = the two `str_table_t` (string, and for values the reference count),
`pairs` = `kv_pairs` as (key index, value index), `blocks` = the `kv_block_desc_t` list (`start`, `count`) in
creation order (`num_blocks` = its length) -/
structure XWriter where
  keys : List Bytes := []
  values : List (Bytes × Nat) := []
  pairs : List (Nat × Nat) := []
  kvStart : Nat := 0
  blocks : List (Nat × Nat) := []
  deriving Repr, DecidableEq

/-- `str_table_get_index` on the key table -/
def internKey (keys : List Bytes) (k : Bytes) : Nat × List Bytes :=
  let i := keys.idxOf k
  if i < keys.length then (i, keys) else (keys.length, keys ++ [k])

/-- `str_table_get_index` + `str_table_add_ref` on the value table -/
def internValue (values : List (Bytes × Nat)) (v : Bytes) : Nat × List (Bytes × Nat) :=
  let i := (values.map (·.1)).idxOf v
  if i < values.length then (i, values.modify i (fun e => (e.1, e.2 + 1)))
  else (values.length, values ++ [(v, 1)])

/-- `str_table_del_ref` -/
def delRef (values : List (Bytes × Nat)) (i : Nat) : List (Bytes × Nat) :=
  values.modify i (fun e => (e.1, e.2 - 1))

/-- the `for (i = kv_start; …)` loop of `add_kv` (xattr_writer_record.c:82-94) over the pairs of the current set:
`some (pairs', replacedValue?)` when the key (or the very pair) is already there -/
def replacePair (kp : Nat × Nat) : List (Nat × Nat) → Option (List (Nat × Nat) × Option Nat)
  | [] => none
  | e :: r =>
    if e = kp then some (e :: r, none)                                     -- :85
    else if e.1 = kp.1 then some (kp :: r, some e.2)                       -- :87-92
    else (replacePair kp r).map (fun x => (e :: x.1, x.2))

/-- `sqfs_xattr_writer_add_kv` (xattr_writer_record.c:50-97) -/
def addKv (w : XWriter) (key value : Bytes) : Except Status XWriter :=
  match prefixId key with
  | none => .error errUnsupported                                          -- :59
  | some _ =>
    let (ki, keys) := internKey w.keys key                                 -- :62
    let (vi, values) := internValue w.values value                         -- :70-76 (base32 text = injective image)
    let cur := w.pairs.drop w.kvStart
    match replacePair (ki, vi) cur with
    | some (cur', old) =>
      let values := match old with | some o => delRef values o | none => values
      .ok { w with keys := keys, values := values, pairs := w.pairs.take w.kvStart ++ cur' }
    | none => .ok { w with keys := keys, values := values, pairs := w.pairs ++ [(ki, vi)] }   -- :96

/-- `compare_u64` on `MK_PAIR(key, value)` -/
def pairLe (a b : Nat × Nat) : Bool := a.1 < b.1 || (a.1 == b.1 && a.2 ≤ b.2)

def insertPair (p : Nat × Nat) : List (Nat × Nat) → List (Nat × Nat)
  | [] => [p]
  | e :: r => if pairLe p e then p :: e :: r else e :: insertPair p r

/-- `array_sort_range(…, compare_u64)`; the pairs of one set are distinct, so every sorting algorithm agrees -/
def sortPairs : List (Nat × Nat) → List (Nat × Nat)
  | [] => []
  | e :: r => insertPair e (sortPairs r)

def blockPairs (pairs : List (Nat × Nat)) (b : Nat × Nat) : List (Nat × Nat) := (pairs.drop b.1).take b.2

/-- `sqfs_xattr_writer_begin` (xattr_writer_record.c:40-48) -/
def beginSet (w : XWriter) : XWriter := { w with kvStart := w.pairs.length }

/-- `sqfs_xattr_writer_end` (xattr_writer_record.c:105-151): the writer afterwards and `*out` -/
def endSet (w : XWriter) : XWriter × Nat :=
  let count := w.pairs.length - w.kvStart
  if count = 0 then (w, NONE32)                                            -- :116-119
  else
    let sorted := sortPairs (w.pairs.drop w.kvStart)                       -- :121
    let pairs := w.pairs.take w.kvStart ++ sorted
    let j := (w.blocks.map (blockPairs pairs)).idxOf sorted                -- :123 rbtree_lookup (block_compare)
    if j < w.blocks.length then ({ w with pairs := w.pairs.take w.kvStart }, j)      -- :125-127
    else ({ w with pairs := pairs, blocks := w.blocks ++ [(w.kvStart, count)] }, w.blocks.length)   -- :128-146

/-- begin, every `add_kv`, end; stops at the first error like `apply_xattrs` in the tools -/
def addAllKv : XWriter → List (Bytes × Bytes) → Except Status XWriter
  | w, [] => .ok w
  | w, kv :: rest =>
    match addKv w kv.1 kv.2 with
    | .ok w => addAllKv w rest
    | .error e => .error e

def recordSet (w : XWriter) (kvs : List (Bytes × Bytes)) : Except Status (XWriter × Nat) :=
  match addAllKv (beginSet w) kvs with
  | .ok w => .ok (endSet w)
  | .error e => .error e

def recordAll (w : XWriter) : List (List (Bytes × Bytes)) → Except Status (XWriter × List Nat)
  | [] => .ok (w, [])
  | s :: rest =>
    match recordSet w s with
    | .ok (w, i) =>
      match recordAll w rest with
      | .ok (w, is) => .ok (w, i :: is)
      | .error e => .error e
    | .error e => .error e

/-! ### flushing -/

/-- `write_key` (xattr_writer_flush.c:33-65) -/
def encKey (key : Bytes) (ool : Bool) : Bytes :=
  let t := (prefixId key).getD 0
  let k := afterDot key
  encFields [(2, if ool then t ||| xattrFlagOol else t), (2, k.length)] ++ k

/-- `write_value` (:67-100) -/
def encValue (v : Bytes) : Bytes := encFields [(4, v.length)] ++ v

/-- `write_value_ool` (:102-122) -/
def encValueOol (ref : Nat) : Bytes := encFields [(4, 8), (8, ref)]

/-- `should_store_ool` (:124-140): referenced at least twice and longer than a reference -/
def shouldStoreOol (v : Bytes) (refcount : Nat) : Bool := refcount ≥ 2 && v.length > 8

/-- state of `write_kv_pairs`: the flat stream so far and `ool_locations[]` -/
structure KvSt where
  out : Bytes := []
  ool : List Nat := []
  deriving Repr, DecidableEq

/-- one iteration of the loop of `write_block_pairs` (:150-186) -/
def writePair (refOf : Nat → Nat) (w : XWriter) (st : KvSt) (p : Nat × Nat) : KvSt :=
  let key := w.keys.getD p.1 []
  let val := w.values.getD p.2 ([], 0)
  if st.ool.getD p.2 NONE64 = NONE64 then                                  -- :158
    let k := encKey key false
    let ref := refOf (st.out.length + k.length)                            -- get_position inside write_value
    let ool := if shouldStoreOol val.1 val.2 then st.ool.set p.2 ref else st.ool   -- :171-173
    { out := st.out ++ k ++ encValue val.1, ool := ool }
  else
    { st with out := st.out ++ encKey key true ++ encValueOol (st.ool.getD p.2 NONE64) }   -- :175-184

/-- one `kv_block_desc_t`: `start_ref`, pair count, `size_bytes` -/
structure XDesc where
  ref : Nat
  count : Nat
  size : Nat
  deriving Repr, DecidableEq

/-- the `for (blk = kv_block_first; …)` loop of `write_kv_pairs` (:209-221) -/
def writeBlocks (refOf : Nat → Nat) (w : XWriter) : KvSt → List (Nat × Nat) → KvSt × List XDesc
  | st, [] => (st, [])
  | st, b :: rest =>
    let st' := (blockPairs w.pairs b).foldl (writePair refOf w) st
    let r := writeBlocks refOf w st' rest
    (r.1, ⟨refOf st.out.length, b.2, st'.out.length - st.out.length⟩ :: r.2)

/-- `write_kv_pairs` (:190-225): the flat key/value stream and the descriptors -/
def flushKv (refOf : Nat → Nat) (w : XWriter) : Bytes × List XDesc :=
  let r := writeBlocks refOf w { out := [], ool := List.replicate w.values.length NONE64 } w.blocks
  (r.1.out, r.2)

/-- `sqfs_xattr_id_t` as `write_id_table` appends it (:240-247) -/
def encDesc (d : XDesc) : Bytes := encFields [(8, d.ref), (4, d.count), (4, d.size)]

def encDescs (l : List XDesc) : Bytes := (l.map encDesc).flatten

/-- `alloc_location_table` (:283-303): number of `sqfs_u64` slots -/
def locCount (numBlocks : Nat) : Nat :=
  (numBlocks * sizeofXattrId) / metaBlockSize + (if (numBlocks * sizeofXattrId) % metaBlockSize ≠ 0 then 1 else 0)

/-- the stores into `locations[]` done by `write_id_table` (:227-259), as `(index, value)` in program order.
`blockAfter k` = the meta writer's `block_offset` after the `k`-th descriptor was appended.  `cap = none`: the code
before /repo 6ae20a5 — `if (block != locations[i - 1]) locations[i++] = block`; `cap = some count`: the code in /repo
(`fixes/C01-xattr-id-table-locations.patch` = 6ae20a5), which stores only while `i < count`. -/
def locStoresGo (cap : Option Nat) (blockAfter : Nat → Nat) : (fuel k i last : Nat) → List (Nat × Nat)
  | 0, _, _, _ => []
  | f + 1, k, i, last =>
    let block := blockAfter (k + 1)
    if block != last && (match cap with | some c => decide (i < c) | none => true) then
      (i, block) :: locStoresGo cap blockAfter f (k + 1) (i + 1) block
    else locStoresGo cap blockAfter f (k + 1) i last

def locStores (cap : Option Nat) (blockAfter : Nat → Nat) (numBlocks : Nat) : List (Nat × Nat) :=
  (0, 0) :: locStoresGo cap blockAfter numBlocks 0 1 0                     -- :237 locations[i++] = 0

/-- the array after the stores (slots never written keep `alloc_array`'s zero); a store beyond the array is a heap
overflow in C and is dropped here — `Sqfs.C01.xattr_loc_index_lt_count` shows the repaired code makes none -/
def applyStores (n : Nat) (stores : List (Nat × Nat)) : List Nat :=
  stores.foldl (fun a s => a.set s.1 s.2) (List.replicate n 0)

/-! ### reading -/

/-- `write_id_table` + `sqfs_xattr_writer_flush` (xattr_writer_flush.c:227-259, 305-346) on top of `flushKv`: the
descriptors go through a meta writer (`run cmp`), `block_offset` is sampled after every append (`blockAfters`), the
stores into `locations[]` are replayed into the array (`applyStores`; repaired guard `i < count`) -/
def blockAfters (cmp : Sqfs.MetaWriter.Codec) : Sqfs.MetaWriter.St → List Bytes → List Nat
  | _, [] => []
  | st, c :: cs => (Sqfs.MetaWriter.append cmp st c).blockOffset :: blockAfters cmp (Sqfs.MetaWriter.append cmp st c) cs

structure XFlush where
  /-- flat key/value stream -/
  kv : Bytes
  descs : List XDesc
  /-- the metadata blocks of the id table -/
  idBlocks : List Sqfs.MetaWriter.Block
  /-- `locations[]` relative to `id_start` (before `+ id_start`, :339) -/
  locs : List Nat

def xattrFlush (cmp : Sqfs.MetaWriter.Codec) (refOf : Nat → Nat) (w : XWriter) : XFlush :=
  let (kv, descs) := flushKv refOf w
  let chunks := descs.map encDesc
  let after := blockAfters cmp {} chunks
  let count := locCount descs.length
  { kv := kv, descs := descs, idBlocks := (Sqfs.MetaWriter.run cmp chunks).out,
    locs := applyStores count (locStores (some count) (fun k => after.getD (k - 1) 0) descs.length) }

/-- a loaded `sqfs_xattr_reader_t`: `kv` = the key/value stream (flat; `posOf` = where a seek to a packed reference
lands, `none`: the seek fails), `idDisk` = the metadata blocks of the id table as they are on disk from `id_start` on,
`locs` = `id_block_starts[]` (relative to `id_start`), `unc` = the reader's `do_block`, `numIds` = `xattr_ids` of the
table header -/
structure XReader where
  kv : Bytes
  idDisk : Bytes
  locs : List Nat
  unc : Unc
  numIds : Nat
  posOf : Nat → Option Nat

/-- `sqfs_xattr_reader_get_desc` (xattr_reader.c:404-441) for `idx ≠ 0xFFFFFFFF` on a loaded reader: the descriptor is
fetched through `id_block_starts[idx * 16 / 8192]` at offset `idx * 16 % 8192` -/
def getDesc (r : XReader) (idx : Nat) : Except Status XDesc :=
  if idx ≥ r.numIds then .error errOutOfBounds                             -- :419
  else
    match r.locs[idx * sizeofXattrId / metaBlockSize]? with                 -- :423 (in range: num_id_blocks = ceil)
    | none => .error errOutOfBounds
    | some start =>
      match metaReadAt r.unc r.idDisk start (idx * sizeofXattrId % metaBlockSize) sizeofXattrId with   -- :425-430
      | .error e => .error e
      | .ok raw =>
        match readFields [8, 4, 4] raw with                                -- :432-435
        | .ok ([x, c, s], _) => .ok ⟨x, c, s⟩
        | .ok _ => .error errInternal
        | .error e => .error e

/-- the reader `sqfs_xattr_reader_load` builds from what `xattrFlush` wrote -/
def XFlush.reader (f : XFlush) (unc : Unc) (posOf : Nat → Option Nat) : XReader :=
  { kv := f.kv, idDisk := encBlocks f.idBlocks, locs := f.locs, unc := unc, numIds := f.descs.length, posOf := posOf }

/-- `sqfs_xattr_reader_read` (xattr_reader.c:303-388): one key/value pair with the key/value reader standing at the
head of `cur`; result: the full key (prefix included), the value, and the stream behind the pair.  An out-of-line value
is fetched by a seek into `r.kv` and a seek back (:244, :362). -/
def readPair (r : XReader) (cur : Bytes) : Except Status ((Bytes × Bytes) × Bytes) :=
  match readFields [2, 2] cur with                                         -- read_key_hdr :196-214
  | .ok ([typ, ksz], c1) =>
    match prefixOf (typ % (xattrPrefixMask + 1)) with                      -- type & SQFS_XATTR_PREFIX_MASK
    | none => .error errUnsupported
    | some pfx =>
      match take? ksz c1 with                                              -- :333
      | .ok (k, c2) =>
        match readFields [4] c2 with                                       -- read_value_hdr :224
        | .ok ([vsz], c3) =>
          if (typ / xattrFlagOol) % 2 = 1 then                             -- key->type & SQFS_XATTR_FLAG_OOL
            match readFields [8] c3 with                                   -- :229
            | .ok ([ref], c4) =>
              if ref % 65536 ≥ metaBlockSize then .error errOutOfBounds    -- :237-240
              else
                match r.posOf ref with                                     -- :244 seek
                | none => .error errOutOfBounds
                | some p =>
                  match readFields [4] (r.kv.drop p) with                  -- :248
                  | .ok ([osz], c5) =>
                    match take? osz c5 with                                -- :357
                    | .ok (v, _) => .ok ((pfx ++ k, v), c4)                -- :362 seek back
                    | .error e => .error e
                  | .ok _ => .error errInternal
                  | .error e => .error e
            | .ok _ => .error errInternal
            | .error e => .error e
          else
            match take? vsz c3 with
            | .ok (v, c4) => .ok ((pfx ++ k, v), c4)
            | .error e => .error e
        | .ok _ => .error errInternal
        | .error e => .error e
      | .error e => .error e
  | .ok _ => .error errInternal
  | .error e => .error e

def readPairs (r : XReader) : Nat → Bytes → Except Status (List (Bytes × Bytes))
  | 0, _ => .ok []
  | n + 1, cur =>
    match readPair r cur with
    | .ok (kv, cur') =>
      match readPairs r n cur' with
      | .ok l => .ok (kv :: l)
      | .error e => .error e
    | .error e => .error e

/-- `sqfs_xattr_reader_read_all` (xattr_reader.c:443-485) -/
def readSet (r : XReader) (idx : Nat) : Except Status (List (Bytes × Bytes)) :=
  if idx = NONE32 then .ok []
  else
    match getDesc r idx with
    | .error e => .error e
    | .ok d =>
      match r.posOf d.ref with                                             -- seek_kv
      | none => .error errOutOfBounds
      | some p => readPairs r d.count (r.kv.drop p)

/-- what index `j` must read back as: the pairs of block `j` with the interned strings put back -/
def XWriter.setOf (w : XWriter) (j : Nat) : List (Bytes × Bytes) :=
  (blockPairs w.pairs (w.blocks.getD j (0, 0))).map (fun p => (w.keys.getD p.1 [], (w.values.getD p.2 ([], 0)).1))

end Sqfs.Enc
