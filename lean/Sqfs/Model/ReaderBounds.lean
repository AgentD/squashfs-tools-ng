/-
Model of the *bounds-check logic* of the libsquashfs readers (property C05), with the exact C integer widths
(`sqfs_u16/u32/u64` = `UInt16/32/64`, `size_t` = `UInt64`; every `+`, `-`, `*` below wraps exactly where the C
expression wraps).

Each routine returns the list of buffer accesses it performs (`Access`: which buffer, offset, length and the
capacity of that buffer at the time of the access — a fixed array size, a caller-supplied size, or the size the
routine itself passed to `calloc`/`malloc`/`realloc`, computed with the C arithmetic).  The property theorems
(`Sqfs/Props/C05.lean`) say that every access satisfies `off + len ≤ cap` in ℕ, for all field values.

Everything the routines obtain from outside (file reads, the block decompressor) is a parameter; the codec enters
only through its contract "returns a negative value or a length `≤ outsize`".

The functions here are the **repaired** logic (the code in /repo) where the snapshot c02cd92 is defective (D3, D4, D5, D19, D25; D17 in
`Sqfs/Model/ReaderWalk.lean`); the snapshot's code is kept as the `fixed := false` branch of the same definitions
so that `Sqfs/Witness/C05.lean` can prove the negations and the driver can predict the behaviour of an unpatched
tree.  Comments name the C lines each clause mirrors.
-/
import Sqfs.Generated.Consts
namespace Sqfs.ReaderBounds
open Sqfs

/-- `SQFS_ERROR_*` as far as the readers produce them; `fuel` is the model's own "ran out of fuel" marker
(proved unreachable for the fuel the wrappers pass). -/
inductive Err
  | alloc | io | compressor | internal | corrupted | unsupported | overflow | oob | notDir | noEntry
  | linkLoop | notFile | argInvalid | sequence | superMagic | superVersion | superBlockSize | fuel
  deriving DecidableEq, Repr, Inhabited

def Err.name : Err → String
  | .alloc => "ALLOC" | .io => "IO" | .compressor => "COMPRESSOR" | .internal => "INTERNAL"
  | .corrupted => "CORRUPTED" | .unsupported => "UNSUPPORTED" | .overflow => "OVERFLOW" | .oob => "OOB"
  | .notDir => "NOT_DIR" | .noEntry => "NO_ENTRY" | .linkLoop => "LINK_LOOP" | .notFile => "NOT_FILE"
  | .argInvalid => "ARG_INVALID" | .sequence => "SEQUENCE" | .superMagic => "SUPER_MAGIC"
  | .superVersion => "SUPER_VERSION" | .superBlockSize => "SUPER_BLOCK_SIZE" | .fuel => "FUEL"

/-- the buffers the modelled routines touch -/
inductive Buf
  | metaData      -- `sqfs_meta_reader_t.data[SQFS_META_BLOCK_SIZE]`
  | metaScratch   -- `sqfs_meta_reader_t.scratch[SQFS_META_BLOCK_SIZE]`
  | dst           -- the caller's destination buffer of `sqfs_meta_reader_read` / `sqfs_data_reader_read`
  | drScratch     -- `sqfs_data_reader_t.scratch[block_size]`
  | blockOut      -- the buffer `get_block` allocates (`alloc_array(1, max_size)`)
  | fragBlock     -- `data->frag_block` (allocated by `get_block` with `max_size = block_size`)
  | dataBlock     -- `data->data_block` (ditto)
  | fragOut       -- the result buffer of `sqfs_data_reader_get_fragment`
  | streamBuf     -- `stream->buffer` (`malloc(block_size)`)
  | inoData       -- `stream->inodata` / `inode->extra` block-size words
  | table         -- `sqfs_read_table`: `data`
  | locations     -- `sqfs_read_table`: `locations`
  | inodeExtra    -- `inode->extra` payload written by `read_inode.c`
  | dirEntName    -- `sqfs_dir_node_t.name` written by `sqfs_meta_reader_read_dir_ent`
  | idxSrc        -- `inode->extra` read by `sqfs_inode_unpack_dir_index_entry`
  | idxOut        -- the entry `sqfs_inode_unpack_dir_index_entry` allocates
  | path          -- the caller's C string in `sqfs_dir_reader_resolve_path` (capacity = strlen + 1)
  -- `Sqfs/Model/ReaderTables.lean`
  | superBuf      -- `sqfs_super_t temp` in `sqfs_super_read`
  | idTable       -- `tbl->ids.data` (`sqfs_id_table_read`: the table `sqfs_read_table` allocated)
  | fragTable     -- `tbl->table.data` (`sqfs_frag_table_read`)
  | xattrIdTbl    -- `sqfs_xattr_id_table_t idtbl` in `sqfs_xattr_reader_load`
  | idBlockStarts -- `xr->id_block_starts` (`alloc_array(sizeof(sqfs_u64), num_id_blocks)`)
  | xattrDesc     -- the caller's `sqfs_xattr_id_t *desc`
  | xattrKeyHdr   -- `sqfs_xattr_entry_t key` on the stack of the xattr read functions
  | xattrValHdr   -- `sqfs_xattr_value_t value` ditto
  | xattrRef      -- `sqfs_u64 ref` in `read_value_hdr`
  | xattrKeyOut   -- the entry `sqfs_xattr_reader_read_key` allocates
  | xattrValOut   -- the value `sqfs_xattr_reader_read_value` allocates
  | xattrKv       -- the `sqfs_xattr_t` `sqfs_xattr_reader_read` allocates and grows
  | dirEntryOut   -- the `sqfs_dir_entry_t` `sqfs_dir_entry_from_inode` allocates
  | nameIn        -- the `name` argument of `sqfs_dir_entry_from_inode` (the `ent->size + 2` bytes of a `sqfs_dir_node_t` name)
  | linkOut       -- the string `it_read_link` allocates
  deriving DecidableEq, Repr

structure Access where
  buf : Buf
  off : Nat
  len : Nat
  cap : Nat
  deriving DecidableEq, Repr

/-- the safety predicate of the property: the access lies inside its buffer (in ℕ, i.e. un-wrapped) -/
def Access.inBounds (a : Access) : Prop := a.off + a.len ≤ a.cap

instance (a : Access) : Decidable a.inBounds := by unfold Access.inBounds; exact inferInstance

abbrev metaCap : Nat := Consts.metaBlockSize      -- sizeof(m->data) = sizeof(m->scratch)

/-- the contract of `sqfs_compressor_t.do_block` that every theorem about a routine calling it assumes (`MetaCodecOk`,
`hcodec`): the return value is negative (an error code) or at most `outsize` -/
def codecContract (outsize : UInt32) (ret : Int) : Bool := ret < 0 || ret ≤ outsize.toNat

/-! ## `meta_reader.c` -/

/-- `sqfs_meta_reader_t` control state (the block contents are not modelled here) -/
structure MetaSt where
  dataUsed : UInt64          -- size_t data_used
  offset : UInt64            -- size_t offset
  blockOffset : UInt64
  nextBlock : UInt64
  deriving DecidableEq, Repr

/-- state after `sqfs_meta_reader_create` (`calloc` + `block_offset = ~0`) -/
def MetaSt.init : MetaSt := ⟨0, 0, 0xFFFFFFFFFFFFFFFF, 0⟩

/-- what the outside world answers when `sqfs_meta_reader_seek` loads the block at some position -/
structure Load where
  hdrIo : Bool               -- `read_at(header)` failed
  header : UInt16            -- le16 header word
  dataIo : Bool              -- `read_at(data)` failed
  dec : Option UInt32        -- `do_block` on the payload: `none` = negative return, `some n` = n bytes produced
  deriving Repr, Inhabited

structure MetaCfg where
  start : UInt64
  limit : UInt64
  src : UInt64 → Load

/-- result of an operation that changes the reader state even when it fails -/
structure Res where
  st : MetaSt
  r : Except Err Unit
  acc : List Access

/-- the reader after `block_offset = next_block = ~0, data_used = offset = 0` (meta_reader.c:119-122) -/
def MetaSt.cleared : MetaSt := ⟨0, 0, 0xFFFFFFFFFFFFFFFF, 0xFFFFFFFFFFFFFFFF⟩

/--
`sqfs_meta_reader_seek` (meta_reader.c:93-165).  `fixed = true` is the code of the tree: before another block is
loaded the cached one is forgotten (:119-122), and a failed offset test after loading leaves `data_used = 0`
(:155-158) — every failure after that point leaves the cleared reader behind.  `fixed = false` is the code before
these repairs (failures leave the old state, a failed offset test leaves the *new* `data_used` with the old
`offset`: defect D3 needs exactly that).
-/
def seekG (fixed : Bool) (c : MetaCfg) (m : MetaSt) (blockStart offset : UInt64) : Res :=
  -- :101  if (block_start < m->start || block_start >= m->limit)
  if blockStart < c.start || blockStart ≥ c.limit then ⟨m, .error .oob, []⟩
  -- :104  if (block_start == m->block_offset)
  else if blockStart == m.blockOffset then
    if offset ≥ m.dataUsed then ⟨m, .error .oob, []⟩
    else ⟨{ m with offset := offset }, .ok (), []⟩
  else
    -- :119  forget the cached block
    let m0 : MetaSt := if fixed then MetaSt.cleared else m
    let l := c.src blockStart
    -- :124  read_at(header)
    if l.hdrIo then ⟨m0, .error .io, []⟩
    else
      let compressed := (l.header &&& 0x8000) == 0
      let size : UInt32 := (l.header &&& 0x7FFF).toUInt32
      -- :132  if (size > sizeof(m->data))
      if size.toUInt64 > metaCap.toUInt64 then ⟨m0, .error .corrupted, []⟩
      -- :135  if ((block_start + 2 + size) > m->limit)        (u64, wraps)
      else if blockStart + 2 + size.toUInt64 > c.limit then ⟨m0, .error .oob, []⟩
      else
        -- :138  read_at(block_start + 2, m->data, size)
        let a1 := [Access.mk .metaData 0 size.toNat metaCap]
        if l.dataIo then ⟨m0, .error .io, a1⟩
        else
          let after (dataUsed : UInt64) (acc : List Access) : Res :=
            -- :155  if (offset >= m->data_used) { m->data_used = 0; return OUT_OF_BOUNDS; }
            -- (before the repair: data_used is already overwritten, offset is not)
            if offset ≥ dataUsed then ⟨if fixed then m0 else { m with dataUsed := dataUsed }, .error .oob, acc⟩
            else ⟨⟨dataUsed, offset, blockStart, blockStart + size.toUInt64 + 2⟩, .ok (), acc⟩
          if compressed then
            -- :143  ret = do_block(m->data, size, m->scratch, sizeof(m->scratch)); memcpy(m->data, m->scratch, ret)
            match l.dec with
            | none => ⟨m0, .error .compressor, a1⟩
            | some ret =>
              after ret.toUInt64 (a1 ++ [Access.mk .metaScratch 0 ret.toNat metaCap,
                                         Access.mk .metaData 0 ret.toNat metaCap])
          else after size.toUInt64 a1

/-- the seek of the tree -/
def seek (c : MetaCfg) (m : MetaSt) (blockStart offset : UInt64) : Res := seekG true c m blockStart offset

/--
Top of one iteration of `sqfs_meta_reader_read` (meta_reader.c:171-178): compute `diff`, and when the current
block is used up move to the next one.  Returns the seek result (or a no-op) and the bytes now available.
-/
def refill (fixed : Bool) (c : MetaCfg) (m : MetaSt) : Res × UInt64 :=
  -- :171  diff = m->data_used - m->offset      (size_t, wraps when a failed seek left offset > data_used)
  let diff := m.dataUsed - m.offset
  if diff == 0 then
    -- :174  ret = sqfs_meta_reader_seek(m, m->next_block, 0);  diff = m->data_used
    let s := seekG fixed c m m.nextBlock 0
    (s, s.st.dataUsed)
  else (⟨m, .ok (), []⟩, diff)

/--
The loop of `sqfs_meta_reader_read` (meta_reader.c:165-191).  `total` = the `size` the caller passed (capacity
of `data`), `done` = bytes delivered so far, `size` = bytes still wanted.  One unit of fuel per iteration.
`fixed = true` adds the guard of `fixes/C05-meta-read-after-failed-seek.patch`.
-/
def readLoop (fixed : Bool) (c : MetaCfg) (total : Nat) : Nat → MetaSt → (size : UInt64) → (done : Nat) →
    List Access → Res
  | 0, m, _, _, acc => ⟨m, .error .fuel, acc⟩
  | fuel + 1, m, size, done, acc =>
    if size == 0 then ⟨m, .ok (), acc⟩
    else if fixed && m.offset > m.dataUsed then ⟨m, .error .oob, acc⟩
    else
      let p := refill fixed c m
      match p.1.r with
      | .error e => ⟨p.1.st, .error e, acc ++ p.1.acc⟩
      | .ok () =>
        let m1 := p.1.st
        -- :180  if (diff > size) diff = size
        let diff := if p.2 > size then size else p.2
        -- :183  memcpy(data, m->data + m->offset, diff)
        let acc := acc ++ p.1.acc ++ [Access.mk .metaData m1.offset.toNat diff.toNat metaCap,
                                      Access.mk .dst done diff.toNat total]
        readLoop fixed c total fuel { m1 with offset := m1.offset + diff } (size - diff) (done + diff.toNat) acc

/-- `sqfs_meta_reader_read(m, data, size)` -/
def mread (fixed : Bool) (c : MetaCfg) (m : MetaSt) (size : UInt64) : Res :=
  readLoop fixed c size.toNat (size.toNat + 1) m size 0 []

/-- an API history on one meta reader -/
inductive MetaOp
  | seek (block offset : UInt64)
  | read (size : UInt64)
  deriving Repr

/-- all accesses of a history of calls (the reader keeps being used after failed calls) -/
def runOps (fixed : Bool) (c : MetaCfg) : MetaSt → List MetaOp → List Access
  | _, [] => []
  | m, .seek b o :: t => let r := seekG fixed c m b o; r.acc ++ runOps fixed c r.st t
  | m, .read n :: t => let r := mread fixed c m n; r.acc ++ runOps fixed c r.st t

/-- `sqfs_meta_reader_get_position` -/
def getPosition (m : MetaSt) : UInt64 × UInt64 :=
  if m.offset == m.dataUsed then (m.nextBlock, 0) else (m.blockOffset, m.offset)

/-! ## `data_reader.c` -/

def onDiskSize (w : UInt32) : UInt32 := w &&& 0xFFFFFF          -- SQFS_ON_DISK_BLOCK_SIZE
def isCompressed (w : UInt32) : Bool := (w &&& 0x1000000) == 0   -- SQFS_IS_BLOCK_COMPRESSED

/-- outcome of the outside world for one block load: `read_at` fails?; `do_block` result -/
structure BlkLoad where
  io : Bool
  dec : Option UInt32      -- none: negative;  some n: n bytes (0 allowed: treated as OVERFLOW by the callers)
  deriving Repr, Inhabited

/--
`get_block` (data_reader.c:43-98).  `bs` = `data->block_size` = capacity of `data->scratch`.
Returns `*out_sz`.  The allocation `alloc_array(1, max_size)` has capacity `maxSize`.
-/
def getBlock (bs : UInt32) (out : Buf) (w maxSize : UInt32) (l : BlkLoad) : Except Err UInt64 × List Access :=
  -- :56  if (SQFS_IS_SPARSE_BLOCK(size)) return 0;            (*out_sz = max_size)
  if onDiskSize w == 0 then (.ok maxSize.toUInt64, [])
  -- :61  if (on_disk_size > max_size)
  else if onDiskSize w > maxSize then (.error .overflow, [])
  else if isCompressed w then
    -- :67  read_at(off, data->scratch, on_disk_size)
    let a1 := [Access.mk .drScratch 0 (onDiskSize w).toNat bs.toNat]
    if l.io then (.error .io, a1)
    else match l.dec with
      | none => (.error .compressor, a1)
      | some ret =>
        if ret == 0 then (.error .overflow, a1)
        else (.ok ret.toUInt64, a1 ++ [Access.mk out 0 ret.toNat maxSize.toNat])
  else
    -- :82  read_at(off, *out, on_disk_size)
    let a1 := [Access.mk out 0 (onDiskSize w).toNat maxSize.toNat]
    if l.io then (.error .io, a1) else (.ok (onDiskSize w).toUInt64, a1)

/--
`sqfs_data_reader_get_fragment` (data_reader.c:259-297).  `precache` = result of `precache_fragment_block`
(table lookup + `get_block(…, block_size, …)`).  `fixed = false`: `frag_off + frag_sz` in 32 bits (D5).
-/
def getFragment (fixed : Bool) (bs : UInt32) (filesz blockCount : UInt64) (fragOff : UInt32)
    (precache : Except Err Unit) : Except Err (List Access) :=
  -- :274  if (block_count > (UINT64_MAX / data->block_size))
  if blockCount > 0xFFFFFFFFFFFFFFFF / bs.toUInt64 then .error .overflow
  -- :277  if ((sqfs_u64)block_count * data->block_size >= filesz) return 0;
  else if blockCount * bs.toUInt64 ≥ filesz then .ok []
  else
    let fragSz : UInt32 := (filesz % bs.toUInt64).toUInt32
    match precache with
    | .error e => .error e
    | .ok () =>
      -- :286  if (frag_off + frag_sz > data->block_size)
      let tooBig := if fixed then fragOff.toUInt64 + fragSz.toUInt64 > bs.toUInt64
                    else fragOff + fragSz > bs
      if tooBig then .error .oob
      else .ok [Access.mk .fragOut 0 fragSz.toNat fragSz.toNat,
                Access.mk .fragBlock fragOff.toNat fragSz.toNat bs.toNat]

/-- `data_reader_istream_t` control state -/
structure StreamSt where
  bufUsed : UInt64
  bufOff : UInt64
  filesz : UInt64
  blkIdx : UInt32
  blkCount : UInt32
  dead : Bool := false        -- `fail:` freed the buffer
  deriving DecidableEq, Repr

inductive StreamOut | data (n : UInt64) | eof | err (e : Err)
  deriving DecidableEq, Repr

/--
One call of `dr_stream_get_buffered_data` (data_reader.c:376-466) that has to refill.  `w` = the block word at
`blk_idx` (if any), `l` = what the outside world answers, `frag` = `(precache result, frag_blk_size, frag_off)`.
`fixed = false`: the 24-bit on-disk size is not compared with `block_size` (D4).
-/
def streamFill (fixed : Bool) (bs : UInt32) (s : StreamSt) (w : UInt32) (l : BlkLoad)
    (fragPre : Except Err UInt64) (fragOff : UInt32) : StreamSt × StreamOut × List Access :=
  -- :385  if (stream->buf_off < stream->buf_used)  -> serve what is buffered
  if s.bufOff < s.bufUsed then
    (s, .data (s.bufUsed - s.bufOff), [Access.mk .streamBuf s.bufOff.toNat (s.bufUsed - s.bufOff).toNat bs.toNat])
  -- :391  if (stream->filesz == 0)
  else if s.filesz == 0 then ({ s with bufUsed := 0, bufOff := 0, filesz := 0, dead := true }, .eof, [])
  else
    let bufUsed : UInt64 := if s.filesz < bs.toUInt64 then s.filesz else bs.toUInt64
    let fail (e : Err) (acc : List Access) : StreamSt × StreamOut × List Access :=
      ({ s with bufUsed := 0, bufOff := 0, filesz := 0, dead := true }, .err e, acc)
    let done (s' : StreamSt) (acc : List Access) : StreamSt × StreamOut × List Access :=
      ({ s' with bufOff := 0, bufUsed := bufUsed, filesz := s.filesz - bufUsed }, .data bufUsed, acc)
    if s.blkIdx < s.blkCount then
      let s' := { s with blkIdx := s.blkIdx + 1 }
      let a0 := [Access.mk .inoData (s.blkIdx.toNat * 4) 4 (s.blkCount.toNat * 4)]
      let disksz := onDiskSize w
      if disksz == 0 then
        -- :405  memset(stream->buffer, 0, stream->buf_used)
        done s' (a0 ++ [Access.mk .streamBuf 0 bufUsed.toNat bs.toNat])
      else if fixed && disksz > bs then fail .overflow a0
      else if isCompressed w then
        -- :407  read_at(disk_offset, rd->scratch, disksz)
        let a1 := a0 ++ [Access.mk .drScratch 0 disksz.toNat bs.toNat]
        if l.io then fail .io a1
        else match l.dec with
          | none => fail .compressor a1
          | some ret =>
            if ret == 0 then fail .overflow a1
            else
              -- :412 do_block(scratch, disksz, stream->buffer, buf_used); :420 memset(buffer + ret, 0, buf_used - ret)
              done s' (a1 ++ [Access.mk .streamBuf 0 ret.toNat bufUsed.toNat] ++
                (if ret.toUInt64 < bufUsed then [Access.mk .streamBuf ret.toNat (bufUsed - ret.toUInt64).toNat bs.toNat] else []))
      else
        -- :425  read_at(disk_offset, stream->buffer, disksz)
        let a1 := a0 ++ [Access.mk .streamBuf 0 disksz.toNat bs.toNat]
        if l.io then fail .io a1
        else
          done s' (a1 ++
            (if disksz.toUInt64 < bufUsed then [Access.mk .streamBuf disksz.toNat (bufUsed - disksz.toUInt64).toNat bs.toNat] else []))
    else
      -- :437  precache_fragment_block; frag_blk_size checks; memcpy(buffer, frag_block + frag_off, buf_used)
      match fragPre with
      -- since /repo 8447a61 a failed `precache_fragment_block` goes through `fail:` like every other error (before, it
      -- returned with `buf_used` set and the buffer not refilled, so the next call handed out stale bytes: D33, C10)
      | .error e => fail e []
      | .ok fragBlkSize =>
        if fragBlkSize < fragOff.toUInt64 || fragBlkSize - fragOff.toUInt64 < bufUsed then fail .corrupted []
        else done s [Access.mk .fragBlock fragOff.toNat bufUsed.toNat fragBlkSize.toNat,
                     Access.mk .streamBuf 0 bufUsed.toNat bs.toNat]

/-! ## `sqfs_data_reader_read` (data_reader.c:299-372) -/

/-- `for (i = 0; offset > data->block_size && i < block_count; ++i) offset -= block_size;` -/
def dataReadSkip (bs : UInt64) : (remaining : Nat) → (i : Nat) → (offset : UInt64) → Nat × UInt64
  | 0, i, offset => (i, offset)
  | rem + 1, i, offset => if offset > bs then dataReadSkip bs rem (i + 1) (offset - bs) else (i, offset)

/--
`while (i < block_count && size > 0)`: copy from the blocks.  `words i` = `inode->extra[i]`, `blkOk i` = whether
`precache_data_block` succeeds for block `i` (it allocates `block_size` bytes), `cap` = the caller's buffer size.
Returns `(offset, size, total)` after the loop.
-/
def dataReadBlocks (bs : UInt32) (words : Nat → UInt32) (blkOk : Nat → Bool) (blockCount cap : Nat) :
    (remaining : Nat) → (i : Nat) → (offset : UInt64) → (size total : UInt32) → List Access →
    Except Err (UInt64 × UInt32 × UInt32) × List Access
  | 0, _, offset, size, total, acc => (.ok (offset, size, total), acc)
  | rem + 1, i, offset, size, total, acc =>
    if size == 0 then (.ok (offset, size, total), acc)
    else
      -- :333  diff = data->block_size - offset;  if (size < diff) diff = size;
      let diff0 : UInt32 := (bs.toUInt64 - offset).toUInt32
      let diff := if size < diff0 then size else diff0
      let acc := acc ++ [Access.mk .inoData (i * 4) 4 (blockCount * 4)]
      if onDiskSize (words i) == 0 then
        -- :338  memset(buffer, 0, diff)
        dataReadBlocks bs words blkOk blockCount cap rem (i + 1) 0 (size - diff) (total + diff)
          (acc ++ [Access.mk .dst total.toNat diff.toNat cap])
      else if !blkOk i then (.error .io, acc)
      else
        -- :344  memcpy(buffer, (char *)data->data_block + offset, diff)
        dataReadBlocks bs words blkOk blockCount cap rem (i + 1) 0 (size - diff) (total + diff)
          (acc ++ [Access.mk .dataBlock offset.toNat diff.toNat bs.toNat, Access.mk .dst total.toNat diff.toNat cap])

/-- `sqfs_data_reader_read(data, inode, offset, buffer, size)`; `fragPre` = `precache_fragment_block` result
(`frag_blk_size`).  Returns the byte count. -/
def dataRead (bs : UInt32) (words : Nat → UInt32) (blkOk : Nat → Bool) (blockCount : Nat) (filesz offset : UInt64)
    (size0 : UInt32) (fragOff : UInt32) (fragPre : Except Err UInt64) : Except Err UInt32 × List Access :=
  -- :311  if (size >= 0x7FFFFFFF) size = 0x7FFFFFFE;
  let size : UInt32 := if size0 ≥ 0x7FFFFFFF then 0x7FFFFFFE else size0
  -- :320  if (offset >= filesz) return 0;
  if offset ≥ filesz then (.ok 0, [])
  else
    -- :323  if ((filesz - offset) < (sqfs_u64)size) size = filesz - offset;
    let size : UInt32 := if filesz - offset < size.toUInt64 then (filesz - offset).toUInt32 else size
    if size == 0 then (.ok 0, [])
    else
      let (i, offset) := dataReadSkip bs.toUInt64 blockCount 0 offset
      match dataReadBlocks bs words blkOk blockCount size0.toNat (blockCount - i) i offset size 0 [] with
      | (.error e, acc) => (.error e, acc)
      | (.ok (offset, size, total), acc) =>
        -- :355  if (size > 0) copy from the fragment
        if size == 0 then (.ok total, acc)
        else match fragPre with
          | .error e => (.error e, acc)
          | .ok fragBlkSize =>
            -- :360  if ((frag_off + offset) >= data->frag_blk_size)          (u64 sum)
            if fragOff.toUInt64 + offset ≥ fragBlkSize then (.error .oob, acc)
            -- :363  if ((data->frag_blk_size - (frag_off + offset)) < size)
            else if fragBlkSize - (fragOff.toUInt64 + offset) < size.toUInt64 then (.error .oob, acc)
            else
              (.ok (total + size), acc ++ [Access.mk .fragBlock (fragOff.toNat + offset.toNat) size.toNat fragBlkSize.toNat,
                                          Access.mk .dst total.toNat size.toNat size0.toNat])

/-! ## `read_table.c` -/

/--
The copy loop of `sqfs_read_table` (read_table.c:59-77): `tableSize` bytes wanted, `blockCount` =
`ceil(table_size / 8192)` location words.  `stepOk i` = seek+read of iteration `i` succeeded.
-/
def readTableLoop (total blockCount : Nat) (stepOk : Nat → Bool) : Nat → (tableSize : UInt64) → (blkIdx : Nat) →
    (done : Nat) → List Access → Except Err Unit × List Access
  | 0, _, _, _, acc => (.error .fuel, acc)
  | fuel + 1, tableSize, blkIdx, done, acc =>
    if tableSize == 0 then (.ok (), acc)
    else
      -- :60  start = le64toh(locations[blk_idx++])
      let acc := acc ++ [Access.mk .locations (blkIdx * 8) 8 (blockCount * 8)]
      if !stepOk blkIdx then (.error .io, acc)
      else
        let diff : UInt64 := if (8192 : UInt64) > tableSize then tableSize else 8192
        -- :70  sqfs_meta_reader_read(m, ptr, diff)
        let acc := acc ++ [Access.mk .table done diff.toNat total]
        readTableLoop total blockCount stepOk fuel (tableSize - diff) (blkIdx + 1) (done + diff.toNat) acc

def tableBlockCount (tableSize : UInt64) : UInt64 :=
  let bc := tableSize / 8192
  if tableSize % 8192 != 0 then bc + 1 else bc

/-- `sqfs_read_table` from the allocation of `locations` on; `alloc_array(8, block_count)` cannot overflow -/
def readTable (tableSize : UInt64) (stepOk : Nat → Bool) : Except Err Unit × List Access :=
  let bc := tableBlockCount tableSize
  readTableLoop tableSize.toNat bc.toNat stepOk (bc.toNat + 1) tableSize 0 0 []

/-! ## `read_inode.c`: allocation sizes against bytes written -/

abbrev szInodeGeneric : Nat := Consts.sizeofInodeGeneric
abbrev szDirIndex : Nat := Consts.sizeofDirIndex

/-- `SZ_MUL_OV`/`SZ_ADD_OV` -/
def mulOv (a b : UInt64) : Option UInt64 := if a.toNat * b.toNat < 2 ^ 64 then some (a * b) else none
def addOv (a b : UInt64) : Option UInt64 := if a.toNat + b.toNat < 2 ^ 64 then some (a + b) else none

/-- `alloc_flex(base, item, n)`: size passed to `calloc`, or `none` on overflow -/
def allocFlex (base item n : UInt64) : Option UInt64 := do
  let s ← mulOv n item
  addOv base s

/-- `get_block_count` (read_inode.c:66-77); `blockSize ≠ 0` is guaranteed by `sqfs_super_read` -/
def getBlockCount (size blockSize : UInt64) (fragIdx fragOff : UInt32) : UInt64 :=
  let count := size / blockSize
  if size % blockSize != 0 && (fragIdx == 0xFFFFFFFF || fragOff == 0xFFFFFFFF) then count + 1 else count

/--
`read_inode_file` / `read_inode_file_ext` (read_inode.c:79-166) from `get_block_count` on: the payload area has
`alloc - sizeof(*out)` bytes; `count * sizeof(sqfs_u32)` bytes are read into it and then byte-swapped in place.
-/
def readInodeFile (fileSize blockSize : UInt64) (fragIdx fragOff : UInt32) : Except Err (List Access) :=
  let count := getBlockCount fileSize blockSize fragIdx fragOff
  match allocFlex szInodeGeneric.toUInt64 4 count with
  | none => .error .overflow                 -- ALLOC for the basic type; same class: refused
  | some alloc =>
    let cap := alloc.toNat - szInodeGeneric
    -- :109  sqfs_meta_reader_read(ir, out->extra, count * sizeof(sqfs_u32))      (size_t product)
    .ok [Access.mk .inodeExtra 0 (count * 4).toNat cap]

/-- `read_inode_slink` (read_inode.c:168-208) -/
def readInodeSlink (targetSize : UInt32) : Except Err (List Access) :=
  match addOv targetSize.toUInt64 1 with
  | none => .error .overflow
  | some s1 => match addOv szInodeGeneric.toUInt64 s1 with
    | none => .error .overflow
    | some size =>
      -- :199  sqfs_meta_reader_read(ir, out->extra, slink.target_size)
      .ok [Access.mk .inodeExtra 0 targetSize.toNat (size.toNat - szInodeGeneric)]

/-- the doubling loop `while (sizeof(ent) + ent.size + 1 > new_sz - index_used)` (read_inode.c:276-282) -/
def growLoop (need indexUsed : UInt64) : Nat → UInt64 → Option UInt64
  | 0, _ => none
  | fuel + 1, newSz =>
    if need > newSz - indexUsed then
      match mulOv newSz 2 with
      | none => none
      | some n => growLoop need indexUsed fuel n
    else some newSz

/--
`read_inode_dir_ext` index loop (read_inode.c:263-309) over the `size` fields of the index entries the metadata
stream delivers.  State: `index_max` (payload capacity), `index_used`.
-/
def dirExtLoop : List UInt32 → (indexMax indexUsed : UInt64) → List Access → Except Err (UInt64 × UInt64 × List Access)
  | [], indexMax, indexUsed, acc => .ok (indexMax, indexUsed, acc)
  | sz :: rest, indexMax, indexUsed, acc =>
    -- :276  sizeof(ent) + ent.size + 1   (size_t arithmetic: 12 + (size_t)size + 1, cannot wrap)
    let need : UInt64 := szDirIndex.toUInt64 + sz.toUInt64 + 1
    match growLoop need indexUsed 65 indexMax with
    | none => .error .overflow
    | some newSz =>
      let indexMax := if newSz > indexMax then newSz else indexMax
      -- :294  memcpy((char *)out->extra + index_used, &ent, sizeof(ent))
      let a1 := Access.mk .inodeExtra indexUsed.toNat szDirIndex indexMax.toNat
      let indexUsed := indexUsed + szDirIndex.toUInt64
      -- :297  sqfs_meta_reader_read(ir, extra + index_used, ent.size + 1)       (u32 arithmetic: wraps to 0)
      let n : UInt32 := sz + 1
      let a2 := Access.mk .inodeExtra indexUsed.toNat n.toNat indexMax.toNat
      dirExtLoop rest indexMax (indexUsed + n.toUInt64) (acc ++ [a1, a2])

def readInodeDirExt (dirSize : UInt32) (entSizes : List UInt32) : Except Err (UInt64 × UInt64 × List Access) :=
  -- :250  index_max = dir.size ? 128 : 0
  if dirSize == 0 then .ok (0, 0, []) else dirExtLoop entSizes 128 0 []

/-! ## `readdir.c` -/

abbrev szDirNode : Nat := Consts.sizeofDirNode       -- sizeof(sqfs_dir_node_t) = 8
abbrev szDirHeader : Nat := Consts.sizeofDirHeader

/-- `sqfs_meta_reader_read_dir_ent` (readdir.c:37-69): `calloc(1, sizeof(*out) + ent.size + 2)` (int arithmetic),
then `ent.size + 1` bytes into `out->name` -/
def readDirEnt (size : UInt16) : List Access :=
  [Access.mk .dirEntName 0 (size.toNat + 1) (szDirNode + size.toNat + 2 - szDirNode)]

/-- the part of `sqfs_readdir_state_t` that controls termination -/
structure RdState where
  size : UInt64
  entries : UInt64
  deriving DecidableEq, Repr

/--
`sqfs_meta_reader_readdir` (readdir.c:91-157) on its counters; `hdrCount` = `hdr.count` of the header read when
`entries == 0` (already checked `≤ SQFS_MAX_DIR_ENT - 1`), `nameSize` = `ent->size`.  `none` = end of listing.
Failures of the metadata reads are not modelled here (they end the walk).
-/
def readdirStep (s : RdState) (hdrCount : UInt32) (nameSize : UInt16) : Option RdState :=
  let s1? : Option RdState :=
    if s.entries == 0 then
      if s.size ≤ szDirHeader.toUInt64 then none
      else some ⟨s.size - szDirHeader.toUInt64, hdrCount.toUInt64 + 1⟩
    else some s
  match s1? with
  | none => none
  | some s1 =>
    if s1.size ≤ szDirNode.toUInt64 then none
    else
      let size := s1.size - szDirNode.toUInt64
      let count : UInt64 := nameSize.toUInt64 + 1
      some ⟨if count ≥ size then 0 else size - count, s1.entries - 1⟩

/-! ## `inode.c`: `sqfs_inode_unpack_dir_index_entry` -/

/--
`sqfs_inode_unpack_dir_index_entry` (inode.c:322-362) on an `SQFS_INODE_EXT_DIR` inode.  `used` =
`payload_bytes_used`, `szAt off` = the `size` field of the index record header found at payload offset `off`
(arbitrary: the payload comes from the image, or from the API user).  Accesses are reported also when the
routine ends with an error.  `fixed = false` is the code before /repo 84af185: the 12-byte header and the name are copied
without comparing with `payload_bytes_used`, and `ent.size + 2`, `ent.size + 1` are evaluated in 32 bits (D25).
-/
def unpackIdx (fixed : Bool) (used : UInt32) (szAt : UInt64 → UInt32) :
    Nat → (offset index : UInt64) → List Access → Except Err Unit × List Access
  | 0, _, _, acc => (.error .fuel, acc)
  | fuel + 1, offset, index, acc =>
    -- :340  if (offset >= inode->payload_bytes_used)
    if offset ≥ used.toUInt64 then (.error .oob, acc)
    else if fixed && used.toUInt64 - offset < szDirIndex.toUInt64 then (.error .oob, acc)
    else
      -- :346 / :351  memcpy(&ent, ptr + offset, sizeof(ent))
      let acc := acc ++ [Access.mk .idxSrc offset.toNat szDirIndex used.toNat]
      let sz := szAt offset
      if index == 0 then
        if fixed && sz.toUInt64 + 1 > used.toUInt64 - offset - szDirIndex.toUInt64 then (.error .oob, acc)
        else
          -- :353  alloc_flex(sizeof(ent), 1, ent.size + 2);  :358  memcpy((*out)->name, …, ent.size + 1)
          let n2 : UInt64 := if fixed then sz.toUInt64 + 2 else (sz + 2).toUInt64
          let n1 : UInt64 := if fixed then sz.toUInt64 + 1 else (sz + 1).toUInt64
          match allocFlex szDirIndex.toUInt64 1 n2 with
          | none => (.error .alloc, acc)
          | some alloc =>
            (.ok (), acc ++ [Access.mk .idxOut 0 szDirIndex alloc.toNat,
                             Access.mk .idxOut szDirIndex n1.toNat alloc.toNat,
                             Access.mk .idxSrc (offset.toNat + szDirIndex) n1.toNat used.toNat])
      else
        -- :347  offset += sizeof(ent) + ent.size + 1     (size_t)
        unpackIdx fixed used szAt fuel (offset + szDirIndex.toUInt64 + sz.toUInt64 + 1) (index - 1) acc

/-! ## `dir_reader.c`: the name comparison of `sqfs_dir_reader_resolve_path` -/

/-- C `strncmp(a, b, n) == 0` on byte lists that stand for NUL-terminated strings (reading past the end of a
list yields the terminator).  Also returns how many positions of `b` were examined. -/
def strncmpEq : (a b : List UInt8) → (n : Nat) → Bool × Nat
  | _, _, 0 => (true, 0)
  | a, b, n + 1 =>
    let ca := a.headD 0
    let cb := b.headD 0
    if ca != cb then (false, 1)
    else if ca == 0 then (true, 1)
    else
      let (r, k) := strncmpEq a.tail b.tail n
      (r, k + 1)

/-- bytes of a C string before its terminator -/
def cstr (s : List UInt8) : List UInt8 := s.takeWhile (· != 0)

/--
One entry comparison in `sqfs_dir_reader_resolve_path` (dir_reader.c:337-346): `name` = the `ent->size + 1`
bytes of the directory entry (may contain NUL), `path` = the rest of the caller's C string (NUL-free list, the
terminator sits at index `path.length`, capacity `path.length + 1`).  Returns whether the entry matches and the
accesses to `path`.  `fixed = false`: `path[len]` is read whenever `strncmp` says equal (D19).
-/
def resolveCompare (fixed : Bool) (name path : List UInt8) : Bool × List Access :=
  let len := name.length
  let cap := path.length + 1
  let (eq, k) := strncmpEq (cstr name) path len
  let a1 := [Access.mk .path 0 k cap]
  let eq := if fixed then eq && (cstr name).length == len else eq
  if eq then
    -- :343  path[len] == '/' || path[len] == '\0'
    let c := path.getD len 0
    (c == 47 || c == 0, a1 ++ [Access.mk .path len 1 cap])
  else (false, a1)

end Sqfs.ReaderBounds
