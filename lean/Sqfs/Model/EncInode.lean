/-
C01 — inodes.

* `Inode`: `sqfs_inode_generic_t` (`include/sqfs/inode.h`): base + per-type data + the flexible payload
  (`extra[]`: block size words of a file, the directory index of an extended directory, the target of a symlink).
  The 14 on-disk kinds are 10 constructors (`dev`/`devExt` carry "character?", `ipc`/`ipcExt` carry "socket?").
* `encInode` = `sqfs_meta_writer_write_inode` (`lib/sqfs/src/write_inode.c`): the bytes appended to the inode
  meta writer.
* `decInode` = `sqfs_meta_reader_read_inode` (`lib/sqfs/src/read_inode.c`) after the seek, on the flat stream.
* `makeExtended`, `makeBasic`, `setXattrIndex` = `lib/sqfs/src/inode.c`.
* `serializeInode` = the selection done by `serialize_tree_node` (`lib/common/src/writer/serialize_fstree.c:117-149`).

All integer fields are `Nat`; the encoder truncates to the C field width exactly where the C assignment does
(`le w` = `htoleNN` of a `sqfs_uNN`).  `size_t` is 64 bits (the overflow guards of `read_inode_slink` and
`alloc_flex` cannot fire for 32-bit on-disk fields and are not modelled here; `Sqfs.ReaderBounds` has them).
-/
import Sqfs.Model.EncBytes
namespace Sqfs.Enc
open Sqfs.Consts

/-- `sqfs_inode_t` without `type` (which is the constructor).  `mode` is the in-memory value: the full `st_mode`
including the `S_IFMT` bits (`serialize_tree_node`: `inode->base.mode = n->mode`; the reader's `set_mode`). -/
structure Base where
  mode : Nat
  uidIdx : Nat
  gidIdx : Nat
  mtime : Nat
  inum : Nat
  deriving Repr, DecidableEq, Inhabited

/-- one `sqfs_dir_index_t` + name in the payload of an extended directory inode; `size` = `name.length - 1` -/
structure DirIdx where
  index : Nat
  startBlock : Nat
  name : Bytes
  deriving Repr, DecidableEq

inductive Inode where
  | dir (b : Base) (startBlock nlink size offset parent : Nat)
  | file (b : Base) (blocksStart fragIdx fragOff fileSize : Nat) (blocks : List Nat)
  | slink (b : Base) (nlink targetSize : Nat) (target : Bytes)
  | dev (b : Base) (chr : Bool) (nlink devno : Nat)
  | ipc (b : Base) (sock : Bool) (nlink : Nat)
  | dirExt (b : Base) (nlink size startBlock parent inodexCount offset xattr : Nat) (index : List DirIdx)
  | fileExt (b : Base) (blocksStart fileSize sparse nlink fragIdx fragOff xattr : Nat) (blocks : List Nat)
  | slinkExt (b : Base) (nlink targetSize : Nat) (target : Bytes) (xattr : Nat)
  | devExt (b : Base) (chr : Bool) (nlink devno xattr : Nat)
  | ipcExt (b : Base) (sock : Bool) (nlink xattr : Nat)
  deriving Repr, DecidableEq

namespace Inode

/-- `base.type` -/
def typ : Inode → Nat
  | .dir .. => inodeDir
  | .file .. => inodeFile
  | .slink .. => inodeSlink
  | .dev _ chr .. => if chr then inodeCdev else inodeBdev
  | .ipc _ sock .. => if sock then inodeSocket else inodeFifo
  | .dirExt .. => inodeExtDir
  | .fileExt .. => inodeExtFile
  | .slinkExt .. => inodeExtSlink
  | .devExt _ chr .. => if chr then inodeExtCdev else inodeExtBdev
  | .ipcExt _ sock .. => if sock then inodeExtSocket else inodeExtFifo

def base : Inode → Base
  | .dir b .. | .file b .. | .slink b .. | .dev b .. | .ipc b .. | .dirExt b .. | .fileExt b .. | .slinkExt b ..
  | .devExt b .. | .ipcExt b .. => b

def withBase (f : Base → Base) : Inode → Inode
  | .dir b a1 a2 a3 a4 a5 => .dir (f b) a1 a2 a3 a4 a5
  | .file b a1 a2 a3 a4 bl => .file (f b) a1 a2 a3 a4 bl
  | .slink b a1 a2 t => .slink (f b) a1 a2 t
  | .dev b c a1 a2 => .dev (f b) c a1 a2
  | .ipc b s a1 => .ipc (f b) s a1
  | .dirExt b a1 a2 a3 a4 a5 a6 a7 ix => .dirExt (f b) a1 a2 a3 a4 a5 a6 a7 ix
  | .fileExt b a1 a2 a3 a4 a5 a6 a7 bl => .fileExt (f b) a1 a2 a3 a4 a5 a6 a7 bl
  | .slinkExt b a1 a2 t x => .slinkExt (f b) a1 a2 t x
  | .devExt b c a1 a2 x => .devExt (f b) c a1 a2 x
  | .ipcExt b s a1 x => .ipcExt (f b) s a1 x

def isExt : Inode → Bool
  | .dirExt .. | .fileExt .. | .slinkExt .. | .devExt .. | .ipcExt .. => true
  | _ => false

/-- the `S_IFMT` bits that belong to the kind (what `set_mode` of read_inode.c ORs in) -/
def typeBits : Inode → Nat
  | .dir .. | .dirExt .. => sIFDIR
  | .file .. | .fileExt .. => sIFREG
  | .slink .. | .slinkExt .. => sIFLNK
  | .dev _ chr .. | .devExt _ chr .. => if chr then sIFCHR else sIFBLK
  | .ipc _ sock .. | .ipcExt _ sock .. => if sock then sIFSOCK else sIFIFO

/-- `sqfs_inode_get_xattr_index` (inode.c:39-75) -/
def xattr : Inode → Nat
  | .dirExt _ _ _ _ _ _ _ x _ => x
  | .fileExt _ _ _ _ _ _ _ x _ => x
  | .slinkExt _ _ _ _ x => x
  | .devExt _ _ _ _ x => x
  | .ipcExt _ _ _ x => x
  | _ => NONE32

/-- the link count a reader reports (`nlink` field; a basic file has none and counts as 1) -/
def nlink : Inode → Nat
  | .dir _ _ n _ _ _ => n
  | .file .. => 1
  | .slink _ n _ _ => n
  | .dev _ _ n _ => n
  | .ipc _ _ n => n
  | .dirExt _ n .. => n
  | .fileExt _ _ _ _ n .. => n
  | .slinkExt _ n .. => n
  | .devExt _ _ n .. => n
  | .ipcExt _ _ n _ => n

end Inode

/-! ### `sqfs_meta_writer_write_inode` -/

/-- `n->base.mode & ~SQFS_INODE_MODE_MASK`, stored in a `sqfs_u16` (write_inode.c:97) -/
def permBits (mode : Nat) : Nat := (mode % 65536) &&& (65535 - inodeModeMask)

/-- `write_dir_index` (write_inode.c:47-83): per entry the 12-byte struct, then `size + 1` name bytes -/
def encIndex : List DirIdx → Bytes
  | [] => []
  | e :: r => encFields [(4, e.index), (4, e.startBlock), (4, e.name.length - 1)] ++ e.name ++ encIndex r

def encBase (typ : Nat) (b : Base) : Bytes :=
  encFields [(2, typ), (2, permBits b.mode), (2, b.uidIdx), (2, b.gidIdx), (4, b.mtime), (4, b.inum)]   -- :96-101

/-- the `switch (n->base.type)` of `sqfs_meta_writer_write_inode` (write_inode.c:107-219) -/
def encBody : Inode → Bytes
  | .dir _ sb nl sz off par => encFields [(4, sb), (4, nl), (2, sz), (2, off), (4, par)]                    -- :108-116
  | .file _ st fi fo sz blks => encFields [(4, st), (4, fi), (4, fo), (4, sz)] ++ encWords 4 blks            -- :118-130
  | .slink _ nl ts t => encFields [(4, nl), (4, ts)] ++ t.take ts                                             -- :131-141
  | .dev _ _ nl d => encFields [(4, nl), (4, d)]                                                              -- :143-149
  | .ipc _ _ nl => encFields [(4, nl)]                                                                        -- :151-156
  | .dirExt _ nl sz sb par ic off x idx =>                                                                    -- :158-173
    encFields [(4, nl), (4, sz), (4, sb), (4, par), (2, ic), (2, off), (4, x)] ++ encIndex idx
  | .fileExt _ st sz sp nl fi fo x blks =>                                                                    -- :174-189
    encFields [(8, st), (8, sz), (8, sp), (4, nl), (4, fi), (4, fo), (4, x)] ++ encWords 4 blks
  | .slinkExt _ nl ts t x => encFields [(4, nl), (4, ts)] ++ t.take ts ++ encFields [(4, x)]                  -- :190-206
  | .devExt _ _ nl d x => encFields [(4, nl), (4, d), (4, x)]                                                 -- :207-215
  | .ipcExt _ _ nl x => encFields [(4, nl), (4, x)]                                                           -- :216-222

/-- `sqfs_meta_writer_write_inode` (write_inode.c:90-219): everything it appends, in order -/
def encInode (i : Inode) : Bytes := encBase i.typ i.base ++ encBody i

/-! ### `sqfs_meta_reader_read_inode` -/

/-- `set_mode` (read_inode.c:25-63); `.error SQFS_ERROR_UNSUPPORTED` for an unknown type -/
def setMode (typ mode : Nat) : Except Status Nat :=
  let m := (mode % 65536) &&& (65535 - sIFMT)
  if typ = inodeSocket ∨ typ = inodeExtSocket then .ok (m ||| sIFSOCK)
  else if typ = inodeSlink ∨ typ = inodeExtSlink then .ok (m ||| sIFLNK)
  else if typ = inodeFile ∨ typ = inodeExtFile then .ok (m ||| sIFREG)
  else if typ = inodeBdev ∨ typ = inodeExtBdev then .ok (m ||| sIFBLK)
  else if typ = inodeDir ∨ typ = inodeExtDir then .ok (m ||| sIFDIR)
  else if typ = inodeCdev ∨ typ = inodeExtCdev then .ok (m ||| sIFCHR)
  else if typ = inodeFifo ∨ typ = inodeExtFifo then .ok (m ||| sIFIFO)
  else .error errUnsupported

/-- `get_block_count` (read_inode.c:65-77) -/
def getBlockCount (size blockSize fragIdx fragOff : Nat) : Nat :=
  if size % blockSize ≠ 0 ∧ (fragIdx = NONE32 ∨ fragOff = NONE32) then size / blockSize + 1 else size / blockSize

/-- the `for (i < dir.inodex_count)` loop of `read_inode_dir_ext` (read_inode.c:239-282) -/
def decIndex : Nat → Bytes → Except Status (List DirIdx × Bytes)
  | 0, r => .ok ([], r)
  | n + 1, r =>
    match readFields [4, 4, 4] r with
    | .ok ([idx, sb, sz], r) =>
      match take? (sz + 1) r with
      | .ok (nm, r) =>
        match decIndex n r with
        | .ok (l, r) => .ok (⟨idx, sb, nm⟩ :: l, r)
        | .error e => .error e
      | .error e => .error e
    | .ok _ => .error errInternal
    | .error e => .error e

/-- `read_inode_file` (read_inode.c:79-121) -/
def decFile (b : Base) (blockSize : Nat) (r : Bytes) : Except Status (Inode × Bytes) :=
  match readFields [4, 4, 4, 4] r with
  | .ok ([st, fi, fo, sz], r) =>
    let count := getBlockCount sz blockSize fi fo
    match take? (4 * count) r with
    | .ok (w, r) => .ok (.file b st fi fo sz (decWords 4 count w), r)
    | .error e => .error e
  | .ok _ => .error errInternal
  | .error e => .error e

/-- `read_inode_file_ext` (read_inode.c:123-172) -/
def decFileExt (b : Base) (blockSize : Nat) (r : Bytes) : Except Status (Inode × Bytes) :=
  match readFields [8, 8, 8, 4, 4, 4, 4] r with
  | .ok ([st, sz, sp, nl, fi, fo, x], r) =>
    let count := getBlockCount sz blockSize fi fo
    match take? (4 * count) r with
    | .ok (w, r) => .ok (.fileExt b st sz sp nl fi fo x (decWords 4 count w), r)
    | .error e => .error e
  | .ok _ => .error errInternal
  | .error e => .error e

/-- `read_inode_slink` (read_inode.c:174-212): header, then `target_size` bytes -/
def decSlinkBody (r : Bytes) : Except Status ((Nat × Nat × Bytes) × Bytes) :=
  match readFields [4, 4] r with
  | .ok ([nl, ts], r) =>
    match take? ts r with
    | .ok (t, r) => .ok ((nl, ts, t), r)
    | .error e => .error e
  | .ok _ => .error errInternal
  | .error e => .error e

/-- `read_inode_dir_ext` (read_inode.c:214-288): **no index is read when `size == 0`** (:234) -/
def decDirExt (b : Base) (r : Bytes) : Except Status (Inode × Bytes) :=
  match readFields [4, 4, 4, 4, 2, 2, 4] r with
  | .ok ([nl, sz, sb, par, ic, off, x], r) =>
    if sz = 0 then .ok (.dirExt b nl sz sb par ic off x [], r)
    else
      match decIndex ic r with
      | .ok (idx, r) => .ok (.dirExt b nl sz sb par ic off x idx, r)
      | .error e => .error e
  | .ok _ => .error errInternal
  | .error e => .error e

/-- the base inode: read, `SWAB`, `set_mode` (read_inode.c:301-320) -/
def decBase (bs : Bytes) : Except Status ((Nat × Base) × Bytes) :=
  match readFields [2, 2, 2, 2, 4, 4] bs with                                             -- :307-316
  | .ok ([typ, mode, uid, gid, mtime, inum], r) =>
    match setMode typ mode with                                                             -- :318
    | .error e => .error e
    | .ok m => .ok ((typ, ⟨m, uid, gid, mtime, inum⟩), r)
  | .ok _ => .error errInternal
  | .error e => .error e

/-- the type switch of `sqfs_meta_reader_read_inode` (read_inode.c:322-420) -/
def decBody (blockSize typ : Nat) (b : Base) (r : Bytes) : Except Status (Inode × Bytes) :=
  if typ = inodeFile then decFile b blockSize r                                             -- :323-336
  else if typ = inodeSlink then
    match decSlinkBody r with
    | .ok ((nl, ts, t), r) => .ok (.slink b nl ts t, r)
    | .error e => .error e
  else if typ = inodeExtFile then decFileExt b blockSize r
  else if typ = inodeExtSlink then                                                          -- read_inode_slink_ext
    match decSlinkBody r with
    | .ok ((nl, ts, t), r) =>
      match readFields [4] r with
      | .ok ([x], r) => .ok (.slinkExt b nl ts t x, r)
      | .ok _ => .error errInternal
      | .error e => .error e
    | .error e => .error e
  else if typ = inodeExtDir then decDirExt b r
  else if typ = inodeDir then                                                               -- :347-358
    match readFields [4, 4, 2, 2, 4] r with
    | .ok ([sb, nl, sz, off, par], r) => .ok (.dir b sb nl sz off par, r)
    | .ok _ => .error errInternal
    | .error e => .error e
  else if typ = inodeBdev ∨ typ = inodeCdev then                                            -- :359-367
    match readFields [4, 4] r with
    | .ok ([nl, d], r) => .ok (.dev b (typ = inodeCdev) nl d, r)
    | .ok _ => .error errInternal
    | .error e => .error e
  else if typ = inodeFifo ∨ typ = inodeSocket then                                          -- :368-375
    match readFields [4] r with
    | .ok ([nl], r) => .ok (.ipc b (typ = inodeSocket) nl, r)
    | .ok _ => .error errInternal
    | .error e => .error e
  else if typ = inodeExtBdev ∨ typ = inodeExtCdev then                                      -- :376-385
    match readFields [4, 4, 4] r with
    | .ok ([nl, d, x], r) => .ok (.devExt b (typ = inodeExtCdev) nl d x, r)
    | .ok _ => .error errInternal
    | .error e => .error e
  else if typ = inodeExtFifo ∨ typ = inodeExtSocket then                                    -- :386-394
    match readFields [4, 4] r with
    | .ok ([nl, x], r) => .ok (.ipcExt b (typ = inodeExtSocket) nl x, r)
    | .ok _ => .error errInternal
    | .error e => .error e
  else .error errUnsupported                                                                -- unreachable after set_mode

/-- `sqfs_meta_reader_read_inode` (read_inode.c:290-425) once the reader stands at the inode: the inode and the
rest of the stream -/
def decInode (blockSize : Nat) (bs : Bytes) : Except Status (Inode × Bytes) :=
  match decBase bs with
  | .error e => .error e
  | .ok ((typ, b), r) => decBody blockSize typ b r

/-! ### `inode.c`: basic ↔ extended -/

/-- `sqfs_inode_make_extended` (inode.c:118-175), **repaired** (`fixes/C01-make-extended-ipc.patch` = /repo f317492): for FIFO and
SOCKET the new `xattr_idx` is `ipc_ext.xattr_idx`.  `makeExtendedCur` is the code before f317492. -/
def makeExtended : Inode → Inode
  | .dir b sb nl sz off par => .dirExt b nl sz sb par 0 off NONE32 []                       -- :121-132
  | .file b st fi fo sz blks => .fileExt b st sz 0 1 fi fo NONE32 blks                       -- :134-146
  | .slink b nl ts t => .slinkExt b nl ts t NONE32                                           -- :148
  | .dev b c nl d => .devExt b c nl d NONE32                                                 -- :151-153
  | .ipc b s nl => .ipcExt b s nl NONE32                                                     -- :155-157 (repaired)
  | i => i                                                                                   -- :159-166

/-- `sqfs_inode_make_extended` before /repo f317492: the FIFO/SOCKET branch (inode.c:155-157) stores `0xFFFFFFFF` into
`data.dev_ext.xattr_idx` (union offset `offDevExtXattr` = 8) while an extended IPC inode keeps its index in
`data.ipc_ext.xattr_idx` (offset `offIpcExtXattr` = 4), which therefore keeps whatever those four bytes held:
`stale` (0 after `calloc`). -/
def makeExtendedCur (stale : Nat) : Inode → Inode
  | .ipc b s nl => .ipcExt b s nl (if offIpcExtXattr = offDevExtXattr then NONE32 else stale)
  | i => makeExtended i

/-- `sqfs_inode_make_basic` (inode.c:177-239) -/
def makeBasic : Inode → Inode
  | .dirExt b nl sz sb par ic off x idx =>
    if x ≠ NONE32 then .dirExt b nl sz sb par ic off x idx                                   -- :182-184
    else if sz > 0xFFFF then .dirExt b nl sz sb par ic off x idx                             -- :204
    else .dir b sb nl sz off par
  | .fileExt b st sz sp nl fi fo x blks =>
    if x ≠ NONE32 then .fileExt b st sz sp nl fi fo x blks
    else if st > 0xFFFFFFFF ∨ sz > 0xFFFFFFFF ∨ sp > 0 ∨ nl > 1 then .fileExt b st sz sp nl fi fo x blks   -- :218-225
    else .file b st fi fo sz blks
  | .slinkExt b nl ts t x => if x ≠ NONE32 then .slinkExt b nl ts t x else .slink b nl ts t
  | .devExt b c nl d x => if x ≠ NONE32 then .devExt b c nl d x else .dev b c nl d
  | .ipcExt b s nl x => if x ≠ NONE32 then .ipcExt b s nl x else .ipc b s nl
  | i => i

/-- the assignment half of `sqfs_inode_set_xattr_index` (inode.c:87-113) -/
def putXattr (x : Nat) : Inode → Inode
  | .dirExt b nl sz sb par ic off _ idx => .dirExt b nl sz sb par ic off x idx
  | .fileExt b st sz sp nl fi fo _ blks => .fileExt b st sz sp nl fi fo x blks
  | .slinkExt b nl ts t _ => .slinkExt b nl ts t x
  | .devExt b c nl d _ => .devExt b c nl d x
  | .ipcExt b s nl _ => .ipcExt b s nl x
  | i => i

/-- `sqfs_inode_set_xattr_index` (inode.c:77-116) -/
def setXattrIndex (x : Nat) (i : Inode) : Inode :=
  putXattr x (if x ≠ NONE32 then makeExtended i else i)

/-- the same on the code before f317492 (`stale` is overwritten at once, so the defect of `makeExtendedCur` is invisible
here: `setXattrIndexCur_eq`) -/
def setXattrIndexCur (stale x : Nat) (i : Inode) : Inode :=
  putXattr x (if x ≠ NONE32 then makeExtendedCur stale i else i)

/-! ### `sqfs_inode_set_file_size`, `sqfs_inode_set_file_block_start` (the block processor's two stores) -/

/-- the plain store into `data.file_ext.file_size` / `data.file.file_size` -/
def putFileSize (size : Nat) : Inode → Inode
  | .fileExt b st _ sp nl fi fo x blks => .fileExt b st size sp nl fi fo x blks
  | .file b st fi fo _ blks => .file b st fi fo size blks
  | i => i

/-- the plain store into `blocks_start` -/
def putBlockStart (loc : Nat) : Inode → Inode
  | .fileExt b _ sz sp nl fi fo x blks => .fileExt b loc sz sp nl fi fo x blks
  | .file b _ fi fo sz blks => .file b loc fi fo sz blks
  | i => i

/-- `sqfs_inode_set_file_size` (inode.c:241-260), `size` a `sqfs_u64`; `none` = `SQFS_ERROR_NOT_FILE`.  An extended
inode is demoted when the new size is **below** `0xFFFFFFFF` (and `make_basic` finds everything else fitting), a basic
one promoted when it is **above**. -/
def setFileSize (size : Nat) : Inode → Option Inode
  | .fileExt b st sz sp nl fi fo x blks =>
    let i := putFileSize size (.fileExt b st sz sp nl fi fo x blks)                           -- :244
    some (if size < 0xFFFFFFFF then makeBasic i else i)                                       -- :246-247
  | .file b st fi fo sz blks =>
    if size > 0xFFFFFFFF then some (putFileSize size (makeExtended (.file b st fi fo sz blks)))   -- :249-251
    else some (putFileSize size (.file b st fi fo sz blks))                                   -- :253
  | _ => none                                                                                 -- :256

/-- `sqfs_inode_set_file_block_start` (inode.c:279-298), same shape -/
def setFileBlockStart (loc : Nat) : Inode → Option Inode
  | .fileExt b st sz sp nl fi fo x blks =>
    let i := putBlockStart loc (.fileExt b st sz sp nl fi fo x blks)                          -- :282
    some (if loc < 0xFFFFFFFF then makeBasic i else i)                                        -- :284-285
  | .file b st fi fo sz blks =>
    if loc > 0xFFFFFFFF then some (putBlockStart loc (makeExtended (.file b st fi fo sz blks)))   -- :287-289
    else some (putBlockStart loc (.file b st fi fo sz blks))                                  -- :291
  | _ => none                                                                                 -- :294

/-! ### `serialize_tree_node` -/

/-- what `serialize_tree_node` takes from the `tree_node_t` -/
structure NodeAttr where
  mode : Nat
  mtime : Nat
  inum : Nat
  linkCount : Nat
  xattrIdx : Nat
  deriving Repr, DecidableEq

/-- `inode->data.file_ext.nlink = n->link_count` (serialize_fstree.c:128-133).  On a basic file inode that is not
made extended the store lands in union bytes no basic field occupies (invisible). -/
def setFileNlink (lc : Nat) : Inode → Inode
  | .file b st fi fo sz blks =>
    if lc > 1 then
      match makeExtended (.file b st fi fo sz blks) with
      | .fileExt b st sz sp _ fi fo x blks => .fileExt b st sz sp lc fi fo x blks
      | i => i
    else .file b st fi fo sz blks
  | .fileExt b st sz sp _ fi fo x blks => .fileExt b st sz sp lc fi fo x blks
  | i => i

/-- `inode->data.dir.nlink = node->link_count` / `dir_ext.nlink` (serialize_fstree.c:100-104) -/
def setDirNlink (lc : Nat) : Inode → Inode
  | .dir b sb _ sz off par => .dir b sb lc sz off par
  | .dirExt b _ sz sb par ic off x idx => .dirExt b lc sz sb par ic off x idx
  | i => i

/-- `tree_node_to_inode` (serialize_fstree.c:14-58) for the five kinds it handles; `none` = `assert(0)` -/
def treeNodeToInode (mode linkCount devno : Nat) (target : Bytes) : Option Inode :=
  let b : Base := ⟨0, 0, 0, 0, 0⟩                                       -- calloc
  let fmt := mode &&& sIFMT
  if fmt = sIFSOCK then some (.ipc b true linkCount)
  else if fmt = sIFIFO then some (.ipc b false linkCount)
  else if fmt = sIFLNK then some (.slink b linkCount target.length target)
  else if fmt = sIFBLK then some (.dev b false linkCount devno)
  else if fmt = sIFCHR then some (.dev b true linkCount devno)
  else none

/-- `serialize_tree_node` (serialize_fstree.c:117-149) from the point where `inode` exists to the id-table lookups:
`i0` is what `write_dir_entries` (directories, link count already stored), the block processor (regular files) or
`tree_node_to_inode` produced. -/
def serializeInode (isDir isReg : Bool) (a : NodeAttr) (i0 : Inode) : Inode :=
  let i1 := if isReg then setFileNlink a.linkCount i0 else i0                              -- :124-134
  let i2 := i1.withBase (fun b => { b with mode := a.mode, mtime := a.mtime, inum := a.inum })   -- :142-144
  let i3 := setXattrIndex a.xattrIdx i2                                                    -- :146
  if a.xattrIdx = NONE32 ∧ ¬ isDir then makeBasic i3 else i3                               -- :148-149

/-- `sqfs_id_table_id_to_index` results stored into `base.uid_idx` / `base.gid_idx` (`sqfs_u16`) -/
def setIds (uidIdx gidIdx : Nat) (i : Inode) : Inode :=
  i.withBase (fun b => { b with uidIdx := uidIdx, gidIdx := gidIdx })

/-! ### what a reader learns from an inode, whichever of the two layouts carries it -/

/-- the attributes `rdsquashfs`/`sqfs_dir_entry_from_inode`/the data reader take from an inode, independent of the
basic/extended layout: kind, base, link count, xattr index and the per-kind payload.  (The directory index is an
accelerator and not part of it.) -/
structure View where
  typeBits : Nat
  base : Base
  nlink : Nat
  xattr : Nat
  /-- dir: start_block, size, offset, parent · file: blocks_start, file_size, sparse, frag idx, frag offset · dev: devno -/
  nums : List Nat
  /-- file: block size words -/
  words : List Nat
  /-- symlink: target -/
  bytes : Bytes
  deriving Repr, DecidableEq

def Inode.view : Inode → View
  | .dir b sb nl sz off par => ⟨sIFDIR, b, nl, NONE32, [sb, sz, off, par], [], []⟩
  | .dirExt b nl sz sb par _ off x _ => ⟨sIFDIR, b, nl, x, [sb, sz, off, par], [], []⟩
  | .file b st fi fo sz blks => ⟨sIFREG, b, 1, NONE32, [st, sz, 0, fi, fo], blks, []⟩
  | .fileExt b st sz sp nl fi fo x blks => ⟨sIFREG, b, nl, x, [st, sz, sp, fi, fo], blks, []⟩
  | .slink b nl ts t => ⟨sIFLNK, b, nl, NONE32, [ts], [], t⟩
  | .slinkExt b nl ts t x => ⟨sIFLNK, b, nl, x, [ts], [], t⟩
  | .dev b c nl d => ⟨if c then sIFCHR else sIFBLK, b, nl, NONE32, [d], [], []⟩
  | .devExt b c nl d x => ⟨if c then sIFCHR else sIFBLK, b, nl, x, [d], [], []⟩
  | .ipc b c nl => ⟨if c then sIFSOCK else sIFIFO, b, nl, NONE32, [], [], []⟩
  | .ipcExt b c nl x => ⟨if c then sIFSOCK else sIFIFO, b, nl, x, [], [], []⟩

/-- everything the basic layout of the kind can hold (`sqfs_inode_make_basic` turns exactly these into basic
inodes; for the others a basic inode would truncate a field) -/
def Inode.fitsBasic : Inode → Bool
  | .dirExt _ _ sz _ _ _ _ x _ => x == NONE32 && sz ≤ 0xFFFF
  | .fileExt _ st sz sp nl _ _ x _ => x == NONE32 && st ≤ 0xFFFFFFFF && sz ≤ 0xFFFFFFFF && sp == 0 && nl ≤ 1
  | .slinkExt _ _ _ _ x => x == NONE32
  | .devExt _ _ _ _ x => x == NONE32
  | .ipcExt _ _ _ x => x == NONE32
  | _ => true

/-! ### well-formedness (what `decInode ∘ encInode = id` needs; established by the serializer) -/

def WfBase (typeBits : Nat) (b : Base) : Prop :=
  b.mode < 65536 ∧ b.mode / 4096 * 4096 = typeBits ∧ b.uidIdx < 65536 ∧ b.gidIdx < 65536 ∧ b.mtime < 2 ^ 32 ∧ b.inum < 2 ^ 32

instance (t : Nat) (b : Base) : Decidable (WfBase t b) := by unfold WfBase; exact inferInstance

def WfIdx (e : DirIdx) : Prop := e.index < 2 ^ 32 ∧ e.startBlock < 2 ^ 32 ∧ 1 ≤ e.name.length ∧ e.name.length ≤ 2 ^ 32

instance (e : DirIdx) : Decidable (WfIdx e) := by unfold WfIdx; exact inferInstance

/-- the block size words are exactly as many as the reader will expect, each a `sqfs_u32` -/
def WfBlocks (blockSize size fragIdx fragOff : Nat) (blks : List Nat) : Prop :=
  blks.length = getBlockCount size blockSize fragIdx fragOff ∧ ∀ w ∈ blks, w < 2 ^ 32

instance (a b c d : Nat) (l : List Nat) : Decidable (WfBlocks a b c d l) := by unfold WfBlocks; exact inferInstance

/-- the per-kind part: every field fits its on-disk width, the payload is as long as the header fields announce -/
def WfBody (blockSize : Nat) (i : Inode) : Prop :=
  match i with
  | .dir _ sb nl sz off par => sb < 2 ^ 32 ∧ nl < 2 ^ 32 ∧ sz < 65536 ∧ off < 65536 ∧ par < 2 ^ 32
  | .file _ st fi fo sz blks => st < 2 ^ 32 ∧ fi < 2 ^ 32 ∧ fo < 2 ^ 32 ∧ sz < 2 ^ 32 ∧ WfBlocks blockSize sz fi fo blks
  | .slink _ nl ts t => nl < 2 ^ 32 ∧ ts < 2 ^ 32 ∧ ts = t.length
  | .dev _ _ nl d => nl < 2 ^ 32 ∧ d < 2 ^ 32
  | .ipc _ _ nl => nl < 2 ^ 32
  | .dirExt _ nl sz sb par ic off x idx =>
    nl < 2 ^ 32 ∧ sz < 2 ^ 32 ∧ sb < 2 ^ 32 ∧ par < 2 ^ 32 ∧ ic < 65536 ∧ off < 65536 ∧ x < 2 ^ 32 ∧
      ic = idx.length ∧ (sz = 0 → idx = []) ∧ ∀ e ∈ idx, WfIdx e
  | .fileExt _ st sz sp nl fi fo x blks =>
    st < 2 ^ 64 ∧ sz < 2 ^ 64 ∧ sp < 2 ^ 64 ∧ nl < 2 ^ 32 ∧ fi < 2 ^ 32 ∧ fo < 2 ^ 32 ∧ x < 2 ^ 32 ∧
      WfBlocks blockSize sz fi fo blks
  | .slinkExt _ nl ts t x => nl < 2 ^ 32 ∧ ts < 2 ^ 32 ∧ ts = t.length ∧ x < 2 ^ 32
  | .devExt _ _ nl d x => nl < 2 ^ 32 ∧ d < 2 ^ 32 ∧ x < 2 ^ 32
  | .ipcExt _ _ nl x => nl < 2 ^ 32 ∧ x < 2 ^ 32

/-- every field fits its on-disk width, the mode carries the `S_IFMT` bits of the kind, the payload is as long as
the header fields announce -/
def WfInode (blockSize : Nat) (i : Inode) : Prop := WfBase i.typeBits i.base ∧ WfBody blockSize i

instance (bs : Nat) (i : Inode) : Decidable (WfBody bs i) := by
  unfold WfBody; cases i <;> exact inferInstance

instance (bs : Nat) (i : Inode) : Decidable (WfInode bs i) := by
  unfold WfInode; exact inferInstance

end Sqfs.Enc
