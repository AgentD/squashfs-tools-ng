/-
C10 — the metadata decoders of libsquashfs as programs over metadata readers (`Sqfs.C10P.Prog`):

* `readInodeP`      `sqfs_meta_reader_read_inode`           lib/sqfs/src/read_inode.c
* `readdirP`        `sqfs_meta_reader_readdir` (one call)   lib/sqfs/src/readdir.c
* `DirRd.*`         `sqfs_dir_reader_get_inode/open_dir/read/resolve_path` (flags = 0)   lib/sqfs/src/dir_reader.c
* `XR.*`            `sqfs_xattr_reader_load/get_desc/seek_kv/read_key/read_value/read/read_all`   xattr/xattr_reader.c
* `readTable`       `sqfs_read_table` (runs on a reader it creates itself)   lib/sqfs/src/read_table.c
* `idTableRead`, `fragTableRead`, `idLookup`                 id_table.c, frag_table.c

Only what the functions *compute from the reader's answers* is modelled: the order and arguments of the
`seek/read/get_position` calls, every check that can make them return early, and the returned value.
Memory: an allocation of more than `allocLimit` bytes fails (`SQFS_ERROR_ALLOC`; the harness runs the real code
with exactly this limit, ASan's `max_allocation_size_mb`), smaller ones are assumed to succeed; the `size_t`
overflow checks in front of the allocations are modelled.  All multi-byte fields are little endian (`le*toh`).

Reader numbers: a dir reader owns `meta_inode` (0) and `meta_dir` (1); an xattr reader owns `idrd` (0) and
`kvrd` (1).
-/
import Sqfs.Model.C10Prog
namespace Sqfs.C10P
open Sqfs.MetaReader Sqfs.Consts

/-- the largest allocation the environment grants (`max_allocation_size_mb=128` of the harness); only sizes taken
from the image (block counts, link targets, directory index names, xattr values) can exceed it -/
def allocLimit : Nat := 134217728

/-! ### inodes (`read_inode.c`) -/

/-- `sqfs_inode_generic_t` as far as it is decoded from the image: the base fields (`mode` after `set_mode`),
the fields of the type specific struct in declaration order, the payload (`extra`, `payload_bytes_used` bytes) -/
structure InodeR where
  typ : Nat
  mode : Nat
  uid : Nat
  gid : Nat
  mtime : Nat
  inum : Nat
  fields : List Nat
  extra : Bytes
deriving DecidableEq, Repr

/-- `set_mode`: the `S_IF*` bits that belong to an inode type; `none` = `SQFS_ERROR_UNSUPPORTED` -/
def typeBits (t : Nat) : Option Nat :=
  if t = inodeSocket ∨ t = inodeExtSocket then some 0o140000
  else if t = inodeSlink ∨ t = inodeExtSlink then some 0o120000
  else if t = inodeFile ∨ t = inodeExtFile then some 0o100000
  else if t = inodeBdev ∨ t = inodeExtBdev then some 0o060000
  else if t = inodeDir ∨ t = inodeExtDir then some 0o040000
  else if t = inodeCdev ∨ t = inodeExtCdev then some 0o020000
  else if t = inodeFifo ∨ t = inodeExtFifo then some 0o010000
  else none

/-- `get_block_count` -/
def blockCount (size blockSize fragIdx fragOff : Nat) : Nat :=
  size / blockSize + (if size % blockSize ≠ 0 ∧ (fragIdx = 0xFFFFFFFF ∨ fragOff = 0xFFFFFFFF) then 1 else 0)

/-- decode consecutive little-endian fields of the given widths -/
def fieldsOf : List Nat → Bytes → Nat → List Nat
  | [], _, _ => []
  | w :: ws, bs, off => leAt bs off w :: fieldsOf ws bs (off + w)

/-- `new_sz = index_max; while (sizeof(ent) + ent.size + 1 > new_sz - index_used) new_sz *= 2;` -/
def growIndex (need used : Nat) : Nat → Nat → Nat
  | 0, sz => sz
  | fuel + 1, sz => if need > sz - used then growIndex need used fuel (sz * 2) else sz

/-- the index loop of `read_inode_dir_ext`: `count` times a 12-byte `sqfs_dir_index_t` and `size + 1` name bytes,
appended to the payload as they are (`acc`, `index_used = |acc|`); the payload buffer (`index_max` bytes) is
doubled by `realloc` until the record fits -/
def readIndexP (k : Nat) : Nat → Nat → Bytes → (Bytes → Prog α) → Prog α
  | 0, _, acc, cont => cont acc
  | n + 1, indexMax, acc, cont =>
    .read k sizeofDirIndex fun ent =>
    let newSz := growIndex (sizeofDirIndex + leAt ent 8 4 + 1) acc.length 64 indexMax
    if newSz > indexMax ∧ sizeofInodeGeneric + newSz > allocLimit then .fail errAlloc     -- realloc
    else
      .read k (leAt ent 8 4 + 1) fun name =>
      readIndexP k n (if newSz > indexMax then newSz else indexMax) (acc ++ ent ++ name) cont

/-- `sqfs_meta_reader_read_inode(ir = rd[k], super, block_start, offset, &result)`; of `super` only
`inode_table_start` and `block_size` are used -/
def readInodeP (k tblStart blockSize b o : Nat) : Prog InodeR :=
  .seek k (wrap64 (b + tblStart)) o <|
  .read k sizeofInode fun h =>
  let typ := leAt h 0 2
  match typeBits typ with
  | none => .fail errUnsupported
  | some bits =>
    let mk (fields : List Nat) (extra : Bytes) : InodeR :=
      { typ := typ, mode := leAt h 2 2 % 4096 + bits, uid := leAt h 4 2, gid := leAt h 6 2, mtime := leAt h 8 4,
        inum := leAt h 12 4, fields := fields, extra := extra }
    if typ = inodeFile then
      .read k sizeofInodeFile fun d =>
      let fl := fieldsOf [4, 4, 4, 4] d 0                       -- blocks_start, fragment_index, fragment_offset, file_size
      let count := blockCount (leAt d 12 4) blockSize (leAt d 4 4) (leAt d 8 4)
      if sizeofInodeGeneric + count * 4 > allocLimit then .fail errAlloc               -- alloc_flex
      else .read k (count * 4) fun ex => .ret (mk fl ex)
    else if typ = inodeSlink then
      .read k sizeofInodeSlink fun d =>                          -- nlink, target_size
      if sizeofInodeGeneric + leAt d 4 4 + 1 > allocLimit then .fail errAlloc           -- calloc
      else .read k (leAt d 4 4) fun tgt => .ret (mk (fieldsOf [4, 4] d 0) tgt)
    else if typ = inodeExtFile then
      .read k sizeofInodeFileExt fun d =>
      let fl := fieldsOf [8, 8, 8, 4, 4, 4, 4] d 0              -- blocks_start, file_size, sparse, nlink, fragment_idx, fragment_offset, xattr_idx
      let count := blockCount (leAt d 8 8) blockSize (leAt d 28 4) (leAt d 32 4)
      if count * 4 + sizeofInodeGeneric ≥ U64 then .fail errOverflow     -- alloc_flex: EOVERFLOW
      else if sizeofInodeGeneric + count * 4 > allocLimit then .fail errAlloc
      else .read k (count * 4) fun ex => .ret (mk fl ex)
    else if typ = inodeExtSlink then
      .read k sizeofInodeSlink fun d =>
      if sizeofInodeGeneric + leAt d 4 4 + 1 > allocLimit then .fail errAlloc
      else
        .read k (leAt d 4 4) fun tgt =>
        .read k 4 fun x => .ret (mk (fieldsOf [4, 4] d 0 ++ [leAt x 0 4]) tgt)
    else if typ = inodeExtDir then
      .read k sizeofInodeDirExt fun d =>
      let fl := fieldsOf [4, 4, 4, 4, 2, 2, 4] d 0              -- nlink, size, start_block, parent_inode, inodex_count, offset, xattr_idx
      if leAt d 4 4 = 0 then .ret (mk fl [])                    -- dir.size == 0: the index is not read
      else readIndexP k (leAt d 16 2) 128 [] fun ex => .ret (mk fl ex)
    else if typ = inodeDir then
      .read k sizeofInodeDir fun d => .ret (mk (fieldsOf [4, 4, 2, 2, 4] d 0) [])   -- start_block, nlink, size, offset, parent_inode
    else if typ = inodeBdev ∨ typ = inodeCdev then
      .read k sizeofInodeDev fun d => .ret (mk (fieldsOf [4, 4] d 0) [])
    else if typ = inodeFifo ∨ typ = inodeSocket then
      .read k sizeofInodeIpc fun d => .ret (mk (fieldsOf [4] d 0) [])
    else if typ = inodeExtBdev ∨ typ = inodeExtCdev then
      .read k sizeofInodeDevExt fun d => .ret (mk (fieldsOf [4, 4, 4] d 0) [])
    else                                                          -- SQFS_INODE_EXT_FIFO, SQFS_INODE_EXT_SOCKET
      .read k sizeofInodeIpcExt fun d => .ret (mk (fieldsOf [4, 4] d 0) [])

/-! ### directory listings (`readdir.c`) -/

/-- `sqfs_readdir_state_t` -/
structure Rd where
  inodeBlock : Nat
  block : Nat
  offset : Nat
  size : Nat
  entries : Nat
  inumBase : Nat
deriving DecidableEq, Repr

/-- `sqfs_dir_node_t` as read from the image (`inodeDiff` is the raw 16-bit value) -/
structure Entry where
  offset : Nat
  inodeDiff : Nat
  typ : Nat
  size : Nat
  name : Bytes
deriving DecidableEq, Repr

inductive RdRes where
  /-- return value 1 -/
  | eof
  /-- return value 0: the entry and `*iref` -/
  | ent (e : Entry) (iref : Nat)
deriving DecidableEq, Repr

/-- `out_eof:` -/
def Rd.atEof (it : Rd) : Rd := { it with size := 0, entries := 0 }

/-- second half of `sqfs_meta_reader_readdir`: one entry -/
def readdirEntP (k : Nat) (it : Rd) : Prog (RdRes × Rd) :=
  if it.size ≤ sizeofDirNode then .ret (.eof, it.atEof)
  else
    .seek k it.block it.offset <|
    .read k sizeofDirNode fun e =>                              -- sqfs_meta_reader_read_dir_ent
    .read k (leAt e 6 2 + 1) fun name =>
    .pos k fun p =>
    let size := it.size - sizeofDirNode
    let count := leAt e 6 2 + 1
    let it' : Rd := { it with block := p.1, offset := p.2, entries := it.entries - 1,
                              size := if count ≥ size then 0 else size - count }
    .ret (.ent { offset := leAt e 0 2, inodeDiff := leAt e 2 2, typ := leAt e 4 2, size := leAt e 6 2, name := name }
               (it.inodeBlock * 65536 + leAt e 0 2), it')

/-- `sqfs_meta_reader_readdir(m = rd[k], it, &ent, NULL, &iref)`: result and the updated cursor.  (When the call
fails the cursor is left half updated in C; like every caller in the library the model does not use it again.) -/
def readdirP (k : Nat) (it : Rd) : Prog (RdRes × Rd) :=
  if it.entries = 0 then
    if it.size ≤ sizeofDirHeader then .ret (.eof, it.atEof)
    else
      .seek k it.block it.offset <|
      .read k sizeofDirHeader fun h =>                          -- sqfs_meta_reader_read_dir_header
      if leAt h 0 4 > maxDirEnt - 1 then .fail errCorrupted
      else
        .pos k fun p =>
        readdirEntP k { it with block := p.1, offset := p.2, size := it.size - sizeofDirHeader,
                                entries := leAt h 0 4 + 1, inumBase := leAt h 8 4, inodeBlock := leAt h 4 4 }
  else readdirEntP k it

/-! ### the directory reader (`dir_reader.c`, created with `flags = 0`) -/

/-- the fields of the superblock copy a dir reader keeps and uses -/
structure DirRd where
  inodeStart : Nat
  dirStart : Nat
  rootRef : Nat
  blockSize : Nat
deriving DecidableEq, Repr

/-- the windows of `meta_inode` and `meta_dir` chosen by `sqfs_dir_reader_create` -/
def dirRdWindows (inodeStart dirStart idStart fragStart exportStart : Nat) : (Nat × Nat) × (Nat × Nat) :=
  let limit := idStart
  let limit := if fragStart < limit then fragStart else limit
  let limit := if exportStart < limit then exportStart else limit
  ((inodeStart, dirStart), (dirStart, limit))

/-- `sqfs_dir_reader_get_inode(rd, ref, &inode)` -/
def DirRd.getInodeP (d : DirRd) (ref : Nat) : Prog InodeR :=
  readInodeP 0 d.inodeStart d.blockSize (ref / 65536) (ref % 65536)

/-- `sqfs_readdir_state_init` + `sqfs_dir_reader_open_dir` (no dot entries): pure -/
def DirRd.openDir (d : DirRd) (ino : InodeR) : Except Status Rd :=
  if ino.typ = inodeDir then
    .ok { inodeBlock := 0, block := wrap64 (ino.fields.getD 0 0 + d.dirStart), offset := ino.fields.getD 3 0,
          size := ino.fields.getD 2 0, entries := 0, inumBase := 0 }
  else if ino.typ = inodeExtDir then
    .ok { inodeBlock := 0, block := wrap64 (ino.fields.getD 2 0 + d.dirStart), offset := ino.fields.getD 5 0,
          size := ino.fields.getD 1 0, entries := 0, inumBase := 0 }
  else .error errNotDir

/-- `sqfs_dir_reader_read` in state `DIR_STATE_ENTRIES` -/
def DirRd.readP (_d : DirRd) (it : Rd) : Prog (RdRes × Rd) := readdirP 1 it

/-- model-only status: the fuel of a listing / path loop ran out (cannot happen: each entry consumes at least
9 bytes of `it.size`, each component at least one byte of the path) -/
def loopFuelSt : Status := 1002

/-- a whole listing: `open_dir` result, then `read` until it returns non-zero.  Result: the entries with their
references, when the final return value is 1 = end; an error status ends the program (`Prog.fail`) -/
def listGoP (d : DirRd) : Nat → Rd → List (Entry × Nat) → Prog (List (Entry × Nat))
  | 0, _, _ => .fail loopFuelSt
  | fuel + 1, it, acc =>
    (d.readP it).bind fun r =>
      match r.1 with
      | .eof => .ret acc
      | .ent e iref => listGoP d fuel r.2 (acc ++ [(e, iref)])

def DirRd.listP (d : DirRd) (ref : Nat) : Prog (List (Entry × Nat)) :=
  (d.getInodeP ref).bind fun ino =>
    match d.openDir ino with
    | .error e => .fail e
    | .ok it => listGoP d (it.size + 2) it []

/-- the name comparison of `sqfs_dir_reader_resolve_path`: `strncmp(name, path, len) == 0`, the name has no
embedded NUL, and the component ends after `len` bytes.  `path` is the rest of the (NUL-free) path string. -/
def nameMatches (name path : Bytes) : Bool :=
  let len := name.length
  !name.contains 0 && path.take len == name && (path.length == len || path[len]? == some 0x2f)

/-- the `for (;;)` loop of `resolve_path` over one directory: reference of the entry matching the head of `path` -/
def findEntP (d : DirRd) (path : Bytes) : Nat → Rd → Prog (Nat × Nat)
  | 0, _ => .fail loopFuelSt
  | fuel + 1, it =>
    (d.readP it).bind fun r =>
      match r.1 with
      | .eof => .fail errNoEntry
      | .ent e iref => if nameMatches e.name path then .ret (iref, e.size + 1) else findEntP d path fuel r.2

def dropSlashes : Bytes → Bytes
  | 0x2f :: r => dropSlashes r
  | p => p

/-- `sqfs_dir_reader_resolve_path(rd, path, NULL, &out)` -/
def resolveGoP (d : DirRd) : Nat → Bytes → Nat → Prog Nat
  | 0, _, _ => .fail loopFuelSt
  | fuel + 1, path, cur =>
    let path := dropSlashes path
    if path.isEmpty then .ret cur
    else
      (d.getInodeP cur).bind fun ino =>
        match d.openDir ino with
        | .error e => .fail e
        | .ok it => (findEntP d path (it.size + 2) it).bind fun r => resolveGoP d fuel (path.drop r.2) r.1

def DirRd.resolveP (d : DirRd) (path : Bytes) : Prog Nat := resolveGoP d (path.length + 1) path d.rootRef

/-- a directory listing as clients produce it: `open_dir` (pure), then `read` call after `read` call with the
per-call cursor, until the end or the first error -/
def listSession (d : DirRd) : Nat → Rd → List (Entry × Nat) → Session (RdRes × Rd) (Except Status (List (Entry × Nat)))
  | 0, _, _ => .done (.error loopFuelSt)
  | fuel + 1, it, acc =>
    .call (d.readP it) fun r =>
      match r with
      | .error e => .done (.error e)
      | .ok (.eof, _) => .done (.ok acc)
      | .ok (.ent e iref, it') => listSession d fuel it' (acc ++ [(e, iref)])

/-! ### the xattr reader (`xattr/xattr_reader.c`) -/

/-- `sqfs_xattr_reader_t` without its two meta readers; `loaded` = `kvrd != NULL` -/
structure XR where
  loaded : Bool
  xattrStart : Nat
  xattrEnd : Nat
  numIds : Nat
  idBlockStarts : List Nat
deriving DecidableEq, Repr

def XR.empty : XR := { loaded := false, xattrStart := 0, xattrEnd := 0, numIds := 0, idBlockStarts := [] }

def leWords : Nat → Bytes → List Nat
  | 0, _ => []
  | n + 1, bs => leAt bs 0 8 :: leWords n (bs.drop 8)

/-- `sqfs_xattr_reader_load` on a freshly created xattr reader: status, the object, and the window of the two meta
readers it creates (`none`: no readers).  `noXattrs` (the flag `SQFS_FLAG_NO_XATTRS`), `xattrTblStart`, `idTableStart`, `bytesUsed` are superblock
fields. -/
def xrLoad (f : File) (noXattrs : Bool) (xattrTblStart idTableStart bytesUsed : Nat) : Status × XR × Option (Nat × Nat) :=
  if noXattrs then (0, XR.empty, none)
  else if xattrTblStart = NONE then (0, XR.empty, none)
  else if xattrTblStart ≥ bytesUsed then (errOutOfBounds, XR.empty, none)
  else
    match f.readAt xattrTblStart sizeofXattrIdTable with
    | .error e => (e, XR.empty, none)
    | .ok t =>
      let numIds := leAt t 8 4
      let nblk := numIds * sizeofXattrId / metaBlockSize + (if numIds * sizeofXattrId % metaBlockSize ≠ 0 then 1 else 0)
      let xr0 : XR := { XR.empty with xattrStart := leAt t 0 8, numIds := numIds }
      match f.readAt (wrap64 (xattrTblStart + sizeofXattrIdTable)) (8 * nblk) with
      | .error e => (e, xr0, none)
      | .ok raw =>
        let starts := leWords nblk raw
        if starts.any (fun s => s > bytesUsed) then (errOutOfBounds, xr0, none)
        else (0, { xr0 with loaded := true, xattrEnd := bytesUsed, idBlockStarts := starts }, some (idTableStart, bytesUsed))

/-- `sqfs_xattr_id_t` -/
structure XDesc where
  xattr : Nat
  count : Nat
  size : Nat
deriving DecidableEq, Repr

/-- `sqfs_xattr_reader_get_desc` -/
def XR.getDescP (x : XR) (idx : Nat) : Prog XDesc :=
  if idx = 0xFFFFFFFF then .ret ⟨0, 0, 0⟩
  else if !x.loaded then (if idx = 0 then .ret ⟨0, 0, 0⟩ else .fail errOutOfBounds)
  else if idx ≥ x.numIds then .fail errOutOfBounds
  else
    .seek 0 (x.idBlockStarts.getD (idx * sizeofXattrId / metaBlockSize) 0) (idx * sizeofXattrId % metaBlockSize) <|
    .read 0 sizeofXattrId fun d => .ret ⟨leAt d 0 8, leAt d 8 4, leAt d 12 4⟩

/-- `sqfs_xattr_reader_seek_kv` -/
def XR.seekKvP (x : XR) (desc : XDesc) (cont : Prog α) : Prog α :=
  if !x.loaded then .fail errOutOfBounds
  else .seek 1 (wrap64 (x.xattrStart + desc.xattr / 65536)) (desc.xattr % 65536) cont

def xattrPrefix (id : Nat) : Option Bytes :=
  if id = 0 then some "user.".toUTF8.toList
  else if id = 1 then some "trusted.".toUTF8.toList
  else if id = 2 then some "security.".toUTF8.toList
  else none

/-- `read_key_hdr` + the key bytes: `(type, size, prefix ++ key)`; common part of `sqfs_xattr_reader_read_key`
and `sqfs_xattr_reader_read` -/
def XR.readKeyP (_x : XR) (cont : Nat × Nat × Bytes → Prog α) : Prog α :=
  .read 1 sizeofXattrEntry fun h =>
  match xattrPrefix (leAt h 0 2 % 256) with
  | none => .fail errUnsupported
  | some pfx => .read 1 (leAt h 2 2) fun kb => cont (leAt h 0 2, leAt h 2 2, pfx ++ kb)

/-- `read_value_hdr` + the value bytes + the seek back: common part of `sqfs_xattr_reader_read_value` and
`sqfs_xattr_reader_read`.  For an out-of-line value: remember `get_position`, seek to the referenced value, read
it, seek back.  `allocBase`: what the caller allocates besides the value bytes (`calloc`/`realloc` between the
value header and the value). -/
def XR.readValueP (x : XR) (allocBase keyType : Nat) (cont : Bytes → Prog α) : Prog α :=
  .read 1 sizeofXattrValue fun v =>
  if keyType / xattrFlagOol % 2 = 1 then
    .read 1 8 fun r =>
    let ref := leAt r 0 8
    let newStart := wrap64 (x.xattrStart + ref / 65536)
    let newOff := ref % 65536
    if newStart ≥ x.xattrEnd ∨ newOff ≥ metaBlockSize then .fail errOutOfBounds
    else
      .pos 1 fun p =>
      .seek 1 newStart newOff <|
      .read 1 sizeofXattrValue fun v2 =>
      if allocBase + leAt v2 0 4 > allocLimit then .fail errAlloc
      else
        .read 1 (leAt v2 0 4) fun val =>
        .seek 1 p.1 p.2 <| cont val
  else if allocBase + leAt v 0 4 > allocLimit then .fail errAlloc
  else .read 1 (leAt v 0 4) fun val => cont val

/-- `sqfs_xattr_reader_read_key` (continues at the cursor of `kvrd`) -/
def XR.readKeyApiP (x : XR) : Prog (Nat × Nat × Bytes) := x.readKeyP fun r => .ret r
/-- `sqfs_xattr_reader_read_value` (continues at the cursor of `kvrd`) -/
def XR.readValueApiP (x : XR) (keyType : Nat) : Prog Bytes :=
  x.readValueP (sizeofXattrValue + 1) keyType fun v => .ret v

/-- the loop of `sqfs_xattr_reader_read_all`: `count` times `sqfs_xattr_reader_read` -/
def XR.readPairsP (x : XR) : Nat → List (Bytes × Bytes) → Prog (List (Bytes × Bytes))
  | 0, acc => .ret acc
  | n + 1, acc =>
    x.readKeyP fun k =>                                          -- total = sizeof(*kv) + plen + 1 + key.size, then + value.size + 1
    x.readValueP (sizeofXattrT + k.2.2.length + 2) k.1 fun v => XR.readPairsP x n (acc ++ [(k.2.2, v)])

/-- `sqfs_xattr_reader_read_all(xr, idx, &list)` -/
def XR.readAllP (x : XR) (idx : Nat) : Prog (List (Bytes × Bytes)) :=
  if idx = 0xFFFFFFFF then .ret []
  else (x.getDescP idx).bind fun d => x.seekKvP d (x.readPairsP d.count [])

/-! ### lookup tables (`read_table.c`, `id_table.c`, `frag_table.c`) -/

/-- the `while (table_size > 0)` loop of `sqfs_read_table` -/
def readTableGoP : Nat → List Nat → Nat → Bytes → Prog Bytes
  | 0, _, _, acc => .ret acc
  | _ + 1, [], _, acc => .ret acc                                       -- unreachable: one location per block
  | fuel + 1, start :: locs, size, acc =>
    if size = 0 then .ret acc
    else
      let diff := if metaBlockSize > size then size else metaBlockSize
      .seek 0 start 0 <| .read 0 diff fun bs => readTableGoP fuel locs (size - diff) (acc ++ bs)

/-- `sqfs_read_table(file, cmp, table_size, location, lower_limit, upper_limit, &out)`: reads the block locations
with `read_at`, then the blocks through a meta reader **created for this call** -/
def readTable (fix : Bool) (f : File) (unc : Codec) (size location lower upper : Nat) : Except Status Bytes :=
  let nblk := size / metaBlockSize + (if size % metaBlockSize ≠ 0 then 1 else 0)
  match f.readAt location (8 * nblk) with
  | .error e => .error e
  | .ok raw => (exec fix f unc (readTableGoP (nblk + 1) (leWords nblk raw) size []) (fun _ => fresh lower upper)).1

def leWords32 : Nat → Bytes → List Nat
  | 0, _ => []
  | n + 1, bs => leAt bs 0 4 :: leWords32 n (bs.drop 4)

/-- `sqfs_id_table_read`: the loaded ids -/
def idTableRead (fix : Bool) (f : File) (unc : Codec) (idCount idTableStart dirStart fragStart exportStart bytesUsed : Nat) :
    Except Status (List Nat) :=
  if idCount = 0 ∨ idTableStart ≥ bytesUsed then .error errCorrupted
  else
    let upper := idTableStart
    let lower := dirStart
    let lower := if fragStart > lower ∧ fragStart < upper then fragStart else lower
    let lower := if exportStart > lower ∧ exportStart < upper then exportStart else lower
    match readTable fix f unc (idCount * 4) idTableStart lower upper with
    | .error e => .error e
    | .ok raw => .ok (leWords32 idCount raw)

/-- `sqfs_id_table_index_to_id`: the table is immutable after loading -/
def idLookup (ids : List Nat) (idx : Nat) : Except Status Nat :=
  match ids[idx]? with
  | none => .error errOutOfBounds
  | some v => .ok v

def fragEntries : Nat → Bytes → List (Nat × Nat)
  | 0, _ => []
  | n + 1, bs => (leAt bs 0 8, leAt bs 8 4) :: fragEntries n (bs.drop sizeofFragment)

/-- `sqfs_frag_table_read`: the `(start_offset, size)` entries (`sqfs_frag_table_lookup` decodes them) -/
def fragTableRead (fix : Bool) (f : File) (unc : Codec) (noFragments : Bool)
    (fragCount fragStart dirStart idTableStart exportStart bytesUsed : Nat) : Except Status (List (Nat × Nat)) :=
  if noFragments then .ok []
  else if fragStart = NONE then .ok []
  else if fragCount = 0 then .ok []
  else if fragStart ≥ bytesUsed then .error errOutOfBounds
  else if fragStart < dirStart then .error errCorrupted
  else if fragStart ≥ idTableStart then .error errCorrupted
  else
    let upper := if exportStart < idTableStart then exportStart else idTableStart
    match readTable fix f unc (fragCount * sizeofFragment) fragStart dirStart upper with
    | .error e => .error e
    | .ok raw => .ok (fragEntries fragCount raw)

end Sqfs.C10P
